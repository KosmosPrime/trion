-- Root of the `TrionModel` library: everything that `lake build` must check.
import TrionModel.Props.C17
import TrionModel.Props.C09
import TrionModel.Props.C10Parse
import TrionModel.Props.C12Parse
import TrionModel.Props.C16
import TrionModel.Props.C18
import TrionModel.Props.C18Run
import TrionModel.Props.C10
import TrionModel.Props.C11
import TrionModel.Props.C12
import TrionModel.Props.C15
import TrionModel.Props.C13
import TrionModel.Props.C13Run
import TrionModel.Props.C14
import TrionModel.Props.C20
import TrionModel.Props.C04
import TrionModel.Props.C04Closed
import TrionModel.Props.C04Text
import TrionModel.Props.C04Mix
import TrionModel.Props.C04Any
import TrionModel.Props.C04Fit
import TrionModel.Props.C04Layout
import TrionModel.Props.C04Kind
import TrionModel.Props.C04Names
import TrionModel.Props.C19
import TrionModel.Props.C07
import TrionModel.Props.C08
import TrionModel.Props.C08Asm
import TrionModel.Props.C08Bytes
import TrionModel.Props.C08Full
import TrionModel.Props.C08Deferred
import TrionModel.Props.C08Error
import TrionModel.Props.C05
import TrionModel.Props.C05Basic
import TrionModel.Props.C06
import TrionModel.Props.C01
import TrionModel.Props.C02
import TrionModel.Props.C06Asm
import TrionModel.Props.C06Invalid
import TrionModel.Props.C06Then
import TrionModel.Props.C06Undef
import TrionModel.Props.C06Deep
import TrionModel.Props.C06Kind
import TrionModel.Props.C06Operand
import TrionModel.Props.C12Asm
import TrionModel.Props.C12Single
import TrionModel.Props.C12Blame
import TrionModel.Props.C12Unique
import TrionModel.Props.C05Asm
import TrionModel.Props.C05AsmFull
import TrionModel.Props.C05Multi
import TrionModel.Props.C05Multi2
import TrionModel.Props.C05Multi3
import TrionModel.Props.C05Multi4
import TrionModel.Props.C19Asm
import TrionModel.Props.C20Asm
import TrionModel.Props.C20Codec
import TrionModel.Props.C14Asm
import TrionModel.Props.C12Layout
import TrionModel.Props.C11Ctx
import TrionModel.Props.C09Text
import TrionModel.Props.C07Text
import TrionModel.Props.C18Main
import TrionModel.Props.C20Main
import TrionModel.Props.C18Layout
import TrionModel.Props.C18Layout2
import TrionModel.Lemmas.ArmTac
