import TrionModel.Lemmas.SimpE
import TrionModel.Lemmas.SimpVal
import TrionModel.Spec.Arith
/-!
# Lemmas for C07: on closed trees `evaluate` / `simplify` are bottom-up constant folding, and the
folding agrees with the specification `Arith.eval` away from the open corners.
-/
namespace Trion.Simp
open Trion

/-- machine value of a closed tree: what folding every node with `simplify_raw` yields; a node no closed tree has (identifier,
string, address, list, call) gives the placeholder `.error .add` -/
def valM : Arg → Except OvKind Int
  | .const v => .ok v
  | .bin op l r =>
    match valM l with
    | .ok a =>
      match valM r with
      | .ok b => foldBin op a b
      | .error k => .error k
    | .error k => .error k
  | .neg a =>
    match valM a with
    | .ok v => if v = i64Min then .error .negate else .ok (-v)
    | .error k => .error k
  | .not a =>
    match valM a with
    | .ok v => .ok (bnot v)
    | .error k => .error k
  | _ => .error .add

/-- what `evaluate` returns on an expression over literals: every node is folded, so anything but a literal is reported as
changed -/
def folded (t : Arg) : ERes (Ev × Arg) :=
  match valM t with
  | .ok v => .ok (⟨!isC t, none⟩, .const v)
  | .error k => .err (.simp (.overflow k))

theorem evaluate_closed (lk : Bytes → Lookup) (isReg : Bytes → Bool) (t : Arg) (hc : Arith.closed t = true) :
    evaluate lk isReg t = folded t := by
  induction t using Arg.ind with
  | const v => rfl
  | bin op l r ihl ihr =>
    simp only [Arith.closed, Bool.and_eq_true] at hc
    simp only [evaluate, ihl hc.1, ihr hc.2, folded, valM]
    cases valM l with
    | error k => rfl
    | ok a =>
      cases valM r with
      | error k => rfl
      | ok b =>
        simp only [afterRaw, simplifyRaw_fold_consts]
        cases foldBin op a b <;> simp [Ev.or]
  | neg a ih =>
    simp only [Arith.closed] at hc
    simp only [evaluate, ih hc, folded, valM]
    cases valM a with
    | error k => rfl
    | ok v => by_cases hm : v = i64Min <;> simp [afterRaw, simplifyRaw, hm, Ev.or]
  | not a ih =>
    simp only [Arith.closed] at hc
    simp only [evaluate, ih hc, folded, valM]
    cases valM a with
    | error k => rfl
    | ok v => simp [afterRaw, simplifyRaw, Ev.or]
  | _ => simp [Arith.closed] at hc

theorem simplify_closed (t : Arg) (hc : Arith.closed t = true) : simplify t = (folded t).toRes := by
  rw [(simplify_eq_evaluate_both (fun _ => false)).1, evaluate_closed _ _ t hc]

/-- Model and specification agree: the same number, or an error on both sides; which error is not compared (`OvKind` and
`Arith.Err` classify differently). -/
def agree : Except OvKind Int → Except Arith.Err Int → Prop
  | .ok v, .ok w => v = w
  | .error _, .error _ => True
  | _, _ => False

theorem inI64_eq_fits (v : Int) : inI64 v = Arith.fits v := by
  simp only [inI64, i64Min, i64Max, Arith.fits]
  by_cases h1 : (-9223372036854775808 : Int) ≤ v <;> by_cases h2 : v ≤ 9223372036854775807 <;> simp [h1, h2] <;> omega

theorem checked_agree (v : Int) (k : OvKind) :
    agree (match checked v with | some v => .ok v | none => .error k) (Arith.chk v) := by
  simp only [checked, Arith.chk, inI64_eq_fits]
  cases Arith.fits v <;> simp [agree]

theorem wrap_id {v : Int} (h0 : 0 ≤ v) (h1 : v < 9223372036854775808) : wrap v = v := by
  simp only [wrap, two63, two64]; omega

theorem foldBin_agree (op : BinOp) (a b : Int) (h : Arith.cornerFree op a b = true) :
    agree (foldBin op a b) (Arith.binop op a b) := by
  cases op with
  | div =>
    simp only [foldBin, Arith.binop, checkedDiv]
    by_cases hb : b = 0
    · simp [hb, agree]
    · simp only [hb, if_false]; exact checked_agree _ _
  | mod =>
    simp only [foldBin, Arith.binop, checkedRem]
    by_cases hb : b = 0
    · simp [hb, agree]
    · simp only [Arith.cornerFree, Bool.not_eq_true', Bool.and_eq_false_iff, decide_eq_false_iff_not] at h
      have : ¬ (a = i64Min ∧ b = -1) := by
        rintro ⟨h1, h2⟩; simp [i64Min] at h1; rcases h with h | h <;> omega
      simp [hb, this, agree]
  | band => simp only [foldBin, Arith.binop, agree]; rfl
  | bor => simp only [foldBin, Arith.binop, agree]; rfl
  | bxor => simp only [foldBin, Arith.binop, agree]; rfl
  | shl =>
    simp only [foldBin, Arith.binop, checkedShl]
    by_cases hk : 0 ≤ b ∧ b < 64
    · simp only [Arith.cornerFree, hk, and_self, if_true, Bool.and_eq_true, decide_eq_true_eq] at h
      have hp : (0 : Int) ≤ a * 2 ^ b.toNat := Int.mul_nonneg h.1 (Int.pow_nonneg (by omega))
      simp [hk, agree, wrap_id hp h.2]
    · simp [hk, agree]
  | shr =>
    simp only [foldBin, Arith.binop, checkedShr]
    by_cases hk : 0 ≤ b ∧ b < 64
    · simp [hk, agree]
    · simp [hk, agree]
  | _ => exact checked_agree _ _

theorem valC_closed (ρ : Env) : ∀ t, Arith.closed t = true →
    valC ρ t = (valM t).toOption := by
  apply Arg.ind
  case const =>
    intro v hc
    simp only [Arith.closed] at hc
    simp [valC, valM, checked, inI64_eq_fits, hc, Except.toOption]
  case ident => intro s hc; simp [Arith.closed] at hc
  case str => intro s hc; simp [Arith.closed] at hc
  case bin =>
    intro op l r ihl ihr hc
    simp only [Arith.closed, Bool.and_eq_true] at hc
    simp only [valC, valM, ihl hc.1, ihr hc.2]
    cases valM l with
    | error k => simp [liftBin, Except.toOption]
    | ok a =>
      cases valM r with
      | error k => simp [liftBin, Except.toOption]
      | ok b => simp only [liftBin, opC, Except.toOption]; cases foldBin op a b <;> rfl
  case neg =>
    intro a ih hc
    simp only [Arith.closed] at hc
    simp only [valC, valM, ih hc]
    cases hv : valM a with
    | error k => rfl
    | ok v =>
      have hr : inI64 v = true := valC_range ρ a (by rw [ih hc, hv]; rfl)
      simp only [Except.toOption, Option.bind_some, checkedNeg, checked]
      by_cases hm : v = i64Min
      · subst hm; simp; decide
      · simp [hm, neg_range hr hm]
  case not =>
    intro a ih hc
    simp only [Arith.closed] at hc
    simp only [valC, valM, ih hc]
    cases valM a <;> rfl
  case addr => intro a _ hc; simp [Arith.closed] at hc
  case seq => intro as hc; simp [Arith.closed] at hc
  case func => intro n as hc; simp [Arith.closed] at hc

theorem valM_range (t : Arg) (hc : Arith.closed t = true) {v : Int} (h : valM t = .ok v) : inI64 v = true :=
  valC_range (fun _ => none) t (by rw [valC_closed _ t hc, h]; rfl)

theorem agree_cases {x : Except OvKind Int} {y : Except Arith.Err Int} (h : agree x y) :
    (∃ v, x = .ok v ∧ y = .ok v) ∨ (∃ k e, x = .error k ∧ y = .error e) := by
  cases x <;> cases y <;> simp_all [agree]

theorem valM_agree (t : Arg) (hc : Arith.closed t = true) (hs : Arith.inScope t = true) :
    agree (valM t) (Arith.eval t) := by
  induction t using Arg.ind with
  | const v => simp [valM, Arith.eval, agree]
  | bin op l r ihl ihr =>
    simp only [Arith.closed, Bool.and_eq_true] at hc
    simp only [Arith.inScope, Bool.and_eq_true] at hs
    have h3 := hs.2
    rcases agree_cases (ihl hc.1 hs.1.1) with ⟨a, h1, h1'⟩ | ⟨k, e, h1, h1'⟩
    · rcases agree_cases (ihr hc.2 hs.1.2) with ⟨b, h2, h2'⟩ | ⟨k, e, h2, h2'⟩
      · simp only [h1', h2'] at h3
        simp only [valM, Arith.eval, h1, h1', h2, h2']
        exact foldBin_agree op a b h3
      · simp [valM, Arith.eval, h1, h1', h2, h2', agree]
    · simp [valM, Arith.eval, h1, h1', agree]
  | neg a ih =>
    simp only [Arith.closed] at hc
    simp only [Arith.inScope] at hs
    rcases agree_cases (ih hc hs) with ⟨v, h1, h1'⟩ | ⟨k, e, h1, h1'⟩
    · have hr := (inI64_iff v).1 (valM_range a hc h1)
      simp only [valM, Arith.eval, h1, h1', Arith.chk, Arith.fits, i64Min]
      by_cases hm : v = -9223372036854775808
      · subst hm; simp [agree]
      · have h1 : (-9223372036854775808 : Int) ≤ -v := by omega
        have h2 : -v < (9223372036854775808 : Int) := by omega
        simp [hm, h1, h2, agree]
    · simp [valM, Arith.eval, h1, h1', agree]
  | not a ih =>
    simp only [Arith.closed] at hc
    simp only [Arith.inScope] at hs
    rcases agree_cases (ih hc hs) with ⟨v, h1, h1'⟩ | ⟨k, e, h1, h1'⟩
    · simp [valM, Arith.eval, h1, h1', agree, bnot]
    · simp [valM, Arith.eval, h1, h1', agree]
  | _ => simp [Arith.closed] at hc

end Trion.Simp
