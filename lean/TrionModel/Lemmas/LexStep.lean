import TrionModel.Lemmas.LexPos
/-!
# What one `do_next` does on well-formed text

Each arm is first characterised by an equation on a given decomposition of the text; `DoSpec` — no panic, the text splits,
the position advances as specified — is then read off: for the identifier and number arms here, on the decomposition that
`run_split` yields; for the character and string arms in Lemmas/LexDoNext.lean.
-/
namespace Trion.Lex
open Trion.Pos (isCont adv)

/-- `(get_line(), get_column())` -/
def State.pos (s : State) : Nat × Nat := (s.line, s.col)

/-- `b` is a byte a token with the value `t` can begin with: the punctuation byte itself; a digit — or the apostrophe, since
a character literal yields a number token — for `.num`; the first byte of the name; `"`; `<`, `>`. The little that
`Placed` says about the text of a token found in arbitrary bytes. -/
def startsTok (t : Tok) (b : UInt8) : Bool :=
  punct b.toNat == some t ||
  match t with
  | .num _ => (decide (48 ≤ b.toNat) && decide (b.toNat ≤ 57)) || b.toNat == 39
  | .ident s => s.head? == some b
  | .str _ => b.toNat == 34
  | .shl => b.toNat == 60
  | .shr => b.toNat == 62
  | _ => false

/-- after the error `e`: the text is dropped, the flag cleared, the tokenizer stands at the error, and the error is at the
specified position of a place in the text -/
def ErrSpec (s : State) (e : LexErr) (s' : State) : Prop :=
  s'.data = [] ∧ s'.utfErr = false ∧ s'.pos = (e.line, e.col) ∧ ∃ pre rest, s.data = pre ++ rest ∧ s'.pos = adv s.pos pre

theorem errSpec_end (s : State) (k : LexErrKind) :
    ErrSpec s ⟨(adv s.pos s.data).1, (adv s.pos s.data).2, k⟩ ⟨[], false, (adv s.pos s.data).1, (adv s.pos s.data).2⟩ :=
  ⟨rfl, rfl, rfl, s.data, [], by simp, rfl⟩

theorem ErrSpec.trans {s s2 s' : State} {e : LexErr} {p : Bytes} (hd : s.data = p ++ s2.data) (hpos : s2.pos = adv s.pos p)
    (h : ErrSpec s2 e s') : ErrSpec s e s' := by
  obtain ⟨h1, h2, h3, pre, rest, h4, h5⟩ := h
  exact ⟨h1, h2, h3, p ++ pre, rest, by rw [hd, h4]; simp, by rw [h5, hpos, Pos.adv_append]⟩

/-- What one `do_next` may do on a well-formed, non-empty text: yield a token at the state's position, whose text `mid` is
split off the front — what is left stays well-formed, the flag is kept, the position advances over `mid` as specified, and
`mid` begins as `startsTok` says —; or report an error (`ErrSpec`). It does not panic, end the stream or run out of fuel. -/
def DoSpec (s : State) : Step → Prop
  | .tok t s' => ∃ mid, s.data = mid ++ s'.data ∧ Utf8 s'.data ∧ s'.utfErr = s.utfErr ∧
      t.line = s.line ∧ t.col = s.col ∧ s'.pos = adv s.pos mid ∧
      ∃ b, mid.head? = some b ∧ startsTok t.val b = true
  | .err e s' => ErrSpec s e s'
  | .done _ => False
  | .panic => False
  | .fuel => False

theorem utf8_drop_ascii {mid rest : Bytes} (h : Utf8 (mid ++ rest)) (ha : ∀ b ∈ mid, b.toNat < 128) : Utf8 rest := by
  induction mid with
  | nil => simpa using h
  | cons b mid ih =>
    apply ih
    · exact utf8_tail_of_ascii (by simpa using h) (ha b (by simp))
    · intro x hx; exact ha x (by simp [hx])

theorem head?_append_of_ne_nil {mid rest : Bytes} (h : mid ≠ []) : (mid ++ rest).head? = mid.head? := by
  cases mid with
  | nil => exact absurd rfl h
  | cons b m => rfl

theorem slice_split (x y z : Bytes) (hy : ∀ b, (y ++ z).head? = some b → isCont b = false)
    (hz : ∀ b, z.head? = some b → isCont b = false) :
    slice (x ++ y ++ z) x.length (x.length + y.length) = some y := by
  unfold slice
  have b1 : isBoundary (x ++ y ++ z) x.length = true := by
    rw [List.append_assoc]; exact isBoundary_split x (y ++ z) hy
  have b2 : isBoundary (x ++ y ++ z) (x.length + y.length) = true := by
    have := isBoundary_split (x ++ y) z hz
    simpa using this
  have e : ((x ++ y ++ z).take (x.length + y.length)).drop x.length = y := by
    have : (x ++ y ++ z).take (x.length + y.length) = x ++ y := by
      apply List.take_left'; simp
    rw [this]; exact List.drop_left' rfl
  have hle : decide (x.length ≤ x.length + y.length) = true := by simp
  simp only [hle, b1, b2, Bool.and_self, if_true, e]

theorem doSpec_fail (s : State) (k : LexErrKind) : DoSpec s (fail s k) :=
  ⟨rfl, rfl, rfl, [], s.data, rfl, rfl⟩

theorem doSpec_failRun (s : State) (ha : ∀ b ∈ s.data, b.toNat < 128 ∧ b.toNat ≠ 10) : DoSpec s (failRun s) :=
  ⟨rfl, rfl, rfl, s.data, [], by simp, by rw [Pos.adv_ascii s.pos s.data ha]; rfl⟩

theorem doSpec_failEof (s : State) (k : LexErrKind) (hu : Utf8 s.data) : DoSpec s (failEof s k) := by
  unfold failEof
  split
  · rw [updatePos_eq (good_of_utf8 hu)]
    exact errSpec_end s _
  · exact doSpec_fail s k

theorem emit_eq (s : State) (mid rest : Bytes) (t : Tok) (asciiLn : Bool)
    (hd : s.data = mid ++ rest) (hu : Utf8 s.data) (hr : Utf8 rest)
    (ha : asciiLn = true → ∀ b ∈ mid, b.toNat < 128 ∧ b.toNat ≠ 10) :
    emit s mid.length asciiLn t =
      .tok ⟨s.line, s.col, t⟩ ⟨rest, s.utfErr, (adv s.pos mid).1, (adv s.pos mid).2⟩ := by
  unfold emit
  rw [hd, sliceFrom_split mid rest (utf8_head? hr)]
  cases asciiLn with
  | true =>
    simp only [if_true]
    rw [Pos.adv_ascii s.pos mid (ha rfl)]
    rfl
  | false =>
    simp only [Bool.false_eq_true, if_false]
    rw [sliceTo_split mid rest (utf8_head? hr)]
    simp only
    rw [updatePos_eq (good_of_utf8_prefix (hd ▸ hu))]
    rfl

theorem doSpec_emit (s : State) (mid rest : Bytes) (t : Tok) (asciiLn : Bool)
    (hd : s.data = mid ++ rest) (hu : Utf8 s.data) (hr : Utf8 rest)
    (ha : asciiLn = true → ∀ b ∈ mid, b.toNat < 128 ∧ b.toNat ≠ 10)
    (hb : ∃ b, mid.head? = some b ∧ startsTok t b = true) :
    DoSpec s (emit s mid.length asciiLn t) := by
  rw [emit_eq s mid rest t asciiLn hd hu hr ha]
  exact ⟨mid, hd, hr, rfl, rfl, rfl, rfl, hb⟩

/-- the first byte of a number, a character literal, an identifier or a string: the classes `do_next` tests for after the
single-character arms -/
def laterArm (c : Nat) : Prop := (48 ≤ c ∧ c ≤ 57) ∨ c = 39 ∨ (65 ≤ c ∧ c ≤ 90) ∨ c = 95 ∨ (97 ≤ c ∧ c ≤ 122) ∨ c = 34

instance (c : Nat) : Decidable (laterArm c) := by unfold laterArm; infer_instance

theorem punct_table : ∀ c, c < 256 → (punct c).isSome = true → c < 128 ∧ c ≠ 10 ∧ c ≠ 60 ∧ c ≠ 62 ∧ ¬ laterArm c := by
  decide +kernel

theorem punct_some {c : UInt8} {t : Tok} (h : punct c.toNat = some t) :
    c.toNat < 128 ∧ c.toNat ≠ 10 ∧ c.toNat ≠ 60 ∧ c.toNat ≠ 62 :=
  have := punct_table c.toNat (UInt8.toNat_lt c) (by simp [h])
  ⟨this.1, this.2.1, this.2.2.1, this.2.2.2.1⟩

theorem punct_none {c : UInt8} (h : laterArm c.toNat) : punct c.toNat = none := by
  cases hp : punct c.toNat with
  | none => rfl
  | some t => exact absurd h (punct_table c.toNat (UInt8.toNat_lt c) (by simp [hp])).2.2.2.2

/-! ### The dispatch of `do_next` on the first byte, walked once

`do_next` is unfolded in three lemmas only (the last, `doNext_arm`, is the chain of tests after punctuation and shifts); the
arm lemmas and `doSpec_doNext` (Lemmas/LexDoNext.lean) are read off them. -/

theorem doNext_punct (s : State) (b0 : UInt8) (tl : Bytes) (hd : s.data = b0 :: tl) {t : Tok}
    (hp : punct b0.toNat = some t) : doNext s = emit s 1 true t := by
  unfold doNext
  simp [hd, hp]

theorem doNext_shift (s : State) (b0 : UInt8) (tl : Bytes) (hd : s.data = b0 :: tl) (x : Nat) (t : Tok)
    (hx : x = 60 ∧ t = .shl ∨ x = 62 ∧ t = .shr) (h0 : b0.toNat = x) (h1 : secondIs s.data x = true) :
    doNext s = emit s 2 true t := by
  have hlen : 2 ≤ s.data.length := by
    unfold secondIs at h1
    cases hs : s.data[1]? with
    | none => simp [hs] at h1
    | some b => have := (List.getElem?_eq_some_iff.mp hs).1; omega
  have e0 : s.data[0]? = some b0 := by rw [hd]; rfl
  have hlen' : decide (s.data.length ≥ 2) = true := by simpa using hlen
  unfold doNext
  rcases hx with ⟨rfl, rfl⟩ | ⟨rfl, rfl⟩
  · simp only [e0, h0, show punct 60 = none by decide, hlen', h1, beq_self_eq_true, Bool.and_self, if_true]
  · simp only [e0, h0, show punct 62 = none by decide, hlen', h1, beq_self_eq_true, Bool.and_self, if_true,
      show ((62 : Nat) == 60) = false by decide, Bool.false_and, Bool.false_eq_true, if_false]

theorem doNext_arm (s : State) (b0 : UInt8) (tl : Bytes) (hd : s.data = b0 :: tl) (hp : punct b0.toNat = none)
    (hsh : ∀ x, x = 60 ∨ x = 62 → ¬ (b0.toNat = x ∧ secondIs s.data x = true)) :
    doNext s =
      if 48 ≤ b0.toNat ∧ b0.toNat ≤ 57 then lexNumber s
      else if b0.toNat = 39 then lexChar s
      else if (65 ≤ b0.toNat ∧ b0.toNat ≤ 90) ∨ b0.toNat = 95 ∨ (97 ≤ b0.toNat ∧ b0.toNat ≤ 122) then lexIdent s
      else if b0.toNat = 34 then lexString s
      else match decodeChar s.data with
        | none => .panic
        | some (ch, _) => fail s (.unexpected ch) := by
  have h60 := hsh 60 (.inl rfl)
  have h62 := hsh 62 (.inr rfl)
  have c1 : (b0.toNat == 60 && decide (s.data.length ≥ 2) && secondIs s.data 60) = false := by
    cases h : secondIs s.data 60 <;> simp_all
  have c2 : (b0.toNat == 62 && decide (s.data.length ≥ 2) && secondIs s.data 62) = false := by
    cases h : secondIs s.data 62 <;> simp_all
  have e0 : s.data[0]? = some b0 := by rw [hd]; rfl
  unfold doNext
  simp only [e0, hp, c1, c2, Bool.false_eq_true, if_false, Bool.and_eq_true, Bool.or_eq_true, decide_eq_true_eq, beq_iff_eq,
    or_assoc]
  -- the two chains differ only in the `Decidable` instances of the tests
  split
  · rfl
  split
  · rfl
  split
  · rfl
  split <;> rfl

section arms
variable (s : State) (b0 : UInt8) (tl : Bytes) (hd : s.data = b0 :: tl)
include hd

theorem doNext_number (h0 : 48 ≤ b0.toNat ∧ b0.toNat ≤ 57) : doNext s = lexNumber s := by
  rw [doNext_arm s b0 tl hd (punct_none (.inl h0)) (fun x hx hc => by omega), if_pos h0]

theorem doNext_char (h0 : b0.toNat = 39) : doNext s = lexChar s := by
  rw [doNext_arm s b0 tl hd (punct_none (by unfold laterArm; omega)) (fun x hx hc => by omega), if_neg (by omega), if_pos h0]

theorem doNext_ident (h0 : (65 ≤ b0.toNat ∧ b0.toNat ≤ 90) ∨ b0.toNat = 95 ∨ (97 ≤ b0.toNat ∧ b0.toNat ≤ 122)) :
    doNext s = lexIdent s := by
  rw [doNext_arm s b0 tl hd (punct_none (by unfold laterArm; omega)) (fun x hx hc => by omega), if_neg (by omega),
    if_neg (by omega), if_pos h0]

theorem doNext_string (h0 : b0.toNat = 34) : doNext s = lexString s := by
  rw [doNext_arm s b0 tl hd (punct_none (by unfold laterArm; omega)) (fun x hx hc => by omega), if_neg (by omega),
    if_neg (by omega), if_neg (by omega), if_pos h0]

end arms


theorem startsTok_punct {c : UInt8} {t : Tok} (h : punct c.toNat = some t) : startsTok t c = true := by
  simp [startsTok, h]

theorem doSpec_punct (s : State) (b0 : UInt8) (tl : Bytes) (t : Tok) (hd : s.data = b0 :: tl) (hu : Utf8 s.data)
    (hp : punct b0.toNat = some t) : DoSpec s (emit s 1 true t) := by
  have hc := punct_some hp
  have hr : Utf8 tl := utf8_tail_of_ascii (hd ▸ hu) hc.1
  exact doSpec_emit s [b0] tl t true (by simpa using hd) hu hr
    (by intro _ b hb; simp at hb; subst hb; exact ⟨hc.1, hc.2.1⟩)
    ⟨b0, rfl, startsTok_punct hp⟩

theorem doSpec_two (s : State) (b0 b1 : UInt8) (tl : Bytes) (t : Tok) (hd : s.data = b0 :: b1 :: tl) (hu : Utf8 s.data)
    (h0 : b0.toNat < 128 ∧ b0.toNat ≠ 10) (h1 : b1.toNat < 128 ∧ b1.toNat ≠ 10) (hs : startsTok t b0 = true) :
    DoSpec s (emit s 2 true t) := by
  have hr : Utf8 tl := utf8_tail_of_ascii (utf8_tail_of_ascii (hd ▸ hu) h0.1) h1.1
  exact doSpec_emit s [b0, b1] tl t true (by simpa using hd) hu hr
    (by intro _ b hb; simp at hb; rcases hb with rfl | rfl <;> assumption)
    ⟨b0, rfl, hs⟩

theorem isIdentByte_ascii {b : UInt8} (h : isIdentByte b = true) : b.toNat < 128 ∧ b.toNat ≠ 10 := by
  simp [isIdentByte] at h
  omega

theorem lexIdent_eq (s : State) (nm rest : Bytes) (hdata : s.data = nm ++ rest) (hu : Utf8 s.data)
    (hnm : ∀ x ∈ nm, isIdentByte x = true)
    (hrest : rest = [] ∨ ∃ b tl, rest = b :: tl ∧ isIdentByte b = false) :
    lexIdent s = if rest = [] ∧ s.utfErr = true then failRun s
      else .tok ⟨s.line, s.col, .ident nm⟩ ⟨rest, s.utfErr, (adv s.pos nm).1, (adv s.pos nm).2⟩ := by
  have hall' : ∀ x ∈ nm, x.toNat < 128 ∧ x.toNat ≠ 10 := fun x hx => isIdentByte_ascii (hnm x hx)
  have hur : Utf8 rest := utf8_drop_ascii (hdata ▸ hu) (fun x hx => (hall' x hx).1)
  unfold lexIdent
  rcases hrest with rfl | ⟨b, tl, rfl, hb⟩
  · have hd' : s.data = nm := by simpa using hdata
    have hpos : position (fun b => !isIdentByte b) s.data = none := by
      rw [hd']; exact position_none_of_all _ (by intro x hx; simp [hnm x hx])
    rw [hpos]
    simp only
    by_cases hue : s.utfErr = true
    · simp [hue]
    · have hsl : sliceTo s.data s.data.length = some s.data := by simp [sliceTo, isBoundary_length]
      rw [if_neg hue, hsl, if_neg (fun h => hue h.2)]
      simp only
      rw [hd']
      exact emit_eq s nm [] (.ident nm) true hdata hu Utf8.nil (fun _ => hall')
  · have hpos : position (fun b => !isIdentByte b) s.data = some nm.length := by
      rw [hdata]; exact position_append_of_all nm b tl (by intro x hx; simp [hnm x hx]) (by simp [hb])
    rw [hpos]
    simp only
    rw [if_neg (show ¬ (b :: tl = [] ∧ s.utfErr = true) from fun h => List.cons_ne_nil _ _ h.1)]
    have hst : sliceTo s.data nm.length = some nm := by
      rw [hdata]; exact sliceTo_split nm (b :: tl) (utf8_head? hur)
    rw [hst]
    simp only
    exact emit_eq s nm (b :: tl) (.ident nm) true hdata hu hur (fun _ => hall')

theorem doSpec_ident (s : State) (b0 : UInt8) (tl : Bytes) (hd : s.data = b0 :: tl) (hu : Utf8 s.data)
    (h0 : isIdentByte b0 = true) : DoSpec s (lexIdent s) := by
  obtain ⟨nm, rest, hsplit, hnm, hrest⟩ := run_split isIdentByte s.data
  rw [lexIdent_eq s nm rest hsplit hu hnm hrest]
  split
  · rename_i hend
    refine doSpec_failRun s fun b hb => isIdentByte_ascii (hnm b ?_)
    simpa [hsplit, hend.1] using hb
  · have hne : nm ≠ [] := by
      rintro rfl
      rcases hrest with rfl | ⟨b, tl', rfl, hb⟩
      · simp [hd] at hsplit
      · rw [hd] at hsplit
        simp at hsplit
        obtain ⟨rfl, _⟩ := hsplit
        simp [h0] at hb
    have hhead : nm.head? = some b0 := by
      rw [← head?_append_of_ne_nil (rest := rest) hne, ← hsplit, hd]; rfl
    exact ⟨nm, hsplit, utf8_drop_ascii (hsplit ▸ hu) (fun x hx => (isIdentByte_ascii (hnm x hx)).1), rfl, rfl, rfl, rfl,
      b0, hhead, by simp [startsTok, hhead]⟩

theorem digitVal_some {r : Nat} {b : UInt8} {v : Nat} (h : digitVal r b = some v) :
    v < r ∧ ((48 ≤ b.toNat ∧ b.toNat ≤ 57 ∧ v = b.toNat - 48) ∨ (97 ≤ b.toNat ∧ b.toNat ≤ 122 ∧ v = b.toNat - 97 + 10) ∨
      (65 ≤ b.toNat ∧ b.toNat ≤ 90 ∧ v = b.toNat - 65 + 10)) := by
  unfold digitVal at h
  simp only at h
  split at h
  · rename_i w hw
    split at h
    · rename_i hlt
      cases h
      refine ⟨hlt, ?_⟩
      split at hw
      · cases hw; omega
      · split at hw
        · cases hw; omega
        · split at hw
          · cases hw; omega
          · cases hw
    · cases h
  · cases h

theorem isDigit_some {r : Nat} {b : UInt8} (h : isDigit r b = true) : ∃ v, digitVal r b = some v :=
  Option.isSome_iff_exists.mp h

theorem isDigit_ascii {radix : Nat} {b : UInt8} (h : isDigit radix b = true) : b.toNat < 128 ∧ b.toNat ≠ 10 := by
  obtain ⟨v, hv⟩ := isDigit_some h
  have := (digitVal_some hv).2
  omega

theorem isDigit_noncont {r : Nat} {b : UInt8} (h : isDigit r b = true) : isCont b = false := by
  have := isDigit_ascii h
  rw [isCont_false_iff]; omega

/-- the `off` that the number arm computes from the text: 2 after `0b`, `0o`, `0x`, else 0. `doSpec_number` reads the prefix
off `numOff` and `numRadix` on any text; `prefix_detect` (Lemmas/LexNumber.lean) says what they are on
`radixPrefix r ++ ds ++ rest`. -/
def numOff (d : Bytes) : Nat :=
  if (startsWith2 d 48 98 || startsWith2 d 48 111 || startsWith2 d 48 120) = true then 2 else 0
/-- the `radix` that the number arm computes from the text: what `0b`, `0o`, `0x` select, else 10 -/
def numRadix (d : Bytes) : Nat :=
  if startsWith2 d 48 98 = true then 2 else if startsWith2 d 48 111 = true then 8
  else if startsWith2 d 48 120 = true then 16 else 10

theorem lexNumber_exact (s : State) (pfx ds rest : Bytes) (r : Nat)
    (hdata : s.data = pfx ++ ds ++ rest)
    (hoff : numOff s.data = pfx.length) (hrad : numRadix s.data = r)
    (hds : ∀ b ∈ ds, isDigit r b = true)
    (hds0 : ∀ b, (ds ++ rest).head? = some b → isCont b = false)
    (hrest : rest = [] ∨ ∃ b tl, rest = b :: tl ∧ isDigit r b = false ∧ isCont b = false) :
    lexNumber s = if rest = [] ∧ s.utfErr = true then failRun s else match i64FromStrRadix ds r with
      | some v => .tok ⟨s.line, s.col, .num v⟩ ⟨rest, s.utfErr, s.line, s.col + (pfx ++ ds).length⟩
      | none => fail s .badNumber := by
  unfold lexNumber
  unfold numOff at hoff
  unfold numRadix at hrad
  simp only [hoff, hrad]
  have hrest0 : ∀ b, rest.head? = some b → isCont b = false := by
    intro b hb
    rcases hrest with rfl | ⟨b', tl, rfl, _, hc⟩
    · simp at hb
    · simp at hb; subst hb; exact hc
  have hsl : sliceFrom s.data pfx.length = some (ds ++ rest) := by
    rw [hdata, List.append_assoc]; exact sliceFrom_split pfx (ds ++ rest) hds0
  rw [hsl]
  simp only
  have htail : lexNumberTail s pfx.length r ds.length = match i64FromStrRadix ds r with
      | some v => .tok ⟨s.line, s.col, .num v⟩ ⟨rest, s.utfErr, s.line, s.col + (pfx ++ ds).length⟩
      | none => fail s .badNumber := by
    unfold lexNumberTail
    rw [hdata, slice_split pfx ds rest hds0 hrest0]
    simp only
    cases i64FromStrRadix ds r with
    | none => rfl
    | some v =>
      simp only
      unfold emit
      simp only [if_true]
      have := sliceFrom_split (pfx ++ ds) rest hrest0
      rw [← hdata] at this
      simp only [List.length_append] at this ⊢
      rw [this]
  rcases hrest with rfl | ⟨b', tl, rfl, hnd, hc⟩
  · have hpos : position (fun b => !isDigit r b) (ds ++ []) = none :=
      position_none_of_all _ (by intro x hx; simp at hx; simp [hds x hx])
    rw [hpos]
    by_cases hue : s.utfErr = true
    · simp [hue]
    · have hlen : s.data.length = pfx.length + ds.length := by rw [hdata]; simp
      have h1 : ¬ s.data.length < pfx.length := by omega
      have h2 : s.data.length - pfx.length = ds.length := by omega
      rw [if_neg hue, if_neg h1, h2, htail, if_neg (fun h => hue h.2)]
  · have hpos : position (fun b => !isDigit r b) (ds ++ b' :: tl) = some ds.length :=
      position_append_of_all ds b' tl (by intro x hx; simp [hds x hx]) (by simp [hnd])
    rw [hpos]
    simp only
    rw [if_neg (show ¬ (b' :: tl = [] ∧ s.utfErr = true) from fun h => List.cons_ne_nil _ _ h.1)]
    exact htail

theorem startsWith2_iff (d : Bytes) (x y : Nat) :
    startsWith2 d x y = true ↔ ∃ a b tl, d = a :: b :: tl ∧ a.toNat = x ∧ b.toNat = y := by
  unfold startsWith2
  split
  · rename_i a b tl
    simp
    constructor
    · intro ⟨h1, h2⟩; exact ⟨a, b, ⟨rfl, rfl⟩, h1, h2⟩
    · rintro ⟨_, _, ⟨rfl, rfl⟩, h1, h2⟩; exact ⟨h1, h2⟩
  · rename_i hne
    simp
    intro a b tl h
    exact absurd h (hne a b tl)

theorem doSpec_number (s : State) (b0 : UInt8) (tl : Bytes) (hd : s.data = b0 :: tl) (hu : Utf8 s.data)
    (h0 : 48 ≤ b0.toNat ∧ b0.toNat ≤ 57) : DoSpec s (lexNumber s) := by
  obtain ⟨pfx, rest', hdata, hp, hoff⟩ : ∃ pfx rest', s.data = pfx ++ rest' ∧ (∀ b ∈ pfx, b.toNat < 128 ∧ b.toNat ≠ 10) ∧
      numOff s.data = pfx.length := by
    unfold numOff
    by_cases hpre : (startsWith2 s.data 48 98 || startsWith2 s.data 48 111 || startsWith2 s.data 48 120) = true
    · obtain ⟨a, b, tl', hd2, ha, hb⟩ : ∃ a b tl', s.data = a :: b :: tl' ∧ a.toNat = 48 ∧
          (b.toNat = 98 ∨ b.toNat = 111 ∨ b.toNat = 120) := by
        simp only [Bool.or_eq_true, startsWith2_iff] at hpre
        rcases hpre with (⟨a, b, t, h, ha, hb⟩ | ⟨a, b, t, h, ha, hb⟩) | ⟨a, b, t, h, ha, hb⟩
        · exact ⟨a, b, t, h, ha, Or.inl hb⟩
        · exact ⟨a, b, t, h, ha, Or.inr (Or.inl hb)⟩
        · exact ⟨a, b, t, h, ha, Or.inr (Or.inr hb)⟩
      exact ⟨[a, b], tl', hd2, by intro x hx; simp at hx; rcases hx with rfl | rfl <;> omega, by simp [hpre]⟩
    · exact ⟨[], s.data, rfl, by simp, by simp [hpre]⟩
  generalize hr : numRadix s.data = r
  have hur' : Utf8 rest' := utf8_drop_ascii (hdata ▸ hu) (fun b hb => (hp b hb).1)
  obtain ⟨ds, rest, hsplit, hds, hrest⟩ := run_split (isDigit r) rest'
  subst hsplit
  have hmid : ∀ b ∈ pfx ++ ds, b.toNat < 128 ∧ b.toNat ≠ 10 := by
    intro b hb
    rcases List.mem_append.mp hb with hb | hb
    · exact hp b hb
    · exact isDigit_ascii (hds b hb)
  have hurest : Utf8 rest := utf8_drop_ascii hur' (fun b hb => isDigit_ascii (hds b hb) |>.1)
  have hdata' : s.data = pfx ++ ds ++ rest := by rw [hdata]; simp
  rw [lexNumber_exact s pfx ds rest r hdata' hoff hr hds (utf8_head? hur')
    (hrest.imp id fun ⟨b, tl, h1, h2⟩ => ⟨b, tl, h1, h2, utf8_head? hurest b (by rw [h1]; rfl)⟩)]
  split
  · rename_i hend
    refine doSpec_failRun s fun b hb => hmid b ?_
    simpa [hdata', hend.1] using hb
  · cases hv : i64FromStrRadix ds r with
    | none => exact doSpec_fail s _
    | some v =>
      have hne : pfx ++ ds ≠ [] := by
        intro hnil
        have : ds = [] := (List.append_eq_nil_iff.mp hnil).2
        subst this
        simp [i64FromStrRadix] at hv
      refine ⟨pfx ++ ds, hdata', hurest, rfl, rfl, rfl, ?_, b0, ?_, ?_⟩
      · exact (Pos.adv_ascii s.pos _ hmid).symm
      · rw [← head?_append_of_ne_nil (rest := rest) hne, ← hdata', hd]; rfl
      · simp [startsTok]; omega

end Trion.Lex
