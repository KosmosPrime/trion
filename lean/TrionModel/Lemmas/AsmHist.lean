import TrionModel.Lemmas.AsmFile
import TrionModel.Lemmas.AsmWithin
import TrionModel.Lemmas.AsmLayout
/-!
# The region history of a whole run, and its replay on the layout core of C05
-/
namespace Trion.Asm
open Trion Trion.SegLayout

/-- the operations of a region history replayed on the layout core (`SegLayout.lstep`); the recorded outcomes are ignored -/
def lfold (l : Layout.State) : List (Seg.Op × Seg.Out) → Except Layout.Fail Layout.State
  | [] => .ok l
  | (op, _) :: tr =>
    match lstep l op with
    | .ok l' => lfold l' tr
    | .error e => .error e

theorem path_sim {s s' : Seg.State} {tr : List (Seg.Op × Seg.Out)} (hp : Path s tr s') (hd : diags tr = 0)
    {l : Layout.State} (r : R s l) :
    ∃ l', lfold l tr = .ok l' ∧ R s' l' ∧ l'.env = l.env ∧ l'.tasks = l.tasks := by
  induction hp generalizing l with
  | nil s => exact ⟨l, rfl, r, rfl, rfl⟩
  | cons inv wf hstep hnp _ ih =>
    rename_i s0 s1 s2 op o tr' _
    have hd' : isDiag o = false ∧ diags tr' = 0 := by
      simp only [diags, List.filter_cons] at hd
      cases ho : isDiag o with
      | true => simp [ho] at hd
      | false => simp only [ho] at hd; exact ⟨rfl, by simpa [diags] using hd⟩
    have hok : ∀ e, o ≠ .diag e := fun e he => by rw [he] at hd'; simp [isDiag] at hd'
    obtain ⟨l1, h1, r1, e1, t1⟩ := step_sim inv r op wf hstep hok
    obtain ⟨l', h2, r2, e2, t2⟩ := ih hd'.2 r1
    exact ⟨l', by simp only [lfold, h1]; exact h2, r2, e2.trans e1, t2.trans t1⟩

/-- the history of any finished run as one path through `close_segment`; on a successful run no operation of it was
refused -/
theorem runWith_path {enc : Encoder} (henc : EncLen enc) (fs : Bytes → Option Bytes) (main : Bytes) (o : Outcome)
    (h : runWith enc fs main = .done o) :
    ∃ (tr : List (Seg.Op × Seg.Out)) (s' : Seg.State), Path Seg.init tr s' ∧ s'.map = o.image ∧ o.closeErr = none ∧
      (o.success = true → diags tr = 0) := by
  obtain ⟨_, st, _, st', _, _, _, g, e, hc, hf, _, e', rfl⟩ := (runWith_safe henc fs main).2 o h
  obtain ⟨tr1, p1, c1⟩ := e.2.2
  obtain ⟨tr2, p2, c2⟩ := e'.2.2
  have pclose : Path st.seg [(.close, (Seg.closeSegment st.seg).2)] (Seg.closeSegment st.seg).1 :=
    .cons g.inv trivial rfl (by rw [hc]; simp) (.nil _)
  refine ⟨tr1 ++ [(Seg.Op.close, _)] ++ tr2, st'.seg, (p1.append pclose).append p2, rfl, rfl, fun hs => ?_⟩
  have herr : st'.errors = [] := (finalize_grew hf).2.mp (by simpa [Outcome.success] using hs)
  rw [herr] at c2
  simp only [List.length_nil] at c2
  have : diags [(Seg.Op.close, (Seg.closeSegment st.seg).2)] = 0 := by rw [hc]; simp [diags, isDiag]
  simp only [St.init, List.length_nil] at c1
  rw [diags_append, diags_append, this]
  omega

theorem run_history {enc : Encoder} (henc : EncLen enc) (fs : Bytes → Option Bytes) (main : Bytes) (o : Outcome)
    (h : runWith enc fs main = .done o) (hs : o.success = true) :
    ∃ (tr : List (Seg.Op × Seg.Out)) (s' : Seg.State), Path Seg.init tr s' ∧ diags tr = 0 ∧ s'.map = o.image :=
  have ⟨tr, s', hp, hm, _, hd⟩ := runWith_path henc fs main o h
  ⟨tr, s', hp, hd hs, hm⟩

end Trion.Asm
