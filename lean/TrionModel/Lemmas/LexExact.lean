import TrionModel.Lemmas.LexLayout
/-!
# Exact placement of tokens in a text (`Exact`), equivalent to a layout (`exact_layout`, `layout_exact`)

Also builders for separator text and a Boolean checker for the inside of a block comment, used by `Props/C12Layout.lean`
and `Props/C09Text.lean` to exhibit layouts.
-/
namespace Trion.Lex
open Trion.Pos (adv isCont)

/-- `Exact text start ts`: from byte offset `start` on, the text is `gap₁ spelling₁ gap₂ spelling₂ … trail` where
every gap is separator text (`IsSep`), `spellingᵢ = text[oᵢ, eᵢ)` is a spelling (`Spell`) of the value of the
`i`-th token of `ts` given the byte that follows it, that token carries the specified position of offset `oᵢ`
(`Pos.of (text.take oᵢ)`), and the trail after the last spelling is separator text up to the end. -/
inductive Exact (text : Bytes) : Nat → List Token → Prop
  | nil (start : Nat) : start ≤ text.length → IsSepEnd (text.drop start) → Exact text start []
  | cons (start o e : Nat) (t : Token) (ts : List Token) :
      start ≤ o → o < e → e ≤ text.length →
      IsSep ((text.take o).drop start) →
      Spell ((text.take e).drop o) t.val text[e]? →
      (t.line, t.col) = Pos.of (text.take o) →
      Exact text e ts → Exact text start (t :: ts)

theorem take_glue (l : Bytes) (a b : Nat) (h : a ≤ b) : l.take a ++ (l.take b).drop a = l.take b := by
  have : (l.take b).take a = l.take a := by rw [List.take_take]; congr 1; omega
  rw [← this]; exact List.take_append_drop a (l.take b)

theorem drop_glue (l : Bytes) (a b : Nat) (h : a ≤ b) : (l.take b).drop a ++ l.drop b = l.drop a := by
  by_cases ha : a ≤ (l.take b).length
  · have h1 : l.drop a = (l.take b ++ l.drop b).drop a := by rw [List.take_append_drop]
    rw [h1, List.drop_append_of_le_length ha]
  · have hl : l.length < a := by simp at ha; omega
    rw [List.drop_eq_nil_of_le (by simp; omega), List.drop_eq_nil_of_le (show l.length ≤ b by omega),
      List.drop_eq_nil_of_le (show l.length ≤ a by omega)]
    rfl

theorem exact_layout {text : Bytes} {start : Nat} {ts : List Token} (h : Exact text start ts) :
    ∃ L trail, LOk L trail ∧ ltext L trail = text.drop start ∧ ltoks (text.take start) L = ts := by
  induction h with
  | nil start _ hs => exact ⟨[], text.drop start, hs, rfl, rfl⟩
  | cons start o e t ts h1 h2 h3 hsep hsp hpos _ ih =>
    obtain ⟨L, trail, hok, htext, htoks⟩ := ih
    refine ⟨⟨(text.take o).drop start, (text.take e).drop o, t.val⟩ :: L, trail, ⟨hsep, ?_, hok⟩, ?_, ?_⟩
    · show Spell _ _ (ltext L trail).head?
      rw [htext, List.head?_drop]; exact hsp
    · simp only [ltext]
      rw [htext, List.append_assoc, drop_glue text o e (by omega), drop_glue text start o h1]
    · simp only [ltoks]
      rw [take_glue text start o h1, take_glue text o e (by omega), htoks]
      have : t = ⟨(Pos.of (text.take o)).1, (Pos.of (text.take o)).2, t.val⟩ := by
        cases t; simp at hpos ⊢; rw [← hpos]; simp
      rw [← this]

theorem tokens_of_exact (text : Bytes) (ts : List Token) (h : Exact text 0 ts) :
    tokens text = .ok ⟨ts, none, (Pos.of text).1, (Pos.of text).2⟩ := by
  obtain ⟨L, trail, hok, htext, htoks⟩ := exact_layout h
  simp only [List.drop_zero, List.take_zero] at htext htoks
  rw [← htext, tokens_layout L trail hok, htoks]

theorem layout_exact (L : List LTok) (trail : Bytes) (h : LOk L trail) (pre : Bytes) :
    Exact (pre ++ ltext L trail) pre.length (ltoks pre L) := by
  induction L generalizing pre with
  | nil =>
    refine Exact.nil _ (by simp) ?_
    have : (pre ++ trail).drop pre.length = trail := List.drop_left' rfl
    simp only [ltext]
    rw [this]
    exact h
  | cons x r ih =>
    obtain ⟨h1, h2, h3⟩ := h
    have hne := spell_ne_nil h2
    have hpos : 0 < x.spell.length := List.length_pos_iff.mpr hne
    simp only [ltext, ltoks]
    have htxt : pre ++ (x.sep ++ x.spell ++ ltext r trail) = (pre ++ x.sep ++ x.spell) ++ ltext r trail := by simp
    have hto : (pre ++ (x.sep ++ x.spell ++ ltext r trail)).take (pre ++ x.sep).length = pre ++ x.sep := by
      rw [show pre ++ (x.sep ++ x.spell ++ ltext r trail) = (pre ++ x.sep) ++ (x.spell ++ ltext r trail) by simp]
      exact List.take_left' rfl
    have hte : (pre ++ (x.sep ++ x.spell ++ ltext r trail)).take (pre ++ x.sep ++ x.spell).length = pre ++ x.sep ++ x.spell := by
      rw [htxt]; exact List.take_left' rfl
    refine Exact.cons pre.length (pre ++ x.sep).length (pre ++ x.sep ++ x.spell).length _ _
      (by simp) (by simp; omega) (by simp) ?_ ?_ ?_ ?_
    · rw [hto]; simpa using h1
    · rw [hte]
      have hd : (pre ++ x.sep ++ x.spell).drop (pre ++ x.sep).length = x.spell := List.drop_left' rfl
      rw [hd]
      have hidx : (pre ++ (x.sep ++ x.spell ++ ltext r trail))[(pre ++ x.sep ++ x.spell).length]? = (ltext r trail).head? := by
        rw [htxt, List.getElem?_append_right (Nat.le_refl _)]
        simp
        cases ltext r trail <;> rfl
      rw [hidx]; exact h2
    · rw [hto]
    · rw [htxt]; exact ih h3 (pre ++ x.sep ++ x.spell)

theorem exact_mem {text : Bytes} {start : Nat} {ts : List Token} (h : Exact text start ts) :
    ∀ t ∈ ts, ∃ o e, start ≤ o ∧ o < e ∧ e ≤ text.length ∧ Spell ((text.take e).drop o) t.val text[e]? ∧
      (t.line, t.col) = Pos.of (text.take o) := by
  induction h with
  | nil => simp
  | cons start o e t ts h1 h2 h3 _ hsp hpos _ ih =>
    intro t' ht'
    rcases List.mem_cons.mp ht' with rfl | ht'
    · exact ⟨o, e, h1, h2, h3, hsp, hpos⟩
    · obtain ⟨o', e', h1', rest⟩ := ih t' ht'
      exact ⟨o', e', by omega, rest⟩

theorem ltoks_vals (pre : Bytes) (L : List LTok) : (ltoks pre L).map (·.val) = L.map (·.tok) := by
  induction L generalizing pre with
  | nil => rfl
  | cons x r ih => simp [ltoks, ih]

theorem isSep_append {a b : Bytes} (ha : IsSep a) (hb : IsSep b) : IsSep (a ++ b) := by
  induction ha with
  | nil => simpa using hb
  | space x d hx _ ih => exact IsSep.space x _ hx ih
  | line body d h1 h2 _ ih =>
    have : (47 :: 47 :: body ++ 10 :: d) ++ b = 47 :: 47 :: body ++ 10 :: (d ++ b) := by simp
    rw [this]; exact IsSep.line body _ h1 h2 ih
  | block body d h1 h2 _ ih =>
    have : (47 :: 42 :: body ++ d) ++ b = 47 :: 42 :: body ++ (d ++ b) := by simp
    rw [this]; exact IsSep.block body _ h1 h2 ih

theorem isSep_ws (w : Bytes) (h : ∀ x ∈ w, isSpace x = true) : IsSep w := by
  induction w with
  | nil => exact IsSep.nil
  | cons x w ih => exact IsSep.space x w (h x (by simp)) (ih (fun y hy => h y (by simp [hy])))

theorem isSep_line (body : Bytes) (h1 : ∀ b ∈ body, b.toNat ≠ 10) (h2 : Utf8 body) : IsSep (47 :: 47 :: body ++ [10]) :=
  IsSep.line body [] h1 h2 IsSep.nil

theorem isSep_block (body : Bytes) (h1 : Inside 0 body) (h2 : Utf8 body) : IsSep (47 :: 42 :: body) := by
  have := IsSep.block body [] h1 h2 IsSep.nil
  simpa using this

/-- `Inside n d` as a Boolean check, so that `decide` settles it on a concrete comment body (`inside_of_insideB`); `n` is the
number of enclosing comments still open -/
def insideB : Nat → Bytes → Bool
  | _, [] => false
  | _, [_] => false
  | n, b :: c :: d =>
    if b.toNat = 42 ∧ c.toNat = 47 then (match n with | 0 => d.isEmpty | m + 1 => insideB m d)
    else if b.toNat = 47 ∧ c.toNat = 42 then insideB (n + 1) d
    else insideB n (c :: d)

theorem inside_of_insideB : ∀ (d : Bytes) (n : Nat), insideB n d = true → Inside n d := by
  -- strong induction on the length (the checker skips two bytes at a time)
  suffices H : ∀ (k : Nat) (d : Bytes), d.length ≤ k → ∀ n, insideB n d = true → Inside n d from
    fun d n h => H d.length d (Nat.le_refl _) n h
  intro k
  induction k with
  | zero =>
    intro d hd n h
    have : d = [] := List.length_eq_zero_iff.mp (by omega)
    subst this; simp [insideB] at h
  | succ k ih =>
    intro d hd n h
    match d, hd, h with
    | [], _, h => simp [insideB] at h
    | [x], _, h => simp [insideB] at h
    | x :: c :: r, hd, h =>
      simp only [insideB] at h
      by_cases h1 : x.toNat = 42 ∧ c.toNat = 47
      · rw [if_pos h1] at h
        have hx : x = 42 := UInt8.toNat_inj.1 h1.1
        have hc : c = 47 := UInt8.toNat_inj.1 h1.2
        subst hx; subst hc
        cases n with
        | zero =>
          simp at h; subst h; exact Inside.close0
        | succ m => exact Inside.close m r (ih r (by simp at hd; omega) m h)
      · rw [if_neg h1] at h
        by_cases h2 : x.toNat = 47 ∧ c.toNat = 42
        · rw [if_pos h2] at h
          have hx : x = 47 := UInt8.toNat_inj.1 h2.1
          have hc : c = 42 := UInt8.toNat_inj.1 h2.2
          subst hx; subst hc
          exact Inside.open n r (ih r (by simp at hd; omega) (n + 1) h)
        · rw [if_neg h2] at h
          refine Inside.byte n x (c :: r) (ih (c :: r) (by simp at hd ⊢; omega) n h) ?_
          intro y hy
          simp at hy; subst hy
          exact ⟨fun hh => h2 hh, fun hh => h1 hh⟩

end Trion.Lex
