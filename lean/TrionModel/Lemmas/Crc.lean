import TrionModel.Model.Crc
/-! The table-driven CRC step is eight bit-serial steps: the register step is linear over XOR, so the top byte and the
low 24 bits of the register can be run separately. -/
namespace Trion.Crc
open Spec

theorem xor_cancel (a b p : W) : a ^^^ p ^^^ (b ^^^ p) = a ^^^ b := by
  have : a ^^^ p ^^^ (b ^^^ p) = a ^^^ b ^^^ (p ^^^ p) := by ac_rfl
  rw [this, BitVec.xor_self, BitVec.xor_zero]

theorem step1_xor (x y : W) : step1 (x ^^^ y) = step1 x ^^^ step1 y := by
  unfold step1
  rw [BitVec.msb_xor]
  cases hx : x.msb <;> cases hy : y.msb <;> simp [BitVec.shiftLeft_xor_distrib]
  · ac_rfl
  · ac_rfl
  · exact (xor_cancel _ _ _).symm

theorem stepN_xor (n : Nat) (x y : W) : stepN n (x ^^^ y) = stepN n x ^^^ stepN n y := by
  induction n generalizing x y with
  | zero => rfl
  | succ n ih => simp [stepN, step1_xor, ih]

/-- the whole table at once (kernel-evaluated): `buildTable` is run a single time and compared as a list;
256 separate lookups `table[i]!` would run it again for every entry -/
theorem table_toList :
    table.toList = (List.range 256).map fun i => stepN 8 (BitVec.ofNat 32 i <<< 24) := by
  decide +kernel

theorem table_entries (i : Fin 256) : table[i.val]! = stepN 8 (BitVec.ofNat 32 i.val <<< 24) := by
  rw [← Array.toArray_toList (xs := table), table_toList]
  simp [i.isLt]

theorem stepN_low (n : Nat) (x : W) (h : x.toNat < 2 ^ (32 - n)) (hn : n ≤ 32) : stepN n x = x <<< n := by
  induction n generalizing x with
  | zero => simp [stepN]
  | succ n ih =>
    have hm : x.msb = false := by
      rw [BitVec.msb_eq_decide]; simp; 
      have : 2 ^ (32 - (n+1)) ≤ 2 ^ 31 := Nat.pow_le_pow_right (by omega) (by omega)
      omega
    have hs : step1 x = x <<< 1 := by simp [step1, hm]
    rw [stepN, hs, ih]
    · rw [← BitVec.shiftLeft_add]; congr 1; omega
    · rw [BitVec.toNat_shiftLeft, Nat.shiftLeft_eq]
      have h2 : 2 ^ (32 - n) = 2 * 2 ^ (32 - (n+1)) := by
        rw [← Nat.pow_succ']; congr 1; omega
      have : x.toNat * 2 ^ 1 < 2 ^ (32 - n) := by omega
      exact Nat.lt_of_le_of_lt (Nat.mod_le _ _) this
    · omega

theorem mask_lsb (j : Nat) : (0x00FFFFFF#32).getLsbD j = decide (j < 24) := by
  by_cases h : j < 32
  · have : j ∈ List.range 32 := List.mem_range.mpr h
    revert j; decide
  · have h1 : 32 ≤ j := by omega
    rw [BitVec.getLsbD_of_ge _ _ h1]; simp; omega

theorem split_hi_lo (x : W) : x = (x &&& 0x00FFFFFF#32) ^^^ ((x >>> 24) <<< 24) := by
  apply BitVec.eq_of_getLsbD_eq
  intro i hi
  simp only [BitVec.getLsbD_xor, BitVec.getLsbD_and, BitVec.getLsbD_shiftLeft, BitVec.getLsbD_ushiftRight, mask_lsb]
  by_cases h : i < 24
  · simp [h]
  · simp [h, hi]
    congr 1; omega

theorem lo_lt (x : W) : (x &&& 0x00FFFFFF#32).toNat < 2 ^ (32 - 8) := by
  rw [BitVec.toNat_and]
  exact Nat.lt_of_le_of_lt Nat.and_le_right (by decide)

theorem lo_shift (x : W) : (x &&& 0x00FFFFFF#32) <<< 8 = x <<< 8 := by
  apply BitVec.eq_of_getLsbD_eq
  intro i hi
  simp only [BitVec.getLsbD_shiftLeft, BitVec.getLsbD_and, mask_lsb]
  by_cases h : i < 8
  · simp [h]
  · have : i - 8 < 24 := by omega
    simp [h, this]

theorem hi_ofNat (x : W) : BitVec.ofNat 32 (x >>> 24).toNat = x >>> 24 := BitVec.ofNat_toNat ..

theorem hi_lt (x : W) : (x >>> 24).toNat < 256 := by
  rw [BitVec.toNat_ushiftRight, Nat.shiftRight_eq_div_pow]; omega

theorem stepN8_eq (x : W) : stepN 8 x = (x <<< 8) ^^^ table[(x >>> 24).toNat]! := by
  conv => lhs; rw [split_hi_lo x]
  rw [stepN_xor, stepN_low 8 _ (lo_lt x) (by omega), lo_shift]
  have := table_entries ⟨(x >>> 24).toNat, hi_lt x⟩
  simp only [hi_ofNat] at this
  rw [this]

theorem top_byte (crc : W) (b : BitVec 8) :
    ((crc ^^^ (b.zeroExtend 32 <<< 24)) >>> 24).toNat = (b ^^^ (crc >>> 24).truncate 8).toNat := by
  have : ((crc ^^^ (b.zeroExtend 32 <<< 24)) >>> 24).truncate 8 = (b ^^^ (crc >>> 24).truncate 8) := by
    apply BitVec.eq_of_getLsbD_eq
    intro i hi
    simp only [BitVec.getLsbD_xor, BitVec.getLsbD_ushiftRight, BitVec.getLsbD_shiftLeft, BitVec.getLsbD_setWidth]
    have h1 : 24 + i < 32 := by omega
    have h2 : ¬ (24 + i < 24) := by omega
    have h3 : 24 + i - 24 = i := by omega
    simp [hi, h1, h2, h3, Bool.xor_comm]
    intro _; omega
  rw [← this]
  simp only [BitVec.toNat_setWidth]
  have : ((crc ^^^ (b.zeroExtend 32 <<< 24)) >>> 24).toNat < 256 := by
    rw [BitVec.toNat_ushiftRight, Nat.shiftRight_eq_div_pow]; omega
  omega

theorem shl8 (crc : W) (b : BitVec 8) : (crc ^^^ (b.zeroExtend 32 <<< 24)) <<< 8 = crc <<< 8 := by
  apply BitVec.eq_of_getLsbD_eq
  intro i hi
  simp only [BitVec.getLsbD_shiftLeft, BitVec.getLsbD_xor, BitVec.getLsbD_setWidth]
  by_cases h : i < 8
  · simp [h]
  · have h1 : i - 8 < 24 := by omega
    simp [h, h1]

end Trion.Crc
