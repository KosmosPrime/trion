import TrionModel.Model.Lex
/-!
# Byte searches, character boundaries, UTF-8: encoding and decoding are inverse; well-formed texts (`Utf8`)
-/
namespace Trion.Lex
open Trion.Pos (isCont countLF scalars lastLine adv step)

theorem position_some {p : UInt8 → Bool} {l : Bytes} {i : Nat} (h : position p l = some i) :
    ∃ pre b post, l = pre ++ b :: post ∧ pre.length = i ∧ p b = true ∧ ∀ x ∈ pre, p x = false := by
  induction l generalizing i with
  | nil => simp [position] at h
  | cons a l ih =>
    simp only [position] at h
    by_cases ha : p a = true
    · simp [ha] at h
      exact ⟨[], a, l, by simp, by simp [h], ha, by simp⟩
    · simp [ha] at h
      cases hp : position p l with
      | none => simp [hp] at h
      | some j =>
        simp [hp] at h
        obtain ⟨pre, b, post, rfl, hl, hb, hall⟩ := ih hp
        refine ⟨a :: pre, b, post, by simp, by simp [hl, h], hb, ?_⟩
        intro x hx
        simp at hx
        rcases hx with rfl | hx
        · simpa using ha
        · exact hall x hx

theorem position_none {p : UInt8 → Bool} {l : Bytes} (h : position p l = none) : ∀ x ∈ l, p x = false := by
  induction l with
  | nil => simp
  | cons a l ih =>
    simp only [position] at h
    by_cases ha : p a = true
    · simp [ha] at h
    · simp [ha] at h
      cases hp : position p l with
      | none =>
        intro x hx
        simp at hx
        rcases hx with rfl | hx
        · simpa using ha
        · exact ih hp x hx
      | some j => simp [hp] at h

theorem position_append_of_all {p : UInt8 → Bool} (pre : Bytes) (b : UInt8) (post : Bytes)
    (hall : ∀ x ∈ pre, p x = false) (hb : p b = true) : position p (pre ++ b :: post) = some pre.length := by
  induction pre with
  | nil => simp [position, hb]
  | cons a pre ih =>
    have ha : p a = false := hall a (by simp)
    have := ih (fun x hx => hall x (by simp [hx]))
    simp [position, ha, this]

theorem position_none_of_all {p : UInt8 → Bool} (l : Bytes) (hall : ∀ x ∈ l, p x = false) : position p l = none := by
  induction l with
  | nil => rfl
  | cons a l ih =>
    have ha : p a = false := hall a (by simp)
    simp [position, ha, ih (fun x hx => hall x (by simp [hx]))]

/-- the split that `position (fun b => !q b)` finds (`position_none_of_all`, `position_append_of_all`): identifiers, digits and
white space are cut off the text this way, and `lexIdent_eq`, `lexNumber_exact`, `skipSpaces_run` are stated on it -/
theorem run_split (q : UInt8 → Bool) (d : Bytes) :
    ∃ run rest, d = run ++ rest ∧ (∀ x ∈ run, q x = true) ∧ (rest = [] ∨ ∃ b tl, rest = b :: tl ∧ q b = false) := by
  induction d with
  | nil => exact ⟨[], [], rfl, by simp, .inl rfl⟩
  | cons b d ih =>
    cases hb : q b with
    | false => exact ⟨[], b :: d, rfl, by simp, .inr ⟨b, d, rfl, hb⟩⟩
    | true =>
      obtain ⟨run, rest, hd, hrun, hrest⟩ := ih
      exact ⟨b :: run, rest, by rw [hd]; rfl, by simpa [hb] using hrun, hrest⟩

theorem isBoundary_zero (d : Bytes) : isBoundary d 0 = true := by simp [isBoundary]

theorem isBoundary_length (d : Bytes) : isBoundary d d.length = true := by
  simp [isBoundary]

theorem isBoundary_append_cons (pre : Bytes) (b : UInt8) (post : Bytes) (h : isCont b = false) :
    isBoundary (pre ++ b :: post) pre.length = true := by
  simp [isBoundary, h]

theorem isBoundary_split (pre post : Bytes) (h : ∀ b, post.head? = some b → isCont b = false) :
    isBoundary (pre ++ post) pre.length = true := by
  cases post with
  | nil => simpa using isBoundary_length pre
  | cons b post => exact isBoundary_append_cons pre b post (h b rfl)

theorem sliceFrom_split (pre post : Bytes) (h : ∀ b, post.head? = some b → isCont b = false) :
    sliceFrom (pre ++ post) pre.length = some post := by
  simp [sliceFrom, isBoundary_split pre post h]

theorem sliceTo_split (pre post : Bytes) (h : ∀ b, post.head? = some b → isCont b = false) :
    sliceTo (pre ++ post) pre.length = some pre := by
  simp [sliceTo, isBoundary_split pre post h]

/-- well-formed UTF-8 made of whole characters -/
inductive Utf8 : Bytes → Prop
  | nil : Utf8 []
  | cons (d : Bytes) (c n : Nat) : decodeChar d = some (c, n) → Utf8 (d.drop n) → Utf8 d

theorem isCont_iff (b : UInt8) : isCont b = true ↔ 128 ≤ b.toNat ∧ b.toNat < 192 := by
  simp [isCont]

theorem isCont_false_iff (b : UInt8) : isCont b = false ↔ b.toNat < 128 ∨ 192 ≤ b.toNat := by
  simp [isCont]; omega

theorem decodeChar_ascii_cons (b : UInt8) (tl : Bytes) (h : b.toNat < 128) : decodeChar (b :: tl) = some (b.toNat, 1) := by
  simp [decodeChar, h]

theorem toNat_toUInt8 (k : Nat) (h : k < 256) : (k.toUInt8).toNat = k := by
  simp [Nat.toUInt8, UInt8.toNat_ofNat', Nat.mod_eq_of_lt h]

theorem decode2 (b0 b1 : UInt8) (rest : Bytes) (h0 : 194 ≤ b0.toNat ∧ b0.toNat < 224) (h1 : isCont b1 = true) :
    decodeChar (b0 :: b1 :: rest) = some ((b0.toNat - 192) * 64 + (b1.toNat - 128), 2) := by
  unfold decodeChar
  simp only [List.getElem?_cons_zero, List.getElem?_cons_succ]
  rw [if_neg (by omega), if_neg (by omega), if_pos (by omega)]
  simp [h1]

theorem decode3 (b0 b1 b2 : UInt8) (rest : Bytes) (h0 : 224 ≤ b0.toNat ∧ b0.toNat < 240)
    (h1 : isCont b1 = true) (h2 : isCont b2 = true)
    (ha : b0.toNat = 224 → 160 ≤ b1.toNat) (hb : b0.toNat = 237 → b1.toNat < 160) :
    decodeChar (b0 :: b1 :: b2 :: rest) =
      some (((b0.toNat - 224) * 64 + (b1.toNat - 128)) * 64 + (b2.toNat - 128), 3) := by
  unfold decodeChar
  simp only [List.getElem?_cons_zero, List.getElem?_cons_succ]
  rw [if_neg (by omega), if_neg (by omega), if_neg (by omega), if_pos (by omega)]
  have : (isCont b1 && isCont b2 && !(b0.toNat == 224 && decide (b1.toNat < 160)) &&
      !(b0.toNat == 237 && decide (b1.toNat ≥ 160))) = true := by
    simp [h1, h2]; omega
  simp only [this, if_true]

theorem decode4 (b0 b1 b2 b3 : UInt8) (rest : Bytes) (h0 : 240 ≤ b0.toNat ∧ b0.toNat < 245)
    (h1 : isCont b1 = true) (h2 : isCont b2 = true) (h3 : isCont b3 = true)
    (ha : b0.toNat = 240 → 144 ≤ b1.toNat) (hb : b0.toNat = 244 → b1.toNat < 144) :
    decodeChar (b0 :: b1 :: b2 :: b3 :: rest) =
      some ((((b0.toNat - 240) * 64 + (b1.toNat - 128)) * 64 + (b2.toNat - 128)) * 64 + (b3.toNat - 128), 4) := by
  unfold decodeChar
  simp only [List.getElem?_cons_zero, List.getElem?_cons_succ]
  rw [if_neg (by omega), if_neg (by omega), if_neg (by omega), if_neg (by omega), if_pos (by omega)]
  have : (isCont b1 && isCont b2 && isCont b3 && !(b0.toNat == 240 && decide (b1.toNat < 144)) &&
      !(b0.toNat == 244 && decide (b1.toNat ≥ 144))) = true := by
    simp [h1, h2, h3]; omega
  simp only [this, if_true]

theorem isCont_cont (k : Nat) (h : k < 64) : isCont (128 + k).toUInt8 = true := by
  rw [isCont_iff, toNat_toUInt8 _ (by omega)]; omega

/-- `chars().next()` after `String::push(c)`: the arithmetic of the four length classes -/
theorem decodeChar_encodeChar (c : Nat) (hs : isScalar c = true) (rest : Bytes) :
    decodeChar (encodeChar c ++ rest) = some (c, (encodeChar c).length) := by
  simp only [isScalar, Bool.or_eq_true, Bool.and_eq_true, decide_eq_true_eq] at hs
  unfold encodeChar
  by_cases h1 : c < 128
  · simp only [h1, if_true, List.cons_append, List.nil_append]
    rw [decodeChar_ascii_cons _ _ (by rw [toNat_toUInt8 _ (by omega)]; exact h1), toNat_toUInt8 _ (by omega)]
    rfl
  · simp only [h1, if_false]
    by_cases h2 : c < 2048
    · simp only [h2, if_true, List.cons_append, List.nil_append]
      have e0 : ((192 + c / 64).toUInt8).toNat = 192 + c / 64 := toNat_toUInt8 _ (by omega)
      have e1 : ((128 + c % 64).toUInt8).toNat = 128 + c % 64 := toNat_toUInt8 _ (by omega)
      have := decode2 (192 + c / 64).toUInt8 (128 + c % 64).toUInt8 rest (by rw [e0]; omega)
        (isCont_cont _ (Nat.mod_lt _ (by omega)))
      rw [this, e0, e1]
      have hv : (192 + c / 64 - 192) * 64 + (128 + c % 64 - 128) = c := by omega
      rw [hv]; rfl
    · simp only [h2, if_false]
      by_cases h3 : c < 65536
      · simp only [h3, if_true, List.cons_append, List.nil_append]
        have e0 : ((224 + c / 4096).toUInt8).toNat = 224 + c / 4096 := toNat_toUInt8 _ (by omega)
        have e1 : ((128 + c / 64 % 64).toUInt8).toNat = 128 + c / 64 % 64 := toNat_toUInt8 _ (by omega)
        have e2 : ((128 + c % 64).toUInt8).toNat = 128 + c % 64 := toNat_toUInt8 _ (by omega)
        have := decode3 (224 + c / 4096).toUInt8 (128 + c / 64 % 64).toUInt8 (128 + c % 64).toUInt8 rest
          (by rw [e0]; omega) (isCont_cont _ (Nat.mod_lt _ (by omega))) (isCont_cont _ (Nat.mod_lt _ (by omega)))
          (by rw [e0, e1]; omega) (by rw [e0, e1]; omega)
        rw [this, e0, e1, e2]
        have hv : ((224 + c / 4096 - 224) * 64 + (128 + c / 64 % 64 - 128)) * 64 + (128 + c % 64 - 128) = c := by omega
        rw [hv]; rfl
      · simp only [h3, if_false, List.cons_append, List.nil_append]
        have e0 : ((240 + c / 262144).toUInt8).toNat = 240 + c / 262144 := toNat_toUInt8 _ (by omega)
        have e1 : ((128 + c / 4096 % 64).toUInt8).toNat = 128 + c / 4096 % 64 := toNat_toUInt8 _ (by omega)
        have e2 : ((128 + c / 64 % 64).toUInt8).toNat = 128 + c / 64 % 64 := toNat_toUInt8 _ (by omega)
        have e3 : ((128 + c % 64).toUInt8).toNat = 128 + c % 64 := toNat_toUInt8 _ (by omega)
        have := decode4 (240 + c / 262144).toUInt8 (128 + c / 4096 % 64).toUInt8 (128 + c / 64 % 64).toUInt8
          (128 + c % 64).toUInt8 rest
          (by rw [e0]; omega) (isCont_cont _ (Nat.mod_lt _ (by omega))) (isCont_cont _ (Nat.mod_lt _ (by omega)))
          (isCont_cont _ (Nat.mod_lt _ (by omega))) (by rw [e0, e1]; omega) (by rw [e0, e1]; omega)
        rw [this, e0, e1, e2, e3]
        have hv : (((240 + c / 262144 - 240) * 64 + (128 + c / 4096 % 64 - 128)) * 64 + (128 + c / 64 % 64 - 128)) * 64 +
            (128 + c % 64 - 128) = c := by omega
        rw [hv]; rfl

theorem isCont_lead (k : Nat) (h : 192 ≤ k ∧ k < 256) : isCont k.toUInt8 = false := by
  rw [isCont_false_iff, toNat_toUInt8 _ h.2]; omega

theorem encodeChar_shape (c : Nat) (hs : isScalar c = true) :
    ∃ b tl, encodeChar c = b :: tl ∧ isCont b = false ∧ (∀ x ∈ tl, isCont x = true) ∧
      (c < 128 → tl = [] ∧ b.toNat = c) ∧ (128 ≤ c → 128 ≤ b.toNat ∧ tl ≠ []) := by
  simp only [isScalar, Bool.or_eq_true, Bool.and_eq_true, decide_eq_true_eq] at hs
  unfold encodeChar
  by_cases h1 : c < 128
  · refine ⟨c.toUInt8, [], by simp [h1], ?_, by simp, fun _ => ⟨rfl, toNat_toUInt8 _ (by omega)⟩, fun h => by omega⟩
    rw [isCont_false_iff, toNat_toUInt8 _ (by omega)]; omega
  · by_cases h2 : c < 2048
    · refine ⟨(192 + c / 64).toUInt8, [(128 + c % 64).toUInt8], by simp only [h1, h2, if_false, if_true], isCont_lead _ (by omega), ?_, fun h => by omega, fun _ => ?_⟩
      · intro x hx
        rcases List.mem_cons.mp hx with rfl | hx
        · exact isCont_cont _ (by omega)
        · cases hx
      · exact ⟨by rw [toNat_toUInt8 _ (by omega)]; omega, by simp⟩
    · by_cases h3 : c < 65536
      · refine ⟨(224 + c / 4096).toUInt8, [(128 + c / 64 % 64).toUInt8, (128 + c % 64).toUInt8],
          by simp only [h1, h2, h3, if_false, if_true], isCont_lead _ (by omega), ?_, fun h => by omega, fun _ => ?_⟩
        · intro x hx
          rcases List.mem_cons.mp hx with rfl | hx
          · exact isCont_cont _ (by omega)
          · rcases List.mem_cons.mp hx with rfl | hx
            · exact isCont_cont _ (by omega)
            · cases hx
        · exact ⟨by rw [toNat_toUInt8 _ (by omega)]; omega, by simp⟩
      · refine ⟨(240 + c / 262144).toUInt8, [(128 + c / 4096 % 64).toUInt8, (128 + c / 64 % 64).toUInt8, (128 + c % 64).toUInt8],
          by simp only [h1, h2, h3, if_false], isCont_lead _ (by omega), ?_, fun h => by omega, fun _ => ?_⟩
        · intro x hx
          rcases List.mem_cons.mp hx with rfl | hx
          · exact isCont_cont _ (by omega)
          · rcases List.mem_cons.mp hx with rfl | hx
            · exact isCont_cont _ (by omega)
            · rcases List.mem_cons.mp hx with rfl | hx
              · exact isCont_cont _ (by omega)
              · cases hx
        · exact ⟨by rw [toNat_toUInt8 _ (by omega)]; omega, by simp⟩

theorem encodeChar_ascii (c : Nat) (h : c < 128) : encodeChar c = [c.toUInt8] := by simp [encodeChar, h]

theorem toUInt8_toNat (b : UInt8) : b.toNat.toUInt8 = b := by
  simp [Nat.toUInt8]

theorem enc2 (c : Nat) (h1 : 128 ≤ c) (h2 : c < 2048) : encodeChar c = [(192 + c / 64).toUInt8, (128 + c % 64).toUInt8] := by
  simp [encodeChar, show ¬ c < 128 by omega, h2]
theorem enc3 (c : Nat) (h1 : 2048 ≤ c) (h2 : c < 65536) :
    encodeChar c = [(224 + c / 4096).toUInt8, (128 + c / 64 % 64).toUInt8, (128 + c % 64).toUInt8] := by
  simp [encodeChar, show ¬ c < 128 by omega, show ¬ c < 2048 by omega, h2]
theorem enc4 (c : Nat) (h1 : 65536 ≤ c) :
    encodeChar c = [(240 + c / 262144).toUInt8, (128 + c / 4096 % 64).toUInt8, (128 + c / 64 % 64).toUInt8, (128 + c % 64).toUInt8] := by
  simp [encodeChar, show ¬ c < 128 by omega, show ¬ c < 2048 by omega, show ¬ c < 65536 by omega]

theorem toUInt8_eq (b : UInt8) (k : Nat) (h : k = b.toNat) : k.toUInt8 = b := by subst h; exact toUInt8_toNat b

theorem decodeChar_inv {d : Bytes} {c n : Nat} (h : decodeChar d = some (c, n)) :
    isScalar c = true ∧ d = encodeChar c ++ d.drop n := by
  cases d with
  | nil => simp [decodeChar] at h
  | cons b0 t =>
    by_cases h1 : b0.toNat < 128
    · rw [decodeChar_ascii_cons b0 t h1] at h
      cases h
      refine ⟨by simp only [isScalar, Bool.or_eq_true, Bool.and_eq_true, decide_eq_true_eq]; omega, ?_⟩
      rw [encodeChar_ascii _ h1, toUInt8_toNat]; rfl
    · by_cases h2 : b0.toNat < 194
      · simp [decodeChar, h1, h2] at h
      · by_cases h3 : b0.toNat < 224
        · cases t with
          | nil => simp [decodeChar, h1, h2, h3] at h
          | cons b1 t1 =>
            by_cases hc1 : isCont b1 = true
            · rw [decode2 b0 b1 t1 ⟨by omega, h3⟩ hc1] at h
              simp only [Option.some.injEq, Prod.mk.injEq] at h
              obtain ⟨rfl, rfl⟩ := h
              have hb1 := (isCont_iff b1).mp hc1
              refine ⟨by simp only [isScalar, Bool.or_eq_true, Bool.and_eq_true, decide_eq_true_eq]; omega, ?_⟩
              have e := enc2 ((b0.toNat - 192) * 64 + (b1.toNat - 128)) (by omega) (by omega)
              have e0 := toUInt8_eq b0 (192 + ((b0.toNat - 192) * 64 + (b1.toNat - 128)) / 64) (by omega)
              have e1 := toUInt8_eq b1 (128 + ((b0.toNat - 192) * 64 + (b1.toNat - 128)) % 64) (by omega)
              rw [e, e0, e1]
              rfl
            · simp [decodeChar, h1, h2, h3, hc1] at h
        · by_cases h4 : b0.toNat < 240
          · match t, h with
            | [], h => simp [decodeChar, h1, h2, h3, h4] at h
            | [_], h => simp [decodeChar, h1, h2, h3, h4] at h
            | b1 :: b2 :: t2, h =>
              unfold decodeChar at h
              simp only [List.getElem?_cons_zero, List.getElem?_cons_succ] at h
              rw [if_neg h1, if_neg h2, if_neg h3, if_pos h4] at h
              split at h
              · rename_i hcond
                simp only [Option.some.injEq, Prod.mk.injEq] at h
                obtain ⟨rfl, rfl⟩ := h
                simp only [Bool.and_eq_true, Bool.not_eq_true', Bool.and_eq_false_iff, beq_eq_false_iff_ne, ne_eq,
                  decide_eq_false_iff_not] at hcond
                obtain ⟨⟨⟨hc1, hc2⟩, ha⟩, hb⟩ := hcond
                have hb1 := (isCont_iff b1).mp hc1
                have hb2 := (isCont_iff b2).mp hc2
                refine ⟨by simp only [isScalar, Bool.or_eq_true, Bool.and_eq_true, decide_eq_true_eq]; omega, ?_⟩
                have e := enc3 (((b0.toNat - 224) * 64 + (b1.toNat - 128)) * 64 + (b2.toNat - 128)) (by omega) (by omega)
                have e0 := toUInt8_eq b0 (224 + (((b0.toNat - 224) * 64 + (b1.toNat - 128)) * 64 + (b2.toNat - 128)) / 4096) (by omega)
                have e1 := toUInt8_eq b1 (128 + (((b0.toNat - 224) * 64 + (b1.toNat - 128)) * 64 + (b2.toNat - 128)) / 64 % 64) (by omega)
                have e2 := toUInt8_eq b2 (128 + (((b0.toNat - 224) * 64 + (b1.toNat - 128)) * 64 + (b2.toNat - 128)) % 64) (by omega)
                rw [e, e0, e1, e2]
                rfl
              · cases h
          · by_cases h5 : b0.toNat < 245
            · match t, h with
              | [], h => simp [decodeChar, h1, h2, h3, h4, h5] at h
              | [_], h => simp [decodeChar, h1, h2, h3, h4, h5] at h
              | [_, _], h => simp [decodeChar, h1, h2, h3, h4, h5] at h
              | b1 :: b2 :: b3 :: t3, h =>
                unfold decodeChar at h
                simp only [List.getElem?_cons_zero, List.getElem?_cons_succ] at h
                rw [if_neg h1, if_neg h2, if_neg h3, if_neg h4, if_pos h5] at h
                split at h
                · rename_i hcond
                  simp only [Option.some.injEq, Prod.mk.injEq] at h
                  obtain ⟨rfl, rfl⟩ := h
                  simp only [Bool.and_eq_true, Bool.not_eq_true', Bool.and_eq_false_iff, beq_eq_false_iff_ne, ne_eq,
                    decide_eq_false_iff_not] at hcond
                  obtain ⟨⟨⟨⟨hc1, hc2⟩, hc3⟩, ha⟩, hb⟩ := hcond
                  have hb1 := (isCont_iff b1).mp hc1
                  have hb2 := (isCont_iff b2).mp hc2
                  have hb3 := (isCont_iff b3).mp hc3
                  refine ⟨by simp only [isScalar, Bool.or_eq_true, Bool.and_eq_true, decide_eq_true_eq]; omega, ?_⟩
                  have e := enc4 ((((b0.toNat - 240) * 64 + (b1.toNat - 128)) * 64 + (b2.toNat - 128)) * 64 + (b3.toNat - 128)) (by omega)
                  have e0 := toUInt8_eq b0 (240 + ((((b0.toNat - 240) * 64 + (b1.toNat - 128)) * 64 + (b2.toNat - 128)) * 64 + (b3.toNat - 128)) / 262144) (by omega)
                  have e1 := toUInt8_eq b1 (128 + ((((b0.toNat - 240) * 64 + (b1.toNat - 128)) * 64 + (b2.toNat - 128)) * 64 + (b3.toNat - 128)) / 4096 % 64) (by omega)
                  have e2 := toUInt8_eq b2 (128 + ((((b0.toNat - 240) * 64 + (b1.toNat - 128)) * 64 + (b2.toNat - 128)) * 64 + (b3.toNat - 128)) / 64 % 64) (by omega)
                  have e3 := toUInt8_eq b3 (128 + ((((b0.toNat - 240) * 64 + (b1.toNat - 128)) * 64 + (b2.toNat - 128)) * 64 + (b3.toNat - 128)) % 64) (by omega)
                  rw [e, e0, e1, e2, e3]
                  rfl
                · cases h
            · simp [decodeChar, h1, h2, h3, h4, h5] at h


theorem decodeChar_len {d : Bytes} {c n : Nat} (h : decodeChar d = some (c, n)) : n = (encodeChar c).length := by
  obtain ⟨hs, hd⟩ := decodeChar_inv h
  have h2 := decodeChar_encodeChar c hs (d.drop n)
  rw [← hd, h] at h2
  simpa using h2

theorem decodeChar_append {d : Bytes} {c n : Nat} (h : decodeChar d = some (c, n)) (b : Bytes) :
    decodeChar (d ++ b) = some (c, n) := by
  obtain ⟨hs, hd⟩ := decodeChar_inv h
  have : d ++ b = encodeChar c ++ (d.drop n ++ b) := by rw [← List.append_assoc, ← hd]
  rw [this, decodeChar_encodeChar c hs, decodeChar_len h]

theorem decodeChar_take {d : Bytes} {c n : Nat} (h : decodeChar d = some (c, n)) (k : Nat) (hk : n ≤ k) :
    decodeChar (d.take k) = some (c, n) := by
  obtain ⟨hs, hd⟩ := decodeChar_inv h
  have hn := decodeChar_len h
  have : d.take k = encodeChar c ++ (d.drop n).take (k - n) := by
    rw [show d.take k = (encodeChar c ++ d.drop n).take k by rw [← hd], List.take_append,
      List.take_of_length_le (by omega), ← hn]
  rw [this, decodeChar_encodeChar c hs, hn]

theorem decodeChar_some {d : Bytes} {c n : Nat} (h : decodeChar d = some (c, n)) :
    1 ≤ n ∧ n ≤ d.length ∧
    (∃ b0, d[0]? = some b0 ∧ isCont b0 = false ∧ (b0.toNat < 128 → n = 1 ∧ c = b0.toNat) ∧ (n = 1 → b0.toNat < 128) ∧
      (128 ≤ b0.toNat → 128 ≤ c)) ∧
    (∀ j, 1 ≤ j → j < n → ∃ b, d[j]? = some b ∧ isCont b = true) := by
  obtain ⟨hs, hd⟩ := decodeChar_inv h
  have hn := decodeChar_len h
  obtain ⟨b, tl, he, hb, htl, hlow, hhigh⟩ := encodeChar_shape c hs
  rw [he] at hd hn
  simp only [List.length_cons] at hn
  have hlen : n ≤ d.length := by
    have := congrArg List.length hd
    simp at this
    omega
  refine ⟨by omega, hlen, ⟨b, by rw [hd]; rfl, hb, ?_, ?_, ?_⟩, ?_⟩
  · intro hlt
    have hc : c < 128 := by
      rcases Nat.lt_or_ge c 128 with hc | hc
      · exact hc
      · have := (hhigh hc).1; omega
    obtain ⟨rfl, hbc⟩ := hlow hc
    exact ⟨by simpa using hn, hbc.symm⟩
  · intro h1
    rcases Nat.lt_or_ge c 128 with hc | hc
    · rw [(hlow hc).2]; exact hc
    · have := (hhigh hc).2
      cases tl with
      | nil => exact absurd rfl this
      | cons _ _ => simp at hn; omega
  · intro hge
    rcases Nat.lt_or_ge c 128 with hc | hc
    · rw [(hlow hc).2] at hge; omega
    · exact hc
  · intro j hj1 hj2
    obtain ⟨i, rfl⟩ : ∃ i, j = i + 1 := ⟨j - 1, by omega⟩
    have hi : i < tl.length := by omega
    refine ⟨tl[i], ?_, htl _ (List.getElem_mem hi)⟩
    rw [hd, List.getElem?_append_left (by simp; omega)]
    simp [hi]

theorem utf8_head_noncont {b : UInt8} {r : Bytes} (h : Utf8 (b :: r)) : isCont b = false := by
  cases h with
  | cons _ c n hd _ =>
    obtain ⟨_, _, ⟨b0, hb0, hnc, _⟩, _⟩ := decodeChar_some hd
    simp at hb0; subst hb0; exact hnc

theorem utf8_head? {d : Bytes} (h : Utf8 d) : ∀ b, d.head? = some b → isCont b = false := by
  intro b hb
  cases d with
  | nil => simp at hb
  | cons a r => simp at hb; subst hb; exact utf8_head_noncont h

theorem utf8_drop {d : Bytes} (h : Utf8 d) : ∀ i, i ≤ d.length → (∀ b, d[i]? = some b → isCont b = false) → Utf8 (d.drop i) := by
  induction h with
  | nil => intro i _ _; simpa using Utf8.nil
  | cons d c n hd hrest ih =>
    intro i hi hb
    obtain ⟨hn1, hnl, _, hcont⟩ := decodeChar_some hd
    by_cases h0 : i = 0
    · subst h0; simpa using Utf8.cons d c n hd hrest
    · by_cases hin : i < n
      · exfalso
        obtain ⟨b, hb1, hb2⟩ := hcont i (by omega) hin
        have := hb b hb1
        simp [hb2] at this
      · have : d.drop i = (d.drop n).drop (i - n) := by
          rw [List.drop_drop]; congr 1; omega
        rw [this]
        apply ih
        · simp; omega
        · intro b hb'
          apply hb
          rw [List.getElem?_drop] at hb'
          have e : n + (i - n) = i := by omega
          rwa [e] at hb'

theorem utf8_tail_of_ascii {b : UInt8} {r : Bytes} (h : Utf8 (b :: r)) (hb : b.toNat < 128) : Utf8 r := by
  cases h with
  | cons _ c n hd hrest =>
    obtain ⟨_, _, ⟨b0, hb0, _, h1, _⟩, _⟩ := decodeChar_some hd
    simp at hb0; subst hb0
    obtain ⟨rfl, _⟩ := h1 hb
    simpa using hrest

theorem utf8_split_noncont {pre : Bytes} {b : UInt8} {post : Bytes} (h : Utf8 (pre ++ b :: post))
    (hb : isCont b = false) : Utf8 (b :: post) := by
  have := utf8_drop h pre.length (by simp) (by simp [hb])
  simpa using this

theorem utf8_split_after_ascii {pre : Bytes} {b : UInt8} {post : Bytes} (h : Utf8 (pre ++ b :: post))
    (hb : b.toNat < 128) : Utf8 post :=
  utf8_tail_of_ascii (utf8_split_noncont h (by rw [isCont_false_iff]; omega)) hb

theorem utf8_validUpToF (f : Nat) (d : Bytes) : Utf8 (d.take (validUpToF f d)) := by
  induction f generalizing d with
  | zero => simpa [validUpToF] using Utf8.nil
  | succ f ih =>
    unfold validUpToF
    cases hd : decodeChar d with
    | none => simpa using Utf8.nil
    | some cn =>
      obtain ⟨c, n⟩ := cn
      simp only
      refine Utf8.cons _ c n (decodeChar_take hd _ (by omega)) ?_
      have : (d.take (n + validUpToF f (d.drop n))).drop n = (d.drop n).take (validUpToF f (d.drop n)) := by
        rw [List.drop_take]; congr 1; omega
      rw [this]
      exact ih _

theorem utf8_new (bs : Bytes) : Utf8 (State.new bs).data := by
  simp only [State.new]
  exact utf8_validUpToF _ _

theorem utf8_decode {d : Bytes} (h : Utf8 d) (hne : d ≠ []) : ∃ c n, decodeChar d = some (c, n) := by
  cases h with
  | nil => exact absurd rfl hne
  | cons _ c n hd _ => exact ⟨c, n, hd⟩

end Trion.Lex
