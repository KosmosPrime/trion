import TrionModel.Lemmas.Scope
/-! The invariant of reachable states of the scope model (`Inv`).  It implies the guards of the functions' specifications
(`Lemmas/Scope.lean`), so no statement, task, task loop or op panics from a state satisfying it. -/
namespace Trion.Scope

theorem Table.keysOk_nil : Table.keysOk [] := fun _ _ => rfl

theorem Table.keysOk_set {t : Table} {n : Bytes} (v : Option Int) (h : t.keysOk) (hn : isReg n = false) :
    (t.set n v).keysOk := by
  intro m hm
  rw [Table.find_set]
  have hne : n ≠ m := by intro e; subst e; rw [hn] at hm; cases hm
  simp [hne, h m hm]

theorem Table.keysOk_found {t : Table} {n : Bytes} {e : Option Int} (h : t.keysOk) (hf : t.find n = some e) :
    isReg n = false := by
  cases hr : isReg n with
  | false => rfl
  | true => rw [h n hr] at hf; cases hf

theorem vis_mode {s : State} (h : Vis s) (m : Mode) : Vis { s with mode := m } :=
  ⟨h.kg, h.kl, h.tg, h.tl, h.bot⟩

theorem vis_addTask {s s' : State} {t : Task} {r : Realm} (hv : Vis s)
    (ht : match r with | .global => t.isGU | .loc => t.ok) (h : addTask s t r = .ok s') : Vis s' := by
  cases r with
  | global =>
    cases h
    simp only at ht
    refine ⟨hv.kg, hv.kl, ?_, hv.tl, ?_⟩
    · intro x hx
      rcases List.mem_append.1 hx with hx | hx
      · exact hv.tg x hx
      · simp at hx; subst hx; exact Task.ok_of_isGU ht
    · intro hf x hx
      rcases List.mem_append.1 hx with hx | hx
      · exact hv.bot hf x hx
      · simp at hx; subst hx; exact ht
  | loc =>
    obtain ⟨l, hl, rfl⟩ := addTask_loc.1 h
    refine ⟨hv.kg, hv.kl, hv.tg, ?_, hv.bot⟩
    intro l' e x hx
    cases e
    rcases List.mem_append.1 hx with hx | hx
    · exact hv.tl l hl x hx
    · simp at hx; subst hx; exact ht

theorem Acts.vis {q : Realm → Task → Prop}
    (hq : ∀ {r t}, q r t → match r with | .global => t.isGU | .loc => t.ok) {s s' : State} (h : Acts q s s') :
    Vis s → Vis s' :=
  h.pres (fun e hr _ v => ⟨Table.keysOk_set e v.kg hr, v.kl, v.tg, v.tl, v.bot⟩)
    (fun e hr hl _ v => ⟨v.kg, fun _ e' => by cases e'; exact Table.keysOk_set e (v.kl _ hl) hr, v.tg, v.tl, v.bot⟩)
    (fun _ v => ⟨v.kg, v.kl, v.tg, v.tl, v.bot⟩) (fun hq' ha v => vis_addTask v (hq hq') ha)

theorem vis_stmt {s s' : State} {op : Op} {r : Option Level} (h : stmt s op = .ok (s', r)) : Vis s → Vis s' :=
  (stmt_acts h).vis fun hq => by obtain ⟨rfl, ho, _⟩ := Op.queues_spec hq; exact ho

theorem vis_runTask {s s' : State} {t : Task} {r : Option Level} (h : runTask s t = .ok (s', r)) : Vis s → Vis s' :=
  (runTask_acts h).vis fun hq => by obtain ⟨rfl, hg, _⟩ := Task.requeues_spec hq; exact hg

theorem runTask_gtasks {s s' : State} {t : Task} {r : Option Level} (h : runTask s t = .ok (s', r)) :
    (∃ add, s'.globalTasks = s.globalTasks ++ add ∧ ∀ x ∈ add, x.isGU) ∧
    (t.isGU → s'.globalTasks = s.globalTasks) := by
  constructor
  · refine (runTask_acts h).pres (P := fun x => ∃ add, x.globalTasks = s.globalTasks ++ add ∧ ∀ x ∈ add, x.isGU)
      (fun _ _ _ p => p) (fun _ _ _ _ p => p) (fun _ p => p) ?_ ⟨[], by simp, by simp⟩
    intro a b r t' hq ha ⟨add, e, hg⟩
    obtain ⟨rfl, hgu, _⟩ := Task.requeues_spec hq
    cases ha
    refine ⟨add ++ [t'], by simp [e], fun x hx => ?_⟩
    rcases List.mem_append.1 hx with hx | hx
    · exact hg x hx
    · simp at hx; subst hx; trivial
  · intro hg
    refine (runTask_acts h).pres (P := fun x => x.globalTasks = s.globalTasks)
      (fun _ _ _ p => p) (fun _ _ _ _ p => p) (fun _ p => p) ?_ rfl
    intro a b r t' hq
    obtain ⟨_, _, _, n, c, tag, rfl⟩ := Task.requeues_spec hq
    exact hg.elim

theorem Sat.run {x : Res} {g : Prop} {post : State × Option Level → Prop} (h : Sat x g post) (hg : g) :
    ∃ s' r, x = .ok (s', r) :=
  let ⟨⟨s', r⟩, e, _⟩ := h.total hg
  ⟨s', r, e⟩

theorem stmt_ok {s : State} (op : Op) (hv : Vis s) (hf : InFile s) : ∃ s' r, stmt s op = .ok (s', r) := by
  obtain ⟨l, hl⟩ := Option.isSome_iff_exists.1 hf.locals
  cases op with
  | label n v tag => exact (define_spec s n v tag).2.run hf.locals
  | const n v tag => exact (define_spec s n v tag).1.run hf.locals
  | global n tag => exact (doGlobal_spec s n tag).run hf
  | «import» n tag => exact (doImport_spec s n tag).run ⟨hf.locals, hv.kg⟩
  | «export» n tag => exact (copyUp_spec s n tag).1.run ⟨l, hl, fun _ h => Table.keysOk_found (hv.kl l hl) h⟩
  | use n tag => exact (doUse_spec s n tag).run hf
  | enter tag => exact ⟨s, none, rfl⟩
  | exit => exact ⟨s, none, rfl⟩
  | finalize => exact ⟨s, none, rfl⟩

theorem runTask_ok {s : State} (t : Task) (hd : s.depth ≠ 0 → s.locals.isSome) (hl : s.locals = none → t.isGU)
    (ht : t.ok) : ∃ s' r, runTask s t = .ok (s', r) := by
  cases t with
  | globalCopy n tag =>
    cases h : s.locals with
    | none => exact (hl h).elim
    | some l => exact (copyUp_spec s n tag).2.run ⟨l, h, fun _ _ => ht⟩
  | use n c tag g => exact (runUse_spec s n c tag g).run hd

theorem vis_clearLocal {s : State} (h : Vis s) : Vis { s with localTasks := some [] } :=
  ⟨h.kg, h.kl, h.tg, fun l e x hx => (by cases e; cases hx), h.bot⟩

theorem vis_clearGlobal {s : State} (h : Vis s) : Vis { s with globalTasks := [] } :=
  ⟨h.kg, h.kl, fun x hx => (by cases hx), h.tl, fun _ x hx => (by cases hx)⟩

theorem drain_ok : ∀ (ts : List Task) {s : State} (r : Option Level), s.locals.isSome → (∀ t ∈ ts, t.ok) →
    ∃ s' r', drain s r ts = .ok (s', r')
  | [], s, r, _, _ => ⟨s, r, rfl⟩
  | t :: ts, s, r, hl, ht => by
    obtain ⟨s1, r1, h1⟩ := runTask_ok t (fun _ => hl) (fun hn => by rw [hn] at hl; cases hl) (ht t (by simp))
    have hl1 : s1.locals.isSome := by rw [(runTask_keeps h1).1]; exact hl
    have ih := fun r => drain_ok ts (s := s1) r hl1 (fun x hx => ht x (by simp [hx]))
    simp only [drain]
    rw [h1]
    cases r1 with
    | none => exact ih r
    | some lvl =>
      simp only
      split
      · exact ⟨_, _, rfl⟩
      · exact ih _

/-- the `for task in tasks.drain(..)` of `finalize` -/
theorem drainFinal_ok : ∀ (ts : List Task) {s : State}, (s.depth ≠ 0 → s.locals.isSome) →
    (s.locals = none → ∀ t ∈ ts, t.isGU) → (∀ t ∈ ts, t.ok) → ∃ s' b, drainFinal s ts = .ok (s', b)
  | [], s, _, _, _ => ⟨s, false, rfl⟩
  | t :: ts, s, hd, hl, ht => by
    obtain ⟨s1, r1, h1⟩ := runTask_ok t hd (fun hn => hl hn t (by simp)) (ht t (by simp))
    obtain ⟨e1, _, e3, _⟩ := runTask_keeps h1
    have ih := drainFinal_ok ts (s := s1) (by rw [e1, e3]; exact hd)
      (fun hn x hx => hl (e1 ▸ hn) x (by simp [hx])) (fun x hx => ht x (by simp [hx]))
    simp only [drainFinal]
    rw [h1]
    cases r1 with
    | none => exact ih
    | some lvl => cases lvl <;> first | exact ih | exact ⟨_, _, rfl⟩

theorem drainFinal_gtasks {ts : List Task} {s s' : State} {b : Bool} (h : drainFinal s ts = .ok (s', b)) :
    (∃ add, s'.globalTasks = s.globalTasks ++ add ∧ ∀ x ∈ add, x.isGU) ∧
    ((∀ t ∈ ts, t.isGU) → s'.globalTasks = s.globalTasks) := by
  constructor
  · refine drainFinal_pres (P := fun x => ∃ add, x.globalTasks = s.globalTasks ++ add ∧ ∀ x ∈ add, x.isGU)
      ?_ h ⟨[], by simp, by simp⟩
    rintro t _ a b r hr ⟨add, e, hg⟩
    obtain ⟨add', e', hg'⟩ := (runTask_gtasks hr).1
    refine ⟨add ++ add', by rw [e', e, List.append_assoc], fun x hx => ?_⟩
    rcases List.mem_append.1 hx with hx | hx
    · exact hg x hx
    · exact hg' x hx
  · intro hall
    exact drainFinal_pres (P := fun x => x.globalTasks = s.globalTasks)
      (fun t ht _ _ _ hr e => ((runTask_gtasks hr).2 (hall t ht)).trans e) h rfl

/-- the `while !tasks.is_empty()` of `finalize`: the first round can only add rescheduled `.du32`s, the second round
adds nothing, so a bound of 3 (any bound ≥ 2) is not reached -/
theorem finalLoop_ok (fuel : Nat) {s : State} (ts : List Task) (hd : s.depth ≠ 0 → s.locals.isSome)
    (hg : s.globalTasks = []) (hl : s.locals = none → ∀ t ∈ ts, t.isGU) (ht : ∀ t ∈ ts, t.ok) :
    ∃ s' b, finalLoop (fuel + 2) s ts = .ok (s', b) := by
  cases ts with
  | nil => exact ⟨s, false, by simp [finalLoop]⟩
  | cons t ts =>
    obtain ⟨s1, b1, h1⟩ := drainFinal_ok (t :: ts) hd hl ht
    obtain ⟨add, ha, hga⟩ := (drainFinal_gtasks h1).1
    have e1 : Eff s s1 := drainFinal_pres (P := Eff s) (fun _ _ _ _ _ hr e => e.trans (eff_runTask hr)) h1 (Eff.refl s)
    simp only [finalLoop]
    rw [h1]
    simp only
    split
    · exact ⟨_, _, rfl⟩
    · -- second round: rescheduled `.du32`s only
      rw [ha, hg, List.nil_append]
      cases add with
      | nil => exact ⟨_, _, rfl⟩
      | cons u us =>
        obtain ⟨s2, b2, h2⟩ := drainFinal_ok (u :: us) (s := { s1 with globalTasks := [] })
          (by show s1.depth ≠ 0 → s1.locals.isSome; rw [e1.depth, optLe_isSome e1.locals]; exact hd)
          (fun _ => hga) (fun x hx => Task.ok_of_isGU (hga x hx))
        have hn : s2.globalTasks = [] := (drainFinal_gtasks h2).2 hga
        simp only [finalLoop]
        rw [h2]
        simp only [hn]
        split
        · exact ⟨_, _, rfl⟩
        · cases fuel <;> exact ⟨_, _, rfl⟩

theorem inv_init : Inv init :=
  ⟨open_init, by simp [init], rfl, trivial,
   ⟨fun _ _ => rfl, fun l e => (by cases e), fun t ht => (by cases ht), fun l e => (by cases e),
    fun _ t ht => (by cases ht)⟩⟩

theorem inv_of_eff {s s' : State} (h : Inv s) (e : Eff s s') (v : Vis s') : Inv s' :=
  ⟨open_of_eff h.opn e, by rw [e.ltasks, e.frames]; exact h.lt, by rw [e.depth, e.frames]; exact h.depth,
   by rw [e.frames]; exact h.fr, v⟩

theorem inv_mode {s : State} (h : Inv s) (m : Mode) : Inv { s with mode := m } :=
  ⟨⟨h.opn.locals, h.opn.frames⟩, h.lt, h.depth, h.fr, vis_mode h.vis m⟩

theorem Inv.inFile {s : State} (h : Inv s) (hf : s.frames ≠ []) : InFile s :=
  ⟨h.opn.locals.2 hf, h.lt.2 hf⟩

theorem Inv.locals_none {s : State} (h : Inv s) (hf : s.frames = []) : s.locals = none := by
  cases hl : s.locals with
  | none => rfl
  | some l => exact absurd hf (h.opn.locals.1 (by simp [hl]))

theorem Inv.root_gtasks {s : State} (h : Inv s) (hd : s.depth = 0) : ∀ t ∈ s.globalTasks, t.isGU :=
  h.vis.bot (by rw [← h.depth, hd]; exact Nat.zero_le _)

theorem inv_enterFile {s : State} (h : Inv s) (tag : Nat) : Inv (enterFile s tag) := by
  refine ⟨open_enterFile h.opn tag, by simp [enterFile], by simp [enterFile, h.depth], ?_, ?_⟩
  · -- the new frame
    show framesInv (_ :: s.frames)
    refine ⟨by simp [h.depth], ?_, ?_, ?_, ?_, h.fr⟩
    · have := h.lt
      cases hl : s.localTasks <;> simp [hl] at this ⊢ <;> exact this
    · intro l hl
      cases hc : s.locals with
      | none => simp [hc] at hl
      | some c => simp [hc] at hl; subst hl; exact h.vis.kg
    · intro l hl
      cases hc : s.localTasks with
      | none => simp [hc] at hl
      | some c => simp [hc] at hl; subst hl; exact h.vis.tg
    · intro h1 l hl
      cases hc : s.localTasks with
      | none => simp [hc] at hl
      | some c => simp [hc] at hl; subst hl; exact h.vis.bot (by omega)
  · constructor
    · show Table.keysOk (match s.locals with | none => (s.globals, none) | some c => (c, some s.globals)).1
      cases hc : s.locals with
      | none => exact h.vis.kg
      | some c => exact h.vis.kl c hc
    · intro l e
      have : l = [] := by simpa [enterFile] using e.symm
      subst this; exact Table.keysOk_nil
    · show ∀ t ∈ (match s.localTasks with | none => (s.globalTasks, none) | some t => (t, some s.globalTasks)).1, t.ok
      cases hc : s.localTasks with
      | none => exact h.vis.tg
      | some c => exact h.vis.tl c hc
    · intro l e x hx
      have : l = [] := by simpa [enterFile] using e.symm
      subst this; cases hx
    · intro hlen
      have hfe : s.frames = [] := by
        have : (enterFile s tag).frames.length = s.frames.length + 1 := by simp [enterFile]
        rw [this] at hlen
        exact List.eq_nil_of_length_eq_zero (by omega)
      have hlt : s.localTasks = none := by
        have := h.lt
        cases hc : s.localTasks with
        | none => rfl
        | some c => rw [hc, hfe] at this; simp at this
      show ∀ t ∈ (match s.localTasks with | none => (s.globalTasks, none) | some t => (t, some s.globalTasks)).1, t.isGU
      rw [hlt]
      exact h.vis.bot (by simp [hfe])

/-- `PathFrame::into_inner` in a reachable state: the `assert_eq!` holds, the `pop().unwrap()` finds a path -/
theorem intoInner_ok {s : State} {f : Saved} {fs : List Saved} (h : Inv s) (hf : s.frames = f :: fs) :
    ∃ s', intoInner s f fs = .ok s' ∧ Inv s' := by
  have hfr := h.fr
  rw [hf] at hfr
  obtain ⟨hcount, htasks, hkeys, htok, hgu, hrest⟩ := hfr
  have hd : s.depth = fs.length + 1 := by rw [h.depth, hf]; rfl
  have hop := h.opn.frames
  rw [hf] at hop
  obtain ⟨hconst, hoprest⟩ := hop
  unfold intoInner
  rw [if_neg (by rw [hd, hcount]; simp)]
  rw [hd]
  simp only
  refine ⟨_, rfl, ?_⟩
  cases fs with
  | nil =>
    have hc : f.constants = none := by
      cases hc : f.constants with
      | none => rfl
      | some c => rw [hc] at hconst; simp at hconst
    have ht : f.tasks = none := by
      cases ht : f.tasks with
      | none => rfl
      | some c => rw [ht] at htasks; simp at htasks
    rw [hc, ht]
    exact ⟨⟨by simp, trivial⟩, by simp, rfl, trivial,
      ⟨h.vis.kg, fun l e => (by cases e), h.vis.tg, fun l e => (by cases e),
       fun _ => h.vis.bot (by rw [hf]; simp)⟩⟩
  | cons g gs =>
    obtain ⟨c, hc⟩ := Option.isSome_iff_exists.1 (hconst.2 (by simp))
    obtain ⟨t, ht⟩ := Option.isSome_iff_exists.1 (htasks.2 (by simp))
    rw [hc, ht]
    refine ⟨⟨by simp, hoprest⟩, by simp, rfl, hrest, ?_⟩
    refine ⟨hkeys c hc, fun l e => (by cases e; exact h.vis.kg), htok t ht,
      fun l e => (by cases e; exact h.vis.tg), ?_⟩
    intro hlen
    have : gs.length = 0 := by simpa using hlen
    exact hgu (by simp [this]) t ht

theorem inv_tasksRun {s d : State} {r r' : Option Level} {ts : List Task} (h : Inv s) (hts : s.localTasks = some ts)
    (hd : drain { s with localTasks := some [] } r ts = .ok (d, r')) : Inv { d with localTasks := some [] } := by
  have e := ((eff_clearLocal (s := s) (by simp [hts])).trans (eff_drain hd)).trans
    (eff_clearLocal (by rw [drain_ltasks hd]; rfl))
  refine inv_of_eff h e (vis_clearLocal ?_)
  exact drain_pres (P := Vis) (fun _ _ _ _ _ hr => vis_runTask hr) hd (vis_clearLocal h.vis)

theorem inv_step {op : Op} {s s' : State} (hi : Inv s) (h : step s op = .ok s') : Inv s' :=
  step_pres (fun h i => inv_of_eff i (eff_stmt h) (vis_stmt h i.vis))
    (fun h i => inv_of_eff i (eff_runTask h) (vis_runTask h i.vis)) (fun m i => inv_mode i m)
    (fun _ i => inv_of_eff i (eff_log _ _) ⟨i.vis.kg, i.vis.kl, i.vis.tg, i.vis.tl, i.vis.bot⟩)
    (fun tag i => inv_enterFile i tag) (fun hs i => inv_of_eff i (eff_clearLocal hs) (vis_clearLocal i.vis))
    (fun i => inv_of_eff i (eff_clearGlobal _) (vis_clearGlobal i.vis))
    (fun hf hin i => by obtain ⟨_, h2, i2⟩ := intoInner_ok i hf; rw [hin] at h2; cases h2; exact i2) h hi

/-- leaving a file from a reachable state does not panic: `local_tasks` is there, the tasks are well formed and the
file's table is there for them, `into_inner` finds its frame -/
theorem exitFile_ok {s : State} (r : Option Level) (h : Inv s) : ∃ s', exitFile s r = .ok s' := by
  unfold exitFile
  split
  · exact ⟨s, rfl⟩
  · rename_i f fs hf
    have hin : InFile s := h.inFile (by simp [hf])
    obtain ⟨tasks, htasks⟩ := Option.isSome_iff_exists.1 hin.ltasks
    have tail : ∀ {mid : State} (r' : Option Level), Inv mid → mid.frames = f :: fs →
        ∃ s', (match intoInner mid f fs with
          | .error p => (.error p : Except Panic State)
          | .ok s2 =>
            match r', fs with
            | some _, _ :: _ => Except.ok { (s2.err f.tag .asmFailed) with mode := .stopped .fatal 0 }
            | _, _ => (.ok { s2 with mode := .running } : Except Panic State)) = .ok s' := by
      intro mid r' im hfm
      obtain ⟨s2, h2, _⟩ := intoInner_ok im hfm
      rw [h2]
      simp only
      split <;> exact ⟨_, rfl⟩
    by_cases hr : r = some .fatal
    · simp only [hr, if_true]
      exact tail _ h hf
    · simp only [hr, if_false, htasks]
      rw [localLoop_one 1 r tasks rfl]
      obtain ⟨d, rd, hd⟩ := drain_ok tasks (s := { s with localTasks := some [] }) r hin.locals
        (h.vis.tl tasks htasks)
      rw [hd]
      exact tail _ (inv_tasksRun h htasks hd) ((eff_drain hd).frames.trans hf)

theorem finalize_ok {s : State} (h : Inv s) : ∃ s', finalize s = .ok s' := by
  have hd : s.depth ≠ 0 → s.locals.isSome := by
    intro hd
    apply h.opn.locals.2
    intro hf
    rw [h.depth, hf] at hd
    exact hd rfl
  have hl : s.locals = none → ∀ t ∈ s.globalTasks, t.isGU := by
    intro hn
    have hf : s.frames = [] := by
      cases hf : s.frames with
      | nil => rfl
      | cons f fs =>
        have := h.opn.locals.2 (by simp [hf])
        rw [hn] at this; cases this
    exact h.vis.bot (by simp [hf])
  obtain ⟨s1, b, h1⟩ := finalLoop_ok 1 (s := { s with globalTasks := [] }) s.globalTasks hd rfl hl h.vis.tg
  unfold finalize
  rw [h1]
  exact ⟨_, rfl⟩

theorem step_ok {s : State} (op : Op) (h : Inv s) : ∃ s', step s op = .ok s' ∧ Inv s' := by
  suffices hex : ∃ s', step s op = .ok s' from let ⟨s', hs⟩ := hex; ⟨s', hs, inv_step h hs⟩
  cases hm : s.mode with
  | stopped l k =>
    cases op <;> cases k <;> simp only [step, hm]
    all_goals first
      | exact exitFile_ok _ h
      | exact ⟨_, rfl⟩
  | running =>
    cases op with
    | enter tag => simp only [step, hm]; exact ⟨_, rfl⟩
    | exit => simp only [step, hm]; exact exitFile_ok _ h
    | finalize => simp only [step, hm]; exact finalize_ok h
    | _ =>
      by_cases hf : s.frames = []
      · simp only [step, hm, hf]; exact ⟨_, rfl⟩
      · rw [step_stmt hm rfl hf]
        obtain ⟨s1, r, hs⟩ := stmt_ok _ h.vis (h.inFile hf)
        rw [hs]
        cases r <;> exact ⟨_, rfl⟩

theorem run_ok : ∀ (ops : List Op) {s : State}, Inv s → ∃ s', run s ops = .ok s' ∧ Inv s'
  | [], s, h => ⟨s, rfl, h⟩
  | op :: ops, s, h => by
    obtain ⟨s1, h1, i1⟩ := step_ok op h
    obtain ⟨s2, h2, i2⟩ := run_ok ops i1
    exact ⟨s2, by simp only [run]; rw [h1]; exact h2, i2⟩

theorem inv_run {ops : List Op} {s s' : State} (hi : Inv s) (h : run s ops = .ok s') : Inv s' :=
  run_pres (fun hs i => inv_step i hs) ops h hi

end Trion.Scope
