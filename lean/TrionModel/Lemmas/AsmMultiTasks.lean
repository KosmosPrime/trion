import TrionModel.Lemmas.AsmMultiStmt
import TrionModel.Lemmas.AsmFile
import TrionModel.Lemmas.AsmWithin
/-!
# The local task loop of a file at any include depth against the layout core

The includer's task list `G` and table `Gt` are parameters (see Lemmas/AsmMultiStmt.lean).  In a file without
`.global/.import/.export` the table has no deferred entry, so no task is ever handed to the includer: `G` and `Gt` are left
alone.
-/
namespace Trion.Asm
open Trion Trion.SegLayout

theorem assemble_not_deferred {t : Table} (hn : Table.NoDef t) (st : Front.St) (fs2 : Front.St) (c : Bytes) :
    Front.assemble st (frontEval t) false ≠ (fs2, .deferred c) := by
  intro h
  obtain ⟨_, _, _, _, _, _, _, _, _, _, hg, _⟩ := Front.assemble_deferred_at h
  obtain ⟨_, _, _, h4⟩ := Front.get_deferred_inv hg
  rcases h4 with h4 | ⟨h4, _⟩
  · exact frontEval_never_deferred hn _ _ _ h4
  · cases h4

end Trion.Asm

namespace Trion.Asm.Multi
open Trion Trion.SegLayout Trion.Asm

section
variable {num : Bytes → Nat} {enc : Encoder} {t₂ : Table} {G : List Task} {Gt : Table}

/-- the simulation relation in the task loop of a file: as `Sim`, with the file's table final and its queue taken out -/
structure TSim (num : Bytes → Nat) (t₂ : Table) (G : List Task) (Gt : Table) (st : St) (l : Layout.State) : Prop where
  good : Good true st
  r : R st.seg l
  loc : st.locals = some t₂
  nodef : Table.NoDef t₂
  env : EnvRel num t₂ l.env
  lq : st.localTasks = some []
  gl : st.globalTasks = G ∧ st.globals = Gt

theorem rewrite_step_sim {st : St} {l : Layout.State} (good : Good true st) (r : R st.seg l) {addr : Nat} {d : Bytes}
    (hp : (addr, d.length) ∈ st.seg.pending) {s' : Seg.State} {p' : Bool} {e : Option Seg.Diag}
    (h : writeStmt st.seg true addr d = .ok (s', p', e)) :
    e = none ∧ s'.pending = st.seg.pending ∧
    (s'.active.map fun a => a.base + a.buf.length) = (st.seg.active.map fun a => a.base + a.buf.length) ∧
    ∃ l', Layout.rewrite l addr d = .ok l' ∧ R s' l' ∧ l'.env = l.env ∧ l'.tasks = l.tasks := by
  rw [writeStmt_placed] at h
  obtain ⟨_, hsr⟩ := segStep_rewrite good.inv addr d hp
  cases hs : segStep st.seg (.rewrite addr d) with
  | stop x => rw [hs] at h; cases h
  | ok p =>
    obtain ⟨s1, o⟩ := p
    rw [hs] at h
    obtain ⟨ho, _, hpd, hstep⟩ := hsr _ _ hs
    subst ho
    simp only [Out.ok.injEq, Prod.mk.injEq] at h
    obtain ⟨h1, _, h3⟩ := h
    subst h1
    have hrw : Seg.rewrite st.seg addr d = (s1, .ok) := hstep
    obtain ⟨_, l', q1, q2, q3, q4⟩ := rewrite_sim good.inv r addr d hp
    rw [hrw] at q2
    refine ⟨h3.symm, hpd, ?_, l', q1, q2, q3, q4⟩
    rcases rewrite_shape good.inv addr d hp with ⟨seg, buf', ha, _, _, _, _, hsh, hlen, _⟩ | ⟨_, _, m', hsh, _⟩
    · rw [hsh] at hrw
      simp only [Prod.mk.injEq, and_true] at hrw
      subst hrw
      simp only [ha, Option.map_some, hlen]
    · rw [hsh] at hrw
      simp only [Prod.mk.injEq, and_true] at hrw
      subst hrw
      rfl

/-- the bytes `b` of a queued statement written over its placeholder at `addr`: the layout core rewrites them there -/
theorem TSim.written {st : St} {l : Layout.State} (ts : TSim num t₂ G Gt st l) {addr : Nat} {b : Bytes}
    (hp : (addr, b.length) ∈ st.seg.pending) {s' : Seg.State} {p' : Bool}
    (h : writeStmt st.seg true addr b = .ok (s', p', none)) (good : Good true { st with seg := s' }) :
    ∃ l', Layout.rewrite l addr b = .ok l' ∧ TSim num t₂ G Gt { st with seg := s' } l' ∧ s'.pending = st.seg.pending ∧
      cursor { st with seg := s' } = cursor st := by
  obtain ⟨_, hpd, hcur, l', q1, q2, q3, _⟩ := rewrite_step_sim ts.good ts.r hp h
  exact ⟨l', q1, ⟨good, q2, ts.loc, ts.nodef, by rw [q3]; exact ts.env, ts.lq, ts.gl⟩, hpd, hcur⟩

/-! ## one queued task

The link between the tree a task carries and the source operand is a hypothesis (`hagree`): `runTask_sim'` discharges it
by the retry theorem (first attempt stopped at an unknown name), Props/C05Multi4.lean for a first attempt that met a
`Deferred` name. -/

/-- a queued `.du*` that returns `Ok`: the tree it carries evaluated over the table it ran over to a value in range, whose
bytes were written at the statement's address — or (a local task only) it met a Deferred name and was handed up -/
theorem runDataTask_ok {d : DataExpr} {g : Bool} {env : Env} {st st' : St} {T : Table}
    (ht : evalTable env st = .ok T) (h : runDataTask d g env st = .ok (st', .ok)) :
    (∃ v, evalIn T d.arg = .ok (.complete (.const v)) ∧ 0 ≤ v ∧ v ≤ d.du.max ∧
      ∃ s' p, writeStmt st.seg d.placed d.addr (leBytes d.du.size v.toNat) = .ok (s', p, none) ∧
        st' = { st with seg := s' }) ∨
    (g = false ∧ ∃ c x, evalIn T d.arg = .ok (.deferred c x)) := by
  obtain ⟨d1, st1, op, hap, hrest⟩ := runDataTask_ok_apply h
  rcases apply_eval ht hap with ⟨v, hev, hv, rfl, hw⟩ | ⟨_, _, _, hl, _⟩ | ⟨c, x, hev, rfl⟩ | ⟨lv, rfl⟩
  · obtain rfl : st' = st1 := (hrest.resolve_right fun ⟨_, hc, _⟩ => nomatch hc).2
    obtain ⟨s', p', hws, _, rfl⟩ := writeData_ok hw
    exact .inl ⟨v, hev, hv.1, hv.2, s', p', hws, rfl⟩
  · cases hl
  · obtain ⟨_, _, hg, _⟩ := hrest.resolve_left fun ⟨hc, _⟩ => nomatch hc
    exact .inr ⟨hg, c, x, hev⟩
  · rcases hrest with ⟨hc, _⟩ | ⟨_, hc, _⟩ <;> cases hc

theorem runTask_sim_data (henc : EncLen enc) {st st' : St} {l : Layout.State} (ts : TSim num t₂ G Gt st l) (env : Env)
    (henv : env.paths.isEmpty = false) (d : DataExpr) (lt : Layout.Task) (a : Arg)
    (hpl : d.placed = true) (haddr : lt.addr = d.addr)
    (hdeps : lt.deps = (idents a).map num) (hfinal : lt.final = duFinal t₂ d.du a)
    (hagree : ∀ v, evalIn t₂ d.arg = .ok (.complete (.const v)) → evalIn t₂ a = .ok (.complete (.const v)))
    (hok : TaskOk st.seg.pending (.data d false)) (h : runTask enc env st (.data d false) = .ok (st', .ok)) :
    ∃ l', l.env.hasAll lt.deps = true ∧ Layout.rewrite l lt.addr lt.final = .ok l' ∧ TSim num t₂ G Gt st' l' ∧
      st'.seg.pending = st.seg.pending ∧ cursor st' = cursor st ∧
      ∃ v, evalIn t₂ d.arg = .ok (.complete (.const v)) ∧ 0 ≤ v ∧ v ≤ d.du.max := by
  have hsafe := (runTask_ret henc ts.good (by simpa using henv) (.data d false) hok (fun hh => by cases hh)).ok h
  obtain ⟨_, hpend⟩ := hok
  have ht : evalTable env st = .ok t₂ := by simp [evalTable, henv, ts.loc]
  rcases runDataTask_ok ht (show runDataTask d false env st = .ok (st', .ok) from h) with
    ⟨v, hev, hv0, hv1, s', p', hws, rfl⟩ | ⟨_, c, x, hev⟩
  · have hbl : (leBytes d.du.size v.toNat).length = d.du.size := leBytes_length _ _
    rw [hpl] at hws
    obtain ⟨l', q1, q2, hpend', hcurW⟩ := ts.written (by rw [hbl]; exact hpend) hws hsafe.1
    have hev' : evalIn t₂ a = .ok (.complete (.const v)) := hagree v hev
    have hfin : lt.final = leBytes d.du.size v.toNat := by
      rw [hfinal]; simp only [duFinal, constVal, hev', hv0, hv1, and_self, if_true]
    have hall : l.env.hasAll lt.deps = true := by
      rw [hdeps]; exact hasAll_of_known ts.env ts.nodef (evalIn_complete_idents hev')
    exact ⟨l', hall, by rw [haddr, hfin]; exact q1, q2, hpend', hcurW, v, hev, hv0, hv1⟩
  · exact absurd hev (evalIn_not_deferred ts.nodef _ _ _)

/-- a queued instruction that returns `Ok`: its assembly from the queued state completed over the table it ran over, the
encoding was written at the statement's address — or (a local task only) it was deferred again and handed up -/
theorem runInstrTask_ok {enc : Encoder} {i : ArmInstr} {g : Bool} {env : Env} {st st' : St} {T : Table}
    (ht : evalTable env st = .ok T) (h : runInstrTask enc i g env st = .ok (st', .ok)) :
    (∃ fs2 b, Front.assemble i.st (frontEval T) false = (fs2, .completed) ∧ enc fs2.instr = .ok b ∧
      ∃ s' p, writeStmt st.seg i.placed fs2.addr b = .ok (s', p, none) ∧ st' = { st with seg := s' }) ∨
    (g = false ∧ ∃ fs1 c, Front.assemble i.st (frontEval T) false = (fs1, .deferred c)) := by
  unfold runInstrTask at h
  cases has : i.assemble env st false with
  | stop r => rw [has] at h; cases h
  | ok q =>
    obtain ⟨i1, st1, op⟩ := q
    rw [has] at h
    obtain ⟨fs2, r, hfa, rfl, ⟨rfl, rfl, hst⟩ | ⟨c, rfl, rfl, _⟩ | ⟨d, rfl, rfl, _⟩⟩ := assembleI_ok ht has
    · rw [hst] at h
      simp only at h
      cases hw : ArmInstr.writeInstr enc { i with st := fs2 } st false with
      | stop r => rw [hw] at h; cases h
      | ok q2 =>
        obtain ⟨i2, st2, r⟩ := q2
        rw [hw] at h
        simp only [Out.ok.injEq, Prod.mk.injEq] at h
        obtain ⟨h1, h2⟩ := h
        subst h1; subst h2
        obtain ⟨bytes, s', p', he, hws, _, rfl⟩ := writeInstr_ok hw
        exact .inl ⟨fs2, bytes, hfa, he, s', p', hws, rfl⟩
    · cases g with
      | true => simp at h
      | false => exact .inr ⟨rfl, _, _, hfa⟩
    · simp at h

theorem runTask_sim_instr (henc : EncLen enc) {st st' : St} {l : Layout.State} (ts : TSim num t₂ G Gt st l) (env : Env)
    (henv : env.paths.isEmpty = false) (i : ArmInstr) (lt : Layout.Task) (tpl : Instr) (args : List Arg)
    (hpl : i.placed = true) (haddr : lt.addr = i.st.addr)
    (hdeps : lt.deps = (instrDeps (Front.kinds tpl) args).map num)
    (hfinal : lt.final = instrFinal enc t₂ i.st.addr tpl args)
    (hagree : ∀ fs2, Front.assemble i.st (frontEval t₂) false = (fs2, .completed) →
      ∃ fs', Front.assemble ⟨i.st.addr, tpl, 0, args⟩ (frontEval t₂) true = (fs', .completed) ∧ fs'.instr = fs2.instr)
    (hok : TaskOk st.seg.pending (.instr i false)) (h : runTask enc env st (.instr i false) = .ok (st', .ok)) :
    ∃ l', l.env.hasAll lt.deps = true ∧ Layout.rewrite l lt.addr lt.final = .ok l' ∧ TSim num t₂ G Gt st' l' ∧
      st'.seg.pending = st.seg.pending ∧ cursor st' = cursor st ∧
      ∃ fs2 b, Front.assemble i.st (frontEval t₂) false = (fs2, .completed) ∧ enc fs2.instr = .ok b := by
  have hsafe := (runTask_ret henc ts.good (by simpa using henv) (.instr i false) hok (fun hh => by cases hh)).ok h
  obtain ⟨_, hpend⟩ := hok
  have ht : evalTable env st = .ok t₂ := by simp [evalTable, henv, ts.loc]
  rcases runInstrTask_ok ht (show runInstrTask enc i false env st = .ok (st', .ok) from h) with
    ⟨fs2, bytes, hfa, he, s', p', hws, rfl⟩ | ⟨_, fs1, c, hfa⟩
  · obtain ⟨hka, hkl⟩ := (by simpa [hfa] using Front.assemble_keeps i.st (frontEval t₂) false : fs2.addr = i.st.addr ∧ ilen fs2.instr = ilen i.st.instr)
    have hbl : bytes.length = ilen i.st.instr := by rw [henc _ _ he, hkl]
    rw [hpl, hka] at hws
    obtain ⟨l', q1, q2, hpend', hcurW⟩ := ts.written (by rw [hbl]; exact hpend) hws hsafe.1
    -- the retry theorem: the re-run is the fresh run over the final table
    obtain ⟨fs', hfresh, hfi⟩ := hagree fs2 hfa
    have hfin : lt.final = bytes := by
      rw [hfinal]; simp only [instrFinal, hfresh, hfi, he]
    have hall : l.env.hasAll lt.deps = true := by
      rw [hdeps]; exact hasAll_of_known ts.env ts.nodef (assemble_completed_deps hfresh)
    exact ⟨l', hall, by rw [haddr, hfin]; exact q1, q2, hpend', hcurW, fs2, bytes, hfa, he⟩
  · exact absurd hfa (assemble_not_deferred ts.nodef _ _ _)

theorem runTask_sim' (henc : EncLen enc) {st st' : St} {l : Layout.State} (ts : TSim num t₂ G Gt st l) (env : Env)
    (henv : env.paths.isEmpty = false) (task : Task) (lt : Layout.Task) (hrel : TaskRel num enc t₂ task lt)
    (hok : TaskOk st.seg.pending task) (h : runTask enc env st task = .ok (st', .ok)) :
    ∃ l', l.env.hasAll lt.deps = true ∧ Layout.rewrite l lt.addr lt.final = .ok l' ∧ TSim num t₂ G Gt st' l' ∧
      st'.seg.pending = st.seg.pending ∧ cursor st' = cursor st ∧ GenTask enc t₂ task := by
  cases task with
  | globalCopy n l c => exact hrel.elim
  | instr i g =>
    obtain ⟨hg, hpl, haddr, hlen, tpl, args, t₁, c, hsub, hnd₁, hfirst, hdeps, hfinal⟩ := hrel
    subst hg
    -- the retry theorem: the re-run from the queued state is the fresh run over the final table
    have fresh : ∀ tpl args t₁ c, Table.Sub t₁ t₂ → Table.NoDef t₁ →
        Front.assemble ⟨i.st.addr, tpl, 0, args⟩ (frontEval t₁) true = (i.st, .deferred c) →
        ∀ fs2, Front.assemble i.st (frontEval t₂) false = (fs2, .completed) →
        Front.assemble ⟨i.st.addr, tpl, 0, args⟩ (frontEval t₂) true = (fs2, .completed) := by
      intro tpl args t₁ c hs hn hf fs2 h2
      have hr := assemble_retry_tables_all hs hn i.st.addr tpl args i.st c hf false
      rw [h2] at hr
      exact assemble_completed_loc true hr.symm
    obtain ⟨l', h1, h2, h3, h4, h5, fs2, b, h6, h7⟩ := runTask_sim_instr henc ts env henv i lt tpl args hpl haddr hdeps
      hfinal (fun fs2 h2 => ⟨fs2, fresh tpl args t₁ c hsub hnd₁ hfirst fs2 h2, rfl⟩) hok h
    exact ⟨l', h1, h2, h3, h4, h5, fun tpl' args' t₁' c' hs' hn' hf' => ⟨fs2, b, fresh tpl' args' t₁' c' hs' hn' hf' fs2 h6, h7⟩⟩
  | data d g =>
    obtain ⟨hg, hpl, haddr, hlen, a, t₁, n, hsub, hnd₁, hfirst, hdeps, hfinal⟩ := hrel
    subst hg
    obtain ⟨l', h1, h2, h3, h4, h5, v, h6, h7, h8⟩ := runTask_sim_data henc ts env henv d lt a hpl haddr hdeps hfinal
      (fun v hv => by rw [← data_retry_all hsub hnd₁ hfirst]; exact hv) hok h
    exact ⟨l', h1, h2, h3, h4, h5, fun a' t₁' n' hs' hn' hf' =>
      ⟨v, by simp only [constVal, ← data_retry_all hs' hn' hf', h6], h7, h8⟩⟩

theorem runTask_sim (henc : EncLen enc) {st st' : St} {l : Layout.State} (ts : TSim num t₂ G Gt st l) (env : Env)
    (henv : env.paths.isEmpty = false) (task : Task) (lt : Layout.Task) (hrel : TaskRel num enc t₂ task lt)
    (hok : TaskOk st.seg.pending task) (h : runTask enc env st task = .ok (st', .ok)) :
    ∃ l', l.env.hasAll lt.deps = true ∧ Layout.rewrite l lt.addr lt.final = .ok l' ∧ TSim num t₂ G Gt st' l' ∧
      st'.seg.pending = st.seg.pending ∧ cursor st' = cursor st := by
  obtain ⟨l', h1, h2, h3, h4, h5, _⟩ := runTask_sim' henc ts env henv task lt hrel hok h
  exact ⟨l', h1, h2, h3, h4, h5⟩

theorem localRound_sim (henc : EncLen enc) (env : Env) (henv : env.paths.isEmpty = false) :
    ∀ (ts : List Task) (lts : List Layout.Task) (st st' : St) (l : Layout.State) (res res' : Res),
      TSim num t₂ G Gt st l → TasksRel num enc t₂ ts lts → (∀ t ∈ ts, TaskOk st.seg.pending t) →
      localRound enc env ts st res = .ok (st', res') → st'.errors = [] →
      ∃ l', Layout.runTasks l lts = .ok l' ∧ TSim num t₂ G Gt st' l' ∧ res' = res ∧ cursor st' = cursor st ∧
        ∀ t ∈ ts, GenTask enc t₂ t := by
  intro ts
  induction ts with
  | nil =>
    intro lts st st' l res res' tsim hrel _ h _
    cases lts with
    | nil => simp only [localRound] at h; cases h; exact ⟨l, rfl, tsim, rfl, rfl, fun _ hx => (by cases hx)⟩
    | cons u us => exact hrel.elim
  | cons t ts ih =>
    intro lts st st' l res res' tsim hrel hok h herr
    cases lts with
    | nil => exact hrel.elim
    | cons u us =>
      obtain ⟨hr1, hr2⟩ := hrel
      simp only [localRound] at h
      cases hrt : runTask enc env st t with
      | stop r => rw [hrt] at h; cases h
      | ok p =>
        obtain ⟨st1, r⟩ := p
        rw [hrt] at h
        cases r with
        | ok =>
          simp only at h
          have g := (localRound_grew ts st1 res st' res' h).1
          have herr1 : st1.errors = [] := by
            rw [herr] at g; exact List.eq_nil_of_length_eq_zero (by simpa using g)
          obtain ⟨l1, h1, h2, h3, h4, h5, h6⟩ := runTask_sim' henc tsim env henv t u hr1 (hok t List.mem_cons_self) hrt
          obtain ⟨l', f1, f2, f3, f4, f5⟩ := ih us st1 st' l1 res res' h3 hr2
            (fun x hx => by rw [h4]; exact hok x (List.mem_cons_of_mem _ hx)) h herr
          exact ⟨l', by simp only [Layout.runTasks, h1, if_true, h2]; exact f1, f2, f3, f4.trans h5,
            fun x hx => by
              rcases List.mem_cons.mp hx with rfl | hx
              · exact h6
              · exact f5 x hx⟩
        | err lv =>
          exfalso
          have g1 := runTask_grew _ _ hrt
          simp only at h
          split at h
          · cases h
            exact absurd (grew_nil g1 herr).2 (by simp)
          · have g := (localRound_grew ts st1 _ st' res' h).1
            have herr1 : st1.errors = [] := by
              rw [herr] at g; exact List.eq_nil_of_length_eq_zero (by simpa using g)
            exact absurd (grew_nil g1 herr1).2 (by simp)

theorem localLoop_sim (henc : EncLen enc) (env : Env) (henv : env.paths.isEmpty = false) (n : Nat) (ts : List Task)
    (lts : List Layout.Task) (st st' : St) (l : Layout.State) (res' : Res) (tsim : TSim num t₂ G Gt st l)
    (hrel : TasksRel num enc t₂ ts lts) (hok : ∀ t ∈ ts, TaskOk st.seg.pending t)
    (h : localLoop enc env (n + 2) ts st .ok = .ok (st', res')) (herr : st'.errors = []) :
    ∃ l', Layout.runTasks l lts = .ok l' ∧ TSim num t₂ G Gt st' l' ∧ cursor st' = cursor st ∧
      ∀ t ∈ ts, GenTask enc t₂ t := by
  rw [show n + 2 = (n + 1) + 1 from rfl, localLoop] at h
  split at h
  · rename_i hemp
    cases h
    have : ts = [] := List.isEmpty_iff.mp hemp
    subst this
    cases lts with
    | nil => exact ⟨l, rfl, tsim, rfl, fun _ hx => (by cases hx)⟩
    | cons u us => exact hrel.elim
  · cases hlr : localRound enc env ts st .ok with
    | stop r => rw [hlr] at h; cases h
    | ok p =>
      obtain ⟨st1, res1⟩ := p
      rw [hlr] at h
      simp only at h
      cases hnew : st1.localTasks with
      | none => rw [hnew] at h; cases h
      | some new =>
        rw [hnew] at h
        simp only at h
        have herr1 : st1.errors = [] := by
          split at h
          · cases h; exact herr
          · have g := (localLoop_grew _ _ _ _ _ _ h).1
            rw [herr] at g
            exact List.eq_nil_of_length_eq_zero (by simpa using g)
        obtain ⟨l', f1, f2, f3, f4, f5⟩ := localRound_sim henc env henv ts lts st st1 l .ok res1 tsim hrel hok hlr herr1
        have hn : new = [] := by have := f2.lq; rw [hnew] at this; cases this; rfl
        subst hn
        have heta : ({ st1 with localTasks := some [] } : St) = st1 := by
          cases st1; simp only at hnew; subst hnew; rfl
        rw [heta] at h
        subst f3
        simp only [Res.aborts, Bool.false_eq_true, if_false, localLoop, List.isEmpty_nil, if_true] at h
        cases h
        exact ⟨l', f1, f2, f4, f5⟩

/-- the task loop of a file from the state its statement loop left, the table being final: `Sim` becomes `TSim` -/
theorem Sim.localLoop (henc : EncLen enc) (env : Env) (henv : env.paths.isEmpty = false) {n : Nat} {tasks : List Task}
    {st st' : St} {l : Layout.State} {res' : Res} (sim : Sim num enc t₂ G Gt st l) (hfin : st.locals = some t₂)
    (htk : st.localTasks = some tasks)
    (h : localLoop enc env (n + 2) tasks { st with localTasks := some [] } .ok = .ok (st', res')) (herr : st'.errors = []) :
    ∃ l', Layout.runTasks { l with tasks := [] } l.tasks = .ok l' ∧ TSim num t₂ G Gt st' l' ∧ cursor st' = cursor st ∧
      ∀ t ∈ tasks, GenTask enc t₂ t := by
  obtain ⟨t, e1, e2, _, e4⟩ := sim.tbl
  cases e1.symm.trans hfin
  obtain ⟨q, q1, q2⟩ := sim.tasks
  cases q1.symm.trans htk
  exact localLoop_sim henc env henv n tasks l.tasks { st with localTasks := some [] } st' { l with tasks := [] } res'
    ⟨(good_clearLocal sim.good).1, sim.r, hfin, e2, e4, rfl, sim.gl⟩ q2 (fun t m => sim.good.lt tasks htk t m) h herr

end

end Trion.Asm.Multi
