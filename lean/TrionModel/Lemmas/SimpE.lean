import TrionModel.Model.SimpE
import TrionModel.Lemmas.SimpInv
/-!
# The three forms of `evaluate` agree, and induction over a run of `evaluate`

`evaluateE` (tree left behind on every outcome) projects to `evaluateT` (tree on `Ok`/`NoSuchVariable`) and that to
`evaluate` (`evaluateE_is_evaluateT`, `evaluateT_proj_both`, `evaluateE_is_evaluate`).  Facts about a run
are proved once, for `evaluateE`, by induction over the run, one principle per outcome (`evaluateE_ok_ind`, with
`evaluateE_complete_ind` for the runs without a `Deferred` cause, `evaluateE_nosuch_ind`, `evaluateE_err_ind`): the cases are the leaves, one `simplify_raw` step per node, and the list
traversal.
-/
namespace Trion.Simp
open Trion

def EvT.toERes {α : Type} : EvT α → ERes (Ev × α)
  | .ok ev a => .ok (ev, a)
  | .nosuch n _ => .err (.noSuchVar n)
  | .err e => .err (.simp e)
  | .panic => .panic

theorem afterRawT_proj (ev : Ev) (a : Arg) : (afterRawT ev a).toERes = afterRaw ev a := by
  unfold afterRawT afterRaw
  cases simplifyRaw a with
  | ok p => rfl
  | _ => rfl

theorem neutralizeBinE_proj (op : BinOp) (l r : Arg) : (neutralizeBinE op l r).toRes = neutralizeBin op l r := by
    simp only [neutralizeBinE, neutralizeBin, normAddSub, neutralTail, opOf]
    by_cases hop : op = .add ∨ op = .sub
    · simp only [hop, if_true]
      generalize stripNeg (decide (op = .sub)) r = s
      cases hc : cval s.2.1 with
      | none =>
        simp only
        by_cases h1 : isBad l = true
        · simp [h1, ResE.toRes]
        · by_cases h2 : isBad s.2.1 = true
          · simp [h1, h2, ResE.toRes]
          · simp [h1, h2, ResE.toRes]
      | some v =>
        simp only
        by_cases hv : v < 0
        · simp only [hv, if_true]
          cases hn : checkedNeg v with
          | none => simp [ResE.toRes]
          | some nv =>
            simp only
            by_cases h1 : isBad l = true
            · simp [h1, ResE.toRes]
            · have h2 : isBad (Arg.const nv) = false := rfl
              simp [h1, h2, ResE.toRes]
        · simp only [hv, if_false]
          by_cases h1 : isBad l = true
          · simp [h1, ResE.toRes]
          · by_cases h2 : isBad s.2.1 = true
            · simp [h1, h2, ResE.toRes]
            · simp [h1, h2, ResE.toRes]
    · simp only [hop, if_false]
      by_cases h1 : isBad l = true
      · simp [h1, ResE.toRes]
      · by_cases h2 : isBad r = true
        · simp [h1, h2, ResE.toRes]
        · simp [h1, h2, ResE.toRes]

theorem swappedE_proj (x : ResE (Bool × Arg) Arg) : (swappedE x).toRes = swapped x.toRes := by
  cases x with
  | ok p => rfl
  | _ => rfl

theorem neutralizeRawE_proj : ∀ a : Arg, (neutralizeRawE a).toRes = neutralizeRaw a := by
  apply Arg.negNegInd
  rotate_left
  · intro w ih
    simp only [neutralizeRawE, neutralizeRaw]
    rw [swappedE_proj, ih]
  intro a hnn
  cases a with
  | bin op l r =>
    rcases neutralizeRaw_bin_split op l r with ⟨h1, h2⟩ | ⟨x, y, rfl, rfl, rfl⟩
    · rw [h1, h2]; exact neutralizeBinE_proj _ _ _
    · rw [neutralizeRaw_zero_sub, neutralizeRawE_zero_sub, swappedE_proj, neutralizeBinE_proj]
  | neg v =>
    cases v with
    | bin op x y =>
      cases op <;> try rfl
      simp only [neutralizeRawE, neutralizeRaw]
      rw [swappedE_proj, neutralizeBinE_proj]
    | neg w => exact absurd rfl (hnn w)
    | _ => rfl
  | _ => rfl

theorem neutralizeE_proj_both :
    (∀ a, (neutralizeE a).toRes = neutralize a) ∧ (∀ as, (neutralizeArgsE as).toRes = neutralizeArgs as) := by
  apply Arg.ind2
  case const => intro v; rfl
  case ident => intro s; rfl
  case str => intro s; rfl
  case bin =>
    intro op l r ihl ihr
    simp only [neutralizeE, neutralize]
    rw [← ihl, ← ihr]
    cases neutralizeE l with
    | ok p =>
      cases neutralizeE r with
      | ok q =>
        simp only [ResE.toRes]
        rw [← neutralizeRawE_proj]
        cases neutralizeRawE (.bin op p.2 q.2) <;> rfl
      | _ => rfl
    | _ => rfl
  case neg =>
    intro v ih
    simp only [neutralizeE, neutralize]
    rw [← ih]
    cases neutralizeE v with
    | ok p =>
      simp only [ResE.toRes]
      rw [← neutralizeRawE_proj]
      cases neutralizeRawE (.neg p.2) <;> rfl
    | _ => rfl
  case not => intro v ih; simp only [neutralizeE, neutralize]; rw [← ih]; cases neutralizeE v <;> rfl
  case addr => intro v ih; simp only [neutralizeE, neutralize]; rw [← ih]; cases neutralizeE v <;> rfl
  case seq => intro as ih; simp only [neutralizeE, neutralize]; rw [← ih]; cases neutralizeArgsE as <;> rfl
  case func => intro n as ih; simp only [neutralizeE, neutralize]; rw [← ih]; cases neutralizeArgsE as <;> rfl
  case nil => rfl
  case cons =>
    intro a as iha ihas
    simp only [neutralizeArgsE, neutralizeArgs]
    rw [← iha, ← ihas]
    cases neutralizeE a with
    | ok p => cases neutralizeArgsE as <;> rfl
    | _ => rfl

theorem neutralizeE_proj (a : Arg) : (neutralizeE a).toRes = neutralize a := neutralizeE_proj_both.1 a

theorem mergeE_proj (op : BinOp) (l r : Arg) : (mergeE op l r).toRes = merge op l r := by
  unfold mergeE merge
  generalize mergeL op l = L
  generalize mergeR op r = Rr
  cases L with
  | panic => cases Rr <;> rfl
  | none => cases Rr <;> first | rfl | exact neutralizeRawE_proj _
  | found c1 s1 =>
    cases Rr with
    | panic => rfl
    | none => exact neutralizeRawE_proj _
    | found c2 s2 =>
      simp only
      cases hc : combine op s1 s2 c1 c2 with
      | error k => rfl
      | ok c =>
        simp only
        rw [← neutralizeE_proj]
        cases neutralizeE (mergeTree op l r c) with
        | ok p => rfl
        | _ => rfl

theorem simplifyRawE_proj (a : Arg) : (simplifyRawE a).toRes = simplifyRaw a := by
  cases a with
  | bin op l r =>
    simp only [simplifyRawE, simplifyRaw]
    by_cases h1 : isBad l = true
    · simp [h1, ResE.toRes]
    · by_cases h2 : isBad r = true
      · simp [h1, h2, ResE.toRes]
      · simp only [h1, h2, Bool.false_eq_true, if_false]
        cases hl : cval l with
        | some x =>
          cases hr : cval r with
          | some y =>
            simp only
            cases hf : foldBin op x y with
            | ok v => rfl
            | error k => rfl
          | none =>
            simp only
            cases op <;> simp only <;> first
              | exact mergeE_proj _ _ _
              | exact neutralizeRawE_proj _
              | (split
                 · rfl
                 · exact neutralizeRawE_proj _)
        | none =>
          simp only
          cases op <;> simp only <;> first
            | exact mergeE_proj _ _ _
            | exact neutralizeRawE_proj _
            | (split
               · rfl
               · exact neutralizeRawE_proj _)
  | neg v =>
    simp only [simplifyRawE, simplifyRaw]
    cases v with
    | const c => simp only; split <;> rfl
    | bin op l r =>
      cases op
      case sub =>
        simp only
        rw [← neutralizeRawE_proj (.bin .sub r l)]
        cases neutralizeRawE (.bin .sub r l) with
        | ok p => rfl
        | _ => rfl
      all_goals rfl
    | neg w =>
      simp only
      rw [← neutralizeRawE_proj (.neg (.neg w))]
      cases neutralizeRawE (.neg (.neg w)) with
      | ok p => rfl
      | _ => rfl
    | _ => rfl
  | not v =>
    simp only [simplifyRawE, simplifyRaw]
    cases v <;> rfl
  | addr v =>
    simp only [simplifyRawE, simplifyRaw]
    split <;> rfl
  | _ => rfl

theorem afterRawE_proj (ev : Ev) (a : Arg) : (afterRawE ev a).toT = afterRawT ev a := by
  unfold afterRawE afterRawT
  rw [← simplifyRawE_proj]
  cases simplifyRawE a with
  | ok p => rfl
  | _ => rfl

theorem evaluateE_proj_both (lk : Bytes → Lookup) (isReg : Bytes → Bool) :
    (∀ a, (evaluateE lk isReg a).toT = evaluateT lk isReg a) ∧
    (∀ as, (evaluateArgsE lk isReg as).toT = evaluateArgsT lk isReg as) := by
  apply Arg.ind2
  case const => intro v; rfl
  case ident =>
    intro s
    simp only [evaluateE, evaluateT]
    split
    · rfl
    · cases lk s <;> rfl
  case str => intro v; rfl
  case bin =>
    intro op l r ihl ihr
    simp only [evaluateE, evaluateT]
    rw [← ihl, ← ihr]
    cases evaluateE lk isReg l with
    | ok e1 l' =>
      cases evaluateE lk isReg r with
      | ok e2 r' => simp only [EvE.toT]; exact afterRawE_proj _ _
      | _ => rfl
    | _ => rfl
  case neg =>
    intro v ih
    simp only [evaluateE, evaluateT]
    rw [← ih]
    cases evaluateE lk isReg v <;> first | rfl | (simp only [EvE.toT]; exact afterRawE_proj _ _)
  case not =>
    intro v ih
    simp only [evaluateE, evaluateT]
    rw [← ih]
    cases evaluateE lk isReg v <;> first | rfl | (simp only [EvE.toT]; exact afterRawE_proj _ _)
  case addr =>
    intro v ih
    simp only [evaluateE, evaluateT]
    rw [← ih]
    cases evaluateE lk isReg v <;> first | rfl | (simp only [EvE.toT]; exact afterRawE_proj _ _)
  case seq => intro as ih; simp only [evaluateE, evaluateT]; rw [← ih]; cases evaluateArgsE lk isReg as <;> rfl
  case func => intro n as ih; simp only [evaluateE, evaluateT]; rw [← ih]; cases evaluateArgsE lk isReg as <;> rfl
  case nil => rfl
  case cons =>
    intro a as iha ihas
    simp only [evaluateArgsE, evaluateArgsT]
    rw [← iha, ← ihas]
    cases evaluateE lk isReg a with
    | ok e1 a' => cases evaluateArgsE lk isReg as <;> rfl
    | _ => rfl

theorem evaluateE_is_evaluateT (lk : Bytes → Lookup) (isReg : Bytes → Bool) (a : Arg) :
    (evaluateE lk isReg a).toT = evaluateT lk isReg a := (evaluateE_proj_both lk isReg).1 a

theorem evaluateT_proj_both (lk : Bytes → Lookup) (isReg : Bytes → Bool) :
    (∀ a, (evaluateT lk isReg a).toERes = evaluate lk isReg a) ∧
    (∀ as, (evaluateArgsT lk isReg as).toERes = evaluateArgs lk isReg as) := by
  apply Arg.ind2
  case const => intro v; rfl
  case ident =>
    intro s
    simp only [evaluateT, evaluate]
    split
    · rfl
    · cases lk s <;> rfl
  case str => intro v; rfl
  case bin =>
    intro op l r ihl ihr
    simp only [evaluateT, evaluate]
    rw [← ihl, ← ihr]
    cases evaluateT lk isReg l with
    | ok e1 l' =>
      cases evaluateT lk isReg r with
      | ok e2 r' => simp only [EvT.toERes]; exact afterRawT_proj _ _
      | _ => rfl
    | _ => rfl
  case neg =>
    intro v ih
    simp only [evaluateT, evaluate]
    rw [← ih]
    cases evaluateT lk isReg v <;> first | rfl | (simp only [EvT.toERes]; exact afterRawT_proj _ _)
  case not =>
    intro v ih
    simp only [evaluateT, evaluate]
    rw [← ih]
    cases evaluateT lk isReg v <;> first | rfl | (simp only [EvT.toERes]; exact afterRawT_proj _ _)
  case addr =>
    intro v ih
    simp only [evaluateT, evaluate]
    rw [← ih]
    cases evaluateT lk isReg v <;> first | rfl | (simp only [EvT.toERes]; exact afterRawT_proj _ _)
  case seq => intro as ih; simp only [evaluateT, evaluate]; rw [← ih]; cases evaluateArgsT lk isReg as <;> rfl
  case func => intro n as ih; simp only [evaluateT, evaluate]; rw [← ih]; cases evaluateArgsT lk isReg as <;> rfl
  case nil => rfl
  case cons =>
    intro a as iha ihas
    simp only [evaluateArgsT, evaluateArgs]
    rw [← iha, ← ihas]
    cases evaluateT lk isReg a with
    | ok e1 a' => cases evaluateArgsT lk isReg as <;> rfl
    | _ => rfl

theorem evaluateE_is_evaluate (lk : Bytes → Lookup) (isReg : Bytes → Bool) (a : Arg) :
    (evaluateE lk isReg a).toT.toERes = evaluate lk isReg a := by
  rw [evaluateE_is_evaluateT, (evaluateT_proj_both lk isReg).1]

theorem evaluate_ok_iff {lk : Bytes → Lookup} {isReg : Bytes → Bool} {a : Arg} {ev : Ev} {a' : Arg} :
    evaluate lk isReg a = .ok (ev, a') ↔ evaluateE lk isReg a = .ok ev a' := by
  rw [← evaluateE_is_evaluate]
  cases evaluateE lk isReg a <;> simp [EvE.toT, EvT.toERes]

theorem evaluateT_nosuch_iff {lk : Bytes → Lookup} {isReg : Bytes → Bool} {a : Arg} {n : Bytes} {a' : Arg} :
    evaluateT lk isReg a = .nosuch n a' ↔ evaluateE lk isReg a = .nosuch n a' := by
  rw [← evaluateE_is_evaluateT]
  cases evaluateE lk isReg a <;> simp [EvE.toT]

theorem evaluate_panic_iff {lk : Bytes → Lookup} {isReg : Bytes → Bool} {a : Arg} :
    evaluate lk isReg a = .panic ↔ evaluateE lk isReg a = .panic := by
  rw [← evaluateE_is_evaluate]
  cases evaluateE lk isReg a <;> simp [EvE.toT, EvT.toERes]

theorem evaluateT_of_evaluate {lk : Bytes → Lookup} {isReg : Bytes → Bool} {a : Arg} {ev : Ev} {a' : Arg}
    (h : evaluate lk isReg a = .ok (ev, a')) : evaluateT lk isReg a = .ok ev a' := by
  have := (evaluateT_proj_both lk isReg).1 a
  rw [h] at this
  cases hT : evaluateT lk isReg a <;> rw [hT] at this <;> cases this
  rfl

theorem evaluate_nosuch_iff {lk : Bytes → Lookup} {isReg : Bytes → Bool} {a : Arg} {n : Bytes} :
    evaluate lk isReg a = .err (.noSuchVar n) ↔ ∃ a₁, evaluateE lk isReg a = .nosuch n a₁ := by
  rw [← evaluateE_is_evaluate]
  cases evaluateE lk isReg a <;> simp [EvE.toT, EvT.toERes]

theorem evaluate_simp_iff {lk : Bytes → Lookup} {isReg : Bytes → Bool} {a : Arg} {e : SimpErr} :
    evaluate lk isReg a = .err (.simp e) ↔ ∃ a₁, evaluateE lk isReg a = .err e a₁ := by
  rw [← evaluateE_is_evaluate]
  cases evaluateE lk isReg a <;> simp [EvE.toT, EvT.toERes]

theorem simplifyRawE_ok_iff {x : Arg} {p : Bool × Arg} : simplifyRawE x = .ok p ↔ simplifyRaw x = .ok p := by
  rw [← simplifyRawE_proj]
  cases simplifyRawE x <;> simp [ResE.toRes]

/-! ### `evaluate` at a binary and at an `Address` node -/

theorem evaluate_bin (lk : Bytes → Lookup) (isReg : Bytes → Bool) (op : BinOp) (l r : Arg) :
    evaluate lk isReg (.bin op l r) =
      match evaluate lk isReg l with
      | .ok (e1, l') =>
        match evaluate lk isReg r with
        | .ok (e2, r') => afterRaw (e1.or e2) (.bin op l' r')
        | .err e => .err e
        | .panic => .panic
      | .err e => .err e
      | .panic => .panic := by
  simp only [evaluate] <;> rfl

theorem evaluate_addr (lk : Bytes → Lookup) (isReg : Bytes → Bool) (x : Arg) :
    evaluate lk isReg (.addr x) =
      match evaluate lk isReg x with
      | .ok (e1, x') => if isBad x' then .err (.simp (.badType x'.ty .addr)) else .ok (e1.or ⟨false, none⟩, .addr x')
      | .err e => .err e
      | .panic => .panic := by
  simp only [evaluate]
  cases evaluate lk isReg x with
  | ok p =>
    obtain ⟨e1, x'⟩ := p
    by_cases hb : isBad x' = true <;> simp [afterRaw, simplifyRaw, hb]
  | err e => rfl
  | panic => rfl

theorem evaluate_addr_ok {lk : Bytes → Lookup} {isReg : Bytes → Bool} {x a1 : Arg} {ev : Ev}
    (h : evaluate lk isReg (.addr x) = .ok (ev, a1)) : ∃ e1 x1, evaluate lk isReg x = .ok (e1, x1) ∧ a1 = .addr x1 := by
  rw [evaluate_addr] at h
  cases h1 : evaluate lk isReg x with
  | ok p =>
    obtain ⟨e1, x1⟩ := p
    rw [h1] at h
    simp only at h
    split at h
    · cases h
    · cases h; exact ⟨e1, x1, rfl, rfl⟩
  | err e => rw [h1] at h; cases h
  | panic => rw [h1] at h; cases h

theorem afterRawE_ok {ev ev' : Ev} {x a' : Arg} (h : afterRawE ev x = .ok ev' a') :
    ∃ c, simplifyRaw x = .ok (c, a') ∧ ev' = ev.or ⟨c, none⟩ := by
  unfold afterRawE at h
  cases hs : simplifyRawE x with
  | ok p =>
    obtain ⟨c, y⟩ := p
    rw [hs] at h
    simp only [EvE.ok.injEq] at h
    obtain ⟨rfl, rfl⟩ := h
    exact ⟨c, simplifyRawE_ok_iff.1 hs, rfl⟩
  | _ => rw [hs] at h; cases h

theorem afterRawE_err {ev : Ev} {x : Arg} {e : SimpErr} {t : Arg} (h : afterRawE ev x = .err e t) :
    simplifyRawE x = .err e t := by
  unfold afterRawE at h
  cases hs : simplifyRawE x with
  | err e' t' => rw [hs] at h; cases h; rfl
  | _ => rw [hs] at h; cases h

theorem afterRawE_not_nosuch {ev : Ev} {x : Arg} {n : Bytes} {a₁ : Arg} : afterRawE ev x ≠ .nosuch n a₁ := by
  unfold afterRawE
  cases simplifyRawE x <;> simp

theorem Ev.or_cause_none {a b : Ev} (h : (a.or b).cause = none) : a.cause = none ∧ b.cause = none := by
  unfold Ev.or at h
  simp only at h
  cases ha : a.cause with
  | none => rw [ha] at h; exact ⟨rfl, by simpa using h⟩
  | some x => rw [ha] at h; simp at h

section
variable (lk : Bytes → Lookup) (isReg : Bytes → Bool)

theorem evaluateE_ok_ind {R : Arg → Ev → Arg → Prop} {Rs : Args → Ev → Args → Prop}
    (const : ∀ v, R (.const v) ⟨false, none⟩ (.const v))
    (str : ∀ s, R (.str s) ⟨false, none⟩ (.str s))
    (reg : ∀ s, isReg s = true → R (.ident s) ⟨false, none⟩ (.ident s))
    (deferred : ∀ s, isReg s = false → lk s = .deferred → R (.ident s) ⟨false, some s⟩ (.ident s))
    (found : ∀ s v, isReg s = false → lk s = .found v → R (.ident s) ⟨true, none⟩ (.const v))
    (bin : ∀ op l r e1 l' e2 r' c a', evaluateE lk isReg l = .ok e1 l' → evaluateE lk isReg r = .ok e2 r' →
      R l e1 l' → R r e2 r' → simplifyRaw (.bin op l' r') = .ok (c, a') → R (.bin op l r) ((e1.or e2).or ⟨c, none⟩) a')
    (neg : ∀ v e1 v' c a', evaluateE lk isReg v = .ok e1 v' → R v e1 v' → simplifyRaw (.neg v') = .ok (c, a') →
      R (.neg v) (e1.or ⟨c, none⟩) a')
    (not : ∀ v e1 v' c a', evaluateE lk isReg v = .ok e1 v' → R v e1 v' → simplifyRaw (.not v') = .ok (c, a') →
      R (.not v) (e1.or ⟨c, none⟩) a')
    (addr : ∀ v e1 v' c a', evaluateE lk isReg v = .ok e1 v' → R v e1 v' → simplifyRaw (.addr v') = .ok (c, a') →
      R (.addr v) (e1.or ⟨c, none⟩) a')
    (seq : ∀ as ev as', Rs as ev as' → R (.seq as) ev (.seq as'))
    (func : ∀ f as ev as', Rs as ev as' → R (.func f as) ev (.func f as'))
    (nil : Rs .nil ⟨false, none⟩ .nil)
    (cons : ∀ a as e1 a' e2 as', R a e1 a' → Rs as e2 as' → Rs (.cons a as) (e1.or e2) (.cons a' as')) :
    (∀ a ev a', evaluateE lk isReg a = .ok ev a' → R a ev a') ∧
    (∀ as ev as', evaluateArgsE lk isReg as = .ok ev as' → Rs as ev as') := by
  apply Arg.ind2
  case const => intro v ev a' h; cases h; exact const v
  case str => intro s ev a' h; cases h; exact str s
  case ident =>
    intro s ev a' h
    simp only [evaluateE] at h
    cases hr : isReg s with
    | true => rw [hr] at h; cases h; exact reg s hr
    | false =>
      rw [hr] at h
      cases hl : lk s with
      | notFound => rw [hl] at h; cases h
      | deferred => rw [hl] at h; cases h; exact deferred s hr hl
      | found v => rw [hl] at h; cases h; exact found s v hr hl
  case bin =>
    intro op l r ihl ihr ev a' h
    simp only [evaluateE] at h
    cases h1 : evaluateE lk isReg l with
    | ok e1 l' =>
      rw [h1] at h
      cases h2 : evaluateE lk isReg r with
      | ok e2 r' =>
        rw [h2] at h
        obtain ⟨c, hs, rfl⟩ := afterRawE_ok h
        exact bin op l r e1 l' e2 r' c a' h1 h2 (ihl _ _ h1) (ihr _ _ h2) hs
      | _ => rw [h2] at h; cases h
    | _ => rw [h1] at h; cases h
  case neg =>
    intro v ih ev a' h
    simp only [evaluateE] at h
    cases h1 : evaluateE lk isReg v with
    | ok e1 v' => rw [h1] at h; obtain ⟨c, hs, rfl⟩ := afterRawE_ok h; exact neg v e1 v' c a' h1 (ih _ _ h1) hs
    | _ => rw [h1] at h; cases h
  case not =>
    intro v ih ev a' h
    simp only [evaluateE] at h
    cases h1 : evaluateE lk isReg v with
    | ok e1 v' => rw [h1] at h; obtain ⟨c, hs, rfl⟩ := afterRawE_ok h; exact not v e1 v' c a' h1 (ih _ _ h1) hs
    | _ => rw [h1] at h; cases h
  case addr =>
    intro v ih ev a' h
    simp only [evaluateE] at h
    cases h1 : evaluateE lk isReg v with
    | ok e1 v' => rw [h1] at h; obtain ⟨c, hs, rfl⟩ := afterRawE_ok h; exact addr v e1 v' c a' h1 (ih _ _ h1) hs
    | _ => rw [h1] at h; cases h
  case seq =>
    intro as ih ev a' h
    simp only [evaluateE] at h
    cases h1 : evaluateArgsE lk isReg as with
    | ok e1 as' => rw [h1] at h; cases h; exact seq as _ _ (ih _ _ h1)
    | _ => rw [h1] at h; cases h
  case func =>
    intro f as ih ev a' h
    simp only [evaluateE] at h
    cases h1 : evaluateArgsE lk isReg as with
    | ok e1 as' => rw [h1] at h; cases h; exact func f as _ _ (ih _ _ h1)
    | _ => rw [h1] at h; cases h
  case nil => intro ev as' h; cases h; exact nil
  case cons =>
    intro a as iha ihas ev as' h
    simp only [evaluateArgsE] at h
    cases h1 : evaluateE lk isReg a with
    | ok e1 a' =>
      rw [h1] at h
      cases h2 : evaluateArgsE lk isReg as with
      | ok e2 as2 => rw [h2] at h; cases h; exact cons a as e1 a' e2 as2 (iha _ _ h1) (ihas _ _ h2)
      | _ => rw [h2] at h; cases h
    | _ => rw [h1] at h; cases h

theorem evaluateE_ok_ind1 {R : Arg → Ev → Arg → Prop}
    (const : ∀ v, R (.const v) ⟨false, none⟩ (.const v))
    (str : ∀ s, R (.str s) ⟨false, none⟩ (.str s))
    (reg : ∀ s, isReg s = true → R (.ident s) ⟨false, none⟩ (.ident s))
    (deferred : ∀ s, isReg s = false → lk s = .deferred → R (.ident s) ⟨false, some s⟩ (.ident s))
    (found : ∀ s v, isReg s = false → lk s = .found v → R (.ident s) ⟨true, none⟩ (.const v))
    (bin : ∀ op l r e1 l' e2 r' c a', evaluateE lk isReg l = .ok e1 l' → evaluateE lk isReg r = .ok e2 r' →
      R l e1 l' → R r e2 r' → simplifyRaw (.bin op l' r') = .ok (c, a') → R (.bin op l r) ((e1.or e2).or ⟨c, none⟩) a')
    (neg : ∀ v e1 v' c a', evaluateE lk isReg v = .ok e1 v' → R v e1 v' → simplifyRaw (.neg v') = .ok (c, a') →
      R (.neg v) (e1.or ⟨c, none⟩) a')
    (not : ∀ v e1 v' c a', evaluateE lk isReg v = .ok e1 v' → R v e1 v' → simplifyRaw (.not v') = .ok (c, a') →
      R (.not v) (e1.or ⟨c, none⟩) a')
    (addr : ∀ v e1 v' c a', evaluateE lk isReg v = .ok e1 v' → R v e1 v' → simplifyRaw (.addr v') = .ok (c, a') →
      R (.addr v) (e1.or ⟨c, none⟩) a')
    (seq : ∀ as ev as', R (.seq as) ev (.seq as'))
    (func : ∀ f as ev as', R (.func f as) ev (.func f as')) :
    ∀ a ev a', evaluateE lk isReg a = .ok ev a' → R a ev a' :=
  (evaluateE_ok_ind lk isReg (Rs := fun _ _ _ => True) const str reg deferred found bin neg not addr
    (fun as ev as' _ => seq as ev as') (fun f as ev as' _ => func f as ev as') trivial (fun _ _ _ _ _ _ _ _ => trivial)).1

/-- induction over a complete run (`Ok` without a `Deferred` cause): no name met was `Deferred`, and every sub-run is
complete as well -/
theorem evaluateE_complete_ind {R : Arg → Ev → Arg → Prop} {Rs : Args → Ev → Args → Prop}
    (const : ∀ v, R (.const v) ⟨false, none⟩ (.const v))
    (str : ∀ s, R (.str s) ⟨false, none⟩ (.str s))
    (reg : ∀ s, isReg s = true → R (.ident s) ⟨false, none⟩ (.ident s))
    (found : ∀ s v, isReg s = false → lk s = .found v → R (.ident s) ⟨true, none⟩ (.const v))
    (bin : ∀ op l r e1 l' e2 r' c a', evaluateE lk isReg l = .ok e1 l' → evaluateE lk isReg r = .ok e2 r' →
      R l e1 l' → R r e2 r' → simplifyRaw (.bin op l' r') = .ok (c, a') → R (.bin op l r) ((e1.or e2).or ⟨c, none⟩) a')
    (neg : ∀ v e1 v' c a', evaluateE lk isReg v = .ok e1 v' → R v e1 v' → simplifyRaw (.neg v') = .ok (c, a') →
      R (.neg v) (e1.or ⟨c, none⟩) a')
    (not : ∀ v e1 v' c a', evaluateE lk isReg v = .ok e1 v' → R v e1 v' → simplifyRaw (.not v') = .ok (c, a') →
      R (.not v) (e1.or ⟨c, none⟩) a')
    (addr : ∀ v e1 v' c a', evaluateE lk isReg v = .ok e1 v' → R v e1 v' → simplifyRaw (.addr v') = .ok (c, a') →
      R (.addr v) (e1.or ⟨c, none⟩) a')
    (seq : ∀ as ev as', Rs as ev as' → R (.seq as) ev (.seq as'))
    (func : ∀ f as ev as', Rs as ev as' → R (.func f as) ev (.func f as'))
    (nil : Rs .nil ⟨false, none⟩ .nil)
    (cons : ∀ a as e1 a' e2 as', R a e1 a' → Rs as e2 as' → Rs (.cons a as) (e1.or e2) (.cons a' as')) :
    (∀ a ev a', evaluateE lk isReg a = .ok ev a' → ev.cause = none → R a ev a') ∧
    (∀ as ev as', evaluateArgsE lk isReg as = .ok ev as' → ev.cause = none → Rs as ev as') :=
  evaluateE_ok_ind lk isReg (R := fun a ev a' => ev.cause = none → R a ev a')
    (Rs := fun as ev as' => ev.cause = none → Rs as ev as')
    (fun v _ => const v) (fun s _ => str s) (fun s hr _ => reg s hr) (fun _ _ _ hc => by cases hc)
    (fun s v hr hl _ => found s v hr hl)
    (fun op l r e1 l' e2 r' c a' h1 h2 ihl ihr hs hc =>
      have hc12 := Ev.or_cause_none (Ev.or_cause_none hc).1
      bin op l r e1 l' e2 r' c a' h1 h2 (ihl hc12.1) (ihr hc12.2) hs)
    (fun v e1 v' c a' h1 ih hs hc => neg v e1 v' c a' h1 (ih (Ev.or_cause_none hc).1) hs)
    (fun v e1 v' c a' h1 ih hs hc => not v e1 v' c a' h1 (ih (Ev.or_cause_none hc).1) hs)
    (fun v e1 v' c a' h1 ih hs hc => addr v e1 v' c a' h1 (ih (Ev.or_cause_none hc).1) hs)
    (fun as ev as' ih hc => seq as ev as' (ih hc)) (fun f as ev as' ih hc => func f as ev as' (ih hc))
    (fun _ => nil)
    (fun a as e1 a' e2 as' iha ihas hc =>
      cons a as e1 a' e2 as' (iha (Ev.or_cause_none hc).1) (ihas (Ev.or_cause_none hc).2))

theorem evaluateE_nosuch_ind {R : Arg → Bytes → Arg → Prop} {Rs : Args → Bytes → Args → Prop}
    (ident : ∀ s, isReg s = false → lk s = .notFound → R (.ident s) s (.ident s))
    (binL : ∀ op l r n l₁, evaluateE lk isReg l = .nosuch n l₁ → R l n l₁ → R (.bin op l r) n (.bin op l₁ r))
    (binR : ∀ op l r e1 l' n r₁, evaluateE lk isReg l = .ok e1 l' → evaluateE lk isReg r = .nosuch n r₁ → R r n r₁ →
      R (.bin op l r) n (.bin op l' r₁))
    (neg : ∀ v n v₁, R v n v₁ → R (.neg v) n (.neg v₁))
    (not : ∀ v n v₁, R v n v₁ → R (.not v) n (.not v₁))
    (addr : ∀ v n v₁, R v n v₁ → R (.addr v) n (.addr v₁))
    (seq : ∀ as n as₁, Rs as n as₁ → R (.seq as) n (.seq as₁))
    (func : ∀ f as n as₁, Rs as n as₁ → R (.func f as) n (.func f as₁))
    (consL : ∀ a as n a₁, R a n a₁ → Rs (.cons a as) n (.cons a₁ as))
    (consR : ∀ a as e1 a' n as₁, evaluateE lk isReg a = .ok e1 a' → evaluateArgsE lk isReg as = .nosuch n as₁ →
      Rs as n as₁ → Rs (.cons a as) n (.cons a' as₁)) :
    (∀ a n a₁, evaluateE lk isReg a = .nosuch n a₁ → R a n a₁) ∧
    (∀ as n as₁, evaluateArgsE lk isReg as = .nosuch n as₁ → Rs as n as₁) := by
  apply Arg.ind2
  case const => intro v n a₁ h; cases h
  case str => intro s n a₁ h; cases h
  case ident =>
    intro s n a₁ h
    simp only [evaluateE] at h
    cases hr : isReg s with
    | true => rw [hr] at h; cases h
    | false =>
      rw [hr] at h
      cases hl : lk s with
      | notFound => rw [hl] at h; cases h; exact ident s hr hl
      | deferred => rw [hl] at h; cases h
      | found v => rw [hl] at h; cases h
  case bin =>
    intro op l r ihl ihr n a₁ h
    simp only [evaluateE] at h
    cases h1 : evaluateE lk isReg l with
    | ok e1 l' =>
      rw [h1] at h
      cases h2 : evaluateE lk isReg r with
      | ok e2 r' => rw [h2] at h; exact absurd h afterRawE_not_nosuch
      | nosuch m r₁ => rw [h2] at h; cases h; exact binR op l r e1 l' _ r₁ h1 h2 (ihr _ _ h2)
      | _ => rw [h2] at h; cases h
    | nosuch m l₁ => rw [h1] at h; cases h; exact binL op l r _ l₁ h1 (ihl _ _ h1)
    | _ => rw [h1] at h; cases h
  case neg =>
    intro v ih n a₁ h
    simp only [evaluateE] at h
    cases h1 : evaluateE lk isReg v with
    | ok e1 l' => rw [h1] at h; exact absurd h afterRawE_not_nosuch
    | nosuch m v₁ => rw [h1] at h; cases h; exact neg v _ v₁ (ih _ _ h1)
    | _ => rw [h1] at h; cases h
  case not =>
    intro v ih n a₁ h
    simp only [evaluateE] at h
    cases h1 : evaluateE lk isReg v with
    | ok e1 l' => rw [h1] at h; exact absurd h afterRawE_not_nosuch
    | nosuch m v₁ => rw [h1] at h; cases h; exact not v _ v₁ (ih _ _ h1)
    | _ => rw [h1] at h; cases h
  case addr =>
    intro v ih n a₁ h
    simp only [evaluateE] at h
    cases h1 : evaluateE lk isReg v with
    | ok e1 l' => rw [h1] at h; exact absurd h afterRawE_not_nosuch
    | nosuch m v₁ => rw [h1] at h; cases h; exact addr v _ v₁ (ih _ _ h1)
    | _ => rw [h1] at h; cases h
  case seq =>
    intro as ih n a₁ h
    simp only [evaluateE] at h
    cases h1 : evaluateArgsE lk isReg as with
    | ok e1 l' => rw [h1] at h; cases h
    | nosuch m as₁ => rw [h1] at h; cases h; exact seq as _ as₁ (ih _ _ h1)
    | _ => rw [h1] at h; cases h
  case func =>
    intro f as ih n a₁ h
    simp only [evaluateE] at h
    cases h1 : evaluateArgsE lk isReg as with
    | ok e1 l' => rw [h1] at h; cases h
    | nosuch m as₁ => rw [h1] at h; cases h; exact func f as _ as₁ (ih _ _ h1)
    | _ => rw [h1] at h; cases h
  case nil => intro n as₁ h; cases h
  case cons =>
    intro a as iha ihas n as₁ h
    simp only [evaluateArgsE] at h
    cases h1 : evaluateE lk isReg a with
    | ok e1 a' =>
      rw [h1] at h
      cases h2 : evaluateArgsE lk isReg as with
      | ok e2 r' => rw [h2] at h; cases h
      | nosuch m r₁ => rw [h2] at h; cases h; exact consR a as e1 a' _ r₁ h1 h2 (ihas _ _ h2)
      | _ => rw [h2] at h; cases h
    | nosuch m a₁ => rw [h1] at h; cases h; exact consL a as _ a₁ (iha _ _ h1)
    | _ => rw [h1] at h; cases h

theorem evaluateE_err_ind {R : Arg → SimpErr → Arg → Prop} {Rs : Args → SimpErr → Args → Prop}
    (binL : ∀ op l r e t, R l e t → R (.bin op l r) e (.bin op t r))
    (binR : ∀ op l r e1 l' e t, evaluateE lk isReg l = .ok e1 l' → R r e t → R (.bin op l r) e (.bin op l' t))
    (binRaw : ∀ op l r e1 l' e2 r' e t, evaluateE lk isReg l = .ok e1 l' → evaluateE lk isReg r = .ok e2 r' →
      simplifyRawE (.bin op l' r') = .err e t → R (.bin op l r) e t)
    (neg : ∀ v e t, R v e t → R (.neg v) e (.neg t))
    (negRaw : ∀ v e1 v' e t, evaluateE lk isReg v = .ok e1 v' → simplifyRawE (.neg v') = .err e t → R (.neg v) e t)
    (not : ∀ v e t, R v e t → R (.not v) e (.not t))
    (notRaw : ∀ v e1 v' e t, evaluateE lk isReg v = .ok e1 v' → simplifyRawE (.not v') = .err e t → R (.not v) e t)
    (addr : ∀ v e t, R v e t → R (.addr v) e (.addr t))
    (addrRaw : ∀ v e1 v' e t, evaluateE lk isReg v = .ok e1 v' → simplifyRawE (.addr v') = .err e t → R (.addr v) e t)
    (seq : ∀ as e t, Rs as e t → R (.seq as) e (.seq t))
    (func : ∀ f as e t, Rs as e t → R (.func f as) e (.func f t))
    (consL : ∀ a as e t, R a e t → Rs (.cons a as) e (.cons t as))
    (consR : ∀ a as e1 a' e t, evaluateE lk isReg a = .ok e1 a' → Rs as e t → Rs (.cons a as) e (.cons a' t)) :
    (∀ a e t, evaluateE lk isReg a = .err e t → R a e t) ∧
    (∀ as e t, evaluateArgsE lk isReg as = .err e t → Rs as e t) := by
  apply Arg.ind2
  case const => intro v e t h; cases h
  case str => intro s e t h; cases h
  case ident =>
    intro s e t h
    simp only [evaluateE] at h
    split at h
    · cases h
    · cases hl : lk s <;> rw [hl] at h <;> cases h
  case bin =>
    intro op l r ihl ihr e t h
    simp only [evaluateE] at h
    cases h1 : evaluateE lk isReg l with
    | ok e1 l' =>
      rw [h1] at h
      cases h2 : evaluateE lk isReg r with
      | ok e2 r' => rw [h2] at h; exact binRaw op l r e1 l' e2 r' e t h1 h2 (afterRawE_err h)
      | err e' r' => rw [h2] at h; cases h; exact binR op l r e1 l' _ r' h1 (ihr _ _ h2)
      | _ => rw [h2] at h; cases h
    | err e' l' => rw [h1] at h; cases h; exact binL op l r _ l' (ihl _ _ h1)
    | _ => rw [h1] at h; cases h
  case neg =>
    intro v ih e t h
    simp only [evaluateE] at h
    cases h1 : evaluateE lk isReg v with
    | ok e1 v' => rw [h1] at h; exact negRaw v e1 v' e t h1 (afterRawE_err h)
    | err e' v' => rw [h1] at h; cases h; exact neg v _ v' (ih _ _ h1)
    | _ => rw [h1] at h; cases h
  case not =>
    intro v ih e t h
    simp only [evaluateE] at h
    cases h1 : evaluateE lk isReg v with
    | ok e1 v' => rw [h1] at h; exact notRaw v e1 v' e t h1 (afterRawE_err h)
    | err e' v' => rw [h1] at h; cases h; exact not v _ v' (ih _ _ h1)
    | _ => rw [h1] at h; cases h
  case addr =>
    intro v ih e t h
    simp only [evaluateE] at h
    cases h1 : evaluateE lk isReg v with
    | ok e1 v' => rw [h1] at h; exact addrRaw v e1 v' e t h1 (afterRawE_err h)
    | err e' v' => rw [h1] at h; cases h; exact addr v _ v' (ih _ _ h1)
    | _ => rw [h1] at h; cases h
  case seq =>
    intro as ih e t h
    simp only [evaluateE] at h
    cases h1 : evaluateArgsE lk isReg as with
    | err e' as' => rw [h1] at h; cases h; exact seq as _ as' (ih _ _ h1)
    | _ => rw [h1] at h; cases h
  case func =>
    intro f as ih e t h
    simp only [evaluateE] at h
    cases h1 : evaluateArgsE lk isReg as with
    | err e' as' => rw [h1] at h; cases h; exact func f as _ as' (ih _ _ h1)
    | _ => rw [h1] at h; cases h
  case nil => intro e t h; cases h
  case cons =>
    intro a as iha ihas e t h
    simp only [evaluateArgsE] at h
    cases h1 : evaluateE lk isReg a with
    | ok e1 a' =>
      rw [h1] at h
      cases h2 : evaluateArgsE lk isReg as with
      | err e' as' => rw [h2] at h; cases h; exact consR a as e1 a' _ as' h1 (ihas _ _ h2)
      | _ => rw [h2] at h; cases h
    | err e' a' => rw [h1] at h; cases h; exact consL a as _ a' (iha _ _ h1)
    | _ => rw [h1] at h; cases h

end

/-! ## `simplify` is `evaluate` over a table that defers every name -/

/-- `NoSuchVariable` has no counterpart: it does not occur over a table that defers every name -/
def ERes.toRes {α : Type} : ERes (Ev × α) → Res (Bool × α)
  | .ok (ev, a) => .ok (ev.changed, a)
  | .err (.simp e) => .err e
  | .err (.noSuchVar _) => .panic
  | .panic => .panic

def deferAll : Bytes → Lookup := fun _ => .deferred

theorem simplify_eq_evaluate_both (isReg : Bytes → Bool) :
    (∀ a, simplify a = (evaluate deferAll isReg a).toRes) ∧
    (∀ as, simplifyArgs as = (evaluateArgs deferAll isReg as).toRes) := by
  apply Arg.ind2
  case const => intro v; rfl
  case str => intro v; rfl
  case ident => intro s; simp only [simplify, evaluate, deferAll]; split <;> rfl
  case bin =>
    intro op l r ihl ihr
    simp only [simplify, evaluate]
    rw [ihl, ihr]
    cases evaluate deferAll isReg l with
    | ok p =>
      cases evaluate deferAll isReg r with
      | ok q => simp only [ERes.toRes, afterRaw]; cases simplifyRaw (.bin op p.2 q.2) <;> rfl
      | err e => cases e <;> rfl
      | panic => rfl
    | err e => cases e <;> rfl
    | panic => rfl
  case neg =>
    intro v ih
    simp only [simplify, evaluate]
    rw [ih]
    cases evaluate deferAll isReg v with
    | ok p => simp only [ERes.toRes, afterRaw]; cases simplifyRaw (.neg p.2) <;> rfl
    | err e => cases e <;> rfl
    | panic => rfl
  case not =>
    intro v ih
    simp only [simplify, evaluate]
    rw [ih]
    cases evaluate deferAll isReg v with
    | ok p => simp only [ERes.toRes, afterRaw]; cases simplifyRaw (.not p.2) <;> rfl
    | err e => cases e <;> rfl
    | panic => rfl
  case addr =>
    intro v ih
    simp only [simplify, evaluate]
    rw [ih]
    cases evaluate deferAll isReg v with
    | ok p => simp only [ERes.toRes, afterRaw]; cases simplifyRaw (.addr p.2) <;> rfl
    | err e => cases e <;> rfl
    | panic => rfl
  case seq =>
    intro as ih
    simp only [simplify, evaluate]
    rw [ih]
    cases evaluateArgs deferAll isReg as with
    | err e => cases e <;> rfl
    | _ => rfl
  case func =>
    intro f as ih
    simp only [simplify, evaluate]
    rw [ih]
    cases evaluateArgs deferAll isReg as with
    | err e => cases e <;> rfl
    | _ => rfl
  case nil => rfl
  case cons =>
    intro a as iha ihas
    simp only [simplifyArgs, evaluateArgs]
    rw [iha, ihas]
    cases evaluate deferAll isReg a with
    | ok p =>
      cases evaluateArgs deferAll isReg as with
      | ok q => rfl
      | err e => cases e <;> rfl
      | panic => rfl
    | err e => cases e <;> rfl
    | panic => rfl

theorem evaluateE_deferAll_not_nosuch (isReg : Bytes → Bool) (a : Arg) (n : Bytes) (t : Arg) :
    evaluateE deferAll isReg a ≠ .nosuch n t := fun h =>
  (evaluateE_nosuch_ind deferAll isReg (R := fun _ _ _ => False) (Rs := fun _ _ _ => False)
    (fun _ _ h => by cases h) (fun _ _ _ _ _ _ h => h) (fun _ _ _ _ _ _ _ _ _ h => h) (fun _ _ _ h => h)
    (fun _ _ _ h => h) (fun _ _ _ h => h) (fun _ _ _ h => h) (fun _ _ _ _ h => h) (fun _ _ _ _ h => h)
    (fun _ _ _ _ _ _ _ _ h => h)).1 a n t h

theorem simplify_ok_iff (isReg : Bytes → Bool) {a : Arg} {c : Bool} {a' : Arg} :
    simplify a = .ok (c, a') ↔ ∃ ev, evaluateE deferAll isReg a = .ok ev a' ∧ ev.changed = c := by
  rw [(simplify_eq_evaluate_both isReg).1, ← evaluateE_is_evaluate]
  cases h : evaluateE deferAll isReg a with
  | ok ev t =>
    simp only [EvE.toT, EvT.toERes, ERes.toRes, Res.ok.injEq, Prod.mk.injEq, EvE.ok.injEq]
    exact ⟨fun ⟨h1, h2⟩ => ⟨ev, ⟨rfl, h2⟩, h1⟩, fun ⟨_, ⟨h0, h2⟩, h1⟩ => ⟨h0 ▸ h1, h2⟩⟩
  | _ => simp [EvE.toT, EvT.toERes, ERes.toRes]

end Trion.Simp
