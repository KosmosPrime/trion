import TrionModel.Lemmas.LexUtf8
/-!
# Texts given as a list of pieces (white space / one token each): definitions

`Piece.ws w` is a run of white space, `Piece.tok bs t` the bytes of one token with the token it must yield.
`Valid ps nx` says that every piece is what it claims to be, given the byte that follows it (`nx` follows the whole
list). That the tokenizer reads such a text back is `tokens_pieces` (`Lemmas/LexFrame.lean`; the table there says how
pieces relate to layouts). `identStart`, `identOk` — what an identifier is — are here too; `Spell.ident`
(`Lemmas/LexLayoutDef.lean`) uses them.
-/
namespace Trion.Lex
open Trion.Pos (adv isCont)

inductive Piece where
  | ws (w : Bytes)
  | tok (bs : Bytes) (t : Tok)
deriving Repr

def Piece.bytes : Piece → Bytes
  | .ws w => w
  | .tok bs _ => bs

def pbytes : List Piece → Bytes
  | [] => []
  | p :: r => p.bytes ++ pbytes r

def tokVals : List Piece → List Tok
  | [] => []
  | .ws _ :: r => tokVals r
  | .tok _ t :: r => t :: tokVals r

/-- the tokens the specification assigns to the pieces when the first of them starts at position `p` (line, column): each
token piece sits where `adv` over the pieces before it leads -/
def lexed : Nat × Nat → List Piece → List Token
  | _, [] => []
  | p, .ws w :: r => lexed (adv p w) r
  | p, .tok bs t :: r => ⟨p.1, p.2, t⟩ :: lexed (adv p bs) r

theorem pbytes_append (a b : List Piece) : pbytes (a ++ b) = pbytes a ++ pbytes b := by
  induction a with
  | nil => rfl
  | cons p r ih => simp [pbytes, ih]

theorem tokVals_append (a b : List Piece) : tokVals (a ++ b) = tokVals a ++ tokVals b := by
  induction a with
  | nil => rfl
  | cons p r ih => cases p <;> simp [tokVals, ih]

theorem lexed_vals (p : Nat × Nat) (ps : List Piece) : (lexed p ps).map (·.val) = tokVals ps := by
  induction ps generalizing p with
  | nil => rfl
  | cons q r ih => cases q <;> simp [lexed, tokVals, ih]

/-- first byte of an identifier: a letter or the underscore -/
def identStart (b : UInt8) : Bool :=
  let c := b.toNat
  (decide (65 ≤ c) && decide (c ≤ 90)) || c == 95 || (decide (97 ≤ c) && decide (c ≤ 122))

/-- a non-empty identifier: a letter or `_`, then letters, digits, `_`, `.`, `$`, `@` -/
def identOk : Bytes → Bool
  | [] => false
  | b0 :: tl => identStart b0 && tl.all isIdentByte

/-- `Spell` restricted to one-byte punctuation other than `/`, identifiers and integers (`spell_of_tokOk`,
`Lemmas/LexFrame.lean`); the last argument is the byte that follows -/
inductive TokOk : Bytes → Tok → Option UInt8 → Prop
  | punct (c : UInt8) (t : Tok) (nx : Option UInt8) : punct c.toNat = some t → c.toNat ≠ 47 → TokOk [c] t nx
  | ident (s : Bytes) (nx : Option UInt8) : identOk s = true → Follow nx → TokOk s (.ident s) nx
  | num (r : Nat) (ds : Bytes) (v : Int) (nx : Option UInt8) : (r = 2 ∨ r = 8 ∨ r = 10 ∨ r = 16) → ds ≠ [] →
      (∀ b ∈ ds, isDigit r b = true) → i64FromStrRadix ds r = some v → Follow nx →
      TokOk (radixPrefix r ++ ds) (.num v) nx

/-- the byte that follows when `d` comes next and `nx` comes after `d`: the first byte of `d`, or `nx` if `d` is empty -/
def firstOr (d : Bytes) (nx : Option UInt8) : Option UInt8 :=
  match d with
  | [] => nx
  | b :: _ => some b

theorem firstOr_append (a b : Bytes) (nx : Option UInt8) : firstOr (a ++ b) nx = firstOr a (firstOr b nx) := by
  cases a <;> rfl

def Valid : List Piece → Option UInt8 → Prop
  | [], _ => True
  | .ws w :: r, nx => (∀ x ∈ w, isSpace x = true) ∧ Valid r nx
  | .tok bs t :: r, nx => TokOk bs t (firstOr (pbytes r) nx) ∧ Valid r nx

theorem valid_append {a b : List Piece} {nx : Option UInt8} (ha : Valid a (firstOr (pbytes b) nx)) (hb : Valid b nx) :
    Valid (a ++ b) nx := by
  induction a with
  | nil => exact hb
  | cons p r ih =>
    cases p with
    | ws w => exact ⟨ha.1, ih ha.2⟩
    | tok bs t =>
      refine ⟨?_, ih ha.2⟩
      show TokOk bs t (firstOr (pbytes (r ++ b)) nx)
      rw [pbytes_append, firstOr_append]
      exact ha.1

theorem identOk_bytes {s : Bytes} (h : identOk s = true) : ∀ b ∈ s, isIdentByte b = true := by
  cases s with
  | nil => simp [identOk] at h
  | cons b0 tl =>
    simp only [identOk, Bool.and_eq_true, List.all_eq_true] at h
    intro b hb
    simp at hb
    rcases hb with rfl | hb
    · have := h.1
      simp [identStart] at this
      simp [isIdentByte]
      omega
    · exact h.2 b hb

theorem utf8_of_ascii (d : Bytes) (h : ∀ b ∈ d, b.toNat < 128) : Utf8 d := by
  have := utf8_ascii_append d h Utf8.nil
  simpa using this

theorem firstOr_none (d : Bytes) : firstOr d none = d.head? := by cases d <;> rfl

theorem tokOk_weaken {bs : Bytes} {t : Tok} {d : Bytes} {nx : Option UInt8} (h : TokOk bs t (firstOr d nx))
    (hd : d ≠ [] ∨ nx = none) : TokOk bs t d.head? := by
  cases d with
  | nil =>
    rcases hd with hd | hd
    · exact absurd rfl hd
    · subst hd; exact h
  | cons b r => exact h

end Trion.Lex
