import TrionModel.Lemmas.AsmScope
/-!
# `Trion.Asm` and `Trion.Scope`: the scope machine is the scope-relevant projection of the whole-pipeline model

`scopeOf st env : Scope.State` keeps what the scope machine tracks of a context of the whole-pipeline model: both
tables, both task queues (a closure of `.global` as itself, a retried statement as an opaque retry), the depth of the
path stack, and of the diagnostics those of the scope classes (`kindOf`).  The frame stack of `Scope` has no
counterpart in `St` — in `Asm` the saved tables live in the activations of `assembleFile` — so the simulation is stated
for what happens INSIDE one activation: the four table primitives, labels, `.const`, `.global`, `.import`, `.export`, the
closure of `.global`, and the swap on entering a file.

Each `sim_*` theorem is a commuting square: running the `Scope` function on `scopeOf st env` gives `scopeOf` of the state
the `Asm` function produces, with the same result level and the same diagnostic class; a panic of one side is a panic of
the other.  The register predicate of the two models is the same function (`isReg_eq`).

`statement_scope` / `runTask_scope` put the squares together: every statement but `.include`, and every task, either is
`Quiet` or is a statement (task) of the scope machine on the projection (with the literal appends `Adds`, since `taskOf` forgets
where a closure was queued).  Through them what a statement does to the two
tables is taken from `Lemmas/ScopeFrame.lean` and `Lemmas/ScopeRun.lean` instead of being proved again for `Asm`
(`statement_rel`, `isolation_asm_statement`).  Only facts about `stmt` / `runTask` carry over: `scopeOf` has no frames, so
`Scope.step` ignores statements on it, and `.include` is a recursive call here and `enter … exit` there.
-/
namespace Trion.Asm
open Trion

theorem upper_eq (b : UInt8) : Scope.upper b = Front.upperByte b := by
  unfold Scope.upper Front.upperByte
  split
  · rename_i h
    apply UInt8.toNat_inj.mp
    have : (32 : UInt8) ≤ b := by
      rw [UInt8.le_iff_toNat_le]; simp; omega
    rw [UInt8.toNat_sub_of_le _ _ this]
    simp
    have := b.toNat_lt
    omega
  · rfl

theorem lookup_isSome {β : Type} (l : List (Bytes × β)) (k : Bytes) :
    (l.lookup k).isSome = (l.map (·.1)).contains k := by
  induction l with
  | nil => rfl
  | cons p l ih =>
    obtain ⟨a, b⟩ := p
    simp only [List.lookup, List.map_cons, List.contains_cons]
    by_cases h : k = a
    · subst h; simp
    · have : (k == a) = false := by simpa using h
      simp [this, ih]

/-- `Arm6M::is_register` is modelled by the same function in both models -/
theorem isReg_eq (n : Bytes) : Scope.isReg n = Front.isRegister n := by
  unfold Scope.isReg Front.isRegister
  have hu : n.map Scope.upper = Front.upper n := by
    unfold Front.upper
    exact List.map_congr_left (fun b _ => upper_eq b)
  rw [hu]
  by_cases h : n.length ≤ 8
  · simp only [h, decide_true, Bool.true_and, if_true]
    rw [lookup_isSome, lookup_isSome, ← List.contains_append]
    rfl
  · simp [h]

def realmOf : Realm → Scope.Realm
  | .global => .global
  | .loc => .loc

def lookupOf : Simp.Lookup → Scope.Lookup
  | .notFound => .notFound
  | .deferred => .deferred
  | .found v => .found v

def levelOf : Level → Scope.Level
  | .trivial => .trivial
  | .fatal => .fatal

def resOf : Res → Option Scope.Level
  | .ok => none
  | .err l => some (levelOf l)

def cerrOf : CErr → Scope.CErr
  | .reserved => .reserved
  | .duplicate r => .duplicate (realmOf r)

def exceptOf {α : Type} : Except CErr α → Except Scope.CErr α
  | .ok a => .ok a
  | .error e => .error (cerrOf e)

/-- the scope class of a diagnostic of the pipeline (`none`: not a scope diagnostic) -/
def kindOf : Kind → Option Scope.Kind
  | .label (.constDuplicate _ r) => some (Scope.dupKind (realmOf r))
  | .label (.constReserved _) => some .reserved
  | .dirApply _ (.constReserved _) => some .reserved
  | .dirApply _ (.constDirDuplicate _) => some .dupConst
  | .dirApply _ (.globalNotFound _ r) => some (Scope.nfKind (realmOf r))
  | .dirApply _ (.globalDeferred _ r) => some (Scope.defKind (realmOf r))
  | .dirApply _ (.globalDuplicate _ r) => some (Scope.dupKind (realmOf r))
  | .dirApply _ (.includeFailed _) => some .asmFailed
  | _ => none

def taskOf : Task → Scope.Task
  | .globalCopy n _ _ => .globalCopy n 0
  | .data _ g => .use [] none 0 g
  | .instr _ g => .use [] none 0 g

def evOf (d : Diag) : Option Scope.Ev := (kindOf d.kind).map (Scope.Ev.diag 0)

def scopeOf (st : St) (env : Env) : Scope.State :=
  { depth := env.paths.length, globals := st.globals, locals := st.locals,
    globalTasks := st.globalTasks.map taskOf, localTasks := st.localTasks.map (·.map taskOf),
    frames := [], mode := .running, log := st.errors.filterMap evOf }

theorem get_eq (t : Table) (n : Bytes) : Scope.Table.get t n = lookupOf (Table.get t n) := by
  unfold Scope.Table.get Table.get
  rw [find_eq]
  split <;> simp_all [lookupOf]

theorem scopeOf_push_some {st : St} {env : Env} {line col : Nat} {k : Kind} {k' : Scope.Kind} (h : kindOf k = some k') :
    scopeOf (st.push env line col k) env = (scopeOf st env).err 0 k' := by
  simp [scopeOf, St.push, St.pushIn, Scope.State.err, evOf, h]

theorem scopeOf_push (st : St) (env : Env) (line col : Nat) (k : Kind) :
    scopeOf (st.push env line col k) env =
      match kindOf k with
      | some k' => (scopeOf st env).err 0 k'
      | none => scopeOf st env := by
  cases h : kindOf k <;> simp [scopeOf, St.push, St.pushIn, Scope.State.err, evOf, h]

theorem sim_getConstant (st : St) (env : Env) (n : Bytes) (r : Realm) :
    Scope.getConstant (scopeOf st env) n (realmOf r) =
      match getConstant st n r with
      | .ok lk => .ok (lookupOf lk)
      | .stop _ => .error .noLocalScope := by
  cases r with
  | global => simp [Scope.getConstant, getConstant, realmOf, scopeOf, get_eq]
  | loc =>
    cases hl : st.locals with
    | none => simp [Scope.getConstant, getConstant, realmOf, scopeOf, hl]
    | some l => simp [Scope.getConstant, getConstant, realmOf, scopeOf, hl, get_eq]

theorem sim_insertConstant (st : St) (env : Env) (n : Bytes) (v : Int) (r : Realm) :
    Scope.insertConstant (scopeOf st env) n v (realmOf r) =
      match insertConstant st n v r with
      | .ok (st', x) => .ok (scopeOf st' env, exceptOf x)
      | .stop _ => .error .noLocalScope := by
  unfold Scope.insertConstant insertConstant
  rw [isReg_eq]
  cases hr : Front.isRegister n with
  | true => simp [exceptOf, cerrOf]
  | false =>
    cases r with
    | global =>
      simp only [realmOf, scopeOf, find_eq, set_eq, Bool.false_eq_true, if_false]
      cases hf : Table.find st.globals n with
      | none => simp [exceptOf]
      | some e => cases e <;> simp [exceptOf, cerrOf, realmOf]
    | loc =>
      simp only [realmOf, scopeOf, Bool.false_eq_true, if_false]
      cases hl : st.locals with
      | none => simp
      | some l =>
        simp only [find_eq, set_eq]
        cases hf : Table.find l n with
        | none => simp [exceptOf]
        | some e => cases e <;> simp [exceptOf, cerrOf, realmOf, hl]

theorem sim_deferConstant (st : St) (env : Env) (n : Bytes) (r : Realm) :
    Scope.deferConstant (scopeOf st env) n (realmOf r) =
      match deferConstant st n r with
      | .ok (st', x) => .ok (scopeOf st' env, exceptOf x)
      | .stop _ => .error .noLocalScope := by
  unfold Scope.deferConstant deferConstant
  rw [isReg_eq]
  cases hr : Front.isRegister n with
  | true => simp [exceptOf, cerrOf]
  | false =>
    cases r with
    | global =>
      simp only [realmOf, scopeOf, find_eq, set_eq, Bool.false_eq_true, if_false]
      cases hf : Table.find st.globals n with
      | none => simp [exceptOf]
      | some e => simp [exceptOf, cerrOf, realmOf]
    | loc =>
      simp only [realmOf, scopeOf, Bool.false_eq_true, if_false]
      cases hl : st.locals with
      | none => simp
      | some l =>
        simp only [find_eq, set_eq]
        cases hf : Table.find l n with
        | none => simp [exceptOf]
        | some e => simp [exceptOf, cerrOf, realmOf, hl]

theorem sim_addTask (st : St) (env : Env) (t : Task) (r : Realm) :
    Scope.addTask (scopeOf st env) (taskOf t) (realmOf r) =
      match addTask st t r with
      | .ok st' => .ok (scopeOf st' env)
      | .stop _ => .error .noLocalScope := by
  cases r with
  | global => simp [Scope.addTask, addTask, realmOf, scopeOf]
  | loc =>
    cases hl : st.localTasks with
    | none => simp [Scope.addTask, addTask, realmOf, scopeOf, hl]
    | some l => simp [Scope.addTask, addTask, realmOf, scopeOf, hl]

/-- entering a file: the `mem::replace` swaps of both models act alike on tables and queues -/
theorem sim_enterFile (st : St) (env : Env) (tag : Nat) (path : Bytes) :
    let s' := Scope.enterFile (scopeOf st env) tag
    let st2 := (enterFile st).2.2
    s'.globals = st2.globals ∧ s'.locals = st2.locals ∧ s'.globalTasks = st2.globalTasks.map taskOf ∧
    s'.localTasks = st2.localTasks.map (·.map taskOf) ∧
    s'.depth = (⟨path :: env.paths, path⟩ : Env).paths.length ∧
    (s'.frames.head?.map (·.constants)) = some (enterFile st).1 ∧
    (s'.frames.head?.map (·.tasks)) = some ((enterFile st).2.1.map (·.map taskOf)) := by
  unfold Scope.enterFile enterFile scopeOf
  cases st.locals <;> cases st.localTasks <;> simp

def outOf (env : Env) : Out (St × Res) → Option (Scope.State × Option Scope.Level)
  | .ok (st, r) => some (scopeOf st env, resOf r)
  | .stop _ => none

def exOf : Except Scope.Panic (Scope.State × Option Scope.Level) → Option (Scope.State × Option Scope.Level)
  | .ok x => some x
  | .error _ => none

theorem realm_loc : Scope.Realm.loc = realmOf .loc := rfl
theorem realm_global : Scope.Realm.global = realmOf .global := rfl

theorem sim_export (st : St) (env : Env) (line col : Nat) (n : Bytes) :
    exOf (Scope.doExport (scopeOf st env) n 0) = outOf env (globalDirective .export_ env st line col [.ident n]) := by
  unfold Scope.doExport globalDirective
  simp only [arity, List.length_cons, List.length_nil, Nat.zero_add, if_true]
  rw [realm_loc, sim_getConstant]
  cases hg : getConstant st n .loc with
  | stop r => simp [exOf, outOf]
  | ok lk =>
    cases lk with
    | notFound => simp [lookupOf, exOf, outOf, resOf, levelOf, scopeOf_push, kindOf, realmOf, Scope.nfKind]
    | deferred => simp [lookupOf, exOf, outOf, resOf, levelOf, scopeOf_push, kindOf, realmOf, Scope.defKind]
    | found v =>
      simp only [lookupOf]
      rw [realm_global, sim_insertConstant]
      cases hi : insertConstant st n v .global with
      | stop r => simp [exOf, outOf]
      | ok p =>
        obtain ⟨st1, x⟩ := p
        cases x with
        | ok b => simp [exceptOf, exOf, outOf, resOf]
        | error e =>
          cases e with
          | reserved => simp [exceptOf, cerrOf, exOf, outOf]
          | duplicate r => simp [exceptOf, cerrOf, exOf, outOf, resOf, levelOf, scopeOf_push, kindOf]

theorem sim_import (st : St) (env : Env) (line col : Nat) (n : Bytes) :
    exOf (Scope.doImport (scopeOf st env) n 0) = outOf env (globalDirective .import_ env st line col [.ident n]) := by
  unfold Scope.doImport globalDirective
  simp only [arity, List.length_cons, List.length_nil, Nat.zero_add, if_true, reduceCtorEq, if_false]
  rw [realm_global, sim_getConstant]
  cases hg : getConstant st n .global with
  | stop r => simp [exOf, outOf]
  | ok lk =>
    cases lk with
    | notFound => simp [lookupOf, exOf, outOf, resOf, levelOf, scopeOf_push, kindOf, realmOf, Scope.nfKind]
    | deferred =>
      simp only [lookupOf]
      rw [realm_loc, sim_deferConstant]
      cases hi : deferConstant st n .loc with
      | stop r => simp [exOf, outOf]
      | ok p =>
        obtain ⟨st1, x⟩ := p
        cases x with
        | ok b => simp [exceptOf, exOf, outOf, resOf]
        | error e =>
          cases e with
          | reserved => simp [exceptOf, cerrOf, exOf, outOf]
          | duplicate r => simp [exceptOf, cerrOf, exOf, outOf, resOf, levelOf, scopeOf_push, kindOf]
    | found v =>
      simp only [lookupOf]
      rw [realm_loc, sim_insertConstant]
      cases hi : insertConstant st n v .loc with
      | stop r => simp [exOf, outOf]
      | ok p =>
        obtain ⟨st1, x⟩ := p
        cases x with
        | ok b => simp [exceptOf, exOf, outOf, resOf]
        | error e =>
          cases e with
          | reserved => simp [exceptOf, cerrOf, exOf, outOf]
          | duplicate r => simp [exceptOf, cerrOf, exOf, outOf, resOf, levelOf, scopeOf_push, kindOf]

theorem sim_globalCopy (st : St) (env : Env) (line col : Nat) (n : Bytes) :
    exOf (Scope.runGlobalCopy (scopeOf st env) n 0) = outOf env (runGlobalCopy n line col env st) := by
  unfold Scope.runGlobalCopy runGlobalCopy
  rw [realm_loc, sim_getConstant]
  cases hg : getConstant st n .loc with
  | stop r => simp [exOf, outOf]
  | ok lk =>
    cases lk with
    | notFound => simp [lookupOf, exOf, outOf, resOf, levelOf, scopeOf_push, kindOf, realmOf, Scope.nfKind]
    | deferred => simp [lookupOf, exOf, outOf, resOf, levelOf, scopeOf_push, kindOf, realmOf, Scope.defKind]
    | found v =>
      simp only [lookupOf]
      rw [realm_global, sim_insertConstant]
      cases hi : insertConstant st n v .global with
      | stop r => simp [exOf, outOf]
      | ok p =>
        obtain ⟨st1, x⟩ := p
        cases x with
        | ok b => simp [exceptOf, exOf, outOf, resOf]
        | error e =>
          cases e with
          | reserved => simp [exceptOf, cerrOf, exOf, outOf]
          | duplicate r => simp [exceptOf, cerrOf, exOf, outOf, resOf, levelOf, scopeOf_push, kindOf]

theorem sim_label {fs : Bytes → Option Bytes} {enc : Encoder} {inc : Inc} (st : St) (env : Env) (el : Element) (n : Bytes)
    (a : Nat) (hv : el.val = .label n) (hc : currAddr st = some a) :
    exOf (Scope.doLabel (scopeOf st env) n a 0) = outOf env (statement fs enc inc env st el) := by
  unfold Scope.doLabel statement
  simp only [hv, hc]
  rw [realm_loc, sim_insertConstant]
  cases hi : insertConstant st n a .loc with
  | stop r => simp [exOf, outOf]
  | ok p =>
    obtain ⟨st1, x⟩ := p
    cases x with
    | ok b => simp [exceptOf, exOf, outOf, resOf]
    | error e =>
      cases e with
      | reserved => simp [exceptOf, cerrOf, exOf, outOf, resOf, levelOf, scopeOf_push, kindOf, CErr.inner]
      | duplicate r => simp [exceptOf, cerrOf, exOf, outOf, resOf, levelOf, scopeOf_push, kindOf, CErr.inner]

theorem sim_const (st : St) (env : Env) (line col : Nat) (n : Bytes) (e : Arg) (v : Int)
    (he : evalStrict "const" env st line col e = .ok (.ok (.const v))) :
    exOf (Scope.doConst (scopeOf st env) n v 0) = outOf env (constDirective env st line col [.ident n, e]) := by
  unfold Scope.doConst constDirective
  simp only [arity, List.length_cons, List.length_nil, Nat.zero_add, if_true, he]
  rw [realm_loc, sim_insertConstant]
  cases hi : insertConstant st n v .loc with
  | stop r => simp [exOf, outOf]
  | ok p =>
    obtain ⟨st1, x⟩ := p
    cases x with
    | ok b => simp [exceptOf, exOf, outOf, resOf]
    | error e =>
      cases e with
      | reserved => simp [exceptOf, cerrOf, exOf, outOf, resOf, levelOf, scopeOf_push, kindOf]
      | duplicate r => simp [exceptOf, cerrOf, exOf, outOf, resOf, levelOf, scopeOf_push, kindOf]

/-- `.global n` ≙ `Scope.doGlobal` (including the `unwrap` / `assert!` pair and the queued closure) -/
theorem sim_global (st : St) (env : Env) (line col : Nat) (n : Bytes) :
    exOf (Scope.doGlobal (scopeOf st env) n 0) = outOf env (globalDirective .global env st line col [.ident n]) := by
  unfold Scope.doGlobal globalDirective
  simp only [arity, List.length_cons, List.length_nil, Nat.zero_add, if_true]
  rw [realm_global, sim_deferConstant]
  cases hd : deferConstant st n .global with
  | stop r => simp [exOf, outOf]
  | ok p =>
    obtain ⟨st1, x⟩ := p
    cases x with
    | error e =>
      cases e with
      | reserved => simp [exceptOf, cerrOf, exOf, outOf, resOf, levelOf, scopeOf_push, kindOf, GDir.name]
      | duplicate r => simp [exceptOf, cerrOf, exOf, outOf, resOf, levelOf, scopeOf_push, kindOf, GDir.name]
    | ok u =>
      simp only [exceptOf]
      rw [realm_loc, sim_getConstant]
      cases hg : getConstant st1 n .loc with
      | stop r => simp [exOf, outOf]
      | ok lk =>
        cases lk with
        | found v =>
          simp only [lookupOf]
          rw [sim_insertConstant]
          cases hi : insertConstant st1 n v .global with
          | stop r => simp [exOf, outOf]
          | ok p2 =>
            obtain ⟨st2, y⟩ := p2
            cases y with
            | error e => simp [exceptOf, exOf, outOf]
            | ok b => cases b <;> simp [exceptOf, exOf, outOf, resOf]
        | notFound =>
          simp only [lookupOf]
          rw [sim_deferConstant]
          cases hd2 : deferConstant st1 n .loc with
          | stop r => simp [exOf, outOf]
          | ok p2 =>
            obtain ⟨st2, y⟩ := p2
            cases y with
            | error e => simp [exceptOf, exOf, outOf]
            | ok u2 =>
              simp only [exceptOf]
              rw [show Scope.Task.globalCopy n 0 = taskOf (.globalCopy n line col) from rfl, sim_addTask]
              cases ha : addTask st2 (.globalCopy n line col) .loc with
              | stop r => simp [exOf, outOf]
              | ok st3 => simp [exOf, outOf, resOf]
        | deferred =>
          simp only [lookupOf]
          rw [show Scope.Task.globalCopy n 0 = taskOf (.globalCopy n line col) from rfl, sim_addTask]
          cases ha : addTask st1 (.globalCopy n line col) .loc with
          | stop r => simp [exOf, outOf]
          | ok st3 => simp [exOf, outOf, resOf]

/-- leaving a file: `PathFrame::into_inner` of the scope machine, on a frame that saved what `enterFile` of the pipeline
model returned, restores exactly what `leaveFile` restores -/
theorem sim_leaveFile (st4 : St) (path : Bytes) (paths : List Bytes) (savedC : Option Table)
    (savedT : Option (List Task)) (fs : List Scope.Saved) (tag : Nat) :
    ∃ s', Scope.intoInner { scopeOf st4 ⟨path :: paths, path⟩ with
        frames := ⟨paths.length + 1, savedC, savedT.map (·.map taskOf), tag⟩ :: fs }
        ⟨paths.length + 1, savedC, savedT.map (·.map taskOf), tag⟩ fs = .ok s' ∧
      s'.globals = (leaveFile savedC savedT st4).globals ∧ s'.locals = (leaveFile savedC savedT st4).locals ∧
      s'.globalTasks = (leaveFile savedC savedT st4).globalTasks.map taskOf ∧
      s'.localTasks = (leaveFile savedC savedT st4).localTasks.map (·.map taskOf) ∧
      s'.depth = paths.length ∧ s'.frames = fs := by
  unfold Scope.intoInner leaveFile scopeOf
  cases savedC <;> cases savedT <;> simp

theorem exOf_some {x : Except Scope.Panic (Scope.State × Option Scope.Level)} {y : Scope.State × Option Scope.Level} :
    exOf x = some y ↔ x = .ok y := by
  cases x <;> simp [exOf]

def GDir.op (g : GDir) (n : Bytes) : Scope.Op :=
  match g with
  | .global => .global n 0
  | .import_ => .import n 0
  | .export_ => .export n 0

theorem globalDirective_scope {g : GDir} {env : Env} {st st' : St} {line col : Nat} {args : List Arg} {r : Res}
    (h : globalDirective g env st line col args = .ok (st', r)) :
    Quiet st st' ∨ ∃ n, args = [.ident n] ∧ Scope.stmt (scopeOf st env) (g.op n) = .ok (scopeOf st' env, resOf r) := by
  by_cases hs : ∃ n, args = [.ident n]
  · obtain ⟨n, rfl⟩ := hs
    refine .inr ⟨n, rfl, exOf_some.1 ?_⟩
    cases g
    · exact (sim_global st env line col n).trans (by rw [h]; rfl)
    · exact (sim_import st env line col n).trans (by rw [h]; rfl)
    · exact (sim_export st env line col n).trans (by rw [h]; rfl)
  · -- an operand that is not one identifier is refused before any table is looked at
    exact .inl (((globalDirective_acts (m := ⟨false, fun _ _ => False⟩) rfl (fun e => absurd e hs)
      (fun _ n e => absurd ⟨n, e⟩ hs)).ok h).quiet rfl fun _ _ => False.elim)

theorem constDirective_scope {env : Env} {st st' : St} {line col : Nat} {args : List Arg} {r : Res}
    (h : constDirective env st line col args = .ok (st', r)) :
    Quiet st st' ∨ ∃ n e v, args = [.ident n, e] ∧
      Scope.stmt (scopeOf st env) (.const n v 0) = .ok (scopeOf st' env, resOf r) := by
  have h0 := h
  unfold constDirective at h
  split at h
  · cases h; exact .inl (quiet_push ..)
  · split at h
    · rename_i n e _
      split at h
      · rename_i he; cases h; exact .inl (evalStrict_quiet he)
      · rename_i v he
        exact .inr ⟨n, e, v, rfl, exOf_some.1 ((sim_const st env line col n e v he).trans (by rw [h0]; rfl))⟩
      · cases h; exact .inl (quiet_push ..)
      · cases h
    · cases h; exact .inl (quiet_push ..)
    · cases h

theorem label_scope {fs : Bytes → Option Bytes} {enc : Encoder} {inc : Inc} {env : Env} {st st' : St} {el : Element}
    {n : Bytes} {r : Res} (hv : el.val = .label n) (h : statement fs enc inc env st el = .ok (st', r)) :
    Quiet st st' ∨ ∃ a : Nat, Scope.stmt (scopeOf st env) (.label n a 0) = .ok (scopeOf st' env, resOf r) := by
  cases hc : currAddr st with
  | none => simp only [statement, hv, hc] at h; cases h; exact .inl (quiet_push ..)
  | some a => exact .inr ⟨a, exOf_some.1 ((sim_label st env el n a hv hc).trans (by rw [h]; rfl))⟩

/-- `op` is the statement of the scope machine that the element `el` is, whatever value it defines -/
def elOp (el : Element) : Scope.Op → Prop
  | .label n _ _ => el.val = .label n
  | .const n _ _ => ∃ args e, el.val = .directive (bytesOf "const") args ∧ args.toList = [.ident n, e]
  | .global n _ => ∃ args, el.val = .directive (bytesOf "global") args ∧ args.toList = [.ident n]
  | .import n _ => ∃ args, el.val = .directive (bytesOf "import") args ∧ args.toList = [.ident n]
  | .export n _ => ∃ args, el.val = .directive (bytesOf "export") args ∧ args.toList = [.ident n]
  | _ => False

theorem statement_scope {fs : Bytes → Option Bytes} {enc : Encoder} {inc : Inc} {env : Env} {st st' : St} {el : Element}
    {r : Res} (h : statement fs enc inc env st el = .ok (st', r)) :
    (∃ args, el.val = .directive (bytesOf "include") args) ∨ Quiet st st' ∨
    ∃ op, elOp el op ∧ Scope.stmt (scopeOf st env) op = .ok (scopeOf st' env, resOf r) ∧
      ∃ ds gs ls, Adds st st' ds gs ls := by
  by_cases hi : ∃ args, el.val = .directive (bytesOf "include") args
  · exact .inl hi
  refine .inr ?_
  obtain ⟨ds, gs, ls, a, _⟩ := statement_addsK (fun as e => hi ⟨as, e⟩) _ _ h
  cases hv : el.val with
  | label n => exact (label_scope hv h).imp id fun ⟨x, e⟩ => ⟨.label n x 0, hv, e, ds, gs, ls, a⟩
  | instruction name args =>
    simp only [statement, hv] at h
    split at h
    · cases h; exact .inl (quiet_push ..)
    · exact .inl (instruction_quiet _ _ h)
  | directive name args =>
    simp only [statement, hv] at h
    revert h
    refine directive_cases (P := fun o => o = .ok (st', r) → _) ?_ ?_ ?_ ?_ ?_ ?_ ?_ ?_
    · exact fun _ h => .inl (addrDirective_quiet _ _ h)
    · exact fun _ h => .inl (alignDirective_quiet _ _ h)
    · rintro rfl h
      exact (constDirective_scope h).imp id fun ⟨n, e, v, ha, hs⟩ =>
        ⟨.const n v 0, ⟨args, e, hv, ha⟩, hs, ds, gs, ls, a⟩
    · exact fun du _ h => .inl (duDirective_quiet _ _ h)
    · exact fun dir _ _ h => .inl (stringDirective_quiet _ _ h)
    · rintro g rfl h
      refine (globalDirective_scope h).imp id fun ⟨n, ha, hs⟩ => ⟨g.op n, ?_, hs, ds, gs, ls, a⟩
      cases g <;> exact ⟨args, hv, ha⟩
    · rintro rfl _; exact absurd ⟨args, hv⟩ hi
    · intro h; cases h; exact .inl (quiet_push ..)

theorem runTask_scope {enc : Encoder} {env : Env} {st st' : St} {t : Task} {r : Res}
    (h : runTask enc env st t = .ok (st', r)) :
    Quiet st st' ∨ ∃ n l c, t = .globalCopy n l c ∧
      Scope.runTask (scopeOf st env) (.globalCopy n 0) = .ok (scopeOf st' env, resOf r) := by
  cases t with
  | data d g => exact .inl (runDataTask_quiet _ _ h)
  | instr i g => exact .inl (runInstrTask_quiet _ _ h)
  | globalCopy n l c =>
    exact .inr ⟨n, l, c, rfl, exOf_some.1 ((sim_globalCopy st env l c n).trans
      (by rw [show runGlobalCopy n l c env st = _ from h]; rfl))⟩

end Trion.Asm
