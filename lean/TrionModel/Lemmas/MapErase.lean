import TrionModel.Lemmas.MapFind
/-!
# Memory map: the two removals

`remove` deletes exactly the maximal run containing the address; `removeRange` refines the dictionary range deletion.
-/
namespace Trion.Map
open Trion.Dict

theorem eraseIdx_spec {l : Nat} {ps : Segs} (ok : Ok l ps) {j : Nat} {s : Seg} (h : ps[j]? = some s) :
    Ok l (ps.eraseIdx j) ∧
    ∀ k, abs (ps.eraseIdx j) k = if s.1 ≤ k ∧ k < s.1 + s.2.length then none else abs ps k := by
  induction ps generalizing l j with
  | nil => simp at h
  | cons t r ih =>
    obtain ⟨f, x⟩ := t
    obtain ⟨o1, o2, o3, o4⟩ := ok
    cases j with
    | zero =>
      simp only [List.getElem?_cons_zero, Option.some.injEq] at h
      subst h
      refine ⟨Ok_mono (by omega) o4, fun k => ?_⟩
      simp only [List.eraseIdx_zero, List.tail_cons]
      by_cases c : f ≤ k ∧ k < f + x.length
      · rw [if_pos c]; exact abs_none_of_lt o4 (by omega)
      · rw [if_neg c, abs_cons, if_neg c]
    | succ j =>
      simp only [List.getElem?_cons_succ] at h
      have hlb := Ok_lb o4 h
      obtain ⟨i1, i2⟩ := ih o4 h
      refine ⟨⟨o1, o2, o3, i1⟩, fun k => ?_⟩
      simp only [List.eraseIdx_cons_succ]
      rw [abs_cons, abs_cons, i2]
      by_cases c : f ≤ k ∧ k < f + x.length
      · rw [if_pos c, if_pos c, if_neg (by omega)]
      · rw [if_neg c, if_neg c]

theorem connected_iff (D : Dict) (a k : Nat) :
    connected D a k = true ↔ ∀ j, min a k ≤ j → j ≤ max a k → (D j).isSome = true := by
  unfold connected
  rw [List.all_eq_true]
  constructor
  · intro h j h1 h2
    have := h (j - min a k) (List.mem_range.mpr (by omega))
    rwa [show min a k + (j - min a k) = j by omega] at this
  · intro h x hx
    exact h _ (by omega) (by have := List.mem_range.mp hx; omega)

theorem connected_run (D : Dict) (f n a : Nat) (ha : f ≤ a ∧ a < f + n)
    (hin : ∀ k, f ≤ k → k < f + n → (D k).isSome = true) (hend : D (f + n) = none)
    (hbeg : ∀ k, k + 1 = f → D k = none) (k : Nat) :
    connected D a k = true ↔ (f ≤ k ∧ k < f + n) := by
  rw [connected_iff]
  constructor
  · intro h
    refine ⟨?_, ?_⟩
    · apply Classical.byContradiction; intro c
      have := h (f - 1) (by omega) (by omega)
      rw [hbeg (f - 1) (by omega)] at this; simp at this
    · apply Classical.byContradiction; intro c
      have := h (f + n) (by omega) (by omega)
      rw [hend] at this; simp at this
  · intro h j h1 h2
    exact hin j (by omega) (by omega)

theorem connected_none (D : Dict) (a k : Nat) (h : D a = none) : connected D a k = false := by
  cases hc : connected D a k with
  | false => rfl
  | true =>
    have := (connected_iff D a k).mp hc a (by omega) (by omega)
    rw [h] at this; simp at this

theorem remove_spec {l : Nat} {ps : Segs} (ok : Ok l ps) (a : Nat) :
    Ok l (remove ps a).2 ∧ abs (remove ps a).2 = Dict.remove (abs ps) a ∧
    (((remove ps a).1 = .ok none ∧ abs ps a = none) ∨
     (∃ f d, (remove ps a).1 = .ok (some ((f, f + d.length - 1), d)) ∧ d ≠ [] ∧ f ≤ a ∧ a < f + d.length ∧
        (∀ k, f ≤ k → k < f + d.length → abs ps k = d[k - f]?) ∧ abs ps (f + d.length) = none ∧
        (∀ k, k + 1 = f → abs ps k = none))) := by
  rcases find_exact_spec ok a with ⟨hl, _, h2⟩ | ⟨j, s, h1, h2, _, h4, h5⟩
  · unfold remove; rw [hl]
    refine ⟨ok, ?_, Or.inl ⟨rfl, h2⟩⟩
    funext k
    simp only [Dict.remove, connected_none _ a k h2, Bool.false_eq_true, if_false]
  · obtain ⟨a1, a2, a3, a4, a5⟩ := abs_of_idx ok h1
    obtain ⟨e1, e2⟩ := eraseIdx_spec ok h1
    unfold remove; rw [h2]; simp only [h1]
    refine ⟨e1, ?_, Or.inr ⟨s.1, s.2, rfl, a4, h4, h5, a1, a2, a3⟩⟩
    funext k
    rw [e2]
    have hc := connected_run (abs ps) s.1 s.2.length a ⟨h4, h5⟩
      (fun k h1 h2 => by rw [a1 k h1 h2, List.getElem?_eq_getElem (by omega)]; rfl) a2 a3 k
    simp only [Dict.remove]
    by_cases c : s.1 ≤ k ∧ k < s.1 + s.2.length
    · rw [if_pos c, if_pos (hc.mpr c)]
    · rw [if_neg c]
      have : connected (abs ps) a k = false := by
        cases hh : connected (abs ps) a k with
        | false => rfl
        | true => exact absurd (hc.mp hh) c
      rw [this]; simp

theorem abs_cons_nil (f : Nat) (r : Segs) (k : Nat) : abs ((f, []) :: r) k = abs r k := by
  rw [abs_cons, if_neg (by simp only [List.length_nil]; omega)]

/-- empty pieces denote nothing, so the conditional pieces can be read uniformly -/
theorem abs_pieces (f M : Nat) (pre post : List UInt8) (rest : Segs) (k : Nat) :
    abs ((if pre.isEmpty then [] else [(f, pre)]) ++ (if post.isEmpty then [] else [(M, post)]) ++ rest) k
      = abs ((f, pre) :: (M, post) :: rest) k := by
  cases pre with
  | nil =>
    cases post with
    | nil => simp only [List.isEmpty_nil, if_true, List.nil_append]; rw [abs_cons_nil, abs_cons_nil]
    | cons b t =>
      simp only [List.isEmpty_nil, List.isEmpty_cons, if_true, List.nil_append, Bool.false_eq_true, if_false]
      rw [abs_cons_nil]; rfl
  | cons a s =>
    cases post with
    | nil =>
      simp only [List.isEmpty_nil, List.isEmpty_cons, if_true, Bool.false_eq_true, if_false, List.append_nil]
      show abs ((f, a :: s) :: rest) k = _
      rw [abs_cons, abs_cons, abs_cons_nil]
    | cons b t => simp only [List.isEmpty_cons, Bool.false_eq_true, if_false]; rfl

theorem removeRange_apply (D : Dict) (lo hi k : Nat) :
    Dict.removeRange D lo hi k = if lo ≤ k ∧ k ≤ hi then none else D k := rfl

theorem removeRange_spec (ps : Segs) : ∀ (l lo hi : Nat), Ok l ps → lo ≤ hi →
    Ok l (removeRange ps lo hi) ∧ ∀ k, abs (removeRange ps lo hi) k = Dict.removeRange (abs ps) lo hi k := by
  induction ps with
  | nil => intro l lo hi _ _; exact ⟨trivial, fun k => by simp [removeRange, abs, removeRange_apply]⟩
  | cons s r ih =>
    obtain ⟨f, x⟩ := s
    intro l lo hi ok hlh
    obtain ⟨o1, o2, o3, o4⟩ := ok
    obtain ⟨i1, i2⟩ := ih (f + x.length + 1) lo hi o4 hlh
    have hx : 0 < x.length := List.length_pos_iff.mpr o2
    have hpl : (x.take (lo - f)).length = min (lo - f) x.length := List.length_take
    have hql : (x.drop (hi + 1 - f)).length = x.length - (hi + 1 - f) := List.length_drop
    unfold removeRange
    refine ⟨?_, fun k => ?_⟩
    ·
      by_cases hp : (x.take (lo - f)).isEmpty
      · by_cases hq : (x.drop (hi + 1 - f)).isEmpty
        · simp only [hp, hq, if_true, List.nil_append]
          exact Ok_mono (by omega) i1
        · simp only [hp, hq, if_true, List.nil_append, Bool.false_eq_true, if_false, List.singleton_append]
          have hq' : x.drop (hi + 1 - f) ≠ [] := by simpa [List.isEmpty_iff] using hq
          have hq0 : 0 < (x.drop (hi + 1 - f)).length := List.length_pos_iff.mpr hq'
          have e : max f (hi + 1) + (x.drop (hi + 1 - f)).length = f + x.length := by omega
          refine ⟨by omega, hq', by omega, ?_⟩
          rw [e]; exact i1
      · have hp' : x.take (lo - f) ≠ [] := by simpa [List.isEmpty_iff] using hp
        have hp0 : 0 < (x.take (lo - f)).length := List.length_pos_iff.mpr hp'
        by_cases hq : (x.drop (hi + 1 - f)).isEmpty
        · simp only [hp, hq, if_true, Bool.false_eq_true, if_false, List.append_nil, List.singleton_append]
          exact ⟨o1, hp', by omega, Ok_mono (by omega) i1⟩
        · simp only [hp, hq, Bool.false_eq_true, if_false, List.cons_append, List.nil_append]
          have hq' : x.drop (hi + 1 - f) ≠ [] := by simpa [List.isEmpty_iff] using hq
          have hq0 : 0 < (x.drop (hi + 1 - f)).length := List.length_pos_iff.mpr hq'
          have e : max f (hi + 1) + (x.drop (hi + 1 - f)).length = f + x.length := by omega
          refine ⟨o1, hp', by omega, by omega, hq', by omega, ?_⟩
          rw [e]; exact i1
    ·
      rw [abs_pieces, abs_cons, abs_cons, i2, removeRange_apply, removeRange_apply, abs_cons]
      by_cases c1 : f ≤ k ∧ k < f + (x.take (lo - f)).length
      · rw [if_pos c1, if_neg (by omega), if_pos (by omega)]
        rw [List.getElem?_take_of_lt (by omega)]
      · rw [if_neg c1]
        by_cases c2 : max f (hi + 1) ≤ k ∧ k < max f (hi + 1) + (x.drop (hi + 1 - f)).length
        · rw [if_pos c2, if_neg (by omega), if_pos (by omega)]
          rw [List.getElem?_drop]
          congr 1; omega
        · rw [if_neg c2]
          by_cases c3 : lo ≤ k ∧ k ≤ hi
          · rw [if_pos c3, if_pos c3]
          · rw [if_neg c3, if_neg c3, if_neg (by omega)]

end Trion.Map
