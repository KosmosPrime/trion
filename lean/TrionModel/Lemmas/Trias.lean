import TrionModel.Model.Trias
import TrionModel.Lemmas.Uf2
/-! The blocks `writeSegs` appends (`blksFrom`: a function of the configuration, the first block number and the
segments), and the padded list read as a loader image (`segsImage`). -/
namespace Trion.Trias
open Trion.Uf2

/-- what `padAll` achieves for the writer: every segment starts at a 256-byte page boundary — and below 2^32
(`Addr32`), which the UF2 writer's theorems ask of every address -/
def PageStarts (segs : List Seg) : Prop := ∀ s ∈ segs, s.1 % 256 = 0 ∧ s.1 < 4294967296

def Addr32 (segs : List Seg) : Prop := ∀ s ∈ segs, s.1 < 4294967296

theorem padGo_starts (r : List Seg) : ∀ (cur : Seg), cur.1 % 256 = 0 → cur.1 < 4294967296 → Addr32 r →
    PageStarts (padGo cur r) := by
  induction r with
  | nil =>
    intro cur h1 h2 _ s hs
    simp [padGo] at hs; subst hs; exact ⟨h1, h2⟩
  | cons fd r ih =>
    intro cur h1 h2 ha
    obtain ⟨f, d⟩ := fd
    have hf : f < 4294967296 := ha (f, d) (by simp)
    have har : Addr32 r := fun s hs => ha s (by simp [hs])
    simp only [padGo]
    split
    · intro s hs
      rcases List.mem_cons.mp hs with h | h
      · subst h; exact ⟨h1, h2⟩
      · exact ih (f, d) (by simp only; omega) hf har s h
    · split
      · exact ih _ h1 h2 har
      · split
        · exact ih _ h1 h2 har
        · intro s hs
          rcases List.mem_cons.mp hs with h | h
          · subst h; exact ⟨h1, h2⟩
          · exact ih (f - f % 256, zeros (f % 256) ++ d) (by simp only; omega) (by simp only; omega) har s h

theorem padAll_starts (m : List Seg) (ha : Addr32 m) : PageStarts (padAll m) := by
  cases m with
  | nil => intro s hs; simp [padAll] at hs
  | cons fd r =>
    obtain ⟨f, d⟩ := fd
    have hf : f < 4294967296 := ha (f, d) (by simp)
    exact padGo_starts r _ (by simp only; omega) (by simp only; omega) (fun s hs => ha s (by simp [hs]))

theorem insertMerge_addr32 (a : Nat) (d : List UInt8) (ha : a < 4294967296) (m : List Seg) :
    Addr32 m → Addr32 (insertMerge a d m) := by
  induction m generalizing a d with
  | nil => intro _ s hs; simp [insertMerge] at hs; subst hs; exact ha
  | cons fe r ih =>
    obtain ⟨f, e⟩ := fe
    intro hm
    have hf : f < 4294967296 := hm (f, e) (by simp)
    have hr : Addr32 r := fun s hs => hm s (by simp [hs])
    simp only [insertMerge]
    split
    · intro s hs
      rcases List.mem_cons.mp hs with h | h
      · subst h; exact hf
      · exact ih a d ha hr s h
    · split
      · exact ih f (e ++ d) hf hr
      · split
        · intro s hs
          rcases List.mem_cons.mp hs with h | h
          · subst h; exact ha
          · exact hr s h
        · intro s hs
          rcases List.mem_cons.mp hs with h | h
          · subst h; exact ha
          · exact hm s h

theorem bootCrc_addr32 (m m1 : List Seg) (ha : Addr32 m) (h : bootCrc m = .ok m1) : Addr32 m1 := by
  unfold bootCrc at h
  split at h
  · split at h
    · cases h
    · cases h; exact insertMerge_addr32 _ _ (by decide) m ha
  · cases h; exact ha

theorem allBlks_256 (cfg : Cfg) (hps : cfg.ps = 256) (hal : cfg.al = 256) (nf : Bool) (fuel : Nat)
    (d : List UInt8) (a no : Nat) (ha : a % 256 = 0) :
    ∀ b ∈ allBlks cfg nf fuel d a no, b.blen = 256 ∧ b.addr % 256 = 0 ∧ b.nf = nf := by
  intro b hb
  obtain ⟨k, hk, h1, _, h3, h4, _⟩ := allBlks_mem hb
  rw [hps] at hk h1
  refine ⟨?_, by omega, h4⟩
  rw [h3, hps, hal]
  split
  · rfl
  · unfold roundUp; split <;> omega

/-- the blocks of one `write_all` per segment, numbered on from `no` -/
def blksFrom (cfg : Cfg) : Nat → List Seg → List Blk
  | _, [] => []
  | no, (f, d) :: r =>
    allBlks cfg false d.length d f no ++ blksFrom cfg (no + (allBlks cfg false d.length d f no).length) r

/-- the blocks `writeSegs` appends in state `st`; of the state only the configuration and the block counter matter -/
def segsBlks (st : St) (segs : List Seg) : List Blk := blksFrom st.cfg st.count segs

theorem writeSegs_cases (segs : List Seg) : ∀ (st : St), Inv st → Addr32 segs →
    (∃ st', writeSegs st segs = .ok st' ∧ Inv st' ∧ Extends st st' (segsBlks st segs)) ∨
    ∃ e, writeSegs st segs = .error (.uf2 e) := by
  induction segs with
  | nil => intro st hI _; exact .inl ⟨st, rfl, hI, Extends.refl st⟩
  | cons fd r ih =>
    intro st hI ha
    obtain ⟨f, d⟩ := fd
    rcases writeAll_spec st hI f (ha (f, d) (by simp)) d false with ⟨st1, h1, hI1, hE1, _⟩ | ⟨e, h1, _⟩
    · simp only [writeSegs, h1]
      rcases ih st1 hI1 (fun s hs => ha s (by simp [hs])) with ⟨st', h2, hI2, hE2⟩ | h2
      · have hE := hE1.trans hE2
        rw [segsBlks, hE1.cfg, hE1.count] at hE
        exact .inl ⟨st', h2, hI2, hE⟩
      · exact .inr h2
    · exact .inr ⟨e, by simp only [writeSegs, h1]⟩

theorem writeSegs_spec (segs : List Seg) (st st' : St) (hI : Inv st) (ha : Addr32 segs)
    (h : writeSegs st segs = .ok st') : Inv st' ∧ Extends st st' (segsBlks st segs) := by
  rcases writeSegs_cases segs st hI ha with ⟨st1, h1, h2⟩ | ⟨e, h1⟩
  · rw [h1] at h; cases h; exact h2
  · rw [h1] at h; cases h

theorem blksFrom_256 (cfg : Cfg) (hps : cfg.ps = 256) (hal : cfg.al = 256) (segs : List Seg) :
    ∀ no, (∀ s ∈ segs, s.1 % 256 = 0) →
      ∀ b ∈ blksFrom cfg no segs, b.blen = 256 ∧ b.addr % 256 = 0 ∧ b.nf = false := by
  induction segs with
  | nil => intro _ _ b hb; cases hb
  | cons fd r ih =>
    intro no hp b hb
    obtain ⟨f, d⟩ := fd
    rcases List.mem_append.mp hb with h | h
    · exact allBlks_256 cfg hps hal false _ d f no (hp (f, d) (by simp)) b h
    · exact ih _ (fun s hs => hp s (by simp [hs])) b h

theorem image_append (A B : List Block) (x : Nat) :
    image (A ++ B) x = match image B x with | some v => some v | none => image A x := by
  induction A with
  | nil => simp only [List.nil_append, image_nil]; cases image B x <;> rfl
  | cons a A ih =>
    simp only [List.cons_append, image_cons, ih]
    cases image B x <;> rfl

/-- the padded segment list read as a loader image: every segment supplies its bytes followed by zeros up
to the end of its last 256-byte page (a later segment wins, as in the file) -/
def segsImage : List Seg → Nat → Option UInt8
  | [], _ => none
  | (f, d) :: r, x => match segsImage r x with
    | some v => some v
    | none => expectImage f d (roundUp d.length 256) x

theorem blksFrom_image (cfg : Cfg) (hv : cfg.valid) (hal : cfg.al = 256) (t : Nat) (segs : List Seg) :
    ∀ no x, image ((blksFrom cfg no segs).map (toBlock cfg t)) x = segsImage segs x := by
  induction segs with
  | nil => intro _ _; rfl
  | cons fd r ih =>
    intro no x
    obtain ⟨f, d⟩ := fd
    have h2 := image_allBlks cfg hv false t d.length d f no (Nat.le_refl _) x
    rw [hal] at h2
    simp only [blksFrom, List.map_append, image_append, ih, segsImage, h2]

end Trion.Trias
