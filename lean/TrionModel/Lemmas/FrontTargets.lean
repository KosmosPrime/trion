import TrionModel.Lemmas.FrontReject
/-! # PC-relative target arithmetic of `Front.build` (C04 `b_target`, `bl_target`, `adr_target`, `ldr_target`) -/
namespace Trion.Front

/-- the shape of both offset computations: a range check, then an alignment check, then the offset -/
theorem checks_ok_iff {c : Prop} [Decidable c] {x m off : Int} {d₁ d₂ : Diag} :
    (if c then .error d₁ else if x % m ≠ 0 then .error d₂ else .ok x : Except Diag Int) = .ok off ↔
      ¬ c ∧ x % m = 0 ∧ off = x := by
  by_cases h1 : c
  · simp [h1]
  · by_cases h2 : x % m = 0 <;> simp [h1, h2, eq_comm]

theorem branch_ok_iff (a : Nat) (tgt lo hi off : Int) :
    branch a tgt lo hi = .ok off ↔ off = tgt - (pcOf a : Nat) ∧ lo ≤ off ∧ off ≤ hi ∧ off % 2 = 0 := by
  unfold branch
  rw [checks_ok_iff]
  constructor
  · rintro ⟨h1, h2, rfl⟩; exact ⟨rfl, by omega, by omega, h2⟩
  · rintro ⟨rfl, h1, h2, h3⟩; exact ⟨by omega, h3, rfl⟩

theorem literal_ok_iff (a : Nat) (tgt off : Int) :
    literal a tgt = .ok off ↔ off = tgt - (alPc a : Nat) ∧ 0 ≤ off ∧ off ≤ 1020 ∧ off % 4 = 0 := by
  unfold literal
  rw [checks_ok_iff]
  constructor
  · rintro ⟨h1, h2, rfl⟩; exact ⟨rfl, by omega, by omega, h2⟩
  · rintro ⟨rfl, h1, h2, h3⟩; exact ⟨by omega, h3, rfl⟩

theorem get_target {k : Kind} (hk : k = .offset ∨ k = .addrOffset) {eval : Arg → EvalOut} {loc : Bool} {pos : Nat} {x : Arg}
    {tgt : Int} (he : eval x = .complete (.const tgt)) :
    get k eval loc pos 0 x =
      if 0 ≤ tgt ∧ tgt ≤ 4294967295 then .ok (.off tgt) (.const tgt) (pos + 1)
      else .stop (.const tgt) (pos + 1) (.error (.valueRange (pos + 1))) := by
  rw [get_of_complete (by rcases hk with rfl | rfl <;> rfl) loc (Nat.zero_le _) he]
  rcases hk with rfl | rfl <;> by_cases hr : 0 ≤ tgt ∧ tgt ≤ 4294967295 <;> simp [classify, GetOut.of, narrowU32, hr]

/-- a statement whose getters are passed exactly when the target `tgt` is a `u32`, and whose `finish` is the offset
computation `R` -/
theorem target_core {a : Nat} {name : Bytes} {args : List Arg} {eval : Arg → EvalOut} {loc : Bool} {t i : Instr}
    (hm : mnemonic name = some t) (hlen : args.length = (kinds t).length) {tgt : Int} {as as' : List Arg} {d d' : Nat}
    {vs vs' : List Val} {r : Res}
    (hrun : run eval loc (kinds t) 0 args 0 =
      if 0 ≤ tgt ∧ tgt ≤ 4294967295 then ⟨vs, as, d, none⟩ else ⟨vs', as', d', some r⟩)
    {R : Except Diag Int} {f : Int → Instr}
    (hfin : finish a (stores t 0 vs) vs (kinds t).length = match R with | .ok o => .ok (f o) | .error e => .error e) :
    build a name args eval loc = .completed i ↔ (0 ≤ tgt ∧ tgt ≤ 4294967295) ∧ ∃ off, R = .ok off ∧ i = f off := by
  rw [build_completed_iff hm, hrun]
  by_cases hr : 0 ≤ tgt ∧ tgt ≤ 4294967295
  · simp only [hlen, hr, and_self, if_true, true_and, hfin]
    cases R with
    | ok o => simp only [Except.ok.injEq]; exact ⟨fun h => ⟨o, rfl, h.symm⟩, fun ⟨_, h1, h2⟩ => by cases h1; exact h2.symm⟩
    | error e => simp
  · simp [hr]

/-- `B<c> target` / `BL target`: one operand, the offset from `pcOf a` within `lo … hi` and even -/
theorem branch_target {a : Nat} {name : Bytes} {x : Arg} {tgt : Int} {eval : Arg → EvalOut} {loc : Bool} {t i : Instr}
    (hm : mnemonic name = some t) (hk : kinds t = [.offset]) (hset : ∀ v, setOp t 0 v = t) {lo hi : Int} {f : Int → Instr}
    (hfin : ∀ w n, finish a t [.off w] n = match branch a w lo hi with | .ok o => .ok (f o) | .error e => .error e)
    (he : eval x = .complete (.const tgt)) :
    build a name [x] eval loc = .completed i ↔
      (0 ≤ tgt ∧ tgt ≤ 4294967295) ∧ ∃ off, (off = tgt - (pcOf a : Nat) ∧ lo ≤ off ∧ off ≤ hi ∧ off % 2 = 0) ∧ i = f off := by
  have hrun : run eval loc (kinds t) 0 [x] 0 =
      if 0 ≤ tgt ∧ tgt ≤ 4294967295 then ⟨[.off tgt], [.const tgt], 1, none⟩
      else ⟨[], [.const tgt], 1, some (.error (.valueRange 1))⟩ := by
    simp only [hk, run, get_target (.inl rfl) he]
    by_cases hr : 0 ≤ tgt ∧ tgt ≤ 4294967295 <;> simp [hr, Run.cons]
  rw [target_core hm (by simp [hk]) hrun (by simp only [stores, hset]; exact hfin tgt _)]
  simp only [branch_ok_iff]

/-- `ADR Rd, target` / `LDR Rd, target`: the offset from `alPc a` within `0 … 1020` and a multiple of 4 -/
theorem literal_target {a : Nat} {name s : Bytes} {d : Reg} {x : Arg} {tgt : Int} {eval : Arg → EvalOut} {loc : Bool}
    {t i : Instr} {k : Kind} (hm : mnemonic name = some t) (hk : kinds t = [.register, k]) (hk' : k = .offset ∨ k = .addrOffset)
    {t' : Instr} (hset : setOp t 0 (.reg d) = t') (hset' : ∀ v, setOp t' 1 v = t') {f : Int → Instr}
    (hfin : ∀ w n, finish a t' [.reg d, .off w] n = match literal a w with | .ok o => .ok (f o) | .error e => .error e)
    (hs : regl s = some d) (he : eval x = .complete (.const tgt)) :
    build a name [.ident s, x] eval loc = .completed i ↔
      (0 ≤ tgt ∧ tgt ≤ 4294967295) ∧ ∃ off, (off = tgt - (alPc a : Nat) ∧ 0 ≤ off ∧ off ≤ 1020 ∧ off % 4 = 0) ∧ i = f off := by
  have hrun : run eval loc (kinds t) 0 [.ident s, x] 0 =
      if 0 ≤ tgt ∧ tgt ≤ 4294967295 then ⟨[.reg d, .off tgt], [.ident s, .const tgt], 2, none⟩
      else ⟨[.reg d], [.ident s, .const tgt], 2, some (.error (.valueRange 2))⟩ := by
    have hreg : get .register eval loc 0 0 (.ident s) = .ok (.reg d) (.ident s) 0 := by simp [get, hs]
    simp only [hk, run, hreg, get_target hk' he]
    by_cases hr : 0 ≤ tgt ∧ tgt ≤ 4294967295 <;> simp [hr, Run.cons]
  rw [target_core hm (by simp [hk]) hrun (by simp only [stores, hset, hset']; exact hfin tgt _)]
  simp only [literal_ok_iff]

end Trion.Front
