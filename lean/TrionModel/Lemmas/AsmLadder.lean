import TrionModel.Lemmas.AsmCases
import TrionModel.Lemmas.AsmOut
import TrionModel.Lemmas.LexRun
import TrionModel.Lemmas.ParseAll
/-!
# `Trion.Asm`: one induction over the control skeleton

A property that is followed through a run — an invariant `I` of the state, a relation `R` between an earlier and a
later state, stops `B` that do not occur: a `Rung` — climbs the same rungs whatever it is: statement list, task round,
task loop, file body, `assemble` at every include depth, `finalize`, `runWith`. The structures `LocalLadder`, `FileLadder`,
`GlobalLadder` list what has to be known about the leaves, the theorems `X_spec` conclude it for the function `X` of
Model/Asm.lean; `runWith_spec` is the whole run from a `FileLadder` and a `GlobalLadder`.

What a property stated as a ladder cannot say: the field `task` (`LocalLadder`, `GlobalLadder`) is handed a task as a member
of a queue (`t ∈ q`), so order and multiplicity are lost, and the field `clear` relates a state to the same state with an
empty queue, so `R` cannot count tasks.
-/
namespace Trion.Asm
open Trion

theorem parseFile_cases (data : Bytes) : ∃ els err, parseFile data = .ok (els, err) := by
  obtain ⟨lo, hlo, _⟩ := Lex.tokens_run data
  rcases Parse.allLoop_spec lo (lo.toks.length + 1) lo.toks with ⟨_, h⟩ | ⟨els, err, _, h, _⟩
  · omega
  · exact ⟨els, err, by simp only [parseFile, hlo, Parse.all, h]⟩

theorem parseFile_eq {data : Bytes} {els : List Element} {err : Option ParseErr}
    (h : parseFile data = .ok (els, err)) : ∃ lo, Lex.tokens data = .ok lo ∧ Parse.all lo = .done els err := by
  unfold parseFile at h
  split at h
  · rename_i lo hl
    split at h
    · rename_i els' err' hp; cases h; exact ⟨lo, hl, hp⟩
    · cases h
    · cases h
  · cases h
  · cases h

theorem statement_congr_inc {fs : Bytes → Option Bytes} {enc : Encoder} (inc inc' : Inc) {env : Env} {st : St} {el : Element}
    (hni : ∀ as, el.val ≠ .directive (bytesOf "include") as) :
    statement fs enc inc env st el = statement fs enc inc' env st el := by
  unfold statement
  split
  · rename_i name args hv
    have hne : name ≠ bytesOf "include" := fun e => hni args (e ▸ hv)
    simp only [directive, hne, if_false]
  · rfl
  · rfl

/-- What is followed through a run. `γ` is the type of what the property carries along unchanged inside one file and
chooses anew when a file is entered (`FileLadder.file`): `Unit` for `Good`; the includer's name for `QWithin`
(Lemmas/AsmWithin.lean), since the tasks of the global queue are the includer's; the names a file exports together with
its first state for `Rel` (Lemmas/AsmScopeRel.lean). -/
structure Rung (γ : Type) where
  /-- the invariant, of the state inside the file `env.curName` (or, in `GlobalLadder`, during `finalize`) -/
  I : γ → Env → St → Prop
  /-- the relation between an earlier and a later state. Its flag is set for a step that reported failure: in the file
  ladders, the step returned `Err` (for `Logs`, the relation of the ladders of Lemmas/AsmWithin.lean: then there is a new diagnostic); in
  `GlobalLadder`, a task aborted the loop. A relation that does not look at the result ignores the flag. -/
  R : γ → Bool → St → St → Prop
  /-- the stops that do not occur. Through files it can hold `panic` and `loop` only (`FileLadder.noFuel`), through
  `finalize` `panic` and `fuel` only (`GlobalLadder.noLoop`). -/
  B : Stop → Prop
  refl : ∀ {g env st}, I g env st → R g false st st
  /-- the flags join: one failing step makes the whole fail -/
  trans : ∀ {g e₁ e₂ a b c}, R g e₁ a b → R g e₂ b c → R g (e₁ || e₂) a c
  /-- a failure that the loops swallow (a task that returned a trivial `Err` does not abort `finalize`) -/
  weaken : ∀ {g e a b}, R g e a b → R g false a b

namespace Rung
variable {γ : Type} (L : Rung γ)

/-- `o`, computed from `st`, does not stop in `B`; what it returns satisfies `I` and is related to `st`, with the flag
that `err` reads off the returned value (`Res.isErr` for statements and tasks, `id` for the abort flag of the global
rounds) -/
@[reducible] def Spec {X : Type} (g : γ) (env : Env) (st : St) (err : X → Bool) (o : Out (St × X)) : Prop :=
  o.Post (fun x => L.I g env x.1 ∧ L.R g (err x.2) st x.1) (¬ L.B ·)

/-- `Spec` for the local task rounds, which are handed the result `res` so far and join it with their own: the flag
of `R` is what the rounds themselves add -/
@[reducible] def LoopSpec (g : γ) (env : Env) (st : St) (res : Res) (o : Out (St × Res)) : Prop :=
  o.Post (fun x => L.I g env x.1 ∧ ∃ e, L.R g e st x.1 ∧ x.2.isErr = (res.isErr || e)) (¬ L.B ·)

variable {L}

theorem trans_false {g : γ} {e : Bool} {a b c : St} (h1 : L.R g false a b) (h2 : L.R g e b c) : L.R g e a c := by
  simpa using L.trans h1 h2

theorem trans_weak {g : γ} {e e' : Bool} {a b c : St} (h1 : L.R g e' a b) (h2 : L.R g e b c) : L.R g e a c :=
  trans_false (L.weaken h1) h2

theorem trans_true {g : γ} {e : Bool} {a b c : St} (h1 : L.R g e a b) (h2 : L.R g true b c) : L.R g true a c := by
  simpa using L.trans h1 h2

/-- what `o` does from `st'` it does from `st`, from which `st'` was reached -/
theorem Spec.after {X : Type} {g : γ} {env : Env} {st st' : St} {err : X → Bool} {e : Bool} {o : Out (St × X)}
    (h : L.Spec g env st' err o) (r : L.R g e st st') : L.Spec g env st err o :=
  h.mono (fun _ hx => ⟨hx.1, trans_weak r hx.2⟩) fun _ => id

variable (L)

/-- the statement list alone, with what one statement does as a hypothesis: no contract for `.include`, no task queue,
any first state -/
theorem doAssemble_spec {fs : Bytes → Option Bytes} {enc : Encoder} {inc : Inc} {g : γ} {env : Env}
    {perr : Option ParseErr} {els₀ : List Element}
    (step : ∀ el ∈ els₀, ∀ st, L.I g env st → L.Spec g env st Res.isErr (statement fs enc inc env st el))
    (hperr : ∀ e, perr = some e → ∀ st, L.I g env st →
      L.I g env (st.push env e.line e.col (.parse e.kind)) ∧ L.R g true st (st.push env e.line e.col (.parse e.kind))) :
    ∀ (els : List Element) (st : St), (∀ el ∈ els, el ∈ els₀) → L.I g env st →
      L.Spec g env st Res.isErr (doAssemble fs enc inc env els perr st) := by
  intro els st
  fun_induction doAssemble fs enc inc env els perr st <;> intro hsub h
  · exact ⟨h, L.refl h⟩
  · exact (hperr _ rfl _ h)
  all_goals have s1 := step _ (hsub _ List.mem_cons_self) _ h
  · rename_i hs ih
    obtain ⟨i1, r1⟩ := s1.ok hs
    exact (ih hperr (fun el m => hsub el (List.mem_cons_of_mem _ m)) i1).after r1
  · rename_i hs
    exact (s1.ok hs)
  · rename_i hs
    exact s1.stop hs

end Rung

structure LocalLadder (enc : Encoder) (γ : Type) extends Rung γ where
  /-- the round counter is not shown to suffice here (Lemmas/AsmNoLoop.lean does that), so `B` cannot exclude `loop` -/
  noLoop : ¬ B .loop
  /-- `local_tasks.as_mut().unwrap()` of `localLoop` does not fire: where `B` excludes the panic, `I` provides a queue -/
  unwrap : ∀ {g env st}, B .panic → I g env st → st.localTasks ≠ none
  /-- a task has no predicate of its own: it is run in a state reached from one that satisfied `I` and had it in its
  queue -/
  task : ∀ {g env st₀ q t st}, I g env st₀ → st₀.localTasks = some q → t ∈ q → R g false st₀ st → I g env st →
    toRung.Spec g env st Res.isErr (runTask enc env st t)
  clear : ∀ {g env st}, I g env st →
    I g env { st with localTasks := some [] } ∧ R g false st { st with localTasks := some [] }

namespace LocalLadder
variable {enc : Encoder} {γ : Type} (L : LocalLadder enc γ)

/-- the tasks `ts` were queued in a state `st₀` from which `st` was reached: what `task` asks for -/
def Queued (g : γ) (env : Env) (ts : List Task) (st : St) : Prop :=
  ∃ st₀ q, L.I g env st₀ ∧ st₀.localTasks = some q ∧ (∀ t ∈ ts, t ∈ q) ∧ L.R g false st₀ st

/-- for a list that is no state's queue (a lemma about the loop on arbitrary arguments): `st` with `ts` written into
its queue stands for the state that queued them -/
theorem Queued.of_list {g : γ} {env : Env} {ts : List Task} {st : St} (h : L.I g env { st with localTasks := some ts })
    (r : L.R g false { st with localTasks := some ts } st) : L.Queued g env ts st :=
  ⟨_, ts, h, rfl, fun _ m => m, r⟩

theorem localRound_spec {g : γ} {env : Env} : ∀ (ts : List Task) (st : St) (res : Res), L.Queued g env ts st →
    L.I g env st → L.LoopSpec g env st res (localRound enc env ts st res) := by
  intro ts st res
  fun_induction localRound enc env ts st res <;> intro hq h
  · exact ⟨h, false, L.refl h, by simp⟩
  all_goals
    obtain ⟨st₀, q, i0, hq0, hsub, r0⟩ := hq
    have s1 := L.task i0 hq0 (hsub _ List.mem_cons_self) r0 h
  · rename_i hr ih
    obtain ⟨i1, r1⟩ := s1.ok hr
    exact (ih ⟨st₀, q, i0, hq0, fun t m => hsub t (List.mem_cons_of_mem _ m), Rung.trans_false r0 r1⟩ i1).mono
      (fun _ ⟨i2, e, r2, he⟩ => ⟨i2, e, Rung.trans_false r1 r2, he⟩) fun _ => id
  · rename_i hr _
    exact ⟨(s1.ok hr).1, true, (s1.ok hr).2, by simp⟩
  · rename_i hr _ ih
    obtain ⟨i1, r1⟩ := s1.ok hr
    exact (ih ⟨st₀, q, i0, hq0, fun t m => hsub t (List.mem_cons_of_mem _ m), Rung.trans_false r0 (L.weaken r1)⟩ i1).mono
      (fun _ ⟨i2, e, r2, he⟩ => ⟨i2, true, by simpa using L.trans r1 r2, by simpa using he⟩) fun _ => id
  · rename_i hr
    exact s1.stop hr

theorem localLoop_spec {g : γ} {env : Env} : ∀ (n : Nat) (ts : List Task) (st : St) (res : Res), L.Queued g env ts st →
    L.I g env st → L.LoopSpec g env st res (localLoop enc env n ts st res) := by
  intro n ts st res
  fun_induction localLoop enc env n ts st res <;> intro hq h
  · exact L.noLoop
  · exact ⟨h, false, L.refl h, by simp⟩
  all_goals have s1 := fun res => L.localRound_spec _ _ res hq h
  · rename_i hr hnone
    exact fun hb => L.unwrap hb ((s1 _).ok hr).1 hnone
  · rename_i hr _ _ _ _
    obtain ⟨i1, e, r1, he⟩ := (s1 _).ok hr
    exact ⟨(L.clear i1).1, e, by simpa using L.trans r1 (L.clear i1).2, he⟩
  · rename_i hr _ hnew _ _ ih
    obtain ⟨i1, e, r1, he⟩ := (s1 _).ok hr
    exact (ih ⟨_, _, i1, hnew, fun _ m => m, (L.clear i1).2⟩ (L.clear i1).1).mono
      (fun _ ⟨i2, e2, r2, he2⟩ =>
        ⟨i2, e || e2, L.trans r1 (Rung.trans_false (L.clear i1).2 r2), by rw [he2, he, Bool.or_assoc]⟩) fun _ => id
  · rename_i hr
    exact (s1 _).stop hr

/-- what `FileLadder.loop` asks for: the statements have led from `st₀` to `st` with the result `res` -/
theorem fileLoop_spec {g : γ} {env : Env} {st₀ st : St} {res : Res} (h : L.I g env st) (r0 : L.R g res.isErr st₀ st) :
    L.Spec g env st₀ Res.isErr (fileLoop enc env st res) := by
  unfold fileLoop
  split
  · rename_i hnone
    exact fun hb => L.unwrap hb h hnone
  · rename_i tasks ht
    exact (L.localLoop_spec rounds tasks _ res ⟨_, _, h, ht, fun _ m => m, (L.clear h).2⟩ (L.clear h).1).mono
      (fun _ ⟨i', e, r', he⟩ => ⟨i', he ▸ L.trans r0 (Rung.trans_false (L.clear h).2 r')⟩) fun _ => id

end LocalLadder

/-- A `Rung` with what its climb through files needs. `δ` is the type of the callers of `assemble` that the property
tells apart, because they hand over states of different shape and expect different things back: for `safeFile`, `Bool`
(a file through `.include`: `Good true`; `runWith`: `Good false`); for `withinFile`, the includer of the caller. -/
structure FileLadder (fs : Bytes → Option Bytes) (enc : Encoder) (γ δ : Type) extends Rung γ where
  /-- what is known of the file being read: `F g env els perr` for the file `env.curName`, read under the index `g`,
  which parses into `els`, `perr` (for `withinFile`: its statements are sites where diagnostics are allowed) -/
  F : γ → Env → List Element → Option ParseErr → Prop
  /-- the contract of `assemble` (`assembleFile_spec`): what the caller `d` guarantees of `st` when it calls
  `assemble` on `data`, `path` from the file `env.curName` … -/
  Pre : δ → Env → St → Bytes → Bytes → Prop
  /-- … and what it gets back: `st'` and the result -/
  Post : δ → Env → St → Bytes → Bytes → St → Res → Prop
  /-- `assembleFile` at depth 0 stops with `fuel` whatever it is given: no property excludes that -/
  noFuel : ¬ B .fuel
  /-- a statement of the file other than `.include` (so whatever `inc` is) -/
  stmt : ∀ {g env els perr el st} (inc : Inc), F g env els perr → el ∈ els →
    (∀ as, el.val ≠ .directive (bytesOf "include") as) → I g env st →
    toRung.Spec g env st Res.isErr (statement fs enc inc env st el)
  /-- the diagnostics `.include` itself reports -/
  pushInc : ∀ {g env els perr el as st k}, F g env els perr → el ∈ els →
    el.val = .directive (bytesOf "include") as → k.ofDir "include" → I g env st →
    I g env (st.push env el.line el.col k) ∧ R g true st (st.push env el.line el.col k)
  /-- the error that ended the parser's stream -/
  pushErr : ∀ {g env els e st}, F g env els (some e) → I g env st →
    I g env (st.push env e.line e.col (.parse e.kind)) ∧ R g true st (st.push env e.line e.col (.parse e.kind))
  /-- the file's task loop, as given, after statements that led from `st₀` to `st` with the result `res`:
  `LocalLadder.fileLoop_spec` where the round counter is no concern, the loop's own lemmas where `B` excludes `loop` -/
  loop : ∀ {g env st₀ st res}, I g env st → R g res.isErr st₀ st →
    toRung.Spec g env st₀ Res.isErr (fileLoop enc env st res)
  /-- `.include` seen from the including file: `I` provides what some caller `d` guarantees, and what `d` gets back
  restores `I` -/
  call : ∀ {g env st data path}, I g env st → fs path = some data →
    ∃ d, Pre d env st data path ∧ ∀ st' r, Post d env st data path st' r → I g env st' ∧ R g r.isErr st st'
  /-- `assemble` seen from the file it reads: after `enterFile` the body runs under an index `g` of its own, chosen
  here, and what holds at its end gives, after `leaveFile`, what the caller gets back -/
  file : ∀ {d env st data path els perr}, Pre d env st data path → parseFile data = .ok (els, perr) →
    ∃ g, F g ⟨path :: env.paths, path⟩ els perr ∧ I g ⟨path :: env.paths, path⟩ (enterFile st).2.2 ∧
      ∀ st4 r, I g ⟨path :: env.paths, path⟩ st4 → R g r.isErr (enterFile st).2.2 st4 →
        Post d env st data path (leaveFile (enterFile st).1 (enterFile st).2.1 st4) r

namespace FileLadder
variable {fs : Bytes → Option Bytes} {enc : Encoder} {γ δ : Type} (L : FileLadder fs enc γ δ)

/-- `inc` meets the contract of `assemble` -/
def IncSpec (inc : Inc) : Prop :=
  ∀ d env st data path, L.Pre d env st data path →
    (inc env st data path).Post (fun x => L.Post d env st data path x.1 x.2) (¬ L.B ·)

/-- what the rungs inside a file need of the `inc` that `.include` calls -/
def IncIn (inc : Inc) : Prop :=
  ∀ {g env st data path}, L.I g env st → fs path = some data → L.Spec g env st Res.isErr (inc env st data path)

theorem IncSpec.in {inc : Inc} (h : L.IncSpec inc) : L.IncIn inc := fun hi hfs =>
  have ⟨d, hd, hpost⟩ := L.call hi hfs
  (h d _ _ _ _ hd).mono (fun _ hx => hpost _ _ hx) fun _ => id

theorem statement_spec {inc : Inc} (hinc : L.IncIn inc) {g : γ} {env : Env} {els : List Element} {perr : Option ParseErr}
    {el : Element} {st : St} (hf : L.F g env els perr) (hel : el ∈ els) (h : L.I g env st) :
    L.Spec g env st Res.isErr (statement fs enc inc env st el) := by
  by_cases hi : ∃ as, el.val = .directive (bytesOf "include") as
  · obtain ⟨as, hv⟩ := hi
    have e : statement fs enc inc env st el = includeDirective fs inc env st el.line el.col as.toList := by
      simp only [statement, hv, directive_include]
    rw [e]
    refine .of (fun x hr => ?_) fun z hz => ?_
    · obtain ⟨st', r⟩ := x
      rcases includeDirective_shape hr with ⟨k, rfl, hk⟩ | ⟨data, path, st1, r1, hfs, hc, ⟨rfl, rfl⟩ | ⟨k, rfl, hk⟩⟩
      · have w := L.pushInc hf hel hv hk h
        cases r with
        | ok => exact ⟨w.1, L.weaken w.2⟩
        | err l => exact w
      · exact (hinc h hfs).ok hc
      · obtain ⟨i1, r1'⟩ := (hinc h hfs).ok hc
        have w := L.pushInc hf hel hv hk i1
        have w2 := Rung.trans_true r1' w.2
        cases r with
        | ok => exact ⟨w.1, L.weaken w2⟩
        | err l => exact ⟨w.1, w2⟩
    · obtain ⟨data, path, hfs, hs⟩ := includeDirective_stop hz
      exact (hinc h hfs).stop hs
  · exact L.stmt inc hf hel (fun as e => hi ⟨as, e⟩) h

theorem doAssemble_spec {inc : Inc} (hinc : L.IncIn inc) {g : γ} {env : Env} {els₀ : List Element} {perr : Option ParseErr}
    (hf : L.F g env els₀ perr) : ∀ (els : List Element) (st : St), (∀ el ∈ els, el ∈ els₀) → L.I g env st →
      L.Spec g env st Res.isErr (doAssemble fs enc inc env els perr st) :=
  L.toRung.doAssemble_spec (fun _ hel _ h => L.statement_spec hinc hf hel h) (fun _ e _ h => L.pushErr (e ▸ hf) h)

theorem fileBody_spec {inc : Inc} (hinc : L.IncIn inc) {g : γ} {env : Env} {data : Bytes}
    (hF : ∀ els perr, parseFile data = .ok (els, perr) → L.F g env els perr) {st : St} (h : L.I g env st) :
    L.Spec g env st Res.isErr (fileBody fs enc inc env data st) := by
  obtain ⟨els, perr, hp⟩ := parseFile_cases data
  rw [fileBody_of_parse _ _ _ _ _ _ _ _ hp]
  have s1 := L.doAssemble_spec hinc (hF _ _ hp) els st (fun _ m => m) h
  split
  · rename_i st3 res hd
    obtain ⟨i3, r3⟩ := s1.ok hd
    unfold bodyLoop
    split
    · exact ⟨i3, r3⟩
    · exact L.loop (enc := enc) i3 r3
  · rename_i z hd
    exact s1.stop hd

theorem assembleFile_spec : ∀ fuel, L.IncSpec (assembleFile fs enc fuel) := by
  intro fuel
  induction fuel with
  | zero =>
    intro d env st data path _
    exact L.noFuel
  | succ fuel ih =>
    intro d env st data path hpre
    obtain ⟨els, perr, hp⟩ := parseFile_cases data
    obtain ⟨g, hF, i2, hpost⟩ := L.file hpre hp
    have s1 := L.fileBody_spec ih.in (env := ⟨path :: env.paths, path⟩)
      (fun _ _ hp' => by rw [hp] at hp'; cases hp'; exact hF) i2
    rw [assembleFile_succ]
    split
    · rename_i hf; exact hpost _ _ (s1.ok hf).1 (s1.ok hf).2
    · rename_i hf; exact s1.stop hf

end FileLadder

structure GlobalLadder (enc : Encoder) (γ : Type) extends Rung γ where
  /-- as in `LocalLadder` -/
  noLoop : ¬ B .loop
  /-- as in `LocalLadder`, for the global queue -/
  task : ∀ {g env st₀ t st}, I g env st₀ → t ∈ st₀.globalTasks → R g false st₀ st → I g env st →
    toRung.Spec g env st Res.isErr (runTask enc env st t)
  clear : ∀ {g env st}, I g env st →
    I g env { st with globalTasks := [] } ∧ R g false st { st with globalTasks := [] }

namespace GlobalLadder
variable {enc : Encoder} {γ : Type} (L : GlobalLadder enc γ)

/-- as `LocalLadder.Queued` -/
def Queued (g : γ) (env : Env) (ts : List Task) (st : St) : Prop :=
  ∃ st₀, L.I g env st₀ ∧ (∀ t ∈ ts, t ∈ st₀.globalTasks) ∧ L.R g false st₀ st

theorem globalRound_spec {g : γ} {env : Env} : ∀ (ts : List Task) (st : St), L.Queued g env ts st → L.I g env st →
    L.Spec g env st id (globalRound enc env ts st) := by
  intro ts st
  fun_induction globalRound enc env ts st <;> intro hq h
  · exact ⟨h, L.refl h⟩
  all_goals
    obtain ⟨st₀, i0, hsub, r0⟩ := hq
    have s1 := L.task i0 (hsub _ List.mem_cons_self) r0 h
  · rename_i r hr ha
    obtain ⟨i1, r1⟩ := s1.ok hr
    cases r with
    | ok => simp [Res.aborts] at ha
    | err l => exact ⟨i1, r1⟩
  · rename_i hr _ ih
    obtain ⟨i1, r1⟩ := s1.ok hr
    exact (ih ⟨st₀, i0, fun t m => hsub t (List.mem_cons_of_mem _ m), Rung.trans_false r0 (L.weaken r1)⟩ i1).after r1
  · rename_i hr
    exact s1.stop hr

theorem globalLoop_spec {g : γ} {env : Env} : ∀ (n : Nat) (ts : List Task) (st : St), L.Queued g env ts st → L.I g env st →
    L.Spec g env st id (globalLoop enc env n ts st) := by
  intro n ts st
  fun_induction globalLoop enc env n ts st <;> intro hq h
  · exact L.noLoop
  · exact ⟨h, L.refl h⟩
  all_goals have s1 := L.globalRound_spec _ _ hq h
  · rename_i _ hr
    obtain ⟨i1, r1⟩ := s1.ok hr
    exact ⟨(L.clear i1).1, by simpa using L.trans r1 (L.clear i1).2⟩
  · rename_i hr _ _ _ ih
    obtain ⟨i1, r1⟩ := s1.ok hr
    exact ((ih ⟨_, i1, fun _ m => m, (L.clear i1).2⟩ (L.clear i1).1).after (L.clear i1).2).after r1
  · rename_i hr
    exact s1.stop hr

theorem finalize_spec {g : γ} {env : Env} {st : St} (h : L.I g env st) :
    (finalize enc env st).Post
      (fun x => L.I g env x.1 ∧ ∃ abort, L.R g abort st x.1 ∧ x.2 = !(abort || x.1.hasErrored)) (¬ L.B ·) := by
  have w := L.globalLoop_spec rounds st.globalTasks _ ⟨_, h, fun _ m => m, (L.clear h).2⟩ (L.clear h).1
  unfold finalize
  split
  · rename_i hl; exact ⟨(w.ok hl).1, _, Rung.trans_false (L.clear h).2 (w.ok hl).2, rfl⟩
  · rename_i hl; exact w.stop hl

end GlobalLadder

def Result.ofStop : Stop → Result
  | .panic => .panic
  | .fuel => .fuel
  | .loop => .loop

theorem runWith_stop {enc : Encoder} {fs : Bytes → Option Bytes} {main : Bytes} {z : Stop}
    (h : runWith enc fs main = .ofStop z) :
    ∃ data, fs main = some data ∧
      (assembleFile fs enc maxDepth Env.init St.init data main = .stop z ∨
       ∃ st res, assembleFile fs enc maxDepth Env.init St.init data main = .ok (st, res) ∧
        (((Seg.closeSegment st.seg).2 = .panic ∧ z = .panic) ∨
         finalize enc Env.init { st with seg := (Seg.closeSegment st.seg).1 } = .stop z)) := by
  unfold runWith at h
  split at h
  · cases z <;> cases h
  · rename_i data hdata
    refine ⟨data, hdata, ?_⟩
    split at h
    · rename_i st res ha
      refine .inr ⟨st, res, ha, ?_⟩
      cases hc : Seg.closeSegment st.seg with
      | mk s' out =>
        rw [hc] at h
        cases out with
        | diag e => cases z <;> cases h
        | panic => cases z <;> first | exact .inl ⟨rfl, rfl⟩ | cases h
        | _ =>
          simp only at h
          split at h
          · cases z <;> cases h
          all_goals (cases z <;> first | exact .inr ‹_› | cases h)
    all_goals (cases z <;> first | exact .inl ‹_› | cases h)

/-- the whole run: the main file under the contract `d`, `close_segment`, `finalize` under the index `g`.
`close` carries the property over `close_segment`: where `B` excludes the panic, the one of `close_segment` does not
occur, and what the main file returned gives `finalize`'s invariant. -/
theorem runWith_spec {fs : Bytes → Option Bytes} {enc : Encoder} {γ δ γ' : Type} (LF : FileLadder fs enc γ δ)
    (LG : GlobalLadder enc γ') (hB : ∀ z, LF.B z → LG.B z) {d : δ} {g : γ'} {main : Bytes}
    (init : ∀ data, fs main = some data → LF.Pre d Env.init St.init data main)
    (close : ∀ {data st res}, LF.Post d Env.init St.init data main st res →
      (LF.B .panic → (Seg.closeSegment st.seg).2 ≠ .panic) ∧
      LG.I g Env.init { st with seg := (Seg.closeSegment st.seg).1 }) :
    (∀ z, runWith enc fs main = .ofStop z → ¬ LF.B z) ∧
    ∀ o, runWith enc fs main = .done o → ∃ data st res, fs main = some data ∧
      assembleFile fs enc maxDepth Env.init St.init data main = .ok (st, res) ∧
      LF.Post d Env.init St.init data main st res ∧
      ((∃ e, (Seg.closeSegment st.seg).2 = .diag e ∧
          o = ⟨res = .ok, some e, false, st.errors.reverse, (Seg.closeSegment st.seg).1.map⟩) ∨
       ((∀ e, (Seg.closeSegment st.seg).2 ≠ .diag e) ∧ (Seg.closeSegment st.seg).2 ≠ .panic ∧
        ∃ st' fin abort, finalize enc Env.init { st with seg := (Seg.closeSegment st.seg).1 } = .ok (st', fin) ∧
          LG.I g Env.init st' ∧ LG.R g abort { st with seg := (Seg.closeSegment st.seg).1 } st' ∧
          fin = !(abort || st'.hasErrored) ∧
          o = ⟨res = .ok, none, fin, st'.errors.reverse, st'.seg.map⟩)) := by
  refine ⟨fun z hz hb => ?_, fun o ho => ?_⟩
  · obtain ⟨data, hdata, ha | ⟨st, res, ha, hrest⟩⟩ := runWith_stop hz
    · exact (LF.assembleFile_spec maxDepth d _ _ _ _ (init data hdata)).stop ha hb
    · have hc := close ((LF.assembleFile_spec maxDepth d _ _ _ _ (init data hdata)).ok ha)
      rcases hrest with ⟨hp, rfl⟩ | hf
      · exact hc.1 hb hp
      · exact (LG.finalize_spec hc.2).stop hf (hB z hb)
  · obtain ⟨data, st, res, hdata, ha, hrest⟩ := runWith_done ho
    have hpost := (LF.assembleFile_spec maxDepth d _ _ _ _ (init data hdata)).ok ha
    refine ⟨data, st, res, hdata, ha, hpost, hrest.imp id fun ⟨h1, h2, st', fin, hf, ho⟩ => ?_⟩
    obtain ⟨i', abort, r', hfin⟩ := (LG.finalize_spec (close hpost).2).ok hf
    exact ⟨h1, h2, st', fin, abort, hf, i', r', hfin, ho⟩

/-- the states a file passes through between its statements (`do_assemble`'s loop; the last entry is the state in
which the loop ended — normally, or with the error of a statement) -/
def bodyStates (fs : Bytes → Option Bytes) (enc : Encoder) (inc : Inc) (env : Env) : List Element → St → List St
  | [], st => [st]
  | el :: els, st =>
    st :: match statement fs enc inc env st el with
      | .ok (st', .ok) => bodyStates fs enc inc env els st'
      | .ok (st', .err _) => [st']
      | .stop _ => []

theorem Rung.bodyStates_spec {γ : Type} (L : Rung γ) {fs : Bytes → Option Bytes} {enc : Encoder} {inc : Inc}
    {g : γ} {env : Env} {els₀ : List Element}
    (step : ∀ el ∈ els₀, ∀ st, L.I g env st → L.Spec g env st Res.isErr (statement fs enc inc env st el)) :
    ∀ (els : List Element) (st : St), (∀ el ∈ els, el ∈ els₀) → L.I g env st →
      (∀ b ∈ bodyStates fs enc inc env els st, L.I g env b ∧ L.R g false st b) ∧
      List.Pairwise (L.R g false) (bodyStates fs enc inc env els st) := by
  intro els
  induction els with
  | nil =>
    intro st _ h
    exact ⟨fun b hb => by cases List.mem_singleton.mp hb; exact ⟨h, L.refl h⟩, List.pairwise_singleton _ _⟩
  | cons el els ih =>
    intro st hsub h
    have s1 := step el (hsub el List.mem_cons_self) st h
    simp only [bodyStates, List.forall_mem_cons, List.pairwise_cons]
    split
    · rename_i st1 hs
      obtain ⟨i1, r1⟩ := s1.ok hs
      have w := ih st1 (fun x m => hsub x (List.mem_cons_of_mem _ m)) i1
      have t : ∀ b ∈ bodyStates fs enc inc env els st1, L.R g false st b :=
        fun b hb => Rung.trans_false (L.weaken r1) (w.1 b hb).2
      exact ⟨⟨⟨h, L.refl h⟩, fun b hb => ⟨(w.1 b hb).1, t b hb⟩⟩, t, w.2⟩
    · rename_i st1 l hs
      obtain ⟨i1, r1⟩ := s1.ok hs
      exact ⟨⟨⟨h, L.refl h⟩, fun b hb => by cases List.mem_singleton.mp hb; exact ⟨i1, L.weaken r1⟩⟩,
        fun b hb => by cases List.mem_singleton.mp hb; exact L.weaken r1, List.pairwise_singleton _ _⟩
    · exact ⟨⟨⟨h, L.refl h⟩, fun _ hb => nomatch hb⟩, fun _ hb => (nomatch hb), .nil⟩

end Trion.Asm
