import TrionModel.Lemmas.C04Mix
import TrionModel.Lemmas.C04Asm
/-!
# C04 closed, extension: the getters and `build` against the extended meaning `means2` (the counterpart of
Lemmas/C04Asm.lean for the notions with suffix `2` of Spec/C04Mix.lean: soundness `build_sound2`, totality `build_total2`)
-/
namespace Trion.C04
open Trion Trion.Front Trion.Simp

theorem denote2_of_denote {T : SymTable} {k : Kind} {a : Arg} {v : Val} (h : denote T k a = some v) : denote2 T k a = some v := by
  simp [denote2, h]

theorem mem_some_docMem {T : SymTable} {x : Arg} {p : Reg × ImmReg} (h : mem T x = some p) : docMem x = true := by
  obtain ⟨r, o⟩ := p
  rcases mem_inv h with ⟨b, rfl, _, _⟩ | ⟨b, b', rfl, hb, hb', _⟩ | ⟨b, e, v, rfl, hb, _, _, hv, _⟩ | ⟨b, e, v, rfl, hb, _, _, hv, _⟩
  · rfl
  · simp [docMem, regIdent, hb, hb']
  · simp [docMem, regIdent, hb, value_expr T e v hv]
  · simp [docMem, regIdent, hb, value_expr T e v hv]

theorem value_none_of_not_expr {T : SymTable} {a : Arg} (h : expr a = false) : value T a = none := by
  cases hv : value T a with
  | none => rfl
  | some v => rw [value_expr T a v hv] at h; cases h

section
variable {lk : Bytes → Lookup} (hn : NoDef lk) (hT : Simp.tableOk lk)
include hn hT

/-- the one-register sum behind a `doc2` operand that is not `doc` -/
theorem oneReg_form {x x' : Arg} {ev : Ev} (ho : oneReg x = true) (hl : lits x = true)
    (he : evaluate lk isRegister x = .ok (ev, x')) : ∃ b c, sumForm (tab lk) x = some ([b], c) := by
  simp only [oneReg, Bool.and_eq_true, beq_iff_eq] at ho
  obtain ⟨rs, c, hs⟩ := sumForm_defined hn hT x ho.1 hl ev x' he
  have hlen := sumForm_len (tab lk) x rs c hs
  rw [ho.2] at hlen
  match rs, hlen with
  | [b], _ => exact ⟨b, c, hs⟩

theorem yields_sound2 {k : Kind} (hk : k.evals = true) {a a1 : Arg} {ev : Ev}
    (hd : doc2 a = true) (hl : lits a = true) (hv : valued (tab lk) a = true)
    (he : evaluate lk isRegister a = .ok (ev, a1)) {pos : Nat} {v : Val} (hy : Yields pos k a1 v) :
    denote2 (tab lk) k a = some v := by
  by_cases hdoc : doc a = true
  · exact denote2_of_denote (yields_sound hn hT hk hdoc hl hv he hy)
  · cases a with
    | bin op tl tr =>
      have hne : expr (.bin op tl tr) = false := by simpa [doc] using hdoc
      have ho : oneReg (.bin op tl tr) = true := by simpa [doc2, hne] using hd
      obtain ⟨b, c, hs⟩ := oneReg_form hn hT ho hl he
      obtain ⟨hc, ha, hi⟩ := accept_reg he hs
      -- the sum evaluates to a register name: only the register alternative of `ImmReg` reads one
      cases hy with
      | ident | reg | sys | regSet => cases hk
      | imm | immRegI | off => exact absurd rfl (hc _)
      | addr => exact absurd rfl (ha _)
      | immRegR hr =>
        obtain ⟨hb, rfl⟩ := hi _ _ rfl hr
        have hdn : denote (tab lk) .immReg (.bin op tl tr) = none := by
          simp [denote, value_none_of_not_expr hne]
        simp [denote2, hdn, hs, hb]
    | addr x =>
      have hnd : docMem x = false := by simpa [doc] using hdoc
      have ho : oneReg x = true := by simpa [doc2, hnd] using hd
      obtain ⟨e1, x1, h1, rfl⟩ := evaluate_addr_ok he
      simp only [lits] at hl
      obtain ⟨b, c, hs⟩ := oneReg_form hn hT ho hl h1
      have hmn : mem (tab lk) x = none := by
        cases hm : mem (tab lk) x with
        | none => rfl
        | some p => rw [mem_some_docMem hm] at hnd; cases hnd
      cases hy with
      | addr hk' hao =>
        obtain ⟨hb, rfl, hin⟩ := accept_mem h1 hs hao
        rcases hk' with rfl | rfl <;> simp [denote2, denote, hmn, mem2, hs, hb]
    | const c => simp [doc] at hdoc
    | ident s => simp [doc] at hdoc
    | str s => simp [doc] at hdoc
    | neg x => exact absurd (by simpa [doc2, doc] using hd) hdoc
    | not x => exact absurd (by simpa [doc2, doc] using hd) hdoc
    | seq as => simp [doc] at hdoc
    | func n as => simp [doc] at hdoc

end

section
variable {lk : Bytes → Lookup} (hn : NoDef lk) (hT : Simp.tableOk lk) {eval : Arg → EvalOut} (hE : EvalSimp eval lk)
include hn hT hE

theorem get_sound2 {k : Kind} {loc : Bool} {pos done : Nat} (hdn : done ≤ pos) {a : Arg}
    (hs : evaluated k = true → valued (tab lk) a = true ∧ lits a = true ∧ doc2 a = true)
    {v : Val} {a' : Arg} {d' : Nat} (hg : Front.get k eval loc pos done a = .ok v a' d') : denote2 (tab lk) k a = some v :=
  get_sound_of hn hE (fun hk hy => denote2_of_denote (yields_plain hk hy)) (fun hk hd hl hv he hy => yields_sound2 hn hT hk hd hl hv he hy) hdn hs hg

omit hn hT hE in
theorem reads_denote2 (T : SymTable) : Reads (denote2 T) (denoteAll2 T) :=
  ⟨rfl, fun _ _ _ _ => rfl, fun _ _ => rfl, fun _ _ => rfl⟩

theorem build_sound2 (loc : Bool) (A : Nat) (name : Bytes) (args : List Arg) (t : Instr) (hm : mnemonic name = some t)
    (hw : wellFormed2 (tab lk) (sig t) args) (i : Instr) (hb : build A name args eval loc = .completed i)
    (hq : ∀ vs, denoteAll2 (tab lk) (sig t) args = some vs → ¬ svQuirk t vs) :
    means2 (tab lk) A name args = some i ∧ i.wf := by
  obtain ⟨⟨vs, hden, hmn⟩, hwf⟩ := build_sound_of (reads_denote2 _) (ok := fun k a => evaluated k = true → valued (tab lk) a = true ∧ lits a = true ∧ doc2 a = true) (WF := wellFormed2 (tab lk))
    (fun h => h) (fun hd hs hg => get_sound2 hn hT hE hd hs hg) A name args t hm hw i hb hq
  exact ⟨by simp only [means2, hm, hden, hmn], hwf⟩

omit hT in
theorem build_total2 (loc : Bool) (A : Nat) (name : Bytes) (args : List Arg) (t : Instr) (hm : mnemonic name = some t)
    (hw : wellFormed2 (tab lk) (sig t) args) :
    (∃ i, build A name args eval loc = .completed i) ∨ (∃ d st, build A name args eval loc = .error d st) :=
  build_total_of (ok := fun k a => evaluated k = true → valued (tab lk) a = true ∧ lits a = true ∧ doc2 a = true) (WF := wellFormed2 (tab lk)) (fun h => h)
    (fun hd hs => get_total hn hE hd fun hk => (hs hk).1) A name args t hm hw

end

end Trion.C04
