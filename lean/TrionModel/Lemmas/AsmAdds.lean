import TrionModel.Lemmas.AsmActs
/-!
# `Trion.Asm`: what a statement (and a task) adds to the diagnostics and the two task queues

Inside a statement or a task the diagnostics change only by `push_error` and the queues only by `add_task`.
`Adds st st' ds gs ls` names the three appended lists: `st'.errors = ds ++ st.errors`, `st'.globalTasks = … ++ gs`,
`st'.localTasks = … ++ ls`.  `AddsK m C f l c err st st'` says of them what `Lab.ok C f l c m` allows: everything new is at
`(f, l, c)` and of the sort a statement of class `C` (label / directive / instruction) pushes and queues, what went to either
queue is what `m : May` lets it queue there, and with `err` set `ds ≠ []`.  It is the one relation on diagnostics and
queues at the level of a statement or task (`Acts.addsK`; the walk through the model's functions is `X_acts`,
Lemmas/AsmActs.lean).  Every other notion is a reading of the three lists, stated once, about `AddsK`:

* membership: `Eff` / `EffK` (everything new is at the position, `EffK` also: of the class);
* the `errors` part alone: `Logs P e st st'` (`st'.errors = ds ++ st.errors`, every `d ∈ ds` in `P`, `ds ≠ []` if `e`;
  `AddsK.logs`), of which `Keeps` (no diagnostic goes) and the lengths (`AddsK.length`: an `Err` result comes with a new
  diagnostic) are read; it is the part that goes on through task loops, files and `finalize` (Lemmas/AsmWithin.lean);
* the own queue only grows at its end: `QSub`;
* which queue: what `m` says of `gs` and `ls` (a statement queues nothing globally: `May.stmt`; a task nothing locally:
  `AddsK.ls_nil`).

The suffix `K` (`EffK`, `AddsK`, later `SrcElK`) marks the kind-aware version of a notion: besides the position it
records the class of the statement (`Cls`) and with it the diagnostic kinds and tasks that class produces.
-/
namespace Trion.Asm
open Trion

def Eff (f : Bytes) (l c : Nat) (st st' : St) : Prop :=
  (∀ d ∈ st'.errors, d ∈ st.errors ∨ d.at f l c) ∧
  (∀ t ∈ st'.globalTasks, t ∈ st.globalTasks ∨ t.at f l c) ∧
  (∀ q', st'.localTasks = some q' → ∀ t ∈ q', (∃ q, st.localTasks = some q ∧ t ∈ q) ∨ t.at f l c)

def EffK (C : Cls) (f : Bytes) (l c : Nat) (st st' : St) : Prop :=
  (∀ d ∈ st'.errors, d ∈ st.errors ∨ (d.at f l c ∧ pushesC C d.kind = true)) ∧
  (∀ t ∈ st'.globalTasks, t ∈ st.globalTasks ∨ (t.at f l c ∧ taskC C t = true)) ∧
  (∀ q', st'.localTasks = some q' → ∀ t ∈ q', (∃ q, st.localTasks = some q ∧ t ∈ q) ∨ (t.at f l c ∧ taskC C t = true))

structure Adds (st st' : St) (ds : List Diag) (gs ls : List Task) : Prop where
  errs : st'.errors = ds ++ st.errors
  gt : st'.globalTasks = st.globalTasks ++ gs
  lt : st'.localTasks = st.localTasks.map (· ++ ls)

def AddsK (m : May) (C : Cls) (f : Bytes) (l c : Nat) (err : Bool) (st st' : St) : Prop :=
  ∃ ds gs ls, Adds st st' ds gs ls ∧ (∀ d ∈ ds, d.at f l c ∧ pushesC C d.kind = true) ∧
    (∀ t ∈ gs, m.queue .global t ∧ t.at f l c ∧ taskC C t = true) ∧
    (∀ t ∈ ls, m.queue .loc t ∧ t.at f l c ∧ taskC C t = true) ∧ (err = true → ds ≠ [])

section
variable {m : May} {C : Cls} {f : Bytes} {l c : Nat} {e : Bool} {st st' : St}

theorem Adds.same (he : st'.errors = st.errors) (hg : st'.globalTasks = st.globalTasks) (hl : st'.localTasks = st.localTasks) :
    Adds st st' [] [] [] :=
  ⟨he, by rw [hg, List.append_nil], by rw [hl]; cases st.localTasks <;> simp⟩

theorem AddsK.same (he : st'.errors = st.errors) (hg : st'.globalTasks = st.globalTasks) (hl : st'.localTasks = st.localTasks) :
    AddsK m C f l c false st st' :=
  ⟨[], [], [], .same he hg hl, by simp, by simp, by simp, by simp⟩

theorem AddsK.trans {e1 e2 : Bool} {a b d : St} (h1 : AddsK m C f l c e1 a b) (h2 : AddsK m C f l c e2 b d) :
    AddsK m C f l c (e1 || e2) a d := by
  obtain ⟨d1, g1, l1, a1, hd1, hg1, hl1, he1⟩ := h1
  obtain ⟨d2, g2, l2, a2, hd2, hg2, hl2, he2⟩ := h2
  refine ⟨d2 ++ d1, g1 ++ g2, l1 ++ l2, ⟨by rw [a2.errs, a1.errs, List.append_assoc],
    by rw [a2.gt, a1.gt, List.append_assoc], by rw [a2.lt, a1.lt]; cases a.localTasks <;> simp⟩,
    fun x hx => (List.mem_append.mp hx).elim (hd2 x) (hd1 x), fun t ht => (List.mem_append.mp ht).elim (hg1 t) (hg2 t),
    fun t ht => (List.mem_append.mp ht).elim (hl1 t) (hl2 t), fun he => ?_⟩
  rcases Bool.or_eq_true_iff.mp he with h | h
  · simp [he1 h]
  · simp [he2 h]

theorem flag_false {a : Lab} {e : Bool} (he : e = true → a.isPush = true) (ha : a.isPush = false) : e = false := by
  cases e
  · rfl
  · rw [he rfl] at ha; cases ha

theorem Acts.addsK (h : Acts (Lab.ok C f l c m) e st st') : AddsK m C f l c e st st' := by
  refine h.lift (R := fun e a b => AddsK m C f l c e a b) (fun _ => .same rfl rfl rfl) AddsK.trans
    fun {a st st'} e hp hd he => ?_
  cases hd with
  | push _ f' l' c' k =>
    obtain ⟨⟨rfl, rfl, rfl⟩, hk⟩ := hp
    exact ⟨[⟨f', l', c', k⟩], [], [], ⟨rfl, (List.append_nil _).symm, by cases h : st.localTasks <;> simp [St.pushIn, h]⟩,
      by simp [Diag.at, hk], by simp, by simp, by simp⟩
  | seg _ s' => cases flag_false he rfl; exact .same rfl rfl rfl
  | tab _ g l => cases flag_false he rfl; exact .same rfl rfl rfl
  | @task _ _ t r ha =>
    cases flag_false he rfl
    cases r with
    | global =>
      simp only [addTask, Out.ok.injEq] at ha
      subst ha
      exact ⟨[], [t], [], ⟨rfl, rfl, by cases st.localTasks <;> simp⟩, by simp, fun _ h => List.mem_singleton.mp h ▸ hp, by simp, by simp⟩
    | loc =>
      cases hq : st.localTasks with
      | none => simp only [addTask, hq] at ha; cases ha
      | some q =>
        simp only [addTask, hq, Out.ok.injEq] at ha
        subst ha
        exact ⟨[], [], [t], ⟨rfl, (List.append_nil _).symm, by simp [hq]⟩, by simp, by simp, fun _ h => List.mem_singleton.mp h ▸ hp, by simp⟩

theorem AddsK.ls_nil {t0 : Task} (h : AddsK (.ofTask t0) C f l c e st st') : st'.localTasks = st.localTasks := by
  obtain ⟨_, _, ls, a, _, _, hl, _⟩ := h
  cases ls with
  | nil => rw [a.lt]; cases st.localTasks <;> simp
  | cons t _ => exact nomatch (hl t List.mem_cons_self).1.1

theorem EffK.refl (C : Cls) (f : Bytes) (l c : Nat) (st : St) : EffK C f l c st st :=
  ⟨fun _ h => .inl h, fun _ h => .inl h, fun q hq _ ht => .inl ⟨q, hq, ht⟩⟩

theorem effK_pushIn (C : Cls) (f : Bytes) (l c : Nat) (st : St) (k : Kind) (hk : pushesC C k = true) :
    EffK C f l c st (st.pushIn f l c k) := by
  refine ⟨fun x hx => ?_, fun _ h => .inl h, fun q hq t ht => .inl ⟨q, hq, ht⟩⟩
  simp only [St.pushIn, List.mem_cons] at hx
  rcases hx with rfl | hx
  · exact .inr ⟨⟨rfl, rfl, rfl⟩, hk⟩
  · exact .inl hx

theorem AddsK.effK (h : AddsK m C f l c e st st') : EffK C f l c st st' := by
  obtain ⟨ds, gs, ls, a, hd, hg, hl, _⟩ := h
  refine ⟨fun d hd' => ?_, fun t ht' => ?_, fun q' hq' t ht' => ?_⟩
  · exact (List.mem_append.mp (a.errs ▸ hd')).elim (fun h => .inr (hd d h)) .inl
  · exact (List.mem_append.mp (a.gt ▸ ht')).elim .inl fun h => .inr (hg t h).2
  · rw [a.lt] at hq'
    cases hq : st.localTasks with
    | none => simp [hq] at hq'
    | some q =>
      simp only [hq, Option.map_some, Option.some.injEq] at hq'
      subst hq'
      exact (List.mem_append.mp ht').elim (fun h => .inl ⟨q, rfl, h⟩) fun h => .inr (hl t h).2

theorem EffK.toEff {C : Cls} {f : Bytes} {l c : Nat} {st st' : St} (h : EffK C f l c st st') : Eff f l c st st' :=
  ⟨fun d hd => (h.1 d hd).imp id And.left, fun t ht => (h.2.1 t ht).imp id And.left,
   fun q hq t ht => (h.2.2 q hq t ht).imp id And.left⟩

theorem AddsK.eff (h : AddsK m C f l c e st st') : Eff f l c st st' := h.effK.toEff

def Keeps (st st' : St) : Prop := ∀ d ∈ st.errors, d ∈ st'.errors

theorem Keeps.refl (st : St) : Keeps st st := fun _ h => h
theorem Keeps.trans {a b c : St} (h1 : Keeps a b) (h2 : Keeps b c) : Keeps a c := fun d h => h2 d (h1 d h)
theorem keeps_of_eq {st st' : St} (h : st'.errors = st.errors) : Keeps st st' := fun d hd => by rw [h]; exact hd
theorem keeps_push (st : St) (env : Env) (l c : Nat) (k : Kind) : Keeps st (st.push env l c k) :=
  fun _ hd => List.mem_cons_of_mem _ hd

@[simp] theorem pushIn_len (st : St) (f : Bytes) (l c : Nat) (k : Kind) :
    (st.pushIn f l c k).errors.length = st.errors.length + 1 := rfl
@[simp] theorem push_len (st : St) (env : Env) (l c : Nat) (k : Kind) :
    (st.push env l c k).errors.length = st.errors.length + 1 := rfl

theorem insertConstant_errs {st st' : St} {n : Bytes} {v : Int} {r : Realm} {x : Except CErr Bool}
    (h : insertConstant st n v r = .ok (st', x)) : st'.errors = st.errors := by
  cases insertConstant_does h
  rfl

theorem addTask_errs {st st' : St} {t : Task} {r : Realm} (h : addTask st t r = .ok st') : st'.errors = st.errors := by
  unfold addTask at h
  repeat' split at h
  all_goals (first | (cases h; done) | (cases h; rfl))

def QSub (st st' : St) : Prop := ∀ q, st.localTasks = some q → ∃ new, st'.localTasks = some (q ++ new)

theorem QSub.refl (st : St) : QSub st st := fun q hq => ⟨[], by rw [List.append_nil]; exact hq⟩

theorem QSub.trans {a b c : St} (h1 : QSub a b) (h2 : QSub b c) : QSub a c := fun q hq => by
  obtain ⟨n1, e1⟩ := h1 q hq
  obtain ⟨n2, e2⟩ := h2 _ e1
  exact ⟨n1 ++ n2, by rw [e2, List.append_assoc]⟩

theorem QSub.of_eq {st st' : St} (hlt : st'.localTasks = st.localTasks) : QSub st st' :=
  fun q hq => ⟨[], by rw [hlt, List.append_nil]; exact hq⟩

theorem qsub_pushIn (st : St) (f : Bytes) (l c : Nat) (k : Kind) : QSub st (st.pushIn f l c k) :=
  .of_eq rfl

theorem qsub_push (st : St) (env : Env) (l c : Nat) (k : Kind) : QSub st (st.push env l c k) :=
  .of_eq rfl

theorem AddsK.qsub (h : AddsK m C f l c e st st') : QSub st st' := by
  obtain ⟨_, _, ls, a, _⟩ := h
  exact fun q hq => ⟨ls, by rw [a.lt, hq]; rfl⟩

end

def Logs (P : Diag → Prop) (e : Bool) (st st' : St) : Prop :=
  ∃ ds, st'.errors = ds ++ st.errors ∧ (∀ d ∈ ds, P d) ∧ (e = true → ds ≠ [])

section
variable {P P' : Diag → Prop} {e e1 e2 : Bool} {a b c : St}

theorem Logs.of_eq (h : b.errors = a.errors) : Logs P false a b := ⟨[], h, fun _ m => (nomatch m), Bool.noConfusion⟩

theorem Logs.refl (P : Diag → Prop) (a : St) : Logs P false a a := .of_eq rfl

theorem Logs.trans (h1 : Logs P e1 a b) (h2 : Logs P e2 b c) : Logs P (e1 || e2) a c := by
  obtain ⟨d1, q1, p1, n1⟩ := h1
  obtain ⟨d2, q2, p2, n2⟩ := h2
  refine ⟨d2 ++ d1, by rw [q2, q1, List.append_assoc], fun d hd => (List.mem_append.mp hd).elim (p2 d) (p1 d), fun he => ?_⟩
  rcases Bool.or_eq_true_iff.mp he with h | h
  · simp [n1 h]
  · simp [n2 h]

theorem Logs.weaken {e' : Bool} (h : Logs P e a b) (he : e' = true → e = true) : Logs P e' a b := by
  obtain ⟨ds, q, p, n⟩ := h
  exact ⟨ds, q, p, fun h' => n (he h')⟩

theorem Logs.mono (h : Logs P e a b) (hP : ∀ d, P d → P' d) : Logs P' e a b := by
  obtain ⟨ds, q, p, n⟩ := h
  exact ⟨ds, q, fun d hd => hP d (p d hd), n⟩

theorem Logs.congr {a' b' : St} (h : Logs P e a b) (ha : a'.errors = a.errors) (hb : b'.errors = b.errors) : Logs P e a' b' := by
  obtain ⟨ds, q, p, n⟩ := h
  exact ⟨ds, by rw [hb, ha, q], p, n⟩

theorem Logs.pushIn {f : Bytes} {l c : Nat} {k : Kind} (st : St) (hk : P ⟨f, l, c, k⟩) : Logs P e st (st.pushIn f l c k) :=
  ⟨[⟨f, l, c, k⟩], rfl, fun d hd => by rw [List.mem_singleton.mp hd]; exact hk, fun _ => by simp⟩

theorem Logs.keeps (h : Logs P e a b) : Keeps a b := by
  obtain ⟨ds, q, _, _⟩ := h
  exact fun d hd => q ▸ List.mem_append_right ds hd

theorem Logs.length (h : Logs P e a b) : a.errors.length + e.toNat ≤ b.errors.length := by
  obtain ⟨ds, q, _, n⟩ := h
  rw [q, List.length_append]
  cases e with
  | false => simp
  | true => have := List.length_pos_iff.mpr (n rfl); simp only [Bool.toNat_true]; omega

theorem Logs.all (h : Logs P e a b) (ha : ∀ d ∈ a.errors, P d) : ∀ d ∈ b.errors, P d := by
  obtain ⟨ds, q, p, _⟩ := h
  exact fun d hd => (List.mem_append.mp (q ▸ hd)).elim (p d) (ha d)

end

section
variable {m : May} {C : Cls} {f : Bytes} {l c : Nat} {e : Bool} {st st' : St}

theorem AddsK.logs (h : AddsK m C f l c e st st') : Logs (fun d => d.at f l c ∧ pushesC C d.kind = true) e st st' := by
  obtain ⟨ds, _, _, a, hd, _, _, he⟩ := h
  exact ⟨ds, a.errs, hd, he⟩

theorem AddsK.keeps (h : AddsK m C f l c e st st') : Keeps st st' := h.logs.keeps

theorem AddsK.length (h : AddsK m C f l c e st st') : st.errors.length + e.toNat ≤ st'.errors.length := h.logs.length

end

section
variable {m : May}

theorem writeData_addsK {f : Bytes} {l c : Nat} {d : DataExpr} {st : St} {bytes : Bytes} (hd : d.at f l c) :
    ∀ d' st' r, d.writeData st bytes = .ok (d', st', r) →
      AddsK m (.dir (bytesOf d.du.name)) f l c r.isErr st st' ∧ d'.at f l c ∧ d'.du = d.du :=
  fun _ _ _ h => ((writeData_acts hd rfl).ok h).imp_left Acts.addsK

theorem apply_addsK {f : Bytes} {l c : Nat} {d : DataExpr} {env : Env} {st : St} {loc : Bool} (hd : d.at f l c) :
    ∀ d' st' op, d.apply env st loc = .ok (d', st', op) →
      AddsK m (.dir (bytesOf d.du.name)) f l c op.isErr st st' ∧ d'.at f l c ∧ d'.du = d.du :=
  fun _ _ _ h => ((apply_acts hd rfl).ok h).imp_left Acts.addsK

theorem assembleI_addsK {f : Bytes} {l c : Nat} {i : ArmInstr} {env : Env} {st : St} {loc : Bool} (hi : i.at f l c) :
    ∀ i' st' op, i.assemble env st loc = .ok (i', st', op) → AddsK m .ins f l c op.isErr st st' ∧ i'.at f l c :=
  fun _ _ _ h => ((assembleI_acts hi rfl).ok h).imp_left Acts.addsK

theorem writeInstr_addsK {f : Bytes} {l c : Nat} {enc : Encoder} {i : ArmInstr} {st : St} {df : Bool} (hi : i.at f l c) :
    ∀ i' st' r, i.writeInstr enc st df = .ok (i', st', r) → AddsK m .ins f l c r.isErr st st' ∧ i'.at f l c :=
  fun _ _ _ h => ((writeInstr_acts hi rfl).ok h).imp_left Acts.addsK

end

theorem statement_addsK {fs : Bytes → Option Bytes} {enc : Encoder} {inc : Inc} {env : Env} {st : St} {el : Element}
    (hni : ∀ as, el.val ≠ .directive (bytesOf "include") as) :
    ∀ st' r, statement fs enc inc env st el = .ok (st', r) →
      AddsK .stmt (Cls.of el.val) env.curName el.line el.col r.isErr st st' :=
  fun _ _ h => ((statement_acts hni).ok h).addsK

theorem runTask_addsK {enc : Encoder} {env : Env} {st : St} {t : Task} :
    ∀ st' r, runTask enc env st t = .ok (st', r) →
      AddsK (.ofTask t) t.cls (t.site env).1 (t.site env).2.1 (t.site env).2.2 r.isErr st st' :=
  fun _ _ h => (runTask_acts.ok h).addsK

theorem runTask_grew {enc : Encoder} {env : Env} {st : St} {t : Task} :
    ∀ st' r, runTask enc env st t = .ok (st', r) → st.errors.length + r.isErr.toNat ≤ st'.errors.length :=
  fun _ _ h => (runTask_addsK _ _ h).length

/-- what the recursive call contributes is not at the statement's position; `.include` itself adds at most the
final `AssemblyFailed` diagnostic -/
theorem includeDirective_effK {fs : Bytes → Option Bytes} {inc : Inc} {env : Env} {st : St} {line col : Nat}
    {args : List Arg} :
    ∀ st' r, includeDirective fs inc env st line col args = .ok (st', r) →
      EffK (.dir (bytesOf "include")) env.curName line col st st' ∨
      ∃ data path st1 r1, fs path = some data ∧ inc env st data path = .ok (st1, r1) ∧
        EffK (.dir (bytesOf "include")) env.curName line col st1 st' := by
  intro st' r h
  rcases includeDirective_shape h with ⟨k, rfl, hk⟩ | ⟨data, path, st1, r1, hfs, hi, ⟨rfl, _⟩ | ⟨k, rfl, hk⟩⟩
  · exact .inl (effK_pushIn _ _ _ _ _ _ (pushes_ofDir hk))
  · exact .inr ⟨_, _, _, _, hfs, hi, .refl ..⟩
  · exact .inr ⟨_, _, _, _, hfs, hi, effK_pushIn _ _ _ _ _ _ (pushes_ofDir hk)⟩

theorem runTask_effK {enc : Encoder} {env : Env} {st : St} {t : Task} {f : Bytes} {l c : Nat} (ht : t.at f l c)
    (hf : ∀ n l' c', t = .globalCopy n l' c' → f = env.curName) :
    ∀ st' r, runTask enc env st t = .ok (st', r) → EffK t.cls f l c st st' :=
  fun _ _ h => ((runTask_acts_at ht hf).ok h).addsK.effK

theorem runDataTask_qsub {d : DataExpr} {g : Bool} {env : Env} {st : St} :
    ∀ st' r, runDataTask d g env st = .ok (st', r) → QSub st st' :=
  fun _ _ h => (runTask_addsK (enc := encoder) (t := .data d g) _ _ h).qsub

theorem runInstrTask_qsub {enc : Encoder} {i : ArmInstr} {g : Bool} {env : Env} {st : St} :
    ∀ st' r, runInstrTask enc i g env st = .ok (st', r) → QSub st st' :=
  fun _ _ h => (runTask_addsK (t := .instr i g) _ _ h).qsub

end Trion.Asm
