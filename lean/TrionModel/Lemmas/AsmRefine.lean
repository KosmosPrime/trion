import TrionModel.Lemmas.AsmAbs
/-!
# What the statement simulation is assembled from

`mem_instrDeps`: the names an instruction depends on are what the operands of its evaluating getters mention; the algebra of
`Table.val` and `EnvRel` under `Table.set`; and `Layout.step` on a `valueStmt`.
-/
namespace Trion.Asm
open Trion Trion.SegLayout

theorem mem_instrDeps {c : Bytes} : ∀ {ks : List Front.Kind} {args : List Arg},
    c ∈ instrDeps ks args ↔ ∃ k a, (k, a) ∈ List.zip ks args ∧ k.evals = true ∧ c ∈ idents a
  | [], _ => by simp [instrDeps]
  | _ :: _, [] => by simp [instrDeps]
  | k' :: ks, a' :: args => by
    simp only [instrDeps, List.mem_append, List.zip_cons_cons, List.mem_cons, mem_instrDeps (ks := ks) (args := args)]
    constructor
    · rintro (h | ⟨k, a, hz, hk, hc⟩)
      · by_cases hk : k'.evals = true
        · exact ⟨k', a', .inl rfl, hk, by rw [if_pos hk] at h; exact h⟩
        · rw [if_neg hk] at h; cases h
      · exact ⟨k, a, .inr hz, hk, hc⟩
    · rintro ⟨k, a, hz | hz, hk, hc⟩
      · cases hz; exact .inl (by rw [if_pos hk]; exact hc)
      · exact .inr ⟨k, a, hz, hk, hc⟩

theorem val_set (t : Table) (n m : Bytes) (v : Int) :
    (t.set n (some v)).val m = if n = m then some v else t.val m := by
  unfold Table.val
  rw [find_set]
  by_cases h : n = m <;> simp [h]

theorem val_some_of_find {t : Table} (hn : Table.NoDef t) {n : Bytes} (h : t.find n ≠ none) : (t.val n).isSome = true := by
  unfold Table.val
  cases hf : t.find n with
  | none => exact absurd hf h
  | some o =>
    cases o with
    | none => exact absurd hf (hn n)
    | some v => rfl

theorem find_fresh {t : Table} (hn : Table.NoDef t) {n : Bytes} (hu : ∀ w, t.find n ≠ some (some w)) : t.find n = none := by
  cases hf : t.find n with
  | none => rfl
  | some o => cases o with
    | none => exact absurd hf (hn n)
    | some w => exact absurd hf (hu w)

theorem val_none_of_find {t : Table} {n : Bytes} (h : t.find n = none) : t.val n = none := by
  unfold Table.val; rw [h]

theorem hasAll_map {num : Bytes → Nat} {t : Table} {e : Layout.Env} (hr : EnvRel num t e) (deps : List Bytes) :
    e.hasAll (deps.map num) = deps.all fun n => (t.val n).isSome := by
  unfold Layout.Env.hasAll
  rw [List.all_map]
  congr 1
  funext n
  simp [hr n]

theorem hasAll_of_known {num : Bytes → Nat} {t : Table} {e : Layout.Env} (hr : EnvRel num t e) (hn : Table.NoDef t)
    {deps : List Bytes} (h : ∀ s ∈ deps, t.find s ≠ none) : e.hasAll (deps.map num) = true := by
  rw [hasAll_map hr, List.all_eq_true]
  exact fun s hs => val_some_of_find hn (h s hs)

theorem not_hasAll_of_unknown {num : Bytes → Nat} {t : Table} {e : Layout.Env} (hr : EnvRel num t e)
    {deps : List Bytes} {c : Bytes} (hc : c ∈ deps) (hf : t.find c = none) : e.hasAll (deps.map num) = false := by
  rw [hasAll_map hr, List.all_eq_false]
  exact ⟨c, hc, by simp [val_none_of_find hf]⟩

theorem Table.sub_set {t : Table} {n : Bytes} (h : t.find n = none) (v : Int) : Table.Sub t (t.set n (some v)) := by
  intro m w hm
  rw [find_set]
  by_cases e : n = m
  · subst e; rw [h] at hm; cases hm
  · rw [if_neg e]; exact hm

theorem Table.nodef_set {t : Table} (hn : Table.NoDef t) (n : Bytes) (v : Int) : Table.NoDef (t.set n (some v)) := by
  intro m
  rw [find_set]
  by_cases e : n = m
  · rw [if_pos e]; simp
  · rw [if_neg e]; exact hn m

theorem envRel_insert {num : Bytes → Nat} (hinj : Function.Injective num) {t : Table} {e : Layout.Env}
    (hr : EnvRel num t e) (n : Bytes) (v : Int) : EnvRel num (t.set n (some v)) ((num n, v) :: e) := by
  intro m
  rw [val_set]
  simp only [Layout.Env.get]
  by_cases h : n = m
  · subst h; simp
  · have : num n ≠ num m := fun hh => h (hinj hh)
    rw [if_neg this, if_neg h]
    exact hr m

theorem active_of_sim {s : Seg.State} {l : Layout.State} (r : R s l) {seg : Seg.Active} (ha : s.active = some seg) :
    l.active = some (toL seg) := by rw [r.2, ha]; rfl

theorem active_none_of_sim {s : Seg.State} {l : Layout.State} (r : R s l) (ha : s.active = none) :
    l.active = none := by rw [r.2, ha]; rfl

/-- the saturated cursor `Seg.Active.cur` is the true cursor `Asm.cursor` whenever one more byte fits -/
theorem cur_true {m : Map.Segs} {seg : Seg.Active} (ok : Seg.ActiveOk m seg) {n : Nat} (hn : 0 < n)
    (hfit : seg.buf.length + n ≤ seg.maxLen) : seg.cur = seg.base + seg.buf.length := by
  obtain ⟨_, a2, _, _⟩ := ok
  unfold Seg.Active.cur Map.u32Max
  omega

theorem step_value_direct {l : Layout.State} {s : Layout.Active} (ha : l.active = some s) (num : Bytes → Nat)
    (len : Nat) (deps : List Bytes) (final : Bytes) (hall : l.env.hasAll (deps.map num) = true) :
    Layout.step l (valueStmt num len deps final) = Layout.append l final := by
  unfold valueStmt
  split
  · rfl
  · simp only [Layout.step, ha, hall, if_true]

theorem step_value_defer {l : Layout.State} {s : Layout.Active} (ha : l.active = some s) (num : Bytes → Nat)
    (len : Nat) (deps : List Bytes) (final : Bytes) (hall : l.env.hasAll (deps.map num) = false) :
    Layout.step l (valueStmt num len deps final) =
      match Layout.append l (Layout.placeholder len) with
      | .error e => .error e
      | .ok st' => .ok { st' with tasks := st'.tasks ++ [{ addr := s.curr, len := len, deps := deps.map num, final := final }] } := by
  unfold valueStmt
  split
  · rename_i he
    have : deps = [] := List.isEmpty_iff.mp he
    subst this
    simp [Layout.Env.hasAll] at hall
  · simp only [Layout.step, ha, hall, Bool.false_eq_true, if_false]
    rfl

theorem next_value (c : Option Nat) (num : Bytes → Nat) (len : Nat) (deps : List Bytes) (final : Bytes)
    (hl : final.length = len) : Layout.Ref.next c (valueStmt num len deps final) = c.map fun x => x + len := by
  unfold valueStmt
  split
  · simp [Layout.Ref.next, hl]
  · rfl

end Trion.Asm
