import TrionModel.Model.TridasCodec
import TrionModel.Lemmas.TridasRun
import TrionModel.Props.C03  -- for `Codec.dec_canon`, `Codec.decode_wf` (and `Codec.dec_enc` of `Props/C02`)
import TrionModel.Props.C01  -- for `Codec.enc_len`
/-! C20 with the decoder parameter instantiated by the codec model: the decoder hypothesis of `WellFormed` follows from
C02 (`dec_enc`) for canonically encoded entries, and the encodability hypotheses of the semantic round trip follow from
C03 (`dec_canon`, `decode_wf`). -/
namespace Trion.Tridas
open Trion

theorem map_toNat_toUInt8 : ∀ (l : List Nat), (∀ x ∈ l, x < 256) → (l.map (·.toUInt8)).map (·.toNat) = l
  | [], _ => rfl
  | x :: xs, h => by
    simp only [List.map_cons]
    rw [map_toNat_toUInt8 xs (fun y hy => h y (by simp [hy])), Lex.toNat_toUInt8 x (h x (by simp))]

theorem toBytes_lt : ∀ (hws : List Nat), (∀ w ∈ hws, w < 65536) → ∀ x ∈ Codec.toBytes hws, x < 256
  | [], _, x, hx => by simp [Codec.toBytes] at hx
  | w :: ws, h, x, hx => by
    simp only [Codec.toBytes, List.mem_cons] at hx
    have hw := h w (by simp)
    rcases hx with rfl | rfl | hx
    · omega
    · omega
    · exact toBytes_lt ws (fun y hy => h y (by simp [hy])) x hx

theorem isBytes_map_toNat (l : List UInt8) : Codec.IsBytes (l.map (·.toNat)) := by
  intro x hx
  simp only [List.mem_map] at hx
  obtain ⟨u, _, rfl⟩ := hx
  have := u.toNat_lt
  omega

theorem codecDecoder_of_ok (bs : List UInt8) (r : Nat × Instr) (h : Codec.decode (bs.map (·.toNat)) = .ok r) :
    codecDecoder bs = some r := by
  unfold codecDecoder
  rw [h]

theorem ok_of_codecDecoder (bs : List UInt8) (r : Nat × Instr) (h : codecDecoder bs = some r) :
    Codec.decode (bs.map (·.toNat)) = .ok r := by
  unfold codecDecoder at h
  split at h
  · cases h; assumption
  · cases h

/-- C02 applied to the file: at a canonically encoded entry of a gap-free segmentation the REAL decoder returns that
entry's instruction and length -/
theorem codec_dec_of_entryOk {b : List UInt8} {es : List Entry} (hc : Chain es BASE (BASE + b.length))
    {e : Entry} (he : e ∈ es) (hok : EntryOk b e) :
    codecDecoder (b.drop (e.addr - BASE)) = some (e.after - e.addr, e.instr) := by
  obtain ⟨hws, henc, hwf, _, hbytes⟩ := hok
  obtain ⟨_, hb, _⟩ := chain_facts es _ _ hc
  have hbe := hb e he
  have hlt := (Codec.enc_len e.instr hws henc hwf).2.1
  have hlen : 2 * hws.length = e.after - e.addr := encoding_length hbytes hbe.1 hbe.2.2
  have hsplit : b.drop (e.addr - BASE) = slice b e ++ (b.drop (e.addr - BASE)).drop (e.after - e.addr) := by
    unfold slice
    exact (List.take_append_drop _ _).symm
  apply codecDecoder_of_ok
  rw [hsplit, List.map_append, ← hbytes, map_toNat_toUInt8 _ (toBytes_lt hws hlt),
    Codec.dec_enc e.instr hws _ henc hwf, hlen]

/-- C03 applied to the file: whatever the REAL decoder returned is well-formed and re-encodable in its own length -/
theorem codec_entry_canon {b : List UInt8} {es : List Entry} (wf : WellFormed codecDecoder b es)
    {e : Entry} (he : e ∈ es) :
    ∃ hws, Codec.encode e.instr = .ok hws ∧ e.instr.wf ∧ 2 * hws.length = e.after - e.addr := by
  have hr := ok_of_codecDecoder _ _ (wf.dec e he)
  have hb := isBytes_map_toNat (b.drop (e.addr - BASE))
  obtain ⟨hws, h1, h2, _⟩ := Codec.dec_canon _ hb _ _ hr
  exact ⟨hws, h1, (Codec.decode_wf _ hb _ _ hr).1, h2⟩

end Trion.Tridas

namespace Trion.Tridas
open Trion Trion.Show Trion.Codec

theorem targetInRange_of_branch (i : Instr) (a : Nat) (hws : List Nat) (he : encode i = .ok hws)
    (ha : BASE ≤ a) (ha2 : a < 4294967296) (hpc : Show.targetOf i a = getBranch i a)
    (hin : ∀ d, getBranch i a = some d → BASE ≤ d) : targetInRange i a := by
  cases i
  case adr d off => simp [Show.targetOf, getBranch] at hpc
  case ldr d ad o =>
    cases o with
    | reg r => trivial
    | imm off =>
      simp only [targetInRange]
      intro h15
      simp [Show.targetOf, getBranch, h15] at hpc
  case b c off =>
    -- `hpc` says what `getBranch` returned: the printed target
    have hge : BASE ≤ wrapAdd (Show.pcOf a) off := hin _ hpc.symm
    have hw := wrapAdd_cast (Show.pcOf a) off
    have hoff : -2048 ≤ off ∧ off ≤ 2046 := by
      obtain ⟨h1, h2, _⟩ := encode_b he
      unfold Front.bLo at h1; unfold Front.bHi at h2
      split at h1 <;> split at h2 <;> omega
    simp only [targetInRange, Front.pcOf]
    unfold Show.pcOf at hw hge
    unfold BASE at ha hge
    omega
  case bl off =>
    have hge : BASE ≤ wrapAdd (Show.pcOf a) off := hin _ hpc.symm
    have hw := wrapAdd_cast (Show.pcOf a) off
    obtain ⟨_, _, _, _⟩ := encode_bl he
    simp only [targetInRange, Front.pcOf]
    unfold Show.pcOf at hw hge
    unfold BASE at ha hge
    omega
  all_goals trivial

end Trion.Tridas
