import TrionModel.Lemmas.AsmBase
/-!
# `Front.assemble` never changes the constructor of the instruction it fills in — hence the length of the
encoding of a placeholder equals the length of the final encoding
-/
namespace Trion.Front
open Trion
open Trion.Asm (ilen)

theorem ilen_setOp (i : Instr) (pos : Nat) (v : Val) : ilen (setOp i pos v) = ilen i := by
  cases i <;> simp only [setOp] <;> (try rfl) <;> split <;> rfl

theorem ilen_finish {addr : Nat} {i j : Instr} {vals : List Val} {n : Nat} (h : finish addr i vals n = .ok j) :
    ilen j = ilen i := by
  unfold finish at h
  split at h
  all_goals (repeat' split at h)
  all_goals (first | (cases h; done) | skip)
  all_goals (cases h)
  all_goals rfl

theorem ilen_conv (eval : Arg → EvalOut) (loc : Bool) : ∀ (ks : List Kind) (pos : Nat) (pre rest : List Arg) (done : Nat)
    (instr : Instr) (vals : List Val),
    (∀ args d i vs, conv eval loc ks pos pre rest done instr vals = .ok args d i vs → ilen i = ilen instr) ∧
    (∀ args d i r, conv eval loc ks pos pre rest done instr vals = .stop args d i r → ilen i = ilen instr) := by
  intro ks
  induction ks with
  | nil =>
    intro pos pre rest done instr vals
    refine ⟨fun args d i vs h => ?_, fun args d i r h => ?_⟩
    · simp only [conv] at h; cases h; rfl
    · simp only [conv] at h; cases h
  | cons k ks ih =>
    intro pos pre rest done instr vals
    cases rest with
    | nil =>
      refine ⟨fun args d i vs h => ?_, fun args d i r h => ?_⟩
      · simp [conv] at h
      · simp only [conv] at h; cases h; rfl
    | cons x rest =>
      refine ⟨fun args d i vs h => ?_, fun args d i r h => ?_⟩
      · simp only [conv] at h
        split at h
        · rw [(ih _ _ _ _ _ _).1 _ _ _ _ h, ilen_setOp]
        · cases h
      · simp only [conv] at h
        split at h
        · rw [(ih _ _ _ _ _ _).2 _ _ _ _ h, ilen_setOp]
        · cases h; rfl

theorem assemble_keeps (st : St) (eval : Arg → EvalOut) (loc : Bool) :
    (assemble st eval loc).1.addr = st.addr ∧ ilen (assemble st eval loc).1.instr = ilen st.instr := by
  unfold assemble
  simp only
  split
  · exact ⟨rfl, rfl⟩
  · split
    · exact ⟨rfl, rfl⟩
    · split
      · rename_i hc
        exact ⟨rfl, (ilen_conv eval loc _ _ _ _ _ _ _).2 _ _ _ _ hc⟩
      · rename_i hc
        have hi := (ilen_conv eval loc _ _ _ _ _ _ _).1 _ _ _ _ hc
        split
        · rename_i hf
          exact ⟨rfl, by rw [ilen_finish hf, hi]⟩
        · exact ⟨rfl, hi⟩

end Trion.Front
