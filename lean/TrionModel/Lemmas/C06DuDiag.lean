import TrionModel.Lemmas.C04Diag
/-!
# `.du*` statements whose first attempt records a diagnostic

Like an instruction statement (Lemmas/C04Diag.lean) a `.du*` statement goes on after a failed first attempt: it writes
placeholder bytes and queues a retry (`duPlaceholder`).  `duDirective_one` splits the statement into the first attempt
and that tail; the tail never removes a diagnostic (`duPlaceholder_spec`, an instance of `placeholder_spec`).  So whatever
the first attempt recorded is still there when the statement returns: `du_diag_memK` (with the kind of the diagnostic).
-/
namespace Trion.C04
open Trion Trion.Front

abbrev duPlaceholder (size : Nat) (d : Asm.DataExpr) (st : Asm.St) : Asm.Out (Asm.St × Asm.Res) :=
  Asm.placeholder (d.writeData st (List.replicate size 0xBE)) (.data · false)

theorem duPlaceholder_spec {size : Nat} {d : Asm.DataExpr} {st st' : Asm.St} {r : Asm.Res}
    (h : duPlaceholder size d st = .ok (st', r)) :
    Asm.Keeps st st' ∧ st.errors.length ≤ st'.errors.length ∧ (r.isErr = true → st.errors.length + 1 ≤ st'.errors.length) ∧
    (r = .ok → ∀ ts, st.localTasks = some ts → st'.locals = st.locals ∧ st'.errors = st.errors ∧
      ∃ p', st'.localTasks = some (ts ++ [.data { d with placed := p' } false])) :=
  have ⟨h1, h2, h3, h4⟩ := placeholder_spec
    (fun _ _ _ hw => have a := (Asm.writeData_addsK (m := .stmt) ⟨rfl, rfl, rfl⟩ _ _ _ hw).1; ⟨a.keeps, a.length⟩)
    (fun _ _ hw => have ⟨s', _, _, _, e⟩ := Asm.writeData_ok hw; ⟨s', e⟩) h
  ⟨h1, h2, h3, fun e ts hlt =>
    have ⟨a, b, _, _, hw, c⟩ := h4 e ts hlt
    have ⟨_, p', _, ex, _⟩ := Asm.writeData_ok hw
    ⟨a, b, p', ex ▸ c⟩⟩

theorem duDirective_one (du : Asm.DU) (env : Asm.Env) (st : Asm.St) (l c : Nat) (b : Arg) {seg : Seg.Active}
    (hc : st.seg.active = some seg) :
    Asm.duDirective du env st l c [b] =
      match (⟨du, env.curName, l, c, seg.cur, b, false⟩ : Asm.DataExpr).apply env st true with
      | .ok (_, st', .completed) => .ok (st', .ok)
      | .ok (d', st', _) => duPlaceholder du.size d' st'
      | .stop r => .stop r :=
  Asm.duDirective_one du env st l c b (by simp [Asm.currAddr, hc])

theorem du_diag_memK (du : Asm.DU) (env : Asm.Env) (st : Asm.St) (l c : Nat) (b a' : Arg)
    (hact : st.seg.active.isSome = true) (hev : Asm.evalArg env st b = .ok (.complete a'))
    (hbad : ∀ v, a' = .const v → ¬ (0 ≤ v ∧ v ≤ du.max)) :
    ∀ st' r, Asm.duDirective du env st l c [b] = .ok (st', r) →
      ∃ d ∈ st'.errors, d.file = env.curName ∧ d.line = l ∧ d.col = c ∧ d.kind = Asm.duKindOf du a' := by
  intro st' r h
  obtain ⟨seg, hc⟩ := Option.isSome_iff_exists.mp hact
  rw [duDirective_one du env st l c b hc, Asm.apply_bad ⟨du, env.curName, l, c, seg.cur, b, false⟩ env st true a' hev hbad] at h
  simp only at h
  exact ⟨_, (duPlaceholder_spec h).1 _ List.mem_cons_self, rfl, rfl, rfl, rfl⟩

end Trion.C04
