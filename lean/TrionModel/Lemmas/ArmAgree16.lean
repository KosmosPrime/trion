import TrionModel.Lemmas.CodecEq
import TrionModel.Lemmas.ArmSpec
/-! Agreement of the ARMv6-M table with the decoder model on 16-bit patterns: `decodeIn table16 h 16 =
toOpt (decode16 h)`.  Only the rows of its group can match a halfword (`table16_group`).  Inside a group the decoder
is put on a branch by the equations of `CodecEq`; the fields the branch has tested are a run of known bits, which
leaves the branch's own row (`decodeIn_known`), or no row where the decoder reports an error; the row's fields then
read the same as the decoder's (`decodeIn_hit`). -/
namespace Trion.Codec
open Trion Trion.Arm

/-- The manual's `SignExtend(imm:'0')` and the decoder's shift pair give the same branch offset.  The widths are counted
differently: `Arm.sx bits x` extends a value of `bits` bits, here the field with the `'0'` appended; `Codec.sext2 bits v`
takes the field alone, `bits` wide, and doubles it. -/
theorem sx_9 (n : Nat) (hn : n < 256) : sx 9 (n * 2) = sext2 8 n := by
  unfold sx sext2; split <;> split <;> omega

theorem sx_12 (n : Nat) (hn : n < 2048) : sx 12 (n * 2) = sext2 11 n := by
  unfold sx sext2; split <;> split <;> omega

/-- a row with an UNPREDICTABLE side condition against a guard of the decoder -/
theorem toOpt_guard {c : Prop} [Decidable c] {b : Bool} {e : DecErr} {r : DecRes} {x : Option Instr}
    (hc : c ↔ b = true) (hr : x = toOpt r) : (if b = true then none else x) = toOpt (if c then .error e else r) := by
  by_cases hb : b = true
  · rw [if_pos hb, if_pos (hc.mpr hb)]; rfl
  · rw [if_neg hb, if_neg (mt hc.mp hb)]; exact hr

theorem agree_g00 (h : Nat) (hk : h / 2048 = 0) : decodeIn g00 h 16 = toOpt (decode16 h) := by
  rw [decode16_g0 hk]
  by_cases e : h / 64 % 32 = 0
  · rw [dec00000_mov e, withReg_lt (by omega), withReg_lt (by omega)]
    exact decodeIn_hit rfl ⟨by omega, trivial⟩ rfl (by row_fields; rfl)
  · -- MOVS Rd,Rm, the row above, is LSLS with a shift of 0
    rw [dec00000_lsl e, withReg_lt (by omega), withReg_lt (by omega)]
    exact (decodeIn_cons_skip _ _ _ _ fun f => e (by have := f.2.1; omega)).trans
      (decodeIn_hit rfl ⟨lead5 hk (by decide), trivial⟩ rfl (by row_fields; rfl))

theorem agree_g03 (h : Nat) (hk : h / 2048 = 3) : decodeIn g03 h 16 = toOpt (decode16 h) := by
  rw [decode16_g3 hk]
  have k : h / 2 ^ 9 % 2 ^ 7 = 12 + h / 512 % 4 := by omega
  rcases (by omega : h / 512 % 4 = 0 ∨ h / 512 % 4 = 1 ∨ h / 512 % 4 = 2 ∨ h / 512 % 4 = 3) with e | e | e | e
  · rw [dec00011_reg (by omega), withReg_lt (by omega), withReg_lt (by omega), withReg_lt (by omega), if_pos (by omega)]
    rw [e] at k
    exact (decodeIn_known k _).trans (decodeIn_hit rfl ⟨k, trivial⟩ rfl (by row_fields; rfl))
  · rw [dec00011_reg (by omega), withReg_lt (by omega), withReg_lt (by omega), withReg_lt (by omega), if_neg (by omega)]
    rw [e] at k
    exact (decodeIn_known k _).trans (decodeIn_hit rfl ⟨k, trivial⟩ rfl (by row_fields; rfl))
  · rw [dec00011_imm (by omega), withReg_lt (by omega), withReg_lt (by omega), if_pos (by omega)]
    rw [e] at k
    exact (decodeIn_known k _).trans (decodeIn_hit rfl ⟨k, trivial⟩ rfl (by row_fields; rfl))
  · rw [dec00011_imm (by omega), withReg_lt (by omega), withReg_lt (by omega), if_neg (by omega)]
    rw [e] at k
    exact (decodeIn_known k _).trans (decodeIn_hit rfl ⟨k, trivial⟩ rfl (by row_fields; rfl))

/-- the sixteen data-processing rows differ in bits 9–6, the opcode the decoder dispatches on -/
theorem agree_g08_dp (h : Nat) (hk : h / 2048 = 8) (b10 : h / 1024 % 2 = 0) :
    decodeIn g08 h 16 = toOpt (decDataProc (h / 64 % 16) (r (h % 8)) (r (h / 8 % 8))) := by
  have k : h / 2 ^ 6 % 2 ^ 10 = 256 + h / 64 % 16 := by omega
  rcases (by omega : h / 64 % 16 = 0 ∨ h / 64 % 16 = 1 ∨ h / 64 % 16 = 2 ∨ h / 64 % 16 = 3 ∨ h / 64 % 16 = 4 ∨
    h / 64 % 16 = 5 ∨ h / 64 % 16 = 6 ∨ h / 64 % 16 = 7 ∨ h / 64 % 16 = 8 ∨ h / 64 % 16 = 9 ∨ h / 64 % 16 = 10 ∨
    h / 64 % 16 = 11 ∨ h / 64 % 16 = 12 ∨ h / 64 % 16 = 13 ∨ h / 64 % 16 = 14 ∨ h / 64 % 16 = 15) with
    e | e | e | e | e | e | e | e | e | e | e | e | e | e | e | e
  all_goals
    rw [e] at k ⊢
    exact (decodeIn_known k _).trans (decodeIn_hit rfl ⟨k, trivial⟩ rfl (by row_fields))

/-- data processing; ADD, CMP, MOV on high registers (`DN:Rdn` is read as `DN * 8 + Rdn` by the table and as
`Rdn + DN * 8` by the decoder); BX, BLX -/
theorem agree_g08 (h : Nat) (hk : h / 2048 = 8) : decodeIn g08 h 16 = toOpt (decode16 h) := by
  rw [decode16_g8 hk]
  by_cases b10 : h / 1024 % 2 = 0
  · rw [dec01000_dp b10, withReg_lt (by omega), withReg_lt (by omega)]; exact agree_g08_dp h hk b10
  · have dn : h / 128 % 2 * 8 + h % 8 = h % 8 + h / 128 % 2 * 8 := Nat.add_comm ..
    rcases (by omega : h / 256 % 4 = 0 ∨ h / 256 % 4 = 1 ∨ h / 256 % 4 = 2 ∨ h / 256 % 4 = 3) with e | e | e | e
    · have k : h / 2 ^ 8 % 2 ^ 8 = 0x44 := by omega
      rw [dec01000_add (by omega) e, withReg_lt (by omega), withReg_lt (by omega)]
      refine (decodeIn_known k _).trans ((decodeIn_cons_hit _ _ _ _ ⟨rfl, by exact ⟨k, trivial⟩⟩).trans ?_)
      row_fields
      rw [dn]
      exact toOpt_guard (by simp [Fin.val_ofNat]; omega) rfl
    · have k : h / 2 ^ 8 % 2 ^ 8 = 0x45 := by omega
      rw [dec01000_cmp (by omega) e, withReg_lt (by omega), withReg_lt (by omega)]
      refine (decodeIn_known k _).trans ((decodeIn_cons_hit _ _ _ _ ⟨rfl, by exact ⟨k, trivial⟩⟩).trans ?_)
      row_fields
      rw [dn]
      simp only [Fin.val_ofNat, Bool.or_eq_true, Bool.and_eq_true, decide_eq_true_eq, beq_iff_eq]
      by_cases c1 : (h % 8 + h / 128 % 2 * 8) % 16 < 8 ∧ h / 8 % 16 % 16 < 8
      · rw [if_pos c1, if_pos (by omega)]; rfl
      · by_cases c2 : (h % 8 + h / 128 % 2 * 8) % 16 = 15 ∨ h / 8 % 16 % 16 = 15
        · rw [if_neg c1, if_pos c2, if_pos (by omega)]; rfl
        · rw [if_neg c1, if_neg c2, if_neg (by omega)]; rfl
    · have k : h / 2 ^ 8 % 2 ^ 8 = 0x46 := by omega
      rw [dec01000_mov (by omega) e, withReg_lt (by omega), withReg_lt (by omega)]
      exact (decodeIn_known k _).trans (decodeIn_hit rfl ⟨k, trivial⟩ rfl (by row_fields; rw [dn]; rfl))
    · by_cases e0 : h % 8 = 0
      · rw [dec01000_bx (by omega) e e0, withReg_lt (by omega)]
        by_cases b7 : h / 128 % 2 = 0
        · have k : h / 2 ^ 7 % 2 ^ 9 = 0x8E := by omega
          refine (decodeIn_known k _).trans ((decodeIn_cons_hit _ _ _ _ ⟨rfl, by exact ⟨k, by omega, trivial⟩⟩).trans ?_)
          row_fields
          rw [if_pos b7]
          exact toOpt_guard (by simp [Fin.val_ofNat]) rfl
        · have k : h / 2 ^ 7 % 2 ^ 9 = 0x8F := by omega
          refine (decodeIn_known k _).trans ((decodeIn_cons_hit _ _ _ _ ⟨rfl, by exact ⟨k, by omega, trivial⟩⟩).trans ?_)
          row_fields
          rw [if_neg b7]
          exact toOpt_guard (by simp [Fin.val_ofNat]) rfl
      · -- bits 15–8 leave BX and BLX, where bits 2–0 are `(0)(0)(0)`
        have k : h / 2 ^ 8 % 2 ^ 8 = 0x47 := by omega
        rw [dec01000_bx_unpred (by omega) e e0]
        exact (decodeIn_known k _).trans
          (decodeIn_nofit (NoFit_of_run (p := 0) (l := 3) (· = 0) (by decide) (by show ¬ _ = 0; omega)))

theorem agree_g10 (h : Nat) (hk : h / 2048 = 10) : decodeIn g10 h 16 = toOpt (decode16 h) := by
  rw [decode16_g10_11 (.inl hk)]
  have k : h / 2 ^ 9 % 2 ^ 7 = 40 + h / 512 % 8 := by omega
  rcases (by omega : h / 512 % 8 = 0 ∨ h / 512 % 8 = 1 ∨ h / 512 % 8 = 2 ∨ h / 512 % 8 = 3) with e | e | e | e
  all_goals
    rw [dec0101_op _ e, withReg_lt (by omega), withReg_lt (by omega), withReg_lt (by omega)]
    rw [e] at k
    exact (decodeIn_known k _).trans (decodeIn_hit rfl ⟨k, trivial⟩ rfl (by row_fields; rfl))

theorem agree_g11 (h : Nat) (hk : h / 2048 = 11) : decodeIn g11 h 16 = toOpt (decode16 h) := by
  rw [decode16_g10_11 (.inr hk)]
  have k : h / 2 ^ 9 % 2 ^ 7 = 40 + h / 512 % 8 := by omega
  rcases (by omega : h / 512 % 8 = 4 ∨ h / 512 % 8 = 5 ∨ h / 512 % 8 = 6 ∨ h / 512 % 8 = 7) with e | e | e | e
  all_goals
    rw [dec0101_op _ e, withReg_lt (by omega), withReg_lt (by omega), withReg_lt (by omega)]
    rw [e] at k
    exact (decodeIn_known k _).trans (decodeIn_hit rfl ⟨k, trivial⟩ rfl (by row_fields; rfl))

/-- miscellaneous, first half: SP adjustment, extension, PUSH, CPS; bits 15–8 alone settle the undefined patterns -/
theorem agree_g22 (h : Nat) (hk : h / 2048 = 22) : decodeIn g22 h 16 = toOpt (decode16 h) := by
  rw [decode16_g22 hk]
  have k : h / 2 ^ 8 % 2 ^ 8 = 0xB0 + h / 256 % 8 := by omega
  rcases dec10110_sel h with e | e | e | e | e | e | e
  · rw [dec10110_sp e]
    by_cases b7 : h / 128 % 2 = 0
    · have k : h / 2 ^ 7 % 2 ^ 9 = 0x160 := by omega
      rw [if_pos b7]
      exact (decodeIn_known k _).trans (decodeIn_hit rfl ⟨k, trivial⟩ rfl (by row_fields; rfl))
    · have k : h / 2 ^ 7 % 2 ^ 9 = 0x161 := by omega
      rw [if_neg b7]
      exact (decodeIn_known k _).trans (decodeIn_hit rfl ⟨k, trivial⟩ rfl (by row_fields; rfl))
  · have k : h / 2 ^ 6 % 2 ^ 10 = 0x2C8 + h / 64 % 4 := by omega
    rw [dec10110_ext e, withReg_lt (by omega), withReg_lt (by omega)]
    rcases (by omega : h / 64 % 4 = 0 ∨ h / 64 % 4 = 1 ∨ h / 64 % 4 = 2 ∨ h / 64 % 4 = 3) with o | o | o | o
    all_goals
      rw [o] at k
      rw [show h / 128 % 2 = h / 64 % 4 / 2 by omega, show h / 64 % 2 = h / 64 % 4 % 2 by omega, o]
      exact (decodeIn_known k _).trans (decodeIn_hit rfl ⟨k, trivial⟩ rfl (by row_fields; rfl))
  · have k : h / 2 ^ 9 % 2 ^ 7 = 0x5A := by omega
    rw [dec10110_push e]
    refine (decodeIn_known k _).trans ((decodeIn_cons_hit _ _ _ _ ⟨rfl, by exact ⟨k, trivial⟩⟩).trans ?_)
    row_fields
    rw [Nat.add_comm]
    exact toOpt_guard (by simp) rfl
  · rw [dec10110_cps e]
    rw [e] at k
    by_cases c : h / 32 % 8 = 3
    · have k : h / 2 ^ 5 % 2 ^ 11 = 0x5B3 := by omega
      rw [if_pos c]
      by_cases c' : h % 16 = 2
      · rw [if_neg fun n => n c']
        exact (decodeIn_known k _).trans (decodeIn_hit rfl ⟨k, by omega, trivial⟩ rfl (by row_fields; rfl))
      · -- bits 3–0 of the CPS row are `0010`
        rw [if_pos c']
        exact (decodeIn_known k _).trans
          (decodeIn_nofit (NoFit_of_run (p := 0) (l := 4) (· = 2) (by decide) (by show ¬ _ = 2; omega)))
    · -- bits 15–8 leave the CPS row, which fixes bits 15–5
      rw [if_neg c]
      exact (decodeIn_known k _).trans
        (decodeIn_nofit (NoFit_of_run (p := 5) (l := 11) (· = 0x5B3) (by decide) (by show ¬ _ = 0x5B3; omega)))
  all_goals
    rw [dec10110_undef (by omega)]
    rw [e] at k
    exact decodeIn_known k _

/-- miscellaneous, second half: byte reversal, POP, BKPT, hints -/
theorem agree_g23 (h : Nat) (hk : h / 2048 = 23) : decodeIn g23 h 16 = toOpt (decode16 h) := by
  rw [decode16_g23 hk]
  have k : h / 2 ^ 8 % 2 ^ 8 = 0xB8 + h / 256 % 8 := by omega
  rcases dec10111_sel h with e | e | e | e | e | e | e
  · have k : h / 2 ^ 6 % 2 ^ 10 = 0x2E8 + h / 64 % 4 := by omega
    rw [dec10111_rev e, withReg_lt (by omega), withReg_lt (by omega)]
    rcases (by omega : h / 64 % 4 = 0 ∨ h / 64 % 4 = 1 ∨ h / 64 % 4 = 2 ∨ h / 64 % 4 = 3) with o | o | o | o
    · rw [o] at k ⊢
      exact (decodeIn_known k _).trans (decodeIn_hit rfl ⟨k, trivial⟩ rfl (by row_fields; rfl))
    · rw [o] at k ⊢
      exact (decodeIn_known k _).trans (decodeIn_hit rfl ⟨k, trivial⟩ rfl (by row_fields; rfl))
    · rw [o] at k ⊢
      exact decodeIn_known k _
    · rw [o] at k ⊢
      exact (decodeIn_known k _).trans (decodeIn_hit rfl ⟨k, trivial⟩ rfl (by row_fields; rfl))
  · have k : h / 2 ^ 9 % 2 ^ 7 = 0x5E := by omega
    rw [dec10111_pop e]
    refine (decodeIn_known k _).trans ((decodeIn_cons_hit _ _ _ _ ⟨rfl, by exact ⟨k, trivial⟩⟩).trans ?_)
    row_fields
    rw [Nat.add_comm]
    exact toOpt_guard (by simp) rfl
  · rw [dec10111_bkpt e]
    rw [e] at k
    exact (decodeIn_known k _).trans (decodeIn_hit rfl ⟨k, trivial⟩ rfl (by row_fields))
  · rw [dec10111_hint e]
    rw [e] at k
    -- bits 15–8 leave the hints, which are whole halfwords `0xBF00 + 16 * number`
    have none : ¬ (h % 16 = 0 ∧ h / 16 % 16 < 5) → decodeIn g23 h 16 = none := fun c =>
      (decodeIn_known k _).trans (decodeIn_nofit (NoFit_of_run (p := 0) (l := 16) (fun v => v % 16 = 0 ∧ v / 16 % 16 < 5)
        (by decide) (by show ¬ (_ % 16 = 0 ∧ _ / 16 % 16 < 5); omega)))
    by_cases e0 : h % 16 = 0
    · have kh : h / 2 ^ 0 % 2 ^ 16 = 0xBF00 + h / 16 % 16 * 16 := by omega
      rw [if_pos e0]
      rcases decHint_cases h (h / 16 % 16) (by omega) with o | ⟨lo, er⟩
      · rcases o with o | o | o | o | o
        all_goals
          rw [o] at kh ⊢
          exact (decodeIn_known kh _).trans (decodeIn_hit rfl ⟨kh, trivial⟩ rfl rfl)
      · rw [er]; exact none (by omega)
    · rw [if_neg e0]; exact none (by omega)
  all_goals
    rw [dec10111_undef (by omega)]
    rw [e] at k
    exact decodeIn_known k _

/-- leading bits `1101`: conditional branch, UDF, SVC; the same rows serve both values of bit 11 -/
theorem agree_g26 (h : Nat) (hk : h / 2048 = 26 ∨ h / 2048 = 27) : decodeIn g26 h 16 = toOpt (decode16 h) := by
  rw [decode16_g26_27 hk]
  by_cases c : h / 256 % 16 ≤ 13
  · -- UDF and SVC, the two rows above, are conditions 14 and 15
    rw [dec1101_b c, withCond_lt (by omega)]
    exact (decodeIn_cons_skip _ _ _ _ fun f => by have := f.2.1; omega).trans
      ((decodeIn_cons_skip _ _ _ _ fun f => by have := f.2.1; omega).trans
        (decodeIn_hit rfl ⟨by omega, trivial⟩ rfl (by row_fields; rw [sx_9 _ (by omega)]; rfl)))
  · rcases (by omega : h / 256 % 16 = 14 ∨ h / 256 % 16 = 15) with e | e
    · rw [dec1101_udf e]
      exact decodeIn_hit rfl ⟨by omega, trivial⟩ rfl (by row_fields)
    · have k : h / 2 ^ 8 % 2 ^ 8 = 0xDF := by omega
      rw [dec1101_svc e]
      exact (decodeIn_known k _).trans (decodeIn_hit rfl ⟨k, trivial⟩ rfl (by row_fields))

theorem agree_table16 (h : Nat) (ht : h / 2048 < 29) : decodeIn table16 h 16 = toOpt (decode16 h) := by
  rw [table16_group h (by omega)]
  rcases top5_cases ht with
    e | e | e | e | e | e | e | e | e | e | e | e | e | e | e | e | e | e | e | e | e | e | e | e | e | e | e | e | e
  all_goals rw [e]
  · exact agree_g00 h e
  -- a group with one row: the decoder's equation for the group, and the row's fields read the same
  · rw [decode16_g1 e, decShift, withReg_lt (by omega), withReg_lt (by omega)]
    exact decodeIn_hit rfl ⟨lead5 e (by decide), trivial⟩ rfl (by row_fields; rfl)
  · rw [decode16_g2 e, decShift, withReg_lt (by omega), withReg_lt (by omega)]
    exact decodeIn_hit rfl ⟨lead5 e (by decide), trivial⟩ rfl (by row_fields; rfl)
  · exact agree_g03 h e
  · rw [decode16_g4 e, withReg_lt (by omega)]
    exact decodeIn_hit rfl ⟨lead5 e (by decide), trivial⟩ rfl (by row_fields; rfl)
  · rw [decode16_g5 e, withReg_lt (by omega)]
    exact decodeIn_hit rfl ⟨lead5 e (by decide), trivial⟩ rfl (by row_fields; rfl)
  · rw [decode16_g6 e, withReg_lt (by omega)]
    exact decodeIn_hit rfl ⟨lead5 e (by decide), trivial⟩ rfl (by row_fields; rfl)
  · rw [decode16_g7 e, withReg_lt (by omega)]
    exact decodeIn_hit rfl ⟨lead5 e (by decide), trivial⟩ rfl (by row_fields; rfl)
  · exact agree_g08 h e
  · rw [decode16_g9 e, withReg_lt (by omega)]
    exact decodeIn_hit rfl ⟨lead5 e (by decide), trivial⟩ rfl (by row_fields; rfl)
  · exact agree_g10 h e
  · exact agree_g11 h e
  · rw [decode16_g12_13 (.inl e), decLdStImm_st _ _ _ (by omega), withReg_lt (by omega), withReg_lt (by omega)]
    exact decodeIn_hit rfl ⟨lead5 e (by decide), trivial⟩ rfl (by row_fields; rfl)
  · rw [decode16_g12_13 (.inr e), decLdStImm_ld _ _ _ (by omega), withReg_lt (by omega), withReg_lt (by omega)]
    exact decodeIn_hit rfl ⟨lead5 e (by decide), trivial⟩ rfl (by row_fields; rfl)
  · rw [decode16_g14_15 (.inl e), decLdStImm_st _ _ _ (by omega), withReg_lt (by omega), withReg_lt (by omega), Nat.mul_one]
    exact decodeIn_hit rfl ⟨lead5 e (by decide), trivial⟩ rfl (by row_fields; rfl)
  · rw [decode16_g14_15 (.inr e), decLdStImm_ld _ _ _ (by omega), withReg_lt (by omega), withReg_lt (by omega), Nat.mul_one]
    exact decodeIn_hit rfl ⟨lead5 e (by decide), trivial⟩ rfl (by row_fields; rfl)
  · rw [decode16_g16_17 (.inl e), decLdStImm_st _ _ _ (by omega), withReg_lt (by omega), withReg_lt (by omega)]
    exact decodeIn_hit rfl ⟨lead5 e (by decide), trivial⟩ rfl (by row_fields; rfl)
  · rw [decode16_g16_17 (.inr e), decLdStImm_ld _ _ _ (by omega), withReg_lt (by omega), withReg_lt (by omega)]
    exact decodeIn_hit rfl ⟨lead5 e (by decide), trivial⟩ rfl (by row_fields; rfl)
  · rw [decode16_g18 e, withReg_lt (by omega)]
    exact decodeIn_hit rfl ⟨lead5 e (by decide), trivial⟩ rfl (by row_fields; rfl)
  · rw [decode16_g19 e, withReg_lt (by omega)]
    exact decodeIn_hit rfl ⟨lead5 e (by decide), trivial⟩ rfl (by row_fields; rfl)
  · rw [decode16_g20 e, withReg_lt (by omega)]
    exact decodeIn_hit rfl ⟨lead5 e (by decide), trivial⟩ rfl (by row_fields; rfl)
  · rw [decode16_g21 e, withReg_lt (by omega)]
    exact decodeIn_hit rfl ⟨lead5 e (by decide), trivial⟩ rfl (by row_fields; rfl)
  · exact agree_g22 h e
  · exact agree_g23 h e
  · rw [decode16_g24 e, withReg_lt (by omega)]
    exact decodeIn_hit rfl ⟨lead5 e (by decide), trivial⟩ rfl (by row_fields; rfl)
  · rw [decode16_g25 e, withReg_lt (by omega)]
    exact decodeIn_hit rfl ⟨lead5 e (by decide), trivial⟩ rfl (by row_fields; rfl)
  · exact agree_g26 h (.inl e)
  · exact agree_g26 h (.inr e)
  · rw [decode16_g28 e]
    exact decodeIn_hit rfl ⟨lead5 e (by decide), trivial⟩ rfl (by row_fields; rw [sx_12 _ (by omega)])

end Trion.Codec
