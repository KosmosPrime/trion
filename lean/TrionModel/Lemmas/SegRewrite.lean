import TrionModel.Lemmas.Seg
/-!
# Output regions: rewriting a placed statement, and whole histories

A statement of the list `pending` lies in the active buffer or in the closed map (`Placed`), and the target choice of
`rewrite` finds it there: `write_at` overwrites the buffer in place, `put` overwrites occupied addresses only (returns
0). Then the vocabulary of the history theorems of C13, and the step theorems carried along a legal history.
-/
namespace Trion.Seg
open Trion.Map Trion.Dict

theorem image_some {s : State} {seg : Active} (h : s.active = some seg) (k : Nat) :
    image s k = if seg.base ≤ k ∧ k < seg.base + seg.buf.length then seg.buf[k - seg.base]? else abs s.map k := by
  simp only [image, h]

theorem put_zero {s : State} (inv : Inv s) (addr : Nat) (d : List UInt8)
    (H : ∀ k, addr ≤ k → k < addr + d.length → (abs s.map k).isSome = true) :
    ∃ m', Map.put s.map addr d = (.ok 0, m') ∧ MInv m' ∧ abs m' = Dict.put (abs s.map) addr d := by
  by_cases hd : d = []
  · subst hd
    refine ⟨s.map, rfl, inv.1, ?_⟩
    funext k
    rw [put_apply, if_neg (by simp only [List.length_nil]; omega)]
  · have hpos : 0 < d.length := List.length_pos_iff.mpr hd
    have hbound : addr + d.length ≤ 4294967296 := by
      by_cases c : addr + d.length ≤ 4294967296
      · exact c
      · exfalso
        have h1 := H (addr + d.length - 1) (by omega) (by omega)
        rw [abs_none_of_ge inv.1 (by omega)] at h1
        simp at h1
    obtain ⟨p1, p2, p3⟩ := put_spec s.map addr d inv.1 hbound
    rw [fresh_all_some _ _ _ (fun k hk => H _ (by omega) (by omega))] at p1
    exact ⟨(Map.put s.map addr d).2, Prod.ext p1 rfl, p2, p3⟩

theorem viaMap_spec {s : State} (inv : Inv s) (addr : Nat) (d : List UInt8) (m' : Segs)
    (hm : MInv m') (habs : abs m' = Dict.put (abs s.map) addr d)
    (H : ∀ k, addr ≤ k → k < addr + d.length → (abs s.map k).isSome = true) :
    Inv { s with map := m' } ∧
    (∀ k, ¬ (addr ≤ k ∧ k < addr + d.length) → image { s with map := m' } k = image s k) ∧
    (∀ i, i < d.length → image { s with map := m' } (addr + i) = d[i]?) := by
  have hout : ∀ k, ¬ (addr ≤ k ∧ k < addr + d.length) → abs m' k = abs s.map k := by
    intro k hk; rw [habs, put_apply, if_neg hk]
  have hin : ∀ k, (addr ≤ k ∧ k < addr + d.length) → abs m' k = d[k - addr]? := by
    intro k hk; rw [habs, put_apply, if_pos hk]
  have hcap : ∀ seg, s.active = some seg → ∀ k, seg.base ≤ k → k < seg.base + seg.maxLen →
      ¬ (addr ≤ k ∧ k < addr + d.length) := by
    intro seg ha k k1 k2 hr
    have h1 := (inv.2.1 seg ha).2.2.2 k k1 k2
    have h2 := H k hr.1 hr.2
    rw [h1] at h2
    simp at h2
  refine ⟨⟨hm, fun sg hs => ?_, fun p hp => ?_⟩, ?_, ?_⟩
  · have hs : s.active = some sg := hs
    obtain ⟨a1, a2, a3, a4⟩ := inv.2.1 sg hs
    refine ⟨a1, a2, a3, fun k k1 k2 => ?_⟩
    show abs m' k = none
    rw [hout k (hcap sg hs k k1 k2)]
    exact a4 k k1 k2
  · rcases inv.2.2 p hp with h | h
    · left
      intro k k1 k2
      show (abs m' k).isSome = true
      by_cases c : addr ≤ k ∧ k < addr + d.length
      · rw [hin k c, List.getElem?_eq_getElem (by omega)]; rfl
      · rw [hout k c]; exact h k k1 k2
    · right; exact h
  · intro k hk
    cases ha : s.active with
    | none =>
      rw [image_none (s := ⟨m', none, s.pending⟩) rfl, image_none ha]
      exact hout k hk
    | some seg =>
      rw [image_some (s := ⟨m', some seg, s.pending⟩) rfl, image_some ha]
      show (if seg.base ≤ k ∧ k < seg.base + seg.buf.length then seg.buf[k - seg.base]? else abs m' k) = _
      rw [hout k hk]
  · intro i hi
    cases ha : s.active with
    | none =>
      rw [image_none (s := ⟨m', none, s.pending⟩) rfl]
      show abs m' (addr + i) = _
      rw [hin _ (by omega)]
      congr 1; omega
    | some seg =>
      rw [image_some (s := ⟨m', some seg, s.pending⟩) rfl]
      show (if seg.base ≤ addr + i ∧ addr + i < seg.base + seg.buf.length then seg.buf[addr + i - seg.base]?
        else abs m' (addr + i)) = _
      have a1 := (inv.2.1 seg ha).1
      have := hcap seg ha (addr + i)
      rw [if_neg (by omega), hin _ (by omega)]
      congr 1; omega

theorem writeAt_inplace (seg : Active) (addr : Nat) (d : List UInt8) (hb : seg.base ≤ addr)
    (he : addr + d.length ≤ seg.base + seg.buf.length) (hc : addr ≤ seg.cur) :
    ∃ buf', seg.writeAt addr d = ({ seg with buf := buf' }, .ok) ∧ buf'.length = seg.buf.length ∧
      ∀ j, buf'[j]? = if addr - seg.base ≤ j ∧ j < addr - seg.base + d.length then d[j - (addr - seg.base)]?
        else seg.buf[j]? := by
  unfold Active.writeAt
  rw [if_neg (fun h => h ⟨hb, hc⟩)]
  dsimp only
  rw [if_neg (by omega), if_neg (by omega)]
  by_cases c : addr - seg.base < seg.buf.length
  · -- overwriting inside the buffer is the merge of `put` on the one-segment map `[(base, buf)]`
    rw [if_pos c, show addr - seg.base + d.length = addr + d.length - seg.base by omega]
    have hl := merged_length seg.base addr seg.buf d
    refine ⟨_, rfl, by rw [hl]; omega, fun j => ?_⟩
    have hm := merged_get seg.base addr seg.buf d (by omega) (by omega) (seg.base + j)
    rw [hl, show seg.base + j - min addr seg.base = j by omega, Nat.add_sub_cancel_left] at hm
    by_cases cj : j < seg.buf.length
    · rw [if_pos (by omega)] at hm
      rw [hm]
      by_cases c1 : addr ≤ seg.base + j ∧ seg.base + j < addr + d.length
      · rw [if_pos c1, if_pos (by omega)]; congr 1; omega
      · rw [if_neg c1, if_pos (by omega), if_neg (by omega)]
    · rw [if_neg (by omega), List.getElem?_eq_none (by rw [hl]; omega), List.getElem?_eq_none (by omega)]
  · rw [if_neg c]
    have hd : d = [] := List.eq_nil_of_length_eq_zero (by omega)
    subst hd
    refine ⟨_, rfl, by simp, ?_⟩
    intro j
    rw [if_neg (by simp only [List.length_nil]; omega), List.append_nil]

theorem rewrite_viaMap {s : State} {addr : Nat} {d : List UInt8} {hit : Option (Nat × Nat)} {m' : Segs}
    (hf : Map.find s.map addr .exact = .ok hit)
    (hn : ∀ seg, s.active = some seg → ¬ (hit.isNone ∧ addr ≥ seg.base ∧ addr ≤ seg.cur))
    (hp : Map.put s.map addr d = (.ok 0, m')) :
    rewrite s addr d = ({ s with map := m' }, .ok) := by
  unfold rewrite
  rw [hf, hp]
  cases ha : s.active with
  | none => rfl
  | some seg =>
    dsimp only
    rw [if_neg (hn seg ha)]
    rfl

theorem rewrite_writeAt {s : State} {addr : Nat} {d : List UInt8} {hit : Option (Nat × Nat)} {seg seg' : Active}
    {out : Out}
    (hf : Map.find s.map addr .exact = .ok hit) (ha : s.active = some seg)
    (hc : hit.isNone ∧ addr ≥ seg.base ∧ addr ≤ seg.cur)
    (hw : seg.writeAt addr d = (seg', out)) :
    rewrite s addr d = ({ s with active := some seg' }, out) := by
  unfold rewrite
  rw [hf, ha]
  dsimp only
  rw [if_pos hc, hw]

theorem rewrite_spec {s : State} (inv : Inv s) (addr : Nat) (d : List UInt8)
    (hp : (addr, d.length) ∈ s.pending) :
    (rewrite s addr d).2 = .ok ∧ Inv (rewrite s addr d).1 ∧
    (∀ k, ¬ (addr ≤ k ∧ k < addr + d.length) → image (rewrite s addr d).1 k = image s k) ∧
    (∀ i, i < d.length → image (rewrite s addr d).1 (addr + i) = d[i]?) ∧
    (rewrite s addr d).1.pending = s.pending := by
  have P : Placed s (addr, d.length) := inv.2.2 (addr, d.length) hp
  have hfind : ∃ hit, Map.find s.map addr .exact = .ok hit ∧
      (hit.isNone = true ↔ abs s.map addr = none) := by
    rcases find_exact_isSome inv.1 addr with ⟨hf, hn⟩ | ⟨r, hf, hs⟩
    · exact ⟨none, hf, by simp [hn]⟩
    · refine ⟨_, hf, ?_⟩
      cases h : abs s.map addr <;> simp_all
  obtain ⟨hit, hf, hhit⟩ := hfind
  -- the write-in-place branch is taken exactly when the statement lies in the active buffer
  by_cases hbr : ∃ seg, s.active = some seg ∧ (hit.isNone ∧ addr ≥ seg.base ∧ addr ≤ seg.cur)
  · obtain ⟨seg, ha, hc⟩ := hbr
    obtain ⟨a1, a2, a3, a4⟩ := inv.2.1 seg ha
    have hbase : seg.base ≤ u32Max := by unfold u32Max; omega
    have hcb := cur_bounds seg hbase
    have hrange : seg.base ≤ addr ∧ addr + d.length ≤ seg.base + seg.buf.length := by
      rcases P with h | ⟨sg, hs, h1, h2⟩
      · by_cases hd : d.length = 0
        · have := hc.2.1; have := hc.2.2; omega
        · exfalso
          have h1 := h addr (Nat.le_refl _) (by show addr < addr + d.length; omega)
          rw [hhit.mp hc.1] at h1
          simp at h1
      · rw [ha] at hs; cases hs
        exact ⟨h1, h2⟩
    obtain ⟨buf', hw, hl, hg⟩ := writeAt_inplace seg addr d hrange.1 hrange.2 hc.2.2
    rw [rewrite_writeAt hf ha hc hw]
    refine ⟨rfl, ⟨inv.1, fun sg hs => ?_, fun p hp' => ?_⟩, fun k hk => ?_, fun i hi => ?_, rfl⟩
    · have hs : some { seg with buf := buf' } = some sg := hs
      cases hs
      exact ⟨by show buf'.length ≤ seg.maxLen; rw [hl]; exact a1, a2, a3, a4⟩
    · rcases inv.2.2 p hp' with h | ⟨sg, hs, h1, h2⟩
      · exact Or.inl h
      · rw [ha] at hs; cases hs
        right
        exact ⟨_, rfl, h1, by show p.1 + p.2 ≤ seg.base + buf'.length; rw [hl]; exact h2⟩
    · rw [image_some (s := { s with active := some { seg with buf := buf' } }) rfl, image_some ha]
      show (if seg.base ≤ k ∧ k < seg.base + buf'.length then buf'[k - seg.base]? else abs s.map k) = _
      rw [hl, hg]
      by_cases c : seg.base ≤ k ∧ k < seg.base + seg.buf.length
      · rw [if_pos c, if_pos c, if_neg (by omega)]
      · rw [if_neg c, if_neg c]
    · rw [image_some (s := { s with active := some { seg with buf := buf' } }) rfl]
      show (if seg.base ≤ addr + i ∧ addr + i < seg.base + buf'.length then buf'[addr + i - seg.base]?
        else abs s.map (addr + i)) = _
      rw [hl, if_pos (by omega), hg, if_pos (by omega)]
      congr 1; omega
  · have hn : ∀ seg, s.active = some seg → ¬ (hit.isNone ∧ addr ≥ seg.base ∧ addr ≤ seg.cur) :=
      fun seg ha hc => hbr ⟨seg, ha, hc⟩
    have H : ∀ k, addr ≤ k → k < addr + d.length → (abs s.map k).isSome = true := by
      rcases P with h | ⟨seg, ha, h1, h2⟩
      · exact h
      · intro k k1 k2
        exfalso
        apply hn seg ha
        obtain ⟨a1, a2, a3, a4⟩ := inv.2.1 seg ha
        have h1 : seg.base ≤ addr := h1
        have h2 : addr + d.length ≤ seg.base + seg.buf.length := h2
        refine ⟨hhit.mpr (a4 addr h1 (by omega)), h1, ?_⟩
        unfold Active.cur u32Max
        omega
    obtain ⟨m', hput, hm, habs⟩ := put_zero inv addr d H
    rw [rewrite_viaMap hf hn hput]
    obtain ⟨v1, v2, v3⟩ := viaMap_spec inv addr d m' hm habs H
    exact ⟨rfl, v1, v2, v3, rfl⟩

/-! Under `Inv` the active buffer ends inside the address space (`buf_le_of_inv`: at most 2^32 bytes; exactly 2^32
only in the state `Wrapped`: region based at 0, nothing above it, completely filled). Since /repo 46d02de
`curr_addr` saturates the length, so this state is not special for `rewrite`. -/

/-- the active region is based at 0 and holds 2^32 bytes (so nothing else exists: the whole address space
is one active buffer) -/
def Wrapped (s : State) : Prop := ∃ seg, s.active = some seg ∧ seg.base = 0 ∧ seg.buf.length = 4294967296

theorem buf_le_of_inv {s : State} (inv : Inv s) {seg : Active} (ha : s.active = some seg) :
    seg.base + seg.buf.length ≤ 4294967296 := by
  obtain ⟨a1, a2, _, _⟩ := inv.2.1 seg ha
  omega

def run (s : State) (ops : List Op) : State := ops.foldl (fun s op => (step s op).1) s

def outs : State → List Op → List Out
  | _, [] => []
  | s, op :: r => (step s op).2 :: outs (step s op).1 r

theorem run_cons (s : State) (op : Op) (r : List Op) : run s (op :: r) = run (step s op).1 r := rfl

/-- a history a program can produce: every operation is well-formed (`Op.wf`) in the state it is issued in -/
def Legal : State → List Op → Prop
  | _, [] => True
  | s, op :: r => Op.wf s op ∧ Legal (step s op).1 r

theorem legal_step {s : State} (inv : Inv s) (op : Op) (wf : Op.wf s op) :
    (step s op).2 ≠ .panic ∧ Inv (step s op).1 := by
  by_cases h : ∃ a d, op = .rewrite a d
  · obtain ⟨a, d, rfl⟩ := h
    have h := rewrite_spec inv a d wf
    refine ⟨?_, h.2.1⟩
    show (rewrite s a d).2 ≠ .panic
    rw [h.1]; simp
  · have := step_nonrewrite inv op wf (fun a d e => h ⟨a, d, e⟩)
    exact ⟨this.1, this.2.1⟩

theorem run_inv (ops : List Op) : ∀ (s : State), Inv s → Legal s ops →
    Inv (run s ops) ∧ ∀ o ∈ outs s ops, o ≠ .panic := by
  induction ops with
  | nil => intro s inv _; exact ⟨inv, fun o ho => by cases ho⟩
  | cons op r ih =>
    intro s inv lg
    obtain ⟨h1, h2⟩ := legal_step inv op lg.1
    obtain ⟨i1, i2⟩ := ih _ h2 lg.2
    refine ⟨i1, fun o ho => ?_⟩
    rcases List.mem_cons.mp ho with h | h
    · rw [h]; exact h1
    · exact i2 o h

theorem legal_step_keeps {s : State} (inv : Inv s) (op : Op) (wf : Op.wf s op)
    (k : Nat) (hk : (image s k).isSome = true) (hno : ∀ a d, op = .rewrite a d → ¬ (a ≤ k ∧ k < a + d.length)) :
    image (step s op).1 k = image s k := by
  by_cases h : ∃ a d, op = .rewrite a d
  · obtain ⟨a, d, rfl⟩ := h
    exact (rewrite_spec inv a d wf).2.2.1 k (hno a d rfl)
  · exact (step_nonrewrite inv op wf (fun a d e => h ⟨a, d, e⟩)).2.2 k hk

theorem run_keeps (ops : List Op) : ∀ (s : State), Inv s → Legal s ops → ∀ (k : Nat),
    (image s k).isSome = true → (∀ a d, Op.rewrite a d ∈ ops → ¬ (a ≤ k ∧ k < a + d.length)) →
    image (run s ops) k = image s k := by
  induction ops with
  | nil => intro s _ _ k _ _; rfl
  | cons op r ih =>
    intro s inv lg k hk hno
    have h1 := legal_step_keeps inv op lg.1 k hk (fun a d e => hno a d (by rw [e]; exact List.mem_cons_self ..))
    have h2 := (legal_step inv op lg.1).2
    rw [run_cons, ih _ h2 lg.2 k (by rw [h1]; exact hk) (fun a d e => hno a d (List.mem_cons_of_mem _ e)), h1]

end Trion.Seg
