import TrionModel.Lemmas.TridasFuel
import TrionModel.Lemmas.LayoutMain
/-!
# The tridas listing as an assembler program, at the level of the layout core (C05)

`lineStmts` reads the listing lines as statements of `Trion.Layout` (Model/Layout.lean): the header is
`.addr 0x20000000`, a label line `l_XXXXXXXX:` defines the symbol numbered by its address, an instruction line
is a value-dependent statement whose bytes (in the final symbol table) are `enc i` and which needs the symbols
`deps a i`; blank lines are nothing. Only `listing_roundtrip_layout` (`Props/C20.lean`) uses this reading; the round trip
on text (`Lemmas/TridasRun.lean`) does not go through the layout core.
-/
namespace Trion.Tridas
open Trion.Layout

def lineStmts (enc : Instr → Bytes) (deps : Nat → Instr → List Nat) : List Line → List Stmt
  | [] => []
  | .header :: r => Stmt.addr BASE :: lineStmts enc deps r
  | .blank :: r => lineStmts enc deps r
  | .label a :: r => Stmt.label a :: lineStmts enc deps r
  | .instr a i :: r => Stmt.emit (enc i).length (deps a i) (enc i) :: lineStmts enc deps r

theorem lineStmts_wf (enc : Instr → Bytes) (deps : Nat → Instr → List Nat) (ls : List Line) :
    ∀ s ∈ lineStmts enc deps ls, s.wf = true := by
  induction ls with
  | nil => intro s hs; cases hs
  | cons l r ih =>
    intro s hs
    cases l with
    | header =>
      simp only [lineStmts, List.mem_cons] at hs
      rcases hs with h | h
      · subst h; rfl
      · exact ih s h
    | blank => exact ih s hs
    | label a =>
      simp only [lineStmts, List.mem_cons] at hs
      rcases hs with h | h
      · subst h; rfl
      · exact ih s h
    | instr a i =>
      simp only [lineStmts, List.mem_cons] at hs
      rcases hs with h | h
      · subst h; simp [Stmt.wf]
      · exact ih s h

theorem lineStmts_lead (enc : Instr → Bytes) (deps : Nat → Instr → List Nat) (br : List Nat) (e : Entry)
    (space : Bool) (last : Nat) (rest : List Line) :
    lineStmts enc deps (lead br e space last ++ rest) =
      (if br.contains e.addr then [Stmt.label e.addr] else []) ++ lineStmts enc deps rest := by
  unfold lead
  cases br.contains e.addr <;> cases decide (e.addr ≠ last) <;> cases space <;> rfl

theorem slice_get (b : List UInt8) (e : Entry) (h1 : BASE ≤ e.addr) (k : Nat) (hk1 : e.addr ≤ k) (hk2 : k < e.after) :
    (slice b e)[k - e.addr]? = b[k - BASE]? := by
  unfold slice
  rw [List.getElem?_take_of_lt (by omega), List.getElem?_drop]
  refine congrArg (fun j => b[j]?) ?_
  omega

/-- **pass 2 on the listing**: the instruction lines are laid out back to back from the cursor, and the bytes
they place are the file's -/
theorem pass2_render (enc : Instr → Bytes) (deps : Nat → Instr → List Nat) (b : List UInt8) (br : List Nat) :
    ∀ (es : List Entry) (a z : Nat) (space : Bool) (last : Nat) (img : Img), Chain es a z → BASE ≤ a →
      z ≤ BASE + b.length → (∀ e ∈ es, enc e.instr = slice b e) →
      ∃ img', Ref.pass2 (some a) img (lineStmts enc deps (render br es space last)) = some img' ∧
        ∀ k, img'.get k = if a ≤ k ∧ k < z then b[k - BASE]? else img.get k := by
  intro es
  induction es with
  | nil =>
    intro a z space last img hc _ _ _
    simp only [Chain] at hc
    subst hc
    exact ⟨img, rfl, fun k => by rw [if_neg (by omega)]⟩
  | cons e r ih =>
    intro a z space last img hc ha hz henc
    obtain ⟨c1, c2, c3⟩ := hc
    have hzz : e.after ≤ z := chain_le r _ _ c3
    have he := henc e (by simp)
    have hlen : (enc e.instr).length = e.after - e.addr := by
      rw [he]; exact slice_length b e (by omega) (by omega)
    obtain ⟨img', i1, i2⟩ := ih e.after z (!getReturns e.instr) e.after (img.put a (enc e.instr)) c3 (by omega) hz
      (fun f hf => henc f (by simp [hf]))
    refine ⟨img', ?_, fun k => ?_⟩
    · rw [render_cons, lineStmts_lead]
      have hstep : Ref.pass2 (some a) img
          (Stmt.emit (enc e.instr).length (deps e.addr e.instr) (enc e.instr) ::
            lineStmts enc deps (render br r (!getReturns e.instr) e.after)) = some img' := by
        simp only [Ref.pass2]
        rw [hlen, show a + (e.after - e.addr) = e.after by omega]
        exact i1
      by_cases hb : br.contains e.addr = true
      · rw [if_pos hb]
        simp only [lineStmts, List.cons_append, List.nil_append, Ref.pass2]
        exact hstep
      · rw [if_neg hb]
        simp only [lineStmts, List.nil_append]
        exact hstep
    · rw [i2 k, get_put]
      by_cases hk : e.after ≤ k ∧ k < z
      · rw [if_pos hk, if_pos (by omega)]
      · rw [if_neg hk]
        by_cases hk2 : a ≤ k ∧ k < a + (enc e.instr).length
        · rw [if_pos hk2, if_pos (by omega), he, ← c1]
          exact slice_get b e (by omega) k (by omega) (by omega)
        · rw [if_neg hk2, if_neg (by omega)]

/-- **pass 1 on the listing**: every label line `l_a:` stands where the cursor is `a`, so the symbol table binds
the symbol of a label line to the address the label names (and nothing else) -/
theorem pass1_render (enc : Instr → Bytes) (deps : Nat → Instr → List Nat) (b : List UInt8) (br : List Nat) :
    ∀ (es : List Entry) (a z : Nat) (space : Bool) (last : Nat) (env : Env), Chain es a z → BASE ≤ a →
      z ≤ BASE + b.length → BASE + b.length < two32 → (∀ e ∈ es, enc e.instr = slice b e) →
      (∀ n, env.get n ≠ none → n < a) →
      ∃ env', Ref.pass1 (some a) env (lineStmts enc deps (render br es space last)) = some env' ∧
        ∀ n, env'.get n = if br.contains n = true ∧ ∃ e ∈ es, e.addr = n then some (n : Int) else env.get n := by
  intro es
  induction es with
  | nil =>
    intro a z space last env _ _ _ _ _ _
    exact ⟨env, rfl, fun n => by rw [if_neg (by simp)]⟩
  | cons e r ih =>
    intro a z space last env hc ha hz hsm henc hfresh
    obtain ⟨c1, c2, c3⟩ := hc
    have hzz : e.after ≤ z := chain_le r _ _ c3
    have he := henc e (by simp)
    have hlen : (enc e.instr).length = e.after - e.addr := by
      rw [he]; exact slice_length b e (by omega) (by omega)
    have hrest : ∀ f ∈ r, e.after ≤ f.addr := chain_ge' r _ _ c3
    rw [render_cons, lineStmts_lead]
    by_cases hb : br.contains e.addr = true
    · rw [if_pos hb]
      have hnone : env.get e.addr = none := by
        cases hg : env.get e.addr with
        | none => rfl
        | some v => have := hfresh e.addr (by rw [hg]; simp); omega
      obtain ⟨env', i1, i2⟩ := ih e.after z (!getReturns e.instr) e.after ((e.addr, (a : Int)) :: env) c3 (by omega) hz hsm
        (fun f hf => henc f (by simp [hf]))
        (fun n hn => by
          simp only [Env.get] at hn
          by_cases hk : e.addr = n
          · omega
          · rw [if_neg hk] at hn; have := hfresh n hn; omega)
      refine ⟨env', ?_, fun n => ?_⟩
      · simp only [lineStmts, List.cons_append, List.nil_append, Ref.pass1, hnone]
        rw [if_pos (by unfold top; unfold two32 at hsm; omega)]
        simp only [Ref.size]
        rw [hlen, show a + (e.after - e.addr) = e.after by omega]
        exact i1
      · rw [i2 n]
        by_cases hn : br.contains n = true ∧ ∃ f ∈ r, f.addr = n
        · rw [if_pos hn, if_pos ⟨hn.1, by obtain ⟨f, hf, h⟩ := hn.2; exact ⟨f, by simp [hf], h⟩⟩]
        · rw [if_neg hn]
          simp only [Env.get]
          by_cases hk : e.addr = n
          · rw [if_pos hk, if_pos ⟨hk ▸ hb, e, by simp, hk⟩, ← hk, c1]
          · rw [if_neg hk, if_neg]
            rintro ⟨h1, f, hf, h2⟩
            rcases List.mem_cons.mp hf with hf | hf
            · subst hf; exact hk h2
            · exact hn ⟨h1, f, hf, h2⟩
    · rw [if_neg hb]
      obtain ⟨env', i1, i2⟩ := ih e.after z (!getReturns e.instr) e.after env c3 (by omega) hz hsm
        (fun f hf => henc f (by simp [hf])) (fun n hn => by have := hfresh n hn; omega)
      refine ⟨env', ?_, fun n => ?_⟩
      · simp only [lineStmts, List.nil_append, Ref.pass1, Ref.size]
        rw [hlen, show a + (e.after - e.addr) = e.after by omega]
        exact i1
      · rw [i2 n]
        by_cases hn : br.contains n = true ∧ ∃ f ∈ r, f.addr = n
        · rw [if_pos hn, if_pos ⟨hn.1, by obtain ⟨f, hf, h⟩ := hn.2; exact ⟨f, by simp [hf], h⟩⟩]
        · rw [if_neg hn, if_neg]
          rintro ⟨h1, f, hf, h2⟩
          rcases List.mem_cons.mp hf with hf | hf
          · subst hf; rw [h2] at hb; exact hb h1
          · exact hn ⟨h1, f, hf, h2⟩

end Trion.Tridas
