import TrionModel.Lemmas.FrontReject
/-! Running `Front.assemble` again on the state an earlier run left.  An `ArmInstr::assemble` that does not complete leaves
the instruction queued with the arguments evaluated so far, `args_done`, and the operand stores `{*field} = value` made
before the getter that stopped; the task runs `assemble` on that state.  Evaluators are parameters here; the tables of the
assembler come in with Lemmas/AsmRetry*.lean.

By `run_factor` the second `assemble`, over whatever evaluator, has passed the getters the first one passed, with the same
values, and is at the getter where the first one stopped, before the operand that getter left (`assemble_again`); the
stores made a second time change nothing (`stores_again`).  A run from the ORIGINAL state over an evaluator that completes
what the first one completed stands at the same getter before the original operand.  So each retry theorem
(`assemble_retry*`) compares ONE getter on two operands, under its own hypothesis on the evaluators, in two strengths:
plain (`Grows`, equality of the two `assemble`s) and `O` (up to overflow: `GetLe`, `GrowsO`, `AsmLe`).
`assemble_retry_error` is the case of a first attempt that ended with a diagnostic.  `GetSim`, `ConvSim`, `GrowsS`, `ConvLe`
(on `conv`) and `GetAgree`, `GrowsA` (two values agree when both are values) are further formulations that no theorem uses. -/
namespace Trion.Front
open Trion

/-- the getters whose operand must evaluate to a constant -/
def Kind.number : Kind → Bool
  | .immediate | .offset => true
  | _ => false

/-- the getters whose operand may end as a register or an address (`Rn`, `[Rn]`, `[Rn + Rm]`, `[Rn ± c]`) instead of a number;
not related to `Fits`/`AllFit` -/
def Kind.shape : Kind → Bool
  | .immReg | .address | .addrOffset => true
  | _ => false

theorem number_evals {k : Kind} (hk : k.number = true) : k.evals = true := by
  cases k <;> simp [Kind.number] at hk <;> rfl

theorem kinds_setOp (i : Instr) (pos : Nat) (v : Val) : kinds (setOp i pos v) = kinds i := by
  cases i <;> simp only [setOp] <;> (try rfl) <;> split <;> rfl

theorem kinds_le_three (i : Instr) : (kinds i).length ≤ 3 := by
  cases i <;> simp [kinds]

/-- The values are typed by the kinds of the instruction (`Fits`), so per mnemonic only the stores its getters can make are
looked at. -/
theorem setOp_comm_lt (i : Instr) {p q : Nat} (hpq : p < q) {kp kq : Kind} (hp : (kinds i)[p]? = some kp)
    (hq : (kinds i)[q]? = some kq) {v w : Val} (hv : Fits kp v) (hw : Fits kq w) :
    setOp (setOp i p v) q w = setOp (setOp i q w) p v := by
  have : q < 3 := by have := (List.getElem?_eq_some_iff.1 hq).1; have := kinds_le_three i; omega
  have : (p = 0 ∧ q = 1) ∨ (p = 0 ∧ q = 2) ∨ (p = 1 ∧ q = 2) := by omega
  rcases this with ⟨rfl, rfl⟩ | ⟨rfl, rfl⟩ | ⟨rfl, rfl⟩ <;>
    (cases i <;> cases hp <;> cases hq <;> cases hv <;> cases hw <;> rfl)

theorem setOp_idem (i : Instr) {p : Nat} {kp : Kind} (hp : (kinds i)[p]? = some kp) {v : Val} (hv : Fits kp v) :
    setOp (setOp i p v) p v = setOp i p v := by
  have : p < 3 := by have := (List.getElem?_eq_some_iff.1 hp).1; have := kinds_le_three i; omega
  have : p = 0 ∨ p = 1 ∨ p = 2 := by omega
  rcases this with rfl | rfl | rfl <;> (cases i <;> cases hp <;> cases hv <;> rfl)

theorem allFit_drop_cons {i : Instr} {p : Nat} {v : Val} {vs : List Val} (h : AllFit ((kinds i).drop p) (v :: vs)) :
    ∃ k, (kinds i)[p]? = some k ∧ Fits k v ∧ AllFit ((kinds i).drop (p + 1)) vs := by
  cases hd : (kinds i).drop p with
  | nil => rw [hd] at h; exact h.elim
  | cons k ks =>
    rw [hd] at h
    refine ⟨k, ?_, h.1, ?_⟩
    · have := List.getElem?_drop (xs := kinds i) (i := p) (j := 0)
      rw [hd] at this
      simpa using this.symm
    · have : (kinds i).drop (p + 1) = ((kinds i).drop p).drop 1 := by rw [List.drop_drop]
      rw [this, hd]; exact h.2

/-- the instruction already holds the store -/
def Has (i : Instr) (p : Nat) (v : Val) : Prop := setOp i p v = i

theorem has_stores {i : Instr} {p : Nat} {k : Kind} {v : Val} (hk : (kinds i)[p]? = some k) (hv : Fits k v) (h : Has i p v)
    (q : Nat) (ws : List Val) (hp : p < q) (hw : AllFit ((kinds i).drop q) ws) : Has (stores i q ws) p v := by
  induction ws generalizing i q with
  | nil => exact h
  | cons w ws ih =>
    obtain ⟨kq, hkq, hfw, ht⟩ := allFit_drop_cons hw
    refine ih (by rw [kinds_setOp]; exact hk) ?_ (q + 1) (by omega) (by rw [kinds_setOp]; exact ht)
    unfold Has at h ⊢
    rw [← setOp_comm_lt i hp hk hkq hv hfw, h]

theorem stores_idem (i : Instr) (p : Nat) (vs : List Val) (h : AllFit ((kinds i).drop p) vs) :
    stores (stores i p vs) p vs = stores i p vs := by
  induction vs generalizing i p with
  | nil => rfl
  | cons v vs ih =>
    obtain ⟨k, hk, hv, ht⟩ := allFit_drop_cons h
    have ht : AllFit ((kinds (setOp i p v)).drop (p + 1)) vs := by rw [kinds_setOp]; exact ht
    rw [stores, stores, show setOp _ p v = _ from
      has_stores (by rw [kinds_setOp]; exact hk) hv (setOp_idem i hk hv) (p + 1) vs (by omega) ht]
    exact ih _ _ ht

theorem kinds_stores (i : Instr) (p : Nat) (vs : List Val) : kinds (stores i p vs) = kinds i := by
  induction vs generalizing i p with
  | nil => rfl
  | cons v vs ih => rw [stores, ih, kinds_setOp]

theorem stores_append (i : Instr) (p : Nat) (vs ws : List Val) :
    stores i p (vs ++ ws) = stores (stores i p vs) (p + vs.length) ws := by
  induction vs generalizing i p with
  | nil => rfl
  | cons v vs ih => simp only [List.cons_append, stores, ih, List.length_cons]; congr 1; omega

theorem stores_again (i : Instr) (vs ws : List Val) (h : AllFit (kinds i) (vs ++ ws)) :
    stores (stores i 0 vs) 0 (vs ++ ws) = stores i 0 (vs ++ ws) := by
  rw [stores_append, stores_idem i 0 vs (show AllFit ((kinds i).drop 0) vs from h.left), ← stores_append]

theorem get_deferred_inv {k : Kind} {e : Arg → EvalOut} {l : Bool} {pos done : Nat} {a a' : Arg} {d' : Nat} {c : Bytes}
    (h : get k e l pos done a = .stop a' d' (.deferred c)) :
    k.evals = true ∧ d' = done ∧ done ≤ pos ∧
      (e a = .deferred c a' ∨ (l = true ∧ e a = .noSuchVariable c a')) := by
  rcases get_stop_iff.1 h with ⟨hp, hD⟩ | ⟨_, _, _, h⟩
  · obtain ⟨hk, he⟩ := prologue_error hp
    obtain ⟨hd, h3⟩ := evalArg_error_inv he
    refine ⟨hk, hD, hd, ?_⟩
    rcases h3 with ⟨c', h4, h5⟩ | ⟨n, h4, h5⟩ | ⟨er, _, h5⟩
    · cases h5; exact .inl h4
    · cases l
      · cases h5
      · simp only [if_true, Res.deferred.injEq] at h5; subst h5; exact .inr ⟨rfl, h4⟩
    · cases h5
  · cases h

/-- `local` only decides between `Deferred` and the diagnostic `NoSuchVariable`: every other outcome is free of it -/
def Res.locFree : Res → Prop
  | .deferred _ | .error (.noSuchVariable _) => False
  | _ => True


theorem get_stop_loc {k : Kind} {e : Arg → EvalOut} {l : Bool} {pos done : Nat} {a a' : Arg} {d' : Nat} {r : Res}
    (h : get k e l pos done a = .stop a' d' r) (hr : r.locFree) (l' : Bool) : get k e l' pos done a = .stop a' d' r := by
  rcases get_stop_iff.1 h with ⟨hp, hD⟩ | ⟨x, hp, hc, hx⟩
  · obtain ⟨hk, he⟩ := prologue_error hp
    obtain ⟨hd, h3⟩ := evalArg_error_inv he
    refine get_stop_iff.2 (.inl ⟨?_, hD⟩)
    rcases h3 with ⟨_, _, h5⟩ | ⟨_, _, h5⟩ | ⟨er, h4, h5⟩
    · subst h5; exact hr.elim
    · cases l <;> (subst h5; exact hr.elim)
    · subst h5; simp only [prologue, hk, if_true, evalArg, hd, h4]
  · exact get_stop_iff.2 (.inr ⟨x, prologue_ok_mono (fun _ h => h) hp l', hc, hx⟩)

theorem assemble_arity_err {st : St} (h : st.args.length ≠ (kinds st.instr).length) :
    ∃ d, ∀ (e : Arg → EvalOut) (loc : Bool), assemble st e loc = (st, .error d) :=
  ⟨_, fun e loc => assemble_arity st e loc h⟩

theorem assemble_not_error {st fs : St} {e : Arg → EvalOut} {l : Bool} {r : Res} (h : assemble st e l = (fs, r))
    (hr : ∀ d, r ≠ .error d) : st.args.length = (kinds st.instr).length := by
  apply Decidable.byContradiction
  intro hne
  obtain ⟨d, hd⟩ := assemble_arity_err hne
  rw [hd] at h
  cases h
  exact hr d rfl


theorem assembleRun_absorb (addr : Nat) (i : Instr) (n : Nat) (vs : List Val) (as : List Arg) (r : Run)
    (h : AllFit (kinds i) (vs ++ r.vals)) :
    assembleRun addr (stores i 0 vs) n (r.pre vs as) = assembleRun addr i n (r.pre vs as) := by
  simp only [assembleRun, Run.pre, stores_again i vs r.vals h]

/-- **Where a second `assemble` stands.**  `assemble st e l` did not complete and left `st₁`.  Its getters passed a prefix
(values `vs`, operands left `as`) and then `b`, a run that passes nothing (nothing left to pass, or its first getter
stopped); `ks'`, `rest'`, `p`, `d` are the kinds, operands, position and `args_done` with which `b` started (conjuncts 1–4, as
in `run_factor`).  Conjuncts 5–7: `st₁` holds the stores of the prefix, `b`'s `args_done` and the operands left; the first
`assemble` is `assembleRun` of the prefix followed by `b`; its outcome `o` is `b`'s stop, or a diagnostic of `finish`.
Conjuncts 8 and 9: `assemble st₁`, over ANY evaluator, and `assemble st` over any evaluator that completes what `e`
completes, are the same `assembleRun` of the same prefix followed by a run from where `b` stood — on what `b` left resp. on
the original operands.  So every comparison of a re-run with a fresh run is a comparison at ONE getter. -/
theorem assemble_again {st st₁ : St} {e : Arg → EvalOut} {l : Bool} {o : Res} (h : assemble st e l = (st₁, o))
    (ho : o ≠ .completed) (hl : st.args.length = (kinds st.instr).length) :
    ∃ (vs : List Val) (as : List Arg) (ks' : List Kind) (rest' : List Arg) (p d : Nat) (b : Run),
      run e l ks' p rest' d = b ∧ b.vals = [] ∧ d ≤ b.done ∧ (∀ x ∈ List.zip ks' rest', x ∈ List.zip (kinds st.instr) st.args) ∧
      st₁ = ⟨st.addr, stores st.instr 0 vs, b.done, as ++ b.args⟩ ∧
      assembleRun st.addr st.instr (kinds st.instr).length (b.pre vs as) = (st₁, o) ∧
      (b.stop = some o ∨ (b.stop = none ∧ ∃ dg, o = .error dg)) ∧
      (∀ e' l', assemble st₁ e' l' =
        assembleRun st.addr st.instr (kinds st.instr).length ((run e' l' ks' p b.args b.done).pre vs as)) ∧
      (∀ e₂ l₂, (∀ x ∈ List.zip (kinds st.instr) st.args, ∀ a', e x.2 = .complete a' → e₂ x.2 = .complete a') →
        assemble st e₂ l₂ = assembleRun st.addr st.instr (kinds st.instr).length ((run e₂ l₂ ks' p rest' d).pre vs as)) := by
  rw [assemble_eq_run hl] at h
  obtain ⟨vs, as, ks', rest', p, d, b, h0, h1, h2, h3, h4, h6, h7⟩ := run_factor e l (kinds st.instr) 0 st.args st.argsDone
  obtain ⟨k1, k2⟩ := assembleRun_left h ho
  have hv : (b.pre vs as).vals = vs := by simp only [Run.pre, h1, List.append_nil]
  rw [h2] at k1 k2
  rw [hv] at k1
  have k1 : st₁ = ⟨st.addr, stores st.instr 0 vs, b.done, as ++ b.args⟩ := k1
  have hb : d ≤ b.done := by rw [← h0]; exact (run_shape ..).1
  refine ⟨vs, as, ks', rest', p, d, b, h0, h1, hb, h4, k1, h2 ▸ h, ?_, fun e' l' => ?_, fun e₂ l₂ hc => ?_⟩
  · rcases k2 with k2 | ⟨k2, dg, k3, _⟩
    · exact .inl k2
    · exact .inr ⟨k2, dg, k3⟩
  · have hlen : (as ++ b.args).length = (kinds st.instr).length := by
      have := (run_shape e l (kinds st.instr) 0 st.args st.argsDone).2.2.1
      rw [h2] at this; rw [← hl, ← this]; rfl
    rw [k1, assemble_eq_run (by simpa only [kinds_stores] using hlen)]
    simp only [kinds_stores]
    show assembleRun _ _ _ (run e' l' _ 0 (as ++ b.args) b.done) = _
    have hfit := (run_shape e' l' (kinds st.instr) 0 (as ++ b.args) b.done).2.1
    rw [h6 e' l' b.done (Nat.le_refl _)] at hfit ⊢
    exact assembleRun_absorb _ _ _ _ _ _ hfit
  · rw [assemble_eq_run hl, h7 e₂ l₂ hc]


/-- `assemble_again` for a deferred first run, at the getter `k` that deferred (operand `a`, left as `a'`): the re-run and
the fresh run are the same `assembleRun` of the same prefix followed by a run that starts with `k` on `a'` resp. on `a` -/
theorem assemble_deferred_at {st st₁ : St} {e : Arg → EvalOut} {l : Bool} {c : Bytes}
    (h : assemble st e l = (st₁, .deferred c)) :
    ∃ (vs : List Val) (as : List Arg) (k : Kind) (ks' : List Kind) (a a' : Arg) (rest' : List Arg) (p d : Nat),
      (k, a) ∈ List.zip (kinds st.instr) st.args ∧ get k e l p d a = .stop a' d (.deferred c) ∧
      st₁ = ⟨st.addr, stores st.instr 0 vs, d, as ++ a' :: rest'⟩ ∧
      (∀ e' l', assemble st₁ e' l' =
        assembleRun st.addr st.instr (kinds st.instr).length ((run e' l' (k :: ks') p (a' :: rest') d).pre vs as)) ∧
      (∀ e₂ l₂, (∀ x ∈ List.zip (kinds st.instr) st.args, ∀ y, e x.2 = .complete y → e₂ x.2 = .complete y) →
        assemble st e₂ l₂ =
          assembleRun st.addr st.instr (kinds st.instr).length ((run e₂ l₂ (k :: ks') p (a :: rest') d).pre vs as)) := by
  have hl := assemble_not_error h (fun d hd => by cases hd)
  obtain ⟨vs, as, ks', rest', p, d, b, h0, hv, _, hz, h1, _, hs, hre, hfr⟩ := assemble_again h (by intro h; cases h) hl
  have hs : b.stop = some (.deferred c) := hs.elim id fun ⟨_, _, h⟩ => by cases h
  obtain ⟨k, ks'', a, rest'', a', rfl, rfl, hg, ha⟩ := run_base h0 hv hs (by intro h; cases h)
  have hD := (get_deferred_inv hg).2.1
  rw [ha, hD] at hre h1
  rw [hD] at hg
  exact ⟨vs, as, k, ks'', a, a', rest'', p, d, hz _ (by simp), hg, h1, hre, hfr⟩

theorem run_base_none {e : Arg → EvalOut} {l : Bool} {ks : List Kind} {p : Nat} {rest : List Arg} {d : Nat}
    (hv : (run e l ks p rest d).vals = []) (hs : (run e l ks p rest d).stop = none) : ks = [] := by
  cases ks with
  | nil => rfl
  | cons k ks =>
    cases rest with
    | nil => cases hs
    | cons a rest =>
      simp only [run] at hv hs
      cases hg : get k e l p d a with
      | ok v a' d' => rw [hg] at hv; cases hv
      | stop a' d' r => rw [hg] at hs; cases hs

theorem run_ok_mono {e₁ e₂ : Arg → EvalOut} {l : Bool} {ks : List Kind} {pos : Nat} {rest : List Arg} {done : Nat}
    (hc : ∀ a ∈ rest, ∀ a', e₁ a = .complete a' → e₂ a = .complete a') (h : (run e₁ l ks pos rest done).stop = none) (l' : Bool) :
    run e₂ l' ks pos rest done = run e₁ l ks pos rest done := by
  obtain ⟨vs, as, ks', rest', p, d, b, rfl, hv, h2, -, -, -, h7⟩ := run_factor e₁ l ks pos rest done
  rw [h2] at h ⊢
  cases run_base_none hv h
  exact h7 e₂ l' fun x hx => hc x.2 (List.of_mem_zip hx).2

theorem assemble_completed_mono {e₁ e₂ : Arg → EvalOut} {st fs2 : St} {l : Bool}
    (hc : ∀ a ∈ st.args, ∀ a', e₁ a = .complete a' → e₂ a = .complete a')
    (h : assemble st e₁ l = (fs2, .completed)) (l' : Bool) : assemble st e₂ l' = (fs2, .completed) := by
  have hl := assemble_not_error h (fun d hd => by cases hd)
  rw [assemble_eq_run hl] at h ⊢
  rw [run_ok_mono hc (assembleRun_completed (run_shape _ _ _ _ _ _).2.2.2 (by rw [h])).1 l']
  exact h

theorem run_loc {e : Arg → EvalOut} {l : Bool} {ks : List Kind} {pos : Nat} {rest : List Arg} {done : Nat}
    (h : ∀ s, (run e l ks pos rest done).stop = some s → s.locFree) (l' : Bool) :
    run e l' ks pos rest done = run e l ks pos rest done := by
  obtain ⟨vs, as, ks', rest', p, d, b, h0, hv, h2, -, -, -, h7⟩ := run_factor e l ks pos rest done
  rw [h2] at h ⊢
  rw [h7 e l' fun _ _ _ h => h]
  congr 1
  subst h0
  cases ks' with
  | nil => rfl
  | cons k ks =>
    cases rest' with
    | nil => rfl
    | cons a rest =>
      simp only [run] at hv h ⊢
      cases hg : get k e l p d a with
      | ok v a' d' => rw [hg] at hv; cases hv
      | stop a' d' r => rw [hg] at h; rw [get_stop_loc hg (h r rfl) l']

theorem assemble_loc {st fs : St} {e : Arg → EvalOut} {l : Bool} {r : Res} (h : assemble st e l = (fs, r))
    (hr : r.locFree) (l' : Bool) : assemble st e l' = (fs, r) := by
  by_cases hl : st.args.length = (kinds st.instr).length
  · rw [assemble_eq_run hl] at h ⊢
    rw [run_loc (fun s hs => ?_) l']
    · exact h
    · rw [assembleRun_stop _ _ _ hs] at h; cases h; exact hr
  · obtain ⟨d, hd⟩ := assemble_arity_err hl
    rw [hd] at h ⊢; exact h

theorem assemble_loc_false (e : Arg → EvalOut) (hnd : ∀ a c a', e a ≠ .deferred c a') (st fs1 : St) (n : Bytes)
    (h : assemble st e true = (fs1, .deferred n)) :
    assemble st e false = (fs1, .error (.noSuchVariable n)) := by
  obtain ⟨vs, as, k, ks', a, a', rest', p, d, -, hg, rfl, -, hfr⟩ := assemble_deferred_at h
  obtain ⟨hk, -, hd, h4⟩ := get_deferred_inv hg
  have he : e a = .noSuchVariable n a' := h4.elim (fun h => absurd h (hnd _ _ _)) (·.2)
  -- under `local = false` the same getter stops with the diagnostic, in the same place
  have : get k e false p d a = .stop a' d (.error (.noSuchVariable n)) :=
    get_stop_iff.2 (.inl ⟨by simp only [prologue, hk, if_true, evalArg, hd, he, Bool.false_eq_true, if_false], rfl⟩)
  rw [hfr e false fun _ _ _ h => h]
  simp only [run, this]
  rw [assembleRun_stop _ _ _ (r := Run.pre vs as _) rfl]
  simp only [Run.pre, List.append_nil]

theorem assemble_completed_evals (e : Arg → EvalOut) (loc : Bool) (addr : Nat) (t : Instr) (args : List Arg) (fs1 : St)
    (h : assemble ⟨addr, t, 0, args⟩ e loc = (fs1, .completed)) :
    ∀ (j : Nat) (k : Kind) (a : Arg), (kinds t)[j]? = some k → args[j]? = some a → k.evals = true →
      ∃ x, e a = .complete x := by
  rw [assemble_eq_run (assemble_not_error h (fun d hd => by cases hd))] at h
  exact run_pass_evals (assembleRun_completed (run_shape _ _ _ _ _ _).2.2.2 (by rw [h])).1 (Nat.le_refl _)

theorem build_front {A : Nat} (name : Bytes) {args : List Arg} {eval : Arg → EvalOut} {loc : Bool} {t : Instr}
    (hm : mnemonic name = some t) {fs : St} {out : Res} (hF : assemble ⟨A, t, 0, args⟩ eval loc = (fs, out)) :
    build A name args eval loc =
      match out with
      | .completed => .completed fs.instr | .deferred c => .deferred c fs | .error d => .error d fs | .panic => .panic := by
  unfold build; rw [hm]; simp only [hF]; cases out <;> rfl

theorem build_deferred_inv {addr : Nat} {name : Bytes} {args : List Arg} {e : Arg → EvalOut} {l : Bool} {c : Bytes} {fs1 : St}
    (h : build addr name args e l = .deferred c fs1) :
    ∃ t, mnemonic name = some t ∧ assemble ⟨addr, t, 0, args⟩ e l = (fs1, .deferred c) := by
  cases hm : mnemonic name with
  | none => simp only [build, hm] at h; cases h
  | some t =>
    cases ha : assemble ⟨addr, t, 0, args⟩ e l with
    | mk st r => rw [build_front name hm ha] at h; cases r <;> cases h <;> exact ⟨t, rfl, ha⟩

theorem build_error_inv {addr : Nat} {name : Bytes} {args : List Arg} {e : Arg → EvalOut} {l : Bool} {d : Diag} {fs1 : St}
    (h : build addr name args e l = .error d fs1) :
    ∃ t, mnemonic name = some t ∧ assemble ⟨addr, t, 0, args⟩ e l = (fs1, .error d) := by
  cases hm : mnemonic name with
  | none => simp only [build, hm] at h; cases h
  | some t =>
    cases ha : assemble ⟨addr, t, 0, args⟩ e l with
    | mk st r => rw [build_front name hm ha] at h; cases r <;> cases h <;> exact ⟨t, rfl, ha⟩

theorem build_completed_assemble {addr : Nat} {name : Bytes} {args : List Arg} {e : Arg → EvalOut} {l : Bool} {t i : Instr}
    (hm : mnemonic name = some t) :
    build addr name args e l = .completed i ↔ ∃ fs, assemble ⟨addr, t, 0, args⟩ e l = (fs, .completed) ∧ fs.instr = i := by
  simp only [build, hm]
  cases ha : assemble ⟨addr, t, 0, args⟩ e l with
  | mk st r =>
    cases r with
    | completed =>
      exact ⟨fun h => (by cases h; exact ⟨st, rfl, rfl⟩), fun ⟨fs, h1, h2⟩ => (by cases h1; rw [← h2])⟩
    | deferred c => exact ⟨fun h => (by cases h), fun ⟨fs, h1, _⟩ => (by cases h1)⟩
    | error d => exact ⟨fun h => (by cases h), fun ⟨fs, h1, _⟩ => (by cases h1)⟩
    | panic => exact ⟨fun h => (by cases h), fun ⟨fs, h1, _⟩ => (by cases h1)⟩

/-- what `e₂` (the evaluator at retry time) has to satisfy relative to `e₁` (first attempt) on an operand -/
structure Grows (e₁ e₂ : Arg → EvalOut) (a : Arg) : Prop where
  /-- what completed over `e₁` completes over `e₂`, with the same tree -/
  complete : ∀ a', e₁ a = .complete a' → e₂ a = .complete a'
  /-- where `e₁` stopped at an unknown name, the tree `a₁` it left evaluates over `e₂` like the original operand -/
  stop : ∀ n a₁, e₁ a = .noSuchVariable n a₁ → e₂ a₁ = e₂ a
  /-- `e₁` does not stop at a Deferred name -/
  nodef : ∀ c a₁, e₁ a ≠ .deferred c a₁


/-- **the general retry theorem for `Front.assemble`**, from ANY state: if `e₂` extends `e₁` operand by operand (`Grows`),
`assemble` on the state a deferred `assemble` left IS `assemble` on the state it started from — same outcome, same
instruction, same argument list -/
theorem assemble_retry (e₁ e₂ : Arg → EvalOut) (st st₁ : St) (hgr : ∀ a ∈ st.args, Grows e₁ e₂ a) (c : Bytes)
    (h1 : assemble st e₁ true = (st₁, .deferred c)) (loc : Bool) : assemble st₁ e₂ loc = assemble st e₂ loc := by
  obtain ⟨vs, as, k, ks', a, a', rest', p, d, hz, hg, -, hre, hfr⟩ := assemble_deferred_at h1
  have hG : Grows e₁ e₂ a := hgr a (List.of_mem_zip hz).2
  rw [hre, hfr e₂ loc fun x hx => (hgr x.2 (List.of_mem_zip hx).2).complete]
  obtain ⟨hk, -, hd, h4⟩ := get_deferred_inv hg
  rcases h4 with h4 | ⟨_, h4⟩
  · exact absurd h4 (hG.nodef _ _)
  · simp only [run, get_congr hk (hG.stop _ _ h4) loc hd]

/-- the two getter outcomes succeed alike: same value, same `args_done` -/
def GetSim (g g' : GetOut) : Prop :=
  (∀ v x d, g = .ok v x d → ∃ x', g' = .ok v x' d) ∧ (∀ v x' d, g' = .ok v x' d → ∃ x, g = .ok v x d)

/-- the two `conv` outcomes succeed alike: same instruction, same values -/
def ConvSim (c c' : ConvOut) : Prop :=
  (∀ A D I V, c = .ok A D I V → ∃ A' D', c' = .ok A' D' I V) ∧ (∀ A' D' I V, c' = .ok A' D' I V → ∃ A D, c = .ok A D I V)

theorem ConvSim.refl (c : ConvOut) : ConvSim c c := ⟨fun A D _ _ h => ⟨A, D, h⟩, fun A D _ _ h => ⟨A, D, h⟩⟩

theorem ConvSim.trans {a b c : ConvOut} (h1 : ConvSim a b) (h2 : ConvSim b c) : ConvSim a c := by
  refine ⟨fun A D I V h => ?_, fun A D I V h => ?_⟩
  · obtain ⟨A', D', h'⟩ := h1.1 A D I V h
    exact h2.1 A' D' I V h'
  · obtain ⟨A', D', h'⟩ := h2.2 A D I V h
    exact h1.2 A' D' I V h'

/-- what `e₂` has to satisfy relative to `e₁` on the
operand of a getter of kind `k`, when only outcome and instruction matter: the getter succeeds equally (`GetSim`) on the tree
the stop left and on the original operand -/
structure GrowsS (k : Kind) (e₁ e₂ : Arg → EvalOut) (a : Arg) : Prop where
  complete : ∀ a', e₁ a = .complete a' → e₂ a = .complete a'
  stop : k.evals = true → ∀ n a₁, e₁ a = .noSuchVariable n a₁ → ∀ loc pos done, done ≤ pos →
    GetSim (get k e₂ loc pos done a₁) (get k e₂ loc pos done a)
  nodef : ∀ c a₁, e₁ a ≠ .deferred c a₁


/-- if both getter outcomes are values, they are the same value with the same `args_done` -/
def GetAgree (g g' : GetOut) : Prop :=
  ∀ v x d v' x' d', g = .ok v x d → g' = .ok v' x' d' → v = v' ∧ d = d'

/-- `Grows` in agreement form: on the tree a stop (unknown or Deferred name) left, the getter of kind `k` agrees (`GetAgree`)
with itself on the original operand -/
structure GrowsA (k : Kind) (e₁ e₂ : Arg → EvalOut) (a : Arg) : Prop where
  complete : ∀ a', e₁ a = .complete a' → e₂ a = .complete a'
  stop : k.evals = true → ∀ a₁, ((∃ n, e₁ a = .noSuchVariable n a₁) ∨ (∃ c, e₁ a = .deferred c a₁)) →
    ∀ loc pos done, done ≤ pos → GetAgree (get k e₂ loc pos done a₁) (get k e₂ loc pos done a)

theorem get_deferred_left {k : Kind} {e : Arg → EvalOut} {l : Bool} {pos done : Nat} {a a' : Arg} {d' : Nat} {c : Bytes}
    (h : get k e l pos done a = .stop a' d' (.deferred c)) :
    k.evals = true ∧ done ≤ pos ∧ ((∃ n, e a = .noSuchVariable n a') ∨ (∃ c, e a = .deferred c a')) := by
  obtain ⟨hk, _, hd, h4⟩ := get_deferred_inv h
  exact ⟨hk, hd, h4.elim (fun h => .inr ⟨c, h⟩) (fun h => .inl ⟨c, h.2⟩)⟩

/-- the diagnostic `EvalError::Overflow` -/
def Res.isOverflow : Res → Prop
  | .error (.evalErr (.overflow _)) => True
  | _ => False

theorem Res.isOverflow_iff {r : Res} : r.isOverflow ↔ ∃ w, r = .error (.evalErr (.overflow w)) := by
  refine ⟨fun h => ?_, fun ⟨w, hw⟩ => hw ▸ trivial⟩
  unfold Res.isOverflow at h
  split at h
  · exact ⟨_, rfl⟩
  · exact h.elim

theorem Res.isOverflow.locFree {r : Res} (h : r.isOverflow) : r.locFree := by
  obtain ⟨w, rfl⟩ := Res.isOverflow_iff.1 h
  trivial

/-- whenever `g'` is a value, `g` is the same value or stops with an arithmetic overflow -/
def GetLe (g g' : GetOut) : Prop :=
  ∀ v x' d, g' = .ok v x' d → (∃ x, g = .ok v x d) ∨ (∃ x d₂ r, g = .stop x d₂ r ∧ r.isOverflow)

/-- `GetLe` for `conv` outcomes -/
def ConvLe (c c' : ConvOut) : Prop :=
  ∀ A' D' I V, c' = .ok A' D' I V → (∃ A D, c = .ok A D I V) ∨ (∃ A D I₂ r, c = .stop A D I₂ r ∧ r.isOverflow)

theorem GetLe.refl (g : GetOut) : GetLe g g := fun _ x' _ h => .inl ⟨x', h⟩

theorem ConvLe.of_sim {c c' : ConvOut} (h : ConvSim c c') : ConvLe c c' := by
  intro A' D' I V h'
  obtain ⟨A, D, h2⟩ := h.2 A' D' I V h'
  exact .inl ⟨A, D, h2⟩

/-- both directions of `GetLe` -/
structure GrowsO (k : Kind) (e₁ e₂ : Arg → EvalOut) (a : Arg) : Prop where
  complete : ∀ a', e₁ a = .complete a' → e₂ a = .complete a'
  stop : k.evals = true → ∀ a₁, ((∃ n, e₁ a = .noSuchVariable n a₁) ∨ (∃ c, e₁ a = .deferred c a₁)) →
    ∀ loc pos done, done ≤ pos →
      GetLe (get k e₂ loc pos done a₁) (get k e₂ loc pos done a) ∧ GetLe (get k e₂ loc pos done a) (get k e₂ loc pos done a₁)

/-- whenever `y` completes, `x` completes with the same instruction or ends with an arithmetic overflow -/
def AsmLe (x y : St × Res) : Prop :=
  y.2 = .completed → (x.2 = .completed ∧ x.1.instr = y.1.instr) ∨ x.2.isOverflow


theorem run_cons_le {e : Arg → EvalOut} {l : Bool} {k : Kind} {ks : List Kind} {p d : Nat} {a a' : Arg} {rest : List Arg}
    (hg : GetLe (get k e l p d a) (get k e l p d a')) (h' : (run e l (k :: ks) p (a' :: rest) d).stop = none) :
    ((run e l (k :: ks) p (a :: rest) d).stop = none ∧
      (run e l (k :: ks) p (a :: rest) d).vals = (run e l (k :: ks) p (a' :: rest) d).vals) ∨
    ∃ s, (run e l (k :: ks) p (a :: rest) d).stop = some s ∧ s.isOverflow := by
  simp only [run] at h' ⊢
  cases g' : get k e l p d a' with
  | stop _ _ _ => rw [g'] at h'; cases h'
  | ok v x' d₁ =>
    rw [g'] at h'
    rcases hg v x' d₁ g' with ⟨x, g⟩ | ⟨x, d₂, r, g, hr⟩
    · rw [g]; exact .inl ⟨h', rfl⟩
    · rw [g]; exact .inr ⟨r, rfl, hr⟩

theorem asmLe_of_run {addr : Nat} {i : Instr} {n : Nat} {r r' : Run} (hr' : r'.stop ≠ some .completed)
    (h : r'.stop = none → (r.stop = none ∧ r.vals = r'.vals) ∨ ∃ s, r.stop = some s ∧ s.isOverflow) :
    AsmLe (assembleRun addr i n r) (assembleRun addr i n r') := by
  intro hy
  obtain ⟨sy, j, fy, iy⟩ := assembleRun_completed hr' hy
  rcases h sy with ⟨sx, hv⟩ | ⟨s, sx, hs⟩
  · rw [← hv] at fy
    rw [assembleRun_of_finish sx fy, iy]
    exact .inl ⟨rfl, rfl⟩
  · rw [assembleRun_stop _ _ _ sx]
    exact .inr hs


/-- **the retry theorem for `Front.assemble`, acceptance up to overflow**: first attempt deferred (by an unknown or a
Deferred name); whenever one of the two runs over `e₂` completes, the other completes with the same instruction or ends
with an arithmetic-overflow diagnostic -/
theorem assemble_retry_ov (e₁ e₂ : Arg → EvalOut) (addr : Nat) (t : Instr) (args : List Arg)
    (hgr : ∀ p ∈ List.zip (kinds t) args, GrowsO p.1 e₁ e₂ p.2) (fs1 : St) (c : Bytes)
    (h1 : assemble ⟨addr, t, 0, args⟩ e₁ true = (fs1, .deferred c)) (loc : Bool) :
    AsmLe (assemble fs1 e₂ loc) (assemble ⟨addr, t, 0, args⟩ e₂ loc) ∧
    AsmLe (assemble ⟨addr, t, 0, args⟩ e₂ loc) (assemble fs1 e₂ loc) := by
  obtain ⟨vs, as, k, ks'', a, a', rest'', p, d, hz, hg, -, hre, hfr⟩ := assemble_deferred_at h1
  have hG : GrowsO k e₁ e₂ a := hgr (k, a) hz
  rw [hre, hfr e₂ loc fun x hx => (hgr x hx).complete]
  obtain ⟨hk, hd, hleft⟩ := get_deferred_left hg
  obtain ⟨q1, q2⟩ := hG.stop hk a' hleft loc p d hd
  have lift : ∀ {x y : Arg}, GetLe (get k e₂ loc p d x) (get k e₂ loc p d y) →
      AsmLe (assembleRun addr t (kinds t).length ((run e₂ loc (k :: ks'') p (x :: rest'') d).pre vs as))
        (assembleRun addr t (kinds t).length ((run e₂ loc (k :: ks'') p (y :: rest'') d).pre vs as)) :=
    fun q => asmLe_of_run (run_shape _ _ _ _ _ _).2.2.2 fun sy =>
      (run_cons_le q sy).imp (fun ⟨s, v⟩ => ⟨s, by rw [Run.pre_vals, Run.pre_vals, v]⟩) id
  exact ⟨lift q1, lift q2⟩

/-- the value a number getter (`Kind.number`) makes of the constant its operand evaluates to -/
def numVal : Kind → Int → Option Val
  | .immediate, c => (narrowI32 c).map .imm
  | .offset, c => (narrowU32 c).map .off
  | _, _ => none

theorem classify_number {k : Kind} (hk : k.number = true) {pos : Nat} {y : Arg} {v : Val} :
    classify k pos y = .ok v ↔ ∃ c, y = .const c ∧ numVal k c = some v := by
  cases k <;> simp [Kind.number] at hk <;> cases y <;> simp only [classify, numVal] <;> (try split) <;> simp_all

theorem get_number_ok {k : Kind} (hk : k.number = true) {e : Arg → EvalOut} {loc : Bool} {pos done : Nat} (hd : done ≤ pos)
    {x : Arg} {v : Val} {y : Arg} {d : Nat} (h : get k e loc pos done x = .ok v y d) :
    ∃ c, e x = .complete (.const c) ∧ numVal k c = some v ∧ y = .const c ∧ d = pos + 1 := by
  obtain ⟨hp, hc⟩ := get_ok_iff.1 h
  obtain ⟨c, rfl, hn⟩ := (classify_number hk).1 hc
  rcases prologue_ok hp with ⟨_, _, he, rfl⟩ | ⟨hs | hs, _, _⟩
  · exact ⟨c, he, hn, rfl, rfl⟩
  · rw [number_evals hk] at hs; cases hs
  · omega

theorem get_number_intro {k : Kind} (hk : k.number = true) {e : Arg → EvalOut} (loc : Bool) {pos done : Nat} (hd : done ≤ pos)
    {x : Arg} {c : Int} {v : Val} (he : e x = .complete (.const c)) (hv : numVal k c = some v) :
    get k e loc pos done x = .ok v (.const c) (pos + 1) := by
  rw [get_of_complete (number_evals hk) loc hd he, (classify_number hk).2 ⟨c, rfl, hv⟩]
  rfl

theorem get_eval_error {k : Kind} (hk : k.evals = true) {e : Arg → EvalOut} (loc : Bool) {pos done : Nat} (hd : done ≤ pos)
    {x y : Arg} {er : EvalErr} (he : e x = .error er y) :
    get k e loc pos done x = .stop y done (.error (.evalErr er)) := by
  rw [get_eq]
  simp only [prologue, hk, if_true, evalArg, hd, he]

/-- The retry of an `assemble` that ended with a diagnostic, from any state.  A getter that stops after its evaluation prologue
(type / range / register / address-form checks; likewise `finish`'s range and alignment checks and the argument count) has
advanced `args_done` past its position: the retry evaluates nothing again and stops with the SAME diagnostic, whatever the
second evaluator is (first alternative).  A getter that stops inside the prologue (`EvalError`) leaves `args_done` at the
position: the retry evaluates the tree left behind and stops with whatever that evaluation reports (second alternative) — what
that is, is a question about the evaluator (Lemmas/SimpErrorAgain.lean). -/
theorem assemble_retry_error (e₁ : Arg → EvalOut) (l : Bool) (st st₁ : St) (dg : Diag)
    (h1 : assemble st e₁ l = (st₁, .error dg)) :
    (∀ (e₂ : Arg → EvalOut) (loc : Bool), assemble st₁ e₂ loc = (st₁, .error dg)) ∨
    (∃ (p : Nat) (a aL : Arg) (preL restL : List Arg), a ∈ st.args ∧ evalArg e₁ l p st₁.argsDone a = .error (aL, .error dg) ∧
      st₁.args = preL ++ aL :: restL ∧
      ∀ (e₂ : Arg → EvalOut) (loc : Bool) (aL' : Arg) (r' : Res), evalArg e₂ loc p st₁.argsDone aL = .error (aL', r') →
        assemble st₁ e₂ loc = ({ st₁ with args := preL ++ aL' :: restL }, r')) := by
  by_cases hl : st.args.length = (kinds st.instr).length
  · obtain ⟨vs, as, ks', rest', p, d, b, h0, hv, _, hz, rfl, hsame, hs, hre, -⟩ := assemble_again h1 (by intro h; cases h) hl
    -- the re-run reproduces the first run as soon as its run from where `b` stood is `b`
    have same : ∀ e₂ loc, run e₂ loc ks' p b.args b.done = b → assemble _ e₂ loc = _ := fun e₂ loc hb => by
      rw [hre, hb, hsame]
    rcases hs with hs | ⟨hs, _⟩
    · obtain ⟨k, ks'', a, rest'', a', rfl, rfl, hg, ha⟩ := run_base h0 hv hs (by intro h; cases h)
      have hb : b = ⟨[], a' :: rest'', b.done, some (.error dg)⟩ := by cases b; simp only at hv ha hs; rw [hv, ha, hs]
      rcases get_stop_iff.1 hg with ⟨hp, hD⟩ | ⟨x, hp, hc, hx⟩
      · right
        obtain ⟨hk, hp⟩ := prologue_error hp
        refine ⟨p, a, a', as, rest'', (List.of_mem_zip (hz (k, a) (by simp))).2, hD ▸ hp, by rw [ha], fun e₂ loc aL' r' he => ?_⟩
        have : get k e₂ loc p b.done a' = .stop aL' b.done r' :=
          get_stop_iff.2 (.inl ⟨by rw [prologue_evals hk]; exact he, rfl⟩)
        rw [hre, ha]
        simp only [run, this]
        rw [assembleRun_stop _ _ _ (r := Run.pre vs as _) rfl]
        simp only [Run.pre, List.append_nil]
      · left
        cases hx
        exact fun e₂ loc => same e₂ loc (by rw [ha]; simp only [run, get_stop_again hp hc e₂ loc]; exact hb.symm)
    · left
      subst h0
      cases run_base_none hv hs
      exact fun e₂ loc => same e₂ loc rfl
  · obtain ⟨d', hd⟩ := assemble_arity_err hl
    rw [hd] at h1
    cases h1
    exact .inl hd

end Trion.Front
