import TrionModel.Lemmas.LexFrame
import TrionModel.Lemmas.ShowText
import TrionModel.Lemmas.ParseStmt
import TrionModel.Spec.Front
/-!
# A printed statement cut into pieces for the tokenizer (C19, text → tokens → trees)

`stmtPieces p` cuts `Show.render p` into pieces (mnemonic, blanks, operands, `, `, `;`) for statements whose
operands have the shapes `Show.parts` produces (`Opnd`): a non-negative integer, an identifier, `[a + b]`,
`{a, b, …}`. The pieces are valid for `Lex.tokens_pieces`, their text is `render p`, and their token values are
`Render.elemVal (.instruction …)`, which `Parse.element` reads back (C09 `stmt_roundtrip`): `cuts_stmt`, put together
token by token with `Lex.Cuts.tok`/`.ws`/`.append` along `atomPieces`, `listPieces`, `opndPieces`.
-/
namespace Trion.Show
open Trion.Lex

theorem digitChar_byte : ∀ d, d < 10 → (Nat.digitChar d).toNat.toUInt8 = (48 + d).toUInt8 := by decide

theorem decimal_eq (n : Nat) :
    decimal n = if n < 10 then [(48 + n).toUInt8] else decimal (n / 10) ++ [(48 + n % 10).toUInt8] := by
  unfold decimal
  rw [Nat.toDigits_eq_if (by decide)]
  split
  · rename_i h; simp [digitChar_byte n h]
  · simp [digitChar_byte (n % 10) (Nat.mod_lt _ (by decide))]

theorem digitVal_dec : ∀ d, d < 10 → digitVal 10 (48 + d).toUInt8 = some d := by decide

theorem decimal_spec (n : Nat) :
    decimal n ≠ [] ∧ (∀ b ∈ decimal n, isDigit 10 b = true) ∧ valueFrom 10 (decimal n) 0 = n := by
  induction n using Nat.strongRecOn with
  | _ n ih =>
    rw [decimal_eq]
    split
    · rename_i h
      refine ⟨by simp, ?_, ?_⟩
      · intro b hb; rw [List.mem_singleton.mp hb]; unfold isDigit; rw [digitVal_dec n h]; rfl
      · show (0 * 10 + (digitVal 10 (48 + n).toUInt8).getD 0) = n
        rw [digitVal_dec n h]; simp
    · rename_i h
      obtain ⟨_, h2, h3⟩ := ih (n / 10) (by omega)
      have hm : n % 10 < 10 := Nat.mod_lt _ (by decide)
      refine ⟨by simp, ?_, ?_⟩
      · intro b hb
        rcases List.mem_append.mp hb with hb | hb
        · exact h2 b hb
        · rw [List.mem_singleton.mp hb]; unfold isDigit; rw [digitVal_dec _ hm]; rfl
      · rw [valueFrom_snoc, h3, digitVal_dec _ hm]
        simp only [Option.getD_some]; omega

theorem i64_decimal (n : Nat) (h : (n : Int) ≤ i64Max) : i64FromStrRadix (decimal n) 10 = some (n : Int) := by
  obtain ⟨h1, h2, h3⟩ := decimal_spec n
  cases hd : decimal n with
  | nil => exact absurd hd h1
  | cons a ds =>
    simp only [i64FromStrRadix]
    rw [← hd, parseDigits_eq 10 _ (by decide) _ 0 h2 (by decide), h3]
    have : n ≤ 9223372036854775807 := by simp [i64Max] at h; omega
    simp [this]

/-- an operand printed as one token: an integer literal the tokenizer reads back (`0 … i64Max`) or an identifier -/
inductive Atom : Arg → Prop
  | const (v : Int) : 0 ≤ v → v ≤ i64Max → Atom (.const v)
  | ident (s : Bytes) : identOk s = true → Atom (.ident s)

/-- the operand shapes `Show.parts` produces: an atom, `[l + r]` and `{a, b, …}` of atoms -/
inductive Opnd : Arg → Prop
  | atom {x : Arg} : Atom x → Opnd x
  | mem {l r : Arg} : Atom l → Atom r → Opnd (.addr (.bin .add l r))
  | set (l : List Arg) : (∀ x ∈ l, Atom x) → Opnd (.seq (Args.ofList l))

def sp : Piece := .ws [32]

/-- the one token of an atom; `[]` for every other tree -/
def atomPieces : Arg → List Piece
  | .const v => [.tok (decimal v.toNat) (.num v)]
  | .ident s => [.tok s (.ident s)]
  | _ => []

/-- the pieces of `x₁, x₂, …`, each item cut by `f`; `first`: no `, ` in front of the next item -/
def listPieces (f : Arg → List Piece) : List Arg → Bool → List Piece
  | [], _ => []
  | x :: xs, first => (if first then [] else [.tok [44] .sep, sp]) ++ f x ++ listPieces f xs false

/-- the pieces of `[l + r]`, of `{…}`, and of any other tree as an atom -/
def opndPieces : Arg → List Piece
  | .addr (.bin .add l r) =>
    .tok [91] .lbrack :: atomPieces l ++ [sp, .tok [43] .plus, sp] ++ atomPieces r ++ [.tok [93] .rbrack]
  | .seq xs => .tok [123] .lbrace :: listPieces atomPieces xs.toList true ++ [.tok [125] .rbrace]
  | x => atomPieces x

/-- the pieces of `NAME a, b, c;` -/
def stmtPieces (p : Bytes × List Arg) : List Piece :=
  .tok p.1 (.ident p.1) :: (if p.2.isEmpty then [] else sp :: listPieces opndPieces p.2 true) ++ [.tok [59] .term]

theorem opndPieces_atom {x : Arg} (h : Atom x) : opndPieces x = atomPieces x := by
  cases h <;> rfl

theorem cuts_atom {x : Arg} (h : Atom x) (m : Nat) {nx : Option UInt8} (hf : Follow nx) :
    Cuts (atomPieces x) nx (renderArg x) (Render.arg m x) := by
  cases h with
  | const v h0 h1 =>
    obtain ⟨d1, d2, _⟩ := decimal_spec v.toNat
    have hv : ((v.toNat : Nat) : Int) = v := Int.toNat_of_nonneg h0
    have := (Cuts.nil nx).tok (TokOk.num 10 (decimal v.toNat) v _ (by omega) d1 d2
      (by rw [i64_decimal v.toNat (by rw [hv]; exact h1), hv]) hf)
    simpa [radixPrefix, atomPieces, renderArg, intDec, Int.not_lt.2 h0, Render.arg] using this
  | ident s hs => simpa [atomPieces, renderArg, Render.arg] using (Cuts.nil nx).tok (TokOk.ident s _ hs hf)

theorem cuts_list (f : Arg → List Piece) (l : List Arg) (first : Bool)
    (h : ∀ x ∈ l, ∀ nx, Follow nx → Cuts (f x) nx (renderArg x) (Render.arg 0 x)) {nx : Option UInt8} (hf : Follow nx) :
    Cuts (listPieces f l first) nx (renderArgs (Args.ofList l) first)
      ((if first = true ∨ l = [] then [] else [.sep]) ++ Render.args (Args.ofList l)) := by
  induction l generalizing first with
  | nil => simpa [listPieces, Args.ofList, renderArgs, Render.args] using Cuts.nil nx
  | cons x xs ih =>
    have ihx := ih false (fun y hy => h y (by simp [hy]))
    -- what follows `x` is the end of the list or the comma of the next element
    have hfx : Follow (firstOr (renderArgs (Args.ofList xs) false) nx) := by
      cases xs with
      | nil => exact hf
      | cons y ys => exact follow_of_not_ident (b := 44) (by decide)
    have c := (h x (by simp) _ hfx).append ihx
    have hargs : Render.args (Args.ofList (x :: xs)) =
        Render.arg 0 x ++ ((if false = true ∨ xs = [] then [] else [.sep]) ++ Render.args (Args.ofList xs)) := by
      cases xs <;> simp [Args.ofList, Render.args]
    rw [← hargs] at c
    cases first with
    | true => simpa [listPieces, Args.ofList, renderArgs] using c
    | false =>
      simpa [listPieces, Args.ofList, renderArgs, sp, bytesOf] using
        (c.ws [32] (by decide)).tok (TokOk.punct 44 .sep _ (by decide) (by decide))

theorem cuts_opnd {x : Arg} (h : Opnd x) {nx : Option UInt8} (hf : Follow nx) :
    Cuts (opndPieces x) nx (renderArg x) (Render.arg 0 x) := by
  cases h with
  | atom ha => rw [opndPieces_atom ha]; exact cuts_atom ha 0 hf
  | mem hl hr =>
    have c1 := (Cuts.nil nx).tok (TokOk.punct 93 .rbrack _ (by decide) (by decide))
    have c2 := (cuts_atom hr 5 (follow_of_not_ident (b := 93) (by decide))).append c1
    have c3 := ((c2.ws [32] (by decide)).tok (TokOk.punct 43 .plus _ (by decide) (by decide))).ws [32] (by decide)
    have c4 := ((cuts_atom hl 4 (follow_of_not_ident (b := 32) (by decide))).append c3).tok
      (TokOk.punct 91 .lbrack _ (by decide) (by decide))
    simpa [opndPieces, sp, renderArg, opText, bytesOf, Render.arg, Render.paren, BinOp.group, BinOpGroup.toNat,
      BinOp.tok] using c4
  | set l hl =>
    have c1 := (Cuts.nil nx).tok (TokOk.punct 125 .rbrace _ (by decide) (by decide))
    have c2 := ((cuts_list atomPieces l true (fun x hx _ hf' => cuts_atom (hl x hx) 0 hf')
      (follow_of_not_ident (b := 125) (by decide))).append c1).tok (TokOk.punct 123 .lbrace _ (by decide) (by decide))
    simpa [opndPieces, toList_ofList, renderArg, bytesOf, Render.arg] using c2

theorem cuts_stmt (p : Bytes × List Arg) (hn : identOk p.1 = true) (h : ∀ x ∈ p.2, Opnd x) (nx : Option UInt8) :
    Cuts (stmtPieces p) nx (render p) (Render.elemVal (.instruction p.1 (Args.ofList p.2))) := by
  obtain ⟨name, args⟩ := p
  have c1 := (Cuts.nil nx).tok (TokOk.punct 59 .term _ (by decide) (by decide))
  cases args with
  | nil =>
    simpa [stmtPieces, render, bytesOf, Render.elemVal, Args.ofList, Render.args] using
      c1.tok (TokOk.ident name _ hn (follow_of_not_ident (b := 59) (by decide)))
  | cons a as =>
    have c2 := (cuts_list opndPieces (a :: as) true (fun x hx _ hf' => cuts_opnd (h x hx) hf')
      (follow_of_not_ident (b := 59) (by decide))).append c1
    simpa [stmtPieces, render, sp, bytesOf, Render.elemVal] using
      (c2.ws [32] (by decide)).tok (TokOk.ident name _ hn (follow_of_not_ident (b := 32) (by decide)))

theorem atom_wf {x : Arg} (h : Atom x) : x.wf := by
  cases h with
  | const v h0 h1 => exact ⟨h0, h1⟩
  | ident s hs => simp only [Arg.wf]; intro e; subst e; simp [identOk] at hs

theorem args_wf (l : List Arg) (h : ∀ x ∈ l, x.wf) : (Args.ofList l).wf := by
  induction l with
  | nil => simp [Args.ofList, Args.wf]
  | cons a l ih => exact ⟨h a (by simp), ih (fun x hx => h x (by simp [hx]))⟩

theorem opnd_wf {x : Arg} (h : Opnd x) : x.wf := by
  cases h with
  | atom ha => exact atom_wf ha
  | mem hl hr => exact ⟨atom_wf hl, atom_wf hr⟩
  | set l hl => simp only [Arg.wf]; exact args_wf l (fun x hx => atom_wf (hl x hx))

theorem stmt_wf (p : Bytes × List Arg) (hn : identOk p.1 = true) (h : ∀ x ∈ p.2, Opnd x) :
    (ElemVal.instruction p.1 (Args.ofList p.2)).wf := by
  refine ⟨?_, args_wf _ (fun x hx => opnd_wf (h x hx))⟩
  intro e; rw [e] at hn; simp [identOk] at hn

end Trion.Show
