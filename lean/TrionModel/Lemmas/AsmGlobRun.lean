import TrionModel.Lemmas.AsmMultiRun
import TrionModel.Lemmas.AsmRefine
/-!
# Projects with `.include` and `.global` (a name declared global after it is defined) against the reference

`.global x` in a file publishes the file's `x` to its includer's table (to the real global table for the main file):
in the flattened program this is an alias statement `.const (includer's x) [file's x] v` placed where the included file
ends (`aliases`).  `GFlat` is `Multi.FlatEls` with `.global` statements (which emit nothing at their place) and the
aliases behind every included file.  Side condition: every `.global x` stands BELOW the definition of `x` in its
file (`declOk`), so no table ever holds an unvalued entry between two statements.  This file has the definitions and the
alias steps; the simulation is the one of Lemmas/AsmXferRun.lean at the instance `GFlat.flat`.
-/
namespace Trion.Asm.Glob
open Trion Trion.SegLayout Trion.Asm Trion.Asm.Multi
open Trion.Layout (MRun withTasks)

def isGlobal (el : Element) : Bool :=
  match el.val with
  | .directive name _ => name = bytesOf "global"
  | _ => false

/-- not `.import/.export` (`.include`, `.global` admitted): the statements of stage 2 -/
def okGlob (el : Element) : Bool :=
  match el.val with
  | .directive name _ => !(name = bytesOf "import" || name = bytesOf "export")
  | _ => true

def globalName (el : Element) : Option Bytes :=
  match el.val with
  | .directive name args =>
    if name = bytesOf "global" then
      match args.toList with
      | [.ident x] => some x
      | _ => none
    else none
  | _ => none

/-- `defer_constant(x, Global)` followed by `insert_constant(x, v, Global)`: what `.global x` with `x` valued leaves of the
includer's table, literally (so that the statement's effect is an equation of states); it has the lookups of
`g.set x (some v)`, which is what `.export` leaves (`Xfer.TEq`) -/
def pub1 (g : Table) (x : Bytes) (v : Int) : Table := (g.set x none).set x (some v)

/-- the includer's table `g` after the publications `A`, in the order they were made -/
def pub (g : Table) : List (Bytes × Int) → Table
  | [] => g
  | xv :: A => pub (pub1 g xv.1 xv.2) A

/-- every name was absent from the includer's table when it was published -/
def PubOk (g : Table) : List (Bytes × Int) → Prop
  | [] => True
  | xv :: A => g.find xv.1 = none ∧ PubOk (pub1 g xv.1 xv.2) A

theorem pub_snoc (g : Table) (A : List (Bytes × Int)) (x : Bytes) (v : Int) : pub g (A ++ [(x, v)]) = pub1 (pub g A) x v := by
  induction A generalizing g with
  | nil => rfl
  | cons xv A ih => simp only [List.cons_append, pub, ih]

theorem pubOk_snoc (g : Table) (A : List (Bytes × Int)) (x : Bytes) (v : Int) (h : PubOk g A)
    (hx : (pub g A).find x = none) : PubOk g (A ++ [(x, v)]) := by
  induction A generalizing g with
  | nil => exact ⟨hx, trivial⟩
  | cons xv A ih => exact ⟨h.1, ih _ h.2 hx⟩

theorem find_pub1 (g : Table) (x : Bytes) (v : Int) (m : Bytes) :
    (pub1 g x v).find m = if x = m then some (some v) else g.find m := by
  unfold pub1
  rw [find_set, find_set]
  by_cases h : x = m <;> simp [h]

theorem val_pub1 (g : Table) (x : Bytes) (v : Int) (m : Bytes) :
    (pub1 g x v).val m = if x = m then some v else g.val m := by
  unfold Table.val
  rw [find_pub1]
  by_cases h : x = m <;> simp [h]

theorem nodef_pub1 {g : Table} (h : Table.NoDef g) (x : Bytes) (v : Int) : Table.NoDef (pub1 g x v) := by
  intro m hm
  rw [find_pub1] at hm
  by_cases hx : x = m
  · rw [if_pos hx] at hm; cases hm
  · rw [if_neg hx] at hm; exact h m hm

/-- the statements of the flattened program that stand for the publication of the names `A` of the file instance
numbered by `cnum` into the table of its includer numbered by `pnum`: `pnum x := cnum x` -/
def aliases (pnum cnum : Bytes → Nat) (A : List (Bytes × Int)) : List Layout.Stmt :=
  A.map fun xv => .const (pnum xv.1) [cnum xv.1] xv.2

theorem step_alias {l : Layout.State} {n d : Nat} {v w : Int} (hn : l.env.get n = none) (hd : l.env.get d = some w) :
    Layout.step l (.const n [d] v) = .ok { l with env := (n, v) :: l.env } := by
  have hdep : l.env.hasAll [d] = true := by simp [Layout.Env.hasAll, hd]
  simp only [Layout.step, hdep, if_true, Layout.insertConst, hn]

theorem MRun.append {a b c : Layout.State} {p q : List Layout.Stmt} (h1 : MRun a p b) (h2 : MRun b q c) :
    MRun a (p ++ q) c := by
  induction h1 with
  | nil l => exact h2
  | step hs _ ih => exact .step hs (ih h2)
  | file hm hr _ _ ih2 => rw [List.append_assoc]; exact .file hm hr (ih2 h2)

theorem alias_steps (pnum cnum : Bytes → Nat) (hpinj : Function.Injective pnum) :
    ∀ (A : List (Bytes × Int)) (g : Table) (l : Layout.State), PubOk g A → Table.NoDef g → EnvRel pnum g l.env →
      (∀ xv ∈ A, l.env.get (cnum xv.1) = some xv.2) → (∀ a b, pnum a ≠ cnum b) →
      ∃ l', MRun l (aliases pnum cnum A) l' ∧ l'.closed = l.closed ∧ l'.active = l.active ∧ l'.tasks = l.tasks ∧
        EnvRel pnum (pub g A) l'.env ∧ Table.NoDef (pub g A) ∧ (∀ k, (∀ x, k ≠ pnum x) → l'.env.get k = l.env.get k) := by
  intro A
  induction A with
  | nil =>
    intro g l _ hn hr _ _
    exact ⟨l, .nil l, rfl, rfl, rfl, hr, hn, fun _ _ => rfl⟩
  | cons xv A ih =>
    intro g l hok hn hr hc hne
    obtain ⟨x, v⟩ := xv
    obtain ⟨hx, hok'⟩ := hok
    have hget : l.env.get (pnum x) = none := by rw [hr x]; simp [Table.val, hx]
    let l1 : Layout.State := { l with env := (pnum x, v) :: l.env }
    have hstep : Layout.step l (.const (pnum x) [cnum x] v) = .ok l1 := step_alias hget (hc (x, v) List.mem_cons_self)
    have hr1 : EnvRel pnum (pub1 g x v) l1.env := fun m =>
      (envRel_insert hpinj hr x v m).trans (by rw [val_set, val_pub1])
    obtain ⟨l', hm, e1, e2, e3, e4, e5, e6⟩ := ih (pub1 g x v) l1 hok' (nodef_pub1 hn x v) hr1
      (fun xv hxv => by
        show Layout.Env.get ((pnum x, v) :: l.env) (cnum xv.1) = _
        simp only [Layout.Env.get, if_neg (hne x xv.1)]
        exact hc xv (List.mem_cons_of_mem _ hxv)) hne
    refine ⟨l', .step hstep hm, e1, e2, e3, e4, e5, fun k hk => ?_⟩
    rw [e6 k hk]
    show Layout.Env.get ((pnum x, v) :: l.env) k = _
    simp only [Layout.Env.get, if_neg (fun (e : pnum x = k) => hk x e.symm)]

def definedName (el : Element) : Option Bytes :=
  match el.val with
  | .label x => some x
  | .directive name args =>
    if name = bytesOf "const" then
      match args.toList with
      | [.ident x, _] => some x
      | _ => none
    else none
  | _ => none

theorem insertConstant_loc_valued {st st' : St} {n : Bytes} {v : Int} {b : Bool}
    (h : insertConstant st n v .loc = .ok (st', .ok b)) : ∃ l', st'.locals = some l' ∧ l'.find n = some (some v) := by
  obtain ⟨t, _, _, rfl⟩ := insertConstant_loc_ok h
  exact ⟨_, rfl, by rw [find_set]; simp⟩

theorem defined_valued {fs : Bytes → Option Bytes} {enc : Encoder} {inc : Inc} {env : Env} {st st' : St} {el : Element}
    {x : Bytes} (hd : definedName el = some x) (h : statement fs enc inc env st el = .ok (st', .ok))
 :
    ∃ l' v, st'.locals = some l' ∧ l'.find x = some (some v) := by
  obtain ⟨line, col, val⟩ := el
  cases val with
  | instruction n a => simp [definedName] at hd
  | label name =>
    simp only [definedName, Option.some.injEq] at hd
    subst hd
    obtain ⟨a, b, _, hi⟩ := statement_label_ok h
    obtain ⟨l', h1, h2⟩ := insertConstant_loc_valued hi
    exact ⟨l', _, h1, h2⟩
  | directive name args =>
    simp only [definedName] at hd
    split at hd
    · rename_i hname
      subst hname
      simp only [statement, directive_const] at h
      obtain ⟨nm, b, v, b', hargs, _, hi⟩ := constDirective_ok h
      rw [hargs] at hd
      cases hd
      obtain ⟨l', h1, h2⟩ := insertConstant_loc_valued hi
      exact ⟨l', _, h1, h2⟩
    · cases hd
/-- C14 (pipeline)  A `.global x` below the definition of `x` that succeeds without a diagnostic enters the file's value of
`x` in the includer's table, where the name was absent, through `defer_constant` + `insert_constant` (`pub1`). -/
theorem _root_.Trion.Asm.global_publishes_file_value {fs : Bytes → Option Bytes} {enc : Encoder} {inc : Inc} {env : Env} {st st' : St}
    {el : Element} (hg : isGlobal el = true) (h : statement fs enc inc env st el = .ok (st', .ok)) {t : Table}
    (hl : st.locals = some t) (hfound : ∀ x, globalName el = some x → ∃ v, t.find x = some (some v)) :
    ∃ x v, globalName el = some x ∧ t.find x = some (some v) ∧ st.globals.find x = none ∧
      st' = { st with globals := pub1 st.globals x v } := by
  obtain ⟨line, col, val⟩ := el
  cases val with
  | label n => simp [isGlobal] at hg
  | instruction n a => simp [isGlobal] at hg
  | directive name args =>
    simp only [isGlobal, decide_eq_true_eq] at hg
    subst hg
    simp only [statement, directive_global] at h
    obtain ⟨x, st1, hargs, hd, hins⟩ := globalDecl_ok h
    have hgn : globalName ⟨line, col, .directive (bytesOf "global") args⟩ = some x := by simp [globalName, hargs]
    obtain ⟨v, hv⟩ := hfound x hgn
    obtain ⟨hreg, hf, rfl⟩ := deferConstant_global_ok hd
    obtain ⟨_, rfl⟩ := insertConstant_global_ok (hins v (by simp [getConstant, hl, Table.get, hv]))
    exact ⟨x, v, hgn, hv, hf, rfl⟩

theorem globalName_none {el : Element} (h : isGlobal el = false) : globalName el = none := by
  obtain ⟨_, _, v⟩ := el; cases v <;> simp_all [globalName, isGlobal]

theorem cursorAfter_aliases (pnum cnum : Bytes → Nat) (A : List (Bytes × Int)) (c : Option Nat) :
    Layout.Ref.cursorAfter c (aliases pnum cnum A) = c := by
  induction A with
  | nil => rfl
  | cons xv A ih => simp only [aliases, List.map_cons, Layout.Ref.cursorAfter, Layout.Ref.next]; exact ih

theorem aliases_wf (pnum cnum : Bytes → Nat) (A : List (Bytes × Int)) : ∀ s ∈ aliases pnum cnum A, s.wf = true := by
  intro s hs
  simp only [aliases, List.mem_map] at hs
  obtain ⟨_, _, rfl⟩ := hs
  rfl

/-- the names an `.include` statement brings into the includer's table: the operands of the `.global` statements of the
included file -/
def incNames (fs : Bytes → Option Bytes) (path : Bytes) (el : Element) : List Bytes :=
  match incTarget fs path el with
  | some (_, d') =>
    match parseFile d' with
    | .ok (els', _) => els'.filterMap globalName
    | .stop _ => []
  | none => []

/-- the names a statement adds (valued) to its file's table -/
def newNames (fs : Bytes → Option Bytes) (path : Bytes) (el : Element) : List Bytes :=
  (match definedName el with | some x => [x] | none => []) ++ incNames fs path el

/-- every `.global x` stands below a label or `.const` of its own file that defines `x`, or below an `.include` of a file
that declares `x` global -/
def declOk (fs : Bytes → Option Bytes) (path : Bytes) : List Bytes → List Element → Bool
  | _, [] => true
  | seen, el :: els =>
    (if isGlobal el then (match globalName el with | some x => seen.contains x | none => false) else true) &&
    declOk fs path (newNames fs path el ++ seen) els

theorem incTarget_none {fs : Bytes → Option Bytes} {path : Bytes} {el : Element} (h : isInclude el = false) :
    incTarget fs path el = none := by
  obtain ⟨_, _, v⟩ := el; cases v <;> simp_all [incTarget, isInclude]

theorem pub_valued : ∀ (A : List (Bytes × Int)) (g : Table) (x : Bytes),
    (x ∈ A.map Prod.fst ∨ ∃ v, g.find x = some (some v)) → ∃ v, (pub g A).find x = some (some v) := by
  intro A
  induction A with
  | nil =>
    intro g x h
    rcases h with h | h
    · cases h
    · exact h
  | cons xv A ih =>
    intro g x h
    refine ih (pub1 g xv.1 xv.2) x ?_
    by_cases hx : xv.1 = x
    · exact .inr ⟨xv.2, by rw [find_pub1, if_pos hx]⟩
    · rcases h with h | ⟨v, hv⟩
      · simp only [List.map_cons, List.mem_cons] at h
        rcases h with h | h
        · exact absurd h.symm hx
        · exact .inl h
      · exact .inr ⟨v, by rw [find_pub1, if_neg hx]; exact hv⟩

inductive GFlat (num : Nat → Bytes → Nat) (fs : Bytes → Option Bytes) (enc : Encoder) (E : Layout.Env) :
    Nat → Bytes → Table → Nat → Option Nat → List Element → List Layout.Stmt → Nat → Prop
  | nil (id : Nat) (path : Bytes) (t : Table) (nxt : Nat) (c : Option Nat) : GFlat num fs enc E id path t nxt c [] [] nxt
  | stmt {id : Nat} {path : Bytes} {t : Table} {nxt : Nat} {c : Option Nat} {el : Element} {els : List Element}
      {p : List Layout.Stmt} {nxt' : Nat} : isInclude el = false → isGlobal el = false →
      GFlat num fs enc E id path t nxt (Layout.Ref.next c (absStmt (num id) fs enc path t c el)) els p nxt' →
      GFlat num fs enc E id path t nxt c (el :: els) (absStmt (num id) fs enc path t c el :: p) nxt'
  | glob {id : Nat} {path : Bytes} {t : Table} {nxt : Nat} {c : Option Nat} {el : Element} {els : List Element}
      {p : List Layout.Stmt} {nxt' : Nat} : isGlobal el = true →
      GFlat num fs enc E id path t nxt c els p nxt' → GFlat num fs enc E id path t nxt c (el :: els) p nxt'
  | inc {id : Nat} {path : Bytes} {t : Table} {nxt : Nat} {c : Option Nat} {el : Element} {els : List Element}
      {p : List Layout.Stmt} {nxt' : Nat} {path' data' : Bytes} {els' : List Element} {perr' : Option ParseErr}
      {t' : Table} {pc : List Layout.Stmt} {nxt1 : Nat} {A : List (Bytes × Int)} :
      incTarget fs path el = some (path', data') → parseFile data' = .ok (els', perr') →
      EnvRel (num nxt) t' E →
      GFlat num fs enc E nxt path' t' (nxt + 1) c els' pc nxt1 →
      A.map Prod.fst = els'.filterMap globalName → (∀ xv ∈ A, t'.val xv.1 = some xv.2) →
      GFlat num fs enc E id path t nxt1 (Layout.Ref.cursorAfter c pc) els p nxt' →
      GFlat num fs enc E id path t nxt c (el :: els) (pc ++ (aliases (num id) (num nxt) A ++ p)) nxt'

/-- every file of the include tree below (`path`, `data`), to depth `fuel`: no `.import / .export` (operand trees arbitrary),
every `.global x` below a definition of `x` in the same file or an `.include` of a file declaring `x` global -/
def GlobalProject (fs : Bytes → Option Bytes) : Nat → Bytes → Bytes → Prop
  | 0, _, _ => True
  | fuel + 1, path, data => ∀ els perr, parseFile data = .ok (els, perr) → declOk fs path [] els = true ∧ ∀ el ∈ els,
      okGlob el = true ∧ ∀ p' d', incTarget fs path el = some (p', d') → GlobalProject fs fuel p' d'

end Trion.Asm.Glob
