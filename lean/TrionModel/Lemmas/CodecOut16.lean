import TrionModel.Lemmas.CodecEq
/-! Every 16-bit pattern below the 32-bit space decodes to a classified error that names it or to a well-formed
instruction that the encoder accepts as one halfword.  Every branch of `decode16` is reached by its equation in `CodecEq`,
on the same case lists as the agreement with the table (`ArmAgree16`); the guards left inside a branch are followed by
`ite_ind`, the register wrappers by `withReg_ind`.  At a leaf the encoder's guards hold of the decoded fields because a
field of `k` bits is below `2^k`. -/
namespace Trion.Codec
open Trion

theorem withReg_ind {P : DecRes → Prop} {n : Nat} {k : Reg → DecRes} (hn : n < 16)
    (h : ∀ r : Reg, r.val = n → P (k r)) : P (withReg n k) := by
  rw [withReg, if_pos hn]; exact h _ (by rw [Fin.val_ofNat]; omega)

theorem withCond_ind {P : DecRes → Prop} {n : Nat} {k : Cond → DecRes} (hn : n < 15)
    (h : ∀ c : Cond, c.val = n → P (k c)) : P (withCond n k) := by
  rw [withCond, if_pos hn]; exact h _ (by rw [Fin.val_ofNat]; omega)

/-- what the decoder may make of a pattern of `n` bytes, first halfword `h0`, second `h1` if it has one -/
inductive Out (n h0 : Nat) (h1 : Option Nat) : DecRes → Prop where
  | ok (i : Instr) (hws : List Nat) (e : encode i = .ok hws) (l : 2 * hws.length = n) (wf : i.wf) : Out n h0 h1 (.ok (n, i))
  | undefined : Out n h0 h1 (.error (.undefined h0 h1))
  | unpredictable : Out n h0 h1 (.error (.unpredictable h0 h1))
  | reserved : Out n h0 h1 (.error (.reserved h0 h1))

section leaves
variable {h : Nat}

theorem out_ok {i : Instr} {w : Nat} (he : encode i = .ok [w]) (wf : i.wf) : Out 2 h none (.ok (2, i)) := .ok i [w] he rfl wf

theorem lo2_ok (base : Nat) {r1 r0 : Reg} (h1 : r1.val < 8) (h0 : r0.val < 8) :
    lo2 base r1 r0 = .ok [base + r1.val * 8 + r0.val] := by rw [lo2, if_neg (by omega)]

theorem lo3_ok (base : Nat) {r2 r1 r0 : Reg} (h2 : r2.val < 8) (h1 : r1.val < 8) (h0 : r0.val < 8) :
    lo3 base r2 r1 r0 = .ok [base + r2.val * 64 + r1.val * 8 + r0.val] := by rw [lo3, if_neg (by omega)]

theorem sp_val : Reg.sp.val = 13 := rfl
theorem pc_val : Reg.pc.val = 15 := rfl

theorem imm_wf (n : Nat) (hn : n < 2147483648) : (ImmReg.imm n).wf := ⟨by omega, by omega⟩

theorem mkSet_val {n : Nat} (hn : n < 65536) : (mkSet n).val = n := by rw [mkSet, Fin.val_ofNat]; omega

theorem sext2_8_range (n : Nat) (hn : n < 256) : -256 ≤ sext2 8 n ∧ sext2 8 n < 256 ∧ sext2 8 n % 2 = 0 := by
  unfold sext2; split <;> omega

theorem sext2_11_range (n : Nat) (hn : n < 2048) : -2048 ≤ sext2 11 n ∧ sext2 11 n < 2048 ∧ sext2 11 n % 2 = 0 := by
  unfold sext2; split <;> omega

theorem out_00000 : Out 2 h none (dec00000 h) := by
  by_cases e : h / 64 % 32 = 0
  · rw [dec00000_mov e]
    exact withReg_ind (by omega) fun d hd => withReg_ind (by omega) fun m hm =>
      out_ok (by rw [encode, if_neg (not_or.mpr ⟨nofun, by omega⟩)]) trivial
  · rw [dec00000_lsl e]
    exact withReg_ind (by omega) fun d hd => withReg_ind (by omega) fun m hm =>
      out_ok (by rw [imm, encode, if_neg (by omega)]) (imm_wf _ (by omega))

theorem out_shift_lsr : Out 2 h none (decShift h .lsr) := by
  rw [decShift]
  refine withReg_ind (by omega) fun d hd => withReg_ind (by omega) fun m hm => ?_
  exact out_ok (by rw [imm, encode, if_neg (by split <;> omega)]) (imm_wf _ (by split <;> omega))

theorem out_shift_asr : Out 2 h none (decShift h .asr) := by
  rw [decShift]
  refine withReg_ind (by omega) fun d hd => withReg_ind (by omega) fun m hm => ?_
  exact out_ok (by rw [imm, encode, if_neg (by split <;> omega)]) (imm_wf _ (by split <;> omega))

theorem out_00011 : Out 2 h none (dec00011 h) := by
  by_cases e : h / 1024 % 2 = 0
  · rw [dec00011_reg e]
    refine withReg_ind (by omega) fun d hd => withReg_ind (by omega) fun l hl => withReg_ind (by omega) fun m hm => ?_
    exact ite_ind
      (fun _ => out_ok (by rw [encode, if_neg (not_or.mpr ⟨nofun, by omega⟩), if_neg (not_or.mpr ⟨nofun, by omega⟩)])
        trivial)
      fun _ => out_ok (by rw [encode, if_neg (not_or.mpr ⟨nofun, by omega⟩)]) trivial
  · rw [dec00011_imm (by omega)]
    refine withReg_ind (by omega) fun d hd => withReg_ind (by omega) fun l hl => ?_
    rw [imm]
    -- the encoder emits `Rd = Rn` in the two-operand form, which holds these immediates as well
    by_cases hdl : d.val ≠ l.val
    · exact ite_ind
        (fun _ => out_ok (by rw [encode, if_neg (by omega), if_pos hdl, if_neg (not_or.mpr ⟨nofun, by omega⟩)])
          (imm_wf _ (by omega)))
        fun _ => out_ok (by rw [encode, if_neg (by omega), if_pos hdl, if_neg (not_or.mpr ⟨nofun, by omega⟩)])
          (imm_wf _ (by omega))
    · exact ite_ind
        (fun _ => out_ok (by rw [encode, if_neg (by omega), if_neg hdl, if_neg (not_or.mpr ⟨nofun, by omega⟩)])
          (imm_wf _ (by omega)))
        fun _ => out_ok (by rw [encode, if_neg (by omega), if_neg hdl, if_neg (not_or.mpr ⟨nofun, by omega⟩)])
          (imm_wf _ (by omega))

/-- twelve opcodes are `lo2` encodings; the shifts by register and CMP have guards of their own -/
theorem out_dp (op : Nat) (hop : op < 16) (r0 r1 : Reg) (h0 : r0.val < 8) (h1 : r1.val < 8) :
    Out 2 h none (decDataProc op r0 r1) := by
  rcases (by omega : (op = 0 ∨ op = 1 ∨ op = 5 ∨ op = 6 ∨ op = 7 ∨ op = 8 ∨ op = 9 ∨ op = 11 ∨ op = 12 ∨ op = 13 ∨
    op = 14 ∨ op = 15) ∨ op = 2 ∨ op = 3 ∨ op = 4 ∨ op = 10) with o | o
  · rcases o with rfl | rfl | rfl | rfl | rfl | rfl | rfl | rfl | rfl | rfl | rfl | rfl <;>
      exact out_ok (lo2_ok _ h1 h0) trivial
  · rcases o with rfl | rfl | rfl | rfl <;> exact out_ok (by rw [encode, if_neg (by omega)]) trivial

theorem out_01000 : Out 2 h none (dec01000 h) := by
  by_cases b10 : h / 1024 % 2 = 0
  · rw [dec01000_dp b10]
    exact withReg_ind (by omega) fun r0 h0 => withReg_ind (by omega) fun r1 h1 =>
      out_dp _ (by omega) r0 r1 (by omega) (by omega)
  rcases (by omega : h / 256 % 4 = 0 ∨ h / 256 % 4 = 1 ∨ h / 256 % 4 = 2 ∨ h / 256 % 4 = 3) with e | e | e | e
  · rw [dec01000_add (by omega) e]
    exact withReg_ind (by omega) fun d hd => withReg_ind (by omega) fun m hm =>
      ite_ind (fun _ => .unpredictable) fun g => out_ok (by
        rw [encode, if_pos (.inl rfl), if_neg (not_or.mpr ⟨nofun, not_or.mpr ⟨fun e => e rfl, g⟩⟩)]) trivial
  · rw [dec01000_cmp (by omega) e]
    exact withReg_ind (by omega) fun l hl => withReg_ind (by omega) fun m hm =>
      ite_ind (fun _ => .unpredictable) fun g => ite_ind (fun _ => .unpredictable) fun g' => out_ok (by
        rw [encode, if_pos (by omega), if_neg g']) trivial
  · rw [dec01000_mov (by omega) e]
    exact withReg_ind (by omega) fun d hd => withReg_ind (by omega) fun m hm =>
      out_ok (by rw [encode, if_pos (.inl rfl), if_neg nofun]) trivial
  · by_cases e0 : h % 8 = 0
    · rw [dec01000_bx (by omega) e e0]
      exact withReg_ind (by omega) fun m hm => ite_ind (fun _ => .unpredictable) fun g =>
        ite_ind (fun _ => out_ok (by rw [encode, if_neg g]) trivial) fun _ => out_ok (by rw [encode, if_neg g]) trivial
    · rw [dec01000_bx_unpred (by omega) e e0]
      exact .unpredictable

theorem out_0101 : Out 2 h none (dec0101 h) := by
  rcases (by omega : h / 512 % 8 = 0 ∨ h / 512 % 8 = 1 ∨ h / 512 % 8 = 2 ∨ h / 512 % 8 = 3 ∨ h / 512 % 8 = 4 ∨
    h / 512 % 8 = 5 ∨ h / 512 % 8 = 6 ∨ h / 512 % 8 = 7) with e | e | e | e | e | e | e | e
  all_goals
    rw [dec0101_op _ e]
    exact withReg_ind (by omega) fun t ht => withReg_ind (by omega) fun n hn => withReg_ind (by omega) fun m hm =>
      out_ok (lo3_ok _ (by omega) (by omega) (by omega)) trivial

theorem out_ldst_w : Out 2 h none (decLdStImm h 4 .str .ldr) := by
  by_cases b : h / 2048 % 2 = 0
  · rw [decLdStImm_st _ _ _ b]
    exact withReg_ind (by omega) fun t ht => withReg_ind (by omega) fun n hn =>
      out_ok (by rw [imm, encode, if_neg (by omega), if_neg (by omega)]) (imm_wf _ (by omega))
  · rw [decLdStImm_ld _ _ _ (by omega)]
    exact withReg_ind (by omega) fun t ht => withReg_ind (by omega) fun n hn =>
      out_ok (by rw [imm, encode, if_neg (by omega), if_neg (by omega), if_neg (by omega)]) (imm_wf _ (by omega))

theorem out_ldst_b : Out 2 h none (decLdStImm h 1 .strb .ldrb) := by
  by_cases b : h / 2048 % 2 = 0
  · rw [decLdStImm_st _ _ _ b]
    exact withReg_ind (by omega) fun t ht => withReg_ind (by omega) fun n hn =>
      out_ok (by rw [imm, encode, if_neg (by omega)]) (imm_wf _ (by omega))
  · rw [decLdStImm_ld _ _ _ (by omega)]
    exact withReg_ind (by omega) fun t ht => withReg_ind (by omega) fun n hn =>
      out_ok (by rw [imm, encode, if_neg (by omega)]) (imm_wf _ (by omega))

theorem out_ldst_h : Out 2 h none (decLdStImm h 2 .strh .ldrh) := by
  by_cases b : h / 2048 % 2 = 0
  · rw [decLdStImm_st _ _ _ b]
    exact withReg_ind (by omega) fun t ht => withReg_ind (by omega) fun n hn =>
      out_ok (by rw [imm, encode, if_neg (by omega)]) (imm_wf _ (by omega))
  · rw [decLdStImm_ld _ _ _ (by omega)]
    exact withReg_ind (by omega) fun t ht => withReg_ind (by omega) fun n hn =>
      out_ok (by rw [imm, encode, if_neg (by omega)]) (imm_wf _ (by omega))

theorem out_10110 : Out 2 h none (dec10110 h) := by
  rcases dec10110_sel h with e | e | e | e | e | e | e
  · rw [dec10110_sp e, imm]
    exact ite_ind
      (fun _ => out_ok (by rw [encode, if_pos sp_val, if_pos sp_val, if_neg (not_or.mpr ⟨nofun, by omega⟩)])
        (imm_wf _ (by omega)))
      fun _ => out_ok (by
        rw [encode, if_pos sp_val, if_neg (not_or.mpr ⟨nofun, not_or.mpr ⟨fun e => e sp_val, by omega⟩⟩)])
        (imm_wf _ (by omega))
  · rw [dec10110_ext e]
    refine withReg_ind (by omega) fun d hd => withReg_ind (by omega) fun m hm => ?_
    have hd : d.val < 8 := by omega
    have hm : m.val < 8 := by omega
    exact ite_ind
      (fun _ => ite_ind (fun _ => out_ok (lo2_ok _ hm hd) trivial) fun _ => out_ok (lo2_ok _ hm hd) trivial)
      fun _ => ite_ind (fun _ => out_ok (lo2_ok _ hm hd) trivial) fun _ => out_ok (lo2_ok _ hm hd) trivial
  · rw [dec10110_push e]
    exact ite_ind (fun _ => .unpredictable) fun g => out_ok (by
      rw [encode, mkSet_val (by omega), if_neg (by omega)]) trivial
  · rw [dec10110_cps e]
    exact ite_ind (fun _ => ite_ind (fun _ => .unpredictable) fun _ => out_ok rfl trivial) fun _ => .undefined
  all_goals
    rw [dec10110_undef (by omega)]
    exact .undefined

theorem out_hint (op : Nat) (hop : op < 16) : Out 2 h none (decHint h op) := by
  rcases decHint_cases h op (by omega) with o | ⟨_, er⟩
  · rcases o with rfl | rfl | rfl | rfl | rfl <;> exact out_ok rfl trivial
  · rw [er]; exact .reserved

theorem out_10111 : Out 2 h none (dec10111 h) := by
  rcases dec10111_sel h with e | e | e | e | e | e | e
  · rw [dec10111_rev e]
    refine withReg_ind (by omega) fun d hd => withReg_ind (by omega) fun m hm => ?_
    have hd : d.val < 8 := by omega
    have hm : m.val < 8 := by omega
    refine ite_ind (fun _ => out_ok (lo2_ok _ hm hd) trivial) fun _ =>
      ite_ind (fun _ => out_ok (lo2_ok _ hm hd) trivial) fun _ => ite_ind (fun _ => .undefined) fun _ =>
      ite_ind (fun _ => out_ok (lo2_ok _ hm hd) trivial) fun _ => ?_
    omega
  · rw [dec10111_pop e]
    exact ite_ind (fun _ => .unpredictable) fun g => out_ok (by
      rw [encode, mkSet_val (by omega), if_neg (by omega)]) trivial
  · rw [dec10111_bkpt e]
    exact out_ok rfl (show 0 ≤ _ ∧ _ ≤ (255 : Int) by omega)
  · rw [dec10111_hint e]
    exact ite_ind (fun _ => out_hint _ (by omega)) fun _ => .undefined
  all_goals
    rw [dec10111_undef (by omega)]
    exact .undefined

theorem out_1101 : Out 2 h none (dec1101 h) := by
  rcases (by omega : h / 256 % 16 ≤ 13 ∨ h / 256 % 16 = 14 ∨ h / 256 % 16 = 15) with e | e | e
  · rw [dec1101_b e]
    refine withCond_ind (by omega) fun cc hc => ?_
    have b := sext2_8_range (h % 256) (by omega)
    generalize sext2 8 (h % 256) = off at b ⊢
    exact out_ok (by rw [encode, if_neg (by omega), if_neg (by omega)]) (show inI32 off from ⟨by omega, by omega⟩)
  · rw [dec1101_udf e]
    exact out_ok rfl (show 0 ≤ _ ∧ _ ≤ (255 : Int) by omega)
  · rw [dec1101_svc e]
    exact out_ok rfl (show 0 ≤ _ ∧ _ ≤ (255 : Int) by omega)

end leaves

theorem decode16_out (h : Nat) (ht : h / 2048 < 29) : Out 2 h none (decode16 h) := by
  rcases top5_cases ht with
    e | e | e | e | e | e | e | e | e | e | e | e | e | e | e | e | e | e | e | e | e | e | e | e | e | e | e | e | e
  · rw [decode16_g0 e]; exact out_00000
  · rw [decode16_g1 e]; exact out_shift_lsr
  · rw [decode16_g2 e]; exact out_shift_asr
  · rw [decode16_g3 e]; exact out_00011
  · rw [decode16_g4 e]
    exact withReg_ind (by omega) fun d hd =>
      out_ok (by rw [imm, encode, if_neg (not_or.mpr ⟨nofun, by omega⟩)]) (imm_wf _ (by omega))
  · rw [decode16_g5 e]
    exact withReg_ind (by omega) fun d hd => out_ok (by rw [imm, encode, if_neg (by omega)]) (imm_wf _ (by omega))
  · rw [decode16_g6 e]
    exact withReg_ind (by omega) fun d hd =>
      out_ok (by rw [imm, encode, if_neg (by omega), if_neg (fun e => e rfl), if_neg (not_or.mpr ⟨nofun, by omega⟩)])
        (imm_wf _ (by omega))
  · rw [decode16_g7 e]
    exact withReg_ind (by omega) fun d hd =>
      out_ok (by rw [imm, encode, if_neg (by omega), if_neg (fun e => e rfl), if_neg (not_or.mpr ⟨nofun, by omega⟩)])
        (imm_wf _ (by omega))
  · rw [decode16_g8 e]; exact out_01000
  · rw [decode16_g9 e]
    exact withReg_ind (by omega) fun d hd =>
      out_ok (by rw [imm, encode, if_pos pc_val, if_neg (by omega)]) (imm_wf _ (by omega))
  · rw [decode16_g10_11 (.inl e)]; exact out_0101
  · rw [decode16_g10_11 (.inr e)]; exact out_0101
  · rw [decode16_g12_13 (.inl e)]; exact out_ldst_w
  · rw [decode16_g12_13 (.inr e)]; exact out_ldst_w
  · rw [decode16_g14_15 (.inl e)]; exact out_ldst_b
  · rw [decode16_g14_15 (.inr e)]; exact out_ldst_b
  · rw [decode16_g16_17 (.inl e)]; exact out_ldst_h
  · rw [decode16_g16_17 (.inr e)]; exact out_ldst_h
  · rw [decode16_g18 e]
    exact withReg_ind (by omega) fun d hd =>
      out_ok (by rw [imm, encode, if_pos sp_val, if_neg (by omega)]) (imm_wf _ (by omega))
  · rw [decode16_g19 e]
    exact withReg_ind (by omega) fun d hd =>
      out_ok (by rw [imm, encode, if_neg (by decide), if_pos sp_val, if_neg (by omega)]) (imm_wf _ (by omega))
  · rw [decode16_g20 e]
    exact withReg_ind (by omega) fun d hd =>
      out_ok (by rw [encode, if_neg (by omega)]) (show 0 ≤ _ ∧ _ ≤ (65535 : Int) by omega)
  · rw [decode16_g21 e]
    exact withReg_ind (by omega) fun d hd =>
      out_ok (by rw [imm, encode, if_pos sp_val, if_neg (by omega), if_neg (not_or.mpr ⟨nofun, by omega⟩)])
        (imm_wf _ (by omega))
  · rw [decode16_g22 e]; exact out_10110
  · rw [decode16_g23 e]; exact out_10111
  · rw [decode16_g24 e]
    exact withReg_ind (by omega) fun d hd => out_ok (by rw [encode, mkSet_val (by omega), if_neg (by omega)]) trivial
  · rw [decode16_g25 e]
    exact withReg_ind (by omega) fun d hd => out_ok (by rw [encode, mkSet_val (by omega), if_neg (by omega)]) trivial
  · rw [decode16_g26_27 (.inl e)]; exact out_1101
  · rw [decode16_g26_27 (.inr e)]; exact out_1101
  · rw [decode16_g28 e]
    have b := sext2_11_range (h % 2048) (by omega)
    generalize sext2 11 (h % 2048) = off at b ⊢
    exact out_ok (by rw [encode, if_pos (show Cond.always.val = 14 from rfl), if_neg (by omega)]) (show inI32 off from ⟨by omega, by omega⟩)
end Trion.Codec
