import TrionModel.Lemmas.MapPut
import TrionModel.Lemmas.MapFind
import TrionModel.Lemmas.MapShape
/-!
# Memory map: `count`, `count_range`, `iter_range`
-/
namespace Trion.Map
open Trion.Dict

theorem occAll_bounds {l : Nat} {ps : Segs} (ok : Ok l ps) :
    ps.length ≤ occSegs ps 0 4294967296 ∧
    occSegs ps 0 4294967296 + ps.length ≤ 4294967296 + 1 - l ∧
    occSegs ps 0 4294967296 ≤ 4294967296 - l ∧
    (ps.length = 0 → occSegs ps 0 4294967296 = 0) := by
  induction ps generalizing l with
  | nil => simp [occSegs]
  | cons s r ih =>
    obtain ⟨f, x⟩ := s
    obtain ⟨o1, o2, o3, o4⟩ := ok
    have hx : 0 < x.length := List.length_pos_iff.mpr o2
    obtain ⟨i1, i2, i3, _⟩ := ih o4
    simp only [occSegs, List.length_cons]
    omega

theorem countGo_cons (s : Seg) (r : Segs) (acc : Nat) :
    countGo (s :: r) acc =
      if acc + (segLast s - s.1) > u32Max then .panic else countGo r (acc + (segLast s - s.1)) := rfl

theorem countGo_spec {l : Nat} {ps : Segs} (ok : Ok l ps) (acc : Nat)
    (hb : acc + occSegs ps 0 4294967296 ≤ u32Max + ps.length) :
    countGo ps acc = .ok (acc + occSegs ps 0 4294967296 - ps.length) := by
  have hu : u32Max = 4294967295 := rfl
  induction ps generalizing l acc with
  | nil => simp [countGo, occSegs]
  | cons s r ih =>
    obtain ⟨f, x⟩ := s
    obtain ⟨o1, o2, o3, o4⟩ := ok
    have hx : 0 < x.length := List.length_pos_iff.mpr o2
    obtain ⟨i1, _, _, _⟩ := occAll_bounds o4
    simp only [occSegs, List.length_cons] at hb ⊢
    have hs : segLast (f, x) - (f, x).1 = x.length - 1 := by simp only [segLast]; omega
    -- the head segment lies inside the address space, so all of it is counted
    have e : min 4294967296 (f + x.length) - max 0 f = x.length := by omega
    rw [e] at hb ⊢
    clear e o3 o1
    rw [countGo_cons, hs, if_neg (by omega), ih o4 _ (by omega)]
    congr 1; omega

theorem count_spec {ps : Segs} (inv : MInv ps) :
    count ps = .ok (min (occupied (abs ps) 0 4294967296) u32Max, ps.length) := by
  have ok : Ok 0 ps := inv
  have hu : u32Max = 4294967295 := rfl
  obtain ⟨i1, i2, i3, i4⟩ := occAll_bounds ok
  have ho := occSegs_eq_occupied ok 0 4294967296
  rw [Nat.zero_add] at ho
  unfold count
  rw [countGo_spec ok 0 (by omega)]
  simp only
  rw [← ho, Nat.mod_eq_of_lt (by omega), Nat.zero_add, Nat.sub_add_cancel i1]

theorem Shape.occ_eq {ps A B R : Segs} {lo hi : Nat} (sh : Shape ps lo hi A B R) :
    occSegs ps lo (hi + 1) = occSegs B lo (hi + 1) := by
  rw [sh.eq, occSegs_append, occSegs_append, occSegs_below A _ _ (fun s hs => (sh.hA s hs).2),
    occSegs_above R _ _ (fun s hs => by have := (sh.hR s hs).2.2; omega), Nat.zero_add, Nat.add_zero]

theorem Shape.drop {ps A B R : Segs} {lo hi : Nat} (sh : Shape ps lo hi A B R) : ps.drop A.length = B ++ R := by
  rw [sh.eq, List.drop_left]

theorem length_le_occSegs {B : Segs} {lo hi : Nat} (h : lo ≤ hi)
    (hB : ∀ s ∈ B, 0 < s.2.length ∧ lo < s.1 + s.2.length ∧ s.1 ≤ hi) : B.length ≤ occSegs B lo (hi + 1) := by
  induction B with
  | nil => exact Nat.le_refl _
  | cons s r ih =>
    obtain ⟨f, x⟩ := s
    have h1 := hB (f, x) (List.mem_cons_self ..)
    have := ih (fun u hu => hB u (List.mem_cons_of_mem _ hu))
    simp only [occSegs, List.length_cons]
    simp only at h1
    omega

theorem countRangeGo_cons (lo hi : Nat) (s : Seg) (r : Segs) (addrs cnt : Nat) :
    countRangeGo lo hi (s :: r) addrs cnt =
      if s.1 ≤ hi then
        if segLast s < lo then .panic else
        if min (segLast s) hi < max s.1 lo then .panic else
        if addrs + (min (segLast s) hi - max s.1 lo) > u32Max then .panic
        else countRangeGo lo hi r (addrs + (min (segLast s) hi - max s.1 lo)) (cnt + 1)
      else countRangeGo lo hi r addrs cnt := rfl

theorem countRangeGo_above (lo hi : Nat) (R : Segs) (hR : ∀ s ∈ R, hi < s.1) (addrs cnt : Nat) :
    countRangeGo lo hi R addrs cnt = .ok (addrs, cnt) := by
  induction R with
  | nil => rfl
  | cons s r ih =>
    have := hR s (List.mem_cons_self ..)
    rw [countRangeGo_cons, if_neg (by omega), ih (fun u hu => hR u (List.mem_cons_of_mem _ hu))]

theorem countRangeGo_spec (lo hi : Nat) (h : lo ≤ hi) (B R : Segs)
    (hB : ∀ s ∈ B, 0 < s.2.length ∧ lo < s.1 + s.2.length ∧ s.1 ≤ hi) (hR : ∀ s ∈ R, hi < s.1) (addrs cnt : Nat)
    (hb : addrs + occSegs B lo (hi + 1) ≤ u32Max + B.length) :
    countRangeGo lo hi (B ++ R) addrs cnt = .ok (addrs + occSegs B lo (hi + 1) - B.length, cnt + B.length) := by
  have hu : u32Max = 4294967295 := rfl
  induction B generalizing addrs cnt with
  | nil => exact countRangeGo_above lo hi R hR addrs cnt
  | cons s r ih =>
    obtain ⟨f, x⟩ := s
    obtain ⟨hx, hs, c⟩ := hB (f, x) (List.mem_cons_self ..)
    have hB' := fun u hu => hB u (List.mem_cons_of_mem _ hu)
    have i1 := length_le_occSegs h hB'
    have hsl : segLast (f, x) = f + x.length - 1 := rfl
    simp only at hx hs c
    simp only [occSegs, List.length_cons] at hb ⊢
    rw [List.cons_append, countRangeGo_cons]
    simp only [hsl]
    -- `max_addr - min_addr` of the Rust loop is the covered amount less one
    have e : min (f + x.length - 1) hi - max f lo = min (hi + 1) (f + x.length) - max lo f - 1 ∧
        1 ≤ min (hi + 1) (f + x.length) - max lo f ∧ max f lo ≤ min (f + x.length - 1) hi := by omega
    obtain ⟨e1, e2, e3⟩ := e
    rw [if_pos c, if_neg (by omega), if_neg (Nat.not_lt.mpr e3), e1]
    clear e1 e3 hs c h
    generalize min (hi + 1) (f + x.length) - max lo f = w at *
    rw [if_neg (by omega), ih hB' _ _ (by omega)]
    congr 2 <;> omega

theorem occupied_le (D : Dict) (a n : Nat) : occupied D a n ≤ n := by
  unfold occupied
  exact Nat.le_trans (List.length_filter_le _ _) (by simp)

theorem countRange_spec {ps : Segs} (inv : MInv ps) (lo hi : Nat) (h : lo ≤ hi) (hh : hi ≤ u32Max) :
    countRange ps lo hi =
      .ok (min (occupied (abs ps) lo (hi + 1 - lo)) u32Max, (ps.filter (meets lo hi)).length) := by
  have ok : Ok 0 ps := inv
  have hu : u32Max = 4294967295 := rfl
  obtain ⟨A, B, R, sh⟩ := shape_exists ok lo hi
  have hR : ∀ s ∈ R, hi < s.1 := fun s hs => (sh.hR s hs).2.2
  have b1 := length_le_occSegs h sh.hB
  have b2 : B.length = 0 → occSegs B lo (hi + 1) = 0 := fun h0 => by rw [List.eq_nil_of_length_eq_zero h0]; rfl
  have ho := occSegs_eq_occupied ok lo (hi + 1 - lo)
  rw [show lo + (hi + 1 - lo) = hi + 1 by omega, sh.occ_eq] at ho
  have hocc := occupied_le (abs ps) lo (hi + 1 - lo)
  obtain ⟨l1, l2, l3, _⟩ := occAll_bounds ok
  have hm : B.length ≤ ps.length := by rw [sh.eq]; simp only [List.length_append]; omega
  unfold countRange
  rw [sh.firstIdx ok, sh.filter]
  simp only
  rw [if_neg (by rw [sh.eq]; simp), sh.drop, countRangeGo_spec lo hi h B R sh.hB hR 0 0 (by omega)]
  simp only
  rw [← ho, Nat.mod_eq_of_lt (by omega), Nat.zero_add, Nat.zero_add, Nat.sub_add_cancel b1]

theorem iterRangeGo_cons (lo hi : Nat) (s : Seg) (r : Segs) :
    iterRangeGo lo hi (s :: r) =
      if s.1 ≤ hi then
        if (if hi ≥ segLast s then 0 else segLast s - hi) > s.2.length then .panic
        else if (if lo ≤ s.1 then 0 else lo - s.1) >
            s.2.length - (if hi ≥ segLast s then 0 else segLast s - hi) then .panic
        else match iterRangeGo lo hi r with
          | .panic => .panic
          | .ok rest =>
            .ok (((if lo ≤ s.1 then s.1 else lo, if hi ≥ segLast s then segLast s else hi),
              (s.2.take (s.2.length - (if hi ≥ segLast s then 0 else segLast s - hi))).drop
                (if lo ≤ s.1 then 0 else lo - s.1)) :: rest)
      else .ok [] := rfl

theorem iterRangeGo_spec (lo hi : Nat) (h : lo ≤ hi) (B R : Segs)
    (hB : ∀ s ∈ B, 0 < s.2.length ∧ lo < s.1 + s.2.length ∧ s.1 ≤ hi) (hR : ∀ s ∈ R, hi < s.1) :
    iterRangeGo lo hi (B ++ R) = .ok (B.map fun s =>
      ((max s.1 lo, min (segLast s) hi),
        (s.2.take (min (segLast s) hi + 1 - s.1)).drop (max s.1 lo - s.1))) := by
  induction B with
  | nil =>
    cases R with
    | nil => rfl
    | cons s r => rw [List.nil_append, iterRangeGo_cons, if_neg (by have := hR s (List.mem_cons_self ..); omega)]; rfl
  | cons s r ih =>
    obtain ⟨f, x⟩ := s
    obtain ⟨hx, hs, c⟩ := hB (f, x) (List.mem_cons_self ..)
    have hsl : segLast (f, x) = f + x.length - 1 := rfl
    simp only at hx hs c
    have e1 : (if lo ≤ f then 0 else lo - f) = max f lo - f := by split <;> omega
    have e2 : (if lo ≤ f then f else lo) = max f lo := by split <;> omega
    have e3 : (if hi ≥ f + x.length - 1 then 0 else f + x.length - 1 - hi) = f + x.length - 1 - hi := by
      split <;> omega
    have e4 : (if hi ≥ f + x.length - 1 then f + x.length - 1 else hi) = min (f + x.length - 1) hi := by
      split <;> omega
    have e5 : x.length - (f + x.length - 1 - hi) = min (f + x.length - 1) hi + 1 - f := by omega
    rw [List.cons_append, iterRangeGo_cons, List.map_cons, ih (fun u hu => hB u (List.mem_cons_of_mem _ hu))]
    simp only [hsl, e1, e2, e3, e4, e5]
    rw [if_pos c, if_neg (by omega), if_neg (by omega)]

theorem iterRange_spec {ps : Segs} (inv : MInv ps) (lo hi : Nat) (h : lo ≤ hi) :
    iterRange ps lo hi = .ok ((ps.filter (meets lo hi)).map fun s =>
      ((max s.1 lo, min (segLast s) hi),
        (s.2.take (min (segLast s) hi + 1 - s.1)).drop (max s.1 lo - s.1))) := by
  have ok : Ok 0 ps := inv
  obtain ⟨A, B, R, sh⟩ := shape_exists ok lo hi
  unfold iterRange
  rw [sh.firstIdx ok, sh.filter]
  simp only
  rw [sh.drop, iterRangeGo_spec lo hi h B R sh.hB fun s hs => (sh.hR s hs).2.2]

end Trion.Map
