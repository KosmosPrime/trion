import TrionModel.Lemmas.C04Eval
import TrionModel.Lemmas.SimpClosed
/-!
# `C04.value` against the arithmetic specification `Arith.eval` (C07) by substitution of the symbol table

`C04.value T e := Simp.valC (env T) e` is defined through the model's folding step `foldBin`.  `subst T e` replaces every
defined, non-register name by its value; on the resulting literal-only tree `valC` is `valM` (bottom-up folding), which C07
(`valM_agree`) ties to `Arith.eval` away from the corners the property leaves open (`Arith.inScope`).
-/
namespace Trion.C04
open Trion Trion.Front Trion.Simp

def subst (T : SymTable) : Arg → Arg
  | .ident s => match env T s with | some v => .const v | none => .ident s
  | .bin op l r => .bin op (subst T l) (subst T r)
  | .neg a => .neg (subst T a)
  | .not a => .not (subst T a)
  | a => a

theorem valC_subst (T : SymTable) : ∀ e, valC (env T) e = valC (env T) (subst T e) := by
  apply Arg.ind
  case const => intro v; rfl
  case ident =>
    intro s
    simp only [subst]
    cases h : env T s with
    | none => simp [valC, h]
    | some v => simp [valC, h]
  case str => intro s; rfl
  case bin => intro op l r ihl ihr; simp only [subst, valC, ihl, ihr]
  case neg => intro a ih; simp only [subst, valC, ih]
  case not => intro a ih; simp only [subst, valC, ih]
  case addr => intro a _; rfl
  case seq => intro as; rfl
  case func => intro n as; rfl

theorem closed_subst (T : SymTable) (hT : ∀ s v, T s = some v → inI64 v = true) : ∀ e, expr e = true → valued T e = true →
    lits e = true → Arith.closed (subst T e) = true := by
  apply Arg.ind
  case const => intro v _ _ hl; simpa [subst, Arith.closed, lits, inI64_eq_fits] using hl
  case ident =>
    intro s he hv _
    simp only [expr, Bool.not_eq_true'] at he
    simp only [valued, he, Bool.false_or, Option.isSome_iff_exists] at hv
    obtain ⟨v, hv⟩ := hv
    simp [subst, env, he, hv, Arith.closed, ← inI64_eq_fits, hT s v hv]
  case str => intro s he; simp [expr] at he
  case bin =>
    intro op l r ihl ihr he hv hl
    simp only [expr, Bool.and_eq_true] at he
    simp only [valued, Bool.and_eq_true] at hv
    simp only [lits, Bool.and_eq_true] at hl
    simp [subst, Arith.closed, ihl he.1 hv.1 hl.1, ihr he.2 hv.2 hl.2]
  case neg => intro a ih he hv hl; simp only [expr] at he; simp only [valued] at hv; simp only [lits] at hl
              simp [subst, Arith.closed, ih he hv hl]
  case not => intro a ih he hv hl; simp only [expr] at he; simp only [valued] at hv; simp only [lits] at hl
              simp [subst, Arith.closed, ih he hv hl]
  case addr => intro a _ he; simp [expr] at he
  case seq => intro as he; simp [expr] at he
  case func => intro n as he; simp [expr] at he

/-- **`C04.value` is the arithmetic specification of C07 applied to the expression with the names substituted** (away from
the corners C07 leaves open: shifts of negative operands / into bit 63, `MIN % -1`) -/
theorem value_arith (T : SymTable) (e : Arg) (hc : Arith.closed (subst T e) = true) (hs : Arith.inScope (subst T e) = true) :
    (∀ v, value T e = some v ↔ Arith.eval (subst T e) = .ok v) ∧
    (value T e = none ↔ ∃ err, Arith.eval (subst T e) = .error err) := by
  have h1 : value T e = (valM (subst T e)).toOption := by
    unfold value; rw [valC_subst, valC_closed _ _ hc]
  have hag := valM_agree (subst T e) hc hs
  rw [h1]
  cases hv : valM (subst T e) with
  | ok w =>
    rw [hv] at hag
    cases he : Arith.eval (subst T e) with
    | error er => simp [he, agree] at hag
    | ok w' =>
      have : w = w' := by simpa [he, agree] using hag
      subst this
      simp [Except.toOption]
  | error k =>
    rw [hv] at hag
    cases he : Arith.eval (subst T e) with
    | ok w => simp [he, agree] at hag
    | error er => simp [Except.toOption]

end Trion.C04
