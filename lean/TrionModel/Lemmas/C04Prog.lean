import TrionModel.Lemmas.C04Eval
import TrionModel.Lemmas.AsmShow
import TrionModel.Lemmas.AsmFile
import TrionModel.Lemmas.AsmRefine
/-!
# C04 closed: the program `.addr A; .const n₁, e₁; …; .const n_k, e_k; <statement>` through the pipeline model

`defsTable defs t`: the constant table the definitions build from `t`, each value being the specification's `value` of
its expression over the table built so far (so a definition may use the earlier ones); `none` when a name is a register
name or already defined, or an expression has no value.  `doAssemble_prog`: `Asm.doAssemble` runs `.addr A;` and the
definitions without a diagnostic and reaches the instruction statement in `C06.stateAt A tbl`: region open at `A`, nothing
written, table `tbl`.  The success direction of the whole program (`run_defs_stmt_of_build`) concludes with the table's
reading of the bytes and stands in `C04Enc`.
-/
namespace Trion.C06

/-- the state after `.addr A;` and definitions that built `tbl` (in `Trion.C06`: the C06 statements speak of it too) -/
def stateAt (A : Nat) (tbl : Asm.Table) : Asm.St := ⟨⟨[], some ⟨A, [], Map.u32Max - A + 1⟩, []⟩, [], some tbl, [], some [], []⟩

end Trion.C06

namespace Trion.C04
open Trion Trion.Front Trion.Simp

theorem evalSimp_frontEval (t : Asm.Table) : EvalSimp (Asm.frontEval t) (fun n => t.get n) :=
  .of_evaluateE fun x => by
    unfold Asm.frontEval Asm.evalIn
    cases evaluateE (fun n => t.get n) isRegister x with
    | ok ev a' => dsimp only; cases ev.cause <;> rfl
    | nosuch n a' => rfl
    | err e a' => cases e <;> exact ⟨_, _, rfl⟩
    | panic => trivial

theorem evalSimp_simpEval (lk : Bytes → Lookup) : EvalSimp (Show.simpEval lk) lk :=
  .of_evaluateE fun x => by
    unfold Show.simpEval
    rw [← evaluateE_is_evaluateT]
    cases evaluateE lk isRegister x with
    | ok ev a' => rfl
    | nosuch n a' => rfl
    | err e a' => cases e <;> exact ⟨_, _, rfl⟩
    | panic => trivial

/-- the symbol table the specification reads off the assembler's table `t`: its valued entries -/
def tabOf (t : Asm.Table) : SymTable := tab (fun n => t.get n)

def defsTable : List (Bytes × Arg) → Asm.Table → Option Asm.Table
  | [], t => some t
  | (n, e) :: ds, t =>
    if isRegister n = true then none
    else match t.find n with
      | some _ => none
      | none =>
        match value (tabOf t) e with
        | some v => defsTable ds (t.set n (some v))
        | none => none

def constStmt (d : Bytes × Arg) : ElemVal := .directive (bytesOf "const") (Args.ofList [.ident d.1, d.2])

/-- the statements of the program `.addr A; .const n₁, e₁; …; name args`, as element values -/
def progVals (A : Nat) (defs : List (Bytes × Arg)) (name : Bytes) (args : Args) : List ElemVal :=
  .directive (bytesOf "addr") (Args.ofList [.const A]) :: (defs.map constStmt ++ [.instruction name args])

/-- every value of the table is an `i64` (what `Simp.tableOk` asks of the lookup) -/
def tblI64 (t : Asm.Table) : Prop := ∀ n v, t.find n = some (some v) → inI64 v = true

theorem tableOk_of_tblI64 {t : Asm.Table} (h : tblI64 t) : Simp.tableOk (fun n => t.get n) := by
  intro s v hs
  simp only [Asm.Table.get] at hs
  split at hs
  · cases hs
  · cases hs
  · rename_i w hf; cases hs; exact h s _ hf

theorem evalIn_of_value {t : Asm.Table} (hn : Asm.Table.NoDef t) {e : Arg} {v : Int} (hv : value (tabOf t) e = some v) :
    Asm.evalIn t e = .ok (.complete (.const v)) := by
  obtain ⟨ev, he⟩ := value_evaluate (fun n => t.get n) e v hv
  have hc := evaluate_cause_none (Asm.Table.nodef_get hn) he
  have hE := evaluate_ok_iff.1 he
  simp [Asm.evalIn, hE, hc]

theorem defsTable_cons {n : Bytes} {e : Arg} {ds : List (Bytes × Arg)} {t t' : Asm.Table}
    (h : defsTable ((n, e) :: ds) t = some t') :
    isRegister n = false ∧ t.find n = none ∧ ∃ v, value (tabOf t) e = some v ∧ defsTable ds (t.set n (some v)) = some t' := by
  simp only [defsTable] at h
  split at h
  · cases h
  · rename_i hr
    split at h
    · cases h
    · rename_i hf
      split at h
      · rename_i v hv; exact ⟨by simpa using hr, hf, v, hv, h⟩
      · cases h

theorem defsTable_ind (P : Asm.Table → Prop)
    (hstep : ∀ (t : Asm.Table) (n : Bytes) (e : Arg) (v : Int), P t → value (tabOf t) e = some v → P (t.set n (some v))) :
    ∀ (defs : List (Bytes × Arg)) (t t' : Asm.Table), P t → defsTable defs t = some t' → P t' := by
  intro defs
  induction defs with
  | nil => intro t t' h hd; cases hd; exact h
  | cons d defs ih =>
    intro t t' h hd
    obtain ⟨_, _, v, hv, hd'⟩ := defsTable_cons (n := d.1) (e := d.2) hd
    exact ih _ _ (hstep t d.1 d.2 v h hv) hd'

theorem defsTable_nodef : ∀ (defs : List (Bytes × Arg)) (t t' : Asm.Table), Asm.Table.NoDef t → defsTable defs t = some t' →
    Asm.Table.NoDef t' :=
  defsTable_ind _ fun _ n _ v h _ => Asm.Table.nodef_set h n v

theorem defsTable_i64 : ∀ (defs : List (Bytes × Arg)) (t t' : Asm.Table), tblI64 t → defsTable defs t = some t' → tblI64 t' :=
  defsTable_ind _ fun t n e v h hv m w hm => by
    rw [Asm.find_set] at hm
    split at hm
    · cases hm; exact Simp.valC_range _ _ hv
    · exact h m w hm

theorem nodef_nil : Asm.Table.NoDef [] := by intro n; simp [Asm.Table.find]
theorem tblI64_nil : tblI64 [] := by intro n v h; simp [Asm.Table.find] at h

theorem const_ok_expr (fs : Bytes → Option Bytes) (inc : Asm.Inc) (env : Asm.Env) (st : Asm.St) (tbl : Asm.Table)
    (hn : Asm.Table.NoDef tbl) (henv : env.paths ≠ []) (hl : st.locals = some tbl) (l c : Nat) (name : Bytes) (e : Arg) (v : Int)
    (hr : isRegister name = false) (hf : tbl.find name = none) (hv : value (tabOf tbl) e = some v) :
    Asm.directive fs inc env st l c (bytesOf "const") [.ident name, e] =
      .ok ({ st with locals := some (tbl.set name (some v)) }, .ok) := by
  have hev : Asm.evalArg env st e = .ok (.complete (.const v)) := by
    rw [Asm.evalArg_eq (Asm.paths_nonempty henv) hl, evalIn_of_value hn hv]
  rw [Asm.directive_const, Asm.constDirective_ident, Asm.evalStrict_complete hev]
  simp only [Asm.insertConstant_loc hr hl, hf]

theorem doAssemble_defs (fs : Bytes → Option Bytes) (enc : Asm.Encoder) (inc : Asm.Inc) (env : Asm.Env) (henv : env.paths ≠ []) :
    ∀ (defs : List (Bytes × Arg)) (mid rest : List Element) (err : Option ParseErr) (st : Asm.St) (t t' : Asm.Table),
    mid.map (·.val) = defs.map constStmt → st.locals = some t → Asm.Table.NoDef t → defsTable defs t = some t' →
    Asm.doAssemble fs enc inc env (mid ++ rest) err st = Asm.doAssemble fs enc inc env rest err { st with locals := some t' } := by
  intro defs
  induction defs with
  | nil =>
    intro mid rest err st t t' hm hl hn hd
    have : mid = [] := by simpa using hm
    subst this
    cases hd
    have : ({ st with locals := some t } : Asm.St) = st := by cases st; simp_all
    rw [this]; rfl
  | cons d defs ih =>
    intro mid rest err st t t' hm hl hn hd
    obtain ⟨n, e⟩ := d
    obtain ⟨el, mid', rfl, hel, hm'⟩ := List.map_eq_cons_iff.mp hm
    obtain ⟨hr, hf, v, hv, hd'⟩ := defsTable_cons hd
    obtain ⟨l, c, val⟩ := el
    simp only [constStmt] at hel
    subst hel
    have hstep : Asm.statement fs enc inc env st ⟨l, c, .directive (bytesOf "const") (Args.ofList [.ident n, e])⟩ =
        .ok ({ st with locals := some (t.set n (some v)) }, .ok) := by
      simp only [Asm.statement, Show.toList_ofList]
      exact const_ok_expr fs inc env st t hn henv hl l c n e v hr hf hv
    have := ih mid' rest err { st with locals := some (t.set n (some v)) } (t.set n (some v)) t' hm' rfl
      (Asm.Table.nodef_set hn n v) hd'
    simp only [List.cons_append, Asm.doAssemble, hstep]
    exact this

theorem progVals_split {els : List Element} {A : Nat} {defs : List (Bytes × Arg)} {name : Bytes} {args : Args}
    (hels : els.map (·.val) = progVals A defs name args) :
    ∃ pre l c, els = pre ++ [⟨l, c, .instruction name args⟩] ∧
      pre.map (·.val) = .directive (bytesOf "addr") (Args.ofList [.const A]) :: defs.map constStmt := by
  simp only [progVals] at hels
  obtain ⟨e1, r1, rfl, h1, hr1⟩ := List.map_eq_cons_iff.mp hels
  obtain ⟨mid, last, rfl, hmid, hlast⟩ := List.map_eq_append_iff.mp hr1
  obtain ⟨e2, r2, rfl, h2, hr2⟩ := List.map_eq_cons_iff.mp hlast
  have : r2 = [] := by simpa using hr2
  subst this
  obtain ⟨l2, c2, v2⟩ := e2
  simp only at h2
  subst h2
  exact ⟨e1 :: mid, l2, c2, by simp, by simp [h1, hmid]⟩

theorem doAssemble_prog (fs : Bytes → Option Bytes) (enc : Asm.Encoder) (inc : Asm.Inc) (env : Asm.Env) (henv : env.paths ≠ [])
    (A : Nat) (hA : A < 4294967296) (defs : List (Bytes × Arg)) (tbl : Asm.Table) (hdefs : defsTable defs [] = some tbl)
    {pre : List Element} (hpre : pre.map (·.val) = .directive (bytesOf "addr") (Args.ofList [.const A]) :: defs.map constStmt)
    (rest : List Element) (err : Option ParseErr) :
    Asm.doAssemble fs enc inc env (pre ++ rest) err init2 = Asm.doAssemble fs enc inc env rest err (C06.stateAt A tbl) := by
  obtain ⟨e1, mid, rfl, h1, hmid⟩ := List.map_eq_cons_iff.mp hpre
  obtain ⟨l1, c1, v1⟩ := e1
  simp only at h1
  subst h1
  have haddr : Asm.statement fs enc inc env init2 ⟨l1, c1, .directive (bytesOf "addr") (Args.ofList [.const A])⟩ =
      .ok (C06.stateAt A [], .ok) := by
    have := Asm.addr_run fs inc env init2 [] henv rfl rfl l1 c1 (A : Int) (by omega) (by omega)
    simp only [Asm.statement, Show.toList_ofList, this]
    simp [init2, C06.stateAt]
  simp only [List.cons_append, Asm.doAssemble, haddr]
  exact doAssemble_defs fs enc inc env henv defs mid rest err (C06.stateAt A []) [] tbl hmid rfl nodef_nil hdefs

end Trion.C04
