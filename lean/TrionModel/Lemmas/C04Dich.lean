import TrionModel.Lemmas.C04Diag
import TrionModel.Lemmas.C06Retry
/-!
# C04: the diagnosed side of the run-level dichotomies on the extended operand class

The case analysis is `build_cases2` (`C04Enc`): the front end completes the statement to its (extended) meaning and the
encoder accepts it, or the first attempt ends with a result that is not an encodable instruction.
`run_defs_stmt_diag_buildK`: in the second case the run is diagnosed at the statement, with instruction kinds.
-/
namespace Trion.C04
open Trion Trion.Front Trion.Simp

/-- the program whose instruction statement records a diagnostic (`hK`): the run does not succeed, and every diagnostic is at
the statement and of an instruction kind (`run_last_instr`, Lemmas/C06Retry.lean) -/
theorem run_defs_stmt_diag_ofK (fs : Bytes → Option Bytes) (main data : Bytes) (hfs : fs main = some data)
    (els : List Element) (hp : Asm.parseFile data = .ok (els, none)) (A : Nat) (hA : A < 4294967296)
    (defs : List (Bytes × Arg)) (name : Bytes) (args : Args) (hels : els.map (·.val) = progVals A defs name args)
    (tbl : Asm.Table) (hdefs : defsTable defs [] = some tbl)
    (hK : ∀ (l c : Nat) (st' : Asm.St) (r : Asm.Res), Asm.Table.NoDef tbl → tblI64 tbl →
      Asm.instruction Asm.encoder ⟨[main], main⟩
        ⟨⟨[], some ⟨A, [], Map.u32Max - A + 1⟩, []⟩, [], some tbl, [], some [], []⟩ l c name args.toList = .ok (st', r) →
      1 ≤ st'.errors.length) :
    ∃ el o, el ∈ els ∧ el.val = .instruction name args ∧ Asm.run fs main = .done o ∧ o.success = false ∧ o.diags ≠ [] ∧
      ∀ d ∈ o.diags, (d.file = main ∧ d.line = el.line ∧ d.col = el.col) ∧ Asm.pushesC .ins d.kind = true := by
  obtain ⟨pre, l2, c2, rfl, hpre⟩ := progVals_split hels
  obtain ⟨o, h1, h2, h3, h4⟩ := run_last_instr hfs (S := C06.stateAt A tbl)
    ⟨hp, doAssemble_prog fs Asm.encoder _ ⟨[main], main⟩ (by simp) A hA defs tbl hdefs hpre⟩ ⟨rfl, rfl, rfl⟩ rfl
    fun S1 r1 hX =>
      .inl (hK l2 c2 S1 r1 (defsTable_nodef defs [] tbl nodef_nil hdefs) (defsTable_i64 defs [] tbl tblI64_nil hdefs) hX)
  exact ⟨⟨l2, c2, .instruction name args⟩, o, by simp, rfl, h1, h2, h3, h4⟩

/-- C04 (props/C04.json)  `run_defs_stmt_diag_ofK` without the kinds: the run does not succeed and every diagnostic is at the
statement -/
theorem run_defs_stmt_diag_of (fs : Bytes → Option Bytes) (main data : Bytes) (hfs : fs main = some data)
    (els : List Element) (hp : Asm.parseFile data = .ok (els, none)) (A : Nat) (hA : A < 4294967296)
    (defs : List (Bytes × Arg)) (name : Bytes) (args : Args) (hels : els.map (·.val) = progVals A defs name args)
    (tbl : Asm.Table) (hdefs : defsTable defs [] = some tbl)
    (hK : ∀ (l c : Nat) (st' : Asm.St) (r : Asm.Res), Asm.Table.NoDef tbl → tblI64 tbl →
      Asm.instruction Asm.encoder ⟨[main], main⟩
        ⟨⟨[], some ⟨A, [], Map.u32Max - A + 1⟩, []⟩, [], some tbl, [], some [], []⟩ l c name args.toList = .ok (st', r) →
      1 ≤ st'.errors.length) :
    ∃ el o, el ∈ els ∧ el.val = .instruction name args ∧ Asm.run fs main = .done o ∧ o.success = false ∧ o.diags ≠ [] ∧
      ∀ d ∈ o.diags, d.file = main ∧ d.line = el.line ∧ d.col = el.col := by
  obtain ⟨el, o, h1, h2, h3, h4, h5, h6⟩ :=
    run_defs_stmt_diag_ofK fs main data hfs els hp A hA defs name args hels tbl hdefs hK
  exact ⟨el, o, h1, h2, h3, h4, h5, fun d hd => (h6 d hd).1⟩

theorem run_defs_stmt_diag_buildK (fs : Bytes → Option Bytes) (main data : Bytes) (hfs : fs main = some data)
    (els : List Element) (hp : Asm.parseFile data = .ok (els, none)) (A : Nat) (hA : A < 4294967296)
    (defs : List (Bytes × Arg)) (name : Bytes) (args : Args) (hels : els.map (·.val) = progVals A defs name args)
    (tbl : Asm.Table) (hdefs : defsTable defs [] = some tbl) (t : Instr) (hm : mnemonic name = some t)
    (hne : NotEncoded (build A name args.toList (Asm.frontEval tbl) true)) :
    ∃ el o, el ∈ els ∧ el.val = .instruction name args ∧ Asm.run fs main = .done o ∧ o.success = false ∧ o.diags ≠ [] ∧
      ∀ d ∈ o.diags, (d.file = main ∧ d.line = el.line ∧ d.col = el.col) ∧ Asm.pushesC .ins d.kind = true := by
  refine run_defs_stmt_diag_ofK fs main data hfs els hp A hA defs name args hels tbl hdefs fun l c st' r _ _ hX => ?_
  obtain ⟨d, hd, _⟩ := instr_diag_memK ⟨[main], main⟩ (C06.stateAt A tbl) tbl (by simp) rfl [] ⟨A, [], Map.u32Max - A + 1⟩ [] rfl
    l c name args.toList t hm (by rw [Show.cur_empty A _ hA]; exact hne) st' r hX
  exact List.length_pos_of_mem hd

theorem run_defs_stmt_diag_build (fs : Bytes → Option Bytes) (main data : Bytes) (hfs : fs main = some data)
    (els : List Element) (hp : Asm.parseFile data = .ok (els, none)) (A : Nat) (hA : A < 4294967296)
    (defs : List (Bytes × Arg)) (name : Bytes) (args : Args) (hels : els.map (·.val) = progVals A defs name args)
    (tbl : Asm.Table) (hdefs : defsTable defs [] = some tbl) (t : Instr) (hm : mnemonic name = some t)
    (hne : NotEncoded (build A name args.toList (Asm.frontEval tbl) true)) :
    ∃ el o, el ∈ els ∧ el.val = .instruction name args ∧ Asm.run fs main = .done o ∧ o.success = false ∧ o.diags ≠ [] ∧
      ∀ d ∈ o.diags, d.file = main ∧ d.line = el.line ∧ d.col = el.col := by
  obtain ⟨el, o, h1, h2, h3, h4, h5, h6⟩ :=
    run_defs_stmt_diag_buildK fs main data hfs els hp A hA defs name args hels tbl hdefs t hm hne
  exact ⟨el, o, h1, h2, h3, h4, h5, fun d hd => (h6 d hd).1⟩

end Trion.C04
