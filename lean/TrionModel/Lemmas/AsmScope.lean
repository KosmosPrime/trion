import TrionModel.Lemmas.AsmFile
import TrionModel.Lemmas.AsmWithin
import TrionModel.Lemmas.ScopeRun
/-!
# `Trion.Asm`: the constant tables of the whole-pipeline model (C14 lifted to `Asm`)

`Quiet st st'`: the step touches no table, leaves every closure of `.global` where it is and queues nothing but
retries of statements — proved for every statement and task that is not scope-relevant
(`.addr .align .du* .dhex .dstr .dfile`, instructions, the retry tasks).
-/
namespace Trion.Asm
open Trion


def Table.le (t t' : Table) : Prop := ∀ n v, t.find n = some (some v) → t'.find n = some (some v)

/-- `G'` is `G` plus entries at `names`: each changed entry was absent or unvalued in `G` and now carries the value
the entry has in `C'` (the included file's own table) — or it was absent and is now "announced" (a `.global` whose
value has not arrived) -/
def Upd (names : List Bytes) (G G' C' : Table) : Prop :=
  ∀ m, G'.find m = G.find m ∨ (m ∈ names ∧ (∀ w, G.find m ≠ some (some w)) ∧
    ((∃ v, C'.find m = some (some v) ∧ G'.find m = some (some v)) ∨ (G.find m = none ∧ G'.find m = some none)))

/-! The tables of the two models are the same type with the same operations, so `Table.le` and `Upd` are those of the
scope machine and their algebra is taken from there (Lemmas/Scope.lean, Lemmas/ScopeRun.lean). -/

theorem find_eq (t : Table) (n : Bytes) : Scope.Table.find t n = Table.find t n := by
  induction t with
  | nil => rfl
  | cons p t ih => obtain ⟨k, v⟩ := p; simp only [Scope.Table.find, Table.find, ih]

theorem set_eq (t : Table) (n : Bytes) (v : Option Int) : Scope.Table.set t n v = Table.set t n v := by
  induction t with
  | nil => rfl
  | cons p t ih => obtain ⟨k, w⟩ := p; simp only [Scope.Table.set, Table.set, ih]

theorem le_eq (a b : Table) : Scope.Table.le a b ↔ Table.le a b := by simp only [Scope.Table.le, Table.le, find_eq]

theorem upd_eq (N : List Bytes) (G G' C : Table) : Scope.Upd N G G' C ↔ Upd N G G' C := by
  simp only [Scope.Upd, Upd, find_eq]

theorem Table.le_refl (t : Table) : t.le t := fun _ _ h => h

theorem Table.le_trans {a b c : Table} (h1 : a.le b) (h2 : b.le c) : a.le c := fun n v h => h2 n v (h1 n v h)

theorem Table.le_set (t : Table) (n : Bytes) (v : Option Int) (h : ∀ w, t.find n ≠ some (some w)) :
    t.le (t.set n v) :=
  set_eq t n v ▸ (le_eq ..).1 (Scope.Table.le_set t n v (by simpa only [find_eq] using h))

theorem Upd.refl (names : List Bytes) (G C : Table) : Upd names G G C := fun _ => .inl rfl

theorem Upd.mono {n n' : List Bytes} {G G' C C' : Table} (h : Upd n G G' C) (hn : ∀ m ∈ n, m ∈ n')
    (hc : C.le C') : Upd n' G G' C' :=
  (upd_eq ..).1 (((upd_eq ..).2 h).mono hn ((le_eq ..).2 hc))

theorem Upd.trans {n : List Bytes} {G G1 G' C1 C' : Table} (h1 : Upd n G G1 C1) (h2 : Upd n G1 G' C')
    (hc : C1.le C') : Upd n G G' C' :=
  (upd_eq ..).1 (((upd_eq ..).2 h1).trans ((upd_eq ..).2 h2) ((le_eq ..).2 hc))

theorem Upd.le {n : List Bytes} {G G' C : Table} (h : Upd n G G' C) : G.le G' := (le_eq ..).1 ((upd_eq ..).2 h).le

theorem Upd.nil_find {G G' C : Table} (h : Upd [] G G' C) (m : Bytes) : G'.find m = G.find m := by
  rcases h m with e | ⟨hm, _⟩
  · exact e
  · cases hm


def St.tab (st : St) : Realm → Option Table
  | .global => some st.globals
  | .loc => st.locals

theorem getConstant_char {st : St} {n : Bytes} {r : Realm} {lk : Simp.Lookup} (h : getConstant st n r = .ok lk) :
    ∃ t, st.tab r = some t ∧ lk = t.get n := by
  cases r with
  | global => simp only [getConstant] at h; cases h; exact ⟨_, rfl, rfl⟩
  | loc =>
    simp only [getConstant] at h
    split at h
    · cases h
    · rename_i l hl; cases h; exact ⟨l, hl, rfl⟩


structure Quiet (st st' : St) : Prop where
  globals : st'.globals = st.globals
  locals : st'.locals = st.locals
  gt : ∀ t ∈ st'.globalTasks, t ∈ st.globalTasks ∨ t.notCopy = true
  lt : ∀ q', st'.localTasks = some q' → ∀ t ∈ q', (∃ q, st.localTasks = some q ∧ t ∈ q) ∨ t.notCopy = true

theorem Quiet.refl (st : St) : Quiet st st :=
  ⟨rfl, rfl, fun _ h => .inl h, fun q hq _ ht => .inl ⟨q, hq, ht⟩⟩

theorem Quiet.trans {a b c : St} (h1 : Quiet a b) (h2 : Quiet b c) : Quiet a c := by
  refine ⟨h2.globals.trans h1.globals, h2.locals.trans h1.locals, fun t ht => ?_, fun q hq t ht => ?_⟩
  · rcases h2.gt t ht with h | h
    · exact h1.gt t h
    · exact .inr h
  · rcases h2.lt q hq t ht with ⟨q1, hq1, ht1⟩ | h
    · exact h1.lt q1 hq1 t ht1
    · exact .inr h

theorem quiet_same {st st' : St} (hg : st'.globals = st.globals) (hl : st'.locals = st.locals)
    (hgt : st'.globalTasks = st.globalTasks) (hlt : st'.localTasks = st.localTasks) : Quiet st st' :=
  ⟨hg, hl, fun _ h => .inl (hgt ▸ h), fun q hq _ ht => .inl ⟨q, hlt ▸ hq, ht⟩⟩

theorem quiet_pushIn (st : St) (f : Bytes) (l c : Nat) (k : Kind) : Quiet st (st.pushIn f l c k) :=
  quiet_same rfl rfl rfl rfl

theorem quiet_push (st : St) (env : Env) (l c : Nat) (k : Kind) : Quiet st (st.push env l c k) :=
  quiet_same rfl rfl rfl rfl

theorem addTask_quiet {st st' : St} {t : Task} {r : Realm} (h : addTask st t r = .ok st') (ht : t.notCopy = true) :
    Quiet st st' := by
  unfold addTask at h
  repeat' split at h
  all_goals (first | (cases h; done) | skip)
  · cases h
    refine ⟨rfl, rfl, fun x hx => ?_, fun q hq y hy => .inl ⟨q, hq, hy⟩⟩
    simp only [List.mem_append, List.mem_singleton] at hx
    rcases hx with hx | rfl
    · exact .inl hx
    · exact .inr ht
  · rename_i q0 hq0
    cases h
    refine ⟨rfl, rfl, fun _ h => .inl h, fun q hq x hx => ?_⟩
    cases hq
    simp only [List.mem_append, List.mem_singleton] at hx
    rcases hx with hx | rfl
    · exact .inl ⟨q0, hq0, hx⟩
    · exact .inr ht

theorem Acts.quiet {C : Cls} {f : Bytes} {l c : Nat} {m : May} (ht : m.tab = false) (hq : ∀ r t, m.queue r t → t.notCopy = true)
    {e : Bool} {st st' : St} (h : Acts (Lab.ok C f l c m) e st st') : Quiet st st' := by
  refine h.rel Quiet.refl Quiet.trans fun hp hd => ?_
  cases hd with
  | push => exact quiet_pushIn ..
  | seg => exact quiet_same rfl rfl rfl rfl
  | tab => have hp' : m.tab = true := hp; rw [ht] at hp'; cases hp'
  | task ha => exact addTask_quiet ha (hq _ _ hp.1)

theorem Acts.quiet_silent {C : Cls} {f : Bytes} {l c : Nat} {e : Bool} {st st' : St}
    (h : Acts (Lab.ok C f l c .silent) e st st') : Quiet st st' :=
  h.quiet (m := .silent) rfl fun _ _ hq => hq.2

theorem Acts.quiet_retry {C : Cls} {f : Bytes} {l c : Nat} {t0 : Task} (hn : t0.notCopy = true) {e : Bool} {st st' : St}
    (h : Acts (Lab.ok C f l c (.ofTask t0)) e st st') : Quiet st st' :=
  h.quiet (m := .ofTask t0) (by simp [May.ofTask, hn]) fun _ _ hq => hq.2.1

theorem duDirective_quiet {du : DU} {env : Env} {st : St} {line col : Nat} {args : List Arg} :
    ∀ st' r, duDirective du env st line col args = .ok (st', r) → Quiet st st' :=
  fun _ _ h => ((duDirective_acts (m := .silent) rfl (fun _ => ⟨rfl, rfl⟩)).ok h).quiet_silent

theorem instruction_quiet {enc : Encoder} {env : Env} {st : St} {line col : Nat} {name : Bytes} {args : List Arg} :
    ∀ st' r, instruction enc env st line col name args = .ok (st', r) → Quiet st st' :=
  fun _ _ h => ((instruction_acts (m := .silent) rfl (fun _ => ⟨rfl, rfl⟩)).ok h).quiet_silent

theorem runDataTask_quiet {d : DataExpr} {g : Bool} {env : Env} {st : St} :
    ∀ st' r, runDataTask d g env st = .ok (st', r) → Quiet st st' :=
  fun _ _ h => ((runDataTask_acts (m := .ofTask (.data d g)) ⟨rfl, rfl, rfl⟩ rfl (fun hg _ => ⟨rfl, rfl, rfl, hg⟩)).ok h).quiet_retry rfl

theorem runInstrTask_quiet {enc : Encoder} {i : ArmInstr} {g : Bool} {env : Env} {st : St} :
    ∀ st' r, runInstrTask enc i g env st = .ok (st', r) → Quiet st st' :=
  fun _ _ h => ((runTask_acts_at (t := .instr i g) ⟨rfl, rfl, rfl⟩ (fun _ _ _ e => nomatch e)).ok h).quiet_retry rfl

theorem evalStrict_quiet {dir : String} {env : Env} {st st' : St} {line col : Nat} {a : Arg} {r : Res}
    (h : evalStrict dir env st line col a = .ok (.error (st', r))) : Quiet st st' :=
  ((evalStrict_acts (m := .silent) rfl).ok h _ _ rfl).quiet_silent

theorem addrDirective_quiet {env : Env} {st : St} {line col : Nat} {args : List Arg} :
    ∀ st' r, addrDirective env st line col args = .ok (st', r) → Quiet st st' :=
  fun _ _ h => ((addrDirective_acts (m := .silent) rfl).ok h).quiet_silent

theorem alignDirective_quiet {env : Env} {st : St} {line col : Nat} {args : List Arg} :
    ∀ st' r, alignDirective env st line col args = .ok (st', r) → Quiet st st' :=
  fun _ _ h => ((alignDirective_acts (m := .silent) rfl).ok h).quiet_silent

theorem stringDirective_quiet {fs : Bytes → Option Bytes} {dir : String} {env : Env} {st : St} {line col : Nat}
    {args : List Arg} :
    ∀ st' r, stringDirective fs dir env st line col args = .ok (st', r) → Quiet st st' :=
  fun _ _ h => ((stringDirective_acts (m := .silent) rfl).ok h).quiet_silent

end Trion.Asm
