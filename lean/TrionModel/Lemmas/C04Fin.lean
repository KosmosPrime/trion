import TrionModel.Lemmas.FrontWf
import TrionModel.Lemmas.C04Get
import TrionModel.Lemmas.FrontTargets
import TrionModel.Lemmas.ShowEnc
/-!
# C04 closed: the code after `convert!` against `C04.meaning`, arm by arm

Every arm of `assemble` is of one of six kinds (`Row`): nothing after the macro, an operand form the arm refuses, a
PC-relative target, a payload narrowed to its field, an option name, the zero of `RSBS`.  `row` is the one walk over the
templates; soundness and completeness of `finish` are read off the six kinds.
-/
namespace Trion.C04
open Trion Trion.Front

theorem pcAligned_eq (A : Nat) : pcAligned A = ((alPc A : Nat) : Int) := by simp [pcAligned, alPc]
theorem pc_eq (A : Nat) : pc A = ((pcOf A : Nat) : Int) := by simp [pc, pcOf]

/-- the barrier-option quirk of the implementation: `DMB/DSB/ISB SV` is accepted like `SY` (reported as a finding) -/
def svQuirk (t : Instr) (vals : List Val) : Prop :=
  (t = .dmb ∨ t = .dsb ∨ t = .isb) ∧ ∃ o, vals = [.ident o] ∧ upper o = bytesOf "SV"

/-- One arm of `assemble` with its operand values, at statement address `A`, with `n` the operand count (`finish`'s `argc`,
which only appears in the diagnostic `ValueRange n`): `m` is what the statement means and `f` what `finish` returns.
`W`: the values are inside their Rust types (what the getters guarantee); `V`: they are inside the ranges the getters
accept (what the getters need); `Q`: the barrier-option quirk applies.  The range checks of an arm are those of
`Show.Printable`.  The fields are what the four readings need: `Row.sound` (`finish` ok ⇒ meaning) uses `ha`, `hs`, `hqp`;
`Row.wf` (`finish` ok ⇒ well-formed) uses the `hj`; `Row.printable` (meaning printable ⇒ `finish` ok) uses `hc`, `hpq`;
`Row.complete` (meaning well-formed and encodable ⇒ `V` and `finish` ok) uses `hc`, `ht`, `hpq`, and `hv` for `V`. -/
inductive Row (A n : Nat) (W Q V : Prop) : Option Instr → Except Diag Instr → Prop
  | plain (j : Instr) (hj : W → j.wf) (hv : ∀ hws, j.wf → Codec.encode j = .ok hws → V) : Row A n W Q V (some j) (.ok j)
  | refused : Row A n W Q V none (.error (.valueRange n))
  /-- `R` is `literal` or `branch` on the target `t`; `base` the PC value the offset is taken from -/
  | rel (t base : Int) (R : Except Diag Int) (mk : Int → Instr) (ha : W → isAddress t) (hs : ∀ o, R = .ok o → o = t - base)
      (hc : Show.Printable (mk (t - base)) A → R = .ok (t - base))
      (ht : isAddress t → Show.targetInRange (mk (t - base)) A) (hj : ∀ o, R = .ok o → (mk o).wf) (hv : isAddress t → V) :
      Row A n W Q V (if isAddress t then some (mk (t - base)) else none)
        (match (generalizing := false) R with | .ok o => .ok (mk o) | .error e => .error e)
  | pay (v hi : Int) (mk : Int → Instr) (hc : Show.Printable (mk v) A → 0 ≤ v ∧ v ≤ hi) (ht : Show.targetInRange (mk v) A)
      (hj : 0 ≤ v ∧ v ≤ hi → (mk v).wf) (hv : 0 ≤ v ∧ v ≤ hi → V) :
      Row A n W Q V (some (mk v))
        (match (if 0 ≤ v ∧ v ≤ hi then some v else none : Option Int) with
          | some w => .ok (mk w) | none => .error (.valueRange n))
  | opt (p q : Prop) [Decidable p] [Decidable q] (j : Instr) (hpq : p → q) (hqp : q → ¬ Q → p) (hj : j.wf) (hv : V) :
      Row A n W Q V (if p then some j else none) (if q then .ok j else .error (.valueRange n))
  | zero (z : Int) (j : Instr) (hj : j.wf) (hv : z = 0 → V) :
      Row A n W Q V (if z = 0 then some j else none) (if z ≠ 0 then .error (.valueRange n) else .ok j)

variable {A n : Nat} {W Q V : Prop} {m : Option Instr} {f : Except Diag Instr}

theorem Row.sound (h : Row A n W Q V m f) (hw : W) (hq : ¬ Q) {i : Instr} (hf : f = .ok i) : m = some i := by
  cases h with
  | plain j => cases hf; rfl
  | refused => cases hf
  | rel t base R mk ha hs =>
    cases R with
    | error e => cases hf
    | ok o => cases hf; rw [if_pos (ha hw), hs o rfl]
  | pay v hi mk =>
    split at hf
    · rename_i w hn; cases hf; obtain ⟨_, _, rfl⟩ := narrow_iff.1 hn; rfl
    · cases hf
  | opt p q j hpq hqp =>
    split at hf
    · rename_i hq'; cases hf; rw [if_pos (hqp hq' hq)]
    · cases hf
  | zero z j =>
    split at hf
    · cases hf
    · rename_i hz; cases hf; rw [if_pos (Decidable.not_not.1 hz)]

theorem Row.wf (h : Row A n W Q V m f) (hw : W) {i : Instr} (hf : f = .ok i) : i.wf := by
  cases h with
  | plain j hj => cases hf; exact hj hw
  | refused => cases hf
  | rel t base R mk ha hs hc ht hj =>
    cases R with
    | error e => cases hf
    | ok o => cases hf; exact hj o rfl
  | pay v hi mk hc ht hj =>
    split at hf
    · rename_i w hn; cases hf; obtain ⟨h1, h2, rfl⟩ := narrow_iff.1 hn; exact hj ⟨h1, h2⟩
    · cases hf
  | opt p q j hpq hqp hj => split at hf <;> cases hf; exact hj
  | zero z j hj => split at hf <;> cases hf; exact hj

theorem Row.printable (h : Row A n W Q V m f) {i : Instr} (hm : m = some i) (hp : Show.Printable i A) : f = .ok i := by
  cases h with
  | plain j => cases hm; rfl
  | refused => cases hm
  | rel t base R mk ha hs hc =>
    split at hm
    · cases hm; rw [hc hp]
    · cases hm
  | pay v hi mk hc => cases hm; rw [if_pos (hc hp)]
  | opt p q j hpq =>
    split at hm
    · rename_i hp'; cases hm; rw [if_pos (hpq hp')]
    · cases hm
  | zero z j =>
    split at hm
    · rename_i hz; cases hm; rw [if_neg (fun h => h hz)]
    · cases hm

theorem Row.complete (h : Row A n W Q V m f) {i : Instr} (hm : m = some i) (hwf : i.wf) {hws : List Nat}
    (he : Codec.encode i = .ok hws) : V ∧ f = .ok i := by
  have hp : Show.targetInRange i A → Show.Printable i A := Show.printable_of_encode i A hws he hwf
  cases h with
  | plain j _ hv => cases hm; exact ⟨hv hws hwf he, rfl⟩
  | refused => cases hm
  | rel t base R mk ha hs hc ht _ hv =>
    split at hm
    · rename_i hat; cases hm; exact ⟨hv hat, by rw [hc (hp (ht hat))]⟩
    · cases hm
  | pay v hi mk hc ht _ hv => cases hm; exact ⟨hv (hc (hp ht)), by rw [if_pos (hc (hp ht))]⟩
  | opt p q j hpq hqp _ hv =>
    split at hm
    · rename_i hp'; cases hm; exact ⟨hv, by rw [if_pos (hpq hp')]⟩
    · cases hm
  | zero z j _ hv =>
    split at hm
    · rename_i hz; cases hm; exact ⟨hv hz, by rw [if_neg (fun h => h hz)]⟩
    · cases hm

theorem all_nil {p : Val → Prop} : ∀ v ∈ ([] : List Val), p v := fun _ h => nomatch h
theorem all_one {p : Val → Prop} {a : Val} (ha : p a) : ∀ v ∈ [a], p v := by simp [ha]
theorem all_two {p : Val → Prop} {a b : Val} (ha : p a) (hb : p b) : ∀ v ∈ [a, b], p v := by simp [ha, hb]
theorem all_three {p : Val → Prop} {a b c : Val} (ha : p a) (hb : p b) (hc : p c) : ∀ v ∈ [a, b, c], p v := by simp [ha, hb, hc]

/-- the `[Rn + x]` operand of an instruction the encoder accepts: an immediate offset is not negative -/
theorem mem_ok {j : Instr} {ad : Reg} {o : ImmReg} (hl : ∀ v, o = .imm v → Show.litOf j = some v) (ho : o.wf)
    {hws : List Nat} (hw : j.wf) (he : Codec.encode j = .ok hws) : okValC (.address ad (some o)) := by
  cases o with
  | reg r => trivial
  | imm v => exact ⟨(Show.encode_lit_bounds j hws he hw (hl v rfl)).1, ho.2⟩

/-- **the one walk over the templates**: each arm, with operand values of its kinds (`sig t` is `kinds t`: `kinds_sig`), is of
one of the six kinds of `Row` -/
theorem row (A n : Nat) (t : Instr) (vals : List Val) (hs : AllFit (sig t) vals) (hl : vals.length = (sig t).length) :
    Row A n (∀ v ∈ vals, Val.wf v) (svQuirk t vals) (∀ v ∈ vals, okValC v)
      (meaning A t vals) (finish A (stores t 0 vals) vals n) := by
  -- name the operand values by the shapes `hs` gives them
  cases t <;> simp only [sig] at hs hl
  all_goals (first
    | (have hv := List.eq_nil_of_length_eq_zero hl; subst hv)
    | (obtain ⟨v0, rfl, h0⟩ := allFit_one hs hl
       first
       | (obtain ⟨x0, rfl⟩ := fits_reg h0) | (obtain ⟨x0, rfl⟩ := fits_off h0) | (obtain ⟨x0, rfl⟩ := fits_ident h0)
       | (obtain ⟨x0, rfl⟩ := fits_regSet h0) | (obtain ⟨x0, rfl⟩ := fits_imm h0))
    | (obtain ⟨v0, v1, rfl, h0, h1⟩ := allFit_two hs hl
       (first | (obtain ⟨x0, rfl⟩ := fits_reg h0) | (obtain ⟨x0, rfl⟩ := fits_sys h0))
       (first
        | (obtain ⟨x1, rfl⟩ := fits_reg h1) | (obtain ⟨x1, rfl⟩ := fits_off h1) | (obtain ⟨x1, rfl⟩ := fits_immReg h1)
        | (obtain ⟨x1, rfl⟩ := fits_regSet h1) | (obtain ⟨x1, rfl⟩ := fits_sys h1)
        | (obtain ⟨x1, o1, rfl⟩ := fits_address h1)
        | (rcases fits_addrOffset h1 with ⟨x1, rfl⟩ | ⟨x1, o1, rfl⟩)))
    | (obtain ⟨v0, v1, v2, rfl, h0, h1, h2⟩ := allFit_three hs hl
       obtain ⟨x0, rfl⟩ := fits_reg h0
       obtain ⟨x1, rfl⟩ := fits_reg h1
       (first | (obtain ⟨x2, rfl⟩ := fits_immReg h2) | (obtain ⟨x2, rfl⟩ := fits_imm h2))))
  case nop | sev | wfe | wfi | yield => exact .plain _ (fun _ => trivial) fun _ _ _ => all_nil
  case blx | bx | pop | push => exact .plain _ (fun _ => trivial) fun _ _ _ => all_one trivial
  case add | sub | asr | lsl | lsr => exact .plain _ (fun h => h (.immReg x2) (by simp)) fun _ h _ => all_three trivial trivial h
  case cmp | mov => exact .plain _ (fun h => h (.immReg x1) (by simp)) fun _ h _ => all_two trivial h
  case adr =>
    exact .rel x1 (pcAligned A) (literal A x1) (.adr x0) (fun h => h (.off x1) (by simp))
      (fun o h => pcAligned_eq A ▸ ((literal_ok_iff _ _ _).1 h).1)
      (fun ⟨h0, h1, h4, _⟩ => by rw [pcAligned_eq] at h0 h1 h4 ⊢; exact (literal_ok_iff _ _ _).2 ⟨rfl, h0, h1, h4⟩)
      (fun ha => show (alPc A : Int) + (x1 - pcAligned A) < 4294967296 by rw [pcAligned_eq]; have := ha.2; omega)
      (fun o h => by have := (literal_ok_iff _ _ _).1 h; exact ⟨by omega, by omega⟩)
      fun h => all_two trivial h
  case ldr.inl =>
    exact .rel x1 (pcAligned A) (literal A x1) (fun o => .ldr x0 Reg.pc (.imm o)) (fun h => h (.off x1) (by simp))
      (fun o h => pcAligned_eq A ▸ ((literal_ok_iff _ _ _).1 h).1)
      (fun hp => by
        obtain ⟨h0, h1, h4, _⟩ : 0 ≤ x1 - pcAligned A ∧ x1 - pcAligned A ≤ 1020 ∧ (x1 - pcAligned A) % 4 = 0 ∧ _ := hp
        rw [pcAligned_eq] at h0 h1 h4 ⊢; exact (literal_ok_iff _ _ _).2 ⟨rfl, h0, h1, h4⟩)
      (fun ha _ => show (alPc A : Int) + (x1 - pcAligned A) < 4294967296 by rw [pcAligned_eq]; have := ha.2; omega)
      (fun o h => by have := (literal_ok_iff _ _ _).1 h; exact ⟨by omega, by omega⟩)
      fun h => all_two trivial h
  case b c _ =>
    exact .rel x0 (pc A) (if c.val = 14 then branch A x0 (-2048) 2046 else branch A x0 (-256) 254) (.b c)
      (fun h => h (.off x0) (by simp))
      (fun o h => by rw [pc_eq]; split at h <;> exact ((branch_ok_iff _ _ _ _ _).1 h).1)
      (fun ⟨h0, h1, h2, _⟩ => by
        rw [pc_eq] at h0 h1 h2 ⊢
        unfold bLo at h0; unfold bHi at h1
        split <;> rename_i hc <;> simp only [hc, if_true, if_false] at h0 h1 <;> exact (branch_ok_iff _ _ _ _ _).2 ⟨rfl, h0, h1, h2⟩)
      (fun ha => show 0 ≤ (pcOf A : Int) + (x0 - pc A) ∧ (pcOf A : Int) + (x0 - pc A) < 4294967296 by
        rw [pc_eq]; have := ha.1; have := ha.2; omega)
      (fun o h => by split at h <;> (have := (branch_ok_iff _ _ _ _ _).1 h; exact ⟨by omega, by omega⟩))
      fun h => all_one h
  case bl =>
    exact .rel x0 (pc A) (branch A x0 (-16777216) 16777215) .bl (fun h => h (.off x0) (by simp))
      (fun o h => pc_eq A ▸ ((branch_ok_iff _ _ _ _ _).1 h).1)
      (fun ⟨h0, h1, h2, _⟩ => by rw [pc_eq] at h0 h1 h2 ⊢; exact (branch_ok_iff _ _ _ _ _).2 ⟨rfl, h0, h1, h2⟩)
      (fun ha => show 0 ≤ (pcOf A : Int) + (x0 - pc A) ∧ (pcOf A : Int) + (x0 - pc A) < 4294967296 by
        rw [pc_eq]; have := ha.1; have := ha.2; omega)
      (fun o h => by have := (branch_ok_iff _ _ _ _ _).1 h; exact ⟨by omega, by omega⟩)
      fun h => all_one h
  case bkpt => exact .pay x0 255 .bkpt id trivial id fun h => all_one ⟨h.1, by omega⟩
  case svc => exact .pay x0 255 .svc id trivial id fun h => all_one ⟨by omega, by omega⟩
  case udf => exact .pay x0 255 .udf id trivial id fun h => all_one ⟨by omega, by omega⟩
  case udfw => exact .pay x0 65535 .udfw id trivial id fun h => all_one ⟨by omega, by omega⟩
  case cps e => exact .opt (upper x0 = bytesOf "I") (upper x0 = bytesOf "I") (.cps e) id (fun h _ => h) trivial (all_one trivial)
  case dmb =>
    exact .opt (isSY x0) _ .dmb .inl (fun h hq => h.elim id fun h' => absurd ⟨.inl rfl, x0, rfl, h'⟩ hq) trivial (all_one trivial)
  case dsb =>
    exact .opt (isSY x0) _ .dsb .inl (fun h hq => h.elim id fun h' => absurd ⟨.inr (.inl rfl), x0, rfl, h'⟩ hq) trivial (all_one trivial)
  case isb =>
    exact .opt (isSY x0) _ .isb .inl (fun h hq => h.elim id fun h' => absurd ⟨.inr (.inr rfl), x0, rfl, h'⟩ hq) trivial (all_one trivial)
  case rsb => exact .zero x2 (.rsb x0 x1) trivial fun h => all_three trivial trivial (by subst h; exact (by decide : inI32 0))
  case ldr.inr | ldrb | ldrh | str | strb | strh =>
    exact .plain _ (fun h => h (.address x1 (some o1)) (by simp)) fun _ hw he => all_two trivial (mem_ok (fun v e => by subst e; rfl) hw hw he)
  case ldrsb | ldrsh =>
    cases o1 with
    | reg r => exact .plain _ (fun _ => trivial) fun _ _ _ => all_two trivial trivial
    | imm v => exact .refused
  all_goals exact .plain _ (fun _ => trivial) fun _ _ _ => all_two trivial trivial

end Trion.C04
