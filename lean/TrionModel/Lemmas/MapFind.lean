import TrionModel.Lemmas.MapShape
/-!
# Memory map: what `locate` / `find` mean in the dictionary

`find_spec` reads the answer of every search mode in the dictionary (`Vacant`, `Near`); it is derived from the list
decomposition around the address (Lemmas/MapShape.lean).
-/
namespace Trion.Map
open Trion.Dict

/-- what `None` in mode `m` says about the dictionary: nothing at `a`, at or above `a`, at or below `a` -/
def Vacant (D : Dict) (a : Nat) : Search → Prop
  | .exact => D a = none
  | .above => ∀ k, a ≤ k → D k = none
  | .below => ∀ k, k ≤ a → D k = none

/-- the occupied range `[f, e)` does not contain `a`, but is the nearest one on the side on which mode `m` looks -/
def Near (D : Dict) (a f e : Nat) : Search → Prop
  | .exact => False
  | .above => a < f ∧ ∀ k, a ≤ k → k < f → D k = none
  | .below => e ≤ a ∧ ∀ k, e ≤ k → k ≤ a → D k = none

theorem abs_of_idx {l : Nat} {ps : Segs} (ok : Ok l ps) {j : Nat} {s : Seg} (h : ps[j]? = some s) :
    (∀ k, s.1 ≤ k → k < s.1 + s.2.length → abs ps k = s.2[k - s.1]?) ∧
    abs ps (s.1 + s.2.length) = none ∧ (∀ k, k + 1 = s.1 → abs ps k = none) ∧
    s.2 ≠ [] ∧ s.1 + s.2.length ≤ 4294967296 := by
  induction ps generalizing l j with
  | nil => simp at h
  | cons t r ih =>
    obtain ⟨f, x⟩ := t
    obtain ⟨o1, o2, o3, o4⟩ := ok
    cases j with
    | zero =>
      simp only [List.getElem?_cons_zero, Option.some.injEq] at h
      subst h
      refine ⟨fun k h1 h2 => ?_, ?_, fun k hk => ?_, o2, o3⟩
      · rw [abs_cons, if_pos ⟨h1, h2⟩]
      · rw [abs_cons, if_neg (by simp only; omega)]; exact abs_none_of_lt o4 (by simp only; omega)
      · rw [abs_cons, if_neg (by simp only at hk; omega)]; exact abs_none_of_lt o4 (by simp only at hk; omega)
    | succ j =>
      simp only [List.getElem?_cons_succ] at h
      have hlb := Ok_lb o4 h
      obtain ⟨i1, i2, i3, i4, i5⟩ := ih o4 h
      refine ⟨fun k h1 h2 => ?_, ?_, fun k hk => ?_, i4, i5⟩
      · rw [abs_cons, if_neg (by omega)]; exact i1 k h1 h2
      · rw [abs_cons, if_neg (by omega)]; exact i2
      · rw [abs_cons, if_neg (by omega)]; exact i3 k hk

theorem isRun_of_idx {l : Nat} {ps : Segs} (ok : Ok l ps) {j : Nat} {s : Seg} (h : ps[j]? = some s) :
    IsRun (abs ps) s.1 (segLast s) ∧ ∀ a, a < s.1 + s.2.length ↔ a ≤ segLast s := by
  obtain ⟨a1, a2, a3, a4, _⟩ := abs_of_idx ok h
  have hx : 0 < s.2.length := List.length_pos_iff.mpr a4
  unfold segLast
  refine ⟨⟨by omega, fun k k1 k2 => ?_, a3, ?_⟩, fun a => by omega⟩
  · rw [a1 k k1 (by omega), List.getElem?_eq_getElem (by omega)]; rfl
  · rw [show s.1 + s.2.length - 1 + 1 = s.1 + s.2.length by omega]; exact a2

theorem find_of_none {ps : Segs} {a : Nat} {m : Search} (hl : locate ps a m = .none) : find ps a m = .ok none := by
  unfold find; rw [hl]

theorem find_of_idx {ps : Segs} {a : Nat} {m : Search} {j : Nat} {s : Seg} (hl : locate ps a m = .idx j)
    (hj : ps[j]? = some s) : find ps a m = .ok (some (s.1, segLast s)) := by
  unfold find; rw [hl]; simp only [hj]

/-- What `locate` and `find` answer in mode `m`, read in the dictionary. The list is split around `a`
(`shape_exists ok a a`): a segment holding `a` is the answer in every mode; otherwise `a` lies in the gap between
`A` and `R` (`abs_none_of_gap`), and the answer is nothing, the head of `R` (`Above`) or the last of `A` (`Below`). -/
theorem find_spec {l : Nat} {ps : Segs} (ok : Ok l ps) (a : Nat) (m : Search) :
    (locate ps a m = .none ∧ find ps a m = .ok none ∧ Vacant (abs ps) a m) ∨
    (∃ (j : Nat) (s : Seg), ps[j]? = some s ∧ locate ps a m = .idx j ∧
      find ps a m = .ok (some (s.1, segLast s)) ∧
      ((s.1 ≤ a ∧ a < s.1 + s.2.length) ∨ Near (abs ps) a s.1 (s.1 + s.2.length) m)) := by
  obtain ⟨A, B, R, e, hA, hB, hR⟩ := shape_exists ok a a
  subst e
  have hAe : ∀ s ∈ A, s.1 + s.2.length ≤ a := fun s hs => (hA s hs).2
  have hloc : locate (A ++ (B ++ R)) a m = locLin a m (B ++ R) A.length := by
    rw [locate_eq_locLin ok, locLin_append a m A _ 0 (fun s hs => by have := hA s hs; unfold segLast; omega),
      Nat.zero_add]
  cases B with
  | cons u B' =>
    -- `u` holds `a`: every mode answers it
    obtain ⟨_, h1, h2⟩ := hB u (List.mem_cons_self ..)
    have hl : locate (A ++ (u :: B' ++ R)) a m = .idx A.length := by
      rw [hloc, List.cons_append, locLin_cons, if_neg (by omega), if_neg (by unfold segLast; omega)]
    exact .inr ⟨_, u, by simp, hl, find_of_idx hl (by simp), .inl ⟨h2, h1⟩⟩
  | nil =>
    -- `a` lies in the gap between `A` and `R`, and so does every address from the end of `A` to the start of `R`
    rw [List.nil_append] at ok hloc ⊢
    have hRa : ∀ s ∈ R.head?, a < s.1 := fun s hs => (hR s (List.mem_of_mem_head? hs)).2.2
    cases m with
    | exact =>
      have hl : locate (A ++ R) a .exact = .none := by
        rw [hloc]
        cases R with
        | nil => rfl
        | cons r R' => rw [locLin_cons, if_pos (hRa r rfl)]
      exact .inl ⟨hl, find_of_none hl, abs_none_of_gap ok hAe hRa⟩
    | above =>
      cases R with
      | nil =>
        exact .inl ⟨hloc, find_of_none hloc, fun k hk =>
          abs_none_of_gap ok (fun s hs => Nat.le_trans (hAe s hs) hk) (fun _ h => by cases h)⟩
      | cons r R' =>
        have hr := hRa r rfl
        have hl : locate (A ++ r :: R') a .above = .idx A.length := by rw [hloc, locLin_cons, if_pos hr]
        exact .inr ⟨_, r, by simp, hl, find_of_idx hl (by simp), .inr ⟨hr, fun k k1 k2 =>
          abs_none_of_gap ok (fun s hs => Nat.le_trans (hAe s hs) k1) (fun s hs => by cases hs; exact k2)⟩⟩
    | below =>
      have hl : locate (A ++ R) a .below = if A.length > 0 then .idx (A.length - 1) else .none := by
        rw [hloc]
        cases R with
        | nil => rfl
        | cons r R' => rw [locLin_cons, if_pos (hRa r rfl)]
      have hRk : ∀ k, k ≤ a → ∀ s ∈ R.head?, k < s.1 := fun k hk s hs => Nat.lt_of_le_of_lt hk (hRa s hs)
      rcases List.eq_nil_or_concat A with rfl | ⟨A', u, rfl⟩
      · exact .inl ⟨hl, find_of_none hl, fun k hk => abs_none_of_gap ok (fun _ h => by cases h) (hRk k hk)⟩
      · rw [List.concat_eq_append] at ok hl hAe ⊢
        rw [if_pos (by simp), List.length_append, List.length_singleton, Nat.add_sub_cancel] at hl
        refine .inr ⟨_, u, by simp, hl, find_of_idx hl (by simp), .inr ⟨hAe u (by simp), fun k k1 k2 =>
          abs_none_of_gap ok (fun s hs => ?_) (hRk k k2)⟩⟩
        rcases List.mem_append.mp hs with h | h
        · have := Ok_append_lt (by simpa using ok) h; omega
        · rw [List.mem_singleton.mp h]; exact k1

theorem find_exact_spec {l : Nat} {ps : Segs} (ok : Ok l ps) (a : Nat) :
    (locate ps a .exact = .none ∧ find ps a .exact = .ok none ∧ abs ps a = none) ∨
    (∃ (j : Nat) (s : Seg), ps[j]? = some s ∧ locate ps a .exact = .idx j ∧
      find ps a .exact = .ok (some (s.1, segLast s)) ∧ s.1 ≤ a ∧ a < s.1 + s.2.length) := by
  rcases find_spec ok a .exact with h | ⟨j, s, h1, h2, h3, h4 | h4⟩
  · exact .inl h
  · exact .inr ⟨j, s, h1, h2, h3, h4⟩
  · exact h4.elim

theorem find_exact_isSome {l : Nat} {ps : Segs} (ok : Ok l ps) (a : Nat) :
    (find ps a .exact = .ok none ∧ abs ps a = none) ∨
    (∃ r, find ps a .exact = .ok (some r) ∧ (abs ps a).isSome = true) := by
  rcases find_exact_spec ok a with ⟨_, h1, h2⟩ | ⟨j, s, h1, _, h3, h4, h5⟩
  · exact .inl ⟨h1, h2⟩
  · refine .inr ⟨_, h3, ?_⟩
    rw [(abs_of_idx ok h1).1 a h4 h5, List.getElem?_eq_getElem (by omega)]; rfl

theorem find_agrees {ps : Segs} (inv : MInv ps) (a : Nat) (m : Search) :
    (find ps a m = .ok none ∧ Vacant (abs ps) a m) ∨
    (∃ f l, find ps a m = .ok (some (f, l)) ∧ IsRun (abs ps) f l ∧
      ((f ≤ a ∧ a ≤ l) ∨ Near (abs ps) a f (l + 1) m)) := by
  rcases find_spec inv a m with ⟨_, h⟩ | ⟨j, s, h1, _, h3, h4⟩
  · exact .inl h
  · have hx : 0 < s.2.length := List.length_pos_iff.mpr (abs_of_idx inv h1).2.2.2.1
    have he : segLast s + 1 = s.1 + s.2.length := by unfold segLast; omega
    rw [← he] at h4
    exact .inr ⟨s.1, segLast s, h3, (isRun_of_idx inv h1).1, h4.imp_left fun h => ⟨h.1, by omega⟩⟩

/-- segments [10,12], [20,20], [30,31]: address 25 lies in a gap (nearest run below is [20,20]), address 11 lies
inside the first segment, address 5 lies below everything -/
example :
    find [(10, [1, 2, 3]), (20, [4]), (30, [5, 6])] 25 .below = .ok (some (20, 20)) ∧
    find [(10, [1, 2, 3]), (20, [4]), (30, [5, 6])] 11 .below = .ok (some (10, 12)) ∧
    find [(10, [1, 2, 3]), (20, [4]), (30, [5, 6])] 5 .below = .ok none ∧
    find [(10, [1, 2, 3]), (20, [4]), (30, [5, 6])] 40 .below = .ok (some (30, 31)) ∧
    MInv [(10, [1, 2, 3]), (20, [4]), (30, [5, 6])] := by
  refine ⟨by decide, by decide, by decide, by decide, ?_⟩
  simp [MInv, Ok]

end Trion.Map

namespace Trion.Show

theorem find_nil (a : Nat) : Map.find [] a .exact = .ok none := by simp [Map.find, Map.locate]

end Trion.Show
