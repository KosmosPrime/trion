import TrionModel.Lemmas.AsmPrim
import TrionModel.Lemmas.SimpE
import TrionModel.Lemmas.AsmEnc
import TrionModel.Lemmas.ShowEval
/-!
# Executing the whole-pipeline model `Asm` on simple statements (for C19 / C20 on text)

Forward equations `…_run`: in a state inside a file, `.addr <const>`, `.const <name>, <const>`, a label and an
instruction statement whose `Front.build` completes return exactly this state. (The deferred path is
`Lemmas/AsmDefer.lean`; what follows from a statement HAVING returned is `Lemmas/AsmEq.lean`, lemmas `…_ok`.)
Also `frontEval` on the operands `Show.parts` prints (`frontEval_complete`, `Show.evalOK_frontEval`,
`Show.frontEval_notfound`).
-/
namespace Trion.Asm
open Trion

theorem evalIn_const (t : Table) (v : Int) : evalIn t (.const v) = .ok (.complete (.const v)) := by
  simp [evalIn, Simp.evaluateE]

/-- on a completed evaluation the assembler's evaluator (`Simp.evaluateE`, which also keeps the tree an error leaves
behind) is `Simp.evaluateT` -/
theorem frontEval_complete (t : Table) (x : Arg) (ch : Bool) (a' : Arg)
    (h : Simp.evaluateT (fun n => t.get n) Front.isRegister x = .ok ⟨ch, none⟩ a') :
    frontEval t x = .complete a' := by
  have hE := Simp.evaluateE_is_evaluateT (fun n => t.get n) Front.isRegister x
  rw [h] at hE
  cases hev : Simp.evaluateE (fun n => t.get n) Front.isRegister x with
  | ok ev a'' =>
    rw [hev] at hE
    simp only [Simp.EvE.toT, Simp.EvT.ok.injEq] at hE
    obtain ⟨h1, h2⟩ := hE
    subst h1 h2
    simp [frontEval, evalIn, hev]
  | nosuch n a'' => rw [hev] at hE; simp [Simp.EvE.toT] at hE
  | err e a'' => rw [hev] at hE; simp [Simp.EvE.toT] at hE
  | panic => rw [hev] at hE; simp [Simp.EvE.toT] at hE

theorem evalArg_const (env : Env) (st : St) (tbl : Table) (henv : env.paths ≠ []) (hl : st.locals = some tbl) (v : Int) :
    evalArg env st (.const v) = .ok (.complete (.const v)) := by
  rw [evalArg_eq (paths_nonempty henv) hl, evalIn_const]

theorem map_val_cons {els : List Element} {v : ElemVal} {vs : List ElemVal} (h : els.map (·.val) = v :: vs) :
    ∃ l c r, els = ⟨l, c, v⟩ :: r ∧ r.map (·.val) = vs := by
  obtain ⟨⟨l, c, v'⟩, r, rfl, hv, hr⟩ := List.map_eq_cons_iff.mp h
  cases hv
  exact ⟨l, c, r, rfl, hr⟩

theorem statement_directive (fs : Bytes → Option Bytes) (enc : Encoder) (inc : Inc) (env : Env) (st : St) (l c : Nat)
    (name : Bytes) (args : List Arg) :
    statement fs enc inc env st ⟨l, c, .directive name (Args.ofList args)⟩ = directive fs inc env st l c name args := by
  simp only [statement, Show.toList_ofList]

theorem addr_run (fs : Bytes → Option Bytes) (inc : Inc) (env : Env) (st : St) (tbl : Table) (henv : env.paths ≠ [])
    (hl : st.locals = some tbl) (hseg : st.seg = Seg.init) (l c : Nat) (v : Int) (h0 : 0 ≤ v) (h1 : v ≤ 4294967295) :
    directive fs inc env st l c (bytesOf "addr") [.const v] =
      .ok ({ st with seg := ⟨[], some ⟨v.toNat, [], Map.u32Max - v.toNat + 1⟩, []⟩ }, .ok) := by
  rw [directive_addr, addrDirective_one, evalStrict_complete (evalArg_const env st tbl henv hl v)]
  simp only [h0, h1, and_self, if_true, segResult, hseg]
  rfl

theorem const_run (fs : Bytes → Option Bytes) (inc : Inc) (env : Env) (st : St) (tbl : Table) (henv : env.paths ≠ [])
    (hl : st.locals = some tbl) (l c : Nat) (name : Bytes) (v : Int) (hr : Front.isRegister name = false)
    (hf : tbl.find name = none) :
    directive fs inc env st l c (bytesOf "const") [.ident name, .const v] =
      .ok ({ st with locals := some (tbl.set name (some v)) }, .ok) := by
  rw [directive_const, constDirective_ident, evalStrict_complete (evalArg_const env st tbl henv hl v)]
  simp only [insertConstant_loc hr hl, hf]

theorem label_run (fs : Bytes → Option Bytes) (enc : Encoder) (inc : Inc) (env : Env) (st : St) (tbl : Table)
    (hl : st.locals = some tbl) (l c : Nat) (name : Bytes) (seg : Seg.Active) (ha : st.seg.active = some seg)
    (hr : Front.isRegister name = false) (hf : tbl.find name = none) :
    statement fs enc inc env st ⟨l, c, .label name⟩ =
      .ok ({ st with locals := some (tbl.set name (some (seg.cur : Int))) }, .ok) := by
  simp [statement, currAddr, ha, insertConstant, hr, hl, hf]

theorem encoder_run (i : Instr) (hws : List Nat) (he : Codec.encode i = .ok hws) (hlen : hws.length ≤ 2) :
    encoder i = .ok ((Codec.toBytes hws).map (·.toUInt8)) := by
  have : ¬ (4 < 2 * hws.length) := by omega
  simp [encoder, Codec.encodeInto, he, this]

theorem instr_run (fs : Bytes → Option Bytes) (enc : Encoder) (inc : Inc) (env : Env) (st : St) (tbl : Table)
    (henv : env.paths ≠ []) (hl : st.locals = some tbl) (l c : Nat) (name : Bytes) (args : Args)
    (map : Map.Segs) (seg : Seg.Active) (pending : List (Nat × Nat)) (hs : st.seg = ⟨map, some seg, pending⟩)
    (i : Instr) (hb : Front.build seg.cur name args.toList (frontEval tbl) true = .completed i)
    (bytes : Bytes) (he : enc i = .ok bytes) (hfit : seg.buf.length + bytes.length ≤ seg.maxLen) :
    statement fs enc inc env st ⟨l, c, .instruction name args⟩ =
      .ok ({ st with seg := ⟨map, some { seg with buf := seg.buf ++ bytes }, (seg.cur, bytes.length) :: pending⟩ }, .ok) := by
  have hpaths := paths_nonempty henv
  cases hm : Front.mnemonic name with
  | none => simp only [Front.build, hm] at hb; cases hb
  | some t =>
    obtain ⟨fst, ha, hi⟩ := (Front.build_completed_assemble hm).1 hb
    have hrem : seg.remaining = some (seg.maxLen - seg.buf.length) := by
      simp [Seg.Active.remaining]; omega
    have hle : bytes.length ≤ seg.maxLen - seg.buf.length := by omega
    simp only [statement, hs, Option.isNone_some, Bool.false_eq_true, if_false, instruction, currAddr, Option.map_some,
      hm, ArmInstr.assemble, evalTable, hpaths, hl, evalPanics_false, ha, ArmInstr.writeInstr, hi, he, writeStmt,
      Bool.not_false, Option.isSome_some, Bool.and_self, if_true, segStep, Seg.step, Seg.Active.write, hrem, hle]

end Trion.Asm

namespace Trion.Show
open Trion.Front Trion.Codec

theorem evalOK_frontEval (tbl : Asm.Table) (i : Instr) (a : Nat) (hws : List Nat) (he : Codec.encode i = .ok hws)
    (wf : i.wf) (hlk : ∀ t, targetOf i a = some t → tbl.get (label t) = .found (t : Int)) :
    EvalOK (Asm.frontEval tbl) i a :=
  evalOK_simp _ (fun n => tbl.get n) (fun x ch a' h => Asm.frontEval_complete tbl x ch a' h) i a hlk
    (memNonneg_of_encode i hws he wf)

theorem frontEval_notfound (tbl : Asm.Table) (t : Nat) (h : tbl.find (label t) = none) :
    Asm.frontEval tbl (.ident (label t)) = .noSuchVariable (label t) (.ident (label t)) := by
  simp [Asm.frontEval, Asm.evalIn, Simp.evaluateE, isRegister_label, Asm.Table.get, h]

end Trion.Show
