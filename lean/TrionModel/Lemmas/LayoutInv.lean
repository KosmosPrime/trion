import TrionModel.Lemmas.LayoutImg
/-!
# Layout: the state invariant of the layout machine and the effect of every operation

(`Model/Seg.lean` with `Lemmas/Seg.lean` is a second model of the same Rust functions — `change_segment`, `close_segment`,
`write`, `write_at` — over the real `MemoryMap` instead of a byte dictionary, with the parallel vocabulary `Seg.ActiveOk`,
`Placed` for `TaskOk`, `image` for `view`; `Lemmas/AsmLayout.lean` relates the two.)

`Core st`   : every closed byte lies below 2^32 (what `image_in_address_space` of Props/C05.lean rests on), and the
              active region satisfies `buf.length ≤ maxLen`, `base + maxLen ≤ 2^32`, and no closed byte
              lies in `[base, base + maxLen)`.
`TaskOk st t` : the pending task's final bytes have the placed length, and its range `[addr, addr+len)` lies
              entirely in the closed image or entirely in the active buffer.
`view st`   : the address → byte dictionary of everything emitted so far (closed image overlaid with the
              active buffer).
-/
namespace Trion.Layout

def ActiveOk (closed : Img) (s : Active) : Prop :=
  s.buf.length ≤ s.maxLen ∧ s.base + s.maxLen ≤ top ∧
  ∀ k, s.base ≤ k → k < s.base + s.maxLen → closed.has k = false

def Core (st : State) : Prop :=
  (∀ k, st.closed.has k = true → k < top) ∧ ∀ s, st.active = some s → ActiveOk st.closed s

def TaskOk (st : State) (t : Task) : Prop :=
  t.final.length = t.len ∧
  ((∀ i, i < t.len → st.closed.has (t.addr + i) = true) ∨
   ∃ s, st.active = some s ∧ s.base ≤ t.addr ∧ t.addr + t.len ≤ s.base + s.buf.length)

/-- The invariant of the statement loop: `inv_init` establishes it, `steps_spec` carries it through every well-formed
statement, and `run_spec` hands it to `runTasks_spec` for the tasks still pending after the last statement. -/
def Inv (st : State) : Prop := Core st ∧ ∀ t ∈ st.tasks, TaskOk st t

def view (st : State) (a : Nat) : Option UInt8 :=
  match st.active with
  | some s => if s.base ≤ a ∧ a < s.base + s.buf.length then s.buf[a - s.base]? else st.closed.get a
  | none => st.closed.get a

/-- the reference cursor of the machine: the address of the next byte (NOT saturated) -/
def pos (st : State) : Option Nat := st.active.map fun s => s.base + s.buf.length

theorem inv_init : Inv {} :=
  ⟨⟨fun _ h => (by cases h), fun _ h => (by cases h)⟩, fun _ h => (by cases h)⟩

/-- `x` succeeds with `post`, or fails with a diagnostic: it does not panic.  One specification per function of the
machine, read as an inversion (`Sat.ok`) and as freedom from panics (`Sat.no_panic`).  The same idea for the other two
machines: `Scope.Sat x guard post` (every error of `Except Panic` is a panic, so the guard says when there is none) and
`Asm.Out.Post Q S` (`Lemmas/AsmOut.lean`: a predicate `S` on what stops the run). -/
def Sat {α : Type} (x : Except Fail α) (post : α → Prop) : Prop :=
  match x with
  | .ok a => post a
  | .error e => e ≠ .panic

theorem Sat.ok {α : Type} {x : Except Fail α} {post : α → Prop} {a : α} (h : Sat x post) (e : x = .ok a) :
    post a := by
  subst e; exact h

theorem Sat.imp {α : Type} {x : Except Fail α} {p q : α → Prop} (h : Sat x p) (f : ∀ a, p a → q a) : Sat x q := by
  cases x with
  | ok a => exact f a h
  | error e => exact h

theorem Sat.no_panic {α : Type} {x : Except Fail α} {post : α → Prop} (h : Sat x post) : x ≠ .error .panic := by
  intro e; subst e; exact h rfl

theorem view_closed_of_none (st : State) (h : st.active = none) (a : Nat) : view st a = st.closed.get a := by
  simp only [view, h]

theorem TaskOk.mono {st st' : State} {t : Task} (h : TaskOk st t)
    (hc : ∀ k, st.closed.has k = true → st'.closed.has k = true)
    (ha : ∀ s, st.active = some s →
      (∃ s', st'.active = some s' ∧ s'.base = s.base ∧ s.buf.length ≤ s'.buf.length) ∨
      (∀ k, s.base ≤ k → k < s.base + s.buf.length → st'.closed.has k = true)) : TaskOk st' t := by
  obtain ⟨h1, h2⟩ := h
  refine ⟨h1, ?_⟩
  rcases h2 with h2 | ⟨s, hs, h3, h4⟩
  · exact Or.inl fun i hi => hc _ (h2 i hi)
  · rcases ha s hs with ⟨s', hs', hb, hl⟩ | h5
    · exact Or.inr ⟨s', hs', by omega, by omega⟩
    · exact Or.inl fun i hi => h5 _ (by omega) (by omega)

theorem closeSeg_spec (st : State) (hc : Core st) :
    ∃ st', closeSeg st = .ok st' ∧ Core st' ∧ st'.active = none ∧ st'.env = st.env ∧ st'.tasks = st.tasks ∧
      (∀ a, st'.closed.get a = view st a) ∧ (∀ t, TaskOk st t → TaskOk st' t) := by
  unfold closeSeg
  cases hact : st.active with
  | none =>
    exact ⟨st, rfl, hc, hact, rfl, rfl, fun a => by simp only [view, hact], fun t h => h⟩
  | some s =>
    obtain ⟨h1, h2, h3⟩ := hc.2 s hact
    have hf : st.closed.freeRange s.base s.buf.length = true := by
      rw [freeRange_iff]; intro k hk1 hk2; exact h3 k hk1 (by omega)
    simp only [hf, if_true]
    refine ⟨_, rfl, ⟨fun k hk => ?_, fun s' hs' => by cases hs'⟩, rfl, rfl, rfl, fun a => ?_, fun t ht => ?_⟩
    · simp only [has_put, Bool.or_eq_true, decide_eq_true_eq] at hk
      rcases hk with hk | hk
      · omega
      · exact hc.1 k hk
    · simp only [view, hact, get_put]
    · refine ht.mono (fun k hk => has_put_mono _ _ _ _ hk) (fun s' hs' => Or.inr fun k hk1 hk2 => ?_)
      rw [hact] at hs'; cases hs'
      simp only [has_put]
      simp [hk1, hk2]

theorem openAt_spec (st : State) (a : Nat) (ha : a < top) (hb : ∀ k, st.closed.has k = true → k < top) :
    Sat (changeSeg.openAt st a) fun st' =>
      ∃ s, st' = { st with active := some s } ∧ s.base = a ∧ s.buf = [] ∧ ActiveOk st.closed s := by
  unfold changeSeg.openAt
  split
  · rename_i n hn
    obtain ⟨h1, h2, h3⟩ := nextAbove_some _ _ _ hn
    split
    · exact fun e => by cases e
    · refine ⟨_, rfl, rfl, rfl, by simp, ?_, fun k hk1 hk2 => h3 k hk1 (by simp only at hk2; omega)⟩
      have := hb n h2
      simp only; omega
  · rename_i hn
    exact ⟨_, rfl, rfl, rfl, by simp, by simp only; omega, fun k hk1 _ => nextAbove_none _ _ hn k hk1⟩

theorem changeSeg_spec (st : State) (a : Nat) (hc : Core st) :
    Sat (changeSeg st a) fun st' =>
      Core st' ∧ st'.env = st.env ∧ st'.tasks = st.tasks ∧ (∀ x, view st' x = view st x) ∧
      (∀ t, TaskOk st t → TaskOk st' t) ∧ pos st' = some a := by
  unfold changeSeg
  split
  · exact fun e => by cases e
  · rename_i hat
    have key : ∀ st1 : State, Core st1 → st1.active = none → Sat (changeSeg.openAt st1 a) fun st' =>
        Core st' ∧ st'.env = st1.env ∧ st'.tasks = st1.tasks ∧ (∀ x, view st' x = st1.closed.get x) ∧
        (∀ t, TaskOk st1 t → TaskOk st' t) ∧ pos st' = some a := by
      intro st1 hc1 hn
      refine (openAt_spec st1 a (by omega) hc1.1).imp ?_
      rintro st' ⟨s, rfl, hb, hbuf, hok⟩
      refine ⟨⟨hc1.1, fun s' hs' => by cases hs'; exact hok⟩, rfl, rfl, fun x => ?_, fun t ht => ?_, ?_⟩
      · simp only [view, hbuf, List.length_nil]
        have : ¬ (s.base ≤ x ∧ x < s.base + 0) := by omega
        rw [if_neg this]
      · exact ht.mono (fun k hk => hk) (fun s' hs' => by rw [hn] at hs'; cases hs')
      · simp only [pos, Option.map_some, hbuf, List.length_nil, hb, Nat.add_zero]
    cases hact : st.active with
    | none =>
      exact (key st hc hact).imp fun st' ⟨k1, k2, k3, k4, k5, k6⟩ =>
        ⟨k1, k2, k3, fun x => by rw [k4, view_closed_of_none st hact], k5, k6⟩
    | some s =>
      dsimp only
      split
      · rename_i hsame
        refine ⟨hc, rfl, rfl, fun x => rfl, fun t ht => ht, ?_⟩
        simp only [pos, hact, Option.map_some, hsame.2, List.length_nil, hsame.1, Nat.add_zero]
      · obtain ⟨st1, h1, hc1, hn1, he1, ht1, hv1, hk1⟩ := closeSeg_spec st hc
        rw [h1]
        exact (key st1 hc1 hn1).imp fun st' ⟨k1, k2, k3, k4, k5, k6⟩ =>
          ⟨k1, k2.trans he1, k3.trans ht1, fun x => by rw [k4, hv1], fun t ht => k5 t (hk1 t ht), k6⟩

theorem append_spec (st : State) (bs : Bytes) (hc : Core st) :
    Sat (append st bs) fun st' => ∃ s, st.active = some s ∧ s.buf.length + bs.length ≤ s.maxLen ∧
      st' = { st with active := some { s with buf := s.buf ++ bs } } := by
  unfold append
  split
  · exact fun e => by cases e
  · rename_i s hact
    have := (hc.2 s hact).1
    rw [if_neg (by omega)]
    split
    · rename_i h2
      unfold Active.remaining at h2
      exact ⟨s, hact, by omega, rfl⟩
    · exact fun e => by cases e

/-- the other half of the specification of `append`, stated on the appended state itself so that it applies however that
state was obtained -/
theorem append_effects (st : State) (s : Active) (bs : Bytes) (hc : Core st) (hact : st.active = some s)
    (hfit : s.buf.length + bs.length ≤ s.maxLen) :
    let st' : State := { st with active := some { s with buf := s.buf ++ bs } }
    Core st' ∧ (∀ t, TaskOk st t → TaskOk st' t) ∧
    (∀ x, view st' x = if s.base + s.buf.length ≤ x ∧ x < s.base + s.buf.length + bs.length
        then bs[x - (s.base + s.buf.length)]? else view st x) := by
  obtain ⟨h1, h2, h3⟩ := hc.2 s hact
  refine ⟨⟨hc.1, fun s' hs' => ?_⟩, fun t ht => ?_, fun x => ?_⟩
  · cases hs'
    exact ⟨by simp only [List.length_append]; omega, h2, h3⟩
  · exact ht.mono (fun k hk => hk) (fun s' hs' => Or.inl ⟨_, rfl, by
      rw [hact] at hs'; cases hs'; exact ⟨rfl, by simp only [List.length_append]; omega⟩⟩)
  · simp only [view, hact, List.length_append]
    by_cases c1 : x < s.base + s.buf.length
    · by_cases c0 : s.base ≤ x
      · rw [if_pos ⟨c0, by omega⟩, if_neg (by omega), if_pos ⟨c0, c1⟩,
          List.getElem?_append_left (by omega)]
      · rw [if_neg (by omega), if_neg (by omega), if_neg (by omega)]
    · by_cases c2 : x < s.base + s.buf.length + bs.length
      · rw [if_pos ⟨by omega, by omega⟩, if_pos ⟨by omega, c2⟩, List.getElem?_append_right (by omega)]
        congr 1; omega
      · rw [if_neg (by omega), if_neg (by omega), if_neg (by omega)]

/-- `.align`: the capacity test on the number `n - off` is the test `append` makes on the padding -/
theorem step_align (st : State) (n : Nat) :
    step st (.align n) =
      match st.active with
      | none => .error .inactive
      | some s =>
        if n = 0 ∨ top ≤ n then .error .range else
        if (s.base + s.buf.length) % n = 0 then .ok st else append st (placeholder (n - (s.base + s.buf.length) % n)) := by
  unfold step
  cases hact : st.active with
  | none => rfl
  | some s =>
    simp only
    split
    · rfl
    · split
      · rfl
      · have hl : (placeholder (n - (s.base + s.buf.length) % n)).length = n - (s.base + s.buf.length) % n := by
          simp [placeholder]
        unfold append
        rw [hact]
        simp only [hl]
        split
        · rfl
        · split <;> rfl

theorem rewrite_spec (st : State) (t : Task) (hc : Core st) (ht : TaskOk st t) :
    ∃ st', rewrite st t.addr t.final = .ok st' ∧ Core st' ∧ st'.env = st.env ∧ st'.tasks = st.tasks ∧
      pos st' = pos st ∧ (∀ t', TaskOk st t' → TaskOk st' t') ∧
      (∀ x, view st' x = if t.addr ≤ x ∧ x < t.addr + t.len then t.final[x - t.addr]? else view st x) := by
  obtain ⟨addr, len, deps, final⟩ := t
  obtain ⟨hlen, hrange⟩ := ht
  simp only at hlen hrange ⊢
  subst hlen
  unfold rewrite
  by_cases hhas : st.closed.has addr = true
  · -- the statement lives in the closed image
    have hall : ∀ i, i < final.length → st.closed.has (addr + i) = true := by
      rcases hrange with h | ⟨s, hs, h1, h2⟩
      · exact h
      · intro i hi
        obtain ⟨g1, g2, g3⟩ := hc.2 s hs
        have := g3 addr h1 (by omega)
        rw [this] at hhas; cases hhas
    have hr : st.closed.hasRange addr final.length = true := by
      rw [hasRange_iff]; intro k hk1 hk2
      have := hall (k - addr) (by omega)
      rwa [show addr + (k - addr) = k by omega] at this
    rw [if_pos hhas, if_pos hr]
    have hsame : ∀ k, (st.closed.put addr final).has k = st.closed.has k := by
      intro k
      rw [has_put]
      by_cases hk : addr ≤ k ∧ k < addr + final.length
      · have := hall (k - addr) (by omega)
        rw [show addr + (k - addr) = k by omega] at this
        rw [this, Bool.or_true]
      · simp [hk]
    refine ⟨_, rfl, ⟨fun k hk => hc.1 k (by rwa [hsame] at hk), fun s hs => ?_⟩, rfl, rfl, rfl,
      fun t' ht' => ?_, fun x => ?_⟩
    · obtain ⟨g1, g2, g3⟩ := hc.2 s hs
      exact ⟨g1, g2, fun k hk1 hk2 => by simp only; rw [hsame]; exact g3 k hk1 hk2⟩
    · exact ht'.mono (fun k hk => by simp only; rwa [hsame]) (fun s hs => Or.inl ⟨s, hs, rfl, Nat.le_refl _⟩)
    · simp only [view]
      cases hact : st.active with
      | none => simp only [get_put]
      | some s =>
        simp only [get_put]
        obtain ⟨g1, g2, g3⟩ := hc.2 s hact
        by_cases hx : s.base ≤ x ∧ x < s.base + s.buf.length
        · simp only [if_pos hx]
          have hfree := g3 x hx.1 (by omega)
          have hn : ¬ (addr ≤ x ∧ x < addr + final.length) := by
            intro hh
            have := hall (x - addr) (by omega)
            rw [show addr + (x - addr) = x by omega, hfree] at this
            cases this
          rw [if_neg hn]
        · simp only [if_neg hx]
  · -- not in the closed image: the active buffer, or a zero-length statement
    rw [if_neg hhas]
    have hzero : ∀ (st' : State), st' = st → final.length = 0 →
        Core st' ∧ st'.env = st.env ∧ st'.tasks = st.tasks ∧
        pos st' = pos st ∧ (∀ t', TaskOk st t' → TaskOk st' t') ∧
        (∀ x, view st' x = if addr ≤ x ∧ x < addr + final.length then final[x - addr]? else view st x) := by
      intro st' he hz
      subst he
      refine ⟨hc, rfl, rfl, rfl, fun _ h => h, fun x => ?_⟩
      rw [if_neg (by omega)]
    have hcl0 : (∀ i, i < final.length → st.closed.has (addr + i) = true) → final.length = 0 := by
      intro h
      by_cases h0 : final.length = 0
      · exact h0
      · have := h 0 (by omega)
        rw [Nat.add_zero] at this
        exact absurd this hhas
    cases hact : st.active with
    | none =>
      have hz : final.length = 0 := by
        rcases hrange with h | ⟨s, hs, _⟩
        · exact hcl0 h
        · rw [hact] at hs; cases hs
      simp only
      rw [if_pos hz]
      exact ⟨st, rfl, hzero st rfl hz⟩
    | some s =>
      obtain ⟨g1, g2, g3⟩ := hc.2 s hact
      simp only
      have hcurr : s.curr = min (s.base + s.buf.length) (top - 1) := rfl
      by_cases hin : s.base ≤ addr ∧ addr ≤ s.curr
      · rw [if_pos hin]
        have hstart : addr - s.base ≤ s.buf.length := by omega
        rw [if_neg (by omega)]
        have hfit : addr - s.base + final.length ≤ s.buf.length := by
          rcases hrange with h | ⟨s', hs', h1, h2⟩
          · have := hcl0 h; omega
          · rw [hact] at hs'; cases hs'; omega
        rw [if_neg (by omega)]
        refine ⟨_, rfl, ⟨hc.1, fun s' hs' => ?_⟩, rfl, rfl, ?_, fun t' ht' => ?_, fun x => ?_⟩
        · cases hs'
          exact ⟨by simp only [length_overwrite _ _ _ hfit]; exact g1, g2, g3⟩
        · simp only [pos, hact, Option.map_some, length_overwrite _ _ _ hfit]
        · exact ht'.mono (fun k hk => hk) (fun s' hs' => Or.inl ⟨_, rfl, by
            rw [hact] at hs'; cases hs'; exact ⟨rfl, by simp only [length_overwrite _ _ _ hfit]; omega⟩⟩)
        · simp only [view, hact, length_overwrite _ _ _ hfit, getElem?_overwrite _ _ _ hfit]
          by_cases hx : s.base ≤ x ∧ x < s.base + s.buf.length
          · simp only [if_pos hx]
            by_cases hy : addr ≤ x ∧ x < addr + final.length
            · rw [if_pos hy, if_pos (by omega)]
              congr 1; omega
            · rw [if_neg hy, if_neg (by omega)]
          · simp only [if_neg hx]
            rw [if_neg (by omega)]
      · rw [if_neg hin]
        have hz : final.length = 0 := by
          rcases hrange with h | ⟨s', hs', h1, h2⟩
          · exact hcl0 h
          · rw [hact] at hs'; cases hs'
            by_cases h0 : final.length = 0
            · exact h0
            · exfalso; apply hin; unfold top at g2 hcurr; omega
        rw [if_pos hz]
        exact ⟨st, rfl, hzero st rfl hz⟩

theorem env_get_cons (n : Nat) (v : Int) (e : Env) (m : Nat) :
    Env.get ((n, v) :: e) m = if n = m then some v else e.get m := rfl

theorem insertConst_spec (st : State) (n : Nat) (v : Int) :
    Sat (insertConst st n v) fun st' => st.env.get n = none ∧ st' = { st with env := (n, v) :: st.env } := by
  unfold insertConst
  split
  · exact fun e => by cases e
  · rename_i hn; exact ⟨hn, rfl⟩

end Trion.Layout
