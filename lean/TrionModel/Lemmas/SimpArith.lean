import TrionModel.Model.Simp
/-! Arithmetic facts about the checked `i64` helpers of `Model/Simp.lean` (core Lean only). -/
namespace Trion.Simp
open Trion

theorem inI64_iff (v : Int) : inI64 v = true ↔ (-9223372036854775808 ≤ v ∧ v ≤ 9223372036854775807) := by
  unfold inI64 i64Min i64Max
  rw [Bool.and_eq_true, decide_eq_true_iff, decide_eq_true_iff]

theorem checked_eq_some {v w : Int} : checked v = some w ↔ (inI64 v = true ∧ w = v) := by
  unfold checked
  by_cases h : inI64 v = true
  · simp [h, eq_comm]
  · simp [h]

theorem checked_eq_none {v : Int} : checked v = none ↔ inI64 v = false := by
  unfold checked
  cases inI64 v <;> simp

theorem neg_range {v : Int} (h : inI64 v = true) (hm : v ≠ i64Min) : inI64 (-v) = true := by
  rw [inI64_iff] at h ⊢; simp only [i64Min] at hm; omega

theorem toU_lt (v : Int) : toU v < 18446744073709551616 := by
  unfold toU two64
  have := Int.emod_lt_of_pos v (b := 18446744073709551616) (by decide)
  have := Int.emod_nonneg v (b := 18446744073709551616) (by decide)
  omega

theorem ofU_range {n : Nat} (h : n < 18446744073709551616) : inI64 (ofU n) = true := by
  rw [inI64_iff]; unfold ofU two64; split <;> omega

theorem toU_ofU {n : Nat} (h : n < 18446744073709551616) : toU (ofU n) = n := by
  unfold toU ofU two64; split <;> omega

theorem ofU_toU {v : Int} (h : inI64 v = true) : ofU (toU v) = v := by
  rw [inI64_iff] at h; unfold toU ofU two64; split <;> omega

theorem and_lt (a b : Int) : toU a &&& toU b < 18446744073709551616 :=
  Nat.and_lt_two_pow (n := 64) _ (toU_lt b)
theorem or_lt (a b : Int) : toU a ||| toU b < 18446744073709551616 :=
  Nat.or_lt_two_pow (n := 64) (toU_lt a) (toU_lt b)
theorem xor_lt (a b : Int) : toU a ^^^ toU b < 18446744073709551616 :=
  Nat.xor_lt_two_pow (n := 64) (toU_lt a) (toU_lt b)

theorem band_range (a b : Int) : inI64 (band a b) = true := ofU_range (and_lt a b)
theorem bor_range (a b : Int) : inI64 (bor a b) = true := ofU_range (or_lt a b)
theorem bxor_range (a b : Int) : inI64 (bxor a b) = true := ofU_range (xor_lt a b)

theorem band_comm (a b : Int) : band a b = band b a := by unfold band; rw [Nat.and_comm]
theorem bor_comm (a b : Int) : bor a b = bor b a := by unfold bor; rw [Nat.or_comm]
theorem bxor_comm (a b : Int) : bxor a b = bxor b a := by unfold bxor; rw [Nat.xor_comm]

theorem band_assoc (a b c : Int) : band (band a b) c = band a (band b c) := by
  unfold band; rw [toU_ofU (and_lt a b), toU_ofU (and_lt b c), Nat.and_assoc]
theorem bor_assoc (a b c : Int) : bor (bor a b) c = bor a (bor b c) := by
  unfold bor; rw [toU_ofU (or_lt a b), toU_ofU (or_lt b c), Nat.or_assoc]
theorem bxor_assoc (a b c : Int) : bxor (bxor a b) c = bxor a (bxor b c) := by
  unfold bxor; rw [toU_ofU (xor_lt a b), toU_ofU (xor_lt b c), Nat.xor_assoc]

theorem toU_neg_one : toU (-1) = 18446744073709551615 := by decide
theorem toU_zero : toU 0 = 0 := by decide

theorem band_neg_one {a : Int} (h : inI64 a = true) : band a (-1) = a := by
  unfold band
  rw [toU_neg_one, show (18446744073709551615 : Nat) = 2 ^ 64 - 1 by decide, Nat.and_two_pow_sub_one_eq_mod,
    Nat.mod_eq_of_lt (toU_lt a), ofU_toU h]
theorem bor_zero {a : Int} (h : inI64 a = true) : bor a 0 = a := by
  unfold bor; rw [toU_zero, Nat.or_zero, ofU_toU h]
theorem bxor_zero {a : Int} (h : inI64 a = true) : bxor a 0 = a := by
  unfold bxor; rw [toU_zero, Nat.xor_zero, ofU_toU h]

theorem wrap_range (v : Int) : inI64 (wrap v) = true := by
  rw [inI64_iff]; unfold wrap two63 two64; omega

theorem wrap_of_range {v : Int} (h : inI64 v = true) : wrap v = v := by
  rw [inI64_iff] at h; unfold wrap two63 two64; omega

theorem shr_range {a : Int} (h : inI64 a = true) (n : Nat) : inI64 (a / 2 ^ n) = true := by
  rw [inI64_iff] at h ⊢
  have hp : (0 : Int) < 2 ^ n := Int.pow_pos (by decide)
  have h1 : (1 : Int) ≤ 2 ^ n := hp
  constructor
  · rw [Int.le_ediv_iff_mul_le hp]
    have : (-9223372036854775808 : Int) * 2 ^ n ≤ -9223372036854775808 * 1 :=
      Int.mul_le_mul_of_nonpos_left (by decide) h1
    omega
  · have : a / 2 ^ n < 9223372036854775808 := by
      rw [Int.ediv_lt_iff_lt_mul hp]
      have : (9223372036854775808 : Int) * 1 ≤ 9223372036854775808 * 2 ^ n :=
        Int.mul_le_mul_of_nonneg_left h1 (by decide)
      omega
    omega

theorem natAbs_le_of_inI64 {a : Int} (h : inI64 a = true) : a.natAbs ≤ 9223372036854775808 := by
  rw [inI64_iff] at h; omega

theorem tmod_range {a b : Int} (hb : inI64 b = true) (h0 : b ≠ 0) :
    inI64 (Int.tmod a b) = true := by
  have h1 := Int.natAbs_tmod a b
  have h2 : a.natAbs % b.natAbs < b.natAbs := Nat.mod_lt _ (by omega)
  have h3 := natAbs_le_of_inI64 hb
  rw [inI64_iff]; omega

theorem checkedRem_range {a b v : Int} (hb : inI64 b = true) (h : checkedRem a b = some v) : inI64 v = true := by
  unfold checkedRem at h
  by_cases h0 : b = 0
  · simp [h0] at h
  · by_cases h1 : a = i64Min ∧ b = -1
    · simp [h1] at h
    · simp only [h0, h1, if_false, Option.some.injEq] at h
      subst h; exact tmod_range hb h0

/-! ### the ten operators: what each computes before any check -/

def rawZ : BinOp → Int → Int → Int
  | .add, a, b => a + b
  | .sub, a, b => a - b
  | .mul, a, b => a * b
  | .div, a, b => a.tdiv b
  | .mod, a, b => a.tmod b
  | .band, a, b => band a b
  | .bor, a, b => bor a b
  | .bxor, a, b => bxor a b
  | .shl, a, b => wrap (a * 2 ^ b.toNat)
  | .shr, a, b => a / 2 ^ b.toNat

theorem checked_ok {x w : Int} {k : OvKind} :
    (match checked x with | some v => Except.ok v | none => Except.error k) = .ok w ↔ (inI64 x = true ∧ w = x) := by
  unfold checked
  by_cases h : inI64 x = true <;> simp [h, eq_comm]

theorem foldBin_ok {op : BinOp} {a b w : Int} (h : foldBin op a b = .ok w) :
    w = rawZ op a b ∧ ((op = .div ∨ op = .mod) → b ≠ 0) ∧ ((op = .shl ∨ op = .shr) → 0 ≤ b ∧ b < 64) ∧
    ((op = .add ∨ op = .sub ∨ op = .mul ∨ op = .div) → inI64 w = true) := by
  cases op <;> simp only [foldBin, checkedAdd, checkedSub, checkedMul, checkedDiv, checkedRem, checkedShl, checkedShr] at h
  case add => obtain ⟨h1, rfl⟩ := checked_ok.1 h; simp [rawZ, h1]
  case sub => obtain ⟨h1, rfl⟩ := checked_ok.1 h; simp [rawZ, h1]
  case mul => obtain ⟨h1, rfl⟩ := checked_ok.1 h; simp [rawZ, h1]
  case div =>
    by_cases hb : b = 0
    · simp [hb] at h
    · simp only [hb, if_false] at h; obtain ⟨h1, rfl⟩ := checked_ok.1 h; simp [rawZ, h1, hb]
  case mod =>
    by_cases hb : b = 0
    · simp [hb] at h
    · by_cases h1 : a = i64Min ∧ b = -1
      · simp [h1] at h
      · simp only [hb, h1, if_false, Except.ok.injEq] at h; subst h; simp [rawZ, hb]
  case band => cases h; simp [rawZ]
  case bor => cases h; simp [rawZ]
  case bxor => cases h; simp [rawZ]
  case shl =>
    by_cases hk : 0 ≤ b ∧ b < 64
    · simp only [hk, and_self, if_true, Except.ok.injEq] at h; subst h; simp [rawZ, hk]
    · simp [hk] at h
  case shr =>
    by_cases hk : 0 ≤ b ∧ b < 64
    · simp only [hk, and_self, if_true, Except.ok.injEq] at h; subst h; simp [rawZ, hk]
    · simp [hk] at h

theorem opZ_some {op : BinOp} {a b v : Int} (h : opZ op a b = some v) : v = rawZ op a b := by
  cases op <;> simp only [opZ, checkedShl, checkedShr] at h <;> (try split at h) <;> (try split at h) <;>
    first | cases h; rfl | cases h

theorem opZ_of {op : BinOp} {a b : Int} (ha : inI64 a = true) (hb : inI64 b = true)
    (h0 : (op = .div ∨ op = .mod) → b ≠ 0) (hk : (op = .shl ∨ op = .shr) → 0 ≤ b ∧ b < 64) :
    opZ op a b = some (rawZ op a b) := by
  cases op
  case div => simp [opZ, rawZ, h0 (.inl rfl)]
  case mod => simp [opZ, rawZ, h0 (.inr rfl)]
  case shl => simp [opZ, rawZ, ha, checkedShl, hk (.inl rfl)]
  case shr => simp [opZ, rawZ, ha, checkedShr, hk (.inr rfl)]
  all_goals simp [opZ, rawZ, ha, hb]

theorem foldBin_range {op : BinOp} {a b v : Int} (ha : inI64 a = true) (hb : inI64 b = true)
    (h : foldBin op a b = .ok v) : inI64 v = true := by
  obtain ⟨rfl, h0, _, hr⟩ := foldBin_ok h
  cases op
  case mod => exact tmod_range hb (h0 (.inr rfl))
  case band => exact band_range a b
  case bor => exact bor_range a b
  case bxor => exact bxor_range a b
  case shl => exact wrap_range _
  case shr => exact shr_range ha _
  all_goals exact hr (by simp)

theorem tdiv_tdiv_nat (X A B : Nat) : ((X : Int).tdiv A).tdiv B = (X : Int).tdiv ((A : Int) * B) := by
  rw [← Int.ofNat_tdiv, ← Int.ofNat_tdiv, ← Int.natCast_mul, ← Int.ofNat_tdiv, Nat.div_div_eq_div_mul]

theorem tdiv_tdiv (x a b : Int) : (x.tdiv a).tdiv b = x.tdiv (a * b) := by
  rcases Int.natAbs_eq x with hx | hx <;> rcases Int.natAbs_eq a with ha | ha <;>
    rcases Int.natAbs_eq b with hb | hb <;> rw [hx, ha, hb] <;>
    simp only [Int.neg_tdiv, Int.tdiv_neg, Int.neg_mul, Int.mul_neg, Int.neg_neg, tdiv_tdiv_nat]

theorem tdiv_comm (x a b : Int) : (x.tdiv a).tdiv b = (x.tdiv b).tdiv a := by
  rw [tdiv_tdiv, tdiv_tdiv, Int.mul_comm]

theorem tmod_eq_self_of_natAbs_lt {r z : Int} (h : r.natAbs < z.natAbs) : r.tmod z = r := by
  rcases Int.natAbs_eq r with hr | hr <;> rcases Int.natAbs_eq z with hz | hz <;>
    rw [hr, hz] <;> simp only [Int.neg_tmod, Int.tmod_neg, ← Int.ofNat_tmod, Nat.mod_eq_of_lt h]

theorem tmod_tmod_of_natAbs_le {x y z : Int} (hy : y ≠ 0) (h : y.natAbs ≤ z.natAbs) :
    (x.tmod y).tmod z = x.tmod y := by
  apply tmod_eq_self_of_natAbs_lt
  rw [Int.natAbs_tmod]
  have : x.natAbs % y.natAbs < y.natAbs := Nat.mod_lt _ (by omega)
  omega

end Trion.Simp
