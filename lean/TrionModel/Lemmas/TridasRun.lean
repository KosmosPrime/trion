import TrionModel.Props.C01  -- for `Codec.enc_len`
import TrionModel.Lemmas.TridasEntries
import TrionModel.Lemmas.TridasFuel
import TrionModel.Lemmas.ShowLine
/-!
# `Asm.run` on the text of a tridas listing (C20)

"Forward" (`fwd`, `…_fwd`) means here: the label an instruction line mentions is defined by a LATER line. One
instruction line, `instr_line_run`: a line whose label is already defined is assembled at once (`Show.line_now`); a forward
one is placed as a 0xBE placeholder of its final length and queued (`Show.line_later`). The statement loop
`entries_run_fwd` carries the table along (its keys are the labels below the cursor); after the loop the buffer is the file
except at the placeholders, the table binds every label, and the queued tasks — one per forward reference, in order —
write the canonical bytes over their placeholders (`tasks_run`, `Show.line_task`), after which the buffer is the file
(`listing_run_fwd`). `Listing` bundles what the round trip assumes of a file; the round trips on the listing text of
`Props/C20*.lean` (`listing_roundtrip`, `_backward`, `_semantic`, their `_entries` / `_codec` forms, `listing_to_uf2`) are
instances of `Listing.roundtrip`.
-/
namespace Trion.Tridas
open Trion.Show Trion.Lex

/-- the instruction line mentions a label that is defined after it -/
def fwd (e : Entry) : Bool :=
  match targetOf e.instr e.addr with
  | some t => decide (e.addr < t)
  | none => false

/-- what the statement loop writes for an entry: its bytes, or a placeholder of the same length -/
def phOf (b : List UInt8) (e : Entry) : List UInt8 :=
  if fwd e then List.replicate (e.after - e.addr) 0xBE else slice b e

/-- the state inside the main file, one open region from `BASE` (`Show.stG` at `BASE`): buffer, table, the ghost list
`(address, length)` of placed statements (`Seg.State.pending`), queued tasks -/
def stQ (buf : List UInt8) (tbl : Asm.Table) (pending : List (Nat × Nat)) (q : List Asm.Task) : Asm.St :=
  stG BASE buf tbl pending q

/-- the tasks the loop queues: one per forward reference, in order, each with the front-end state of the first pass -/
inductive TasksFor (main : Bytes) : List Entry → List Asm.Task → Prop
  | nil : TasksFor main [] []
  | skip {e : Entry} {r : List Entry} {ts : List Asm.Task} : fwd e = false → TasksFor main r ts → TasksFor main (e :: r) ts
  | take {e : Entry} {r : List Entry} {ts : List Asm.Task} (l c : Nat) : fwd e = true → TasksFor main r ts →
      TasksFor main (e :: r) (.instr ⟨main, l, c, deferSt e.instr e.addr, true⟩ false :: ts)

theorem get_of_find {tbl : Asm.Table} {n : Bytes} {v : Int} (h : tbl.find n = some (some v)) : tbl.get n = .found v := by
  simp [Asm.Table.get, h]

theorem find_of_get {tbl : Asm.Table} {n : Bytes} {v : Int} (h : tbl.get n = .found v) : tbl.find n = some (some v) :=
  Asm.get_found h

theorem fwd_iff {e : Entry} : fwd e = true ↔ ∃ t, targetOf e.instr e.addr = some t ∧ e.addr < t := by
  unfold fwd
  cases targetOf e.instr e.addr <;> simp

theorem not_fwd {e : Entry} (h : fwd e = false) {t : Nat} (ht : targetOf e.instr e.addr = some t) : t ≤ e.addr :=
  Nat.le_of_not_lt fun hlt => by rw [fwd_iff.2 ⟨t, ht, hlt⟩] at h; cases h

theorem phOf_fwd (b : List UInt8) {e : Entry} (h : fwd e = true) : phOf b e = List.replicate (e.after - e.addr) 0xBE :=
  if_pos h

theorem phOf_back (b : List UInt8) {e : Entry} (h : fwd e = false) : phOf b e = slice b e := by
  simp [phOf, h]

theorem label_fresh {tbl : Asm.Table} {a t : Nat} (hk : ∀ name v, tbl.find name = some v → ∃ x, x < a ∧ name = label x)
    (hat : a ≤ t) (ht : t < 4294967296) : tbl.find (label t) = none := by
  cases hf : tbl.find (label t) with
  | none => rfl
  | some v =>
    obtain ⟨x, hx, hl⟩ := hk _ _ hf
    have := label_inj t x ht (by omega) hl
    omega

theorem encoding_length {b : List UInt8} {e : Entry} {hws : List Nat}
    (hbytes : (Codec.toBytes hws).map (·.toUInt8) = slice b e) (h1 : BASE ≤ e.addr) (h2 : e.after ≤ BASE + b.length) :
    2 * hws.length = e.after - e.addr := by
  rw [← slice_length b e h1 h2, ← hbytes, List.length_map, Asm.toBytes_length]

theorem phOf_length (b : List UInt8) (e : Entry) (h1 : BASE ≤ e.addr) (h2 : e.after ≤ BASE + b.length) :
    (phOf b e).length = e.after - e.addr := by
  unfold phOf; split
  · simp
  · exact slice_length b e h1 h2

theorem instr_line_run (fs : Bytes → Option Bytes) (inc : Asm.Inc) (main : Bytes) (b : List UInt8)
    (hsmall : BASE + b.length ≤ 4294967296) (e : Entry) (hok : EntryOk b e) (h1 : BASE ≤ e.addr)
    (h2 : e.after ≤ BASE + b.length) (tbl : Asm.Table) (buf : List UInt8) (hbl : buf.length = e.addr - BASE)
    (hk : ∀ name v, tbl.find name = some v → ∃ x, x < e.addr + 1 ∧ name = label x)
    (hlk : fwd e = false → ∀ t, targetOf e.instr e.addr = some t → tbl.get (label t) = .found (t : Int))
    (l c : Nat) (pend : List (Nat × Nat)) (q : List Asm.Task) :
    ∃ ts, Asm.statement fs Asm.encoder inc ⟨[main], main⟩ (stQ buf tbl pend q)
          ⟨l, c, .instruction (parts e.instr e.addr).1 (Args.ofList (parts e.instr e.addr).2)⟩ =
        .ok (stQ (buf ++ phOf b e) tbl ((e.addr, e.after - e.addr) :: pend) (q ++ ts), .ok) ∧
      TasksFor main [e] ts := by
  obtain ⟨hws, he, wf, htr, hbytes⟩ := hok
  have hlenw := (Codec.enc_len e.instr hws he wf).1
  have hsz : 2 * hws.length = e.after - e.addr := encoding_length hbytes h1 h2
  by_cases hf : fwd e = true
  · obtain ⟨t, htg, hlt⟩ := fwd_iff.1 hf
    have hnf : tbl.find (label t) = none := label_fresh hk hlt (targetOf_lt e.instr e.addr t htg)
    refine ⟨[.instr ⟨main, l, c, deferSt e.instr e.addr, true⟩ false], ?_, .take l c hf .nil⟩
    rw [phOf_fwd b hf, ← hsz]
    exact line_later fs inc main BASE tbl pend l c e.instr e.addr hws he hlenw buf q t htg hnf (by omega) (by omega)
  · have hf' : fwd e = false := by simpa using hf
    refine ⟨[], ?_, .skip hf' .nil⟩
    rw [phOf_back b hf', ← hbytes, ← hsz, List.append_nil]
    exact line_now fs inc main BASE tbl pend l c e.instr e.addr hws he hlenw buf q
      (printable_of_encode e.instr e.addr hws he wf htr) (evalOK_frontEval tbl e.instr e.addr hws he wf (hlk hf'))
      (by omega) (by omega)

theorem entries_run_fwd (fs : Bytes → Option Bytes) (inc : Asm.Inc) (main : Bytes) (b : List UInt8) (br : List Nat)
    (hsmall : BASE + b.length ≤ 4294967296) :
    ∀ (es : List Entry) (els : List Element) (a z : Nat) (tbl : Asm.Table) (pending : List (Nat × Nat))
      (q : List Asm.Task) (buf : List UInt8),
      els.map (·.val) = entryVals br es → Chain es a z → BASE ≤ a → z ≤ BASE + b.length → buf.length = a - BASE →
      (∀ e ∈ es, EntryOk b e) →
      (∀ name v, tbl.find name = some v → ∃ x, x < a ∧ name = label x) →
      (∀ e ∈ es, ∀ t, targetOf e.instr e.addr = some t →
        (t < a → tbl.get (label t) = .found (t : Int)) ∧
        (a ≤ t → br.contains t = true ∧ ∃ e' ∈ es, e'.addr = t)) →
      ∃ tbl' pending' ts,
        Asm.doAssemble fs Asm.encoder inc ⟨[main], main⟩ els none (stQ buf tbl pending q) =
          .ok (stQ (buf ++ (es.map (phOf b)).flatten) tbl' pending' (q ++ ts), .ok) ∧
        TasksFor main es ts ∧
        (∀ name v, tbl.find name = some (some v) → tbl'.find name = some (some v)) ∧
        (∀ e ∈ es, br.contains e.addr = true → tbl'.get (label e.addr) = .found (e.addr : Int)) := by
  intro es
  induction es with
  | nil =>
    intro els a z tbl pending q buf hels hc _ _ _ _ _ _
    have : els = [] := by simpa [entryVals] using hels
    subst this
    exact ⟨tbl, pending, [], by simp [Asm.doAssemble], .nil, fun _ _ h => h, fun e he => by cases he⟩
  | cons e r ih =>
    intro els a z tbl pending q buf hels hc ha hz hbl hok h1 h2
    obtain ⟨c1, c2, c3⟩ := hc
    have hzz : e.after ≤ z := chain_le r _ _ c3
    have hrest : ∀ f ∈ r, e.after ≤ f.addr := chain_ge' r _ _ c3
    have ha32 : a < 4294967296 := by omega
    let tbl1 : Asm.Table := if br.contains e.addr = true then tbl.set (label e.addr) (some (e.addr : Int)) else tbl
    have hfresh : tbl.find (label e.addr) = none := label_fresh h1 (by omega) (by omega)
    have hfind1 : ∀ name, tbl1.find name =
        if br.contains e.addr = true ∧ label e.addr = name then some (some (e.addr : Int)) else tbl.find name := by
      intro name
      show (if br.contains e.addr = true then tbl.set (label e.addr) (some (e.addr : Int)) else tbl).find name = _
      by_cases hb : br.contains e.addr = true
      · rw [if_pos hb, Asm.find_set]
        by_cases hn : label e.addr = name
        · rw [if_pos hn, if_pos ⟨hb, hn⟩]
        · rw [if_neg hn, if_neg (fun h => hn h.2)]
      · rw [if_neg hb, if_neg (fun h => hb h.1)]
    have hcur : Seg.Active.cur ⟨BASE, buf, Map.u32Max - BASE + 1⟩ = a := cur_of_length (by omega) ha32
    have hphlen : (phOf b e).length = e.after - e.addr := phOf_length b e (by omega) (by omega)
    have h1a : ∀ name v, tbl1.find name = some v → ∃ x, x < e.addr + 1 ∧ name = label x := by
      intro name v hf
      rw [hfind1] at hf
      split at hf
      · rename_i hc; exact ⟨e.addr, Nat.lt_succ_self _, hc.2.symm⟩
      · obtain ⟨x, hx, hl⟩ := h1 _ _ hf; exact ⟨x, by omega, hl⟩
    have hmono1 : ∀ name v, tbl.find name = some (some v) → tbl1.find name = some (some v) := by
      intro name v hf
      rw [hfind1]
      by_cases hc : br.contains e.addr = true ∧ label e.addr = name
      · exfalso; rw [← hc.2, hfresh] at hf; cases hf
      · rw [if_neg hc]; exact hf
    have keep : ∀ t, t < a → tbl.get (label t) = .found (t : Int) → tbl1.get (label t) = .found (t : Int) :=
      fun t _ hg => get_of_find (hmono1 _ _ (find_of_get hg))
    have known1 : ∀ f ∈ e :: r, ∀ t, targetOf f.instr f.addr = some t → t < e.after →
        tbl1.get (label t) = .found (t : Int) := by
      intro f hf t ht hlt
      obtain ⟨g1, g2⟩ := h2 f hf t ht
      by_cases hlt2 : t < a
      · exact keep t hlt2 (g1 hlt2)
      · obtain ⟨g4, e', he', hea⟩ := g2 (by omega)
        rcases List.mem_cons.mp he' with rfl | he'
        · simp only [Asm.Table.get]
          rw [hfind1, ← hea, if_pos ⟨by rw [hea]; exact g4, rfl⟩]
        · have := hrest e' he'; omega
    have hinstr := instr_line_run fs inc main b hsmall e (hok e (by simp)) (by omega) (by omega) tbl1 buf (by omega) h1a
      (fun hf' t ht => known1 e (by simp) t ht (by have := not_fwd hf' ht; omega))
    have h1' : ∀ name v, tbl1.find name = some v → ∃ x, x < e.after ∧ name = label x := by
      intro name v hf
      obtain ⟨x, hx, hl⟩ := h1a name v hf
      exact ⟨x, by omega, hl⟩
    have h2' : ∀ f ∈ r, ∀ t, targetOf f.instr f.addr = some t →
        (t < e.after → tbl1.get (label t) = .found (t : Int)) ∧
        (e.after ≤ t → br.contains t = true ∧ ∃ e' ∈ r, e'.addr = t) := by
      intro f hf t ht
      obtain ⟨g1, g2⟩ := h2 f (by simp [hf]) t ht
      refine ⟨known1 f (by simp [hf]) t ht, ?_⟩
      · intro hge
        obtain ⟨g4, e', he', hea⟩ := g2 (by omega)
        refine ⟨g4, ?_⟩
        rcases List.mem_cons.mp he' with rfl | he'
        · omega
        · exact ⟨e', he', hea⟩
    have hbl' : (buf ++ phOf b e).length = e.after - BASE := by
      rw [List.length_append, hbl, hphlen]; omega
    have finish : ∀ (els2 : List Element) (pend : List (Nat × Nat)) (l2 k2 : Nat),
        els2.map (·.val) = entryVals br r →
        ∃ tbl' pending' ts,
          (match Asm.statement fs Asm.encoder inc ⟨[main], main⟩ (stQ buf tbl1 pend q)
              ⟨l2, k2, .instruction (parts e.instr e.addr).1 (Args.ofList (parts e.instr e.addr).2)⟩ with
            | .ok (st', .ok) => Asm.doAssemble fs Asm.encoder inc ⟨[main], main⟩ els2 none st'
            | .ok (st', .err l) => .ok (st', .err l)
            | .stop r => .stop r) =
            .ok (stQ (buf ++ ((e :: r).map (phOf b)).flatten) tbl' pending' (q ++ ts), .ok) ∧
          TasksFor main (e :: r) ts ∧
          (∀ name v, tbl1.find name = some (some v) → tbl'.find name = some (some v)) ∧
          (∀ f ∈ r, br.contains f.addr = true → tbl'.get (label f.addr) = .found (f.addr : Int)) := by
      intro els2 pend l2 k2 hr2
      obtain ⟨ts1, hst, htf⟩ := hinstr l2 k2 pend q
      obtain ⟨tbl', pending', ts2, hrec, htf2, hm2, hl2⟩ := ih els2 e.after z tbl1 ((e.addr, e.after - e.addr) :: pend) (q ++ ts1)
        (buf ++ phOf b e) hr2 c3 (by omega) hz hbl' (fun f hf => hok f (by simp [hf])) h1' h2'
      refine ⟨tbl', pending', ts1 ++ ts2, ?_, ?_, hm2, hl2⟩
      · rw [hst]
        simp only
        rw [hrec]
        simp [List.append_assoc]
      · cases htf with
        | skip hf h' => cases h'; exact .skip hf htf2
        | take l c hf h' => cases h'; exact .take l c hf htf2
    by_cases hb : br.contains e.addr = true
    · have hv : entryVals br (e :: r) = ElemVal.label (label e.addr) ::
          .instruction (parts e.instr e.addr).1 (Args.ofList (parts e.instr e.addr).2) :: entryVals br r := by
        rw [entryVals_cons, if_pos hb]; rfl
      rw [hv] at hels
      obtain ⟨l1, k1, r1, rfl, hr1⟩ := Asm.map_val_cons hels
      obtain ⟨l2, k2, r2, rfl, hr2⟩ := Asm.map_val_cons hr1
      have hlab := Asm.label_run fs Asm.encoder inc ⟨[main], main⟩ (stQ buf tbl pending q) tbl rfl l1 k1
        (label e.addr) ⟨BASE, buf, Map.u32Max - BASE + 1⟩ rfl (isRegister_label e.addr) hfresh
      rw [hcur] at hlab
      have ht1 : tbl1 = tbl.set (label e.addr) (some (e.addr : Int)) := if_pos hb
      obtain ⟨tbl', pending', ts, hfin, htf, hm, hl⟩ := finish r2 pending l2 k2 hr2
      refine ⟨tbl', pending', ts, ?_, htf, fun n v h => hm n v (hmono1 n v h), ?_⟩
      · simp only [Asm.doAssemble]
        rw [hlab]
        simp only
        have : ({ stQ buf tbl pending q with locals := some (tbl.set (label e.addr) (some (a : Int))) } : Asm.St) =
            stQ buf tbl1 pending q := by rw [ht1, c1]; rfl
        rw [this]
        exact hfin
      · intro f hf hbf
        rcases List.mem_cons.mp hf with rfl | hf
        · apply get_of_find
          apply hm
          rw [hfind1, if_pos ⟨hb, rfl⟩]
        · exact hl f hf hbf
    · have hv : entryVals br (e :: r) =
          .instruction (parts e.instr e.addr).1 (Args.ofList (parts e.instr e.addr).2) :: entryVals br r := by
        rw [entryVals_cons, if_neg hb]; rfl
      rw [hv] at hels
      obtain ⟨l2, k2, r2, rfl, hr2⟩ := Asm.map_val_cons hels
      have ht1 : tbl1 = tbl := if_neg hb
      obtain ⟨tbl', pending', ts, hfin, htf, hm, hl⟩ := finish r2 pending l2 k2 hr2
      refine ⟨tbl', pending', ts, ?_, htf, fun n v h => hm n v (hmono1 n v h), ?_⟩
      · simp only [Asm.doAssemble]
        rw [← ht1]
        exact hfin
      · intro f hf hbf
        rcases List.mem_cons.mp hf with rfl | hf
        · exact absurd hbf hb
        · exact hl f hf hbf

theorem phFlatten_length (b : List UInt8) : ∀ (es : List Entry) (a z : Nat), Chain es a z → BASE ≤ a →
    z ≤ BASE + b.length → ((es.map (phOf b)).flatten).length = z - a := by
  intro es
  induction es with
  | nil => intro a z hc _ _; simp only [Chain] at hc; subst hc; simp
  | cons e r ih =>
    intro a z hc ha hz
    obtain ⟨c1, c2, c3⟩ := hc
    have hzz : e.after ≤ z := chain_le r _ _ c3
    simp only [List.map_cons, List.flatten_cons, List.length_append, phOf_length b e (by omega) (by omega),
      ih e.after z c3 (by omega) hz]
    omega

theorem tasks_run (main : Bytes) (b : List UInt8) (tbl : Asm.Table) (pending : List (Nat × Nat))
    (hsmall : BASE + b.length ≤ 4294967296) :
    ∀ (es : List Entry) (ts : List Asm.Task), TasksFor main es ts → ∀ (a z : Nat) (pre post : List UInt8),
      Chain es a z → BASE ≤ a → z ≤ BASE + b.length → pre.length = a - BASE → post.length = BASE + b.length - z →
      (∀ e ∈ es, EntryOk b e) →
      (∀ e ∈ es, ∀ t, targetOf e.instr e.addr = some t → tbl.get (label t) = .found (t : Int)) →
      Asm.TaskChain Asm.encoder ⟨[main], main⟩ ts
        (stQ (pre ++ (es.map (phOf b)).flatten ++ post) tbl pending [])
        (stQ (pre ++ (es.map (slice b)).flatten ++ post) tbl pending []) := by
  intro es ts htf
  induction htf with
  | nil => intro a z pre post _ _ _ _ _ _ _; exact .nil _
  | @skip e r ts hf _ ih =>
    intro a z pre post hc ha hz hpre hpost hok hlk
    obtain ⟨c1, c2, c3⟩ := hc
    have hzz : e.after ≤ z := chain_le r _ _ c3
    have hslen : (slice b e).length = e.after - e.addr := slice_length b e (by omega) (by omega)
    have := ih e.after z (pre ++ slice b e) post c3 (by omega) hz (by rw [List.length_append, hpre, hslen]; omega) hpost
      (fun f hf' => hok f (by simp [hf'])) (fun f hf' => hlk f (by simp [hf']))
    simpa [List.map_cons, List.flatten_cons, phOf_back b hf, List.append_assoc] using this
  | @take e r ts l c hf _ ih =>
    intro a z pre post hc ha hz hpre hpost hok hlk
    obtain ⟨c1, c2, c3⟩ := hc
    have hzz : e.after ≤ z := chain_le r _ _ c3
    obtain ⟨hws, he, wf, htr, hbytes⟩ := hok e (by simp)
    have hslen : (slice b e).length = e.after - e.addr := slice_length b e (by omega) (by omega)
    have hlenw := (Codec.enc_len e.instr hws he wf).1
    obtain ⟨t, htg, _⟩ := fwd_iff.1 hf
    have hsz : 2 * hws.length = e.after - e.addr := encoding_length hbytes (by omega) (by omega)
    have e1 : phOf b e = List.replicate (2 * hws.length) 0xBE := by rw [phOf_fwd b hf, hsz]
    have hrestlen := phFlatten_length b r e.after z c3 (by omega) hz
    have htask := line_task main BASE tbl pending l c e.instr e.addr hws he hlenw pre ((r.map (phOf b)).flatten ++ post) t htg
      (printable_of_encode e.instr e.addr hws he wf htr) (evalOK_frontEval tbl e.instr e.addr hws he wf (hlk e (by simp)))
      (by omega) (by rw [List.length_append, hrestlen, hpost]; omega)
    have hrec := ih e.after z (pre ++ slice b e) post c3 (by omega) hz (by rw [List.length_append, hpre, hslen]; omega) hpost
      (fun f hf' => hok f (by simp [hf'])) (fun f hf' => hlk f (by simp [hf']))
    refine .cons (st1 := stQ ((pre ++ slice b e) ++ (r.map (phOf b)).flatten ++ post) tbl pending []) ?_ ?_
    · rw [hbytes] at htask
      simpa only [stQ, List.map_cons, List.flatten_cons, e1, List.append_assoc] using htask
    · simpa [List.map_cons, List.flatten_cons, List.append_assoc] using hrec

/-- **`Asm.run` on the text of a listing with backward AND forward branches.** `es` is a gap-free segmentation of
the non-empty file `b` into canonically encoded instructions (`EntryOk`), `br` the set of addresses that get a label
line; every label an instruction line mentions names an entry of the file that has a label line. Then the whole
pipeline on the listing text succeeds, records no diagnostic, and its image is exactly `b` at `BASE` (the fields of
`Asm.Outcome`: `assemble` returned `Ok`, no close error, `finalize` succeeded, the diagnostics, the image). -/
theorem listing_run_fwd (fs : Bytes → Option Bytes) (main : Bytes) (b : List UInt8) (br : List Nat) (es : List Entry)
    (hne : b ≠ []) (hsmall : BASE + b.length ≤ 4294967296) (hc : Chain es BASE (BASE + b.length))
    (hok : ∀ e ∈ es, EntryOk b e)
    (htgt : ∀ e ∈ es, ∀ t, targetOf e.instr e.addr = some t → br.contains t = true ∧ ∃ e' ∈ es, e'.addr = t)
    (hfs : fs main = some (listingText (Line.header :: render br es false BASE))) :
    Asm.run fs main = .done ⟨true, none, true, [], [(BASE, b)]⟩ := by
  have hlit : ∀ e ∈ es, LitOk e.instr := by
    intro e he
    obtain ⟨hws, h1, wf, _, _⟩ := hok e he
    exact litOk_of_encode e.instr hws h1 wf
  have hlines : LinesOk (Line.header :: render br es false BASE) := by
    intro a i hm
    rcases List.mem_cons.mp hm with h | h
    · cases h
    · exact linesOk_render br es false BASE hlit a i h
  obtain ⟨els, hparse, hels⟩ := parseFile_listing _ hlines
  have hv : (Line.header :: render br es false BASE).flatMap lineVals =
      ElemVal.directive (bytesOf "addr") (Args.ofList [.const 0x20000000]) :: entryVals br es := by
    rw [List.flatMap_cons, lineVals_render]; rfl
  rw [hv] at hels
  obtain ⟨l0, c0, els', rfl, hels'⟩ := Asm.map_val_cons hels
  obtain ⟨tbl', pending', ts, hrun, htf, _, hlab⟩ := entries_run_fwd fs (Asm.assembleFile fs Asm.encoder (Asm.maxDepth - 1)) main b br
    hsmall es els' BASE (BASE + b.length) [] [] [] [] hels' hc (Nat.le_refl _) (Nat.le_refl _) (by simp) hok
    (by intro name v h; simp [Asm.Table.find] at h)
    (by
      intro e he t ht
      obtain ⟨g2, e', he', hea⟩ := htgt e he t ht
      have := chain_ge' es _ _ hc e' he'
      exact ⟨fun hlt => by omega, fun _ => ⟨g2, e', he', hea⟩⟩)
  have haddr := Asm.addr_run fs (Asm.assembleFile fs Asm.encoder (Asm.maxDepth - 1)) ⟨[main], main⟩
    ⟨Seg.init, [], some [], [], some [], []⟩ [] (by simp) rfl rfl l0 c0 (0x20000000 : Int) (by decide) (by decide)
  have key : Asm.doAssemble fs Asm.encoder (Asm.assembleFile fs Asm.encoder (Asm.maxDepth - 1)) ⟨[main], main⟩
      (⟨l0, c0, .directive (bytesOf "addr") (Args.ofList [.const 0x20000000])⟩ :: els') none
      ⟨Seg.init, [], some [], [], some [], []⟩ =
      .ok (⟨⟨[], some ⟨BASE, (es.map (phOf b)).flatten, Map.u32Max - BASE + 1⟩, pending'⟩, [], some tbl', [], some ts, []⟩, .ok) := by
    simp only [Asm.doAssemble, Asm.statement, toList_ofList, haddr]
    have hrun' := hrun
    simp only [stQ, stG, List.nil_append] at hrun'
    exact hrun'
  have hlk : ∀ e ∈ es, ∀ t, targetOf e.instr e.addr = some t → tbl'.get (label t) = .found (t : Int) := by
    intro e he t ht
    obtain ⟨g2, e', he', hea⟩ := htgt e he t ht
    rw [← hea]
    exact hlab e' he' (by rw [hea]; exact g2)
  have hchain := tasks_run main b tbl' pending' hsmall es ts htf BASE (BASE + b.length) [] [] hc (Nat.le_refl _) (Nat.le_refl _)
    (by simp) (by simp) hok hlk
  have hflat : (es.map (slice b)).flatten = b := by
    have := chain_flatten b es BASE (BASE + b.length) hc (Nat.le_refl _)
    simpa using this
  simp only [List.nil_append, List.append_nil, hflat] at hchain
  exact Asm.run_of_statements_tasks fs main _ hfs _ hparse tbl' ⟨BASE, (es.map (phOf b)).flatten, Map.u32Max - BASE + 1⟩
    ⟨BASE, b, Map.u32Max - BASE + 1⟩ pending' pending' ts key (by simpa [stQ, stG] using hchain) hne hsmall

/-- What the round trip through the listing text assumes of a file `b` cut into the entries `es`. `b'` is the image
claimed for the run: `b` itself, or its canonical re-encoding (`canon`). -/
structure Listing (decode : Decoder) (b b' : List UInt8) (es : List Entry) : Prop where
  wf : WellFormed decode b es
  /-- the entries cover every byte. (With it the fields `sorted`, `first`, `size`, `next` of `wf` say nothing new:
  `WellFormed.of_chain`.) -/
  chain : Chain es BASE (BASE + b.length)
  len : b'.length = b.length
  ok : ∀ e ∈ es, EntryOk b' e
  /-- The label an instruction line mentions is the target of a direct branch. `Show.targetOf` also answers for ADR
  and literal LDR, `getBranch` for B and BL only: tridas prints `l_XXXXXXXX` for all four but writes label lines for
  branch targets alone, so a file with an ADR or a literal LDR has a listing that mentions an undefined label. This
  field excludes such files from every round trip on text. -/
  pc : ∀ e ∈ es, Show.targetOf e.instr e.addr = getBranch e.instr e.addr
  inside : ∀ e ∈ es, ∀ d, getBranch e.instr e.addr = some d → inFile b.length d

/-- the listing is produced (`listing_of_wf`), and `Asm.run` on its text gives `b'` at `BASE` (`listing_run_fwd`) -/
theorem Listing.roundtrip {decode : Decoder} {b b' : List UInt8} {es : List Entry} (L : Listing decode b b' es) :
    ∃ ls, listing decode b = .ok ls ∧
      ∀ (fs : Bytes → Option Bytes) (main : Bytes), fs main = some (listingText ls) →
        Asm.run fs main = .done ⟨true, none, true, [], [(BASE, b')]⟩ := by
  obtain ⟨br, hl, hbr⟩ := listing_of_wf L.wf
  refine ⟨_, hl, fun fs main hfs => ?_⟩
  have hsmall := L.wf.small
  unfold two32 at hsmall
  refine listing_run_fwd fs main b' br es (fun h => L.wf.ne_nil (List.eq_nil_of_length_eq_zero (by rw [← L.len, h]; rfl)))
    (by have := L.len; omega) (by rw [L.len]; exact L.chain) L.ok (fun e he t ht => ?_) hfs
  rw [L.pc e he] at ht
  exact ⟨hbr e he t ht, L.wf.targets e he t ht (L.inside e he t ht)⟩

end Trion.Tridas
