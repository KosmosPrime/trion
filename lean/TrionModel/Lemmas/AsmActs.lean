import TrionModel.Lemmas.AsmCases
import TrionModel.Lemmas.AsmOut
/-!
# `Trion.Asm`: what a statement or a task is made of

Below `.include` every function of the model changes the context by four elementary actions only (`Does`): a diagnostic is
pushed, the regions are replaced, the two constant tables are replaced, a task is queued.  `Acts φ e st st'`: `st'` arises
from `st` by such actions, each allowed by `φ`, and with `e` set at least one of them is a push.  One walk through the
model (`X_acts`) establishes this with `φ = Lab.ok …` (what a statement of a class, at a position may do); a notion that is
reflexive and transitive is then checked on the four actions and lifted: `AddsK` (Lemmas/AsmAdds.lean) by `Acts.lift`,
because it reads the flag; `Quiet` (AsmScope) by `Acts.rel`.  `TaskFrame` (AsmNoLoop) and the step of AsmWithin are lemmas
about `AddsK`. What exactly happens to the tables is the subject of Lemmas/AsmScopeSim.lean.

The walk is about every outcome of a function (`Out.Spec`: what is returned arises by allowed actions, what stops the
function is a panic).
-/
namespace Trion.Asm
open Trion

def Diag.at (d : Diag) (f : Bytes) (l c : Nat) : Prop := d.file = f ∧ d.line = l ∧ d.col = c

/-- the task will report at `(f, l, c)`: `DataExpr`/`ArmInstr` store all three; the `.global` closure stores line
and column and reports in the file whose task loop runs it (`f` = that file) -/
def Task.at (t : Task) (f : Bytes) (l c : Nat) : Prop :=
  match t with
  | .data d _ => d.file = f ∧ d.line = l ∧ d.col = c
  | .instr i _ => i.file = f ∧ i.line = l ∧ i.col = c
  | .globalCopy _ l' c' => l' = l ∧ c' = c

/-- where the retry of a `.du*` statement / of an instruction reports -/
abbrev DataExpr.at (d : DataExpr) (f : Bytes) (l c : Nat) : Prop := (Task.data d false).at f l c
abbrev ArmInstr.at (i : ArmInstr) (f : Bytes) (l c : Nat) : Prop := (Task.instr i false).at f l c

/-- the site a task reports at when the file `env.curName` runs it -/
def Task.site (env : Env) : Task → Bytes × Nat × Nat
  | .data d _ => (d.file, d.line, d.col)
  | .instr i _ => (i.file, i.line, i.col)
  | .globalCopy _ l c => (env.curName, l, c)

/-- the class of a statement, as far as it decides which diagnostic kinds and which tasks the statement produces: a label,
the directive named `name`, an instruction -/
inductive Cls where
  | lbl | dir (name : Bytes) | ins
deriving DecidableEq, Repr

def Cls.of : ElemVal → Cls
  | .label _ => .lbl
  | .directive name _ => .dir name
  | .instruction .. => .ins

/-- the diagnostic kinds a statement of class `C` (or its queued task) pushes. A kind of a directive carries the directive's
name as a string: it must be the statement's name. (`Pushes`, Lemmas/AsmWithin.lean, is this at an element.) -/
def pushesC : Cls → Kind → Bool
  | .lbl, .inactive => true
  | .lbl, .label _ => true
  | .dir n, .dirNotFound m => decide (m = n)
  | .dir n, .dirTooMany s .. => decide (bytesOf s = n)
  | .dir n, .dirNotEnough s .. => decide (bytesOf s = n)
  | .dir n, .dirArgType s .. => decide (bytesOf s = n)
  | .dir n, .dirApply s _ => decide (bytesOf s = n)
  | .ins, .inactive => true
  | .ins, .instrNotFound _ => true
  | .ins, .instrTooMany .. => true
  | .ins, .instrNotEnough .. => true
  | .ins, .instrArgType .. => true
  | .ins, .instrAssemble _ => true
  | _, _ => false

/-- the tasks a statement of class `C` queues: `t.cls = C` (`taskC_iff`), written as a `Bool` beside `pushesC` -/
def taskC : Cls → Task → Bool
  | .dir n, .data d _ => decide (bytesOf d.du.name = n)
  | .dir n, .globalCopy .. => decide (bytesOf "global" = n)
  | .ins, .instr .. => true
  | _, _ => false

def Task.cls : Task → Cls
  | .data d _ => .dir (bytesOf d.du.name)
  | .instr .. => .ins
  | .globalCopy .. => .dir (bytesOf "global")

theorem taskC_eq (C : Cls) (t : Task) : taskC C t = decide (t.cls = C) := by
  cases C <;> cases t <;> simp [taskC, Task.cls]

theorem taskC_iff {C : Cls} {t : Task} : taskC C t = true ↔ t.cls = C := by simp [taskC_eq]

/-- `Kind.ofDir s` (Lemmas/AsmCases.lean: what the directive `s` reports about itself) is `pushesC (.dir (bytesOf s))` without
`dirNotFound`, which only the dispatch reports -/
theorem pushes_ofDir {s : String} {k : Kind} (h : k.ofDir s) : pushesC (.dir (bytesOf s)) k = true := by
  cases k <;> simp [Kind.ofDir] at h <;> simp [pushesC, h]

theorem pushes_ofInstr {k : Kind} : k.ofInstr ↔ pushesC .ins k = true := by
  cases k <;> simp [Kind.ofInstr, pushesC]

/-- a retry of a statement, not the closure of `.global` -/
def Task.notCopy : Task → Bool
  | .globalCopy .. => false
  | _ => true

/-- the task belongs to the global queue: a retry rescheduled for the includer, or a closure of `.global` (which is queued
locally and handed up with the queue when its file is left) -/
def Task.isG : Task → Bool
  | .data _ g => g
  | .instr _ g => g
  | .globalCopy .. => true

/-- the label of an elementary action: what is pushed, that the regions / the tables change, what is queued where -/
inductive Lab where
  | push (f : Bytes) (l c : Nat) (k : Kind)
  | seg
  | tab
  | task (t : Task) (r : Realm)

def Lab.isPush : Lab → Bool
  | .push .. => true
  | _ => false

inductive Does : Lab → St → St → Prop
  | push (st : St) (f : Bytes) (l c : Nat) (k : Kind) : Does (.push f l c k) st (st.pushIn f l c k)
  | seg (st : St) (s' : Seg.State) : Does .seg st { st with seg := s' }
  | tab (st : St) (g : Table) (l : Option Table) : Does .tab st { st with globals := g, locals := l }
  | task {st st' : St} {t : Task} {r : Realm} : addTask st t r = .ok st' → Does (.task t r) st st'

/-- `st'` arises from `st` by actions whose labels satisfy `φ`; with the flag set, at least one of them is a push.
(`Scope.Acts`, `Lemmas/Scope.lean`, is the same idea for the scope machine, with other actions: table entries, log, queue.) -/
inductive Acts (φ : Lab → Prop) : Bool → St → St → Prop
  | refl (st : St) : Acts φ false st st
  | step {a : Lab} {st st' : St} (e : Bool) : φ a → Does a st st' → (e = true → a.isPush = true) → Acts φ e st st'
  | trans {e1 e2 : Bool} {a b c : St} : Acts φ e1 a b → Acts φ e2 b c → Acts φ (e1 || e2) a c

theorem Acts.lift {φ : Lab → Prop} {R : Bool → St → St → Prop} (hr : ∀ st, R false st st)
    (ht : ∀ {e1 e2 : Bool} {a b c : St}, R e1 a b → R e2 b c → R (e1 || e2) a c)
    (hs : ∀ {a : Lab} {st st' : St} (e : Bool), φ a → Does a st st' → (e = true → a.isPush = true) → R e st st')
    {e : Bool} {st st' : St} (h : Acts φ e st st') : R e st st' := by
  induction h with
  | refl st => exact hr st
  | step e hp hd he => exact hs e hp hd he
  | trans _ _ ih1 ih2 => exact ht ih1 ih2

theorem Acts.rel {φ : Lab → Prop} {R : St → St → Prop} (hr : ∀ st, R st st)
    (ht : ∀ {a b c : St}, R a b → R b c → R a c) (hs : ∀ {a : Lab} {st st' : St}, φ a → Does a st st' → R st st')
    {e : Bool} {st st' : St} (h : Acts φ e st st') : R st st' :=
  h.lift (R := fun _ => R) hr ht fun _ hp hd _ => hs hp hd

theorem Acts.weaken {φ : Lab → Prop} {e : Bool} {st st' : St} (h : Acts φ e st st') : Acts φ false st st' := by
  induction h with
  | refl st => exact .refl st
  | step e hp hd _ => exact .step false hp hd (fun h => nomatch h)
  | trans _ _ ih1 ih2 => exact .trans ih1 ih2

theorem Acts.transL {φ : Lab → Prop} {e1 e2 : Bool} {a b c : St} (h1 : Acts φ e1 a b) (h2 : Acts φ e2 b c) :
    Acts φ e1 a c := by
  have := h1.trans h2.weaken
  rwa [Bool.or_false] at this

theorem Acts.transR {φ : Lab → Prop} {e1 e2 : Bool} {a b c : St} (h1 : Acts φ e1 a b) (h2 : Acts φ e2 b c) :
    Acts φ e2 a c := by
  have := h1.weaken.trans h2
  rwa [Bool.false_or] at this

/-- after a first attempt that led from `st0` to `st1`: the write acts within `φ`, and `φ` lets the retry be queued -/
theorem placeholder_acts {φ : Lab → Prop} {α : Type} {w : Out (α × St × Res)} {task : α → Task} {e : Bool} {st0 st1 : St}
    (a1 : Acts φ e st0 st1)
    (hw : w.Spec fun x => Acts φ x.2.2.isErr st1 x.2.1 ∧ (x.2.2 = .ok → φ (.task (task x.1) .loc))) :
    (placeholder w task).Spec fun y => Acts φ y.2.isErr st0 y.1 := by
  unfold placeholder
  split
  · obtain ⟨a2, ht⟩ := hw
    split
    · rename_i hs; exact (a1.transR a2).transL (.step (a := .task _ _) false (ht rfl) (.task hs) fun h => nomatch h)
    · exact addTask_stop ‹_›
  · exact a1.transR hw.1
  · exact hw

/-- what a statement or a task may do besides reporting and writing to the regions: `tab`: change the constant tables;
`queue r t`: queue the task `t` in the queue `r` -/
structure May where
  tab : Bool
  queue : Realm → Task → Prop

/-- touches no table; what it queues, in its own file, is a retry: `.addr .align .du* .dhex .dstr .dfile`, instructions -/
def May.silent : May := ⟨false, fun r t => r = .loc ∧ t.notCopy = true⟩

/-- the allowed actions of a statement or task of class `C` reporting at `(f, l, c)`: a diagnostic of the class at the
site, any change of the regions, the tables if `m.tab`, a task of the class that will report at the same site, queued as
`m.queue` says -/
def Lab.ok (C : Cls) (f : Bytes) (l c : Nat) (m : May) : Lab → Prop
  | .push f' l' c' k => (f' = f ∧ l' = l ∧ c' = c) ∧ pushesC C k = true
  | .seg => True
  | .tab => m.tab = true
  | .task t r => m.queue r t ∧ t.at f l c ∧ taskC C t = true

section
variable {C : Cls} {f : Bytes} {l c : Nat} {m : May}

theorem acts_pushIn {e : Bool} (st : St) {k : Kind} (hk : pushesC C k = true) : Acts (Lab.ok C f l c m) e st (st.pushIn f l c k) :=
  .step (a := .push f l c k) e ⟨⟨rfl, rfl, rfl⟩, hk⟩ (.push ..) fun _ => rfl

theorem acts_seg (st : St) (s' : Seg.State) : Acts (Lab.ok C f l c m) false st { st with seg := s' } :=
  .step (a := .seg) false trivial (.seg ..) fun h => nomatch h

theorem acts_seg_pushIn {e : Bool} (st : St) (s' : Seg.State) {k : Kind} (hk : pushesC C k = true) :
    Acts (Lab.ok C f l c m) e st (({ st with seg := s' } : St).pushIn f l c k) :=
  (acts_seg st s').transR (acts_pushIn _ hk)

theorem acts_task {st st' : St} {t : Task} {r : Realm} (h : addTask st t r = .ok st') (hq : m.queue r t) (ht : t.at f l c)
    (hc : taskC C t = true) : Acts (Lab.ok C f l c m) false st st' :=
  .step (a := .task t r) false ⟨hq, ht, hc⟩ (.task h) fun h => nomatch h

theorem insertConstant_does {st st' : St} {n : Bytes} {v : Int} {r : Realm} {x : Except CErr Bool}
    (h : insertConstant st n v r = .ok (st', x)) : Does .tab st st' := by
  have e : st' = { st with globals := st'.globals, locals := st'.locals } := by
    unfold insertConstant at h
    repeat' split at h
    all_goals first | (cases h; done) | (cases h; rfl)
  rw [e]; exact .tab ..

theorem deferConstant_does {st st' : St} {n : Bytes} {r : Realm} {x : Except CErr Unit}
    (h : deferConstant st n r = .ok (st', x)) : Does .tab st st' := by
  have e : st' = { st with globals := st'.globals, locals := st'.locals } := by
    unfold deferConstant at h
    repeat' split at h
    all_goals first | (cases h; done) | (cases h; rfl)
  rw [e]; exact .tab ..

theorem acts_insert {st st' : St} {n : Bytes} {v : Int} {r : Realm} {x : Except CErr Bool} (ht : m.tab = true)
    (h : insertConstant st n v r = .ok (st', x)) : Acts (Lab.ok C f l c m) false st st' :=
  .step (a := .tab) false ht (insertConstant_does h) fun h' => nomatch h'

theorem acts_defer {st st' : St} {n : Bytes} {r : Realm} {x : Except CErr Unit} (ht : m.tab = true)
    (h : deferConstant st n r = .ok (st', x)) : Acts (Lab.ok C f l c m) false st st' :=
  .step (a := .tab) false ht (deferConstant_does h) fun h' => nomatch h'

theorem writeData_acts {d : DataExpr} {st : St} {bytes : Bytes} (hd : d.at f l c) (hC : C = .dir (bytesOf d.du.name)) :
    (d.writeData st bytes).Spec fun x => Acts (Lab.ok C f l c m) x.2.2.isErr st x.2.1 ∧ x.1.at f l c ∧ x.1.du = d.du := by
  obtain ⟨rfl, rfl, rfl⟩ := hd
  unfold DataExpr.writeData
  split
  · exact ⟨acts_seg .., ⟨rfl, rfl, rfl⟩, rfl⟩
  · exact ⟨acts_seg_pushIn _ _ (hC ▸ pushes_ofDir rfl), ⟨rfl, rfl, rfl⟩, rfl⟩
  · exact writeStmt_stop ‹_›

theorem writer_acts {d : DataExpr} {st : St} (hd : d.at f l c) (hC : C = .dir (bytesOf d.du.name)) :
    (d.writer st).Spec fun x => Acts (Lab.ok C f l c m) x.2.2.isErr st x.2.1 ∧ x.1.at f l c ∧ x.1.du = d.du := by
  have hp : ∀ {k : Kind}, k.ofDir d.du.name → Acts (Lab.ok C f l c m) true st (st.pushIn d.file d.line d.col k) ∧ d.at f l c ∧ d.du = d.du := by
    obtain ⟨rfl, rfl, rfl⟩ := hd
    exact fun hk => ⟨acts_pushIn _ (hC ▸ pushes_ofDir hk), ⟨rfl, rfl, rfl⟩, rfl⟩
  unfold DataExpr.writer
  split
  · split
    · exact writeData_acts hd hC
    · exact hp rfl
  · exact hp rfl

theorem apply_acts {d : DataExpr} {env : Env} {st : St} {loc : Bool} (hd : d.at f l c) (hC : C = .dir (bytesOf d.du.name)) :
    (d.apply env st loc).Spec fun x => Acts (Lab.ok C f l c m) x.2.2.isErr st x.2.1 ∧ x.1.at f l c ∧ x.1.du = d.du := by
  have hp : ∀ {k : Kind} {a : Arg}, k.ofDir d.du.name →
      Acts (Lab.ok C f l c m) true st (st.pushIn d.file d.line d.col k) ∧ ({ d with arg := a } : DataExpr).at f l c ∧ d.du = d.du := by
    obtain ⟨rfl, rfl, rfl⟩ := hd
    exact fun hk => ⟨acts_pushIn _ (hC ▸ pushes_ofDir hk), ⟨rfl, rfl, rfl⟩, rfl⟩
  unfold DataExpr.apply
  split
  · rename_i a _
    have w := writer_acts (C := C) (m := m) (d := { d with arg := a }) (st := st) hd hC
    split
    · rename_i hw; exact w.ok hw
    · rename_i hw; exact w.ok hw
    · rename_i hw; exact w.stop hw
  · exact ⟨.refl _, hd, rfl⟩
  · split
    · exact ⟨.refl _, hd, rfl⟩
    · exact hp rfl
  · exact hp rfl
  · exact evalArg_stop ‹_›

theorem runDataTask_acts {d : DataExpr} {g : Bool} {env : Env} {st : St} (hd : d.at f l c)
    (hC : C = .dir (bytesOf d.du.name)) (hq : g = false → ∀ d', m.queue .global (.data d' true)) :
    (runDataTask d g env st).Spec fun x => Acts (Lab.ok C f l c m) x.2.isErr st x.1 := by
  have ap := apply_acts (C := C) (m := m) (env := env) (st := st) (loc := false) hd hC
  unfold runDataTask
  split
  · rename_i ha; exact (ap.ok ha).1
  · rename_i ha
    obtain ⟨a1, hd1, hdu⟩ := ap.ok ha
    dsimp only at a1 hd1 hdu
    split
    · obtain ⟨rfl, rfl, rfl⟩ := hd1
      exact a1.transR (acts_pushIn _ (hC ▸ pushes_ofDir (by rw [← hdu]; rfl)))
    · rename_i hg
      split
      · rename_i hs; exact a1.transL (acts_task hs (hq (by simpa using hg) _) hd1 (by simp [hC, taskC, hdu]))
      · exact addTask_stop ‹_›
  · rename_i ha; exact (ap.ok ha).1
  · rename_i ha; exact ap.stop ha

theorem assembleI_acts {i : ArmInstr} {env : Env} {st : St} {loc : Bool} (hi : i.at f l c) (hC : C = .ins) :
    (i.assemble env st loc).Spec fun x => Acts (Lab.ok C f l c m) x.2.2.isErr st x.2.1 ∧ x.1.at f l c := by
  obtain ⟨rfl, rfl, rfl⟩ := hi
  unfold ArmInstr.assemble
  split
  · split
    · rfl
    · split
      · exact ⟨.refl _, rfl, rfl, rfl⟩
      · exact ⟨.refl _, rfl, rfl, rfl⟩
      · exact ⟨acts_pushIn _ (hC ▸ pushes_ofInstr.mp (frontKind_ofInstr _)), rfl, rfl, rfl⟩
      · rfl
  · exact evalTable_stop ‹_›

theorem writeInstr_acts {enc : Encoder} {i : ArmInstr} {st : St} {df : Bool} (hi : i.at f l c) (hC : C = .ins) :
    (i.writeInstr enc st df).Spec fun x => Acts (Lab.ok C f l c m) x.2.2.isErr st x.2.1 ∧ x.1.at f l c := by
  obtain ⟨rfl, rfl, rfl⟩ := hi
  unfold ArmInstr.writeInstr
  split
  · exact ⟨acts_pushIn _ (hC ▸ rfl), rfl, rfl, rfl⟩
  · simp only
    split
    · exact ⟨acts_seg .., rfl, rfl, rfl⟩
    · exact ⟨acts_seg_pushIn _ _ (hC ▸ rfl), rfl, rfl, rfl⟩
    · exact writeStmt_stop ‹_›

theorem runInstrTask_acts {enc : Encoder} {i : ArmInstr} {g : Bool} {env : Env} {st : St} (hi : i.at f l c) (hC : C = .ins)
    (hq : g = false → ∀ i', m.queue .global (.instr i' true)) :
    (runInstrTask enc i g env st).Spec fun x => Acts (Lab.ok C f l c m) x.2.isErr st x.1 := by
  have ai := assembleI_acts (C := C) (m := m) (env := env) (st := st) (loc := false) hi hC
  unfold runInstrTask
  split
  · rename_i i1 st1 ha
    obtain ⟨a1, hi1⟩ := ai.ok ha
    have wi := writeInstr_acts (C := C) (m := m) (enc := enc) (st := st1) (df := false) hi1 hC
    split
    · rename_i hw; exact a1.transR (wi.ok hw).1
    · rename_i hw; exact wi.stop hw
  · rename_i ha
    obtain ⟨a1, hi1⟩ := ai.ok ha
    dsimp only at a1 hi1
    split
    · obtain ⟨rfl, rfl, rfl⟩ := hi1
      exact a1.transR (acts_pushIn _ (by rw [hC]; rfl))
    · rename_i hg
      split
      · rename_i hs; exact a1.transL (acts_task hs (hq (by simpa using hg) _) hi1 (by rw [hC]; rfl))
      · exact addTask_stop ‹_›
  · rename_i ha; exact (ai.ok ha).1
  · rename_i ha; exact ai.stop ha

end

section
variable {C : Cls} {l c : Nat} {m : May} {env : Env}

theorem acts_push {e : Bool} (st : St) {k : Kind} (hk : pushesC C k = true) : Acts (Lab.ok C env.curName l c m) e st (st.push env l c k) :=
  acts_pushIn st hk

theorem duDirective_acts {du : DU} {st : St} {args : List Arg} (hC : C = .dir (bytesOf du.name))
    (hq : ∀ d, m.queue .loc (.data d false)) :
    (duDirective du env st l c args).Spec fun x => Acts (Lab.ok C env.curName l c m) x.2.isErr st x.1 := by
  cases hc : currAddr st with
  | none => simp only [duDirective, hc]; exact acts_push _ (hC ▸ pushes_ofDir rfl)
  | some addr =>
    cases har : arity du.name 1 args.length with
    | some k => simp only [duDirective, hc, har]; exact acts_push _ (hC ▸ pushes_ofDir (arity_ofDir har))
    | none =>
      obtain ⟨a, rfl⟩ := arity_one har
      have ap := apply_acts (C := C) (m := m) (d := ⟨du, env.curName, l, c, addr, a, false⟩) (env := env) (st := st)
        (loc := true) ⟨rfl, rfl, rfl⟩ hC
      rw [duDirective_one du env st l c a hc]
      split
      · rename_i ha; exact (ap.ok ha).1
      · rename_i ha
        obtain ⟨a1, hd1, hdu⟩ := ap.ok ha
        dsimp only at a1 hd1 hdu
        exact placeholder_acts a1 ((writeData_acts hd1 (hdu ▸ hC)).mono
          (fun x hx => ⟨hx.1, fun _ => ⟨hq _, hx.2.1, by simp [hC, taskC, hx.2.2, hdu]⟩⟩) fun _ => id)
      · rename_i ha; exact ap.stop ha

theorem instruction_acts {enc : Encoder} {st : St} {name : Bytes} {args : List Arg} (hC : C = .ins)
    (hq : ∀ i, m.queue .loc (.instr i false)) :
    (instruction enc env st l c name args).Spec fun x => Acts (Lab.ok C env.curName l c m) x.2.isErr st x.1 := by
  cases hc : currAddr st with
  | none => simp only [instruction, hc]; rfl
  | some addr =>
    cases hm : Front.mnemonic name with
    | none => simp only [instruction, hc, hm]; exact acts_push _ (hC ▸ rfl)
    | some t =>
      have ai := assembleI_acts (C := C) (m := m) (i := ⟨env.curName, l, c, ⟨addr, t, 0, args⟩, false⟩) (env := env) (st := st)
        (loc := true) ⟨rfl, rfl, rfl⟩ hC
      rw [instruction_one enc env st l c name args hc hm]
      split
      · rename_i i1 st1 ha
        obtain ⟨a1, hi1⟩ := ai.ok ha
        have wi := writeInstr_acts (C := C) (m := m) (enc := enc) (st := st1) (df := false) hi1 hC
        split
        · rename_i hw; exact a1.transR (wi.ok hw).1
        · rename_i hw; exact wi.stop hw
      · rename_i ha
        obtain ⟨a1, hi1⟩ := ai.ok ha
        exact placeholder_acts a1 ((writeInstr_acts hi1 hC).mono
          (fun x hx => ⟨hx.1, fun _ => ⟨hq _, hx.2, by rw [hC]; rfl⟩⟩) fun _ => id)
      · rename_i ha; exact ai.stop ha

theorem evalStrict_acts {dir : String} {st : St} {a : Arg} (hC : C = .dir (bytesOf dir)) :
    (evalStrict dir env st l c a).Spec fun x => ∀ st' r, x = .error (st', r) → Acts (Lab.ok C env.curName l c m) r.isErr st st' := by
  subst hC
  unfold evalStrict
  split
  · exact fun _ _ e => nomatch e
  · exact fun _ _ e => by cases e; exact acts_push _ (pushes_ofDir rfl)
  · exact fun _ _ e => by cases e; exact acts_push _ (pushes_ofDir rfl)
  · exact fun _ _ e => by cases e; exact acts_push _ (pushes_ofDir rfl)
  · exact evalArg_stop ‹_›

theorem segResult_acts {st : St} {op : Seg.Op} {mk : Seg.Diag → Kind} (hmk : ∀ e, pushesC C (mk e) = true) :
    (segResult st env l c op mk).Spec fun x => Acts (Lab.ok C env.curName l c m) x.2.isErr st x.1 := by
  unfold segResult
  split
  · exact acts_seg_pushIn _ _ (hmk _)
  · exact acts_seg ..
  · exact segStep_stop ‹_›

theorem addrDirective_acts {st : St} {args : List Arg} (hC : C = .dir (bytesOf "addr")) :
    (addrDirective env st l c args).Spec fun x => Acts (Lab.ok C env.curName l c m) x.2.isErr st x.1 := by
  unfold addrDirective
  split
  · rename_i hk; exact acts_push _ (hC ▸ pushes_ofDir (arity_ofDir hk))
  · split
    · split
      · rename_i he; exact (evalStrict_acts hC).ok he _ _ rfl
      · split
        · exact segResult_acts (mk := fun e => .dirApply "addr" (.addrSegment e)) (fun _ => hC ▸ rfl)
        · exact acts_push _ (hC ▸ rfl)
      · exact acts_push _ (hC ▸ rfl)
      · rename_i he; exact (evalStrict_acts (C := C) (m := m) hC).stop he
    · rfl

theorem alignDirective_acts {st : St} {args : List Arg} (hC : C = .dir (bytesOf "align")) :
    (alignDirective env st l c args).Spec fun x => Acts (Lab.ok C env.curName l c m) x.2.isErr st x.1 := by
  unfold alignDirective
  split
  · exact acts_push _ (hC ▸ rfl)
  · split
    · rename_i hk; exact acts_push _ (hC ▸ pushes_ofDir (arity_ofDir hk))
    · split
      · split
        · rename_i he; exact (evalStrict_acts hC).ok he _ _ rfl
        · split
          · rfl
          · split
            · split
              · simp only
                split
                · exact .refl _
                · split
                  · rfl
                  · split
                    · exact segResult_acts (mk := fun e => .dirApply "align" (.alignWrite e)) (fun _ => hC ▸ rfl)
                    · exact acts_push _ (hC ▸ rfl)
              · exact acts_push _ (hC ▸ rfl)
            · exact acts_push _ (hC ▸ rfl)
        · rename_i he; exact (evalStrict_acts (C := C) (m := m) hC).stop he
      · rfl

theorem appendData_acts {dir : String} {st : St} {d : Bytes} (hC : C = .dir (bytesOf dir)) :
    (appendData dir env st l c d).Spec fun x => Acts (Lab.ok C env.curName l c m) x.2.isErr st x.1 :=
  segResult_acts (mk := fun e => .dirApply dir (.dataWrite e)) (fun _ => hC ▸ pushes_ofDir rfl)

theorem stringDirective_acts {fs : Bytes → Option Bytes} {dir : String} {st : St} {args : List Arg}
    (hC : C = .dir (bytesOf dir)) : (stringDirective fs dir env st l c args).Spec fun x => Acts (Lab.ok C env.curName l c m) x.2.isErr st x.1 := by
  have hp : ∀ {e : Bool} (st : St) {k : Kind}, k.ofDir dir → Acts (Lab.ok C env.curName l c m) e st (st.push env l c k) :=
    fun st _ hk => acts_push st (hC ▸ pushes_ofDir hk)
  unfold stringDirective
  split
  · exact hp _ rfl
  · split
    · rename_i hk; exact hp _ (arity_ofDir hk)
    · split
      · split
        · split
          · exact hp _ rfl
          · exact hp _ rfl
          · exact appendData_acts hC
        · split
          · exact appendData_acts hC
          · split
            · rfl
            · split
              · exact hp _ rfl
              · exact appendData_acts hC
      · exact hp _ rfl
      · rfl

theorem constDirective_acts {st : St} {args : List Arg} (hC : C = .dir (bytesOf "const"))
    (ht : m.tab = true) :
    (constDirective env st l c args).Spec fun x => Acts (Lab.ok C env.curName l c m) x.2.isErr st x.1 := by
  unfold constDirective
  split
  · rename_i hk; exact acts_push _ (hC ▸ pushes_ofDir (arity_ofDir hk))
  · split
    · split
      · rename_i he; exact (evalStrict_acts hC).ok he _ _ rfl
      · split
        · rename_i hi; exact acts_insert ht hi
        · rename_i hi; exact (acts_insert ht hi).transR (acts_push _ (hC ▸ rfl))
        · rename_i hi; exact (acts_insert ht hi).transR (acts_push _ (hC ▸ rfl))
        · exact insertConstant_stop ‹_›
      · exact acts_push _ (hC ▸ rfl)
      · rename_i he; exact (evalStrict_acts (C := C) (m := m) hC).stop he
    · exact acts_push _ (hC ▸ rfl)
    · rfl

theorem runGlobalCopy_acts {name : Bytes} {st : St} (hC : C = .dir (bytesOf "global")) (ht : m.tab = true) :
    (runGlobalCopy name l c env st).Spec fun x => Acts (Lab.ok C env.curName l c m) x.2.isErr st x.1 := by
  unfold runGlobalCopy
  split
  · exact acts_push _ (hC ▸ rfl)
  · exact acts_push _ (hC ▸ rfl)
  · rename_i hg
    split
    · rename_i hi; exact acts_insert ht hi
    · rename_i hi; exact (acts_insert ht hi).transR (acts_push _ (hC ▸ rfl))
    · rfl
    · exact insertConstant_stop ‹_›
  · exact getConstant_stop ‹_›

/-- `.global n`: announced to the includer, then filled from the file's own table, or announced there too and the closure
queued; `.import n` / `.export n`: the value found on one side is inserted on the other (`.import` of an announced name
announces) -/
theorem globalDirective_acts {g : GDir} {st : St} {args : List Arg} (hC : C = .dir (bytesOf g.name))
    (ht : (∃ n, args = [.ident n]) → m.tab = true) (hq : g = .global → ∀ n, args = [.ident n] → m.queue .loc (.globalCopy n l c)) : (globalDirective g env st l c args).Spec fun x => Acts (Lab.ok C env.curName l c m) x.2.isErr st x.1 := by
  have hp : ∀ {e : Bool} (st : St) {k : Kind}, k.ofDir g.name → Acts (Lab.ok C env.curName l c m) e st (st.push env l c k) :=
    fun st _ hk => acts_push st (hC ▸ pushes_ofDir hk)
  unfold globalDirective
  split
  · rename_i hk; exact hp _ (arity_ofDir hk)
  · split
    · rename_i name _
      have ht := ht ⟨name, rfl⟩
      split
      · split
        · rename_i hd1
          have a1 := acts_defer (C := C) (f := env.curName) (l := l) (c := c) ht hd1
          split
          · rename_i hgf
            split
            · rename_i hi; exact a1.trans (acts_insert ht hi)
            · rfl
            · exact insertConstant_stop ‹_›
          · simp only
            split
            · rename_i st2 hdef
              have a2 : Acts (Lab.ok C env.curName l c m) false st st2 := by
                split at hdef
                · split at hdef
                  · rename_i hd2; cases hdef; exact a1.trans (acts_defer ht hd2)
                  · cases hdef
                  · cases hdef
                · cases hdef; exact a1
              split
              · rename_i hs; exact a2.trans (acts_task hs (hq rfl _ rfl) ⟨rfl, rfl⟩ (by rw [hC]; rfl))
              · exact addTask_stop ‹_›
            · rename_i hdef
              split at hdef
              · split at hdef
                · cases hdef
                · cases hdef; rfl
                · cases hdef; exact deferConstant_stop ‹_›
              · cases hdef
          · exact getConstant_stop ‹_›
        · rename_i hd1; exact (acts_defer ht hd1).transR (hp _ rfl)
        · rename_i hd1; exact (acts_defer ht hd1).transR (hp _ rfl)
        · exact deferConstant_stop ‹_›
      · rename_i hg
        simp only
        split
        · exact hp _ rfl
        · split
          · rename_i hi; subst hi
            simp only [reduceCtorEq, if_false]
            split
            · rename_i hd; exact acts_defer ht hd
            · rename_i hd; exact (acts_defer ht hd).transR (hp _ rfl)
            · rfl
            · exact deferConstant_stop ‹_›
          · exact hp _ rfl
        · split
          · rename_i hi; exact acts_insert ht hi
          · rename_i hi; exact (acts_insert ht hi).transR (hp _ rfl)
          · rfl
          · exact insertConstant_stop ‹_›
        · exact getConstant_stop ‹_›
    · exact hp _ rfl
    · rfl

end

/-- a statement may change the tables and queues in its own file -/
def May.stmt : May := ⟨true, fun r _ => r = .loc⟩

theorem directive_acts {fs : Bytes → Option Bytes} {inc : Inc} {env : Env} {st : St} {l c : Nat} {name : Bytes}
    {args : List Arg} (hni : name ≠ bytesOf "include") :
    (directive fs inc env st l c name args).Spec fun x => Acts (Lab.ok (.dir name) env.curName l c .stmt) x.2.isErr st x.1 := by
  refine directive_cases (P := fun o => o.Spec fun x => Acts _ x.2.isErr st x.1) (addr := ?addr) (align := ?align)
    (const := ?const) (du := ?du) (str := ?str) (glob := ?glob) (incl := fun e => absurd e hni) (unk := ?unk)
  case addr => rintro rfl; exact addrDirective_acts rfl
  case align => rintro rfl; exact alignDirective_acts rfl
  case const => rintro rfl; exact constDirective_acts rfl rfl
  case du => rintro du rfl; exact duDirective_acts rfl (fun _ => rfl)
  case str => rintro dir _ rfl; exact stringDirective_acts rfl
  case glob => rintro g rfl; exact globalDirective_acts rfl (fun _ => rfl) (fun _ _ _ => rfl)
  case unk => exact acts_pushIn _ (by simp [pushesC])

theorem statement_acts {fs : Bytes → Option Bytes} {enc : Encoder} {inc : Inc} {env : Env} {st : St} {el : Element}
    (hni : ∀ as, el.val ≠ .directive (bytesOf "include") as) :
    (statement fs enc inc env st el).Spec fun x =>
      Acts (Lab.ok (Cls.of el.val) env.curName el.line el.col .stmt) x.2.isErr st x.1 := by
  obtain ⟨l, c, v⟩ := el
  cases v with
  | label name =>
    simp only [statement]
    split
    · exact acts_pushIn _ rfl
    · split
      · rename_i hi; exact acts_insert rfl hi
      · rename_i hi; exact (acts_insert rfl hi).transR (acts_pushIn _ rfl)
      · exact insertConstant_stop ‹_›
  | directive name args =>
    simp only [statement]
    exact directive_acts (fun e => hni args (by rw [e]))
  | instruction name args =>
    simp only [statement]
    split
    · exact acts_pushIn _ rfl
    · exact instruction_acts rfl (fun _ => rfl)

/-- a `.global` closure changes the includer's table; a file's own retry reschedules itself for the includer -/
def May.ofTask (t0 : Task) : May :=
  ⟨!t0.notCopy, fun r t => r = .global ∧ t.notCopy = true ∧ t.isG = true ∧ t0.isG = false⟩

theorem runTask_acts {enc : Encoder} {env : Env} {st : St} {t : Task} :
    (runTask enc env st t).Spec fun x =>
      Acts (Lab.ok t.cls (t.site env).1 (t.site env).2.1 (t.site env).2.2 (.ofTask t)) x.2.isErr st x.1 := by
  cases t with
  | data d g => exact runDataTask_acts ⟨rfl, rfl, rfl⟩ rfl (fun hg _ => ⟨rfl, rfl, rfl, hg⟩)
  | instr i g => exact runInstrTask_acts ⟨rfl, rfl, rfl⟩ rfl (fun hg _ => ⟨rfl, rfl, rfl, hg⟩)
  | globalCopy n l c => exact runGlobalCopy_acts rfl rfl

/-- `runTask_acts` at a site given as `Task.at` (the `.global` closure does not store its file) -/
theorem runTask_acts_at {enc : Encoder} {env : Env} {st : St} {t : Task} {f : Bytes} {l c : Nat}
    (ht : t.at f l c) (hf : ∀ n l' c', t = .globalCopy n l' c' → f = env.curName) :
    (runTask enc env st t).Spec fun x => Acts (Lab.ok t.cls f l c (.ofTask t)) x.2.isErr st x.1 := by
  have e : t.site env = (f, l, c) := by
    cases t with
    | data d g => obtain ⟨rfl, rfl, rfl⟩ := ht; rfl
    | instr i g => obtain ⟨rfl, rfl, rfl⟩ := ht; rfl
    | globalCopy n l' c' => obtain ⟨rfl, rfl⟩ := ht; rw [hf n _ _ rfl]; rfl
  have := runTask_acts (enc := enc) (env := env) (st := st) (t := t)
  rwa [e] at this

/-! ## below `.include` a stop is a panic: the other half of the walk -/

theorem runTask_stop {enc : Encoder} {env : Env} {st : St} {t : Task} {z : Stop} (h : runTask enc env st t = .stop z) :
    z = .panic := by
  exact runTask_acts.stop h

theorem statement_stop {fs : Bytes → Option Bytes} {enc : Encoder} {inc : Inc} {env : Env} {st : St} {el : Element}
    {z : Stop} (h : statement fs enc inc env st el = .stop z) :
    z = .panic ∨ ∃ data path, inc env st data path = .stop z := by
  by_cases hi : ∃ as, el.val = .directive (bytesOf "include") as
  · obtain ⟨as, hv⟩ := hi
    simp only [statement, hv, directive_include] at h
    exact (includeDirective_stop h).elim fun d hp => hp.elim fun p hs => .inr ⟨d, p, hs.2⟩
  · exact .inl ((statement_acts (fun as e => hi ⟨as, e⟩)).stop h)

end Trion.Asm
