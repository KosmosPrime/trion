import TrionModel.Lemmas.AsmRetry
import TrionModel.Lemmas.AsmLayout
import TrionModel.Spec.Layout
/-!
# The abstraction of a parsed single file to a program of the layout core (C05), and the simulation relation

`abstract num fs enc path T c els`: the statements of a file as `Layout.Stmt`s, given the FINAL symbol table `T` of
the file and the reference cursor `c` in front of them (an instruction's bytes depend on its address):
`.addr a` / `.align n` with the value of their operand, `label`, `const` with its value and the names its expression
needs, `raw bytes` for `.dstr/.dhex/.dfile` and for instructions / `.du*` whose operands need no name,
`emit len deps final` otherwise — `len` the length fixed by the mnemonic / directive, `deps` the (numbered)
non-register identifiers of the evaluated operands, `final` the bytes of the statement evaluated in the FINAL table.
-/
namespace Trion.Asm
open Trion

mutual
/-- the non-register identifiers of a tree, in evaluation order -/
def idents : Arg → List Bytes
  | .const _ => []
  | .ident s => if Front.isRegister s then [] else [s]
  | .str _ => []
  | .bin _ l r => idents l ++ idents r
  | .neg a => idents a
  | .not a => idents a
  | .addr a => idents a
  | .seq as => identsArgs as
  | .func _ as => identsArgs as
def identsArgs : Args → List Bytes
  | .nil => []
  | .cons a as => idents a ++ identsArgs as
end

theorem evaluateE_ok_idents (lk : Bytes → Simp.Lookup) : ∀ a ev a',
    Simp.evaluateE lk Front.isRegister a = .ok ev a' → ∀ s ∈ idents a, lk s ≠ .notFound :=
  (Simp.evaluateE_ok_ind lk Front.isRegister (R := fun a _ _ => ∀ s ∈ idents a, lk s ≠ .notFound)
    (Rs := fun as _ _ => ∀ s ∈ identsArgs as, lk s ≠ .notFound)
    (fun _ s hs => by simp [idents] at hs) (fun _ s hs => by simp [idents] at hs)
    (fun s hr x hx => by simp [idents, hr] at hx)
    (fun s hr hl x hx => by simp [idents, hr] at hx; subst hx; simp [hl])
    (fun s v hr hl x hx => by simp [idents, hr] at hx; subst hx; simp [hl])
    (fun _ _ _ _ _ _ _ _ _ _ _ ihl ihr _ x hx => by
      simp only [idents, List.mem_append] at hx
      exact hx.elim (ihl x) (ihr x))
    (fun _ _ _ _ _ _ ih _ x hx => ih x (by simpa only [idents] using hx))
    (fun _ _ _ _ _ _ ih _ x hx => ih x (by simpa only [idents] using hx))
    (fun _ _ _ _ _ _ ih _ x hx => ih x (by simpa only [idents] using hx))
    (fun _ _ _ ih x hx => ih x (by simpa only [idents] using hx))
    (fun _ _ _ _ ih x hx => ih x (by simpa only [idents] using hx))
    (fun s hs => by simp [identsArgs] at hs)
    (fun _ _ _ _ _ _ iha ihas x hx => by
      simp only [identsArgs, List.mem_append] at hx
      exact hx.elim (iha x) (ihas x))).1

theorem evaluateE_nosuch_idents (lk : Bytes → Simp.Lookup) : ∀ a n a₁,
    Simp.evaluateE lk Front.isRegister a = .nosuch n a₁ → n ∈ idents a ∧ lk n = .notFound :=
  (Simp.evaluateE_nosuch_ind lk Front.isRegister (R := fun a n _ => n ∈ idents a ∧ lk n = .notFound)
    (Rs := fun as n _ => n ∈ identsArgs as ∧ lk n = .notFound)
    (fun s hr hl => ⟨by simp [idents, hr], hl⟩)
    (fun _ _ _ _ _ _ ih => ⟨by simp only [idents, List.mem_append]; exact .inl ih.1, ih.2⟩)
    (fun _ _ _ _ _ _ _ _ _ ih => ⟨by simp only [idents, List.mem_append]; exact .inr ih.1, ih.2⟩)
    (fun _ _ _ ih => ⟨by simpa only [idents] using ih.1, ih.2⟩)
    (fun _ _ _ ih => ⟨by simpa only [idents] using ih.1, ih.2⟩)
    (fun _ _ _ ih => ⟨by simpa only [idents] using ih.1, ih.2⟩)
    (fun _ _ _ ih => ⟨by simpa only [idents] using ih.1, ih.2⟩)
    (fun _ _ _ _ ih => ⟨by simpa only [idents] using ih.1, ih.2⟩)
    (fun _ _ _ _ ih => ⟨by simp only [identsArgs, List.mem_append]; exact .inl ih.1, ih.2⟩)
    (fun _ _ _ _ _ _ _ _ ih => ⟨by simp only [identsArgs, List.mem_append]; exact .inr ih.1, ih.2⟩)).1

def Table.val (t : Table) (n : Bytes) : Option Int :=
  match t.find n with
  | some (some v) => some v
  | _ => none

theorem evalIn_complete_idents {t : Table} {a a' : Arg} (h : evalIn t a = .ok (.complete a')) :
    ∀ s ∈ idents a, t.find s ≠ none := by
  obtain ⟨ev, he, _⟩ := evalIn_complete_iff.1 h
  intro s hs hf
  exact evaluateE_ok_idents _ _ _ _ he s hs (by simp [Table.get, hf])

theorem evalIn_noSuch_idents {t : Table} {a a₁ : Arg} {n : Bytes} (h : evalIn t a = .ok (.noSuch n a₁)) :
    n ∈ idents a ∧ t.find n = none := by
  obtain ⟨h1, h2⟩ := evaluateE_nosuch_idents _ _ _ _ (evalIn_noSuch_iff.1 h)
  exact ⟨h1, get_notFound h2⟩

/-- the names an instruction's bytes depend on: `idents` of the operands at the evaluating getters (`Kind.evals`) -/
def instrDeps : List Front.Kind → List Arg → List Bytes
  | k :: ks, a :: as => (if k.evals then idents a else []) ++ instrDeps ks as
  | _, _ => []

/-- the number `a` evaluates to over `t`, if its evaluation completes with one -/
def constVal (t : Table) (a : Arg) : Option Int :=
  match evalIn t a with
  | .ok (.complete (.const v)) => some v
  | _ => none

/-- the bytes of an instruction statement at `addr` over the table `t`: the encoding of its fresh assembly, or — a fallback
never met in a run without diagnostic (`InstrGen`) — 0xBE × its length, the placeholder byte of `Layout.placeholder`;
`duFinal` the same for `.du*` (`DuGen`) -/
def instrFinal (enc : Encoder) (t : Table) (addr : Nat) (tpl : Instr) (args : List Arg) : Bytes :=
  match Front.assemble ⟨addr, tpl, 0, args⟩ (frontEval t) true with
  | (fs2, .completed) =>
    match enc fs2.instr with
    | .ok b => b
    | .error _ => List.replicate (ilen tpl) 0xBE
  | _ => List.replicate (ilen tpl) 0xBE

def duFinal (t : Table) (du : DU) (a : Arg) : Bytes :=
  match constVal t a with
  | some v => if 0 ≤ v ∧ v ≤ du.max then leBytes du.size v.toNat else List.replicate du.size 0xBE
  | none => List.replicate du.size 0xBE

/-- the fallback of `absStmt`, an empty `.raw`: what a source statement the pipeline rejects is abstracted to (never met in
a run that succeeds without a diagnostic: `ElGen`) -/
def junk : Layout.Stmt := .raw []

/-- a statement whose bytes depend on the values of `deps` (an instruction, `.du*`): `raw` if it needs no name, else `emit` -/
def valueStmt (num : Bytes → Nat) (len : Nat) (deps : List Bytes) (final : Bytes) : Layout.Stmt :=
  if deps.isEmpty then .raw final else .emit len (deps.map num) final

def duOf (name : Bytes) : Option DU :=
  if name = bytesOf "du8" then some .u8 else if name = bytesOf "du16" then some .u16
  else if name = bytesOf "du32" then some .u32 else none

/-- the statement of the layout core a source statement is, over the final table `t` and with the reference cursor `c` in
front (an instruction's bytes depend on its address; `none` only before the first `.addr`, where no instruction is
accepted).  TRAP: the directive chain ends in the `.du*` arm, so a directive name that is not listed here falls through to
`junk`; nothing fails until `Multi.statement_sim_fate`, whose `directive_cases` has an arm per name.  A new directive needs
an arm here, the same arm in `ElGenW`, a `X_ok` inversion in Lemmas/AsmEq.lean and a `X_sim` lemma in Lemmas/AsmMultiStmt.lean;
a directive whose size depends on the cursor needs a constructor of `Layout.Stmt` of its own, as `.align` has. -/
def absStmt (num : Bytes → Nat) (fs : Bytes → Option Bytes) (enc : Encoder) (path : Bytes) (t : Table) (c : Option Nat)
    (el : Element) : Layout.Stmt :=
  match el.val with
  | .label name => .label (num name)
  | .instruction name args =>
    match Front.mnemonic name with
    | none => junk
    | some tpl =>
      valueStmt num (ilen tpl) (instrDeps (Front.kinds tpl) args.toList) (instrFinal enc t (c.getD 0) tpl args.toList)
  | .directive name args =>
    if name = bytesOf "addr" then
      match args.toList with
      | [a] => match constVal t a with | some v => .addr v.toNat | none => junk
      | _ => junk
    else if name = bytesOf "align" then
      match args.toList with
      | [a] => match constVal t a with | some v => .align v.toNat | none => junk
      | _ => junk
    else if name = bytesOf "const" then
      match args.toList with
      | [.ident n, b] => match constVal t b with | some v => .const (num n) ((idents b).map num) v | none => junk
      | _ => junk
    else if name = bytesOf "dhex" then
      match args.toList with
      | [.str s] => match dhexLoop s 0 none [] with | .ok (bytes, none) => .raw bytes | _ => junk
      | _ => junk
    else if name = bytesOf "dstr" then
      match args.toList with
      | [.str s] => .raw s
      | _ => junk
    else if name = bytesOf "dfile" then
      match args.toList with
      | [.str s] => match fs (sibling path s) with | some bytes => .raw bytes | none => junk
      | _ => junk
    else
      match duOf name, args.toList with
      | some du, [a] => valueStmt num du.size (idents a) (duFinal t du a)
      | _, _ => junk

def abstract (num : Bytes → Nat) (fs : Bytes → Option Bytes) (enc : Encoder) (path : Bytes) (t : Table) :
    Option Nat → List Element → List Layout.Stmt
  | _, [] => []
  | c, el :: els =>
    absStmt num fs enc path t c el ::
      abstract num fs enc path t (Layout.Ref.next c (absStmt num fs enc path t c el)) els

/-- not `.include/.global/.import/.export`: the statements of a one-file project (`Multi.okInc`, `Glob.okGlob` admit
`.include`, resp. `.include` and `.global`) -/
def okEl (el : Element) : Bool :=
  match el.val with
  | .directive name _ =>
    !(name = bytesOf "include" || name = bytesOf "global" || name = bytesOf "import" || name = bytesOf "export")
  | _ => true

/-- every operand tree is `plain` (Lemmas/SimpRetry.lean) -/
def plainEl (el : Element) : Bool :=
  match el.val with
  | .directive _ args => args.toList.all plainArg
  | .instruction _ args => args.toList.all plainArg
  | .label _ => true

def EnvRel (num : Bytes → Nat) (t : Table) (e : Layout.Env) : Prop := ∀ n, e.get (num n) = t.val n

/-- a queued statement of `Asm` and the task of the layout core for it: same address and length, placed, local; the
first attempt is on record (over which earlier table `t₁` it stopped, and at what), the dependencies are the operands'
names and the final bytes are the statement's bytes over `t₂`.  A task does not carry its source statement, hence the
existentials.  The closure of `.global` has no counterpart: it is excluded below the definition (`declOk`, `ElsOk`). -/
def TaskRel (num : Bytes → Nat) (enc : Encoder) (t₂ : Table) : Task → Layout.Task → Prop
  | .instr i g, lt =>
    g = false ∧ i.placed = true ∧ lt.addr = i.st.addr ∧ lt.len = ilen i.st.instr ∧
    ∃ tpl args t₁ c, Table.Sub t₁ t₂ ∧ Table.NoDef t₁ ∧
      Front.assemble ⟨i.st.addr, tpl, 0, args⟩ (frontEval t₁) true = (i.st, .deferred c) ∧
      lt.deps = (instrDeps (Front.kinds tpl) args).map num ∧ lt.final = instrFinal enc t₂ i.st.addr tpl args
  | .data d g, lt =>
    g = false ∧ d.placed = true ∧ lt.addr = d.addr ∧ lt.len = d.du.size ∧
    ∃ a t₁ n, Table.Sub t₁ t₂ ∧ Table.NoDef t₁ ∧ evalIn t₁ a = .ok (.noSuch n d.arg) ∧
      lt.deps = (idents a).map num ∧ lt.final = duFinal t₂ d.du a
  | .globalCopy .., _ => False

def TasksRel (num : Bytes → Nat) (enc : Encoder) (t₂ : Table) : List Task → List Layout.Task → Prop
  | [], [] => True
  | t :: ts, u :: us => TaskRel num enc t₂ t u ∧ TasksRel num enc t₂ ts us
  | _, _ => False

theorem TasksRel.snoc {num : Bytes → Nat} {enc : Encoder} {t₂ : Table} : ∀ {ts : List Task} {us : List Layout.Task}
    {t : Task} {u : Layout.Task}, TasksRel num enc t₂ ts us → TaskRel num enc t₂ t u →
    TasksRel num enc t₂ (ts ++ [t]) (us ++ [u])
  | [], [], _, _, _, h => ⟨h, trivial⟩
  | [], _ :: _, _, _, h, _ => h.elim
  | _ :: _, [], _, _, h, _ => h.elim
  | _ :: _, _ :: _, _, _, h, h' => ⟨h.1, TasksRel.snoc h.2 h'⟩

/-- the reference cursor of `Asm`: the address of the next byte (not saturated) -/
def cursor (st : St) : Option Nat := st.seg.active.map fun a => a.base + a.buf.length

/-- the simulation relation in the main file of a one-file project: `Multi.Sim` (Lemmas/AsmMultiStmt.lean, where the five
state relations are told apart) without an includer -/
structure Sim (num : Bytes → Nat) (enc : Encoder) (t₂ : Table) (st : St) (l : Layout.State) : Prop where
  good : Good true st
  r : SegLayout.R st.seg l
  tbl : ∃ t, st.locals = some t ∧ Table.NoDef t ∧ Table.Sub t t₂ ∧ EnvRel num t l.env
  tasks : ∃ q, st.localTasks = some q ∧ TasksRel num enc t₂ q l.tasks
  gl : st.globalTasks = []

/-- the fresh assembly of an instruction statement at `addr` over the table `t` completes and the encoder accepts the
result: `instrFinal` is then the encoding, not the 0xBE fallback -/
def InstrGen (enc : Encoder) (t : Table) (addr : Nat) (tpl : Instr) (args : List Arg) : Prop :=
  ∃ fs2 b, Front.assemble ⟨addr, tpl, 0, args⟩ (frontEval t) true = (fs2, .completed) ∧ enc fs2.instr = .ok b

theorem InstrGen.final {enc : Encoder} {t : Table} {addr : Nat} {tpl : Instr} {args : List Arg}
    (h : InstrGen enc t addr tpl args) :
    ∃ fs2 b, Front.assemble ⟨addr, tpl, 0, args⟩ (frontEval t) true = (fs2, .completed) ∧ enc fs2.instr = .ok b ∧
      instrFinal enc t addr tpl args = b := by
  obtain ⟨fs2, b, h1, h2⟩ := h
  exact ⟨fs2, b, h1, h2, by simp only [instrFinal, h1, h2]⟩

/-- the operand of a `.du*` statement evaluates over `t` to a constant in range: `duFinal` is then its little-endian
bytes, not the 0xBE fallback -/
def DuGen (t : Table) (du : DU) (a : Arg) : Prop := ∃ v, constVal t a = some v ∧ 0 ≤ v ∧ v ≤ du.max

theorem DuGen.final {t : Table} {du : DU} {a : Arg} (h : DuGen t du a) :
    ∃ v, constVal t a = some v ∧ 0 ≤ v ∧ v ≤ du.max ∧ duFinal t du a = leBytes du.size v.toNat := by
  obtain ⟨v, h1, h2, h3⟩ := h
  exact ⟨v, h1, h2, h3, by simp only [duFinal, h1, h2, h3, and_self, if_true]⟩

/-- what the run of a queued task proves, for EVERY statement the task can stem from -/
def GenTask (enc : Encoder) (t₂ : Table) : Task → Prop
  | .instr i _ => ∀ tpl args t₁ c, Table.Sub t₁ t₂ → Table.NoDef t₁ →
      Front.assemble ⟨i.st.addr, tpl, 0, args⟩ (frontEval t₁) true = (i.st, .deferred c) →
      InstrGen enc t₂ i.st.addr tpl args
  | .data d _ => ∀ a t₁ n, Table.Sub t₁ t₂ → Table.NoDef t₁ → evalIn t₁ a = .ok (.noSuch n d.arg) → DuGen t₂ d.du a
  | .globalCopy .. => True

/-- the fate of an instruction statement once it was met: genuine now, or queued with its first attempt on record -/
def InstrFate (enc : Encoder) (t₂ : Table) (st' : St) (addr : Nat) (tpl : Instr) (args : List Arg) : Prop :=
  InstrGen enc t₂ addr tpl args ∨
  ∃ q i t₁ c, st'.localTasks = some (q ++ [.instr i false]) ∧ i.st.addr = addr ∧ Table.Sub t₁ t₂ ∧ Table.NoDef t₁ ∧
    Front.assemble ⟨addr, tpl, 0, args⟩ (frontEval t₁) true = (i.st, .deferred c)

/-- the same for a `.du*` statement; `st'` is the state behind the statement, whose queue ends with the task -/
def DuFate (t₂ : Table) (st' : St) (du : DU) (a : Arg) : Prop :=
  DuGen t₂ du a ∨
  ∃ q d t₁ n, st'.localTasks = some (q ++ [.data d false]) ∧ d.du = du ∧ Table.Sub t₁ t₂ ∧ Table.NoDef t₁ ∧
    evalIn t₁ a = .ok (.noSuch n d.arg)

/-- a source statement whose abstraction (`absStmt`) is not a fallback ("genuine, with" `I` and `D` for the two kinds of
value-dependent statement): the directive operands evaluate over `t`, the strings decode, the file exists; instructions
satisfy `I`, `.du*` operands `D`.  An arm says exactly what makes the corresponding arm of `absStmt` take its first branch,
plus what the layout core checks of the value (`.addr`: below 2^32; `.align`: positive and below 2^32), which
`statement_sim_fate` reads off the successful `Layout.step`. -/
def ElGenW (I : Nat → Instr → List Arg → Prop) (D : DU → Arg → Prop) (fs : Bytes → Option Bytes) (path : Bytes) (t : Table)
    (c : Option Nat) (el : Element) : Prop :=
  match el.val with
  | .label _ => True
  | .instruction name args => ∃ tpl x, Front.mnemonic name = some tpl ∧ c = some x ∧ I x tpl args.toList
  | .directive name args =>
    if name = bytesOf "addr" then ∃ a v, args.toList = [a] ∧ constVal t a = some v ∧ v.toNat < 4294967296
    else if name = bytesOf "align" then
      ∃ a v, args.toList = [a] ∧ constVal t a = some v ∧ 0 < v.toNat ∧ v.toNat < 4294967296
    else if name = bytesOf "const" then ∃ n b v, args.toList = [.ident n, b] ∧ constVal t b = some v
    else if name = bytesOf "dhex" then ∃ s d, args.toList = [.str s] ∧ dhexLoop s 0 none [] = .ok (d, none)
    else if name = bytesOf "dstr" then ∃ s, args.toList = [.str s]
    else if name = bytesOf "dfile" then ∃ s d, args.toList = [.str s] ∧ fs (sibling path s) = some d
    else ∃ du a, duOf name = some du ∧ args.toList = [a] ∧ D du a

/-- **genuine**: every byte the reference attributes to the statement is what the statement denotes over `t` -/
def ElGen (fs : Bytes → Option Bytes) (enc : Encoder) (path : Bytes) (t : Table) (c : Option Nat) (el : Element) : Prop :=
  ElGenW (InstrGen enc t) (DuGen t) fs path t c el

/-- `ElGen` with "genuine now or queued" (`InstrFate`, `DuFate`) at the value-dependent statements: what one statement of
the simulation yields; the queued alternative becomes genuine when the file's task loop has run (`GenTask`) -/
def ElFate (fs : Bytes → Option Bytes) (enc : Encoder) (path : Bytes) (t₂ : Table) (c : Option Nat) (st' : St)
    (el : Element) : Prop :=
  ElGenW (InstrFate enc t₂ st') (DuFate t₂ st') fs path t₂ c el

theorem ElGenW.mono {I I' : Nat → Instr → List Arg → Prop} {D D' : DU → Arg → Prop} {fs : Bytes → Option Bytes} {path : Bytes}
    {t : Table} {c : Option Nat} {el : Element} (hI : ∀ x tpl args, I x tpl args → I' x tpl args)
    (hD : ∀ du a, D du a → D' du a) (h : ElGenW I D fs path t c el) : ElGenW I' D' fs path t c el := by
  -- both sides are the same case analysis on the element; only the instruction and the `.du*` leaves differ
  revert h
  unfold ElGenW
  repeat' split
  all_goals first
    | exact id
    | exact fun ⟨tpl, x, h1, h2, h3⟩ => ⟨tpl, x, h1, h2, hI _ _ _ h3⟩
    | exact fun ⟨du, a, g1, g2, g3⟩ => ⟨du, a, g1, g2, hD _ _ g3⟩

end Trion.Asm
