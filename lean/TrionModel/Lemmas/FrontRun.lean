import TrionModel.Lemmas.Front
/-! Normal forms for the getters, for `convert!` and for `assemble`.  `get k` is an evaluation prologue (`prologue`) followed
by a look at the operand that depends on neither evaluator, `local` nor `args_done` (`classify`).  `conv` is the getters on
their own (`run`) and the stores `{*field} = value` folded over the values (`stores`); `assemble` past its arity check is a
function of that run (`assembleRun`).  Neither half mentions the other, so a statement about a second `convert!` on the
state a first one left splits into one about `run` on the operands left (conjuncts 6 and 7 of `run_factor`) and one about
the stores made twice (`stores_again`, Lemmas/FrontRetry.lean). -/
namespace Trion.Front
open Trion

/-- an outcome with which `assemble` leaves before its end: a deferral or a diagnostic -/
def Res.early : Res → Prop
  | .deferred _ | .error _ => True
  | _ => False

theorem Res.early.ne_panic {r : Res} (h : r.early) : r ≠ .panic := by rintro rfl; exact h

/-- the types of (evaluated) argument a getter takes a value from -/
def accepts : Kind → List ArgTy
  | .immediate | .offset => [.const]
  | .identifier | .register | .systemReg => [.ident]
  | .immReg => [.const, .ident]
  | .regSet => [.seq]
  | .address => [.addr]
  | .addrOffset => [.const, .addr]

/-- what `addr_off` accepts between `[` and `]`: `Rn`, `Rn + Rm`, `Rn + k`, `k + Rn` with `k` an `i32` -/
inductive AddrForm : Arg → Reg → Option ImmReg → Prop
  | reg {s : Bytes} {r : Reg} (h : regl s = some r) : AddrForm (.ident s) r (some (.imm 0))
  | regReg {a b : Bytes} {ra rb : Reg} (ha : regl a = some ra) (hb : regl b = some rb) :
      AddrForm (.bin .add (.ident a) (.ident b)) ra (some (.reg rb))
  | regImm {a : Bytes} {k : Int} {ra : Reg} (hk : inI32 k) (ha : regl a = some ra) :
      AddrForm (.bin .add (.ident a) (.const k)) ra (some (.imm k))
  | immReg {a : Bytes} {k : Int} {ra : Reg} (hk : inI32 k) (ha : regl a = some ra) :
      AddrForm (.bin .add (.const k) (.ident a)) ra (some (.imm k))

theorem addrOff_ok_iff {idx : Nat} {x : Arg} {r : Reg} {o : Option ImmReg} : addrOff idx x = .ok (r, o) ↔ AddrForm x r o := by
  constructor
  · intro h
    unfold addrOff at h
    split at h
    all_goals (repeat' split at h)
    all_goals (first | (cases h; done) | skip)
    all_goals (cases h)
    · exact .reg ‹_›
    · exact .regReg ‹_› ‹_›
    · obtain ⟨h1, h2, rfl⟩ := narrow_iff.1 ‹narrowI32 _ = some _›; exact .regImm ⟨h1, h2⟩ ‹_›
    · obtain ⟨h1, h2, rfl⟩ := narrow_iff.1 ‹narrowI32 _ = some _›; exact .immReg ⟨h1, h2⟩ ‹_›
  · intro h
    cases h with
    | reg h => simp only [addrOff, h]
    | regReg ha hb => simp only [addrOff, ha, hb]
    | regImm hk ha => simp only [addrOff, narrowI32_ok hk, ha]
    | immReg hk ha => simp only [addrOff, narrowI32_ok hk, ha]

/-- the getters that call `evaluate` -/
def Kind.evals : Kind → Bool
  | .immediate | .immReg | .address | .offset | .addrOffset => true
  | _ => false

/-- what a getter makes of the operand it looks at (after `evaluate`, if it evaluates): the value it yields, or the
diagnostic of its type / range / register / address-form check -/
def classify (k : Kind) (pos : Nat) (a : Arg) : Except Diag Val :=
  match k, a with
  | .identifier, .ident s => .ok (.ident s)
  | .identifier, a => .error (.argType pos [.ident] a.ty)
  | .register, .ident s =>
    match regl s with
    | some r => .ok (.reg r)
    | none => .error (.noSuchRegister (pos + 1) s)
  | .register, a => .error (.argType pos [.ident] a.ty)
  | .systemReg, .ident s =>
    match sysl s with
    | some r => .ok (.sys r)
    | none => .error (.noSuchRegister (pos + 1) s)
  | .systemReg, a => .error (.argType pos [.ident] a.ty)
  | .regSet, .seq items =>
    match regset pos items.toList 0 with
    | .ok rs => .ok (.regSet rs)
    | .error d => .error d
  | .regSet, a => .error (.argType pos [.seq] a.ty)
  | .immediate, .const v =>
    match narrowI32 v with
    | some w => .ok (.imm w)
    | none => .error (.valueRange (pos + 1))
  | .immediate, a => .error (.argType pos [.const] a.ty)
  | .immReg, .const v =>
    match narrowI32 v with
    | some w => .ok (.immReg (.imm w))
    | none => .error (.valueRange (pos + 1))
  | .immReg, .ident s =>
    match regl s with
    | some r => .ok (.immReg (.reg r))
    | none => .error (.noSuchRegister (pos + 1) s)
  | .immReg, a => .error (.argType pos [.const, .ident] a.ty)
  | .address, .addr inner =>
    match addrOff (pos + 1) inner with
    | .ok (r, o) => .ok (.address r o)
    | .error d => .error d
  | .address, a => .error (.argType pos [.addr] a.ty)
  | .offset, .const v =>
    match narrowU32 v with
    | some w => .ok (.off w)
    | none => .error (.valueRange (pos + 1))
  | .offset, a => .error (.argType pos [.const] a.ty)
  | .addrOffset, .const v =>
    match narrowU32 v with
    | some w => .ok (.off w)
    | none => .error (.valueRange (pos + 1))
  | .addrOffset, .addr inner =>
    match addrOff (pos + 1) inner with
    | .ok (r, o) => .ok (.address r o)
    | .error d => .error d
  | .addrOffset, a => .error (.argType pos [.const, .addr] a.ty)

/-- what the getter of kind `k` at position `pos` yields from the argument as evaluation left it: `classify … = .ok v` as an
inductive, for inversion by `cases` -/
inductive Yields (pos : Nat) : Kind → Arg → Val → Prop
  | ident (s : Bytes) : Yields pos .identifier (.ident s) (.ident s)
  | reg {s : Bytes} {r : Reg} (h : regl s = some r) : Yields pos .register (.ident s) (.reg r)
  | sys {s : Bytes} {r : SysReg} (h : sysl s = some r) : Yields pos .systemReg (.ident s) (.sys r)
  | regSet {items : Args} {rs : RegSet} (h : regset pos items.toList 0 = .ok rs) : Yields pos .regSet (.seq items) (.regSet rs)
  | imm {v w : Int} (h : narrowI32 v = some w) : Yields pos .immediate (.const v) (.imm w)
  | immRegI {v w : Int} (h : narrowI32 v = some w) : Yields pos .immReg (.const v) (.immReg (.imm w))
  | immRegR {s : Bytes} {r : Reg} (h : regl s = some r) : Yields pos .immReg (.ident s) (.immReg (.reg r))
  | addr {k : Kind} {x : Arg} {r : Reg} {o : Option ImmReg} (hk : k = .address ∨ k = .addrOffset)
      (h : addrOff (pos + 1) x = .ok (r, o)) : Yields pos k (.addr x) (.address r o)
  | off {k : Kind} {v w : Int} (hk : k = .offset ∨ k = .addrOffset) (h : narrowU32 v = some w) : Yields pos k (.const v) (.off w)

theorem classify_yields {k : Kind} {pos : Nat} {a : Arg} {v : Val} (h : classify k pos a = .ok v) : Yields pos k a v := by
  cases k <;> cases a <;> simp only [classify] at h <;> (try split at h) <;> cases h
  all_goals first
    | exact .ident _ | exact .reg ‹_› | exact .sys ‹_› | exact .regSet ‹_› | exact .imm ‹_› | exact .immRegI ‹_›
    | exact .immRegR ‹_› | exact .addr (.inl rfl) ‹_› | exact .addr (.inr rfl) ‹_› | exact .off (.inl rfl) ‹_›
    | exact .off (.inr rfl) ‹_›

theorem yields_classify {k : Kind} {pos : Nat} {a : Arg} {v : Val} (h : Yields pos k a v) : classify k pos a = .ok v := by
  cases h with
  | ident => rfl
  | addr hk h => rcases hk with rfl | rfl <;> simp only [classify, h]
  | off hk h => rcases hk with rfl | rfl <;> simp only [classify, h]
  | _ h => simp only [classify, h]

/-- the constructor of the value a getter of kind `k` yields (an address always with its offset: `addr_off` never returns
`None`) -/
inductive Fits : Kind → Val → Prop
  | ident (s) : Fits .identifier (.ident s)
  | reg (r) : Fits .register (.reg r)
  | sys (r) : Fits .systemReg (.sys r)
  | regSet (r) : Fits .regSet (.regSet r)
  | imm (w) : Fits .immediate (.imm w)
  | immReg (x) : Fits .immReg (.immReg x)
  | address (r o) : Fits .address (.address r (some o))
  | off (w) : Fits .offset (.off w)
  | aoOff (w) : Fits .addrOffset (.off w)
  | aoAddr (r o) : Fits .addrOffset (.address r (some o))

theorem yields_fits {k : Kind} {pos : Nat} {a : Arg} {v : Val} (h : Yields pos k a v) : Fits k v := by
  cases h with
  | addr hk h => cases addrOff_ok_iff.1 h <;> rcases hk with rfl | rfl <;> constructor
  | off hk => rcases hk with rfl | rfl <;> constructor
  | _ => constructor

/-- the values `vs` are such as the first getters of `ks` yield, kind by kind (`vs` may be shorter than `ks`: a `convert!`
that stopped) -/
def AllFit : List Kind → List Val → Prop
  | _, [] => True
  | [], _ :: _ => False
  | k :: ks, v :: vs => Fits k v ∧ AllFit ks vs

theorem AllFit.left : ∀ {ks : List Kind} {vs ws : List Val}, AllFit ks (vs ++ ws) → AllFit ks vs
  | ks, [], _, _ => by cases ks <;> trivial
  | [], _ :: _, _, h => h.elim
  | _ :: _, _ :: _, _, h => ⟨h.1, AllFit.left h.2⟩

theorem fits_reg {v : Val} (h : Fits .register v) : ∃ r, v = .reg r := by cases h; exact ⟨_, rfl⟩
theorem fits_sys {v : Val} (h : Fits .systemReg v) : ∃ r, v = .sys r := by cases h; exact ⟨_, rfl⟩
theorem fits_ident {v : Val} (h : Fits .identifier v) : ∃ r, v = .ident r := by cases h; exact ⟨_, rfl⟩
theorem fits_regSet {v : Val} (h : Fits .regSet v) : ∃ r, v = .regSet r := by cases h; exact ⟨_, rfl⟩
theorem fits_imm {v : Val} (h : Fits .immediate v) : ∃ r, v = .imm r := by cases h; exact ⟨_, rfl⟩
theorem fits_off {v : Val} (h : Fits .offset v) : ∃ r, v = .off r := by cases h; exact ⟨_, rfl⟩
theorem fits_immReg {v : Val} (h : Fits .immReg v) : ∃ r, v = .immReg r := by cases h; exact ⟨_, rfl⟩
theorem fits_address {v : Val} (h : Fits .address v) : ∃ r o, v = .address r (some o) := by cases h; exact ⟨_, _, rfl⟩
theorem fits_addrOffset {v : Val} (h : Fits .addrOffset v) : (∃ t, v = .off t) ∨ ∃ r o, v = .address r (some o) := by
  cases h
  · exact .inl ⟨_, rfl⟩
  · exact .inr ⟨_, _, rfl⟩

theorem allFit_one {k : Kind} {vs : List Val} (h : AllFit [k] vs) (hl : vs.length = [k].length) : ∃ v, vs = [v] ∧ Fits k v := by
  rcases vs with _ | ⟨v, _ | ⟨w, r⟩⟩ <;> simp [AllFit] at h hl ⊢
  exact h
theorem allFit_two {k1 k2 : Kind} {vs : List Val} (h : AllFit [k1, k2] vs) (hl : vs.length = [k1, k2].length) :
    ∃ v w, vs = [v, w] ∧ Fits k1 v ∧ Fits k2 w := by
  rcases vs with _ | ⟨v, _ | ⟨w, _ | ⟨x, r⟩⟩⟩ <;> simp [AllFit] at h hl
  exact ⟨v, w, rfl, h⟩
theorem allFit_three {k1 k2 k3 : Kind} {vs : List Val} (h : AllFit [k1, k2, k3] vs) (hl : vs.length = [k1, k2, k3].length) :
    ∃ v w x, vs = [v, w, x] ∧ Fits k1 v ∧ Fits k2 w ∧ Fits k3 x := by
  rcases vs with _ | ⟨v, _ | ⟨w, _ | ⟨x, _ | ⟨y, r⟩⟩⟩⟩ <;> simp [AllFit] at h hl
  exact ⟨v, w, x, rfl, h⟩

/-- the part of a getter before it looks at the operand: `evalArg` (evaluate unless `args_done` is past this operand) for the
kinds that evaluate, nothing for the others.  `.ok (a', d')`: the operand as left and the new `args_done`. -/
def prologue (k : Kind) (e : Arg → EvalOut) (l : Bool) (pos done : Nat) (a : Arg) : Except (Arg × Res) (Arg × Nat) :=
  if k.evals then evalArg e l pos done a else .ok (a, done)

/-- the outcome of a getter past its prologue, on the operand `a` with `args_done = d` -/
def GetOut.of (a : Arg) (d : Nat) : Except Diag Val → GetOut
  | .ok v => .ok v a d
  | .error x => .stop a d (.error x)

theorem get_eq (k : Kind) (e : Arg → EvalOut) (l : Bool) (pos done : Nat) (a : Arg) :
    get k e l pos done a =
      match prologue k e l pos done a with
      | .error (a', r) => .stop a' done r
      | .ok (a', d') => .of a' d' (classify k pos a') := by
  cases k <;> simp only [get, prologue, Kind.evals, if_true, Bool.false_eq_true, if_false] <;>
    (try (cases evalArg e l pos done a <;> simp only)) <;>
    simp only [classify, GetOut.of] <;> (repeat' split) <;> first | rfl | simp_all

theorem evalArg_of_done {pos done : Nat} (h : pos < done) (e : Arg → EvalOut) (l : Bool) (a : Arg) :
    evalArg e l pos done a = .ok (a, done) := by
  unfold evalArg; rw [if_neg (by omega)]

theorem evalArg_ok_inv {e : Arg → EvalOut} {l : Bool} {pos done : Nat} {a a' : Arg} {d' : Nat}
    (h : evalArg e l pos done a = .ok (a', d')) :
    (done ≤ pos ∧ e a = .complete a' ∧ d' = pos + 1) ∨ (pos < done ∧ a' = a ∧ d' = done) := by
  unfold evalArg at h
  split at h
  · rename_i hd
    cases he : e a with
    | complete x => rw [he] at h; cases h; exact .inl ⟨hd, rfl, rfl⟩
    | deferred c x => rw [he] at h; cases h
    | noSuchVariable n x => rw [he] at h; simp only at h; split at h <;> cases h
    | error er x => rw [he] at h; cases h
  · cases h; exact .inr ⟨by omega, rfl, rfl⟩

theorem evalArg_error_inv {e : Arg → EvalOut} {l : Bool} {pos done : Nat} {a a' : Arg} {r : Res}
    (h : evalArg e l pos done a = .error (a', r)) :
    done ≤ pos ∧
    ((∃ c, e a = .deferred c a' ∧ r = .deferred c) ∨
     (∃ n, e a = .noSuchVariable n a' ∧ r = if l then .deferred n else .error (.noSuchVariable n)) ∨
     (∃ er, e a = .error er a' ∧ r = .error (.evalErr er))) := by
  unfold evalArg at h
  split at h
  · rename_i hd
    refine ⟨hd, ?_⟩
    cases he : e a with
    | complete x => rw [he] at h; cases h
    | deferred c x => rw [he] at h; cases h; exact .inl ⟨c, rfl, rfl⟩
    | noSuchVariable n x =>
      rw [he] at h
      refine .inr (.inl ⟨n, ?_⟩)
      cases l <;> (cases h; exact ⟨rfl, rfl⟩)
    | error er x => rw [he] at h; cases h; exact .inr (.inr ⟨er, rfl, rfl⟩)
  · cases h


theorem prologue_ok {k : Kind} {e : Arg → EvalOut} {l : Bool} {pos done : Nat} {a a' : Arg} {d' : Nat}
    (h : prologue k e l pos done a = .ok (a', d')) :
    (k.evals = true ∧ done ≤ pos ∧ e a = .complete a' ∧ d' = pos + 1) ∨
      ((k.evals = false ∨ pos < done) ∧ a' = a ∧ d' = done) := by
  unfold prologue at h
  cases hk : k.evals
  · rw [hk] at h; cases h; exact .inr ⟨.inl rfl, rfl, rfl⟩
  · rw [hk, if_pos rfl] at h
    exact (evalArg_ok_inv h).imp (fun ⟨h1, h2, h3⟩ => ⟨rfl, h1, h2, h3⟩) fun ⟨h1, h2, h3⟩ => ⟨.inr h1, h2, h3⟩

theorem prologue_error {k : Kind} {e : Arg → EvalOut} {l : Bool} {pos done : Nat} {a a' : Arg} {r : Res}
    (h : prologue k e l pos done a = .error (a', r)) :
    k.evals = true ∧ evalArg e l pos done a = .error (a', r) := by
  unfold prologue at h
  cases hk : k.evals
  · rw [hk] at h; cases h
  · rw [hk, if_pos rfl] at h; exact ⟨rfl, h⟩

theorem prologue_evals {k : Kind} (hk : k.evals = true) (e : Arg → EvalOut) (l : Bool) (pos done : Nat) (a : Arg) :
    prologue k e l pos done a = evalArg e l pos done a := by
  simp only [prologue, hk, if_true]

theorem prologue_skip {k : Kind} {pos done : Nat} (h : k.evals = false ∨ pos < done) (e : Arg → EvalOut) (l : Bool) (a : Arg) :
    prologue k e l pos done a = .ok (a, done) := by
  unfold prologue
  cases hk : k.evals
  · rfl
  · exact evalArg_of_done (h.resolve_left (by rw [hk]; exact Bool.noConfusion)) e l a

theorem prologue_ok_mono {k : Kind} {e₁ e₂ : Arg → EvalOut} {a : Arg}
    (hcomp : ∀ a', e₁ a = .complete a' → e₂ a = .complete a') {l : Bool} {pos done : Nat} {p : Arg × Nat}
    (h : prologue k e₁ l pos done a = .ok p) (l' : Bool) : prologue k e₂ l' pos done a = .ok p := by
  obtain ⟨a', d'⟩ := p
  rcases prologue_ok h with ⟨hk, hd, he, rfl⟩ | ⟨hs, rfl, rfl⟩
  · simp only [prologue, hk, if_true, evalArg, hd, hcomp _ he]
  · exact prologue_skip hs ..

theorem get_ok_iff {k : Kind} {e : Arg → EvalOut} {l : Bool} {pos done : Nat} {a : Arg} {v : Val} {a' : Arg} {d' : Nat} :
    get k e l pos done a = .ok v a' d' ↔ prologue k e l pos done a = .ok (a', d') ∧ classify k pos a' = .ok v := by
  rw [get_eq]
  cases prologue k e l pos done a with
  | error p => simp
  | ok p =>
    obtain ⟨x, d⟩ := p
    show GetOut.of x d (classify k pos x) = _ ↔ _
    cases hc : classify k pos x with
    | ok w =>
      constructor
      · intro h; cases h; exact ⟨rfl, hc⟩
      · rintro ⟨h1, h2⟩; cases h1; rw [hc] at h2; cases h2; rfl
    | error y =>
      constructor
      · intro h; cases h
      · rintro ⟨h1, h2⟩; cases h1; rw [hc] at h2; cases h2

theorem get_ok {k : Kind} {e : Arg → EvalOut} {l : Bool} {pos done : Nat} {a a' : Arg} {d' : Nat} {v : Val}
    (h : get k e l pos done a = .ok v a' d') : Yields pos k a' v ∧ prologue k e l pos done a = .ok (a', d') :=
  let ⟨hp, hc⟩ := get_ok_iff.1 h
  ⟨classify_yields hc, hp⟩

theorem get_fits {k : Kind} {e : Arg → EvalOut} {l : Bool} {pos done : Nat} {a a' : Arg} {d : Nat} {v : Val}
    (h : get k e l pos done a = .ok v a' d) : Fits k v := yields_fits (get_ok h).1

theorem get_ok_done_le {k : Kind} {e : Arg → EvalOut} {loc : Bool} {pos done : Nat} (hd : done ≤ pos)
    {a : Arg} {v : Val} {a' : Arg} {d' : Nat} (h : get k e loc pos done a = .ok v a' d') : d' ≤ pos + 1 := by
  rcases prologue_ok (get_ok_iff.1 h).1 with ⟨_, _, _, rfl⟩ | ⟨_, _, rfl⟩ <;> omega

theorem get_stop_iff {k : Kind} {e : Arg → EvalOut} {l : Bool} {pos done : Nat} {a a' : Arg} {d' : Nat} {r : Res} :
    get k e l pos done a = .stop a' d' r ↔
      (prologue k e l pos done a = .error (a', r) ∧ d' = done) ∨
      (∃ x, prologue k e l pos done a = .ok (a', d') ∧ classify k pos a' = .error x ∧ r = .error x) := by
  rw [get_eq]
  cases prologue k e l pos done a with
  | error p =>
    obtain ⟨x, r'⟩ := p
    constructor
    · intro h; cases h; exact .inl ⟨rfl, rfl⟩
    · rintro (⟨h1, rfl⟩ | ⟨_, h1, _⟩) <;> cases h1; rfl
  | ok p =>
    obtain ⟨x, d⟩ := p
    show GetOut.of x d (classify k pos x) = _ ↔ _
    cases hc : classify k pos x with
    | ok w =>
      constructor
      · intro h; cases h
      · rintro (⟨h1, _⟩ | ⟨_, h1, h2, _⟩) <;> cases h1; rw [hc] at h2; cases h2
    | error y =>
      constructor
      · intro h; cases h; exact .inr ⟨y, rfl, hc, rfl⟩
      · rintro (⟨h1, _⟩ | ⟨_, h1, h2, rfl⟩) <;> cases h1; rw [hc] at h2; cases h2; rfl

theorem get_early {k : Kind} {e : Arg → EvalOut} {l : Bool} {pos done : Nat} {a a' : Arg} {d : Nat} {r : Res}
    (h : get k e l pos done a = .stop a' d r) : r.early := by
  rcases get_stop_iff.1 h with ⟨hp, _⟩ | ⟨x, _, _, rfl⟩
  · rcases (evalArg_error_inv (prologue_error hp).2).2 with ⟨c, _, rfl⟩ | ⟨n, _, rfl⟩ | ⟨er, _, rfl⟩
    · trivial
    · cases l <;> trivial
    · trivial
  · trivial

/-- the getters of one `convert!` without the instruction -/
structure Run where
  /-- the values of the getters passed, first getter first -/
  vals : List Val
  /-- the operands from the first getter's on, as the getters passed and the one that stopped left them -/
  args : List Arg
  /-- `args_done` at the end -/
  done : Nat
  /-- `none`: every getter was passed; `some r`: a getter ended `assemble` with `r` (`.panic`: no operand left for it) -/
  stop : Option Res

/-- the run `r` after a getter that yielded `v` and left its operand as `a` -/
def Run.cons (v : Val) (a : Arg) (r : Run) : Run := ⟨v :: r.vals, a :: r.args, r.done, r.stop⟩

def run (e : Arg → EvalOut) (l : Bool) : List Kind → Nat → List Arg → Nat → Run
  | [], _, rest, done => ⟨[], rest, done, none⟩
  | _ :: _, _, [], done => ⟨[], [], done, some .panic⟩
  | k :: ks, pos, a :: rest, done =>
    match get k e l pos done a with
    | .ok v a' d' => (run e l ks (pos + 1) rest d').cons v a'
    | .stop a' d' r => ⟨[], a' :: rest, d', some r⟩

/-- the stores `{*field} = value` of the macro for the values `vs`, made at positions `pos`, `pos + 1`, … -/
def stores (i : Instr) (pos : Nat) : List Val → Instr
  | [] => i
  | v :: vs => stores (setOp i pos v) (pos + 1) vs

/-- what `conv` returns when its getters' run is `r`: `pre` (reversed) are the operands before the first getter's, `instr` the
instruction and `vals` (reversed, as `conv` accumulates them) the values before it -/
def Run.out (r : Run) (pre : List Arg) (instr : Instr) (pos : Nat) (vals : List Val) : ConvOut :=
  match r.stop with
  | none => .ok (pre.reverse ++ r.args) r.done (stores instr pos r.vals) (vals.reverse ++ r.vals)
  | some s => .stop (pre.reverse ++ r.args) r.done (stores instr pos r.vals) s

theorem conv_eq_run (e : Arg → EvalOut) (l : Bool) : ∀ (ks : List Kind) (pos : Nat) (pre rest : List Arg) (done : Nat)
    (instr : Instr) (vals : List Val),
    conv e l ks pos pre rest done instr vals = (run e l ks pos rest done).out pre instr pos vals := by
  intro ks
  induction ks with
  | nil => intro pos pre rest done instr vals; simp [conv, run, Run.out, stores]
  | cons k ks ih =>
    intro pos pre rest done instr vals
    cases rest with
    | nil => simp [conv, run, Run.out, stores]
    | cons a rest =>
      simp only [conv, run]
      cases get k e l pos done a with
      | ok v a' d' =>
        simp only [ih]
        cases hs : (run e l ks (pos + 1) rest d').stop <;> simp [Run.out, Run.cons, hs, stores]
      | stop a' d' r => simp [Run.out, stores]

theorem get_ok_again {k : Kind} {e : Arg → EvalOut} {l : Bool} {pos done : Nat} {a : Arg} {v : Val} {a' : Arg} {d' : Nat}
    (h : get k e l pos done a = .ok v a' d') :
    done ≤ d' ∧ ∀ e' l' D, d' ≤ D → get k e' l' pos D a' = .ok v a' D := by
  obtain ⟨hp, hc⟩ := get_ok_iff.1 h
  rcases prologue_ok hp with ⟨_, hd, _, rfl⟩ | ⟨hs, rfl, rfl⟩
  · exact ⟨by omega, fun e' l' D hD => get_ok_iff.2 ⟨prologue_skip (.inr (by omega)) .., hc⟩⟩
  · exact ⟨Nat.le_refl _, fun e' l' D hD =>
      get_ok_iff.2 ⟨prologue_skip (hs.elim .inl fun h => .inr (by omega)) .., hc⟩⟩

theorem get_ok_mono {k : Kind} {e₁ e₂ : Arg → EvalOut} {a : Arg}
    (hcomp : ∀ a', e₁ a = .complete a' → e₂ a = .complete a') {l : Bool} {pos done : Nat} {v : Val}
    {a' : Arg} {d' : Nat} (h : get k e₁ l pos done a = .ok v a' d') (l' : Bool) :
    get k e₂ l' pos done a = .ok v a' d' :=
  let ⟨hp, hc⟩ := get_ok_iff.1 h
  get_ok_iff.2 ⟨prologue_ok_mono hcomp hp l', hc⟩

theorem get_stop_done {k : Kind} {e : Arg → EvalOut} {l : Bool} {pos done : Nat} {a a' : Arg} {d' : Nat} {r : Res}
    (h : get k e l pos done a = .stop a' d' r) : done ≤ d' := by
  rcases get_stop_iff.1 h with ⟨_, rfl⟩ | ⟨_, hp, _⟩
  · exact Nat.le_refl _
  · rcases prologue_ok hp with ⟨_, _, _, rfl⟩ | ⟨_, _, rfl⟩ <;> omega

theorem run_shape (e : Arg → EvalOut) (l : Bool) : ∀ (ks : List Kind) (pos : Nat) (rest : List Arg) (done : Nat),
    done ≤ (run e l ks pos rest done).done ∧ AllFit ks (run e l ks pos rest done).vals ∧
      (run e l ks pos rest done).args.length = rest.length ∧ (run e l ks pos rest done).stop ≠ some .completed := by
  intro ks
  induction ks with
  | nil => intro _ _ _; exact ⟨Nat.le_refl _, trivial, rfl, fun h => by cases h⟩
  | cons k ks ih =>
    intro pos rest done
    cases rest with
    | nil => exact ⟨Nat.le_refl _, trivial, rfl, fun h => by cases h⟩
    | cons a rest =>
      simp only [run]
      cases hg : get k e l pos done a with
      | ok v a' d' =>
        obtain ⟨h1, h2, h3, h4⟩ := ih (pos + 1) rest d'
        exact ⟨Nat.le_trans (get_ok_again hg).1 h1, ⟨get_fits hg, h2⟩,
          by simp only [Run.cons, List.length_cons, h3], h4⟩
      | stop a' d' r => exact ⟨get_stop_done hg, trivial, rfl, fun h => by cases h; exact get_early hg⟩

theorem run_nil (e : Arg → EvalOut) (l : Bool) (pos done : Nat) : run e l [] pos [] done = ⟨[], [], done, none⟩ := rfl

theorem run_cons {e : Arg → EvalOut} {l : Bool} {k : Kind} {ks : List Kind} {pos done d' d : Nat} {a a' : Arg}
    {rest as' : List Arg} {v : Val} {vs : List Val} (hg : get k e l pos done a = .ok v a' d')
    (h : run e l ks (pos + 1) rest d' = ⟨vs, as', d, none⟩) :
    run e l (k :: ks) pos (a :: rest) done = ⟨v :: vs, a' :: as', d, none⟩ := by
  simp only [run, hg, h, Run.cons]

theorem run_pass_cons {e : Arg → EvalOut} {l : Bool} {k : Kind} {ks : List Kind} {pos done : Nat} {rest : List Arg}
    (h : (run e l (k :: ks) pos rest done).stop = none) :
    ∃ a rest' v a' d', rest = a :: rest' ∧ get k e l pos done a = .ok v a' d' ∧
      run e l (k :: ks) pos rest done = (run e l ks (pos + 1) rest' d').cons v a' ∧
      (run e l ks (pos + 1) rest' d').stop = none := by
  cases rest with
  | nil => cases h
  | cons a rest =>
    simp only [run] at h ⊢
    cases hg : get k e l pos done a with
    | ok v a' d' => rw [hg] at h; exact ⟨a, rest, v, a', d', rfl, hg, rfl, h⟩
    | stop a' d' r => rw [hg] at h; cases h

theorem run_pass_length {e : Arg → EvalOut} {l : Bool} : ∀ {ks : List Kind} {pos : Nat} {rest : List Arg} {done : Nat},
    (run e l ks pos rest done).stop = none → (run e l ks pos rest done).vals.length = ks.length
  | [], _, _, _, _ => rfl
  | _ :: _, _, _, _, h => by
    obtain ⟨a, rest', v, a', d', rfl, -, h2, h3⟩ := run_pass_cons h
    rw [h2]; simp only [Run.cons, List.length_cons, run_pass_length h3]

theorem get_ok_evals {k : Kind} (hk : k.evals = true) {e : Arg → EvalOut} {loc : Bool} {pos done : Nat} (hd : done ≤ pos)
    {a : Arg} {v : Val} {a' : Arg} {d' : Nat} (h : get k e loc pos done a = .ok v a' d') :
    ∃ x, e a = .complete x := by
  rcases prologue_ok (get_ok_iff.1 h).1 with ⟨_, _, he, _⟩ | ⟨hs | hs, _, _⟩
  · exact ⟨a', he⟩
  · rw [hk] at hs; cases hs
  · omega

theorem run_pass_evals {e : Arg → EvalOut} {loc : Bool} : ∀ {ks : List Kind} {pos : Nat} {rest : List Arg} {done : Nat},
    (run e loc ks pos rest done).stop = none → done ≤ pos →
    ∀ (j : Nat) (k : Kind) (a : Arg), ks[j]? = some k → rest[j]? = some a → k.evals = true → ∃ x, e a = .complete x
  | [], _, _, _, _, _, _, _, _, hk, _, _ => by simp at hk
  | _ :: _, _, _, _, h, hd, j, k, a, hk, ha, hev => by
    obtain ⟨a0, rest', v, a', d', rfl, hg, -, h3⟩ := run_pass_cons h
    cases j with
    | zero =>
      simp only [List.getElem?_cons_zero, Option.some.injEq] at hk ha
      subst hk; subst ha
      exact get_ok_evals hev hd hg
    | succ j =>
      simp only [List.getElem?_cons_succ] at hk ha
      exact run_pass_evals h3 (get_ok_done_le hd hg) j k a hk ha hev

theorem run_early {e : Arg → EvalOut} {l : Bool} : ∀ {ks : List Kind} {pos : Nat} {rest : List Arg} {done : Nat} {s : Res},
    ks.length ≤ rest.length → (run e l ks pos rest done).stop = some s → s.early
  | [], _, _, _, _, _, h => by cases h
  | _ :: _, _, [], _, _, hl, _ => by cases hl
  | k :: ks, pos, a :: rest, done, s, hl, h => by
    simp only [run] at h
    cases hg : get k e l pos done a with
    | ok v a' d' => rw [hg] at h; exact run_early (Nat.le_of_succ_le_succ hl) h
    | stop a' d' r => rw [hg] at h; cases h; exact get_early hg

/-- the run `r` after getters that yielded `vs` and left their operands as `as` -/
def Run.pre (vs : List Val) (as : List Arg) (r : Run) : Run := ⟨vs ++ r.vals, as ++ r.args, r.done, r.stop⟩

theorem Run.cons_pre (v : Val) (a : Arg) (vs : List Val) (as : List Arg) (r : Run) :
    (r.pre vs as).cons v a = r.pre (v :: vs) (a :: as) := rfl

/-- **Every run is a prefix of getters passed, then a run `b` that passes none** (all passed, or its first getter stops).
`vs`, `as`: values and operands left of the prefix; `ks'`, `rest'`, `p`, `d`: the kinds, operands, position and `args_done`
with which `b` starts (conjuncts 1–5: `b` is that run, passes nothing, the whole run is `b` after the prefix, `args_done` has
only grown, and `b`'s getters and operands are among the original ones).  Conjunct 6: a second run, over any evaluator, on
the operands the first one left passes the same prefix and then stands where `b` stood, before what `b` left.  Conjunct 7: so
does a run on the ORIGINAL operands over an evaluator that completes what `e` completes, before the original operands. -/
theorem run_factor (e : Arg → EvalOut) (l : Bool) : ∀ (ks : List Kind) (pos : Nat) (rest : List Arg) (done : Nat),
    ∃ (vs : List Val) (as : List Arg) (ks' : List Kind) (rest' : List Arg) (p d : Nat) (b : Run),
      run e l ks' p rest' d = b ∧ b.vals = [] ∧ run e l ks pos rest done = b.pre vs as ∧
      done ≤ d ∧ (∀ x ∈ List.zip ks' rest', x ∈ List.zip ks rest) ∧
      (∀ e' l' D, b.done ≤ D → run e' l' ks pos (as ++ b.args) D = (run e' l' ks' p b.args D).pre vs as) ∧
      (∀ e₂ l₂, (∀ x ∈ List.zip ks rest, ∀ a', e x.2 = .complete a' → e₂ x.2 = .complete a') →
        run e₂ l₂ ks pos rest done = (run e₂ l₂ ks' p rest' d).pre vs as) := by
  intro ks
  induction ks with
  | nil =>
    intro pos rest done
    exact ⟨[], [], [], rest, pos, done, _, rfl, rfl, rfl, Nat.le_refl _, fun _ h => h, fun _ _ _ _ => rfl, fun _ _ _ => rfl⟩
  | cons k ks ih =>
    intro pos rest done
    cases rest with
    | nil =>
      exact ⟨[], [], k :: ks, [], pos, done, _, rfl, rfl, rfl, Nat.le_refl _, fun _ h => h, fun _ _ _ _ => rfl,
        fun _ _ _ => rfl⟩
    | cons a rest =>
      cases hg : get k e l pos done a with
      | stop a' d' r =>
        exact ⟨[], [], k :: ks, a :: rest, pos, done, _, rfl, by simp only [run, hg], rfl, Nat.le_refl _, fun _ h => h,
                   fun _ _ _ _ => rfl, fun _ _ _ => rfl⟩
      | ok v a' d' =>
        obtain ⟨vs, as, ks', rest', p, d, b, h0, h1, h2, h3, h4, h6, h7⟩ := ih (pos + 1) rest d'
        obtain ⟨g1, g2⟩ := get_ok_again hg
        refine ⟨v :: vs, a' :: as, ks', rest', p, d, b, h0, h1, ?_, by omega, ?_, ?_, ?_⟩
        · simp only [run, hg, h2, Run.cons_pre]
        · intro x hx; simp only [List.zip_cons_cons]; exact List.mem_cons_of_mem _ (h4 x hx)
        · intro e' l' D hD
          have : d ≤ b.done := by rw [← h0]; exact (run_shape ..).1
          simp only [List.cons_append, run, g2 e' l' D (by omega), h6 e' l' D hD, Run.cons_pre]
        · intro e₂ l₂ hc
          simp only [run, get_ok_mono (hc (k, a) (by simp)) hg l₂,
            h7 e₂ l₂ (fun x hx => hc x (by simp only [List.zip_cons_cons]; exact List.mem_cons_of_mem _ hx)), Run.cons_pre]

theorem run_base {e : Arg → EvalOut} {l : Bool} {ks : List Kind} {p : Nat} {rest : List Arg} {d : Nat} {b : Run}
    (h : run e l ks p rest d = b) (hv : b.vals = []) {o : Res} (hs : b.stop = some o) (hp : o ≠ .panic) :
    ∃ k ks' a rest' a', ks = k :: ks' ∧ rest = a :: rest' ∧ get k e l p d a = .stop a' b.done o ∧ b.args = a' :: rest' := by
  subst h
  cases ks with
  | nil => cases hs
  | cons k ks =>
    cases rest with
    | nil => cases hs; exact absurd rfl hp
    | cons a rest =>
      simp only [run] at hv hs ⊢
      cases hg : get k e l p d a with
      | ok v a' d' => rw [hg] at hv; cases hv
      | stop a' d' r => rw [hg] at hs; cases hs; exact ⟨k, ks, a, rest, a', rfl, rfl, hg, rfl⟩

/-- forwards: an evaluating getter whose operand evaluates to `a'` is `classify` on `a'` -/
theorem get_of_complete {k : Kind} (hk : k.evals = true) {e : Arg → EvalOut} (l : Bool) {pos done : Nat} (hd : done ≤ pos)
    {a a' : Arg} (he : e a = .complete a') : get k e l pos done a = .of a' (pos + 1) (classify k pos a') := by
  rw [get_eq]
  simp only [prologue, hk, if_true, evalArg, hd, he]

theorem get_congr {k : Kind} {e : Arg → EvalOut} {a b : Arg} (hk : k.evals = true) (h : e a = e b) (l : Bool) {pos done : Nat}
    (hd : done ≤ pos) : get k e l pos done a = get k e l pos done b := by
  rw [get_eq, get_eq]
  simp only [prologue, hk, if_true, evalArg, hd, h]

theorem get_stop_again {k : Kind} {e : Arg → EvalOut} {l : Bool} {pos done : Nat} {a a' : Arg} {d' : Nat} {x : Diag}
    (hp : prologue k e l pos done a = .ok (a', d')) (hc : classify k pos a' = .error x) (e' : Arg → EvalOut) (l' : Bool) :
    get k e' l' pos d' a' = .stop a' d' (.error x) := by
  refine get_stop_iff.2 (.inr ⟨x, prologue_skip ?_ .., hc, rfl⟩)
  rcases prologue_ok hp with ⟨_, _, _, rfl⟩ | ⟨hs, _, rfl⟩
  · exact .inr (by omega)
  · exact hs


theorem Run.pre_vals (vs : List Val) (as : List Arg) (r : Run) : (r.pre vs as).vals = vs ++ r.vals := rfl

/-- what `assemble` returns when the getters' run was `r`: the state holds the operands as the getters left them, their
`args_done`, and the instruction with the stores of the getters passed — or, when all were passed and the code after the macro
(`finish`) accepts, what `finish` makes of it -/
def assembleRun (addr : Nat) (i : Instr) (n : Nat) (r : Run) : St × Res :=
  match r.stop with
  | some s => (⟨addr, stores i 0 r.vals, r.done, r.args⟩, s)
  | none =>
    match finish addr (stores i 0 r.vals) r.vals n with
    | .ok j => (⟨addr, j, r.done, r.args⟩, .completed)
    | .error d => (⟨addr, stores i 0 r.vals, r.done, r.args⟩, .error d)

theorem assemble_eq_run {st : St} (h : st.args.length = (kinds st.instr).length) (e : Arg → EvalOut) (l : Bool) :
    assemble st e l =
      assembleRun st.addr st.instr (kinds st.instr).length (run e l (kinds st.instr) 0 st.args st.argsDone) := by
  unfold assemble assembleRun
  simp only [h, Nat.lt_irrefl, if_false, gt_iff_lt, conv_eq_run, Run.out]
  cases (run e l (kinds st.instr) 0 st.args st.argsDone).stop with
  | some s => simp only [List.reverse_nil, List.nil_append]
  | none =>
    simp only [List.reverse_nil, List.nil_append]
    cases finish st.addr _ _ (kinds st.instr).length <;> rfl

theorem assembleRun_left {addr : Nat} {i : Instr} {n : Nat} {r : Run} {st₁ : St} {o : Res}
    (h : assembleRun addr i n r = (st₁, o)) (ho : o ≠ .completed) :
    st₁ = ⟨addr, stores i 0 r.vals, r.done, r.args⟩ ∧
      (r.stop = some o ∨ (r.stop = none ∧ ∃ d, o = .error d ∧ finish addr (stores i 0 r.vals) r.vals n = .error d)) := by
  unfold assembleRun at h
  cases hs : r.stop with
  | some s => simp only [hs, Prod.mk.injEq] at h; exact ⟨h.1.symm, .inl (by rw [h.2])⟩
  | none =>
    simp only [hs] at h
    cases hf : finish addr (stores i 0 r.vals) r.vals n with
    | ok j => rw [hf] at h; cases h; exact absurd rfl ho
    | error d => rw [hf] at h; cases h; exact ⟨rfl, .inr ⟨rfl, d, rfl, rfl⟩⟩

theorem assembleRun_stop (addr : Nat) (i : Instr) (n : Nat) {r : Run} {s : Res} (h : r.stop = some s) :
    assembleRun addr i n r = (⟨addr, stores i 0 r.vals, r.done, r.args⟩, s) := by
  simp only [assembleRun, h]

theorem assembleRun_completed {addr : Nat} {i : Instr} {n : Nat} {r : Run} (hr : r.stop ≠ some .completed)
    (h : (assembleRun addr i n r).2 = .completed) :
    r.stop = none ∧ ∃ j, finish addr (stores i 0 r.vals) r.vals n = .ok j ∧ (assembleRun addr i n r).1.instr = j := by
  unfold assembleRun at h ⊢
  cases hs : r.stop with
  | some s => simp only [hs] at h; exact absurd (h ▸ hs) hr
  | none =>
    simp only [hs] at h ⊢
    cases hf : finish addr (stores i 0 r.vals) r.vals n with
    | ok j => exact ⟨trivial, j, rfl, rfl⟩
    | error d => rw [hf] at h; cases h

theorem assembleRun_of_finish {addr : Nat} {i : Instr} {n : Nat} {r : Run} (hs : r.stop = none) {j : Instr}
    (hf : finish addr (stores i 0 r.vals) r.vals n = .ok j) : assembleRun addr i n r = (⟨addr, j, r.done, r.args⟩, .completed) := by
  simp only [assembleRun, hs, hf]

end Trion.Front
