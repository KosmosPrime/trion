import TrionModel.Lemmas.LexPieceDef
import TrionModel.Lemmas.LexStr
/-!
# Specification of source layout (definitions only)

A source text is `sep₀ tok₁ sep₁ tok₂ … tokₙ trail`:

* `IsSep d` — `d` is separator text: any sequence of white-space bytes (TAB, LF, CR, space), line comments
  `// … LF` and block comments `/* … */`. Block comments nest: `Inside n d` reads `d` from just after an
  opening `/*` with `n` further comments open around it, up to and including the `*/` that closes the outermost
  one; in it the byte pairs `/*` and `*/` open and close, and any other byte stands for itself (it must not be
  the first byte of such a pair). Comment bodies are arbitrary well-formed UTF-8.
* `IsSepEnd d` — separator text that may end in a line comment which the end of the text terminates.
* `Spell bs t nx` — `bs` is a spelling of the token `t` when the byte `nx` follows (`none` = end of text):
  punctuation and operators (`/` must not be followed by `/` or `*`), `<<`, `>>`, identifiers, integers in radix
  2/8/10/16 with any zero padding and digit case (identifiers and integers must not be followed by an identifier
  byte), character literals (raw scalar value or one of the six escapes), string literals (any sequence of raw
  characters, escapes and `\u{…}` — `StrItem`, `Lemmas/LexStr.lean`).
* `LTok` / `ltext` / `LOk` / `ltoks` — a layout, its text, its well-formedness, and the tokens the specification
  assigns to it: token `i` carries `Pos.of (the text before its spelling)`.
-/
namespace Trion.Lex
open Trion.Pos (adv isCont)

/-- the first byte of `d` is not the second half of the pair that `b` would begin -/
def notPair (b : UInt8) (d : Bytes) : Prop :=
  ∀ c, d.head? = some c → ¬ (b.toNat = 47 ∧ c.toNat = 42) ∧ ¬ (b.toNat = 42 ∧ c.toNat = 47)

/-- the text after an opening `/*`, with `n` enclosing comments still open, through the final `*/` -/
inductive Inside : Nat → Bytes → Prop
  | close0 : Inside 0 [42, 47]
  | close (n : Nat) (d : Bytes) : Inside n d → Inside (n + 1) (42 :: 47 :: d)
  | «open» (n : Nat) (d : Bytes) : Inside (n + 1) d → Inside n (47 :: 42 :: d)
  | byte (n : Nat) (b : UInt8) (d : Bytes) : Inside n d → notPair b d → Inside n (b :: d)

/-- separator text -/
inductive IsSep : Bytes → Prop
  | nil : IsSep []
  | space (b : UInt8) (d : Bytes) : isSpace b = true → IsSep d → IsSep (b :: d)
  | line (body d : Bytes) : (∀ b ∈ body, b.toNat ≠ 10) → Utf8 body → IsSep d → IsSep (47 :: 47 :: body ++ 10 :: d)
  | block (body d : Bytes) : Inside 0 body → Utf8 body → IsSep d → IsSep (47 :: 42 :: body ++ d)

/-- separator text at the end of the input: the last line comment needs no line feed -/
def IsSepEnd (d : Bytes) : Prop :=
  IsSep d ∨ ∃ a body, d = a ++ 47 :: 47 :: body ∧ IsSep a ∧ (∀ b ∈ body, b.toNat ≠ 10) ∧ Utf8 body

/-- the six escapes of a character literal: letter ↦ value -/
def charEsc (e : Nat) : Option Nat :=
  if e = 116 then some 9 else if e = 110 then some 10 else if e = 114 then some 13
  else if e = 34 then some 34 else if e = 39 then some 39 else if e = 92 then some 92 else none

/-- `bs` spells the token `t` when followed by `nx` -/
inductive Spell : Bytes → Tok → Option UInt8 → Prop
  | punct (c : UInt8) (t : Tok) (nx : Option UInt8) : punct c.toNat = some t → c.toNat ≠ 47 → Spell [c] t nx
  | div (nx : Option UInt8) : (∀ b, nx = some b → b.toNat ≠ 47 ∧ b.toNat ≠ 42) → Spell [47] .div nx
  | shl (nx : Option UInt8) : Spell [60, 60] .shl nx
  | shr (nx : Option UInt8) : Spell [62, 62] .shr nx
  | ident (s : Bytes) (nx : Option UInt8) : identOk s = true → Follow nx → Spell s (.ident s) nx
  | num (r : Nat) (ds : Bytes) (v : Int) (nx : Option UInt8) : (r = 2 ∨ r = 8 ∨ r = 10 ∨ r = 16) → ds ≠ [] →
      (∀ b ∈ ds, isDigit r b = true) → i64FromStrRadix ds r = some v → Follow nx →
      Spell (radixPrefix r ++ ds) (.num v) nx
  | chr (c : Nat) (nx : Option UInt8) : RawChar c → Spell (39 :: encodeChar c ++ [39]) (.num (Int.ofNat c)) nx
  | chrEsc (e : UInt8) (v : Nat) (nx : Option UInt8) : charEsc e.toNat = some v →
      Spell [39, 92, e, 39] (.num (Int.ofNat v)) nx
  | str (items : List StrItem) (nx : Option UInt8) : (∀ it ∈ items, it.Ok) →
      Spell (34 :: renderAll items ++ [34]) (.str (denoteAll items)) nx

/-- one token of a layout: the separator text in front of it, its spelling, the token -/
structure LTok where
  sep : Bytes
  spell : Bytes
  tok : Tok

/-- the text of a layout: `sep₁ tok₁ … sepₙ tokₙ trail` -/
def ltext : List LTok → Bytes → Bytes
  | [], trail => trail
  | x :: r, trail => x.sep ++ x.spell ++ ltext r trail

/-- a well-formed layout -/
def LOk : List LTok → Bytes → Prop
  | [], trail => IsSepEnd trail
  | x :: r, trail => IsSep x.sep ∧ Spell x.spell x.tok (ltext r trail).head? ∧ LOk r trail

/-- the tokens of a layout whose text comes after `pre`: each at the specified position of its spelling -/
def ltoks (pre : Bytes) : List LTok → List Token
  | [] => []
  | x :: r => ⟨(Pos.of (pre ++ x.sep)).1, (Pos.of (pre ++ x.sep)).2, x.tok⟩ :: ltoks (pre ++ x.sep ++ x.spell) r

/-- byte extents `[o, e)` of the spellings of a layout that begins at offset `start` -/
def lextents (start : Nat) : List LTok → List (Nat × Nat)
  | [] => []
  | x :: r => (start + x.sep.length, start + x.sep.length + x.spell.length) ::
      lextents (start + x.sep.length + x.spell.length) r

end Trion.Lex
