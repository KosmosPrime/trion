import TrionModel.Lemmas.LexLayoutDef
/-!
# `DoSpec` for the character-literal and string arms, hence for `do_next`

The string arm needs no walk of its own: every well-formed body is items and a closing quote, or items and a tail at which
the scanner gives up (`bodyCases_all`); on the first the arm's result is known exactly (`lexString_items`), on the second
it is one of the two `.badString` failures, `fail` or `failEof` (`lexString_reject`).
-/
namespace Trion.Lex
open Trion.Pos (isCont adv)

theorem decodeChar_ascii {d : Bytes} {c m : Nat} (h : decodeChar d = some (c, m)) (hc : c < 128) :
    ∃ b tl, d = b :: tl ∧ b.toNat = c ∧ m = 1 := by
  obtain ⟨_, _, ⟨b0, hb0, _, h1, _, h3⟩, _⟩ := decodeChar_some h
  have hlt : b0.toNat < 128 := by
    by_cases hh : b0.toNat < 128
    · exact hh
    · have := h3 (by omega); omega
  obtain ⟨hm, hcb⟩ := h1 hlt
  cases d with
  | nil => simp at hb0
  | cons b tl =>
    simp at hb0; subst hb0
    exact ⟨b, tl, rfl, hcb.symm, hm⟩

theorem charEsc_cases {e v : Nat} (he : charEsc e = some v) :
    (e = 116 ∧ v = 9) ∨ (e = 110 ∧ v = 10) ∨ (e = 114 ∧ v = 13) ∨ (e = 34 ∧ v = 34) ∨ (e = 39 ∧ v = 39) ∨
      (e = 92 ∧ v = 92) := by
  unfold charEsc at he
  split at he
  · cases he; omega
  · split at he
    · cases he; omega
    · split at he
      · cases he; omega
      · split at he
        · cases he; omega
        · split at he
          · cases he; omega
          · split at he
            · cases he; omega
            · cases he

theorem lexCharFirst_esc (u : Bool) (rest : Bytes) (e m : Nat) (hd : decodeChar rest = some (e, m)) :
    lexCharFirst u (92 :: rest) = match charEsc e with
      | some v => .ok 2 v
      | none => .err false := by
  unfold lexCharFirst
  rw [decodeChar_ascii_cons 92 rest (by decide)]
  simp only [show (92 : UInt8).toNat = 92 from rfl, beq_self_eq_true, if_true, List.drop_succ_cons, List.drop_zero, hd]
  unfold charEsc
  simp only [beq_iff_eq, Bool.or_eq_true]
  split
  · rfl
  split
  · rfl
  split
  · rfl
  split
  · rename_i h
    rcases h with (h | h) | h <;> subst h <;> rfl
  · rename_i h
    simp only [not_or] at h
    rw [if_neg h.1.1, if_neg h.1.2, if_neg h.2]

theorem lexCharFirst_ok {u : Bool} {rest : Bytes} {n c : Nat} (h : lexCharFirst u rest = .ok n c) :
    ∃ body tail, rest = body ++ tail ∧ body.length = n ∧ (c < 128 → ∀ b ∈ body, b.toNat < 128 ∧ b.toNat ≠ 10) := by
  cases hd : decodeChar rest with
  | none => simp [lexCharFirst, hd] at h
  | some cn =>
    obtain ⟨c0, n0⟩ := cn
    by_cases h92 : c0 = 92
    · subst h92
      obtain ⟨b, tl, rfl, hb, rfl⟩ := decodeChar_ascii hd (by omega)
      obtain rfl : b = 92 := UInt8.toNat_inj.1 hb
      cases hd2 : decodeChar tl with
      | none => simp [lexCharFirst, hd, hd2] at h
      | some em =>
        obtain ⟨e, m⟩ := em
        rw [lexCharFirst_esc u tl e m hd2] at h
        cases hce : charEsc e with
        | none => rw [hce] at h; cases h
        | some v =>
          rw [hce] at h
          cases h
          have := charEsc_cases hce
          obtain ⟨eb, tl', rfl, heb, _⟩ := decodeChar_ascii hd2 (by omega)
          refine ⟨[92, eb], tl', rfl, rfl, fun _ y hy => ?_⟩
          simp at hy
          rcases hy with rfl | rfl
          · decide
          · omega
    · unfold lexCharFirst at h
      have hne : (c0 == 92) = false := by simpa using h92
      simp only [hd, hne, Bool.false_eq_true, if_false] at h
      split at h
      · rename_i hcond
        cases h
        obtain ⟨hn1, hnl, _, _⟩ := decodeChar_some hd
        refine ⟨rest.take n, rest.drop n, (List.take_append_drop n rest).symm, by simp; omega, ?_⟩
        intro hc
        obtain ⟨b, tl, rfl, hb, rfl⟩ := decodeChar_ascii hd hc
        intro y hy
        simp at hy; subst hy
        simp at hcond
        omega
      · simp at h

theorem lexCharBody_ok {u : Bool} {rest : Bytes} {n c : Nat} (h : lexCharBody u rest = .ok n c) :
    ∃ body q post, rest = body ++ q :: post ∧ body.length = n ∧ q.toNat = 39 ∧
      (c < 128 → ∀ b ∈ body, b.toNat < 128 ∧ b.toNat ≠ 10) := by
  unfold lexCharBody at h
  cases hf : lexCharFirst u rest with
  | err u' => simp [hf] at h
  | ok n' c' =>
    simp only [hf] at h
    cases hd : decodeChar (rest.drop n') with
    | none => simp [hd] at h
    | some qm =>
      obtain ⟨q, m⟩ := qm
      simp only [hd] at h
      by_cases hq : q = 39
      · simp only [hq, beq_self_eq_true, if_true] at h
        cases h
        obtain ⟨body, tail, hrest, hlen, hasc⟩ := lexCharFirst_ok hf
        subst hq
        have htail : rest.drop n = tail := by rw [hrest, ← hlen]; simp
        rw [htail] at hd
        obtain ⟨qb, post, rfl, hqb, _⟩ := decodeChar_ascii hd (by omega)
        exact ⟨body, qb, post, hrest, hlen, hqb, hasc⟩
      · have : (q == 39) = false := by simpa using hq
        simp [this] at h

theorem doSpec_char (s : State) (tl : Bytes) (hd : s.data = 39 :: tl) (hu : Utf8 s.data) : DoSpec s (lexChar s) := by
  cases hb : lexCharBody s.utfErr tl with
  | ok n c =>
    obtain ⟨body, q, post, rfl, rfl, hq, hasc⟩ := lexCharBody_ok hb
    obtain rfl : q = 39 := UInt8.toNat_inj.1 hq
    have hpost : Utf8 post :=
      utf8_split_after_ascii (pre := 39 :: body) (b := 39) (by simpa [hd] using hu) (by decide)
    rw [lexChar_ok s body post c hd hu hb hasc]
    exact ⟨39 :: body ++ [39], by simp [hd], hpost, rfl, rfl, rfl, rfl, 39, rfl, by simp [startsTok]⟩
  | err utf =>
    rw [lexChar_err s tl hd hu utf hb]
    split
    · exact errSpec_end s _
    · exact doSpec_fail s _

theorem doSpec_string (s : State) (tl : Bytes) (hd : s.data = 34 :: tl) (hu : Utf8 s.data) : DoSpec s (lexString s) := by
  have htl : Utf8 tl := utf8_tail_of_ascii (hd ▸ hu) (by decide)
  rcases bodyCases_all tl.length tl (Nat.le_refl _) htl with
    ⟨items, rest, hok, hr, rfl⟩ | ⟨items, tail, hok, hut, hroom, hbad, rfl⟩
  · obtain ⟨d, u, l, c⟩ := s
    subst hd
    rw [show (34 : UInt8) :: (renderAll items ++ 34 :: rest) = 34 :: renderAll items ++ 34 :: rest from rfl,
      lexString_items items hok rest hr u l c]
    exact ⟨34 :: renderAll items ++ [34], by simp, hr, rfl, rfl, rfl, rfl, 34, rfl, by simp [startsTok]⟩
  · rcases lexString_reject items hok tail hut hroom hbad s hd with h | h <;> rw [h]
    · exact doSpec_fail s _
    · exact doSpec_failEof s _ hu

theorem doSpec_doNext (s : State) (hu : Utf8 s.data) (hne : s.data ≠ []) : DoSpec s (doNext s) := by
  obtain ⟨b0, tl, hd⟩ : ∃ b0 tl, s.data = b0 :: tl := by
    cases h : s.data with
    | nil => exact absurd h hne
    | cons x y => exact ⟨x, y, rfl⟩
  have hshift : ∀ x t, (x = 60 ∧ t = Tok.shl ∨ x = 62 ∧ t = Tok.shr) → b0.toNat = x → secondIs s.data x = true →
      DoSpec s (doNext s) := by
    intro x t hx h0 h1
    rw [doNext_shift s b0 tl hd x t hx h0 h1]
    obtain ⟨b1, tl', rfl, hb1⟩ : ∃ b1 tl', tl = b1 :: tl' ∧ b1.toNat = x := by
      unfold secondIs at h1
      cases tl with
      | nil => simp [hd] at h1
      | cons b1 tl' => exact ⟨b1, tl', rfl, by simpa [hd] using h1⟩
    exact doSpec_two s b0 b1 tl' t hd hu (by omega) (by omega)
      (by rcases hx with ⟨rfl, rfl⟩ | ⟨rfl, rfl⟩ <;> simp [startsTok, h0])
  cases hp : punct b0.toNat with
  | some t => rw [doNext_punct s b0 tl hd hp]; exact doSpec_punct s b0 tl t hd hu hp
  | none =>
    by_cases h60 : b0.toNat = 60 ∧ secondIs s.data 60 = true
    · exact hshift 60 .shl (.inl ⟨rfl, rfl⟩) h60.1 h60.2
    by_cases h62 : b0.toNat = 62 ∧ secondIs s.data 62 = true
    · exact hshift 62 .shr (.inr ⟨rfl, rfl⟩) h62.1 h62.2
    rw [doNext_arm s b0 tl hd hp (by rintro x (rfl | rfl) <;> assumption)]
    split
    · exact doSpec_number s b0 tl hd hu ‹_›
    split
    · obtain rfl : b0 = 39 := UInt8.toNat_inj.1 ‹_›
      exact doSpec_char s tl hd hu
    split
    · refine doSpec_ident s b0 tl hd hu ?_
      simp [isIdentByte]
      omega
    split
    · obtain rfl : b0 = 34 := UInt8.toNat_inj.1 ‹_›
      exact doSpec_string s tl hd hu
    · obtain ⟨c, n, hdec⟩ := utf8_decode hu hne
      rw [hdec]
      exact doSpec_fail s _

end Trion.Lex
