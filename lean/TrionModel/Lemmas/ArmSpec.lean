import TrionModel.Spec.Arm
/-! Generic facts about the first-match search of `Arm.decodeIn`: rows that do not fit are passed over; what is known of
some bits of the word removes every row one of whose runs of fixed bits contradicts it (`decodeIn_known`): the five leading
bits of a halfword leave the rows of one group (`table16_group`), the bits a branch of the decoder has tested leave the
row of that branch. -/
namespace Trion.Arm
open Trion

theorem decodeIn_cons_skip (rw : Row) (rest : List Row) (w n : Nat) (h : ¬ (rw.n = n ∧ fits w rw.fixed)) :
    decodeIn (rw :: rest) w n = decodeIn rest w n := by
  simp only [decodeIn, rowDecode, if_neg h]

theorem decodeIn_cons_hit (rw : Row) (rest : List Row) (w n : Nat) (h : rw.n = n ∧ fits w rw.fixed) :
    decodeIn (rw :: rest) w n =
      if rw.unpred (fieldOf w rw.fields) then none else some (rw.ins (fieldOf w rw.fields)) := by
  simp only [decodeIn, rowDecode, if_pos h]

theorem decodeIn_cons (rw : Row) (rest : List Row) (w n : Nat) :
    decodeIn (rw :: rest) w n =
      if rw.n = n ∧ fits w rw.fixed then
        (if rw.unpred (fieldOf w rw.fields) then none else some (rw.ins (fieldOf w rw.fields)))
      else decodeIn rest w n := by
  by_cases h : rw.n = n ∧ fits w rw.fixed
  · rw [if_pos h, decodeIn_cons_hit _ _ _ _ h]
  · rw [if_neg h, decodeIn_cons_skip _ _ _ _ h]

/-- no row of width `n` has its fixed bits in `w`; `unpred` is not looked at, so this is stronger than
`decodeIn rows w n = none` -/
def NoFit (w n : Nat) : List Row → Prop
  | [] => True
  | rw :: rest => ¬ (rw.n = n ∧ fits w rw.fixed) ∧ NoFit w n rest

theorem decodeIn_nofit {w n : Nat} {a : List Row} (ha : NoFit w n a) : decodeIn a w n = none := by
  induction a with
  | nil => rfl
  | cons x xs ih => rw [decodeIn_cons_skip _ _ _ _ ha.1]; exact ih ha.2

theorem decodeIn_append_left {w n : Nat} {a b : List Row} (ha : NoFit w n a) :
    decodeIn (a ++ b) w n = decodeIn b w n := by
  induction a with
  | nil => rfl
  | cons x xs ih => rw [List.cons_append, decodeIn_cons_skip _ _ _ _ ha.1]; exact ih ha.2

theorem decodeIn_append_congr {a b b' : List Row} {w n : Nat} (h : decodeIn b w n = decodeIn b' w n) :
    decodeIn (a ++ b) w n = decodeIn (a ++ b') w n := by
  induction a with
  | nil => exact h
  | cons x xs ih => simp only [List.cons_append, decodeIn]; split <;> first | rfl | exact ih

theorem decodeIn_append_right {w n : Nat} {a b : List Row} (hb : NoFit w n b) :
    decodeIn (a ++ b) w n = decodeIn a w n := by
  rw [decodeIn_append_congr (b' := []) (decodeIn_nofit hb), List.append_nil]

theorem NoFit_of_width {w n : Nat} {a : List Row} (h : ∀ rw ∈ a, rw.n ≠ n) : NoFit w n a := by
  induction a with
  | nil => trivial
  | cons x xs ih =>
    exact ⟨fun c => h x (by simp) c.1, ih fun rw m => h rw (by simp [m])⟩

/-- two runs of bits `(position of the lowest bit, length, value)` share a position on which they differ -/
def differ (a b : Nat × Nat × Nat) : Bool :=
  max a.1 b.1 < min (a.1 + a.2.1) (b.1 + b.2.1) &&
    a.2.2 / 2 ^ (max a.1 b.1 - a.1) % 2 ^ (min (a.1 + a.2.1) (b.1 + b.2.1) - max a.1 b.1) !=
      b.2.2 / 2 ^ (max a.1 b.1 - b.1) % 2 ^ (min (a.1 + a.2.1) (b.1 + b.2.1) - max a.1 b.1)

theorem sub_run {w p l v lo hi : Nat} (h : w / 2 ^ p % 2 ^ l = v) (h1 : p ≤ lo) (h2 : hi ≤ p + l) (h3 : lo ≤ hi) :
    w / 2 ^ lo % 2 ^ (hi - lo) = v / 2 ^ (lo - p) % 2 ^ (hi - lo) := by
  subst h
  have e : 2 ^ l = 2 ^ (lo - p) * 2 ^ (l - (lo - p)) := by rw [← Nat.pow_add]; congr 1; omega
  rw [e, Nat.mod_mul_right_div_self, Nat.div_div_eq_div_mul, ← Nat.pow_add, Nat.add_sub_cancel' h1,
    Nat.mod_mod_of_dvd _ (Nat.pow_dvd_pow 2 (by omega))]

theorem not_fits_of_differ {w p l v : Nat} (hk : w / 2 ^ p % 2 ^ l = v) {fx : List (Nat × Nat × Nat)}
    (h : fx.any (differ (p, l, v)) = true) : ¬ fits w fx := by
  induction fx with
  | nil => cases h
  | cons run rest ih =>
    rw [List.any_cons, Bool.or_eq_true] at h
    rintro ⟨hv, hr⟩
    rcases h with h | h
    · simp only [differ, Bool.and_eq_true, decide_eq_true_eq, bne_iff_ne, ne_eq] at h
      -- both runs say what the bits they share are
      exact h.2 ((sub_run hk (Nat.le_max_left ..) (Nat.min_le_left ..) (Nat.le_of_lt h.1)).symm.trans
        (sub_run hv (Nat.le_max_right ..) (Nat.min_le_right ..) (Nat.le_of_lt h.1)))
    · exact ih h hr

/-- The filter looks at the table alone: on the rows of a concrete table it is evaluated by unfolding. -/
theorem decodeIn_known {w n p l v : Nat} (hk : w / 2 ^ p % 2 ^ l = v) (rows : List Row) :
    decodeIn rows w n = decodeIn (rows.filter fun rw => !rw.fixed.any (differ (p, l, v))) w n := by
  induction rows with
  | nil => rfl
  | cons rw rest ih =>
    rw [List.filter_cons]
    cases hd : rw.fixed.any (differ (p, l, v))
    · simp only [Bool.not_false, if_true, decodeIn_cons, ih]
    · rw [decodeIn_cons_skip _ _ _ _ fun c => not_fits_of_differ hk hd c.2]
      exact ih

/-- Every row fixes the bits `p … p+l-1`, each to a value with a property `ok` that what the word has
there lacks.  This is how a pattern is seen to be no row's, after `decodeIn_known` has left the rows that come near. -/
theorem NoFit_of_run {w n p l : Nat} {rows : List Row} (ok : Nat → Prop) [DecidablePred ok]
    (h : rows.all (fun rw => rw.fixed.any fun run => run.1 == p && run.2.1 == l && decide (ok run.2.2)) = true)
    (hw : ¬ ok (w / 2 ^ p % 2 ^ l)) : NoFit w n rows := by
  induction rows with
  | nil => trivial
  | cons rw rest ih =>
    rw [List.all_cons, Bool.and_eq_true] at h
    refine ⟨fun c => ?_, ih h.2⟩
    have f := c.2
    have a := h.1
    generalize rw.fixed = fx at f a
    induction fx with
    | nil => cases a
    | cons run fx ihx =>
      rw [List.any_cons, Bool.or_eq_true] at a
      rcases a with a | a
      · simp only [Bool.and_eq_true, beq_iff_eq, decide_eq_true_eq] at a
        obtain ⟨⟨rfl, rfl⟩, o⟩ := a
        exact hw (f.1 ▸ o)
      · exact ihx f.2 a

theorem decodeIn_hit {rw : Row} {rest : List Row} {w n : Nat} {i : Instr} (hn : rw.n = n) (hf : fits w rw.fixed)
    (hu : rw.unpred (fieldOf w rw.fields) = false) (hi : rw.ins (fieldOf w rw.fields) = i) :
    decodeIn (rw :: rest) w n = some i := by
  rw [decodeIn_cons_hit _ _ _ _ ⟨hn, hf⟩, hu, hi]; rfl

/-- Reads the fields of a concrete row off the word: `fieldOf w fields c` becomes `w / 2^p % 2^l` (two such, joined,
for a field in two runs). -/
macro "row_fields" : tactic => `(tactic| simp only [fieldOf, segVal, rg, Char.reduceEq, ↓reduceIte, Nat.reducePow,
  Nat.zero_mul, Nat.zero_add, Nat.div_one])

/-- the 16-bit rows with the leading five bits that their diagrams admit; the rows of `g26` begin `1101` and serve 26
and 27, so there is no `g27` -/
def groups : List (List Nat × List Row) :=
  [([0], g00), ([1], g01), ([2], g02), ([3], g03), ([4], g04), ([5], g05), ([6], g06), ([7], g07), ([8], g08),
   ([9], g09), ([10], g10), ([11], g11), ([12], g12), ([13], g13), ([14], g14), ([15], g15), ([16], g16),
   ([17], g17), ([18], g18), ([19], g19), ([20], g20), ([21], g21), ([22], g22), ([23], g23), ([24], g24),
   ([25], g25), ([26, 27], g26), ([28], g28)]

/-- the rows of the groups whose list of leading-bit values contains `k`; `[]` for 29–31, the 32-bit space, which
`arm_decode_lone_wide` uses by `rfl` -/
def group (k : Nat) : List Row := ((groups.filter (·.1.contains k)).map (·.2)).flatten

theorem table16_eq : table16 = (groups.map (·.2)).flatten := rfl

theorem groups_differ : ∀ k : Fin 32, ∀ g ∈ groups, g.1.contains k.val = false →
    g.2.all (fun rw => rw.fixed.any (differ (11, 5, k.val))) = true := by decide +kernel

theorem decodeIn_filter (gs : List (List Nat × List Row)) (w n k : Nat)
    (h : ∀ g ∈ gs, g.1.contains k = false → NoFit w n g.2) :
    decodeIn (gs.map (·.2)).flatten w n = decodeIn ((gs.filter (·.1.contains k)).map (·.2)).flatten w n := by
  induction gs with
  | nil => rfl
  | cons g gs ih =>
    have ih := ih fun g' m => h g' (List.mem_cons_of_mem _ m)
    cases hg : g.1.contains k
    · simp only [List.filter_cons, hg, Bool.false_eq_true, if_false, List.map_cons, List.flatten_cons]
      rw [decodeIn_append_left (h g (List.mem_cons_self ..) hg)]
      exact ih
    · simp only [List.filter_cons, hg, if_true, List.map_cons, List.flatten_cons]
      exact decodeIn_append_congr ih

theorem NoFit_of_differ {w n p l v : Nat} (hk : w / 2 ^ p % 2 ^ l = v) {rows : List Row}
    (h : rows.all (fun rw => rw.fixed.any (differ (p, l, v))) = true) : NoFit w n rows := by
  induction rows with
  | nil => trivial
  | cons rw rest ih =>
    rw [List.all_cons, Bool.and_eq_true] at h
    exact ⟨fun c => not_fits_of_differ hk h.1 c.2, ih h.2⟩

/-- the five leading bits of a halfword as a run of known bits -/
theorem lead5 {h k : Nat} (hk : h / 2048 = k) (hlt : k < 32) : h / 2 ^ 11 % 2 ^ 5 = k := by
  subst hk; exact Nat.mod_eq_of_lt hlt

theorem table16_group (h : Nat) (hlt : h < 65536) : decodeIn table16 h 16 = decodeIn (group (h / 2048)) h 16 := by
  have h5 : h / 2048 < 32 := by omega
  rw [table16_eq, group]
  exact decodeIn_filter _ _ _ _ fun g m hg => NoFit_of_differ (lead5 rfl h5) (groups_differ ⟨h / 2048, h5⟩ g m hg)

end Trion.Arm
