import TrionModel.Lemmas.SimpRetry
/-!
# Every rewrite keeps `arith Q`: `evaluate` neither loses nor invents a leaf that is not a constant

`arith Q a` (Lemmas/SimpRetry.lean): `a` is built from constants, identifiers outside `Q`, binary operators, `Negate`
and `Not` only; any other leaf — a register, a string, a name in `Q` — taints the whole operand, `arith Q` being false before
and after.  Every rewrite of `simplify_raw` / `neutralize` / the merge removes or creates CONSTANTS only (constant
folding, neutral elements, the spliced-out constant of a merge, the constant modulus of `(x % y) % z`), swaps operands
(`-(l - r) ↦ r - l`) or strips a `Negate`.  Hence each of them leaves `arith Q` as it is (`simplifyRaw_arith`); `evaluate`
also replaces identifiers by their values, so the tree it leaves — on `Ok` and on `NoSuchVariable` — is arithmetic exactly
when the operand was, provided `Q` allows the names that had a value (`evaluateE_arith_ok`, `evaluateE_arith_nosuch`).  In
particular an operand whose evaluation ends in a CONSTANT is register-free arithmetic.
-/
namespace Trion.Simp
open Trion

section
variable (Q : Bytes → Bool)

theorem arith_of_cval {a : Arg} {c : Int} (h : cval a = some c) : arith Q a = true := by
  rw [cval_some_eq h]; rfl

theorem arith_stripNeg (r : Arg) (s : Bool) : arith Q (stripNeg s r).2.1 = arith Q r := by
  induction r using Arg.ind generalizing s with
  | neg n ih => simp only [stripNeg, arith]; exact ih _
  | _ => rfl

theorem arith_normAddSub {s : Bool} {r : Arg} {ch s' : Bool} {r' : Arg} (he : normAddSub s r = .ok (ch, s', r')) :
    arith Q r' = arith Q r := by
  unfold normAddSub at he
  cases hc : cval (stripNeg s r).2.1 with
  | none =>
    simp only [hc, Res.ok.injEq, Prod.mk.injEq] at he
    obtain ⟨_, _, rfl⟩ := he
    exact arith_stripNeg Q r s
  | some v =>
    have h1 : arith Q r = true := by rw [← arith_stripNeg Q r s]; exact arith_of_cval Q hc
    simp only [hc] at he
    split at he
    · cases hn : checkedNeg v with
      | none => simp [hn] at he
      | some nv =>
        simp only [hn, Res.ok.injEq, Prod.mk.injEq] at he
        obtain ⟨_, _, rfl⟩ := he
        rw [h1]; rfl
    · simp only [Res.ok.injEq, Prod.mk.injEq] at he
      obtain ⟨_, _, rfl⟩ := he
      exact arith_stripNeg Q r s

theorem arith_neutralMain (op : BinOp) (l r : Arg) : arith Q (neutralMain op l r) = (arith Q l && arith Q r) := by
  unfold neutralMain
  cases hcl : cval l with
  | some v =>
    have hl := arith_of_cval Q hcl
    simp only
    split
    · simp [hl]
    · split
      · simp [arith, hl]
      · simp [arith]
  | none =>
    cases hcr : cval r with
    | some v =>
      have hr := arith_of_cval Q hcr
      simp only
      split
      · simp [hr]
      · simp [arith]
    | none => simp [arith]

theorem arith_neutralizeBin {op : BinOp} {l r : Arg} {c : Bool} {a' : Arg}
    (he : neutralizeBin op l r = .ok (c, a')) : arith Q a' = (arith Q l && arith Q r) := by
  obtain ⟨op', r', _, _, rfl, ⟨_, rfl, rfl⟩ | ⟨_, s', hn, rfl⟩⟩ := neutralizeBin_ok he
  · exact arith_neutralMain Q _ l _
  · rw [arith_neutralMain, arith_normAddSub Q hn]

theorem arith_neutralizeRaw : ∀ (a : Arg) (c : Bool) (a' : Arg), neutralizeRaw a = .ok (c, a') →
    arith Q a' = arith Q a := by
  apply Arg.negNegInd
  · intro a hnn c a' he
    cases a with
    | bin op l r =>
      rcases neutralizeRaw_bin_cases op l r with h0 | ⟨x, y, rfl, rfl, rfl, h0⟩
      · rw [h0] at he; rw [arith_neutralizeBin Q he]; rfl
      · rw [h0] at he
        obtain ⟨_, c', he'⟩ := swapped_ok he
        rw [arith_neutralizeBin Q he']; simp [arith, Bool.and_comm]
    | neg v =>
      rcases neutralizeRaw_neg_cases v with h0 | ⟨x, y, rfl, h0⟩ | ⟨w, rfl, _⟩
      · rw [h0] at he; cases he; rfl
      · rw [h0] at he
        obtain ⟨_, c', he'⟩ := swapped_ok he
        rw [arith_neutralizeBin Q he']; simp [arith, Bool.and_comm]
      · exact absurd rfl (hnn w)
    | _ => cases he; rfl
  · intro w ih c a' he
    rw [neutralizeRaw_neg_neg] at he
    obtain ⟨_, c', he'⟩ := swapped_ok he
    simp only [arith]
    exact ih c' a' he'

theorem arith_neutralize : ∀ a (c : Bool) (a' : Arg), neutralize a = .ok (c, a') → arith Q a' = arith Q a :=
  neutralize_ok_ind (R := fun a a' => arith Q a' = arith Q a) (fun _ => rfl) (fun _ => rfl) (fun _ => rfl)
    (fun _ _ _ _ _ _ _ ihl ihr h3 => by rw [arith_neutralizeRaw Q _ _ _ h3]; simp [arith, ihl, ihr])
    (fun _ _ _ _ ih h3 => by rw [arith_neutralizeRaw Q _ _ _ h3]; simp [arith, ih])
    (fun _ _ ih => by simp [arith, ih]) (fun _ _ => rfl) (fun _ _ => rfl) (fun _ _ _ => rfl)

theorem arith_found {ty : BinOp} {a : Arg} {c : Int} {s : Bool} {set : Int → Arg} {drop : Arg}
    (h : Found ty a c s set drop) : (∀ n, arith Q (set n) = arith Q a) ∧ arith Q drop = arith Q a := by
  induction h with
  | @holdL op c r => exact ⟨fun _ => rfl, by cases (op == BinOp.sub) <;> simp [arith]⟩
  | holdR => exact ⟨fun _ => rfl, by simp [arith]⟩
  | left _ _ _ _ _ ih | divS _ _ _ _ ih | neg _ _ ih => simp [arith, ih]
  | right _ _ _ _ _ _ ih => simp [arith, ih]
  | divL | divR => exact ⟨fun _ => rfl, rfl⟩

theorem arith_mergeTree {op : BinOp} {l r : Arg} {c1 c2 : Int} {s1 s2 : Bool} (hL : mergeL op l = .found c1 s1)
    (hR : mergeR op r = .found c2 s2) (c : Int) : arith Q (mergeTree op l r c) = (arith Q l && arith Q r) := by
  rcases mergeL_found hL with ⟨rfl, _⟩ | ⟨hl, fl⟩ <;> rcases mergeR_found hR with ⟨rfl, _⟩ | ⟨hr, _, _, _, fr⟩
  · rfl
  · simp only [mergeTree, cval_const, hr, arith, (arith_found Q fr).2]
  · simp only [mergeTree, cval_const, hl, arith, (arith_found Q fl).1, Bool.and_true]
  · simp only [mergeTree, hl, hr, arith, (arith_found Q fl).1, (arith_found Q fr).2]

theorem modCollapse_cval {l r : Arg} (h : modCollapse l r = true) : ∃ z, cval r = some z := by
  unfold modCollapse at h
  cases hr : cval r with
  | some z => exact ⟨z, rfl⟩
  | none => simp [hr] at h

theorem simplifyRaw_arith (a : Arg) (c : Bool) (a' : Arg) (he : simplifyRaw a = .ok (c, a')) :
    arith Q a' = arith Q a := by
  cases a with
  | bin op l r =>
    obtain ⟨_, _, ⟨_, x, y, w, rfl, rfl, _, rfl⟩ | ⟨_, ⟨_, rfl, hm, rfl⟩ | ⟨_, _, h⟩ | ⟨_, _, _, _, _, _, cc, c3, hL, hR, _, hn⟩⟩⟩ :=
      simplifyRaw_bin_ok he
    · rfl
    · obtain ⟨z, hz⟩ := modCollapse_cval hm
      simp [arith, arith_of_cval Q hz]
    · exact arith_neutralizeRaw Q _ _ _ h
    · rw [arith_neutralize Q _ _ _ hn, arith_mergeTree Q hL hR]; rfl
  | neg v =>
    obtain ⟨_, ⟨_, x, y, c', rfl, h⟩ | ⟨_, w, c', rfl, h⟩ | ⟨_, k, rfl, _, rfl⟩ | ⟨_, rfl, _⟩⟩ := simplifyRaw_neg_ok he
    · rw [arith_neutralizeRaw Q _ _ _ h]; simp [arith, Bool.and_comm]
    · rw [arith_neutralizeRaw Q _ _ _ h]; rfl
    · rfl
    · rfl
  | not v =>
    obtain ⟨_, ⟨_, k, rfl, rfl⟩ | ⟨_, rfl, _⟩⟩ := simplifyRaw_not_ok he
    · rfl
    · rfl
  | addr v => obtain ⟨_, _, rfl⟩ := simplifyRaw_addr_ok he; rfl
  | _ => cases he; rfl

end

section
variable (Q : Bytes → Bool) (lk : Bytes → Lookup) (isReg : Bytes → Bool)

theorem evaluateE_arith_ok (hQ : ∀ s v, isReg s = false → lk s = .found v → Q s = false) :
    ∀ a ev a', evaluateE lk isReg a = .ok ev a' → arith Q a' = arith Q a :=
  evaluateE_ok_ind1 lk isReg (R := fun a _ a' => arith Q a' = arith Q a)
    (fun _ => rfl) (fun _ => rfl) (fun _ _ => rfl) (fun _ _ _ => rfl)
    (fun s v hr hl => by simp [arith, hQ s v hr hl])
    (fun _ _ _ _ _ _ _ c a' _ _ ihl ihr hs => by rw [simplifyRaw_arith Q _ c a' hs]; simp only [arith, ihl, ihr])
    (fun _ _ _ c a' _ ih hs => by rw [simplifyRaw_arith Q _ c a' hs]; exact ih)
    (fun _ _ _ c a' _ ih hs => by rw [simplifyRaw_arith Q _ c a' hs]; exact ih)
    (fun _ _ _ c a' _ _ hs => by rw [simplifyRaw_arith Q _ c a' hs]; rfl)
    (fun _ _ _ => rfl) (fun _ _ _ _ => rfl)

theorem evaluateE_arith_nosuch (hQ : ∀ s v, isReg s = false → lk s = .found v → Q s = false) :
    ∀ a n a₁, evaluateE lk isReg a = .nosuch n a₁ → arith Q a₁ = arith Q a :=
  (evaluateE_nosuch_ind lk isReg (R := fun a _ a₁ => arith Q a₁ = arith Q a) (Rs := fun _ _ _ => True)
    (fun _ _ _ => rfl)
    (fun _ _ _ _ _ _ ih => by simp only [arith, ih])
    (fun _ _ _ _ _ _ _ h1 _ ih => by simp only [arith, evaluateE_arith_ok Q lk isReg hQ _ _ _ h1, ih])
    (fun _ _ _ ih => ih) (fun _ _ _ ih => ih)
    (fun _ _ _ _ => rfl) (fun _ _ _ _ => rfl) (fun _ _ _ _ _ => rfl)
    (fun _ _ _ _ _ => trivial) (fun _ _ _ _ _ _ _ _ _ => trivial)).1

end

section
variable (isReg : Bytes → Bool)

theorem evaluateE_const_arith {lk : Bytes → Lookup} {a : Arg} {ev : Ev} {v : Int}
    (h : evaluateE lk isReg a = .ok ev (.const v)) : arith isReg a = true :=
  (evaluateE_arith_ok isReg lk isReg (fun _ _ h _ => h) _ _ _ h).symm

end

end Trion.Simp
