import TrionModel.Lemmas.LexUtf8
/-!
# Character and string literals over all scalar values: a string body is a list of items (`StrItem`), the scanner on
it collects what it denotes (`strLoop_items`), and every body is such a list followed by the closing quote or by a tail at
which the scanner gives up (`BadTail`)
-/
namespace Trion.Lex
open Trion.Pos (isCont adv)

/-- `&self.data[1..]` after the opening apostrophe is on a character boundary -/
theorem sliceFrom_apos (body : Bytes) (hu : Utf8 body) : sliceFrom ((39 : UInt8) :: body) 1 = some body := by
  simpa using sliceFrom_split [(39 : UInt8)] body (utf8_head? hu)

/-- a scalar value that stands for itself in a character literal: TAB, printable ASCII other than the backslash, anything
from U+0080 on -/
def RawChar (c : Nat) : Prop := isScalar c = true ∧ (c = 9 ∨ (32 ≤ c ∧ c ≤ 126 ∧ c ≠ 92) ∨ 128 ≤ c)

theorem lexCharFirst_raw (u : Bool) (c : Nat) (hc : RawChar c) (rest : Bytes) :
    lexCharFirst u (encodeChar c ++ rest) = .ok (encodeChar c).length c := by
  obtain ⟨hs, hadm⟩ := hc
  unfold lexCharFirst
  rw [decodeChar_encodeChar c hs]
  have h92 : (c == 92) = false := by simp; omega
  have hok : (c == 9 || (decide (32 ≤ c) && decide (c ≤ 126)) || decide (128 ≤ c)) = true := by
    simp; omega
  simp only [h92, Bool.false_eq_true, if_false, hok, if_true]

/-- the character arm when the three `chars.next()` steps succeed on `lit` and the closing apostrophe -/
theorem lexChar_ok (s : State) (lit post : Bytes) (c : Nat) (hd : s.data = 39 :: lit ++ 39 :: post) (hu : Utf8 s.data)
    (hb : lexCharBody s.utfErr (lit ++ 39 :: post) = .ok lit.length c)
    (ha : c < 128 → ∀ b ∈ lit, b.toNat < 128 ∧ b.toNat ≠ 10) :
    lexChar s = .tok ⟨s.line, s.col, .num (Int.ofNat c)⟩
      ⟨post, s.utfErr, (adv s.pos (39 :: lit ++ [39])).1, (adv s.pos (39 :: lit ++ [39])).2⟩ := by
  have hd' : s.data = 39 :: (lit ++ 39 :: post) := hd
  have hin : Utf8 (lit ++ 39 :: post) := utf8_tail_of_ascii (hd' ▸ hu) (by decide)
  unfold lexChar
  rw [hd', sliceFrom_apos _ hin]
  simp only [hb]
  rw [show 1 + lit.length + 1 = ((39 : UInt8) :: lit ++ [39]).length by simp; omega]
  refine emit_eq s _ post _ _ (by simp [hd]) hu (utf8_split_after_ascii hin (by decide)) ?_
  intro hc b hm
  simp only [decide_eq_true_eq] at hc
  simp only [List.cons_append, List.mem_cons, List.mem_append, List.not_mem_nil, or_false] at hm
  rcases hm with rfl | hm | rfl
  · decide
  · exact ha hc b hm
  · decide

theorem lexChar_err (s : State) (body : Bytes) (hd : s.data = 39 :: body) (hu : Utf8 s.data) (u' : Bool)
    (hb : lexCharBody s.utfErr body = .err u') :
    lexChar s = if u' then .err ⟨(adv s.pos s.data).1, (adv s.pos s.data).2, .badUnicode⟩
        ⟨[], false, (adv s.pos s.data).1, (adv s.pos s.data).2⟩
      else fail s .badCharacter := by
  unfold lexChar
  rw [hd, sliceFrom_apos _ (utf8_tail_of_ascii (hd ▸ hu) (by decide)), ← hd]
  simp only [hb, updatePos_eq (good_of_utf8 hu)]
  rfl

theorem lexChar_raw_then (c : Nat) (hc : RawChar c) (rest : Bytes) (hur : Utf8 rest) (l k : Nat) :
    lexChar ⟨39 :: encodeChar c ++ 39 :: rest, false, l, k⟩ =
      .tok ⟨l, k, .num (Int.ofNat c)⟩
        ⟨rest, false, (adv (l, k) (39 :: encodeChar c ++ [39])).1, (adv (l, k) (39 :: encodeChar c ++ [39])).2⟩ := by
  refine lexChar_ok _ (encodeChar c) rest c rfl
    (utf8_ascii_cons 39 (by decide) (utf8_encodeChar c hc.1 (utf8_ascii_cons 39 (by decide) hur))) ?_ ?_
  · unfold lexCharBody
    rw [lexCharFirst_raw false c hc]
    simp [decodeChar_ascii_cons 39 rest (by decide)]
  · intro hlt b hb
    rw [encodeChar_ascii c hlt] at hb
    simp at hb; subst hb
    rw [toNat_toUInt8 _ (by omega)]; have := hc.2; omega

theorem adv_charLit (c : Nat) (hc : RawChar c) (p : Nat × Nat) :
    adv p (39 :: encodeChar c ++ [39]) = (p.1, p.2 + 3) := by
  have e : ((39 : UInt8) :: encodeChar c ++ [39]) = [39] ++ encodeChar c ++ [39] := by simp
  have hlf : Pos.countLF ((39 : UInt8) :: encodeChar c ++ [39]) = 0 := by
    rw [e, countLF_append, countLF_append, countLF_encodeChar c hc.1 (by have := hc.2; omega)]
    rfl
  have hsc : Pos.scalars ((39 : UInt8) :: encodeChar c ++ [39]) = 3 := by
    rw [e, scalars_append, scalars_append, scalars_encodeChar c hc.1]
    rfl
  rw [adv_noLF _ _ hlf, hsc]

/-- what `\u{…}` accepts between the braces: one to six hexadecimal digits that denote a scalar value -/
def HexOk (text : Bytes) : Prop :=
  text ≠ [] ∧ text.length ≤ 6 ∧ (∀ b ∈ text, isDigit 16 b = true) ∧ isScalar (valueFrom 16 text 0) = true

theorem parseDigits_nondigit (radix max : Nat) (ds : Bytes) (acc : Nat) (h : ∃ b ∈ ds, isDigit radix b = false) :
    parseDigits radix max ds acc = none := by
  induction ds generalizing acc with
  | nil => obtain ⟨b, hb, _⟩ := h; cases hb
  | cons b ds ih =>
    simp only [parseDigits]
    cases hv : digitVal radix b with
    | none => rfl
    | some v =>
      simp only
      split
      · rfl
      · apply ih
        obtain ⟨x, hx, hxd⟩ := h
        rcases List.mem_cons.mp hx with rfl | hx
        · simp [isDigit, hv] at hxd
        · exact ⟨x, hx, hxd⟩

theorem isDigit16_ne {b : UInt8} (h : isDigit 16 b = true) : b.toNat ≠ 43 ∧ b.toNat ≠ 125 ∧ b.toNat < 128 := by
  obtain ⟨v, hv⟩ := isDigit_some h
  have := (digitVal_some hv).2
  omega

/-- a scalar value that stands for itself in a string literal: as `RawChar`, without the double quote -/
def RawStrChar (c : Nat) : Prop := isScalar c = true ∧ (c = 9 ∨ (32 ≤ c ∧ c ≤ 126 ∧ c ≠ 34 ∧ c ≠ 92) ∨ 128 ≤ c)

/-- one element of a string body as the programmer writes it -/
inductive StrItem where
  | raw (c : Nat)        -- the character itself, UTF-8 encoded
  | esc (e : UInt8)      -- backslash and one letter
  | uni (hex : Bytes)    -- `\u{hex}`

def StrItem.Ok : StrItem → Prop
  | .raw c => RawStrChar c
  | .esc e => (escValue e.toNat).isSome = true
  | .uni hex => HexOk hex

def StrItem.render : StrItem → Bytes
  | .raw c => encodeChar c
  | .esc e => [92, e]
  | .uni hex => 92 :: 117 :: 123 :: (hex ++ [125])

/-- the scalar value the item denotes; for `.esc e` with an unknown letter it is 0, so it means something only under
`StrItem.Ok` -/
def StrItem.value : StrItem → Nat
  | .raw c => c
  | .esc e => (escValue e.toNat).getD 0
  | .uni hex => valueFrom 16 hex 0

def StrItem.isRaw : StrItem → Bool
  | .raw _ => true
  | _ => false

def StrItem.isEsc : StrItem → Bool
  | .esc _ => true
  | _ => false

def renderAll : List StrItem → Bytes
  | [] => []
  | it :: r => it.render ++ renderAll r

/-- the payload of `Tok.str` for a body of these items: the UTF-8 encodings of their values, concatenated -/
def denoteAll : List StrItem → Bytes
  | [] => []
  | it :: r => encodeChar it.value ++ denoteAll r

/-- the last item is a one-letter escape. From a backslash the scanner wants three bytes (`strLoop`: `d.length - pos1 < 3`
is `BadString`), so a text that ENDS with the two bytes of a good escape is rejected: where a body may end in such an item
something has to follow it (the hypotheses `hroom`; after a complete literal the closing quote does). -/
def endsWithEsc : List StrItem → Bool
  | [] => false
  | it :: r => if r.isEmpty then it.isEsc else endsWithEsc r


theorem render_ne_nil (it : StrItem) : it.render ≠ [] := by
  cases it with
  | raw c => exact encodeChar_ne_nil c
  | esc e => simp [StrItem.render]
  | uni h => simp [StrItem.render]

theorem head_noncont_append {x y : Bytes} (hx : ∀ b, x.head? = some b → isCont b = false)
    (hy : ∀ b, y.head? = some b → isCont b = false) : ∀ b, (x ++ y).head? = some b → isCont b = false := by
  cases x with
  | nil => simpa using hy
  | cons a t => intro b hb; exact hx b (by simpa using hb)

theorem utf8_render (it : StrItem) (hok : it.Ok) {rest : Bytes} (h : Utf8 rest) : Utf8 (it.render ++ rest) := by
  cases it with
  | raw c => exact utf8_encodeChar c hok.1 h
  | esc e =>
    simp only [StrItem.Ok] at hok
    cases hv : escValue e.toNat with
    | none => simp [hv] at hok
    | some v =>
      have := escValue_ascii hv
      exact utf8_ascii_append [92, e] (by intro b hb; simp at hb; rcases hb with rfl | rfl; decide; omega) h
  | uni hex =>
    obtain ⟨_, _, hd, _⟩ := hok
    apply utf8_ascii_append (92 :: 117 :: 123 :: (hex ++ [125])) _ h
    intro b hb
    simp at hb
    rcases hb with rfl | rfl | rfl | hb | rfl
    · decide
    · decide
    · decide
    · exact (isDigit16_ne (hd b hb)).2.2
    · decide

theorem utf8_renderAll (items : List StrItem) (hok : ∀ it ∈ items, it.Ok) {rest : Bytes} (h : Utf8 rest) :
    Utf8 (renderAll items ++ rest) := by
  induction items with
  | nil => exact h
  | cons it r ih =>
    simp only [renderAll, List.append_assoc]
    exact utf8_render it (hok it (by simp)) (ih (fun x hx => hok x (by simp [hx])))

theorem rawStrChar_nonstop {c : Nat} (hc : RawStrChar c) : ∀ b ∈ encodeChar c, isStrStop b = false := by
  obtain ⟨hs, hadm⟩ := hc
  intro b hb
  by_cases h : c < 128
  · rw [encodeChar_ascii c h] at hb
    simp at hb; subst hb
    simp only [isStrStop]
    rw [toNat_toUInt8 _ (by omega)]
    simp; omega
  · have := encodeChar_high c hs (by omega) b hb
    simp [isStrStop]; omega

theorem renderAll_raw (items : List StrItem) (h : items.all StrItem.isRaw = true) : renderAll items = denoteAll items := by
  induction items with
  | nil => rfl
  | cons it r ih =>
    simp only [List.all_cons, Bool.and_eq_true] at h
    cases it with
    | raw c => simp [renderAll, denoteAll, StrItem.render, StrItem.value, ih h.2]
    | esc e => simp [StrItem.isRaw] at h
    | uni x => simp [StrItem.isRaw] at h

/-- Started at the beginning of `rawacc ++ body ++ tail` with `esc`
already collected, the scanner reaches the last iteration — the one that inspects the first byte of `tail` —
with everything the body denotes collected in `esc' ++ raw'`, where `raw'` is the raw text since the last
escape (not yet pushed). `esc'` is empty exactly when nothing was pushed (the payload is then borrowed). -/
theorem strLoop_items (d tail : Bytes) (hut : Utf8 tail) :
    ∀ (todo : List StrItem) (pre rawacc esc : Bytes) (f : Nat),
      d = pre ++ rawacc ++ renderAll todo ++ tail → (∀ it ∈ todo, it.Ok) → todo.length < f →
      (endsWithEsc todo = true → tail ≠ []) →
      (∀ b ∈ rawacc, isStrStop b = false) → (∀ b, rawacc.head? = some b → isCont b = false) →
      ∃ pre' raw' esc' f', d = pre' ++ raw' ++ tail ∧ (∀ b ∈ raw', isStrStop b = false) ∧
        (∀ b, raw'.head? = some b → isCont b = false) ∧
        esc' ++ raw' = esc ++ rawacc ++ denoteAll todo ∧ (esc' = [] ↔ (esc = [] ∧ todo.all StrItem.isRaw = true)) ∧
        strLoop d f pre.length esc = strLoop d (f' + 1) pre'.length esc' := by
  intro todo
  induction todo with
  | nil =>
    intro pre rawacc esc f hd _ hf _ hraw hrh
    obtain ⟨f', rfl⟩ : ∃ f', f = f' + 1 := ⟨f - 1, by omega⟩
    exact ⟨pre, rawacc, esc, f', by simpa [renderAll] using hd, hraw, hrh, by simp [denoteAll], by simp, rfl⟩
  | cons it todo ih =>
    intro pre rawacc esc f hd hok hf hroom hraw hrh
    have hokr : ∀ x ∈ todo, x.Ok := fun x hx => hok x (by simp [hx])
    have hurest : Utf8 (renderAll todo ++ tail) := utf8_renderAll todo hokr hut
    have hroomr : endsWithEsc todo = true → tail ≠ [] := by
      intro h
      apply hroom
      cases todo with
      | nil => simp [endsWithEsc] at h
      | cons a b => simpa [endsWithEsc] using h
    have hrestne : it.isEsc = true → renderAll todo ++ tail ≠ [] := by
      intro hie
      cases todo with
      | nil => simpa [renderAll] using hroom (by simp [endsWithEsc, hie])
      | cons a b =>
        have := render_ne_nil a
        simp [renderAll, this]
    cases it with
    | raw c =>
      have hc : RawStrChar c := hok (.raw c) (by simp)
      obtain ⟨pre', raw', esc', f', h1, h2, h3, h4, h5, h6⟩ := ih pre (rawacc ++ encodeChar c) esc f
        (by rw [hd]; simp [renderAll, StrItem.render]) hokr (by simp at hf; omega) hroomr
        (by intro b hb
            rcases List.mem_append.mp hb with hb | hb
            · exact hraw b hb
            · exact rawStrChar_nonstop hc b hb)
        (head_noncont_append hrh (encodeChar_head c hc.1 []) |> fun h => by simpa using h)
      refine ⟨pre', raw', esc', f', h1, h2, h3, ?_, ?_, h6⟩
      · rw [h4]; simp [denoteAll, StrItem.value]
      · rw [h5]; simp [StrItem.isRaw]
    | esc e =>
      have he : (escValue e.toNat).isSome = true := hok (.esc e) (by simp)
      obtain ⟨v, hv⟩ := Option.isSome_iff_exists.mp he
      obtain ⟨g, rfl⟩ : ∃ g, f = g + 1 := ⟨f - 1, by simp at hf; omega⟩
      have hd2 : d = pre ++ rawacc ++ 92 :: (e :: (renderAll todo ++ tail)) := by
        rw [hd]; simp [renderAll, StrItem.render]
      have hne := hrestne rfl
      have hplen : ¬ (e :: (renderAll todo ++ tail)).length < 2 := by
        have : 0 < (renderAll todo ++ tail).length := List.length_pos_iff.mpr hne
        simp only [List.length_cons]; omega
      have hstep := strLoop_step pre rawacc 92 (e :: (renderAll todo ++ tail)) esc g hraw (by decide)
        (head_noncont_append hrh (by intro b hb; simp at hb; subst hb; decide))
      rw [← hd2] at hstep
      simp only [show (92 : UInt8).toNat = 92 by decide, show ¬ ((92 : Nat) < 32 ∨ (92 : Nat) ≥ 127) by omega, if_false,
        if_true, hplen] at hstep
      have hesc := strEscape_simple (pre ++ rawacc) 92 e (renderAll todo ++ tail) (esc ++ rawacc) v hv
      rw [List.length_append] at hesc
      rw [← hd2] at hesc
      rw [hesc] at hstep
      simp only at hstep
      obtain ⟨pre', raw', esc', f', h1, h2, h3, h4, h5, h6⟩ := ih (pre ++ rawacc ++ [92, e]) [] (esc ++ rawacc ++ encodeChar v) g
        (by rw [hd2]; simp) hokr (by simp at hf; omega) hroomr (by simp) (by simp)
      refine ⟨pre', raw', esc', f', h1, h2, h3, ?_, ?_, ?_⟩
      · rw [h4]; simp [denoteAll, StrItem.value, hv]
      · rw [h5]
        have := encodeChar_ne_nil v
        simp [StrItem.isRaw, this]
      · rw [hstep, ← h6]; simp [Nat.add_assoc]
    | uni hex =>
      have hh : HexOk hex := hok (.uni hex) (by simp)
      obtain ⟨hne, hlen, hdig, hsc⟩ := hh
      obtain ⟨g, rfl⟩ : ∃ g, f = g + 1 := ⟨f - 1, by simp at hf; omega⟩
      have hd2 : d = pre ++ rawacc ++ 92 :: (117 :: 123 :: (hex ++ 125 :: (renderAll todo ++ tail))) := by
        rw [hd]; simp [renderAll, StrItem.render]
      have hstep := strLoop_step pre rawacc 92 (117 :: 123 :: (hex ++ 125 :: (renderAll todo ++ tail))) esc g hraw
        (by decide) (head_noncont_append hrh (by intro b hb; simp at hb; subst hb; decide))
      rw [← hd2] at hstep
      have hplen : ¬ ((117 : UInt8) :: 123 :: (hex ++ 125 :: (renderAll todo ++ tail))).length < 2 := by
        simp
      simp only [show (92 : UInt8).toNat = 92 by decide, show ¬ ((92 : Nat) < 32 ∨ (92 : Nat) ≥ 127) by omega, if_false,
        if_true, hplen] at hstep
      have hr3 : Utf8 (hex ++ 125 :: (renderAll todo ++ tail)) :=
        utf8_ascii_append hex (fun b hb => (isDigit16_ne (hdig b hb)).2.2) (utf8_ascii_cons 125 (by decide) hurest)
      have hesc := strEscape_uni (pre ++ rawacc) 92 117 123 (hex ++ 125 :: (renderAll todo ++ tail)) (esc ++ rawacc)
        hex 125 (renderAll todo ++ tail) (by decide) (by decide) rfl hr3 (by decide)
        (fun b hb => (isDigit16_ne (hdig b hb)).2.1) hlen
      rw [List.length_append] at hesc
      rw [← hd2] at hesc
      have hparse : u32FromHex hex = some (valueFrom 16 hex 0) := by
        cases hex with
        | nil => exact absurd rfl hne
        | cons t0 tt =>
          have h43 := (isDigit16_ne (hdig t0 (by simp))).1
          have : (t0.toNat == 43) = false := by simpa using h43
          simp only [u32FromHex, this, Bool.false_eq_true, if_false]
          rw [parseDigits_eq 16 _ (by omega) _ 0 hdig (by omega)]
          have : valueFrom 16 (t0 :: tt) 0 ≤ 4294967295 := by
            simp only [isScalar, Bool.or_eq_true, Bool.and_eq_true, decide_eq_true_eq] at hsc; omega
          simp [this]
      have hhead : ¬ hex.head? = some 43 := by
        cases hex with
        | nil => simp
        | cons t0 tt =>
          have h43 := (isDigit16_ne (hdig t0 (by simp))).1
          intro h; simp at h; subst h; exact h43 rfl
      rw [hparse] at hesc
      simp only [hhead, if_false, hsc, if_true] at hesc
      rw [hesc] at hstep
      simp only at hstep
      obtain ⟨pre', raw', esc', f', h1, h2, h3, h4, h5, h6⟩ := ih (pre ++ rawacc ++ 92 :: 117 :: 123 :: (hex ++ [125])) []
        (esc ++ rawacc ++ encodeChar (valueFrom 16 hex 0)) g
        (by rw [hd2]; simp) hokr (by simp at hf; omega) hroomr (by simp) (by simp)
      refine ⟨pre', raw', esc', f', h1, h2, h3, ?_, ?_, ?_⟩
      · rw [h4]; simp [denoteAll, StrItem.value]
      · rw [h5]
        have := encodeChar_ne_nil (valueFrom 16 hex 0)
        simp [StrItem.isRaw, this]
      · have hl : (pre ++ rawacc ++ 92 :: 117 :: 123 :: (hex ++ [125])).length = pre.length + rawacc.length + 4 + hex.length := by
          simp; omega
        rw [hstep, ← h6, hl]

theorem length_le_renderAll (items : List StrItem) : items.length ≤ (renderAll items).length := by
  induction items with
  | nil => simp [renderAll]
  | cons it r ih =>
    have : 0 < it.render.length := List.length_pos_iff.mpr (render_ne_nil it)
    simp only [renderAll, List.length_cons, List.length_append]; omega

theorem utf8_quote : Utf8 [(34 : UInt8)] := utf8_ascii_cons 34 (by decide) Utf8.nil

theorem lexString_items (items : List StrItem) (hok : ∀ it ∈ items, it.Ok) (rest : Bytes) (hrest : Utf8 rest)
    (u : Bool) (l k : Nat) :
    lexString ⟨34 :: renderAll items ++ 34 :: rest, u, l, k⟩ =
      .tok ⟨l, k, .str (denoteAll items)⟩
        ⟨rest, u, (adv (l, k) (34 :: renderAll items ++ [34])).1, (adv (l, k) (34 :: renderAll items ++ [34])).2⟩ := by
  have htail : Utf8 ((34 : UInt8) :: rest) := utf8_ascii_cons 34 (by decide) hrest
  have hbody : Utf8 (renderAll items ++ 34 :: rest) := utf8_renderAll items hok htail
  have hall : Utf8 ((34 : UInt8) :: renderAll items ++ 34 :: rest) := utf8_ascii_cons 34 (by decide) hbody
  have hlen := length_le_renderAll items
  obtain ⟨pre', raw', esc', f', h1, h2, h3, h4, h5, h6⟩ :=
    strLoop_items ((34 : UInt8) :: renderAll items ++ 34 :: rest) (34 :: rest) htail items [34] [] []
      ((34 : UInt8) :: renderAll items ++ 34 :: rest).length (by simp) hok
      (by simp only [List.length_cons, List.length_append]; omega) (by simp) (by simp) (by simp)
  have hstep := strLoop_step pre' raw' 34 rest esc' f' h2 (by decide)
    (head_noncont_append h3 (by intro b hb; simp at hb; subst hb; decide))
  rw [← h1] at hstep
  simp only [show (34 : UInt8).toNat = 34 by decide, show ¬ ((34 : Nat) < 32 ∨ (34 : Nat) ≥ 127) by omega,
    show ¬ ((34 : Nat) = 92) by omega, if_false] at hstep
  simp only [List.nil_append, List.append_nil] at h4 h5 h6
  have hpos : pre'.length + raw'.length + 1 = ((34 : UInt8) :: renderAll items ++ [34]).length := by
    have := congrArg List.length h1
    simp at this ⊢; omega
  have hpr : pre' ++ raw' = 34 :: renderAll items := by
    have : pre' ++ raw' ++ 34 :: rest = (34 :: renderAll items) ++ 34 :: rest := by rw [← h1]
    exact List.append_cancel_right this
  have hmid : ((34 : UInt8) :: renderAll items ++ 34 :: rest) = ((34 : UInt8) :: renderAll items ++ [34]) ++ rest := by simp
  unfold lexString
  simp only
  simp only [List.length_singleton] at h6
  rw [h6, hstep, hpos]
  simp only
  by_cases he : esc' = []
  · have hraws := (h5.mp he).2
    simp only [he, if_true, List.isEmpty_nil, Bool.not_true, Bool.false_eq_true, if_false]
    rw [if_neg (by simp)]
    have hsl : slice ((34 : UInt8) :: renderAll items ++ 34 :: rest) 1
        (1 + (renderAll items).length) = some (renderAll items) := by
      have := slice_split [(34 : UInt8)] (renderAll items) (34 :: rest) (utf8_head? hbody) (utf8_head? htail)
      simpa using this
    have hidx : ((34 : UInt8) :: renderAll items ++ [34]).length - 1 = 1 + (renderAll items).length := by
      simp only [List.length_cons, List.length_append, List.length_nil]; omega
    rw [hidx, hsl]
    simp only
    rw [show Tok.str (renderAll items) = Tok.str (denoteAll items) by rw [renderAll_raw items hraws]]
    exact emit_eq _ _ rest _ _ hmid hall hrest (by simp)
  · have hne : (esc' ++ raw').isEmpty = false := by simp [he]
    simp only [he, if_false, hne, Bool.not_false, if_true]
    rw [h4]
    exact emit_eq _ _ rest _ _ hmid hall hrest (by simp)

/-- an ASCII byte that stands for itself in a string literal (`RawStrChar` below 128), as a Boolean for `lexString_raw` -/
def isRawStrByte (b : UInt8) : Bool :=
  b.toNat == 9 || (decide (32 ≤ b.toNat) && decide (b.toNat ≤ 126) && b.toNat != 34 && b.toNat != 92)

theorem renderAll_rawBytes (body : Bytes) (hb : ∀ b ∈ body, b.toNat < 128) :
    renderAll (body.map fun b => .raw b.toNat) = body := by
  induction body with
  | nil => rfl
  | cons b t ih =>
    simp only [List.map_cons, renderAll, StrItem.render]
    rw [encodeChar_ascii _ (hb b (by simp)), toUInt8_toNat, ih (fun x hx => hb x (by simp [hx]))]
    rfl

theorem lexString_raw (body : Bytes) (hb : ∀ b ∈ body, isRawStrByte b = true) (l c : Nat) :
    lexString ⟨34 :: body ++ [34], false, l, c⟩ =
      .tok ⟨l, c, .str body⟩ ⟨[], false, l, c + (body.length + 2)⟩ := by
  have hbody : ∀ b ∈ body, b.toNat < 128 ∧ b.toNat ≠ 10 ∧ RawStrChar b.toNat := by
    intro b hx
    have := hb b hx
    simp [isRawStrByte] at this
    refine ⟨by omega, by omega, ?_, by omega⟩
    simp only [isScalar, Bool.or_eq_true, decide_eq_true_eq]
    omega
  have hraw : (body.map fun b => StrItem.raw b.toNat).all StrItem.isRaw = true := by simp [StrItem.isRaw]
  have h := lexString_items (body.map fun b => .raw b.toNat)
    (by intro it hit; obtain ⟨b, hx, rfl⟩ := List.mem_map.mp hit; exact (hbody b hx).2.2) [] Utf8.nil false l c
  rw [← renderAll_raw _ hraw, renderAll_rawBytes body (fun b hx => (hbody b hx).1), Pos.adv_ascii] at h
  · rw [h]; simp
  · intro b hx
    simp at hx
    rcases hx with rfl | hx | rfl
    · decide
    · exact ⟨(hbody b hx).1, (hbody b hx).2.1⟩
    · decide

/-- a tail at which the scanner gives up: whatever raw text precedes it, the iteration that reaches it
returns the `BadString` exit (directly, or through the end-of-text exit) -/
def BadTail (tail : Bytes) : Prop :=
  ∀ (pre raw esc : Bytes) (f : Nat), (∀ b ∈ raw, isStrStop b = false) → (∀ b, raw.head? = some b → isCont b = false) →
    strLoop (pre ++ raw ++ tail) (f + 1) pre.length esc = .bad ∨ strLoop (pre ++ raw ++ tail) (f + 1) pre.length esc = .eof

theorem lexString_reject (items : List StrItem) (hok : ∀ it ∈ items, it.Ok) (tail : Bytes) (hut : Utf8 tail)
    (hroom : endsWithEsc items = true → tail ≠ []) (hbad : BadTail tail) (s : State)
    (hs : s.data = 34 :: renderAll items ++ tail) :
    lexString s = fail s .badString ∨ lexString s = failEof s .badString := by
  have hlen := length_le_renderAll items
  obtain ⟨pre', raw', esc', f', h1, h2, h3, h4, h5, h6⟩ :=
    strLoop_items ((34 : UInt8) :: renderAll items ++ tail) tail hut items [34] [] []
      ((34 : UInt8) :: renderAll items ++ tail).length (by simp) hok
      (by simp only [List.length_cons, List.length_append]; omega) hroom (by simp) (by simp)
  have hb := hbad pre' raw' esc' f' h2 h3
  rw [← h1] at hb
  unfold lexString
  simp only [List.length_singleton] at h6
  rw [hs, h6]
  rcases hb with hb | hb <;> rw [hb]
  · exact .inl rfl
  · exact .inr rfl

theorem badTail_nil : BadTail [] := by
  intro pre raw esc f hraw hh
  right
  simpa using strLoop_eof pre raw esc f hraw hh

theorem badTail_control (b : UInt8) (rest : Bytes) (hb : (b.toNat < 32 ∧ b.toNat ≠ 9) ∨ b.toNat = 127) :
    BadTail (b :: rest) := by
  intro pre raw esc f hraw hh
  left
  have hstop : isStrStop b = true := by simp [isStrStop]; omega
  rw [strLoop_step pre raw b rest esc f hraw hstop
    (head_noncont_append hh (by intro x hx; simp at hx; subst hx; rw [isCont_false_iff]; omega))]
  rw [if_pos (by omega)]

theorem badTail_short (rest : Bytes) (h : rest.length < 2) : BadTail (92 :: rest) := by
  intro pre raw esc f hraw hh
  left
  rw [strLoop_step pre raw 92 rest esc f hraw (by decide)
    (head_noncont_append hh (by intro x hx; simp at hx; subst hx; decide))]
  simp only [show (92 : UInt8).toNat = 92 by decide, show ¬ ((92 : Nat) < 32 ∨ (92 : Nat) ≥ 127) by omega, if_false,
    if_true, h]

theorem badTail_escape (rest : Bytes)
    (h : ∀ (a esc1 : Bytes), strEscape (a ++ 92 :: rest) a.length esc1 = .bad ∨ strEscape (a ++ 92 :: rest) a.length esc1 = .eof) :
    BadTail (92 :: rest) := by
  intro pre raw esc f hraw hh
  rw [strLoop_step pre raw 92 rest esc f hraw (by decide)
    (head_noncont_append hh (by intro x hx; simp at hx; subst hx; decide))]
  simp only [show (92 : UInt8).toNat = 92 by decide, show ¬ ((92 : Nat) < 32 ∨ (92 : Nat) ≥ 127) by omega, if_false,
    if_true]
  split
  · exact .inl rfl
  · have := h (pre ++ raw) (esc ++ raw)
    rw [List.length_append] at this
    rcases this with h | h <;> rw [h] <;> simp

theorem badTail_unknown (e : UInt8) (rest : Bytes) (hv : escValue e.toNat = none) (hu : e.toNat ≠ 117) :
    BadTail (92 :: e :: rest) :=
  badTail_escape _ (fun a esc1 => .inl (strEscape_unknown a 92 e rest esc1 hv hu))

theorem badTail_nobrace (g : UInt8) (rest : Bytes) (hg : g.toNat ≠ 123) : BadTail (92 :: 117 :: g :: rest) :=
  badTail_escape _ (fun a esc1 => .inl (strEscape_nobrace a 92 117 g rest esc1 (by decide) hg))

theorem badTail_uni_open (r3 : Bytes) (hr : Utf8 r3) (hno : ∀ b ∈ r3.take 7, b.toNat ≠ 125) :
    BadTail (92 :: 117 :: 123 :: r3) :=
  badTail_escape _ (fun a esc1 => .inr (strEscape_uni_eof a 92 117 123 r3 esc1 (by decide) (by decide) hr hno))

theorem badTail_uni_bad (text : Bytes) (more : Bytes) (hr : Utf8 (text ++ 125 :: more))
    (hno : ∀ b ∈ text, b.toNat ≠ 125) (hlen : text.length ≤ 6) (hbad : ¬ HexOk text) :
    BadTail (92 :: 117 :: 123 :: (text ++ 125 :: more)) := by
  apply badTail_escape
  intro a esc1
  left
  rw [strEscape_uni a 92 117 123 (text ++ 125 :: more) esc1 text 125 more (by decide) (by decide) rfl hr (by decide) hno hlen]
  cases hx : u32FromHex text with
  | none => rfl
  | some v =>
    simp only
    cases text with
    | nil => simp [u32FromHex] at hx
    | cons t0 tt =>
      by_cases h43 : t0 = 43
      · subst h43; simp
      · have hn43 : ¬ t0.toNat = 43 := by
          intro h; apply h43; exact UInt8.toNat_inj.mp (by simpa using h)
        have : (t0.toNat == 43) = false := by simpa using hn43
        simp only [u32FromHex, this, Bool.false_eq_true, if_false] at hx
        simp only [List.head?_cons, Option.some.injEq, h43, if_false]
        by_cases hdig : ∀ b ∈ t0 :: tt, isDigit 16 b = true
        · rw [parseDigits_eq 16 _ (by omega) _ 0 hdig (by omega)] at hx
          split at hx
          · cases hx
            have : isScalar (valueFrom 16 (t0 :: tt) 0) = false := by
              cases hs : isScalar (valueFrom 16 (t0 :: tt) 0) with
              | false => rfl
              | true => exact absurd ⟨by simp, hlen, hdig, hs⟩ hbad
            simp [this]
          · cases hx
        · have : ∃ b ∈ t0 :: tt, isDigit 16 b = false := by
            apply Classical.byContradiction
            intro hcon
            apply hdig
            intro b hb
            cases hd : isDigit 16 b with
            | true => rfl
            | false => exact absurd ⟨b, hb, hd⟩ hcon
          rw [parseDigits_nondigit 16 _ _ 0 this] at hx
          cases hx

/-! ### every string body is a well-formed beginning followed by the closing quote or by a tail at which the
scanner gives up -/

/-- `body`, the text after an opening quote, is well-formed items and then either the closing quote with a `rest`, or a `tail`
at which the scanner gives up (`BadTail`; non-empty after a final one-letter escape, see `endsWithEsc`) -/
def BodyCases (body : Bytes) : Prop :=
  (∃ items rest, (∀ it ∈ items, StrItem.Ok it) ∧ Utf8 rest ∧ body = renderAll items ++ 34 :: rest) ∨
  (∃ items tail, (∀ it ∈ items, StrItem.Ok it) ∧ Utf8 tail ∧ (endsWithEsc items = true → tail ≠ []) ∧ BadTail tail ∧
    body = renderAll items ++ tail)

theorem bodyCases_cons (it : StrItem) (hok : it.Ok) (body : Bytes) (hne : it.isEsc = true → body ≠ [])
    (h : BodyCases body) : BodyCases (it.render ++ body) := by
  rcases h with ⟨items, rest, h1, h2, rfl⟩ | ⟨items, tail, h1, h2, h3, h4, rfl⟩
  · exact .inl ⟨it :: items, rest, by intro x hx; rcases List.mem_cons.mp hx with rfl | hx; exact hok; exact h1 x hx,
      h2, by simp [renderAll]⟩
  · refine .inr ⟨it :: items, tail, by intro x hx; rcases List.mem_cons.mp hx with rfl | hx; exact hok; exact h1 x hx,
      h2, ?_, h4, by simp [renderAll]⟩
    intro he
    cases items with
    | nil =>
      simp only [endsWithEsc, List.isEmpty_nil, if_true] at he
      simpa [renderAll] using hne he
    | cons a b => exact h3 (by simpa [endsWithEsc] using he)

theorem bodyCases_bad (tail : Bytes) (hu : Utf8 tail) (hb : BadTail tail) : BodyCases tail :=
  .inr ⟨[], tail, by simp, hu, by simp [endsWithEsc], hb, by simp [renderAll]⟩

theorem bodyCases_all : ∀ (n : Nat) (body : Bytes), body.length ≤ n → Utf8 body → BodyCases body := by
  intro n
  induction n with
  | zero =>
    intro body hl _
    have : body = [] := List.eq_nil_of_length_eq_zero (by omega)
    subst this
    exact bodyCases_bad [] Utf8.nil badTail_nil
  | succ n ih =>
    intro body hl hu
    cases body with
    | nil => exact bodyCases_bad [] Utf8.nil badTail_nil
    | cons b0 t =>
      by_cases hstop : isStrStop b0 = true
      · have hlt := isStrStop_ascii hstop
        have hut : Utf8 t := utf8_tail_of_ascii hu hlt
        by_cases h34 : b0.toNat = 34
        · have : b0 = 34 := UInt8.toNat_inj.1 h34
          subst this
          exact .inl ⟨[], t, by simp, hut, by simp [renderAll]⟩
        · by_cases h92 : b0.toNat = 92
          · have : b0 = 92 := UInt8.toNat_inj.1 h92
            subst this
            cases t with
            | nil => exact bodyCases_bad _ hu (badTail_short [] (by simp))
            | cons e t1 =>
              cases hv : escValue e.toNat with
              | some v =>
                have hea := (escValue_ascii hv).1
                have hut1 : Utf8 t1 := utf8_tail_of_ascii hut hea
                by_cases ht1 : t1 = []
                · subst ht1
                  exact bodyCases_bad _ hu (badTail_short [e] (by simp))
                · have := bodyCases_cons (.esc e) (by simp [StrItem.Ok, hv]) t1 (fun _ => ht1)
                    (ih t1 (by simp at hl; omega) hut1)
                  simpa [StrItem.render] using this
              | none =>
                by_cases h117 : e.toNat = 117
                · have : e = 117 := UInt8.toNat_inj.1 h117
                  subst this
                  have hut1 : Utf8 t1 := utf8_tail_of_ascii hut (by decide)
                  cases t1 with
                  | nil => exact bodyCases_bad _ hu (badTail_short [117] (by simp))
                  | cons g r3 =>
                    by_cases h123 : g.toNat = 123
                    · have : g = 123 := UInt8.toNat_inj.1 h123
                      subst this
                      have hur3 : Utf8 r3 := utf8_tail_of_ascii hut1 (by decide)
                      cases hpos : position (fun b => b.toNat == 125) (r3.take 7) with
                      | none =>
                        refine bodyCases_bad _ hu (badTail_uni_open r3 hur3 ?_)
                        intro b hb
                        have := position_none hpos b hb
                        simpa using this
                      | some k =>
                        obtain ⟨text, cl, t', htake, hxl, hcl, hno⟩ := position_some hpos
                        have hcl125 : cl.toNat = 125 := by simpa using hcl
                        have : cl = 125 := UInt8.toNat_inj.1 hcl125
                        subst this
                        have hr3 : r3 = text ++ 125 :: (t' ++ r3.drop 7) := by
                          have := (List.take_append_drop 7 r3).symm
                          rw [htake] at this
                          simpa using this
                        have hlen : text.length ≤ 6 := by
                          have := congrArg List.length htake
                          simp at this
                          omega
                        have hno' : ∀ b ∈ text, b.toNat ≠ 125 := by
                          intro b hb; have := hno b hb; simpa using this
                        have humore : Utf8 (t' ++ r3.drop 7) :=
                          utf8_split_after_ascii (pre := text) (hr3 ▸ hur3) (by decide)
                        by_cases hhex : HexOk text
                        · have := bodyCases_cons (.uni text) hhex (t' ++ r3.drop 7) (by simp [StrItem.isEsc])
                            (ih _ (by
                              have hl3 := congrArg List.length hr3
                              simp at hl hl3 ⊢; omega) humore)
                          rw [hr3]
                          simpa [StrItem.render] using this
                        · rw [hr3]
                          exact bodyCases_bad _ (hr3 ▸ hu) (badTail_uni_bad text _ (hr3 ▸ hur3) hno' hlen hhex)
                    · exact bodyCases_bad _ hu (badTail_nobrace g r3 h123)
                · exact bodyCases_bad _ hu (badTail_unknown e t1 hv h117)
          · refine bodyCases_bad _ hu (badTail_control b0 t ?_)
            simp [isStrStop] at hstop
            omega
      · cases hu with
        | cons _ c k hd hrest =>
          obtain ⟨hk1, _, ⟨b0', hb0, _, hasc, _, hhigh⟩, _⟩ := decodeChar_some hd
          simp at hb0; subst hb0
          obtain ⟨hs, hbody⟩ := decodeChar_inv hd
          have hraw : RawStrChar c := by
            refine ⟨hs, ?_⟩
            simp [isStrStop] at hstop
            by_cases hlt : b0.toNat < 128
            · obtain ⟨_, rfl⟩ := hasc hlt
              omega
            · have := hhigh (by omega); omega
          have := bodyCases_cons (.raw c) hraw ((b0 :: t).drop k) (by simp [StrItem.isEsc])
            (ih _ (by simp at hl ⊢; omega) hrest)
          rw [hbody]
          simpa [StrItem.render] using this

end Trion.Lex
