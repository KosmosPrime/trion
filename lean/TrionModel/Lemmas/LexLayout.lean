import TrionModel.Lemmas.LexLayoutDef
import TrionModel.Lemmas.LexRun
/-!
# The tokenizer on a text given by its layout

Separator text is skipped (`skipLoop_sep`: white space, line comments, nested block comments via `scanBlock_inside`);
every `Spell` constructor is read by its arm (`doNext_spell`, through the arm equations and the dispatch of
Lemmas/LexStep.lean — a new spelling is one more case here and in `utf8_spell`, `spell_head`); hence every layout yields
exactly its tokens (`tokens_layout`), and so does a spelling followed by any text (`tokens_spell`: the statements behind
`Props/C11Ctx.lean`).
-/
namespace Trion.Lex
open Trion.Pos (adv isCont)

theorem utf8_append {a b : Bytes} (ha : Utf8 a) (hb : Utf8 b) : Utf8 (a ++ b) := by
  induction ha with
  | nil => simpa using hb
  | cons d c n hd _ ih =>
    have hn := (decodeChar_some hd).2.1
    refine Utf8.cons _ c n (decodeChar_append hd b) ?_
    rw [List.drop_append_of_le_length hn]
    exact ih

theorem inside_len {n : Nat} {d : Bytes} (h : Inside n d) : 2 ≤ d.length := by
  induction h with
  | close0 => simp
  | close n d _ ih => simp
  | «open» n d _ ih => simp
  | byte n b d _ _ ih => simp; omega

/-- one byte that `start` still protects (the second byte of a pair just consumed) -/
theorem scanBlock_skip (x y : UInt8) (more : Bytes) (k depth : Nat) (hdep : depth ≠ 0) :
    scanBlock (x :: y :: more) k (k + 3) depth = scanBlock (y :: more) (k + 1) (k + 3) depth := by
  rw [scanBlock]
  have : scanStep x y (k + 2) (k + 3) depth = (k + 3, depth) := by
    simp [scanStep]
  simp only [this]
  have : (depth == 0) = false := by simpa using hdep
  simp [this]

theorem scanBlock_inside {n : Nat} {body : Bytes} (h : Inside n body) :
    ∀ (k start : Nat) (rest : Bytes), start ≤ k + 2 →
      scanBlock (body ++ rest) k start (n + 1) = some (k + body.length - 2) := by
  induction h with
  | close0 =>
    intro k start rest hs
    simp only [List.cons_append, List.nil_append]
    rw [scanBlock]
    have hd : decide (k + 2 ≥ start) = true := by simpa using hs
    simp [scanStep, hd]
  | close n d hin ih =>
    intro k start rest hs
    obtain ⟨y, more, hd⟩ : ∃ y more, d ++ rest = y :: more := by
      have := inside_len hin
      cases d with
      | nil => simp at this
      | cons y m => exact ⟨y, m ++ rest, rfl⟩
    simp only [List.cons_append]
    rw [scanBlock]
    have hdc : decide (k + 2 ≥ start) = true := by simpa using hs
    have hst : scanStep 42 47 (k + 2) start (n + 1 + 1) = (k + 2 + 2, n + 1) := by
      simp [scanStep, hdc]
    simp only [hst]
    have : ((n + 1) == 0) = false := by simp
    simp only [this, Bool.false_eq_true, if_false]
    rw [hd, show k + 2 + 2 = (k + 1) + 3 by omega, scanBlock_skip 47 y more (k + 1) (n + 1) (by omega), ← hd]
    rw [ih (k + 1 + 1) _ rest (by omega)]
    have := inside_len hin
    simp; omega
  | «open» n d hin ih =>
    intro k start rest hs
    obtain ⟨y, more, hd⟩ : ∃ y more, d ++ rest = y :: more := by
      have := inside_len hin
      cases d with
      | nil => simp at this
      | cons y m => exact ⟨y, m ++ rest, rfl⟩
    simp only [List.cons_append]
    rw [scanBlock]
    have hdc : decide (k + 2 ≥ start) = true := by simpa using hs
    have hst : scanStep 47 42 (k + 2) start (n + 1) = (k + 2 + 2, n + 1 + 1) := by
      simp [scanStep, hdc]
    simp only [hst]
    have : ((n + 1 + 1) == 0) = false := by simp
    simp only [this, Bool.false_eq_true, if_false]
    rw [hd, show k + 2 + 2 = (k + 1) + 3 by omega, scanBlock_skip 42 y more (k + 1) (n + 1 + 1) (by omega), ← hd]
    rw [ih (k + 1 + 1) _ rest (by omega)]
    have := inside_len hin
    simp; omega
  | byte n b d hin hnp ih =>
    intro k start rest hs
    obtain ⟨y, more, hd, hy⟩ : ∃ y more, d ++ rest = y :: more ∧ d.head? = some y := by
      have := inside_len hin
      cases d with
      | nil => simp at this
      | cons y m => exact ⟨y, m ++ rest, rfl, rfl⟩
    simp only [List.cons_append]
    rw [hd, scanBlock]
    have hp := hnp y hy
    have hst : scanStep b y (k + 2) start (n + 1) = (start, n + 1) := by
      have h1 : (b.toNat == 47 && decide (k + 2 ≥ start) && y.toNat == 42) = false := by
        simp; intro h1 _; intro h2; exact hp.1 ⟨h1, h2⟩
      have h2 : (b.toNat == 42 && decide (k + 2 ≥ start) && y.toNat == 47) = false := by
        simp; intro h1 _; intro h2; exact hp.2 ⟨h1, h2⟩
      simp [scanStep, h1, h2]
    simp only [hst]
    have : ((n + 1) == 0) = false := by simp
    simp only [this, Bool.false_eq_true, if_false]
    rw [← hd, ih (k + 1) start rest (by omega)]
    have := inside_len hin
    simp; omega

theorem skipLoop_space_cons (f : Nat) (u : Bool) (l c : Nat) (b : UInt8) (d : Bytes) (hb : isSpace b = true)
    (hu : Utf8 (b :: d)) :
    skipLoop (f + 1) ⟨b :: d, u, l, c⟩ = skipLoop (f + 1) ⟨d, u, (adv (l, c) [b]).1, (adv (l, c) [b]).2⟩ := by
  obtain ⟨w, rest, rfl, hw, hr⟩ := space_split d
  have hur : Utf8 rest :=
    utf8_drop_ascii (utf8_tail_of_ascii hu (isSpace_ascii hb)) (fun x hx => isSpace_ascii (hw x hx))
  have hr' : ∀ x, rest.head? = some x → isSpace x = false ∧ isCont x = false :=
    fun x hx => ⟨hr x hx, utf8_head? hur x hx⟩
  rw [show b :: (w ++ rest) = (b :: w) ++ rest by simp,
    skipLoop_ws f u l c (b :: w) rest (by intro x hx; simp at hx; rcases hx with rfl | hx; exact hb; exact hw x hx) hr',
    skipLoop_ws f u _ _ w rest hw hr', show (b :: w) = [b] ++ w by simp, Pos.adv_append]

theorem utf8_sep {d : Bytes} (h : IsSep d) {tail : Bytes} (ht : Utf8 tail) : Utf8 (d ++ tail) := by
  induction h with
  | nil => simpa using ht
  | space b d hb _ ih => exact utf8_ascii_cons b (isSpace_ascii hb) ih
  | line body d _ hub _ ih =>
    have : (47 :: 47 :: body ++ 10 :: d) ++ tail = [47, 47] ++ (body ++ ([10] ++ (d ++ tail))) := by simp
    rw [this]
    exact utf8_ascii_append _ (by decide) (utf8_append hub (utf8_ascii_append _ (by decide) ih))
  | block body d _ hub _ ih =>
    have : (47 :: 42 :: body ++ d) ++ tail = [47, 42] ++ (body ++ (d ++ tail)) := by simp
    rw [this]
    exact utf8_ascii_append _ (by decide) (utf8_append hub ih)

theorem slash_not_space : ∀ b, (47 :: b : Bytes).head? = some (47 : UInt8) := fun _ => rfl

theorem line_noLF {body : Bytes} (h : ∀ b ∈ body, b.toNat ≠ 10) : ∀ x ∈ (47 :: 47 :: body : Bytes), x.toNat ≠ 10 := by
  intro x hx
  rcases List.mem_cons.mp hx with rfl | hx
  · decide
  · rcases List.mem_cons.mp hx with rfl | hx
    · decide
    · exact h x hx

/-- whatever the loop does on `tail` (independently of the fuel), it does on `sep ++ tail` from the position advanced
over `sep` -/
theorem skipLoop_sep {sep : Bytes} (hsep : IsSep sep) (tail : Bytes) (ht : Utf8 tail) (u : Bool)
    (R : Nat → Nat → SkipRes) (hT : ∀ g l' c', skipLoop (g + 1) ⟨tail, u, l', c'⟩ = R l' c') :
    ∀ (f l c : Nat), sep.length + 1 ≤ f →
      skipLoop f ⟨sep ++ tail, u, l, c⟩ = R (adv (l, c) sep).1 (adv (l, c) sep).2 := by
  induction hsep with
  | nil =>
    intro f l c hf
    obtain ⟨g, rfl⟩ : ∃ g, f = g + 1 := ⟨f - 1, by omega⟩
    simpa [Pos.adv_nil] using hT g l c
  | space b d hb hd ih =>
    intro f l c hf
    obtain ⟨g, rfl⟩ : ∃ g, f = g + 1 := ⟨f - 1, by omega⟩
    have hu : Utf8 (b :: (d ++ tail)) := utf8_sep (IsSep.space b d hb hd) ht
    rw [List.cons_append, skipLoop_space_cons g u l c b (d ++ tail) hb hu,
      ih (g + 1) _ _ (by simp at hf; omega)]
    rw [show b :: d = [b] ++ d by simp, Pos.adv_append]
  | line body d hbody hub hd ih =>
    intro f l c hf
    obtain ⟨g, rfl⟩ : ∃ g, f = g + 1 := ⟨f - 1, by omega⟩
    have hall := line_noLF hbody
    rw [show (47 :: 47 :: body ++ 10 :: d) ++ tail = (47 :: 47 :: body) ++ 10 :: (d ++ tail) by simp,
      skipLoop_line g u l c (47 :: 47 :: body) (d ++ tail) (by simp [startsWith2]) hall (utf8_head? (utf8_sep hd ht)),
      ih g _ _ (by simp at hf; omega),
      show (47 :: 47 :: body ++ 10 :: d) = ((47 :: 47 :: body) ++ [10]) ++ d by simp, Pos.adv_append,
      adv_line_comment (l, c) (47 :: 47 :: body) 10 hall (by decide)]
  | block body d hin hub hd ih =>
    intro f l c hf
    obtain ⟨g, rfl⟩ : ∃ g, f = g + 1 := ⟨f - 1, by omega⟩
    have hlen := inside_len hin
    rw [show (47 :: 42 :: body ++ d) ++ tail = (47 :: 42 :: body) ++ (d ++ tail) by simp,
      skipLoop_block g u l c (47 :: 42 :: body) (d ++ tail) (body.length - 2) (by simp [startsWith2])
        (by simpa using scanBlock_inside hin 0 2 (d ++ tail) (by omega)) (by simp; omega)
        (good_of_utf8 (utf8_ascii_append [47, 42] (by decide) hub)) (utf8_head? (utf8_sep hd ht)),
      ih g _ _ (by simp at hf; omega), show (47 :: 42 :: body ++ d) = (47 :: 42 :: body) ++ d by simp, Pos.adv_append]

theorem utf8_spell {bs : Bytes} {t : Tok} {nx : Option UInt8} (h : Spell bs t nx) {rest : Bytes} (hr : Utf8 rest) :
    Utf8 (bs ++ rest) := by
  cases h with
  | punct c t nx hp _ => exact utf8_ascii_cons c (punct_some hp).1 hr
  | div => exact utf8_ascii_cons 47 (by decide) hr
  | shl => exact utf8_ascii_append [60, 60] (by decide) hr
  | shr => exact utf8_ascii_append [62, 62] (by decide) hr
  | ident _ _ hs _ => exact utf8_ascii_append _ (fun b hb => (isIdentByte_ascii (identOk_bytes hs b hb)).1) hr
  | num r ds v nx _ _ hds _ _ =>
    exact utf8_ascii_append _ (fun b hb => (number_ascii r ds hds b hb).1) hr
  | chr c nx hc =>
    have : (39 :: encodeChar c ++ [39]) ++ rest = [39] ++ (encodeChar c ++ ([39] ++ rest)) := by simp
    rw [this]
    exact utf8_ascii_append [39] (by decide) (utf8_encodeChar c hc.1 (utf8_ascii_append [39] (by decide) hr))
  | chrEsc e v nx he =>
    have he' : e.toNat < 128 := by have := charEsc_cases he; omega
    exact utf8_ascii_append [39, 92, e, 39] (by
      intro b hb
      rcases List.mem_cons.mp hb with rfl | hb
      · decide
      · rcases List.mem_cons.mp hb with rfl | hb
        · decide
        · rcases List.mem_cons.mp hb with rfl | hb
          · exact he'
          · simp at hb; subst hb; decide) hr
  | str items nx hok =>
    have : (34 :: renderAll items ++ [34]) ++ rest = [34] ++ (renderAll items ++ ([34] ++ rest)) := by simp
    rw [this]
    exact utf8_ascii_append [34] (by decide) (utf8_renderAll items hok (utf8_ascii_append [34] (by decide) hr))

theorem doNext_punct_spell (c : UInt8) (t : Tok) (rest : Bytes) (hpu : punct c.toNat = some t) (hur : Utf8 rest) (l k : Nat) :
    doNext ⟨c :: rest, false, l, k⟩ = .tok ⟨l, k, t⟩ ⟨rest, false, (adv (l, k) [c]).1, (adv (l, k) [c]).2⟩ := by
  have hc := punct_some hpu
  rw [doNext_punct _ c rest rfl hpu]
  exact emit_eq ⟨c :: rest, false, l, k⟩ [c] rest t true rfl (utf8_ascii_cons c hc.1 hur) hur
    (by intro _ b hb; simp at hb; subst hb; exact ⟨hc.1, hc.2.1⟩)

theorem doNext_shift_spell (x : UInt8) (t : Tok) (rest : Bytes) (hx : x.toNat = 60 ∧ t = .shl ∨ x.toNat = 62 ∧ t = .shr)
    (hur : Utf8 rest) (l k : Nat) :
    doNext ⟨x :: x :: rest, false, l, k⟩ = .tok ⟨l, k, t⟩ ⟨rest, false, (adv (l, k) [x, x]).1, (adv (l, k) [x, x]).2⟩ := by
  have hasc : x.toNat < 128 ∧ x.toNat ≠ 10 := by rcases hx with ⟨h, _⟩ | ⟨h, _⟩ <;> omega
  rw [doNext_shift _ x (x :: rest) rfl x.toNat t hx rfl (by simp [secondIs])]
  exact emit_eq ⟨x :: x :: rest, false, l, k⟩ [x, x] rest t true rfl
    (utf8_ascii_append [x, x] (by intro b hb; simp at hb; subst hb; exact hasc.1) hur) hur
    (by intro _ b hb; simp at hb; subst hb; exact hasc)

theorem lexIdent_exact (b0 : UInt8) (tl rest : Bytes) (hs : identOk (b0 :: tl) = true) (hf : Follow rest.head?)
    (hur : Utf8 rest) (l k : Nat) :
    lexIdent ⟨b0 :: tl ++ rest, false, l, k⟩ =
      .tok ⟨l, k, .ident (b0 :: tl)⟩ ⟨rest, false, (adv (l, k) (b0 :: tl)).1, (adv (l, k) (b0 :: tl)).2⟩ := by
  have hall : ∀ x ∈ b0 :: tl, isIdentByte x = true := identOk_bytes hs
  have h := lexIdent_eq ⟨b0 :: tl ++ rest, false, l, k⟩ (b0 :: tl) rest rfl
    (utf8_ascii_append _ (fun x hx => (isIdentByte_ascii (hall x hx)).1) hur) hall
    (by cases rest with
        | nil => exact .inl rfl
        | cons r0 rtl => exact .inr ⟨r0, rtl, rfl, hf r0 rfl⟩)
  rw [if_neg (by simp)] at h
  exact h

theorem lexNumber_spell (r : Nat) (ds rest : Bytes) (v : Int) (hrx : r = 2 ∨ r = 8 ∨ r = 10 ∨ r = 16) (hne : ds ≠ [])
    (hds : ∀ b ∈ ds, isDigit r b = true) (hv : i64FromStrRadix ds r = some v) (hf : Follow rest.head?)
    (hur : Utf8 rest) (l k : Nat) :
    lexNumber ⟨radixPrefix r ++ ds ++ rest, false, l, k⟩ =
      .tok ⟨l, k, .num v⟩ ⟨rest, false, (adv (l, k) (radixPrefix r ++ ds)).1, (adv (l, k) (radixPrefix r ++ ds)).2⟩ := by
  rw [lexNumber_follow r ds rest hrx (fun _ => hne) hds hf (utf8_head? hur), hv,
    Pos.adv_ascii (l, k) _ (number_ascii r ds hds)]

theorem lexChar_esc_then (e : UInt8) (v : Nat) (he : charEsc e.toNat = some v) (rest : Bytes) (hur : Utf8 rest)
    (l k : Nat) :
    lexChar ⟨39 :: 92 :: e :: 39 :: rest, false, l, k⟩ =
      .tok ⟨l, k, .num (Int.ofNat v)⟩ ⟨rest, false, (adv (l, k) [39, 92, e, 39]).1, (adv (l, k) [39, 92, e, 39]).2⟩ := by
  have hc := charEsc_cases he
  have he' : e.toNat < 128 ∧ e.toNat ≠ 10 := by omega
  have hlit : ∀ b ∈ ([92, e] : Bytes), b.toNat < 128 ∧ b.toNat ≠ 10 := by
    intro b hb
    simp at hb
    rcases hb with rfl | rfl
    · decide
    · exact he'
  refine lexChar_ok _ [92, e] rest v rfl ?_ ?_ (fun _ => hlit)
  · exact utf8_ascii_cons 39 (by decide)
      (utf8_ascii_append [92, e] (fun b hb => (hlit b hb).1) (utf8_ascii_cons 39 (by decide) hur))
  · rw [lexCharBody, show ([92, e] : Bytes) ++ 39 :: rest = 92 :: e :: 39 :: rest from rfl,
      lexCharFirst_esc false _ _ _ (decodeChar_ascii_cons e _ he'.1), he]
    simp [decodeChar_ascii_cons 39 rest (by decide)]

theorem spell_head {bs : Bytes} {t : Tok} {nx : Option UInt8} (h : Spell bs t nx) :
    ∃ b tl, bs = b :: tl ∧ b.toNat < 128 ∧ isSpace b = false ∧
      (b.toNat = 47 → tl = [] ∧ ∀ x, nx = some x → x.toNat ≠ 47 ∧ x.toNat ≠ 42) := by
  have key : ∀ (b : UInt8) (tl : Bytes), b.toNat < 128 → isSpace b = false → b.toNat ≠ 47 →
      ∃ b' tl', b :: tl = b' :: tl' ∧ b'.toNat < 128 ∧ isSpace b' = false ∧
        (b'.toNat = 47 → tl' = [] ∧ ∀ x, nx = some x → x.toNat ≠ 47 ∧ x.toNat ≠ 42) :=
    fun b tl h1 h2 h3 => ⟨b, tl, rfl, h1, h2, fun h => absurd h h3⟩
  cases h with
  | punct c t nx hp h47 =>
    refine key c [] (punct_some hp).1 ?_ h47
    cases hs : isSpace c with
    | false => rfl
    | true =>
      simp [isSpace] at hs
      rcases hs with ((h | h) | h) | h <;> rw [h] at hp <;> simp [punct] at hp
  | div _ hnx => exact ⟨47, [], rfl, by decide, by decide, fun _ => ⟨rfl, hnx⟩⟩
  | shl => exact key 60 _ (by decide) (by decide) (by decide)
  | shr => exact key 62 _ (by decide) (by decide) (by decide)
  | ident _ _ hs _ =>
    cases bs with
    | nil => simp [identOk] at hs
    | cons b0 tl =>
      have hb0 : (65 ≤ b0.toNat ∧ b0.toNat ≤ 90) ∨ b0.toNat = 95 ∨ (97 ≤ b0.toNat ∧ b0.toNat ≤ 122) := by
        simp only [identOk, Bool.and_eq_true] at hs
        have := hs.1
        simp [identStart] at this; omega
      exact key b0 tl (by omega) (by simp [isSpace]; omega) (by omega)
  | num r ds v nx hrx hne hds _ _ =>
    obtain ⟨d0, dtl, hdd, h0⟩ := number_head r ds hrx (fun _ => hne) hds
    rw [hdd]
    exact key d0 dtl (by omega) (by simp [isSpace]; omega) (by omega)
  | chr c nx hc => exact key 39 _ (by decide) (by decide) (by decide)
  | chrEsc e v nx he => exact key 39 _ (by decide) (by decide) (by decide)
  | str items nx hok => exact key 34 _ (by decide) (by decide) (by decide)

theorem spell_ne_nil {bs : Bytes} {t : Tok} {nx : Option UInt8} (h : Spell bs t nx) : bs ≠ [] := by
  obtain ⟨b, tl, rfl, _⟩ := spell_head h
  simp

theorem doNext_spell (bs rest : Bytes) (t : Tok) (hs : Spell bs t rest.head?) (hur : Utf8 rest) (l k : Nat) :
    doNext ⟨bs ++ rest, false, l, k⟩ = .tok ⟨l, k, t⟩ ⟨rest, false, (adv (l, k) bs).1, (adv (l, k) bs).2⟩ := by
  cases hs with
  | punct c t nx hp _ => exact doNext_punct_spell c t rest hp hur l k
  | div => exact doNext_punct_spell 47 .div rest (by decide) hur l k
  | shl => exact doNext_shift_spell 60 .shl rest (Or.inl ⟨rfl, rfl⟩) hur l k
  | shr => exact doNext_shift_spell 62 .shr rest (Or.inr ⟨rfl, rfl⟩) hur l k
  | ident _ _ hs hf =>
    cases bs with
    | nil => simp [identOk] at hs
    | cons b0 tl =>
      have hb0 : identStart b0 = true := by
        simp only [identOk, Bool.and_eq_true] at hs; exact hs.1
      rw [doNext_ident ⟨b0 :: tl ++ rest, false, l, k⟩ b0 (tl ++ rest) rfl (by simp [identStart] at hb0; omega)]
      exact lexIdent_exact b0 tl rest hs hf hur l k
  | num r ds v nx hrx hne hds hv hf =>
    obtain ⟨d0, dtl, hdd, h0⟩ := number_head r ds hrx (fun _ => hne) hds
    rw [doNext_number ⟨radixPrefix r ++ ds ++ rest, false, l, k⟩ d0 (dtl ++ rest) (by simp [hdd]) h0]
    exact lexNumber_spell r ds rest v hrx hne hds hv hf hur l k
  | chr c nx hc =>
    have : (39 :: encodeChar c ++ [39]) ++ rest = 39 :: encodeChar c ++ 39 :: rest := by simp
    rw [this, doNext_char _ 39 (encodeChar c ++ 39 :: rest) rfl (by decide)]
    exact lexChar_raw_then c hc rest hur l k
  | chrEsc e v nx he =>
    have : ([39, 92, e, 39] : Bytes) ++ rest = 39 :: 92 :: e :: 39 :: rest := rfl
    rw [this, doNext_char _ 39 (92 :: e :: 39 :: rest) rfl (by decide)]
    exact lexChar_esc_then e v he rest hur l k
  | str items nx hok =>
    have : (34 :: renderAll items ++ [34]) ++ rest = 34 :: renderAll items ++ 34 :: rest := by simp
    rw [this, doNext_string _ 34 (renderAll items ++ 34 :: rest) rfl (by decide)]
    exact lexString_items items hok rest hur false l k

theorem skipLoop_spell {bs : Bytes} {t : Tok} {rest : Bytes} (hs : Spell bs t rest.head?) (g : Nat) (u : Bool) (l c : Nat) :
    skipLoop (g + 1) ⟨bs ++ rest, u, l, c⟩ = .go ⟨bs ++ rest, u, l, c⟩ := by
  obtain ⟨b, tl, rfl, _, hsp, h47⟩ := spell_head hs
  have hsw : ∀ y, (y = 47 ∨ y = 42) → startsWith2 (b :: tl ++ rest) 47 y = false := by
    intro y hy
    by_cases hb : b.toNat = 47
    · obtain ⟨rfl, hnx⟩ := h47 hb
      cases rest with
      | nil => simp [startsWith2]
      | cons x r =>
        have := hnx x rfl
        simp [startsWith2]; omega
    · rw [List.cons_append]
      cases tl ++ rest <;> simp [startsWith2, hb]
  exact skipLoop_stop g u l c _ (by simp [hsp]) (hsw 47 (.inl rfl)) (hsw 42 (.inr rfl))

theorem nextToken_layout (sep bs rest : Bytes) (t : Tok) (hsep : IsSep sep) (hs : Spell bs t rest.head?)
    (hur : Utf8 rest) (l c : Nat) :
    nextToken ⟨sep ++ bs ++ rest, false, l, c⟩ =
      .tok ⟨(adv (l, c) sep).1, (adv (l, c) sep).2, t⟩
        ⟨rest, false, (adv (l, c) (sep ++ bs)).1, (adv (l, c) (sep ++ bs)).2⟩ := by
  unfold nextToken
  have hsk := skipLoop_sep hsep (bs ++ rest) (utf8_spell hs hur) false
    (fun l' c' => .go ⟨bs ++ rest, false, l', c'⟩) (fun g l' c' => skipLoop_spell hs g false l' c')
    ((sep ++ (bs ++ rest)).length + 1) l c (by simp only [List.length_append]; omega)
  rw [List.append_assoc]
  dsimp only
  rw [hsk]
  simp only
  have hne : (!(bs ++ rest).isEmpty) = true := by
    have := spell_ne_nil hs
    cases bs with
    | nil => exact absurd rfl this
    | cons _ _ => simp
  simp only [hne, if_true]
  rw [doNext_spell bs rest t hs hur]
  simp only
  rw [Pos.adv_append]

theorem utf8_sepEnd {d : Bytes} (h : IsSepEnd d) : Utf8 d := by
  rcases h with h | ⟨a, body, rfl, ha, _, hub⟩
  · simpa using utf8_sep h Utf8.nil
  · exact utf8_sep ha (utf8_ascii_append [47, 47] (by decide) hub)

theorem nextToken_end (trail : Bytes) (h : IsSepEnd trail) (l c : Nat) :
    nextToken ⟨trail, false, l, c⟩ = .done ⟨[], false, (adv (l, c) trail).1, (adv (l, c) trail).2⟩ := by
  unfold nextToken
  rcases h with h | ⟨a, body, rfl, ha, hbody, hub⟩
  · have hsk := skipLoop_sep h [] Utf8.nil false (fun l' c' => .go ⟨[], false, l', c'⟩)
      (fun g l' c' => by simp [skipLoop]) (trail.length + 1) l c (by omega)
    simp only [List.append_nil] at hsk
    dsimp only
    rw [hsk]
    simp
  · have htail : Utf8 ((47 : UInt8) :: 47 :: body) := utf8_ascii_append [47, 47] (by decide) hub
    have hT : ∀ g l' c', skipLoop (g + 1) ⟨47 :: 47 :: body, false, l', c'⟩ =
        .go ⟨[], false, (adv (l', c') (47 :: 47 :: body)).1, (adv (l', c') (47 :: 47 :: body)).2⟩ := fun g l' c' => by
      rw [skipLoop_lineEnd g false l' c' _ (by simp [startsWith2]) (line_noLF hbody) (good_of_utf8 htail)]
      rfl
    have hsk := skipLoop_sep ha (47 :: 47 :: body) htail false _ hT ((a ++ 47 :: 47 :: body).length + 1) l c
      (by simp only [List.length_append]; omega)
    dsimp only
    rw [hsk]
    simp only
    simp [Pos.adv_append]

theorem utf8_ltext {L : List LTok} {trail : Bytes} (h : LOk L trail) : Utf8 (ltext L trail) := by
  induction L with
  | nil => exact utf8_sepEnd h
  | cons x r ih =>
    obtain ⟨h1, h2, h3⟩ := h
    simp only [ltext]
    rw [List.append_assoc]
    exact utf8_sep h1 (utf8_spell h2 (ih h3))

theorem run_layout (L : List LTok) (trail : Bytes) (h : LOk L trail) (pre : Bytes) (f : Nat) (hf : L.length + 1 ≤ f) :
    run f ⟨ltext L trail, false, (Pos.of pre).1, (Pos.of pre).2⟩ =
      .ok ⟨ltoks pre L, none, (Pos.of (pre ++ ltext L trail)).1, (Pos.of (pre ++ ltext L trail)).2⟩ := by
  induction L generalizing pre f with
  | nil =>
    obtain ⟨g, rfl⟩ : ∃ g, f = g + 1 := ⟨f - 1, by omega⟩
    simp only [ltext, ltoks, run]
    rw [nextToken_end trail h]
    simp only
    rw [Pos.of_append]
  | cons x r ih =>
    obtain ⟨g, rfl⟩ : ∃ g, f = g + 1 := ⟨f - 1, by omega⟩
    obtain ⟨h1, h2, h3⟩ := h
    simp only [ltext, ltoks, run]
    rw [nextToken_layout x.sep x.spell (ltext r trail) x.tok h1 h2 (utf8_ltext h3)]
    simp only
    have e1 : adv (Pos.of pre) x.sep = Pos.of (pre ++ x.sep) := (Pos.of_append _ _).symm
    have e2 : adv (Pos.of pre) (x.sep ++ x.spell) = Pos.of (pre ++ x.sep ++ x.spell) := by
      rw [List.append_assoc]; exact (Pos.of_append _ _).symm
    have := ih h3 (pre ++ x.sep ++ x.spell) g (by simp at hf; omega)
    rw [e1, e2, this]
    simp [Out.push, List.append_assoc]

theorem llen_le {L : List LTok} {trail : Bytes} (h : LOk L trail) : L.length ≤ (ltext L trail).length := by
  induction L with
  | nil => simp
  | cons x r ih =>
    obtain ⟨_, h2, h3⟩ := h
    have := ih h3
    have hne := spell_ne_nil h2
    have : 0 < x.spell.length := List.length_pos_iff.mpr hne
    simp [ltext]; omega

theorem tokens_layout (L : List LTok) (trail : Bytes) (h : LOk L trail) :
    tokens (ltext L trail) =
      .ok ⟨ltoks [] L, none, (Pos.of (ltext L trail)).1, (Pos.of (ltext L trail)).2⟩ := by
  unfold tokens
  rw [new_of_utf8 _ (utf8_ltext h)]
  have := run_layout L trail h [] ((ltext L trail).length + 2) (by have := llen_le h; omega)
  simp only [List.nil_append] at this
  exact this

theorem nextToken_spell (lit rest : Bytes) (t : Tok) (hs : Spell lit t rest.head?) (hur : Utf8 rest) :
    nextToken ⟨lit ++ rest, false, 1, 1⟩ = .tok ⟨1, 1, t⟩ ⟨rest, false, (Pos.of lit).1, (Pos.of lit).2⟩ := by
  have := nextToken_layout [] lit rest t IsSep.nil hs hur 1 1
  simp only [List.nil_append, Pos.adv_nil] at this
  rw [this, Pos.of_eq_adv]

theorem tokens_spell (lit rest : Bytes) (t : Tok) (hs : Spell lit t rest.head?) (hur : Utf8 rest) :
    ∃ o more, tokens (lit ++ rest) = .ok o ∧ o.toks = ⟨1, 1, t⟩ :: more := by
  unfold tokens
  rw [new_of_utf8 _ (utf8_spell hs hur)]
  rw [show (lit ++ rest).length + 2 = ((lit ++ rest).length + 1) + 1 by omega, run, nextToken_spell lit rest t hs hur]
  simp only
  obtain ⟨o, ho, _⟩ := run_spec (lit ++ rest) ((lit ++ rest).length + 1) ⟨rest, false, (Pos.of lit).1, (Pos.of lit).2⟩ lit hur rfl rfl
    (by simp)
  rw [ho]
  exact ⟨_, o.toks, rfl, rfl⟩

end Trion.Lex
