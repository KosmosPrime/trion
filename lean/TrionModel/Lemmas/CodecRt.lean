import TrionModel.Lemmas.CodecRtRegs
import TrionModel.Lemmas.CodecRtImm
import TrionModel.Lemmas.CodecRtWide
/-! `rt_all`: every instruction has the round trip `RT`, arm by arm (`CodecRtRegs`, `CodecRtImm`, `CodecRtWide`).  Then the
round trip at the level of bytes: `decode` on the little-endian bytes of one or two halfwords is `decode16` /
`decode32`, whatever follows. -/
namespace Trion.Codec
open Trion

theorem rt_all (i : Instr) : RT i :=
  match i with
  | .adc a b => rt_adc a b
  | .add f a b (.imm v) => rt_add_imm f a b v
  | .add f a b (.reg c) => rt_add_reg f a b c
  | .adr a v => rt_adr a v
  | .and a b => rt_and a b
  | .asr a b (.imm v) => rt_asr_imm a b v
  | .asr a b (.reg c) => rt_asr_reg a b c
  | .b c v => rt_b c v
  | .bic a b => rt_bic a b
  | .bkpt v => rt_bkpt v
  | .bl v => rt_bl v
  | .blx a => rt_blx a
  | .bx a => rt_bx a
  | .cmn a b => rt_cmn a b
  | .cmp a (.imm v) => rt_cmp_imm a v
  | .cmp a (.reg c) => rt_cmp_reg a c
  | .cps e => rt_cps e
  | .dmb => rt_dmb
  | .dsb => rt_dsb
  | .eor a b => rt_eor a b
  | .isb => rt_isb
  | .ldm a m => rt_ldm a m
  | .ldr a b (.imm v) => rt_ldr_imm a b v
  | .ldr a b (.reg c) => rt_ldr_reg a b c
  | .ldrb a b (.imm v) => rt_ldrb_imm a b v
  | .ldrb a b (.reg c) => rt_ldrb_reg a b c
  | .ldrh a b (.imm v) => rt_ldrh_imm a b v
  | .ldrh a b (.reg c) => rt_ldrh_reg a b c
  | .ldrsb a b c => rt_ldrsb a b c
  | .ldrsh a b c => rt_ldrsh a b c
  | .lsl a b (.imm v) => rt_lsl_imm a b v
  | .lsl a b (.reg c) => rt_lsl_reg a b c
  | .lsr a b (.imm v) => rt_lsr_imm a b v
  | .lsr a b (.reg c) => rt_lsr_reg a b c
  | .mov f a (.imm v) => rt_mov_imm f a v
  | .mov f a (.reg c) => rt_mov_reg f a c
  | .mrs a s => rt_mrs a s
  | .msr s a => rt_msr s a
  | .mul a b => rt_mul a b
  | .mvn a b => rt_mvn a b
  | .nop => rt_nop
  | .orr a b => rt_orr a b
  | .pop m => rt_pop m
  | .push m => rt_push m
  | .rev a b => rt_rev a b
  | .rev16 a b => rt_rev16 a b
  | .revsh a b => rt_revsh a b
  | .ror a b => rt_ror a b
  | .rsb a b => rt_rsb a b
  | .sbc a b => rt_sbc a b
  | .sev => rt_sev
  | .stm a m => rt_stm a m
  | .str a b (.imm v) => rt_str_imm a b v
  | .str a b (.reg c) => rt_str_reg a b c
  | .strb a b (.imm v) => rt_strb_imm a b v
  | .strb a b (.reg c) => rt_strb_reg a b c
  | .strh a b (.imm v) => rt_strh_imm a b v
  | .strh a b (.reg c) => rt_strh_reg a b c
  | .sub f a b (.imm v) => rt_sub_imm f a b v
  | .sub f a b (.reg c) => rt_sub_reg f a b c
  | .svc v => rt_svc v
  | .sxtb a b => rt_sxtb a b
  | .sxth a b => rt_sxth a b
  | .tst a b => rt_tst a b
  | .udf v => rt_udf v
  | .udfw v => rt_udfw v
  | .uxtb a b => rt_uxtb a b
  | .uxth a b => rt_uxth a b
  | .wfe => rt_wfe
  | .wfi => rt_wfi
  | .yield => rt_yield

theorem le16 (w : Nat) : w % 256 + 256 * (w / 256) = w := by omega

theorem decode_single (w : Nat) (rest : List Nat) (h : w / 2048 < 29) :
    decode (toBytes [w] ++ rest) = decode16 w :=
  decode_narrow rest (le16 w) h

theorem decode_double (w0 w1 : Nat) (rest : List Nat) (h : 29 ≤ w0 / 2048) (h' : w0 / 2048 < 32) :
    decode (toBytes [w0, w1] ++ rest) = decode32 w0 w1 :=
  decode_wide rest (le16 w0) (le16 w1) h h'

theorem decode_single_nil (w : Nat) (h : w / 2048 < 29) : decode (toBytes [w]) = decode16 w := by
  rw [← decode_single w [] h, List.append_nil]

theorem decode_double_nil (w0 w1 : Nat) (h : 29 ≤ w0 / 2048) (h' : w0 / 2048 < 32) :
    decode (toBytes [w0, w1]) = decode32 w0 w1 := by
  rw [← decode_double w0 w1 [] h h', List.append_nil]

theorem decode_toBytes (i : Instr) (hws rest : List Nat) (h : encode i = .ok hws) (wf : i.wf) :
    decode (toBytes hws ++ rest) = .ok (2 * hws.length, i) := by
  rcases rt_all i hws h wf with ⟨w, rfl, _, ht, hd⟩ | ⟨w0, w1, rfl, _, _, ht, hd⟩
  · rw [decode_single w rest ht, hd]; rfl
  · rw [decode_double w0 w1 rest ht (by omega), hd]; rfl

theorem decode_toBytes_nil (i : Instr) (hws : List Nat) (h : encode i = .ok hws) (wf : i.wf) :
    decode (toBytes hws) = .ok (2 * hws.length, i) := by
  rw [← decode_toBytes i hws [] h wf, List.append_nil]

end Trion.Codec
