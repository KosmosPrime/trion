import TrionModel.Lemmas.SimpRetry
import TrionModel.Model.Asm
/-!
# A checker for the exact tree-level retry condition

`LeftStable lk₁ lk₂ isReg a` quantifies over the outcomes of `evaluate`; `leftStableB` computes it (run `evaluate` over
`lk₁` on the left operands along the path to the stop, and `evaluate` over `lk₂` once more on each completed value, and
compare trees).  `leftStableB_sound_both` (for `Asm`: `leftStable_checked`, Props/C08Bytes.lean): `true` implies the
condition — so for a concrete statement and concrete tables the hypothesis of
`Asm.stmt_outcome_order_independent_partial` is discharged by evaluation (`rfl` / `decide`).
-/
namespace Trion.Simp
open Trion

mutual
/-- Structural equality of trees as a Boolean function, for the checkers below; only `true → =` is proved (`beq_eq_both`). -/
def Arg.beq : Arg → Arg → Bool
  | .const a, .const b => decide (a = b)
  | .ident a, .ident b => decide (a = b)
  | .str a, .str b => decide (a = b)
  | .bin o l r, .bin o' l' r' => decide (o = o') && Arg.beq l l' && Arg.beq r r'
  | .neg a, .neg b => Arg.beq a b
  | .not a, .not b => Arg.beq a b
  | .addr a, .addr b => Arg.beq a b
  | .seq a, .seq b => Args.beq a b
  | .func n a, .func m b => decide (n = m) && Args.beq a b
  | _, _ => false
def Args.beq : Args → Args → Bool
  | .nil, .nil => true
  | .cons a as, .cons b bs => Arg.beq a b && Args.beq as bs
  | _, _ => false
end

theorem beq_eq_both : (∀ a b, Arg.beq a b = true → a = b) ∧ (∀ as bs, Args.beq as bs = true → as = bs) := by
  apply Arg.ind2
  case const => intro v b h; cases b <;> simp_all [Arg.beq]
  case ident => intro v b h; cases b <;> simp_all [Arg.beq]
  case str => intro v b h; cases b <;> simp_all [Arg.beq]
  case bin =>
    intro op l r ihl ihr b h
    cases b with
    | bin o' l' r' =>
      simp only [Arg.beq, Bool.and_eq_true, decide_eq_true_eq] at h
      obtain ⟨⟨h1, h2⟩, h3⟩ := h
      rw [h1, ihl _ h2, ihr _ h3]
    | _ => simp [Arg.beq] at h
  case neg =>
    intro a ih b h
    cases b with
    | neg b => simp only [Arg.beq] at h; rw [ih _ h]
    | _ => simp [Arg.beq] at h
  case not =>
    intro a ih b h
    cases b with
    | not b => simp only [Arg.beq] at h; rw [ih _ h]
    | _ => simp [Arg.beq] at h
  case addr =>
    intro a ih b h
    cases b with
    | addr b => simp only [Arg.beq] at h; rw [ih _ h]
    | _ => simp [Arg.beq] at h
  case seq =>
    intro as ih b h
    cases b with
    | seq bs => simp only [Arg.beq] at h; rw [ih _ h]
    | _ => simp [Arg.beq] at h
  case func =>
    intro n as ih b h
    cases b with
    | func m bs =>
      simp only [Arg.beq, Bool.and_eq_true, decide_eq_true_eq] at h
      obtain ⟨h1, h2⟩ := h
      rw [h1, ih _ h2]
    | _ => simp [Arg.beq] at h
  case nil => intro bs h; cases bs <;> simp_all [Args.beq]
  case cons =>
    intro a as iha ihas bs h
    cases bs with
    | cons b bs =>
      simp only [Args.beq, Bool.and_eq_true] at h
      obtain ⟨h1, h2⟩ := h
      rw [iha _ h1, ihas _ h2]
    | nil => simp [Args.beq] at h

/-- Checker for `StableAt lk isReg a` (`stableB_sound`): one run of `evaluate` completes and returns `a` itself. -/
def stableB (lk : Bytes → Lookup) (isReg : Bytes → Bool) (a : Arg) : Bool :=
  match evaluateE lk isReg a with
  | .ok ev a' => ev.cause.isNone && Arg.beq a' a
  | _ => false

theorem stableB_sound {lk : Bytes → Lookup} {isReg : Bytes → Bool} {a : Arg} (h : stableB lk isReg a = true) :
    StableAt lk isReg a := by
  unfold stableB at h
  cases he : evaluateE lk isReg a with
  | ok ev a' =>
    rw [he] at h
    simp only [Bool.and_eq_true] at h
    have := beq_eq_both.1 _ _ h.2
    subst this
    refine ⟨ev, he, ?_⟩
    cases hc : ev.cause with
    | none => rfl
    | some c => rw [hc] at h; simp at h
  | _ => rw [he] at h; cases h

mutual
def leftStableB (lk₁ lk₂ : Bytes → Lookup) (isReg : Bytes → Bool) : Arg → Bool
  | .bin _ l r => leftStableB lk₁ lk₂ isReg l && leftStableB lk₁ lk₂ isReg r &&
      (match evaluateE lk₁ isReg l, evaluateE lk₁ isReg r with
       | .ok _ l', .nosuch _ _ => stableB lk₂ isReg l'
       | _, _ => true)
  | .neg a => leftStableB lk₁ lk₂ isReg a
  | .not a => leftStableB lk₁ lk₂ isReg a
  | .addr a => leftStableB lk₁ lk₂ isReg a
  | .seq as => leftStableArgsB lk₁ lk₂ isReg as
  | .func _ as => leftStableArgsB lk₁ lk₂ isReg as
  | _ => true
def leftStableArgsB (lk₁ lk₂ : Bytes → Lookup) (isReg : Bytes → Bool) : Args → Bool
  | .nil => true
  | .cons a as => leftStableB lk₁ lk₂ isReg a && leftStableArgsB lk₁ lk₂ isReg as &&
      (match evaluateE lk₁ isReg a, evaluateArgsE lk₁ isReg as with
       | .ok _ a', .nosuch _ _ => stableB lk₂ isReg a'
       | _, _ => true)
end

theorem leftStableB_sound_both (lk₁ lk₂ : Bytes → Lookup) (isReg : Bytes → Bool) :
    (∀ a, leftStableB lk₁ lk₂ isReg a = true → LeftStable lk₁ lk₂ isReg a) ∧
    (∀ as, leftStableArgsB lk₁ lk₂ isReg as = true → LeftStableArgs lk₁ lk₂ isReg as) := by
  apply Arg.ind2
  case const => intro v _; simp [LeftStable]
  case ident => intro v _; simp [LeftStable]
  case str => intro v _; simp [LeftStable]
  case bin =>
    intro op l r ihl ihr h
    simp only [leftStableB, Bool.and_eq_true] at h
    obtain ⟨⟨h1, h2⟩, h3⟩ := h
    simp only [LeftStable]
    refine ⟨ihl h1, ihr h2, fun e l' n r₁ e1 e2 => ?_⟩
    rw [e1, e2] at h3
    exact stableB_sound h3
  case neg => intro v ih h; simp only [leftStableB] at h; simp only [LeftStable]; exact ih h
  case not => intro v ih h; simp only [leftStableB] at h; simp only [LeftStable]; exact ih h
  case addr => intro v ih h; simp only [leftStableB] at h; simp only [LeftStable]; exact ih h
  case seq => intro as ih h; simp only [leftStableB] at h; simp only [LeftStable]; exact ih h
  case func => intro f as ih h; simp only [leftStableB] at h; simp only [LeftStable]; exact ih h
  case nil => intro _; simp [LeftStableArgs]
  case cons =>
    intro a as iha ihas h
    simp only [leftStableArgsB, Bool.and_eq_true] at h
    obtain ⟨⟨h1, h2⟩, h3⟩ := h
    simp only [LeftStableArgs]
    refine ⟨iha h1, ihas h2, fun e a' n as₁ e1 e2 => ?_⟩
    rw [e1, e2] at h3
    exact stableB_sound h3

end Trion.Simp

namespace Trion.Asm
open Trion

def leftStableArgB (t₁ t₂ : Table) (a : Arg) : Bool :=
  Simp.leftStableB (fun n => t₁.get n) (fun n => t₂.get n) Front.isRegister a

end Trion.Asm
