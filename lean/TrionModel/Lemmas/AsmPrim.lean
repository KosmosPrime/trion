import TrionModel.Lemmas.AsmBase
import TrionModel.Lemmas.SimpNF
/-!
# `Trion.Asm`: the primitives keep the invariant and do not panic
(`get/insert/defer_constant`, `add_task`, `evaluate`, the region writes)
-/
namespace Trion.Asm
open Trion

theorem step_setG {b : Bool} {st : St} (h : Good b st) {n : Bytes} (hn : Front.isRegister n = false) (v : Option Int) :
    Step b st { st with globals := st.globals.set n v } :=
  ⟨⟨h.inv, h.gt, h.lt, tableOk_set h.gtab hn _, h.ltab, h.inFile, h.top⟩, Ext.refl _⟩

theorem step_setL {st : St} (h : Good true st) {l : Table} (hl : st.locals = some l) {n : Bytes}
    (hn : Front.isRegister n = false) (v : Option Int) : Step true st { st with locals := some (l.set n v) } :=
  ⟨⟨h.inv, h.gt, h.lt, h.gtab, fun _ e => by cases e; exact tableOk_set (h.ltab l hl) hn _,
    fun _ => ⟨rfl, (h.inFile rfl).2⟩, fun e => by cases e⟩, Ext.refl _⟩

theorem insertConstant_ret {b : Bool} {st : St} (h : Good b st) (n : Bytes) (v : Int) (r : Realm)
    (hr : r = .loc → b = true) : (insertConstant st n v r).Ret fun x => Step b st x.1 := by
  unfold insertConstant
  split
  · exact .refl h
  · rename_i hreg
    have hreg : Front.isRegister n = false := by simpa using hreg
    cases r with
    | global =>
      simp only
      split
      · exact step_setG h hreg _
      · exact step_setG h hreg _
      · exact .refl h
    | loc =>
      cases hr rfl
      obtain ⟨l, hl⟩ := Option.isSome_iff_exists.mp (h.inFile rfl).1
      simp only [hl]
      split
      · exact step_setL h hl hreg _
      · exact step_setL h hl hreg _
      · exact .refl h

theorem deferConstant_ret {b : Bool} {st : St} (h : Good b st) (n : Bytes) (r : Realm)
    (hr : r = .loc → b = true) : (deferConstant st n r).Ret fun x => Step b st x.1 := by
  unfold deferConstant
  split
  · exact .refl h
  · rename_i hreg
    have hreg : Front.isRegister n = false := by simpa using hreg
    cases r with
    | global =>
      simp only
      split
      · exact .refl h
      · exact step_setG h hreg _
    | loc =>
      cases hr rfl
      obtain ⟨l, hl⟩ := Option.isSome_iff_exists.mp (h.inFile rfl).1
      simp only [hl]
      split
      · exact .refl h
      · exact step_setL h hl hreg _

theorem getConstant_loc_eq {st : St} (h : st.locals.isSome = true) (n : Bytes) :
    ∃ l, st.locals = some l ∧ getConstant st n .loc = .ok (l.get n) := by
  obtain ⟨l, hl⟩ := Option.isSome_iff_exists.mp h
  exact ⟨l, hl, by simp [getConstant, hl]⟩

theorem addTask_ret {b : Bool} {st : St} (h : Good b st) (t : Task) (r : Realm)
    (ht : TaskOk st.seg.pending t) (hl : r = .loc → b = true) (hg : r = .global → t.notCopy = true) :
    (addTask st t r).Ret fun st' => Step b st st' := by
  cases r with
  | global =>
    refine ⟨⟨h.inv, ?_, h.lt, h.gtab, h.ltab, h.inFile, fun hb => ⟨(h.top hb).1, (h.top hb).2.1, ?_⟩⟩,
      fun _ x => x, ?_, Traced.refl st⟩
    all_goals
      intro t' ht'
      rcases List.mem_append.mp ht' with m | m
    · exact h.gt t' m
    · rw [List.mem_singleton.mp m]; exact ht
    · exact (h.top hb).2.2 t' m
    · rw [List.mem_singleton.mp m]; exact hg rfl
    · exact .inl m
    · rw [List.mem_singleton.mp m]; exact .inr (hg rfl)
  | loc =>
    cases hl rfl
    obtain ⟨l, hl'⟩ := Option.isSome_iff_exists.mp (h.inFile rfl).2
    simp only [addTask, hl']
    refine ⟨⟨h.inv, h.gt, ?_, h.gtab, h.ltab, fun _ => ⟨(h.inFile rfl).1, rfl⟩, fun e => by cases e⟩, Ext.refl _⟩
    intro l2 e t' ht'
    cases e
    rcases List.mem_append.mp ht' with m | m
    · exact h.lt l hl' t' m
    · rw [List.mem_singleton.mp m]; exact ht

theorem evaluateE_ne_panic (lk : Bytes → Simp.Lookup) (isReg : Bytes → Bool) (a : Arg) :
    Simp.evaluateE lk isReg a ≠ .panic := (Simp.evaluateE_ne_panic_both lk isReg).1 a

theorem evalIn_ret (t : Table) (a : Arg) : (evalIn t a).Ret fun _ => True := by
  unfold evalIn
  have := evaluateE_ne_panic (fun n => t.get n) Front.isRegister a
  split
  · split <;> trivial
  · trivial
  · trivial
  · rename_i hp; exact absurd hp this

theorem evalTable_ret {b : Bool} {env : Env} {st : St} (h : Good b st) (hb : env.paths.isEmpty = !b) :
    (evalTable env st).Ret fun _ => True := by
  unfold evalTable
  cases b with
  | false => simp at hb; simp [hb, Out.Post]
  | true =>
    simp at hb
    obtain ⟨l, hl⟩ := Option.isSome_iff_exists.mp (h.inFile rfl).1
    simp [hb, hl, Out.Post]

theorem evalArg_ret {b : Bool} {env : Env} {st : St} (h : Good b st) (hb : env.paths.isEmpty = !b) (a : Arg) :
    (evalArg env st a).Ret fun _ => True := by
  obtain ⟨t, ht, -⟩ := (evalTable_ret h hb).get
  simp only [evalArg, ht]
  exact evalIn_ret t a

theorem evalPanics_false (t : Table) (as : List Arg) : evalPanics t as = false := by
  unfold evalPanics
  rw [List.any_eq_false]
  intro a _
  obtain ⟨ev, hev, -⟩ := (evalIn_ret t a).get
  simp [hev]

theorem segStep_eq {s s' : Seg.State} {op : Seg.Op} {o : Seg.Out} (hs : Seg.step s op = (s', o)) (ho : o ≠ .panic) :
    segStep s op = .ok (s', o) := by
  unfold segStep
  rw [hs]
  cases o <;> first | rfl | exact absurd rfl ho

theorem segStep_rewrite {s : Seg.State} (inv : Seg.Inv s) (addr : Nat) (d : Bytes)
    (hp : (addr, d.length) ∈ s.pending) :
    segStep s (.rewrite addr d) ≠ .stop .panic ∧ ∀ s' o, segStep s (.rewrite addr d) = .ok (s', o) →
      o = .ok ∧ Seg.Inv s' ∧ s'.pending = s.pending ∧ Seg.step s (.rewrite addr d) = (s', o) := by
  have h := Seg.rewrite_spec inv addr d hp
  unfold segStep
  have e : Seg.step s (.rewrite addr d) = Seg.rewrite s addr d := rfl
  rw [e]
  split
  · rename_i hs; rw [hs] at h; exact absurd h.1 (by simp)
  · rename_i s1 o1 _ hs
    rw [hs] at h
    exact ⟨by simp, fun s' o e => by cases e; exact ⟨h.1, h.2.1, h.2.2.2.2, hs⟩⟩

theorem good_setSeg {b : Bool} {st : St} (h : Good b st) {s' : Seg.State} (inv : Seg.Inv s')
    (hp : st.seg.pending ⊆ s'.pending) : Good b { st with seg := s' } :=
  ⟨inv, fun t m => (h.gt t m).mono hp, fun l e t m => (h.lt l e t m).mono hp, h.gtab, h.ltab, h.inFile, h.top⟩


theorem pending_close (s : Seg.State) : (Seg.closeSegment s).1.pending = s.pending := by
  unfold Seg.closeSegment
  split
  · rfl
  · split
    · split <;> rfl
    · rfl

theorem pending_open (s : Seg.State) (a : Nat) : (Seg.openSegment s a).1.pending = s.pending := by
  unfold Seg.openSegment
  repeat' split
  all_goals rfl

theorem pending_change (s : Seg.State) (a : Nat) : (Seg.changeSegment s a).1.pending = s.pending := by
  unfold Seg.changeSegment
  split
  · split
    · rfl
    · split
      · rename_i s' hc
        rw [pending_open]
        have := pending_close s
        rw [hc] at this
        exact this
      · exact pending_close s
  · exact pending_open s a

theorem pending_step (s : Seg.State) (op : Seg.Op) : s.pending ⊆ (Seg.step s op).1.pending := by
  cases op with
  | select a =>
    simp only [Seg.step, pending_change]
    exact fun _ x => x
  | append d =>
    simp only [Seg.step]
    repeat' split
    all_goals exact fun _ x => x
  | align n =>
    simp only [Seg.step]
    repeat' split
    all_goals exact fun _ x => x
  | place d =>
    simp only [Seg.step]
    repeat' split
    all_goals (first | exact fun _ x => x | exact fun _ x => List.mem_cons_of_mem _ x)
  | rewrite a d =>
    simp only [Seg.step, Seg.rewrite]
    repeat' split
    all_goals exact fun _ x => x
  | close =>
    simp only [Seg.step, pending_close]
    exact fun _ x => x

/-- a legal region operation in a good state returns; the new regions give a good state that extends the old one: as they
are unless a refusal came back, and in any case once a diagnostic is pushed -/
theorem segOp_safe {b : Bool} {st : St} (h : Good b st) (op : Seg.Op) (wf : Seg.Op.wf st.seg op) :
    ∃ s' o, segStep st.seg op = .ok (s', o) ∧ Seg.step st.seg op = (s', o) ∧
      (isDiag o = false → Step b st { st with seg := s' }) ∧
      ∀ f l c k, Step b st (({ st with seg := s' } : St).pushIn f l c k) := by
  have hnp : (Seg.step st.seg op).2 ≠ .panic ∧ Seg.Inv (Seg.step st.seg op).1 := by
    by_cases hop : ∃ a d, op = .rewrite a d
    · obtain ⟨a, d, rfl⟩ := hop
      have w := Seg.rewrite_spec h.inv a d wf
      exact ⟨by rw [show Seg.step st.seg (.rewrite a d) = Seg.rewrite st.seg a d from rfl, w.1]; simp, w.2.1⟩
    · have w := Seg.step_nonrewrite h.inv op wf (fun a d e => hop ⟨a, d, e⟩)
      exact ⟨w.1, w.2.1⟩
  have hp := pending_step st.seg op
  cases hs : Seg.step st.seg op with
  | mk s' o =>
    rw [hs] at hnp hp
    have g := good_setSeg h hnp.2 hp
    have hpath : Path st.seg [(op, o)] s' := .cons h.inv wf hs hnp.1 (.nil _)
    refine ⟨s', o, segStep_eq hs hnp.1, rfl, fun ho => ⟨g, ext_of_path (st'' := { st with seg := s' }) hp rfl hpath ?_⟩,
      fun f l c k => ⟨good_pushIn g .., ext_of_path (st'' := St.pushIn { st with seg := s' } f l c k) hp rfl hpath ?_⟩⟩
    · simp [diags, ho]
    · cases ho : isDiag o <;> simp [diags, ho, St.pushIn]

/-- where a statement stands with respect to the regions: placed (and recorded with its length), or not yet
placed and standing at the cursor of the active region -/
def At (s : Seg.State) (placed : Bool) (addr len : Nat) : Prop :=
  if placed then (addr, len) ∈ s.pending else ∃ seg, s.active = some seg ∧ seg.cur = addr

theorem place_cases {s : Seg.State} {seg : Seg.Active} (inv : Seg.Inv s) (ha : s.active = some seg) (d : Bytes) :
    (Seg.step s (.place d) = (s, .diag (.overflow d.length (seg.maxLen - seg.buf.length)))) ∨
    (∃ s', Seg.step s (.place d) = (s', .placed seg.cur) ∧ s'.pending = (seg.cur, d.length) :: s.pending) := by
  have ok := inv.2.1 seg ha
  rcases Seg.write_spec ok d with ⟨_, f2⟩ | ⟨_, f2⟩
  · right
    simp only [Seg.step, ha, f2]
    exact ⟨_, rfl, rfl⟩
  · left
    simp only [Seg.step, ha, f2, Seg.eta_active ha]

/-- the region write of a statement standing at `addr`: it returns; a statement once placed stays placed, a write
that was not refused leaves it placed -/
theorem writeStmt_safe {b : Bool} {st : St} (h : Good b st) (placed : Bool) (addr : Nat) (d : Bytes)
    (hat : At st.seg placed addr d.length) :
    ∃ s' p' e, writeStmt st.seg placed addr d = .ok (s', p', e) ∧ At s' p' addr d.length ∧ (placed = true → p' = true) ∧
      (e = none → p' = true ∧ Step b st { st with seg := s' }) ∧
      ∀ f l c k, Step b st (({ st with seg := s' } : St).pushIn f l c k) := by
  cases placed with
  | false =>
    obtain ⟨seg, ha, hcur⟩ : ∃ seg, st.seg.active = some seg ∧ seg.cur = addr := by simpa [At] using hat
    obtain ⟨s', o, hs, hstep, h0, h1⟩ := segOp_safe h (.place d) trivial
    rcases place_cases h.inv ha d with hp | ⟨s2, hp, hpend⟩ <;> (rw [hp] at hstep; cases hstep)
    · exact ⟨_, false, some (.overflow d.length (seg.maxLen - seg.buf.length)), by simp [writeStmt, ha, hs], hat, (fun e => nomatch e), (fun e => nomatch e), h1⟩
    · exact ⟨_, true, none, by simp [writeStmt, ha, hs], by simp [At, hpend, hcur], fun _ => rfl, fun _ => ⟨rfl, h0 rfl⟩, h1⟩
  | true =>
    have hp : (addr, d.length) ∈ st.seg.pending := by simpa [At] using hat
    obtain ⟨s', o, hs, hstep, h0, h1⟩ := segOp_safe h (.rewrite addr d) hp
    have w := Seg.rewrite_spec h.inv addr d hp
    rw [show Seg.rewrite st.seg addr d = (s', o) from hstep] at w
    obtain ⟨rfl, _, _, _, hpend⟩ := w
    exact ⟨_, true, none, by simp [writeStmt, hs], by simp only [At, if_true]; rw [hpend]; exact hp, fun _ => rfl, fun _ => ⟨rfl, h0 rfl⟩, h1⟩

end Trion.Asm
