import TrionModel.Lemmas.LexRun
import TrionModel.Lemmas.ParseAll
/-!
# Every position the parser reports is one the tokenizer reported; lines and columns are at least 1

`all_pos`: whatever holds of the positions of all tokens, of the tokenizer's error and of its end position holds of the
positions of all elements and of the parser's error — the elements sit at tokens (`element_ok`), the errors at a token, at
the tokenizer's error or at the end (`posAt`, the walk of the expression functions). The tokenizer's positions are
`Pos.of` of a piece of the text (`tokens_spec`), hence at least (1, 1).
-/
namespace Trion.Parse
open Trion

variable {P : Nat → Nat → Prop}

/-- `P` holds of the position of every token of `ts` -/
def TsOk (P : Nat → Nat → Prop) (ts : List Token) : Prop := ∀ t ∈ ts, P t.line t.col

theorem TsOk.tail {t : Token} {ts : List Token} (h : TsOk P (t :: ts)) : TsOk P ts := fun x hx => h x (List.mem_cons_of_mem _ hx)
theorem TsOk.head {t : Token} {ts : List Token} (h : TsOk P (t :: ts)) : P t.line t.col := h t List.mem_cons_self
theorem TsOk.suffix {r ts : List Token} (h : TsOk P ts) (hs : r <:+ ts) : TsOk P r := fun x hx => h x (hs.subset hx)

/-- `P` holds of every position the tokenizer reported -/
structure PosOk (P : Nat → Nat → Prop) (lo : LexOut) : Prop where
  toks : TsOk P lo.toks
  err : ∀ e, lo.err = some e → P e.line e.col
  fin : P lo.endLine lo.endCol

/-- a result that is good for the walk: `Q` of what is returned, `P` of the position of an error -/
def ROk {α : Type} (P : Nat → Nat → Prop) (Q : α → Prop) : Res α → Prop
  | .ok a => Q a
  | .err e => P e.line e.col
  | .panic => True
  | .fuel => True

theorem ROk.bind {α β : Type} {p1 : α → Prop} {p2 : β → Prop} {r : Res α} {f : α → Res β}
    (h : ROk P p1 r) (hf : ∀ a, p1 a → ROk P p2 (f a)) : ROk P p2 (r.bind f) := by
  cases r with
  | ok a => exact hf a h
  | err e => exact h
  | panic => trivial
  | fuel => trivial

variable {lo : LexOut} (hlo : PosOk P lo)
include hlo

theorem endErr_pos (e : String) : P (endErr lo e).line (endErr lo e).col := by
  unfold endErr
  split
  · rename_i x hx; exact hlo.err x hx
  · exact hlo.fin

theorem exprStart_pos {ts : List Token} (h : TsOk P ts) : P (exprStart lo ts).1 (exprStart lo ts).2 := by
  cases ts with
  | nil => exact hlo.fin
  | cons t r => exact h.head

theorem close_pos (e : String) (w : Tok) {ts : List Token} (h : TsOk P ts) : ROk P (fun r => TsOk P r) (close lo e w ts) := by
  cases ts with
  | nil => exact endErr_pos hlo e
  | cons t r =>
    simp only [close]
    split
    · exact h.tail
    · exact h.head

theorem nextInner_pos (e : String) {ts : List Token} (h : TsOk P ts) : ROk P (fun r => TsOk P r) (nextInner lo e ts) := by
  cases ts with
  | nil => exact endErr_pos hlo e
  | cons t r => exact h.tail

/-- at fuel `n`: on tokens whose positions satisfy `P` (and from an `expr_start` that does), each of the five expression
functions returns tokens whose positions satisfy `P`, or an error whose position does -/
def PosAt (P : Nat → Nat → Prop) (lo : LexOut) (n : Nat) : Prop :=
  (∀ ts, TsOk P ts → ROk P (fun p : Arg × List Token => TsOk P p.2) (unaryF lo n ts)) ∧
  (∀ g st ts, P st.1 st.2 → TsOk P ts → ROk P (fun p : Arg × List Token => TsOk P p.2) (binaryF lo n g st ts)) ∧
  (∀ g st lhs ts, P st.1 st.2 → TsOk P ts → ROk P (fun p : Arg × List Token => TsOk P p.2) (binLoopF lo n g st lhs ts)) ∧
  (∀ ts, TsOk P ts → ROk P (fun p : Args × List Token => TsOk P p.2) (argsF lo n ts)) ∧
  (∀ ts, TsOk P ts → ROk P (fun p : Args × List Token => TsOk P p.2) (argsLoopF lo n ts))

theorem posAt : ∀ n, PosAt P lo n := by
  intro n
  induction n with
  | zero =>
    refine ⟨fun ts _ => ?_, fun g st ts _ _ => ?_, fun g st lhs ts _ _ => ?_, fun ts _ => ?_, fun ts _ => ?_⟩ <;>
      simp [unaryF, binaryF, binLoopF, argsF, argsLoopF, ROk]
  | succ n ih =>
    obtain ⟨iu, ib, il, ia, ial⟩ := ih
    have hop : ∀ g st ts, P st.1 st.2 → TsOk P ts → ROk P (fun p : Arg × List Token => TsOk P p.2) (operandF lo n g st ts) := by
      intro g st ts hst hts
      unfold operandF
      split
      · exact iu ts hts
      · exact ib _ st ts hst hts
    refine ⟨fun ts hts => ?_, fun g st ts hst hts => ?_, fun g st lhs ts hst hts => ?_, fun ts hts => ?_, fun ts hts => ?_⟩
    · -- unaryF
      cases ts with
      | nil => simp only [unaryF]; exact endErr_pos hlo _
      | cons t r =>
        obtain ⟨F, ha, he⟩ := unaryF_arm lo t r
        rw [he]
        cases ha with
        | wrap f => exact (iu r hts.tail).bind fun p hp => hp
        | leaf a => exact hts.tail
        | expr e w k =>
          exact (ib _ _ r (exprStart_pos hlo hts.tail) hts.tail).bind fun p hp => (close_pos hlo _ _ hp).bind fun r3 h3 => h3
        | list e w k r1 hs =>
          exact (ia r1 (hts.tail.suffix hs)).bind fun p hp => (close_pos hlo _ _ hp).bind fun r3 h3 => h3
        | bad => exact hts.head
    · -- binaryF
      rw [binaryF_succ]
      exact (hop g st ts hst hts).bind fun p hp => il g st p.1 p.2 hst hp
    · -- binLoopF
      cases ts with
      | nil =>
        simp only [binLoopF]
        split
        · exact hts
        · exact hst
      | cons t r =>
        obtain ⟨F, ha, he⟩ := binLoopF_arm lo g st lhs t r
        rw [he]
        cases ha with
        | done _ => exact hts
        | noOp => exact hts.head
        | higher _ _ _ => trivial
        | same op => exact (hop g st r hst hts.tail).bind fun p hp => il g st _ p.2 hst hp
    · -- argsF
      cases ts with
      | nil =>
        simp only [argsF]
        split
        · exact hts
        · rename_i e he; exact hlo.err e he
      | cons t r =>
        simp only [argsF]
        split
        · exact hts
        · exact ial _ hts
    · -- argsLoopF
      simp only [argsLoopF]
      refine (ib _ _ ts (exprStart_pos hlo hts) hts).bind fun p hp => ?_
      split
      · split
        · exact hlo.fin
        · rename_i e he; exact hlo.err e he
      · rename_i t r1 hp2
        rw [hp2] at hp
        split
        · exact (ial r1 hp.tail).bind fun q hq => hq
        · split
          · rw [hp2]; exact hp
          · exact hp.head

theorem element_pos (first : Token) (r : List Token) (hf : P first.line first.col) (hr : TsOk P r) :
    ROk P (fun p : Element × List Token => P p.1.line p.1.col ∧ TsOk P p.2) (element lo first r) := by
  have ha : ∀ ts, TsOk P ts → ROk P (fun p : Args × List Token => TsOk P p.2) (args lo ts) := fun ts h => (posAt hlo _).2.2.2.1 ts h
  unfold element
  split
  · split
    · exact endErr_pos hlo _
    · split
      · exact (ha _ hr.tail).bind fun p hp => (nextInner_pos hlo _ hp).bind fun r3 h3 => ⟨hf, h3⟩
      · exact hr.head
  · split
    · split
      · exact hf
      · exact hlo.fin
    · split
      · exact ⟨hf, hr.tail⟩
      · exact (ha _ hr).bind fun p hp => (nextInner_pos hlo _ hp).bind fun r3 h3 => ⟨hf, h3⟩
  · exact hf

theorem all_pos {els : List Element} {err : Option ParseErr} (h : all lo = .done els err) :
    (∀ el ∈ els, P el.line el.col) ∧ ∀ e, err = some e → P e.line e.col := by
  obtain ⟨left, hs, hst⟩ := allLoop_segs h
  have segs_pos : ∀ {ts els left}, Segs lo ts els left → TsOk P ts → (∀ el ∈ els, P el.line el.col) ∧ TsOk P left := by
    intro ts els left hs
    induction hs with
    | nil ts => exact fun h => ⟨by simp, h⟩
    | cons t seg r' el els left he _ ih =>
      intro hts
      obtain ⟨hsuf, hl, hc, _⟩ := element_ok he
      obtain ⟨h1, h2⟩ := ih (hts.tail.suffix hsuf)
      refine ⟨fun x hx => ?_, h2⟩
      rcases List.mem_cons.mp hx with rfl | hx
      · rw [hl, hc]; exact hts.head
      · exact h1 x hx
  obtain ⟨hels, hleft⟩ := segs_pos hs hlo.toks
  refine ⟨hels, fun e he => ?_⟩
  subst he
  cases left with
  | nil =>
    cases hl : lo.err with
    | none => simp [Stops, hl] at hst
    | some le =>
      simp only [Stops, hl, Option.map_some, Option.some.injEq] at hst
      rw [hst]; exact hlo.err le hl
  | cons t r =>
    obtain ⟨e', he', h2⟩ := hst
    cases h2
    have := element_pos hlo t r hleft.head hleft.tail
    rwa [he'] at this

end Trion.Parse

namespace Trion.Lex
open Trion.Parse

theorem tokens_ge1 {bs : Bytes} {o : LexOut} (h : tokens bs = .ok o) : PosOk (fun l c => 1 ≤ l ∧ 1 ≤ c) o := by
  obtain ⟨hp, hend, herr⟩ := tokens_spec bs o h
  have herr' : ∀ e, o.err = some e → 1 ≤ e.line ∧ 1 ≤ e.col := by
    intro e he
    obtain ⟨_, pre, _, _, hpos⟩ := herr e he
    have := of_ge1 pre
    rw [← hpos] at this
    exact this
  refine ⟨?_, herr', ?_⟩
  · intro x hx
    obtain ⟨off, _, _, h4, _⟩ := hp.mem x hx
    have := of_ge1 ((State.new bs).data.take off)
    rw [← h4] at this
    exact this
  · cases he : o.err with
    | none =>
      have := of_ge1 (State.new bs).data
      rw [← (hend he).1] at this
      exact this
    | some e =>
      have := herr' e he
      have h2 := (herr e he).1
      simp only [Prod.mk.injEq] at h2
      rw [h2.1, h2.2]; exact this

end Trion.Lex

namespace Trion.Parse

theorem all_p1 {bs : Bytes} {lo : LexOut} (hl : Lex.tokens bs = .ok lo) {els : List Element} {err : Option ParseErr}
    (h : all lo = .done els err) : (∀ el ∈ els, 1 ≤ el.line ∧ 1 ≤ el.col) ∧ (∀ e, err = some e → 1 ≤ e.line ∧ 1 ≤ e.col) :=
  all_pos (Lex.tokens_ge1 hl) h

end Trion.Parse
