import TrionModel.Lemmas.LexStep
/-!
# The string scanner as equations: one stop byte (`strLoop_step`, `strLoop_eof`) and one escape (`strEscape_*`) at a time,
on a given decomposition of the text
-/
namespace Trion.Lex
open Trion.Pos (isCont adv)

theorem isStrStop_ascii {b : UInt8} (h : isStrStop b = true) : b.toNat < 128 := by
  simp [isStrStop] at h
  omega

theorem getElem?_append_length (a : Bytes) (b : UInt8) (r : Bytes) : (a ++ b :: r)[a.length]? = some b := by
  simp

theorem getElem?_append_length_add (a r : Bytes) (i : Nat) : (a ++ r)[a.length + i]? = r[i]? := by
  rw [List.getElem?_append_right (by omega)]
  congr 1; omega
theorem strLoop_eof (pre raw : Bytes) (esc : Bytes) (f : Nat)
    (hraw : ∀ b ∈ raw, isStrStop b = false) (hh : ∀ b, raw.head? = some b → isCont b = false) :
    strLoop (pre ++ raw) (f + 1) pre.length esc = .eof := by
  rw [strLoop, sliceFrom_split pre raw hh]
  simp only
  rw [position_none_of_all raw hraw]

theorem strLoop_step (pre raw : Bytes) (cb : UInt8) (post : Bytes) (esc : Bytes) (f : Nat)
    (hraw : ∀ b ∈ raw, isStrStop b = false) (hcb : isStrStop cb = true)
    (hh : ∀ b, (raw ++ cb :: post).head? = some b → isCont b = false) :
    strLoop (pre ++ raw ++ cb :: post) (f + 1) pre.length esc =
      if cb.toNat < 32 ∨ cb.toNat ≥ 127 then .bad
      else if cb.toNat = 92 then
        (if post.length < 2 then .bad
         else match strEscape (pre ++ raw ++ cb :: post) (pre.length + raw.length) (esc ++ raw) with
          | .next p e => strLoop (pre ++ raw ++ cb :: post) f p e
          | .bad => .bad
          | .eof => .eof
          | .panic => .panic)
      else .ok (pre.length + raw.length + 1) (if esc = [] then [] else esc ++ raw) := by
  have hcba := isStrStop_ascii hcb
  have hcbnc : isCont cb = false := by rw [isCont_false_iff]; omega
  rw [strLoop]
  have hsl : sliceFrom (pre ++ raw ++ cb :: post) pre.length = some (raw ++ cb :: post) := by
    rw [List.append_assoc]; exact sliceFrom_split pre _ hh
  rw [hsl]
  simp only
  rw [position_append_of_all raw cb post hraw hcb]
  simp only
  have hidx : (pre ++ raw ++ cb :: post)[pre.length + raw.length]? = some cb := by
    rw [← List.length_append]; exact getElem?_append_length _ _ _
  rw [hidx]
  simp only
  have hpush : ∀ e : Bytes, pushSlice (pre ++ raw ++ cb :: post) e pre.length (pre.length + raw.length) = some (e ++ raw) := by
    intro e
    unfold pushSlice
    rw [slice_split pre raw (cb :: post) hh (by intro b hb; simp at hb; subst hb; exact hcbnc)]
  by_cases hbad : cb.toNat < 32 ∨ cb.toNat ≥ 127
  · have : (decide (cb.toNat < 32) || decide (cb.toNat ≥ 127)) = true := by simpa using hbad
    rw [if_pos this, if_pos hbad]
  · have : ¬ (decide (cb.toNat < 32) || decide (cb.toNat ≥ 127)) = true := by simpa using hbad
    rw [if_neg this, if_neg hbad]
    by_cases h92 : cb.toNat = 92
    · have : (cb.toNat == 92) = true := by simpa using h92
      rw [if_pos this, if_pos h92]
      have hesc : (if raw.length > 0 then pushSlice (pre ++ raw ++ cb :: post) esc pre.length (pre.length + raw.length)
          else some esc) = some (esc ++ raw) := by
        split
        · exact hpush esc
        · have : raw = [] := List.eq_nil_of_length_eq_zero (by omega)
          simp [this]
      rw [hesc]
      simp only
      have hlen : (pre ++ raw ++ cb :: post).length = pre.length + raw.length + 1 + post.length := by simp; omega
      rw [if_neg (by omega)]
      by_cases hp : post.length < 2
      · rw [if_pos (by omega), if_pos hp]
      · rw [if_neg (by omega), if_neg hp]
        cases strEscape (pre ++ raw ++ cb :: post) (pre.length + raw.length) (esc ++ raw) <;> rfl
    · have : ¬ (cb.toNat == 92) = true := by simpa using h92
      rw [if_neg this, if_neg h92]
      have hc34 : cb.toNat = 34 := by
        simp [isStrStop] at hcb
        omega
      have : (cb.toNat != 34) = false := by simp [hc34]
      simp only [this, Bool.false_eq_true, if_false]
      have hesc : (if (!esc.isEmpty && decide (raw.length > 0)) = true
          then pushSlice (pre ++ raw ++ cb :: post) esc pre.length (pre.length + raw.length) else some esc) =
          some (if esc = [] then [] else esc ++ raw) := by
        by_cases he : esc = []
        · subst he; simp
        · by_cases hr : raw.length > 0
          · have : (!esc.isEmpty && decide (raw.length > 0)) = true := by simp [he, hr]
            rw [if_pos this, hpush, if_neg he]
          · have hr0 : raw = [] := List.eq_nil_of_length_eq_zero (by omega)
            subst hr0
            simp [he]
      rw [hesc]

/-- the character a one-letter escape denotes in a string: `\0 \t \n \r \" \' \\` (a character literal has the same escapes
without `\0`: `charEsc`, Lemmas/LexLayoutDef.lean) -/
def escValue (e : Nat) : Option Nat :=
  if e = 48 then some 0 else if e = 116 then some 9 else if e = 110 then some 10 else if e = 114 then some 13
  else if e = 34 ∨ e = 39 ∨ e = 92 then some e else none

theorem strEscape_simple (a : Bytes) (cb eb : UInt8) (more esc1 : Bytes) (v : Nat) (hv : escValue eb.toNat = some v) :
    strEscape (a ++ cb :: eb :: more) a.length esc1 = .next (a.length + 2) (esc1 ++ encodeChar v) := by
  have e1 : (a ++ cb :: eb :: more)[a.length + 1]? = some eb := by
    rw [getElem?_append_length_add]; rfl
  unfold strEscape
  rw [e1]
  simp only
  unfold escValue at hv
  split at hv
  · rename_i h; cases hv; simp [h]; rfl
  · split at hv
    · rename_i h0 h; cases hv; simp [h]; rfl
    · split at hv
      · rename_i h0 h1 h; cases hv; simp [h]; rfl
      · split at hv
        · rename_i h0 h1 h2 h; cases hv; simp [h]; rfl
        · split at hv
          · rename_i h0 h1 h2 h3 h
            cases hv
            have hlt : eb.toNat < 128 := by omega
            have : (eb.toNat == 34 || eb.toNat == 39 || eb.toNat == 92) = true := by simp; omega
            simp only [beq_iff_eq, h0, h1, h2, h3, if_false, this, if_true]
            rw [encodeChar_ascii _ hlt, toUInt8_toNat]
          · cases hv

theorem strEscape_unknown (a : Bytes) (cb eb : UInt8) (more esc1 : Bytes) (hv : escValue eb.toNat = none)
    (hu : eb.toNat ≠ 117) : strEscape (a ++ cb :: eb :: more) a.length esc1 = .bad := by
  have e1 : (a ++ cb :: eb :: more)[a.length + 1]? = some eb := by
    rw [getElem?_append_length_add]; rfl
  unfold strEscape
  rw [e1]
  simp only
  unfold escValue at hv
  split at hv
  · cases hv
  · split at hv
    · cases hv
    · split at hv
      · cases hv
      · split at hv
        · cases hv
        · split at hv
          · cases hv
          · rename_i h0 h1 h2 h3 h4
            have : (eb.toNat == 34 || eb.toNat == 39 || eb.toNat == 92) = false := by simp; omega
            simp only [beq_iff_eq, h0, h1, h2, h3, hu, if_false, this, Bool.false_eq_true]

theorem strEscape_nobrace (a : Bytes) (cb eb gb : UInt8) (more esc1 : Bytes) (hu : eb.toNat = 117)
    (hg : gb.toNat ≠ 123) : strEscape (a ++ cb :: eb :: gb :: more) a.length esc1 = .bad := by
  have e1 : (a ++ cb :: eb :: gb :: more)[a.length + 1]? = some eb := by
    rw [getElem?_append_length_add]; rfl
  have e2 : (a ++ cb :: eb :: gb :: more)[a.length + 2]? = some gb := by
    rw [getElem?_append_length_add]; rfl
  unfold strEscape
  rw [e1]
  simp only [hu]
  rw [e2]
  simp [hg]

theorem position_take {p : UInt8 → Bool} : ∀ (l : Bytes) (i k : Nat), position p l = some i → i < k →
    position p (l.take k) = some i := by
  intro l
  induction l with
  | nil => intro i k h; simp [position] at h
  | cons b l ih =>
    intro i k h hk
    cases k with
    | zero => omega
    | succ k =>
      simp only [List.take_succ_cons, position] at h ⊢
      by_cases hb : p b = true
      · simpa [hb] using h
      · simp only [hb, Bool.false_eq_true, if_false] at h ⊢
        cases hp : position p l with
        | none => simp [hp] at h
        | some j =>
          simp only [hp, Option.some.injEq] at h
          subst h
          rw [ih j k hp (by omega)]

section uni
variable (a : Bytes) (cb eb gb : UInt8) (r3 esc1 : Bytes)

theorem strEscape_uni_eof (hu : eb.toNat = 117) (hg : gb.toNat = 123) (hr : Utf8 r3)
    (hno : ∀ b ∈ r3.take 7, b.toNat ≠ 125) :
    strEscape (a ++ cb :: eb :: gb :: r3) a.length esc1 = .eof := by
  have e1 : (a ++ cb :: eb :: gb :: r3)[a.length + 1]? = some eb := by
    rw [getElem?_append_length_add]; rfl
  have e2 : (a ++ cb :: eb :: gb :: r3)[a.length + 2]? = some gb := by
    rw [getElem?_append_length_add]; rfl
  have hsl : sliceFrom (a ++ cb :: eb :: gb :: r3) (a.length + 3) = some r3 := by
    have := sliceFrom_split (a ++ [cb, eb, gb]) r3 (utf8_head? hr)
    simpa using this
  unfold strEscape
  rw [e1]
  simp only [hu]
  rw [e2]
  simp only [hg]
  rw [hsl]
  simp only
  rw [position_none_of_all (r3.take 7) (by intro b hb; simpa using hno b hb)]
  simp

/-- `\u{text}` with the closing brace among the first seven bytes: what the escape yields is decided by
`u32::from_str_radix(text, 16)`, the `+` filter and `char::from_u32` -/
theorem strEscape_uni (text : Bytes) (cl : UInt8) (more : Bytes)
    (hu : eb.toNat = 117) (hg : gb.toNat = 123) (hr3 : r3 = text ++ cl :: more) (hr : Utf8 r3)
    (hcl : cl.toNat = 125) (hno : ∀ b ∈ text, b.toNat ≠ 125) (hlen : text.length ≤ 6) :
    strEscape (a ++ cb :: eb :: gb :: r3) a.length esc1 =
      match u32FromHex text with
      | none => .bad
      | some v => if text.head? = some 43 then .bad
                  else if isScalar v then .next (a.length + 4 + text.length) (esc1 ++ encodeChar v) else .bad := by
  have e1 : (a ++ cb :: eb :: gb :: r3)[a.length + 1]? = some eb := by
    rw [getElem?_append_length_add]; rfl
  have e2 : (a ++ cb :: eb :: gb :: r3)[a.length + 2]? = some gb := by
    rw [getElem?_append_length_add]; rfl
  have hsl : sliceFrom (a ++ cb :: eb :: gb :: r3) (a.length + 3) = some r3 := by
    have := sliceFrom_split (a ++ [cb, eb, gb]) r3 (utf8_head? hr)
    simpa using this
  have hclnc : isCont cl = false := by rw [isCont_false_iff]; omega
  have hpos : position (fun b => b.toNat == 125) (r3.take 7) = some text.length := by
    apply position_take _ _ _ _ (by omega)
    rw [hr3]
    exact position_append_of_all text cl more (by intro x hx; simpa using hno x hx) (by simpa using hcl)
  have hsl2 : slice (a ++ cb :: eb :: gb :: r3) (a.length + 3) (a.length + 3 + text.length) = some text := by
    have := slice_split (a ++ [cb, eb, gb]) text (cl :: more) (by rw [← hr3]; exact utf8_head? hr)
      (by intro b hb; simp at hb; subst hb; exact hclnc)
    rw [hr3]
    simpa using this
  have e3 : (a ++ cb :: eb :: gb :: r3)[a.length + 3]? = r3.head? := by
    have := getElem?_append_length_add (a ++ [cb, eb, gb]) r3 0
    simp at this
    rw [List.head?_eq_getElem?]
    simpa using this
  unfold strEscape
  rw [e1]
  simp only [hu]
  rw [e2]
  simp only [hg]
  rw [hsl]
  simp only
  rw [hpos]
  simp only
  rw [hsl2]
  simp only
  cases hx : u32FromHex text with
  | none => rfl
  | some v =>
    simp only
    rw [e3, hr3]
    cases text with
    | nil => simp [u32FromHex] at hx
    | cons t0 tt =>
      simp only [List.cons_append, List.head?_cons, Option.some.injEq]
      by_cases h43 : t0 = 43
      · subst h43; simp
      · have : ¬ t0.toNat = 43 := by
          intro h; apply h43; exact UInt8.toNat_inj.mp (by simpa using h)
        have harith : a.length + (t0 :: tt).length + 2 + 2 = a.length + 4 + (t0 :: tt).length := by omega
        rw [harith]
        by_cases hs : isScalar v = true <;> simp [this, h43, hs]

end uni

theorem escValue_ascii {e v : Nat} (h : escValue e = some v) : e < 128 ∧ e ≠ 10 ∧ v < 128 := by
  unfold escValue at h
  split at h
  · cases h; omega
  · split at h
    · cases h; omega
    · split at h
      · cases h; omega
      · split at h
        · cases h; omega
        · split at h
          · cases h; omega
          · cases h

end Trion.Lex
