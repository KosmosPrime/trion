import TrionModel.Lemmas.ShowParts
import TrionModel.Lemmas.ParseStmt
import TrionModel.Model.Asm
/-!
# Reading rendered statements back: text → statements

`ReadsAs` is closed under white space and concatenation, so a program text is read statement by statement: the
one-statement programs (`Lemmas/ShowProg.lean`, `Props/C04Text.lean`, `Props/C04Layout.lean`) and the listing
(`Lemmas/TridasText.lean`).
-/
namespace Trion.Show
open Trion.Lex

theorem dir_wf (p : Bytes × List Arg) (hn : identOk p.1 = true) (h : ∀ x ∈ p.2, Opnd x) :
    (ElemVal.directive p.1 (Args.ofList p.2)).wf := stmt_wf p hn h

/-- `text`, in front of the byte `nx`, reads as the well-formed statements `vals` -/
def ReadsAs (text : Bytes) (nx : Option UInt8) (vals : List ElemVal) : Prop :=
  Reads text nx (vals.map Render.elemVal).flatten ∧ ∀ ev ∈ vals, ev.wf

theorem ReadsAs.nil (nx : Option UInt8) : ReadsAs [] nx [] := ⟨Reads.nil nx, by simp⟩

theorem ReadsAs.one {ps : List Piece} {nx : Option UInt8} {text : Bytes} {ev : ElemVal}
    (h : Cuts ps nx text (Render.elemVal ev)) (hwf : ev.wf) : ReadsAs text nx [ev] :=
  ⟨⟨ps, by simpa using h⟩, by simpa using hwf⟩

theorem ReadsAs.ws {text : Bytes} {nx : Option UInt8} {vals : List ElemVal} (h : ReadsAs text nx vals) (w : Bytes)
    (hw : ∀ x ∈ w, isSpace x = true) : ReadsAs (w ++ text) nx vals :=
  ⟨h.1.ws w hw, h.2⟩

theorem ReadsAs.append {ta tb : Bytes} {nx : Option UInt8} {va vb : List ElemVal}
    (ha : ReadsAs ta (firstOr tb nx) va) (hb : ReadsAs tb nx vb) : ReadsAs (ta ++ tb) nx (va ++ vb) := by
  refine ⟨by simpa using ha.1.append hb.1, ?_⟩
  intro ev hev
  rcases List.mem_append.mp hev with h | h
  · exact ha.2 ev h
  · exact hb.2 ev h

theorem ReadsAs.parseFile {text : Bytes} {vals : List ElemVal} (h : ReadsAs text none vals) :
    ∃ els, Asm.parseFile text = .ok (els, none) ∧ els.map (·.val) = vals := by
  obtain ⟨ts, hlex, hts⟩ := h.1.tokens
  obtain ⟨els, hall, hels⟩ := Parse.all_of_vals vals h.2 ts hts (Pos.adv (1, 1) text).1 (Pos.adv (1, 1) text).2
  exact ⟨els, by simp [Asm.parseFile, hlex, hall], hels⟩

theorem readsAs_stmt (p : Bytes × List Arg) (hn : identOk p.1 = true) (h : ∀ x ∈ p.2, Opnd x) (nx : Option UInt8) :
    ReadsAs (render p) nx [.instruction p.1 (Args.ofList p.2)] :=
  .one (cuts_stmt p hn h nx) (stmt_wf p hn h)

/-- `.NAME a, b;` -/
theorem readsAs_dir (p : Bytes × List Arg) (hn : identOk p.1 = true) (h : ∀ x ∈ p.2, Opnd x) (nx : Option UInt8) :
    ReadsAs (bytesOf "." ++ render p) nx [.directive p.1 (Args.ofList p.2)] :=
  .one ((cuts_stmt p hn h nx).tok (TokOk.punct 46 .dirMark _ (by decide) (by decide))) (dir_wf p hn h)

/-- the lines `.NAME a, b;⏎` of a list of directives, in front of `rest` -/
theorem reads_flat (l : List (Bytes × List Arg)) (h : ∀ p ∈ l, identOk p.1 = true ∧ ∀ x ∈ p.2, Opnd x)
    {rest : Bytes} {nx : Option UInt8} {vals : List Tok} (hr : Reads rest nx vals) :
    Reads ((l.map fun p => bytesOf "." ++ render p ++ [10]).flatten ++ rest) nx
      ((l.map fun p => Render.elemVal (.directive p.1 (Args.ofList p.2))).flatten ++ vals) := by
  induction l with
  | nil => simpa using hr
  | cons p l ih =>
    have hp := h p (by simp)
    have := (readsAs_dir p hp.1 hp.2 (some 10)).1.append ((ih (fun q hq => h q (by simp [hq]))).ws [10] (by decide))
    simpa [List.append_assoc] using this

end Trion.Show
