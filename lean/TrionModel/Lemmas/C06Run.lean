import TrionModel.Lemmas.AsmWithin
import TrionModel.Props.C06Asm  -- for `run_cases`, `run_no_panic`, `run_no_loop`
/-!
# C06: a statement of a file, and what the rest of the run adds to what it recorded

The vocabulary of the C06 statements stands first.  SETTING: `Reaches` — in a file read at any include depth, the statement
`el` is reached in the state `S` after statements `pre` that returned `Ok`; for the main file `PrefixOk` (its `run` field),
`AtAny` (+ the file), `At` (+ `S` quiet: nothing recorded, nothing queued), `AtLast` (+ `el` is the last statement).
CONCLUSION: `ReportedK` — every finished run is no success and has a diagnostic at `el` with a kind in `K`; `ReportedIn` is it
without the kind; `Reported` ("exactly this one") and `ReportedAt` ("every diagnostic at `el`") are its two strengthenings,
and they also say that the run IS finished (`∃ o`), which follows once `el` has returned and nothing that could spend the
include depth follows (`run_done_at`).

Then the body of a file is opened at `el`, as an equation (`Reaches.body`), and the rule of Lemmas/AsmWithin.lean says what
the rest of the run adds to what `el` recorded: how the lemmas hang together is DESIGN.md §16.  (Namespaces: `PrefixOk`, `QuietSt`, `init2` are `Trion.C04.*`, the predicates of the C06 statements and
`stateAt` `Trion.C06.*`; the lemmas here are in `Trion.C04`.)
-/
namespace Trion.C04
open Trion Trion.Asm

theorem leaveFile_gt (st : Asm.St) : (Asm.leaveFile none none st).globalTasks = st.globalTasks :=
  (Asm.leaveFile_queues none st).1.2
theorem leaveFile_lt (st : Asm.St) : (Asm.leaveFile none none st).localTasks = none := (Asm.leaveFile_queues none st).1.1

def PrefixOk (fs : Bytes → Option Bytes) (main : Bytes) (pre : List Element) (S : Asm.St) : Prop :=
  ∀ (rest : List Element) (perr : Option ParseErr),
    Asm.doAssemble fs Asm.encoder (Asm.assembleFile fs Asm.encoder (Asm.maxDepth - 1)) ⟨[main], main⟩ (pre ++ rest) perr init2 =
    Asm.doAssemble fs Asm.encoder (Asm.assembleFile fs Asm.encoder (Asm.maxDepth - 1)) ⟨[main], main⟩ rest perr S

def QuietSt (S : Asm.St) : Prop := S.errors = [] ∧ S.globalTasks = [] ∧ S.localTasks = some []

theorem prefixOk_nil (fs : Bytes → Option Bytes) (main : Bytes) : PrefixOk fs main [] init2 := fun _ _ => rfl

theorem PrefixOk.run {fs : Bytes → Option Bytes} {main : Bytes} {pre : List Element} {S : Asm.St} (h : PrefixOk fs main pre S) :
    Asm.doAssemble fs Asm.encoder (Asm.assembleFile fs Asm.encoder (Asm.maxDepth - 1)) ⟨[main], main⟩ pre none init2 =
      .ok (S, .ok) := by
  simpa [Asm.doAssemble] using h [] none
theorem quiet_init2 : QuietSt init2 := ⟨rfl, rfl, rfl⟩

end Trion.C04

namespace Trion.C06
open Trion Trion.C04

abbrev envOf (main : Bytes) : Asm.Env := ⟨[main], main⟩
abbrev incOf (fs : Bytes → Option Bytes) : Asm.Inc := Asm.assembleFile fs Asm.encoder (Asm.maxDepth - 1)

def AtAny (fs : Bytes → Option Bytes) (main : Bytes) (el : Element) (S : Asm.St) : Prop :=
  ∃ data els perr pre post, fs main = some data ∧ Asm.parseFile data = .ok (els, perr) ∧ els = pre ++ el :: post ∧
    PrefixOk fs main pre S

def At (fs : Bytes → Option Bytes) (main : Bytes) (el : Element) (S : Asm.St) : Prop :=
  ∃ data els perr pre post, fs main = some data ∧ Asm.parseFile data = .ok (els, perr) ∧ els = pre ++ el :: post ∧
    PrefixOk fs main pre S ∧ QuietSt S

def AtLast (fs : Bytes → Option Bytes) (main : Bytes) (el : Element) (S : Asm.St) : Prop :=
  ∃ data pre, fs main = some data ∧ Asm.parseFile data = .ok (pre ++ [el], none) ∧ PrefixOk fs main pre S ∧ QuietSt S

def ReportedK (fs : Bytes → Option Bytes) (main : Bytes) (el : Element) (K : Asm.Kind → Prop) : Prop :=
  ∀ o, Asm.run fs main = .done o →
    o.success = false ∧ ∃ d ∈ o.diags, d.file = main ∧ d.line = el.line ∧ d.col = el.col ∧ K d.kind

def ReportedIn (fs : Bytes → Option Bytes) (main : Bytes) (el : Element) : Prop :=
  ∀ o, Asm.run fs main = .done o →
    o.success = false ∧ ∃ d ∈ o.diags, d.file = main ∧ d.line = el.line ∧ d.col = el.col

def Reported (fs : Bytes → Option Bytes) (main : Bytes) (el : Element) (k : Asm.Kind) : Prop :=
  ∃ o, Asm.run fs main = .done o ∧ o.success = false ∧ o.diags = [⟨main, el.line, el.col, k⟩]

def ReportedAt (fs : Bytes → Option Bytes) (main : Bytes) (el : Element) : Prop :=
  ∃ o, Asm.run fs main = .done o ∧ o.success = false ∧ o.diags ≠ [] ∧
    ∀ d ∈ o.diags, d.file = main ∧ d.line = el.line ∧ d.col = el.col

end Trion.C06

namespace Trion.C04
open Trion Trion.Asm
open Trion.C06 (envOf incOf)

/-- **the setting, at any include depth**: the file `data`, read at include level `fuel` in the environment `env` and
entered with `st`, parses to `pre ++ el :: post` (then `perr`); the statements `pre` return `Ok` and lead from `st` to `S`,
where `el` is reached -/
structure Reaches (fs : Bytes → Option Bytes) (fuel : Nat) (env : Env) (data : Bytes) (st : St) (pre : List Element)
    (el : Element) (post : List Element) (perr : Option ParseErr) (S : St) : Prop where
  parse : parseFile data = .ok (pre ++ el :: post, perr)
  run : ∀ rest perr', doAssemble fs encoder (assembleFile fs encoder fuel) env (pre ++ rest) perr' st =
    doAssemble fs encoder (assembleFile fs encoder fuel) env rest perr' S

/-- `AtAny` (and with it `At`) is `Reaches` for the main file -/
theorem _root_.Trion.C06.AtAny.reaches {fs : Bytes → Option Bytes} {main : Bytes} {el : Element} {S : St}
    (h : C06.AtAny fs main el S) : ∃ data pre post perr, fs main = some data ∧
      Reaches fs (maxDepth - 1) (envOf main) data init2 pre el post perr S := by
  obtain ⟨data, els, perr, pre, post, hfs, hp, rfl, hpre⟩ := h
  exact ⟨data, pre, post, perr, hfs, hp, hpre⟩

/-- "every diagnostic at `el`" from the lemmas that also give its kind class -/
theorem _root_.Trion.C06.ReportedAt.of_kind {fs : Bytes → Option Bytes} {main : Bytes} {el : Element} {K : Diag → Prop}
    (h : ∃ o, run fs main = .done o ∧ o.success = false ∧ o.diags ≠ [] ∧
      ∀ d ∈ o.diags, (d.file = main ∧ d.line = el.line ∧ d.col = el.col) ∧ K d) : C06.ReportedAt fs main el :=
  have ⟨o, h1, h2, h3, h4⟩ := h
  ⟨o, h1, h2, h3, fun d m => (h4 d m).1⟩

theorem _root_.Trion.C06.AtLast.reaches {fs : Bytes → Option Bytes} {main : Bytes} {el : Element} {S : St}
    (h : C06.AtLast fs main el S) : ∃ data pre, fs main = some data ∧
      Reaches fs (maxDepth - 1) (envOf main) data init2 pre el [] none S ∧ QuietSt S := by
  obtain ⟨data, pre, hfs, hp, hpre, hq⟩ := h
  exact ⟨data, pre, hfs, ⟨hp, hpre⟩, hq⟩

section
variable {fs : Bytes → Option Bytes} {main data : Bytes}

theorem bodyLoop_keeps {env : Env} {st3 st4 : St} {res r4 : Res} (h : bodyLoop encoder env st3 res = .ok (st4, r4)) :
    Keeps st3 st4 ∧ (res.isErr = true → r4.isErr = true) := by
  rcases bodyLoop_ok h with ⟨_, rfl, rfl⟩ | ⟨_, tasks, _, hl⟩
  · exact ⟨.refl _, id⟩
  · obtain ⟨e, w, he⟩ := localLoop_logs hl
    exact ⟨(w.congr rfl rfl).keeps, fun h => by rw [he, h]; rfl⟩

/-- the loop reports within the sites of the tasks the file has queued, and hands up tasks within them -/
theorem bodyLoop_within {A : Sites} {env : Env} {st3 st4 : St} {res r4 : Res} (q : QWithin A (some env.curName) none st3)
    (h : bodyLoop encoder env st3 res = .ok (st4, r4)) :
    Logs (Diag.within A) false st3 st4 ∧ ∀ t ∈ st4.globalTasks, t.within A none := by
  rcases bodyLoop_ok h with ⟨_, rfl, _⟩ | ⟨_, tasks, ht, hl⟩
  · exact ⟨.refl _ _, q.gt⟩
  · obtain ⟨q', _, e, _⟩ := localLoop_within (q.lt tasks ht) q.clearLocal hl
    exact ⟨(e.congr rfl rfl).weaken Bool.noConfusion, q'.gt⟩

theorem bodyLoop_nf (env : Env) (st3 : St) (res : Res) : NF (bodyLoop encoder env st3 res) := by
  unfold bodyLoop
  split
  · exact nf_ok _
  · unfold fileLoop
    split
    · exact nf_panic
    · exact localLoop_nf _ _ _ _ _ _

section
variable {fuel : Nat} {env : Env} {st : St} {pre post : List Element} {perr : Option ParseErr} {el : Element} {S : St}

/-- **a file opened at one statement**: `el`, then (if it returned `Ok`) the statements after it, then the file's task loop -/
theorem Reaches.body (h : Reaches fs fuel env data st pre el post perr S) :
    fileBody fs encoder (assembleFile fs encoder fuel) env data st =
      match statement fs encoder (assembleFile fs encoder fuel) env S el with
      | .ok (S1, .ok) =>
        match doAssemble fs encoder (assembleFile fs encoder fuel) env post perr S1 with
        | .ok (st3, res) => bodyLoop encoder env st3 res
        | .stop z => .stop z
      | .ok (S1, .err l) => bodyLoop encoder env S1 (.err l)
      | .stop z => .stop z := by
  rw [fileBody_of_parse fs encoder _ env data st _ perr h.parse, h.run]
  simp only [doAssemble]
  rcases statement fs encoder (assembleFile fs encoder fuel) env S el with ⟨S1, _ | l⟩ | z <;> rfl

/-- no statement runs after `el`: it returned an error result, or it is the last one -/
theorem Reaches.body_last (h : Reaches fs fuel env data st pre el post perr S) {S1 : St} {r1 : Res}
    (hX : statement fs encoder (assembleFile fs encoder fuel) env S el = .ok (S1, r1))
    (hlast : r1 = .ok → post = [] ∧ perr = none) :
    fileBody fs encoder (assembleFile fs encoder fuel) env data st = bodyLoop encoder env S1 r1 := by
  rw [h.body, hX]
  cases r1 with
  | err l => rfl
  | ok => obtain ⟨rfl, rfl⟩ := hlast rfl; rfl

/-- **followed by anything, in any file**: what `el` recorded is still there when the body of its file ends, and if it
returned an error result so does the body (so an includer reports `IncludeFailed`) -/
theorem fileBody_through (h : Reaches fs fuel env data st pre el post perr S) {st4 : St} {r4 : Res}
    (hB : fileBody fs encoder (assembleFile fs encoder fuel) env data st = .ok (st4, r4)) :
    ∃ S1 r1, statement fs encoder (assembleFile fs encoder fuel) env S el = .ok (S1, r1) ∧ Keeps S1 st4 ∧
      (r1.isErr = true → r4.isErr = true) := by
  rw [h.body] at hB
  cases hX : statement fs encoder (assembleFile fs encoder fuel) env S el with
  | stop z => rw [hX] at hB; cases hB
  | ok p =>
    obtain ⟨S1, r1⟩ := p
    rw [hX] at hB
    refine ⟨S1, r1, rfl, ?_⟩
    cases r1 with
    | err l => exact bodyLoop_keeps hB
    | ok =>
      simp only at hB
      cases hD : doAssemble fs encoder (assembleFile fs encoder fuel) env post perr S1 with
      | stop z => rw [hD] at hB; cases hB
      | ok p =>
        rw [hD] at hB
        exact ⟨(doAssemble_logs (assembleFile_grew fs encoder fuel) hD).keeps.trans (bodyLoop_keeps hB).1, nofun⟩

end

/-- **the run and the body of the main file**: the run is finished exactly if the body returns (the include depth is not
spent after that), and a body that stops has spent the include depth (`run` neither panics nor loops) -/
theorem run_of_body (hfs : fs main = some data) :
    (∃ o st4 r4, run fs main = .done o ∧ fileBody fs encoder (incOf fs) (envOf main) data init2 = .ok (st4, r4) ∧
      assembleFile fs encoder maxDepth Env.init St.init data main = .ok (leaveFile none none st4, r4)) ∨
    (run fs main = .fuel ∧ fileBody fs encoder (incOf fs) (envOf main) data init2 = .stop .fuel) := by
  have hA : assembleFile fs encoder maxDepth Env.init St.init data main =
      match fileBody fs encoder (incOf fs) (envOf main) data init2 with
      | .ok (st4, r) => .ok (leaveFile none none st4, r)
      | .stop s => .stop s := assembleFile_main_eq fs encoder data main
  rcases run_cases fs main with ⟨o, ho⟩ | h | h
  · obtain ⟨data', st, res, hfs', ha, _⟩ := runWith_done ho
    cases hfs.symm.trans hfs'
    cases hB : fileBody fs encoder (incOf fs) (envOf main) data init2 with
    | ok p => rw [hB] at hA; exact .inl ⟨o, p.1, p.2, ho, rfl, hA⟩
    | stop s => rw [hB, ha] at hA; cases hA
  · rw [runWith_noMain h] at hfs; cases hfs
  · obtain ⟨data', hfs', ha | ⟨st, res, _, ⟨_, hz⟩ | hf⟩⟩ := runWith_stop (z := .fuel) h
    · cases hfs.symm.trans hfs'
      cases hB : fileBody fs encoder (incOf fs) (envOf main) data init2 with
      | ok p => rw [hB, ha] at hA; cases hA
      | stop s => rw [hB, ha] at hA; cases hA; exact .inr ⟨h, rfl⟩
    · cases hz
    · exact absurd hf (finalize_nf _ _ _)

/-- from the end of the main file's body to the outcome: `close_segment`, `finalize` -/
theorem run_from_body (hfs : fs main = some data) {o : Outcome} (ho : run fs main = .done o) :
    ∃ st4 r4 stF, fileBody fs encoder (incOf fs) (envOf main) data init2 = .ok (st4, r4) ∧
      o.diags = stF.errors.reverse ∧ (o.success = true → stF.errors = []) ∧
      ∀ A : Sites, (∀ t ∈ st4.globalTasks, t.within A none) → Logs (Diag.within A) false st4 stF := by
  obtain ⟨data', st, res, stF, hdata, ha, _, hd, hs, ht⟩ := runWith_tail ho
  cases hfs.symm.trans hdata
  rcases run_of_body hfs with ⟨_, st4, r4, _, hB, hA⟩ | ⟨h, _⟩
  · cases hA.symm.trans ha
    exact ⟨st4, _, stF, hB, hd, fun h => (hs.mp h).2,
      fun A hg => (ht A none (fun _ e => nomatch e)
        ⟨leaveFile_gt st4 ▸ hg, fun q hq => nomatch (leaveFile_lt st4 ▸ hq)⟩).congr rfl rfl⟩
  · rw [h] at ho; cases ho

/-- `run_keeps` (Lemmas/AsmWithin.lean) read at the end of the main file's body -/
theorem run_of_mainBody (hfs : fs main = some data) {o : Outcome} (ho : run fs main = .done o) :
    ∃ st4 r4, fileBody fs encoder (incOf fs) (envOf main) data init2 = .ok (st4, r4) ∧
      (∀ d ∈ st4.errors, d ∈ o.diags) ∧ (st4.errors ≠ [] → o.success = false) := by
  rcases run_of_body hfs with ⟨_, st4, r4, _, hB, hA⟩ | ⟨h, _⟩
  · have hk := run_keeps fs main o ho data hfs _ _ hA
    rw [leaveFile_errs] at hk
    exact ⟨st4, r4, hB, hk⟩
  · rw [h] at ho; cases ho

/-- **followed by anything, main file**: a diagnostic `el` records is in the outcome of every finished run, which is then
no success; `P` says of it what is wanted (position, kind) -/
theorem run_stmt_reportedP {pre post : List Element} {perr : Option ParseErr} {el : Element} {S : St}
    (hfs : fs main = some data) (h : Reaches fs (maxDepth - 1) (envOf main) data init2 pre el post perr S) {P : Diag → Prop}
    (hK : ∀ S1 r1, statement fs encoder (incOf fs) (envOf main) S el = .ok (S1, r1) →
      ∃ d ∈ S1.errors, P d) :
    ∀ o, run fs main = .done o → o.success = false ∧ ∃ d ∈ o.diags, P d := by
  intro o ho
  obtain ⟨st4, r4, hB, hmem, hsucc⟩ := run_of_mainBody hfs ho
  obtain ⟨S1, r1, hX, hkeep, _⟩ := fileBody_through h hB
  obtain ⟨d, hm, hP⟩ := hK S1 r1 hX
  exact ⟨hsucc (List.ne_nil_of_mem (hkeep d hm)), d, hmem d (hkeep d hm), hP⟩

section
variable {pre post : List Element} {perr : Option ParseErr} {el : Element} {S S1 : St} {r1 : Res}

/-- no statement runs after `el`: the run is finished once `el` has returned (the include depth is spent by `.include` only) -/
theorem run_done_at (hfs : fs main = some data) (h : Reaches fs (maxDepth - 1) (envOf main) data init2 pre el post perr S)
    (hX : statement fs encoder (incOf fs) (envOf main) S el = .ok (S1, r1))
    (hlast : r1 = .ok → post = [] ∧ perr = none) : ∃ o, run fs main = .done o := by
  rcases run_of_body hfs with ⟨o, _, _, ho, _⟩ | ⟨_, hB⟩
  · exact ⟨o, ho⟩
  · exact absurd ((h.body_last hX hlast).symm.trans hB) (bodyLoop_nf _ _ _)

/-- **no statement runs after `el`**: everything appended after it comes from the tasks queued in `S1` -/
theorem run_at_tail (hfs : fs main = some data) (h : Reaches fs (maxDepth - 1) (envOf main) data init2 pre el post perr S)
    (hX : statement fs encoder (incOf fs) (envOf main) S el = .ok (S1, r1))
    (hlast : r1 = .ok → post = [] ∧ perr = none) {o : Outcome} (ho : run fs main = .done o) :
    ∃ st4 r4 stF, bodyLoop encoder (envOf main) S1 r1 = .ok (st4, r4) ∧
      o.diags = stF.errors.reverse ∧ (o.success = true → stF.errors = []) ∧
      ∀ A : Sites, QWithin A (some main) none S1 → Logs (Diag.within A) false S1 st4 ∧ Logs (Diag.within A) false st4 stF := by
  obtain ⟨st4, r4, stF, hB, hd, hs, hF⟩ := run_from_body hfs ho
  rw [h.body_last hX hlast] at hB
  exact ⟨st4, r4, stF, hB, hd, hs, fun A q1 => have ⟨e, hg⟩ := bodyLoop_within q1 hB; ⟨e, hF A hg⟩⟩

end

/-- `A` = the site of `el`, the last statement of the file, reached with nothing recorded and nothing queued: `el` and the
retry it queues report at `el`, with kinds of `el`'s class; so if `el` records a diagnostic, or the file's task loop does,
the run is no success and every diagnostic is at `el` -/
theorem run_last (hfs : fs main = some data) {pre : List Element} {el : Element} {S : St}
    (h : Reaches fs (maxDepth - 1) (envOf main) data init2 pre el [] none S) (hq : QuietSt S)
    (hni : ∀ as, el.val ≠ .directive (bytesOf "include") as)
    (hK : ∀ S1 r1, statement fs encoder (incOf fs) (envOf main) S el = .ok (S1, r1) →
      S1.errors ≠ [] ∨ (r1 = .ok ∧ ∀ tasks st4 r4, S1.localTasks = some tasks →
        localLoop encoder (envOf main) rounds tasks { S1 with localTasks := some [] } r1 = .ok (st4, r4) → st4.errors ≠ [])) :
    ∃ o, run fs main = .done o ∧ o.success = false ∧ o.diags ≠ [] ∧
      ∀ d ∈ o.diags, d.at main el.line el.col ∧ pushesC (Cls.of el.val) d.kind = true := by
  cases hX : statement fs encoder (incOf fs) (envOf main) S el with
  | stop z =>
    exfalso
    have hB := h.body
    rw [hX] at hB
    rcases run_of_body hfs with ⟨_, _, _, _, hB', _⟩ | ⟨_, hB'⟩ <;> cases hB.symm.trans hB'
    exact nomatch (statement_acts hni).stop hX
  | ok p =>
    obtain ⟨S1, r1⟩ := p
    have hE := hK S1 r1 hX
    obtain ⟨o, ho⟩ := run_done_at hfs h hX fun _ => ⟨rfl, rfl⟩
    obtain ⟨st4, r4, stF, hT, hd, hs, hL⟩ := run_at_tail hfs h hX (fun _ => ⟨rfl, rfl⟩) ho
    obtain ⟨q1, e1⟩ := (statement_addsK hni _ _ hX).within
      (A := fun f l c K => f = main ∧ l = el.line ∧ c = el.col ∧ K = Cls.of el.val) (cur := some main) (up := none)
      ⟨rfl, rfl, rfl, rfl⟩ (fun _ e => nomatch e) (fun _ => rfl)
      ⟨fun t m => (by rw [hq.2.1] at m; cases m), fun q h t m => (by rw [hq.2.2] at h; cases h; cases m)⟩
    obtain ⟨e2, e3⟩ := hL _ q1
    have hall := ((e1.trans e2).trans e3).all (by rw [hq.1]; exact fun _ m => nomatch m)
    have hne : stF.errors ≠ [] := by
      rcases hE with h | ⟨rfl, h⟩
      · obtain ⟨d, hd⟩ := List.exists_mem_of_ne_nil _ h
        exact List.ne_nil_of_mem ((e2.trans e3).keeps d hd)
      · rcases bodyLoop_ok hT with ⟨h0, _⟩ | ⟨_, tasks, htk, hl⟩
        · cases h0
        · obtain ⟨d, hd⟩ := List.exists_mem_of_ne_nil _ (h tasks st4 r4 htk hl)
          exact List.ne_nil_of_mem (e3.keeps d hd)
    refine ⟨o, ho, ?_, by rw [hd]; simpa using hne, fun d m => ?_⟩
    · cases h : o.success
      · rfl
      · exact absurd (hs h) hne
    · obtain ⟨K, ⟨h1, h2, h3, rfl⟩, hk⟩ := hall d (List.mem_reverse.mp (hd ▸ m))
      exact ⟨⟨h1, h2, h3⟩, hk⟩

/-- **exactly this one**: reached with nothing recorded and nothing queued, `el` returns an error result, its whole effect
being ONE diagnostic `k` at its own position.  The run is finished and no success, its diagnostics are exactly that one, and
its image is what `close_segment` leaves of `S` (`do_assemble` stops at the first error result: `post` is never looked at). -/
theorem run_single_diag_image {pre post : List Element} {perr : Option ParseErr} {el : Element} {S : St} {k : Kind}
    {lv : Level} (hfs : fs main = some data) (h : Reaches fs (maxDepth - 1) (envOf main) data init2 pre el post perr S)
    (hq : QuietSt S)
    (hel : statement fs encoder (incOf fs) (envOf main) S el = .ok (S.push (envOf main) el.line el.col k, .err lv)) :
    ∃ o, run fs main = .done o ∧ o.success = false ∧ o.diags = [⟨main, el.line, el.col, k⟩] ∧
      o.image = (Seg.closeSegment S.seg).1.map := by
  obtain ⟨he, hg, hl⟩ := hq
  have hbody : fileBody fs encoder (incOf fs) (envOf main) data init2 = .ok (S.push (envOf main) el.line el.col k, .err lv) := by
    rw [h.body_last hel nofun, bodyLoop]
    split
    · rfl
    · simp only [fileLoop, St.push, St.pushIn, hl, localLoop, rounds, List.isEmpty_nil, if_true]
  rcases run_of_body hfs with ⟨o, st4, r4, ho, hB, hA⟩ | ⟨_, hB⟩ <;> cases hbody.symm.trans hB
  obtain ⟨data', st, res, hdata, ha, hrest⟩ := runWith_done ho
  cases hfs.symm.trans hdata
  cases hA.symm.trans ha
  have hE : (leaveFile none none (S.push (envOf main) el.line el.col k)).errors = [⟨main, el.line, el.col, k⟩] := by
    simp [leaveFile, St.push, St.pushIn, he]
  refine ⟨o, ho, ?_⟩
  rcases hrest with ⟨e, _, rfl⟩ | ⟨_, _, st', fin, hf, rfl⟩
  · exact ⟨by simp [Outcome.success], by simp [hE], rfl⟩
  · have hG : (leaveFile none none (S.push (envOf main) el.line el.col k)).globalTasks = [] := (leaveFile_gt _).trans hg
    cases hf.symm.trans (finalize_nil hG)
    exact ⟨by simp [Outcome.success, St.hasErrored, hE], by simp [hE], rfl⟩

end

theorem run_stmt_reported (fs : Bytes → Option Bytes) (main data : Bytes) (hfs : fs main = some data)
    (els : List Element) (perr : Option ParseErr) (hp : Asm.parseFile data = .ok (els, perr))
    (pre post : List Element) (el : Element) (hels : els = pre ++ el :: post)
    (S : Asm.St) (hpre : PrefixOk fs main pre S)
    (hK : ∀ S1 r1, Asm.statement fs Asm.encoder (Asm.assembleFile fs Asm.encoder (Asm.maxDepth - 1)) ⟨[main], main⟩ S el = .ok (S1, r1) →
      ∃ d ∈ S1.errors, d.file = main ∧ d.line = el.line ∧ d.col = el.col) :
    ∀ o, Asm.run fs main = .done o →
      o.success = false ∧ ∃ d ∈ o.diags, d.file = main ∧ d.line = el.line ∧ d.col = el.col :=
  run_stmt_reportedP hfs ⟨hels ▸ hp, hpre⟩ hK

end Trion.C04
