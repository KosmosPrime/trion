import TrionModel.Lemmas.AsmAdds
import TrionModel.Lemmas.AsmLadder
/-!
# `Trion.Asm`: where the diagnostics and the queued tasks of a run come from — one rule for the whole control skeleton

`errors`, `global_tasks` and `local_tasks` are written by `push_error` and `add_task` and never read back, except that a
loop drains its queue.  So one statement covers everything that is asked about them: for a set `A` of *sites* (file, line,
column, class of statement), a task reports and re-queues at the site it carries (`AddsK.within`, the step), so the task
loops and `finalize` keep `QWithin A` and extend the diagnostics within `A` for ANY `A`; statements, files and `.include` do
the same if `A` holds the sites of all statements of the project's files (`Covers`).  The instances of `A` and the theorems
read off them: DESIGN.md §16, `AsmWithin`.

* `QWithin A cur up st`: every queued task of `st` carries a site of `A` (`cur`, `up`: the files whose loops will run the
  local and the global queue; `none` is `finalize`).  It is the `I` of the three ladders (`withinLoc`, `withinFile`,
  `withinGlob`); their `R` is `Logs` (Lemmas/AsmAdds.lean), the `errors` part of `AddsK`: the queues are drained in loops and
  files, so their part is carried by `QWithin`.
* `E`: what the report of the error that ended a file satisfies (`withinFile` pushes it; the loops carry `E` only so that
  the three ladders have the same `R`).
* `src p d` ("the project holds `d` at `p`"): `fs p = some d` where `A` speaks of the files of `fs`, and `True` where it does
  not, so that `assemble` can be spoken of without saying where its `data` came from (`IncGrew`, `IncKeeps`).
-/
namespace Trion.Asm
open Trion

abbrev Sites := Bytes → Nat → Nat → Cls → Prop

/-- the diagnostic is at a site of `A`, and of a kind the statement there pushes -/
def Diag.within (A : Sites) (d : Diag) : Prop := ∃ C, A d.file d.line d.col C ∧ pushesC C d.kind = true

/-- the task carries a site of `A`; `i` is the file whose loop will run the queue the task waits in (`none`: `finalize`):
a closure of `.global` stores no file and reports in that one -/
def Task.within (A : Sites) (i : Option Bytes) : Task → Prop
  | .data d _ => A d.file d.line d.col (.dir (bytesOf d.du.name))
  | .instr i _ => A i.file i.line i.col .ins
  | .globalCopy _ l c => ∃ f, i = some f ∧ A f l c (.dir (bytesOf "global"))

structure QWithin (A : Sites) (cur up : Option Bytes) (st : St) : Prop where
  gt : ∀ t ∈ st.globalTasks, t.within A up
  lt : ∀ q, st.localTasks = some q → ∀ t ∈ q, t.within A cur

variable {A : Sites}

theorem Task.within_of_at {t : Task} {f : Bytes} {l c : Nat} {i : Option Bytes} {C : Cls} (ht : t.at f l c)
    (hc : taskC C t = true) (hA : A f l c C) (hi : t.notCopy = true ∨ i = some f) : t.within A i := by
  cases taskC_iff.mp hc
  cases t with
  | data d b => obtain ⟨rfl, rfl, rfl⟩ := ht; exact hA
  | instr i b => obtain ⟨rfl, rfl, rfl⟩ := ht; exact hA
  | globalCopy n l' c' => obtain ⟨rfl, rfl⟩ := ht; exact hi.elim (fun h => nomatch h) fun hi => ⟨f, hi, hA⟩

theorem QWithin.clearLocal {cur up : Option Bytes} {st : St} (h : QWithin A cur up st) :
    QWithin A cur up { st with localTasks := some [] } :=
  ⟨h.gt, fun q hq t ht => by cases hq; cases ht⟩

theorem QWithin.clearGlobal {cur up : Option Bytes} {st : St} (h : QWithin A cur up st) :
    QWithin A cur up { st with globalTasks := [] } :=
  ⟨fun _ m => (nomatch m), h.lt⟩

theorem QWithin.congr {cur up : Option Bytes} {st st' : St} (h : QWithin A cur up st) (hg : st'.globalTasks = st.globalTasks)
    (hl : st'.localTasks = st.localTasks) : QWithin A cur up st' :=
  ⟨hg ▸ h.gt, hl ▸ h.lt⟩

/-- every site.  A closure of `.global` still needs a file to report in: `Task.within anySite none` is false of it, so the
queues are within `anySite` where files run them (`QWithin.any`), in any state -/
def anySite : Sites := fun _ _ _ _ => True

theorem Task.within_any (f : Bytes) (t : Task) : t.within anySite (some f) := by
  cases t <;> first | trivial | exact ⟨_, rfl, trivial⟩

theorem QWithin.any (f g : Bytes) (st : St) : QWithin anySite (some f) (some g) st :=
  ⟨fun t _ => t.within_any g, fun _ _ t _ => t.within_any f⟩

/-- **the step**: what happens at the site `(f, l, c)` of a statement of class `C` (the statement itself, or later its
task) keeps the queues within `A` and extends the diagnostics within `A`, if the site is in `A`.  (`hm`: the global queue
only receives retries; `hcur`: `.global` queues its closure in the file it stands in.) -/
theorem AddsK.within {m : May} {C : Cls} {f : Bytes} {l c : Nat} {e : Bool} {st st' : St} {cur up : Option Bytes}
    (h : AddsK m C f l c e st st') (hA : A f l c C) (hm : ∀ t, m.queue .global t → t.notCopy = true)
    (hcur : C = .dir (bytesOf "global") → cur = some f) (hq : QWithin A cur up st) :
    QWithin A cur up st' ∧ Logs (Diag.within A) e st st' := by
  refine ⟨?_, h.logs.mono fun d ⟨⟨h1, h2, h3⟩, hk⟩ => ⟨C, by rw [h1, h2, h3]; exact hA, hk⟩⟩
  obtain ⟨_, gs, ls, a, _, hg, hl, _⟩ := h
  refine ⟨fun t m' => ?_, fun q' hq' t m' => ?_⟩
  · rcases List.mem_append.mp (a.gt ▸ m') with m' | m'
    · exact hq.gt t m'
    · exact Task.within_of_at (hg t m').2.1 (hg t m').2.2 hA (.inl (hm t (hg t m').1))
  · cases hl0 : st.localTasks with
    | none => rw [a.lt, hl0] at hq'; cases hq'
    | some q =>
      rw [a.lt, hl0] at hq'
      cases hq'
      rcases List.mem_append.mp m' with m' | m'
      · exact hq.lt q hl0 t m'
      · refine Task.within_of_at (hl t m').2.1 (hl t m').2.2 hA ?_
        cases t <;> first | exact .inl rfl | exact .inr (hcur (taskC_iff.mp (hl _ m').2.2).symm)

theorem du_cls_ne (du : DU) : Cls.dir (bytesOf du.name) ≠ .dir (bytesOf "global") := by cases du <;> decide

/-- a queued task, run by the loop of the file that queued it (`cur = some env.curName`) or by `finalize` (`cur = none`) -/
theorem runTask_within {enc : Encoder} {env : Env} {st st' : St} {cur up : Option Bytes} {t : Task} {r : Res}
    (hcur : ∀ f, cur = some f → f = env.curName) (ht : t.within A cur) (h : runTask enc env st t = .ok (st', r))
    (hq : QWithin A cur up st) : QWithin A cur up st' ∧ Logs (Diag.within A) r.isErr st st' := by
  refine (runTask_addsK _ _ h).within ?_ (fun _ h => h.2.1) ?_ hq
  · cases t with
    | globalCopy n l c => obtain ⟨f, hf, hs⟩ := ht; cases hcur f hf; exact hs
    | _ => exact ht
  · cases t with
    | data d g => exact fun e => absurd e (du_cls_ne d.du)
    | instr i g => exact nofun
    | globalCopy n l c => obtain ⟨f, hf, _⟩ := ht; exact fun _ => hf.trans (congrArg some (hcur f hf))

section
variable (A) (E : Diag → Prop)

/-- inside the file `env.curName`; the index is `up`; `E` is not used here (see the head of the file) -/
def withinLoc (enc : Encoder) : LocalLadder enc (Option Bytes) where
  I up env st := QWithin A (some env.curName) up st
  R _ e := Logs (fun d => d.within A ∨ E d) e
  B _ := False
  refl _ := .refl _ _
  trans := .trans
  weaken h := h.weaken Bool.noConfusion
  noLoop := id
  unwrap := nofun
  task i0 hq0 hm _ h := .of (fun _ hr =>
    (runTask_within (fun _ e => by cases e; rfl) (i0.lt _ hq0 _ hm) hr h).imp id fun w => w.mono fun _ => .inl) fun _ _ => id
  clear h := ⟨h.clearLocal, .of_eq rfl⟩

/-- `finalize`: `i = none`, the binary runs it outside every file.  The arm `i = some f` (the global queue run where
`env.curName = f`) is there for `anySite` alone: so the rule says of `finalize` in ANY state, where a closure of `.global` may
wait in the global queue and would report in `env.curName`, that diagnostics are only added (`finalize_keeps`,
`finalize_grew`) -/
def withinGlob (enc : Encoder) : GlobalLadder enc (Option Bytes) where
  I i env st := (∀ f, i = some f → f = env.curName) ∧ QWithin A i i st
  R _ e := Logs (fun d => d.within A ∨ E d) e
  B _ := False
  refl _ := .refl _ _
  trans := .trans
  weaken h := h.weaken Bool.noConfusion
  noLoop := id
  task i0 hm _ h := .of (fun _ hr =>
    have w := runTask_within h.1 (i0.2.gt _ hm) hr h.2
    ⟨⟨h.1, w.1⟩, w.2.mono fun _ => .inl⟩) fun _ _ => id
  clear h := ⟨⟨h.1, h.2.clearGlobal⟩, .of_eq rfl⟩

end

/-- `src p d`: `d` is what the project holds at the path `p` (for `fs`: `fs p = some d`).  `A` holds the site of every
statement of every such file, and `E` the report of the error that ended one -/
structure Covers (fs : Bytes → Option Bytes) (src : Bytes → Bytes → Prop) (A : Sites) (E : Diag → Prop) : Prop where
  read : ∀ p d, fs p = some d → src p d
  el : ∀ f data els perr, src f data → parseFile data = .ok (els, perr) → ∀ el ∈ els, A f el.line el.col (Cls.of el.val)
  err : ∀ f data els e, src f data → parseFile data = .ok (els, some e) → E ⟨f, e.line, e.col, .parse e.kind⟩

section
variable {fs : Bytes → Option Bytes} {enc : Encoder} {E : Diag → Prop} {src : Bytes → Bytes → Prop}

/-- statements, files, `.include`; `up` is the index inside a file and names the caller of `assemble` -/
def withinFile (hc : Covers fs src A E) (enc : Encoder) : FileLadder fs enc (Option Bytes) (Option Bytes) where
  toRung := (withinLoc A E enc).toRung
  loop := (withinLoc A E enc).fileLoop_spec
  F _ env els perr := (∀ el ∈ els, A env.curName el.line el.col (Cls.of el.val)) ∧
    ∀ e, perr = some e → E ⟨env.curName, e.line, e.col, .parse e.kind⟩
  Pre up env st data path := src path data ∧ QWithin A (some env.curName) up st
  Post up env st _ _ st' r := QWithin A (some env.curName) up st' ∧ Logs (fun d => d.within A ∨ E d) r.isErr st st' ∧
    (st.localTasks = none → st'.localTasks = none)
  noFuel := id
  stmt _ hf hel hni h := .of (fun _ hr =>
    ((statement_addsK hni _ _ hr).within (hf.1 _ hel) (fun _ e => nomatch e) (fun _ => rfl) h).imp id
      fun w => w.mono fun _ => .inl) fun _ _ => id
  pushInc hf hel hv hk h := ⟨h.congr rfl rfl, .pushIn _ (.inl ⟨_, by have := hf.1 _ hel; rw [hv] at this; exact this,
    pushes_ofDir hk⟩)⟩
  pushErr hf h := ⟨h.congr rfl rfl, .pushIn _ (.inr (hf.2 _ rfl))⟩
  call h hfs := ⟨_, ⟨hc.read _ _ hfs, h⟩, fun _ _ hp => ⟨hp.1, hp.2.1⟩⟩
  file {up env st data path els perr} hpre hp := by
    have hF : (∀ el ∈ els, A path el.line el.col (Cls.of el.val)) ∧
        ∀ e, perr = some e → E ⟨path, e.line, e.col, .parse e.kind⟩ :=
      ⟨hc.el path data els perr hpre.1 hp, fun e he => hc.err path data els e hpre.1 (by rw [← he]; exact hp)⟩
    obtain ⟨hl0, hcase⟩ := enterFile_queues st
    have hlt : ∀ q, (enterFile st).2.2.localTasks = some q → ∀ t ∈ q, t.within A (some path) :=
      fun q hq t ht => by rw [hl0] at hq; cases hq; cases ht
    rcases hcase with ⟨hn, hsv, hg⟩ | ⟨q0, hq0, hsv, hg⟩
    · refine ⟨up, hF, ⟨hg ▸ hpre.2.gt, hlt⟩, fun st4 r q4 e4 => ?_⟩
      rw [hsv]
      exact ⟨⟨(leaveFile_queues _ st4).1.2 ▸ q4.gt, fun q hq' => by rw [(leaveFile_queues _ st4).1.1] at hq'; cases hq'⟩,
        e4.congr (enterFile_errs st).symm (leaveFile_errs ..), fun _ => (leaveFile_queues _ st4).1.1⟩
    · refine ⟨some env.curName, hF, ⟨hg ▸ hpre.2.lt q0 hq0, hlt⟩, fun st4 r q4 e4 => ?_⟩
      rw [hsv]
      obtain ⟨hl', hg'⟩ := (leaveFile_queues (enterFile st).1 st4).2 st.globalTasks
      exact ⟨⟨hg' ▸ hpre.2.gt, fun q hq' => by rw [hl'] at hq'; cases hq'; exact q4.gt⟩,
        e4.congr (enterFile_errs st).symm (leaveFile_errs ..), fun h => by rw [hq0] at h; cases h⟩

end

section
variable {enc : Encoder} {env : Env} {up : Option Bytes}

/-- the tasks of a loop called on an arbitrary list: `st` with them written into its queue stands for the state that
queued them (`Queued.of_list`) -/
theorem withinLoc_queued {ts : List Task} {st : St} (hts : ∀ t ∈ ts, t.within A (some env.curName))
    (hq : QWithin A (some env.curName) up st) : (withinLoc A (fun _ => False) enc).Queued up env ts st :=
  .of_list _ ⟨hq.gt, fun _ hq' => by cases hq'; exact hts⟩ (.of_eq rfl)

theorem Logs.noE {e : Bool} {a b : St} (h : Logs (fun d => d.within A ∨ False) e a b) : Logs (Diag.within A) e a b :=
  h.mono fun _ hd => hd.elim id False.elim

theorem localRound_within {ts : List Task} {st st' : St} {res r : Res}
    (hts : ∀ t ∈ ts, t.within A (some env.curName)) (hq : QWithin A (some env.curName) up st)
    (h : localRound enc env ts st res = .ok (st', r)) :
    QWithin A (some env.curName) up st' ∧ ∃ e, Logs (Diag.within A) e st st' ∧ r.isErr = (res.isErr || e) :=
  have ⟨q, e, w, he⟩ := ((withinLoc A _ enc).localRound_spec ts st res (withinLoc_queued hts hq) hq).ok h
  ⟨q, e, w.noE, he⟩

theorem localLoop_within {n : Nat} {ts : List Task} {st st' : St} {res r : Res}
    (hts : ∀ t ∈ ts, t.within A (some env.curName)) (hq : QWithin A (some env.curName) up st)
    (h : localLoop enc env n ts st res = .ok (st', r)) :
    QWithin A (some env.curName) up st' ∧ ∃ e, Logs (Diag.within A) e st st' ∧ r.isErr = (res.isErr || e) :=
  have ⟨q, e, w, he⟩ := ((withinLoc A _ enc).localLoop_spec n ts st res (withinLoc_queued hts hq) hq).ok h
  ⟨q, e, w.noE, he⟩

/-- what `finalize` returns: `true` exactly when no diagnostic is recorded at the end (`ab`: a task aborted the loop) -/
theorem Logs.fin {P : Diag → Prop} {ab : Bool} {a b : St} (h : Logs P ab a b) :
    (!(ab || b.hasErrored)) = true ↔ b.errors = [] := by
  cases ab with
  | false => simp [St.hasErrored]
  | true =>
    have := h.length
    simp only [Bool.toNat_true] at this
    simp only [Bool.true_or, Bool.not_true, Bool.false_eq_true, false_iff]
    intro e0; rw [e0] at this; simp at this

theorem finalize_within {i : Option Bytes} (hi : ∀ f, i = some f → f = env.curName) {st st' : St} {fin : Bool}
    (hq : QWithin A i i st) (h : finalize enc env st = .ok (st', fin)) :
    QWithin A i i st' ∧ Logs (Diag.within A) false st st' ∧ (fin = true ↔ st'.errors = []) := by
  obtain ⟨q, ab, w, e⟩ := ((withinGlob A (fun _ => False) enc).finalize_spec (g := i) ⟨hi, hq⟩).ok h
  exact ⟨q.2, w.noE.weaken Bool.noConfusion, (show fin = _ from e) ▸ w.fin⟩

end

section
variable {fs : Bytes → Option Bytes} {enc : Encoder} {E : Diag → Prop} {src : Bytes → Bytes → Prop}

/-- what `.include` calls behaves like `assemble`.  This is `IncIn` of `withinFile` said without `fs`, `enc` and the proof of
`Covers`: it speaks of `src` in place of `fs path = some data`, so that a hypothesis of another file can name it
(`IncGrew`); `doAssemble_within` turns it into `IncIn` by `Covers.read` -/
def IncWithin (src : Bytes → Bytes → Prop) (A : Sites) (E : Diag → Prop) (inc : Inc) : Prop :=
  ∀ env st data path st' r up, src path data → inc env st data path = .ok (st', r) →
    QWithin A (some env.curName) up st →
    QWithin A (some env.curName) up st' ∧ Logs (fun d => d.within A ∨ E d) r.isErr st st'

theorem doAssemble_within (hc : Covers fs src A E) {inc : Inc} (hinc : IncWithin src A E inc) {env : Env} {up : Option Bytes}
    {perr : Option ParseErr} (herr : ∀ e, perr = some e → E ⟨env.curName, e.line, e.col, .parse e.kind⟩)
    {els : List Element} {st st' : St} {r : Res} (hels : ∀ el ∈ els, A env.curName el.line el.col (Cls.of el.val))
    (hq : QWithin A (some env.curName) up st) (h : doAssemble fs enc inc env els perr st = .ok (st', r)) :
    QWithin A (some env.curName) up st' ∧ Logs (fun d => d.within A ∨ E d) r.isErr st st' :=
  ((withinFile hc enc).doAssemble_spec (g := up) (els₀ := els)
    (fun hi hfs => .of (fun _ hr => hinc _ _ _ _ _ _ _ (hc.read _ _ hfs) hr hi) fun _ _ => id) ⟨hels, herr⟩ els st
    (fun _ m => m) hq).ok h

theorem assembleFile_within (hc : Covers fs src A E) (fuel : Nat) : IncWithin src A E (assembleFile fs enc fuel) :=
  fun env st data path _ _ up hs h hq =>
    have w := ((withinFile hc enc).assembleFile_spec fuel up env st data path ⟨hs, hq⟩).ok h
    ⟨w.1, w.2.1⟩

/-- from the end of `assemble` of the main file to the outcome: `close_segment`, `finalize` (for any `A`) -/
theorem runWith_tail {main : Bytes} {o : Outcome} (h : runWith enc fs main = .done o) :
    ∃ data st res stF, fs main = some data ∧ assembleFile fs enc maxDepth Env.init St.init data main = .ok (st, res) ∧
      o.assembleOk = decide (res = .ok) ∧ o.diags = stF.errors.reverse ∧
      (o.success = true ↔ o.closeErr = none ∧ stF.errors = []) ∧
      ∀ (A : Sites) (i : Option Bytes), (∀ f, i = some f → f = Env.init.curName) → QWithin A i i st →
        Logs (Diag.within A) false st stF := by
  obtain ⟨data, st, res, hdata, ha, hrest⟩ := runWith_done h
  refine ⟨data, st, res, ?_⟩
  rcases hrest with ⟨e, _, rfl⟩ | ⟨_, _, st', fin, hf, rfl⟩
  · exact ⟨st, hdata, ha, rfl, rfl, by simp [Outcome.success], fun _ _ _ _ => .refl _ _⟩
  · refine ⟨st', hdata, ha, rfl, rfl, ?_, fun A i hi hq => ?_⟩
    · simpa [Outcome.success] using
        (finalize_within (i := some Env.init.curName) (fun _ e => by cases e; rfl) (.any _ _ _) hf).2.2
    · exact ((finalize_within hi (st := { st with seg := (Seg.closeSegment st.seg).1 }) ⟨hq.gt, hq.lt⟩ hf).2.1).congr rfl rfl

/-- **a whole run**: its diagnostics are those of a final state `st'` that extends the empty list within `A` and `E`;
success means there is none -/
theorem runWith_within (hc : Covers fs src A E) {main : Bytes} {o : Outcome} (h : runWith enc fs main = .done o) :
    ∃ st', o.diags = st'.errors.reverse ∧ Logs (fun d => d.within A ∨ E d) (!o.assembleOk) St.init st' ∧
      (o.success = true → st'.errors = []) ∧ (o.closeErr = none → o.success = false → st'.errors ≠ []) := by
  obtain ⟨data, st, res, st', hdata, ha, hok, hd, hs, ht⟩ := runWith_tail h
  obtain ⟨q1, e1, hl⟩ := ((withinFile hc enc).assembleFile_spec maxDepth none Env.init St.init data main
    ⟨hc.read _ _ hdata, ⟨fun _ m => (nomatch m), fun _ m => (nomatch m)⟩⟩).ok ha
  have e2 := ht A none (fun _ e => (nomatch e)) ⟨q1.gt, fun q hq => by rw [hl rfl] at hq; cases hq⟩
  refine ⟨st', hd, ?_, fun h => (hs.mp h).2, fun hc' hf he => ?_⟩
  · rw [hok, show (!decide (res = .ok)) = res.isErr by cases res <;> rfl]
    exact (e1.trans (e2.mono fun _ => .inl)).weaken fun h => by simp [h]
  · rw [hs.mpr ⟨hc', he⟩] at hf; cases hf

end

/-! ## the statements of the project: every recorded diagnostic is blamed on a statement of a file, with a kind that statement can push

`SrcElK fs f l c C`: `f` is a file of the project, `(l, c)` is the position of one of the statements `el` its text
parses into, and `C` is the class of that statement (label, directive, instruction).  `DBlame fs d`: the diagnostic `d`
sits at a statement `el` of its own file and its kind is one a statement of `el`'s class can push
(`Pushes`, `Blamed`: the vocabulary of Props/C12Blame.lean), or it is the report of the parse error that ended its file.  This is the rule
above at the sites `SrcElK fs` (C12, whole run, kind-aware). -/

def SrcElK (fs : Bytes → Option Bytes) (f : Bytes) (l c : Nat) (C : Cls) : Prop :=
  ∃ data lo els err, fs f = some data ∧ Lex.tokens data = .ok lo ∧ Parse.all lo = .done els err ∧
    ∃ el ∈ els, el.line = l ∧ el.col = c ∧ Cls.of el.val = C

/-- the diagnostic kinds that processing the statement `el` (or its queued task) pushes: by the statement's class —
label: `inactive`, `label _`; directive NAMED `n`: `dirNotFound n`, and `dirTooMany s`, `dirNotEnough s`, `dirArgType s`,
`dirApply s _` with `bytesOf s = n` (the directive name carried by the kind IS the statement's name);
instruction: `inactive`, `instrNotFound`, `instrTooMany`, `instrNotEnough`, `instrArgType`, `instrAssemble` -/
def Pushes (el : Element) (k : Kind) : Prop := pushesC (Cls.of el.val) k = true

instance (el : Element) (k : Kind) : Decidable (Pushes el k) := by unfold Pushes; infer_instance

def Blamed (els : List Element) (err : Option ParseErr) (d : Diag) : Prop :=
  (∃ el ∈ els, d.line = el.line ∧ d.col = el.col ∧ Pushes el d.kind) ∨
  ∃ e, err = some e ∧ d.line = e.line ∧ d.col = e.col ∧ d.kind = .parse e.kind

/-- forgets the kind: how `diag_pos_run` (Props/C12Asm.lean) follows from `runWith_dblame` -/
theorem Blamed.pos {els : List Element} {err : Option ParseErr} {d : Diag} (h : Blamed els err d) :
    (∃ el ∈ els, d.line = el.line ∧ d.col = el.col) ∨
    ∃ e, err = some e ∧ d.line = e.line ∧ d.col = e.col ∧ ∃ k, d.kind = .parse k := by
  rcases h with ⟨el, hel, h1, h2, _⟩ | ⟨e, he, h1, h2, h3⟩
  · exact .inl ⟨el, hel, h1, h2⟩
  · exact .inr ⟨e, he, h1, h2, _, h3⟩

/-- the diagnostic names a file of the project and is blamed on a statement of it, or is the report of the error that ended it -/
def DBlame (fs : Bytes → Option Bytes) (d : Diag) : Prop :=
  ∃ data lo els err, fs d.file = some data ∧ Lex.tokens data = .ok lo ∧ Parse.all lo = .done els err ∧ Blamed els err d

theorem DBlame.of_within {fs : Bytes → Option Bytes} {d : Diag} (h : d.within (SrcElK fs)) : DBlame fs d := by
  obtain ⟨C, ⟨data, lo, els, err, h1, h2, h3, el, hel, hl, hc, hC⟩, hk⟩ := h
  exact ⟨data, lo, els, err, h1, h2, h3, .inl ⟨el, hel, hl.symm, hc.symm, show pushesC _ _ = true from hC ▸ hk⟩⟩

theorem file_single {fs : Bytes → Option Bytes} {main : Bytes} (hsingle : ∀ f, f ≠ main → fs f = none) {f text : Bytes}
    (h : fs f = some text) : f = main :=
  Classical.byContradiction fun e => by rw [hsingle _ e] at h; cases h

theorem covers_src (fs : Bytes → Option Bytes) : Covers fs (fun p d => fs p = some d) (SrcElK fs) (DBlame fs) where
  read _ _ h := h
  el f data els perr hfs hp el hel := by
    obtain ⟨lo, hlo, hall⟩ := parseFile_eq hp
    exact ⟨data, lo, els, perr, hfs, hlo, hall, el, hel, rfl, rfl, rfl⟩
  err f data els e hfs hp := by
    obtain ⟨lo, hlo, hall⟩ := parseFile_eq hp
    exact ⟨data, lo, els, some e, hfs, hlo, hall, .inr ⟨e, rfl, rfl, rfl, rfl⟩⟩

theorem runWith_dblame {enc : Encoder} {fs : Bytes → Option Bytes} {main : Bytes} {o : Outcome}
    (h : runWith enc fs main = .done o) : ∀ d ∈ o.diags, DBlame fs d := by
  obtain ⟨st', hd, e, _⟩ := runWith_within (covers_src fs) h
  intro d m
  exact (e.all (fun _ m => nomatch m) d (List.mem_reverse.mp (hd ▸ m))).elim .of_within id

/-! ## every site: through loops and files diagnostics are only added, and an `Err` result comes with a new one

The forms other files use: lengths (`_grew`) and membership (`Keeps`, `_keeps`), in any state. -/

section
variable {fs : Bytes → Option Bytes} {enc : Encoder} {env : Env}

theorem covers_any (fs : Bytes → Option Bytes) : Covers fs (fun _ _ => True) anySite fun _ => True :=
  ⟨fun _ _ _ => trivial, fun _ _ _ _ _ _ _ _ => trivial, fun _ _ _ _ _ _ => trivial⟩

/-- what `.include` calls behaves like `assemble`, wherever its `data` came from -/
def IncGrew (inc : Inc) : Prop := IncWithin (fun _ _ => True) anySite (fun _ => True) inc

def IncKeeps (inc : Inc) : Prop := ∀ env st data path st' r, inc env st data path = .ok (st', r) → Keeps st st'

theorem assembleFile_grew (fs : Bytes → Option Bytes) (enc : Encoder) : ∀ fuel, IncGrew (assembleFile fs enc fuel) :=
  assembleFile_within (covers_any fs)

theorem assembleFile_keeps (fs : Bytes → Option Bytes) (enc : Encoder) : ∀ fuel, IncKeeps (assembleFile fs enc fuel) :=
  fun fuel env st _ _ _ _ h => (assembleFile_grew fs enc fuel env st _ _ _ _ (some []) trivial h (.any _ _ _)).2.keeps

/-- (in this and the next two, `up := some []` is a dummy includer: at `anySite` the queues are within in any state only where
files run them, see `anySite`) -/
theorem doAssemble_logs {inc : Inc} (hinc : IncGrew inc) {err : Option ParseErr} {els : List Element} {st st' : St} {r : Res}
    (h : doAssemble fs enc inc env els err st = .ok (st', r)) : Logs (fun _ => True) r.isErr st st' :=
  (doAssemble_within (covers_any fs) hinc (up := some []) (fun _ _ => trivial) (fun _ _ => trivial) (.any _ _ _) h).2.mono
    fun _ _ => trivial

theorem localRound_logs {ts : List Task} {st st' : St} {res r : Res} (h : localRound enc env ts st res = .ok (st', r)) :
    ∃ e, Logs (fun _ => True) e st st' ∧ r.isErr = (res.isErr || e) :=
  have ⟨_, e, w, he⟩ := localRound_within (A := anySite) (up := some []) (fun t _ => t.within_any _) (.any _ _ _) h
  ⟨e, w.mono fun _ _ => trivial, he⟩

theorem localLoop_logs {n : Nat} {ts : List Task} {st st' : St} {res r : Res}
    (h : localLoop enc env n ts st res = .ok (st', r)) : ∃ e, Logs (fun _ => True) e st st' ∧ r.isErr = (res.isErr || e) :=
  have ⟨_, e, w, he⟩ := localLoop_within (A := anySite) (up := some []) (fun t _ => t.within_any _) (.any _ _ _) h
  ⟨e, w.mono fun _ _ => trivial, he⟩

theorem doAssemble_grew {inc : Inc} (hinc : IncGrew inc) (err : Option ParseErr) (els : List Element) (st st' : St) (r : Res)
    (h : doAssemble fs enc inc env els err st = .ok (st', r)) : st.errors.length + r.isErr.toNat ≤ st'.errors.length :=
  (doAssemble_logs hinc h).length

/-- the flag of a task loop as lengths -/
theorem Logs.flag {P : Diag → Prop} {e : Bool} {a b : St} {res r : Res} (w : Logs P e a b) (he : r.isErr = (res.isErr || e)) :
    a.errors.length ≤ b.errors.length ∧ (r.isErr = true → res.isErr = true ∨ a.errors.length < b.errors.length) := by
  have := w.length
  refine ⟨by omega, fun hr => ?_⟩
  cases e with
  | false => exact .inl (by simpa [hr] using he)
  | true => exact .inr this

theorem localRound_grew (ts : List Task) (st : St) (res : Res) (st' : St) (r : Res)
    (h : localRound enc env ts st res = .ok (st', r)) :
    st.errors.length ≤ st'.errors.length ∧ (r.isErr = true → res.isErr = true ∨ st.errors.length < st'.errors.length) :=
  have ⟨_, w, he⟩ := localRound_logs h
  w.flag he

theorem localLoop_grew (n : Nat) (ts : List Task) (st : St) (res : Res) (st' : St) (r : Res)
    (h : localLoop enc env n ts st res = .ok (st', r)) :
    st.errors.length ≤ st'.errors.length ∧ (r.isErr = true → res.isErr = true ∨ st.errors.length < st'.errors.length) :=
  have ⟨_, w, he⟩ := localLoop_logs h
  w.flag he

theorem finalize_grew {st st' : St} {fin : Bool} (h : finalize enc env st = .ok (st', fin)) :
    st.errors.length ≤ st'.errors.length ∧ (fin = true ↔ st'.errors = []) :=
  have w := finalize_within (A := anySite) (i := some env.curName) (fun _ e => by cases e; rfl) (.any _ _ _) h
  ⟨w.2.1.length, w.2.2⟩

theorem finalize_keeps {st st' : St} {fin : Bool} (h : finalize enc env st = .ok (st', fin)) : Keeps st st' :=
  (finalize_within (A := anySite) (i := some env.curName) (fun _ e => by cases e; rfl) (.any _ _ _) h).2.1.keeps

/-- **a diagnostic recorded while the main file is processed is a diagnostic of the outcome**, and the run is then not a
success -/
theorem run_keeps (fs : Bytes → Option Bytes) (main : Bytes) (o : Outcome) (h : run fs main = .done o) :
    ∀ (data : Bytes), fs main = some data → ∀ st res, assembleFile fs encoder maxDepth Env.init St.init data main = .ok (st, res) →
      (∀ d ∈ st.errors, d ∈ o.diags) ∧ (st.errors ≠ [] → o.success = false) := by
  intro data hdata st res ha
  obtain ⟨data', st1, res1, stF, hdata', ha', _, hd, hs, ht⟩ := runWith_tail h
  cases hdata.symm.trans hdata'
  cases ha.symm.trans ha'
  have w := ht anySite (some Env.init.curName) (fun _ e => by cases e; rfl) (.any _ _ _)
  refine ⟨fun d m => hd ▸ List.mem_reverse.mpr (w.keeps d m), fun hne => ?_⟩
  cases hsucc : o.success
  · rfl
  · obtain ⟨d, m⟩ := List.exists_mem_of_ne_nil _ hne
    have := w.keeps d m
    rw [(hs.mp hsucc).2] at this
    cases this

end

end Trion.Asm
