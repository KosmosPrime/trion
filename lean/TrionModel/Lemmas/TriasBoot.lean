import TrionModel.Lemmas.TriasPad
import TrionModel.Lemmas.MapCount
/-!
The boot2 checksum step replayed on the `MemoryMap` model (`bootMap`, Model/TriasPad.lean) is `bootCrc`:
`bootMap_eq`.
-/
namespace Trion.Trias
open Trion.Uf2 Trion.Map

/-- the clipping `iter_range` applies to a segment meeting 0x10000000..=0x100000FF -/
def clipBoot (s : Seg) : (Nat × Nat) × List UInt8 :=
  ((max s.1 0x10000000, min (segLast s) 0x100000FF),
    (s.2.take (min (segLast s) 0x100000FF + 1 - s.1)).drop (max s.1 0x10000000 - s.1))

/-- the refusal test of `bootCrc`: the program occupies one of the four checksum addresses 0x100000FC..0x100000FF -/
def crcOcc (q : List Seg) : Bool := (List.range 4).any fun i => (lookup q (0x100000FC + i)).isSome

theorem crcOcc_true_iff (q : List Seg) :
    crcOcc q = true ↔ ∃ x, 0x100000FC ≤ x ∧ x ≤ 0x100000FF ∧ (lookup q x).isSome = true := by
  unfold crcOcc
  simp only [List.any_eq_true, List.mem_range]
  constructor
  · rintro ⟨i, hi, h⟩; exact ⟨0x100000FC + i, by omega, by omega, h⟩
  · rintro ⟨x, h1, h2, h⟩
    exact ⟨x - 0x100000FC, by omega, by rw [show 0x100000FC + (x - 0x100000FC) = x by omega]; exact h⟩

theorem crcOcc_false_free {q : List Seg} (h : ¬ crcOcc q = true) {n : Nat} (hn : n = 4) :
    ∀ x, 0x100000FC ≤ x → x < 0x100000FC + n → lookup q x = none := by
  intro x hx1 hx2
  cases hl : lookup q x with
  | none => rfl
  | some v => exact absurd ((crcOcc_true_iff q).mpr ⟨x, hx1, by omega, by rw [hl]; rfl⟩) h

theorem crcOcc_cons {f : Nat} {d : List UInt8} (r : List Seg)
    (h : ∀ x, 0x100000FC ≤ x → x ≤ 0x100000FF → ¬ (f ≤ x ∧ x < f + d.length)) :
    crcOcc ((f, d) :: r) = crcOcc r := by
  apply Bool.eq_iff_iff.mpr
  rw [crcOcc_true_iff, crcOcc_true_iff]
  constructor
  · rintro ⟨x, h1, h2, hx⟩
    rw [lookup_cons, if_neg (h x h1 h2)] at hx
    exact ⟨x, h1, h2, hx⟩
  · rintro ⟨x, h1, h2, hx⟩
    exact ⟨x, h1, h2, by rw [lookup_cons, if_neg (h x h1 h2)]; exact hx⟩

theorem bootFill_spec (q : Segs) : ∀ (l : Nat) (temp : List UInt8), Ok l q → temp.length = 252 →
    if crcOcc q = true then bootFill ((q.filter (meets 0x10000000 0x100000FF)).map clipBoot) temp = .error .refuse
    else ∃ temp', bootFill ((q.filter (meets 0x10000000 0x100000FF)).map clipBoot) temp = .ok temp' ∧
      temp'.length = 252 ∧ ∀ i, i < 252 → temp'[i]? =
        match lookup q (0x10000000 + i) with
        | some v => some v
        | none => temp[i]? := by
  induction q with
  | nil =>
    intro l temp _ hl
    rw [if_neg (by decide)]
    exact ⟨temp, rfl, hl, fun i _ => rfl⟩
  | cons s r ih =>
    obtain ⟨f, d⟩ := s
    intro l temp ok hl
    have hdl : 0 < d.length := List.length_pos_iff.mpr ok.2.1
    have okr := ok.2.2.2
    have hbelow : ∀ x, x < f + d.length + 1 → lookup r x = none :=
      fun x hx => lookup_none_below okr.sep hx
    by_cases hm' : f ≤ 0x100000FF ∧ 0x10000000 ≤ f + d.length - 1
    · rw [filter_meets_pos r hm', List.map_cons]
      by_cases hc : f + d.length - 1 ≥ 0x100000FC
      · -- this segment reaches the checksum word
        have hocc : crcOcc ((f, d) :: r) = true := by
          rw [crcOcc_true_iff]
          refine ⟨max f 0x100000FC, by omega, by omega, ?_⟩
          rw [lookup_in f d r _ (by omega)]; rfl
        rw [if_pos hocc]
        show bootFill (((max f 0x10000000, min (f + d.length - 1) 0x100000FF), _) :: _) temp = _
        rw [bootFill, if_pos (by omega)]
      · -- entirely below the checksum word: copied into `temp`
        have hsame' : crcOcc ((f, d) :: r) = crcOcc r := crcOcc_cons r (fun x h1 h2 => by omega)
        have hdata : (d.take (min (f + d.length - 1) 0x100000FF + 1 - f)).drop (max f 0x10000000 - f) =
            d.drop (max f 0x10000000 - f) := by
          rw [List.take_of_length_le (by omega)]
        have hstep : bootFill (clipBoot (f, d) :: (r.filter (meets 0x10000000 0x100000FF)).map clipBoot) temp =
            bootFill ((r.filter (meets 0x10000000 0x100000FF)).map clipBoot)
              (temp.take (max f 0x10000000 - 0x10000000) ++ d.drop (max f 0x10000000 - f) ++
                temp.drop (f + d.length - 1 - 0x10000000 + 1)) := by
          show bootFill (((max f 0x10000000, min (f + d.length - 1) 0x100000FF),
            (d.take (min (f + d.length - 1) 0x100000FF + 1 - f)).drop (max f 0x10000000 - f)) :: _) temp = _
          rw [hdata, bootFill, if_neg (by omega), if_neg (by omega)]
          simp only
          rw [if_neg (by omega), if_neg (by rw [List.length_drop]; omega),
            show min (f + d.length - 1) 0x100000FF = f + d.length - 1 by omega]
        rw [hstep, hsame']
        have hl1 : (temp.take (max f 0x10000000 - 0x10000000) ++ d.drop (max f 0x10000000 - f) ++
            temp.drop (f + d.length - 1 - 0x10000000 + 1)).length = 252 := by
          simp only [List.length_append, List.length_take, List.length_drop]; omega
        have := ih _ _ okr hl1
        by_cases ho : crcOcc r = true
        · rw [if_pos ho] at this ⊢; exact this
        · rw [if_neg ho] at this ⊢
          obtain ⟨temp', h1, h2, h3⟩ := this
          refine ⟨temp', h1, h2, fun i hi => ?_⟩
          -- the copy into `temp` is the merge of `put` on the one-segment map `[(0x10000000, temp)]`
          have hm := merged_get 0x10000000 (max f 0x10000000) temp (d.drop (max f 0x10000000 - f)) (by omega)
            (by omega) (0x10000000 + i)
          rw [merged_length, List.length_drop,
            show max f 0x10000000 + (d.length - (max f 0x10000000 - f)) - 0x10000000 =
              f + d.length - 1 - 0x10000000 + 1 by omega,
            if_pos (by omega), List.getElem?_drop,
            show 0x10000000 + i - min (max f 0x10000000) 0x10000000 = i by omega] at hm
          rw [h3 i hi, lookup_cons, hm]
          by_cases hin : f ≤ 0x10000000 + i ∧ 0x10000000 + i < f + d.length
          · rw [if_pos hin, if_pos (by omega), hbelow _ (by omega),
              show max f 0x10000000 - f + (0x10000000 + i - max f 0x10000000) = 0x10000000 + i - f by omega,
              List.getElem?_eq_getElem (by omega)]
          · rw [if_neg hin, if_neg (by omega)]
            cases lookup r (0x10000000 + i) with
            | some v => rfl
            | none =>
              simp only
              rw [if_pos (by omega), Nat.add_sub_cancel_left]
    · -- the segment does not meet the boot page
      rw [filter_meets_neg r hm']
      have hl' : ∀ x, 0x10000000 ≤ x → x ≤ 0x100000FF → lookup ((f, d) :: r) x = lookup r x := by
        intro x h1 h2
        rw [lookup_cons, if_neg (by omega)]
      have hsame : crcOcc ((f, d) :: r) = crcOcc r := crcOcc_cons r (fun x h1 h2 => by omega)
      rw [hsame]
      have := ih _ temp okr hl
      by_cases ho : crcOcc r = true
      · rw [if_pos ho] at this ⊢; exact this
      · rw [if_neg ho] at this ⊢
        obtain ⟨temp', h1, h2, h3⟩ := this
        exact ⟨temp', h1, h2, fun i hi => by rw [h3 i hi, hl' _ (by omega) (by omega)]⟩

/-- **The checksum step on the memory-map model is `bootCrc`**: same refusal, same resulting segment list, and
neither a panic site nor "Checksum write failed" is reachable. -/
theorem bootMap_eq (m : Segs) (inv : MInv m) :
    bootMap m = match bootCrc m with
      | .ok m1 => .ok m1
      | .error _ => .error .refuse := by
  have hfind : (Map.find m 0x10000000 .exact = .ok none ∧ (lookup m 0x10000000).isSome = false) ∨
      (∃ r, Map.find m 0x10000000 .exact = .ok (some r) ∧ (lookup m 0x10000000).isSome = true) := by
    rw [lookup_eq_abs]
    rcases find_exact_isSome inv 0x10000000 with ⟨h1, h2⟩ | h
    · exact Or.inl ⟨h1, by rw [h2]; rfl⟩
    · exact Or.inr h
  unfold bootMap bootCrc
  rcases hfind with ⟨hf, h0⟩ | ⟨r, hf, h0⟩
  · rw [hf, if_neg (by rw [h0]; decide)]
  · rw [hf, if_pos h0]
    simp only
    rw [iterRange_spec inv 0x10000000 0x100000FF (by decide)]
    simp only
    have hspec := bootFill_spec m 0 (zeros 252) inv (by simp)
    change (if crcOcc m = true then bootFill ((m.filter (meets 0x10000000 0x100000FF)).map clipBoot) (zeros 252) = _ else _) at hspec
    by_cases ho : crcOcc m = true
    · rw [if_pos ho] at hspec
      have ho' : ((List.range 4).any fun i => (lookup m (0x100000FC + i)).isSome) = true := ho
      rw [if_pos ho']
      show (match bootFill ((m.filter (meets 0x10000000 0x100000FF)).map clipBoot) (zeros 252) with
        | .error e => _ | .ok temp => _) = _
      rw [hspec]
    · rw [if_neg ho] at hspec
      obtain ⟨temp', h1, h2, h3⟩ := hspec
      have ho' : ¬ ((List.range 4).any fun i => (lookup m (0x100000FC + i)).isSome) = true := ho
      rw [if_neg ho']
      show (match bootFill ((m.filter (meets 0x10000000 0x100000FF)).map clipBoot) (zeros 252) with
        | .error e => _ | .ok temp => _) = _
      rw [h1]
      simp only
      have htemp : temp' = bootBytes m := by
        apply List.ext_getElem?
        intro i
        by_cases hi : i < 252
        · rw [h3 i hi]
          unfold bootBytes
          rw [List.getElem?_map, List.getElem?_range hi]
          simp only [Option.map_some]
          cases lookup m (0x10000000 + i) with
          | some v => rfl
          | none =>
            simp only [zeros, Option.getD_none]
            rw [List.getElem?_replicate, if_pos hi]
        · rw [List.getElem?_eq_none (by omega), List.getElem?_eq_none (by simp [bootBytes]; omega)]
      rw [htemp]
      rw [insertMerge_eq_put m _ _ inv (by simp [le32]) (by rw [le32_length]; decide)
        (crcOcc_false_free ho (le32_length _))]

end Trion.Trias
