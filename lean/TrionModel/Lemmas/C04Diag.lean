import TrionModel.Lemmas.C04Prog
import TrionModel.Lemmas.C04Asm
import TrionModel.Lemmas.AsmAdds
/-!
# C04 closed, diagnosed direction: a statement without an encodable meaning, through the pipeline model

An instruction statement goes on after a first attempt that did not complete: it writes placeholder bytes and queues a retry
(`instrPlaceholder`).  `instruction_front` splits the statement into the first attempt and that tail, which never removes
a diagnostic.  So when the front end does not complete the statement to an instruction the encoder accepts (`NotEncoded`,
Lemmas/C04Asm.lean), the statement returns with a diagnostic recorded — the front end's at the first attempt, or
`EncodeError` from `write_instr` (`instr_diag_memK`: at the statement, with its kind).
-/
namespace Trion.C04
open Trion Trion.Front

theorem encoder_err {i : Instr} {e : Codec.EncErr} (h : Codec.encode i = .error e) : ∃ e', Asm.encoder i = .error e' := by
  cases e with
  | unrepresentable => exact ⟨.unrepresentable, by simp [Asm.encoder, Codec.encodeInto, h]⟩
  | overflow a b => exact ⟨.overflow, by simp [Asm.encoder, Codec.encodeInto, h]⟩

theorem arity_fails (A : Nat) (name : Bytes) (args : List Arg) (eval : Arg → EvalOut) (loc : Bool) (t : Instr)
    (hm : mnemonic name = some t) (hn : args.length ≠ (kinds t).length) :
    NotEncoded (build A name args eval loc) :=
  arity_rejected_proof A name args eval loc t hm hn ▸ .of_error _ _

theorem no_meaning_fails {tbl : Asm.Table} (hnd : Asm.Table.NoDef tbl) (hT : tblI64 tbl) (A : Nat) (name : Bytes)
    (args : List Arg) (t : Instr) (hm : mnemonic name = some t) (hw : wellFormed (tabOf tbl) (sig t) args)
    (hq : ∀ vs, denoteAll (tabOf tbl) (sig t) args = some vs → ¬ svQuirk t vs)
    (hno : ∀ i hws, ¬ (means (tabOf tbl) A name args = some i ∧ i.wf ∧ Codec.encode i = .ok hws)) :
    NotEncoded (build A name args (Asm.frontEval tbl) true) :=
  have hn := Asm.Table.nodef_get hnd
  have hTk := tableOk_of_tblI64 hT
  have hE := evalSimp_frontEval tbl
  ⟨build_total hn hE true A name args t hm hw,
   fun i hws hb he => have ⟨h1, h2⟩ := build_sound hn hTk hE true A name args t hm hw i hb hq; hno i hws ⟨h1, h2, he⟩⟩

/-- the tail never removes a diagnostic; an error result has recorded one; `Ok` has changed the segment state and queued
the retry, nothing else.  `hk`, `hok`: what the write does (`writeInstr_addsK` / `writeData_addsK`, `write*_ok`). -/
theorem placeholder_spec {α : Type} {w : Asm.Out (α × Asm.St × Asm.Res)} {task : α → Asm.Task} {st st' : Asm.St} {r : Asm.Res}
    (hk : ∀ x st2 r2, w = .ok (x, st2, r2) → Asm.Keeps st st2 ∧ st.errors.length + r2.isErr.toNat ≤ st2.errors.length)
    (hok : ∀ x st2, w = .ok (x, st2, .ok) → ∃ s', st2 = { st with seg := s' })
    (h : Asm.placeholder w task = .ok (st', r)) :
    Asm.Keeps st st' ∧ st.errors.length ≤ st'.errors.length ∧ (r.isErr = true → st.errors.length + 1 ≤ st'.errors.length) ∧
    (r = .ok → ∀ ts, st.localTasks = some ts → st'.locals = st.locals ∧ st'.errors = st.errors ∧
      ∃ x st2, w = .ok (x, st2, .ok) ∧ st'.localTasks = some (ts ++ [task x])) := by
  unfold Asm.placeholder at h
  cases hw : w with
  | stop s => rw [hw] at h; cases h
  | ok q =>
    obtain ⟨x, st2, r2⟩ := q
    obtain ⟨hk, hg⟩ := hk x st2 r2 hw
    rw [hw] at h
    cases r2 with
    | err lv =>
      simp only at h; cases h
      simp only [Asm.Res.isErr, Bool.toNat_true] at hg
      exact ⟨hk, by omega, fun _ => hg, fun e => by cases e⟩
    | ok =>
      obtain ⟨s', rfl⟩ := hok x st2 hw
      simp only at h
      cases hs : Asm.addTask { st with seg := s' } (task x) .loc with
      | stop s => rw [hs] at h; cases h
      | ok st3 =>
        rw [hs] at h
        cases h
        refine ⟨fun d hd => by rw [Asm.addTask_errs hs]; exact hd, by rw [Asm.addTask_errs hs]; exact Nat.le_refl _,
          fun e => (by cases e), fun _ ts hlt => ?_⟩
        simp only [Asm.addTask, hlt] at hs
        cases hs
        exact ⟨rfl, rfl, x, _, rfl, rfl⟩

abbrev instrPlaceholder (i : Asm.ArmInstr) (st : Asm.St) : Asm.Out (Asm.St × Asm.Res) :=
  Asm.placeholder (i.writeInstr Asm.encoder st true) (.instr · false)

theorem instrPlaceholder_spec {i : Asm.ArmInstr} {st st' : Asm.St} {r : Asm.Res}
    (h : instrPlaceholder i st = .ok (st', r)) :
    Asm.Keeps st st' ∧ st.errors.length ≤ st'.errors.length ∧ (r.isErr = true → st.errors.length + 1 ≤ st'.errors.length) ∧
    (r = .ok → ∀ ts, st.localTasks = some ts → st'.locals = st.locals ∧ st'.errors = st.errors ∧
      ∃ i' : Asm.ArmInstr, st'.localTasks = some (ts ++ [.instr i' false]) ∧ i'.st = i.st) :=
  have ⟨h1, h2, h3, h4⟩ := placeholder_spec
    (fun _ _ _ hw => have a := (Asm.writeInstr_addsK (m := .stmt) ⟨rfl, rfl, rfl⟩ _ _ _ hw).1; ⟨a.keeps, a.length⟩)
    (fun _ _ hw => have ⟨_, s', _, _, _, _, e⟩ := Asm.writeInstr_ok hw; ⟨s', e⟩) h
  ⟨h1, h2, h3, fun e ts hlt =>
    have ⟨a, b, x, _, hw, c⟩ := h4 e ts hlt
    have ⟨_, _, _, _, _, ex, _⟩ := Asm.writeInstr_ok hw
    ⟨a, b, x, c, by rw [ex]⟩⟩

theorem instruction_front (env : Asm.Env) (st : Asm.St) (tbl : Asm.Table) (henv : env.paths ≠ []) (hl : st.locals = some tbl)
    {map : Map.Segs} {seg : Seg.Active} {pending : List (Nat × Nat)} (hs : st.seg = ⟨map, some seg, pending⟩)
    (l c : Nat) (name : Bytes) (args : List Arg) (t : Instr) (hm : mnemonic name = some t) {fs1 : Front.St} {out : Front.Res}
    (hF : Front.assemble ⟨seg.cur, t, 0, args⟩ (Asm.frontEval tbl) true = (fs1, out)) :
    Asm.instruction Asm.encoder env st l c name args =
      match out with
      | .completed =>
        match (⟨env.curName, l, c, fs1, false⟩ : Asm.ArmInstr).writeInstr Asm.encoder st false with
        | .ok (_, st'', r) => .ok (st'', r)
        | .stop r => .stop r
      | .deferred _ => instrPlaceholder ⟨env.curName, l, c, fs1, false⟩ st
      | .error d => instrPlaceholder ⟨env.curName, l, c, fs1, false⟩ (st.pushIn env.curName l c (Asm.frontKind d))
      | .panic => .stop .panic := by
  rw [Asm.instruction_one Asm.encoder env st l c name args (addr := seg.cur) (by simp [Asm.currAddr, hs]) hm]
  simp only [Asm.ArmInstr.assemble, Asm.evalTable, Asm.paths_nonempty henv, hl, Asm.evalPanics_false, Bool.false_eq_true,
    if_false, hF]
  cases out <;> rfl

theorem instruction_of_build (env : Asm.Env) (st : Asm.St) (tbl : Asm.Table)
    (henv : env.paths ≠ []) (hl : st.locals = some tbl) (l c : Nat) (name : Bytes) (args : List Arg)
    (map : Map.Segs) (seg : Seg.Active) (pending : List (Nat × Nat)) (hs : st.seg = ⟨map, some seg, pending⟩)
    (i : Instr) (hb : build seg.cur name args (Asm.frontEval tbl) true = .completed i) :
    ∃ fst : Front.St, fst.instr = i ∧ Asm.instruction Asm.encoder env st l c name args =
      match Asm.ArmInstr.writeInstr Asm.encoder ⟨env.curName, l, c, fst, false⟩ st false with
      | .ok (_, st'', r) => .ok (st'', r)
      | .stop r => .stop r := by
  cases hm : mnemonic name with
  | none => simp [build, hm] at hb
  | some t =>
    obtain ⟨fst, hF, hi⟩ := (Front.build_completed_assemble hm).1 hb
    exact ⟨fst, hi, instruction_front env st tbl henv hl hs l c name args t hm hF⟩

/-- the kind of the diagnostic an instruction statement records when its first attempt `b` gives no encodable instruction:
the encoder's refusal of the completed instruction, or `frontKind` of the front end's own diagnostic -/
def InstrKind (b : BuildOut) (k : Asm.Kind) : Prop :=
  (∃ i e', b = .completed i ∧ k = .instrAssemble (.asmEncode e')) ∨ (∃ fd st, b = .error fd st ∧ k = Asm.frontKind fd)

theorem instr_diag_memK (env : Asm.Env) (st : Asm.St) (tbl : Asm.Table)
    (henv : env.paths ≠ []) (hl : st.locals = some tbl) (map : Map.Segs) (seg : Seg.Active) (pending : List (Nat × Nat))
    (hs : st.seg = ⟨map, some seg, pending⟩) (l c : Nat) (name : Bytes) (args : List Arg) (t : Instr)
    (hm : mnemonic name = some t)
    (hne : NotEncoded (build seg.cur name args (Asm.frontEval tbl) true)) :
    ∀ st' r, Asm.instruction Asm.encoder env st l c name args = .ok (st', r) →
      ∃ d ∈ st'.errors, d.file = env.curName ∧ d.line = l ∧ d.col = c ∧
        InstrKind (build seg.cur name args (Asm.frontEval tbl) true) d.kind := by
  intro st' r h
  cases hF : Front.assemble ⟨seg.cur, t, 0, args⟩ (Asm.frontEval tbl) true with
  | mk fs out =>
    have hb := build_front name hm hF
    rw [instruction_front env st tbl henv hl hs l c name args t hm hF] at h
    cases out with
    | completed =>
      simp only at hb h
      cases hce : Codec.encode fs.instr with
      | ok hws => exact absurd hce (hne.refused _ hws hb)
      | error e =>
        obtain ⟨e', he'⟩ := encoder_err hce
        simp only [Asm.ArmInstr.writeInstr, he'] at h
        cases h
        exact ⟨_, List.mem_cons_self, rfl, rfl, rfl, .inl ⟨_, e', hb, rfl⟩⟩
    | deferred c' => rcases hne.total with ⟨j, hj⟩ | ⟨d, s2, hj⟩ <;> (rw [hb] at hj; cases hj)
    | error d =>
      simp only at h
      exact ⟨_, (instrPlaceholder_spec h).1 _ List.mem_cons_self, rfl, rfl, rfl, .inr ⟨d, fs, hb, rfl⟩⟩
    | panic => cases h

end Trion.C04
