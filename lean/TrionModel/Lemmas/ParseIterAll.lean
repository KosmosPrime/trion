import TrionModel.Lemmas.ParseIter
/-!
# `Parser::next` call by call: `do_next`, the drain loop, and the run as a whole — the iterator model
(`Model/ParseIter.lean`) yields call by call what the batch model `all` yields (`Lemmas/ParseAll.lean`)
-/
namespace Trion.Parse

theorem rel_size {lo : LexOut} {s : TState} {ts : List Token} (h : Rel lo s ts) :
    s.size = ts.length + (if lo.err.isSome then 1 else 0) := by
  obtain ⟨q, te, src, se, el, ec⟩ := s
  obtain ⟨ht, he, hk, hso, _, _⟩ := h
  simp only at ht hk hso
  subst ht
  rw [← he]
  cases te with
  | some e =>
    have := hk rfl
    have := hso rfl
    subst_vars
    simp [TState.size, TState.pendErr]
  | none => cases se <;> simp [TState.size, TState.pendErr]

theorem rel_finished {lo : LexOut} {s : TState} (h : Rel lo s []) (hn : lo.err = none) : s.finished := by
  obtain ⟨q, te, src, se, el, ec⟩ := s
  obtain ⟨ht, he, _, _, _, _⟩ := h
  simp only at ht
  obtain ⟨rfl, rfl⟩ := List.append_eq_nil_iff.1 ht
  rw [hn] at he
  cases te with
  | some e => simp [TState.pendErr] at he
  | none =>
    simp only [TState.pendErr] at he
    subst he
    exact ⟨rfl, rfl, rfl, rfl⟩

theorem nextInnerDiscard_sim {lo : LexOut} {α : Type} {s : TState} {ts : List Token} (h : Rel lo s ts) (x : α) :
    Sim lo ((nextInnerS "';'" s).bind fun _ s3 => SRes.ok x s3)
      ((nextInner lo "';'" ts).bind fun r3 => Res.ok (x, r3)) := by
  cases ts with
  | nil =>
    obtain ⟨s', hs⟩ := nextInner_nil h "';'"
    simp only [hs, SRes.bind, nextInner, Res.bind]
    exact ⟨s', rfl⟩
  | cons t r =>
    obtain ⟨s', hs, hr⟩ := nextInner_cons h "';'"
    simp only [hs, SRes.bind, nextInner, Res.bind]
    exact ⟨s', rfl, hr⟩

theorem stmtTail_sim {lo : LexOut} {s : TState} {ts : List Token} (h : Rel lo s ts) (mk : Args → Element) :
    Sim lo (stmtTailS s mk)
      ((args lo ts).bind fun p => (nextInner lo "';'" p.2).bind fun r3 => .ok (mk p.1, r3)) := by
  unfold stmtTailS args
  have : s.stream = ts := h.toks
  rw [this]
  exact sim_bind ((refAt lo _).args s ts h) (fun as r' s' hr' => nextInnerDiscard_sim hr' _)

theorem doNext_sim {lo : LexOut} {s : TState} (t : Token) {r : List Token} (h : Rel lo s r) :
    Sim lo (doNextS (.ok t) s) (element lo t r) := by
  obtain ⟨l, c, v⟩ := t
  unfold doNextS element
  cases v <;> simp only [] <;> try exact sim_err _ _
  · -- directive
    cases r with
    | nil =>
      cases hn : lo.err with
      | none =>
        obtain ⟨_, s1, hp, hr1⟩ := end_none h hn
        simp only [hp, endErr, hn, eofErrS_eq hr1]
        exact sim_err _ _
      | some e =>
        obtain ⟨⟨s1, hp⟩, _⟩ := end_err h hn
        simp only [hp, endErr, hn]
        exact sim_err _ _
    | cons t1 r1 =>
      obtain ⟨s1, hp, hr1⟩ := pop_cons h
      obtain ⟨l1, c1, v1⟩ := t1
      simp only [hp]
      cases v1 <;> simp only [] <;> try exact sim_err _ _
      exact stmtTail_sim hr1 _
  · -- identifier: label or instruction
    cases r with
    | nil =>
      cases hn : lo.err with
      | none =>
        obtain ⟨⟨s1, hp, hr1⟩, _⟩ := end_none h hn
        simp only [hp, eofErrS_eq hr1]
        exact sim_err _ _
      | some e =>
        obtain ⟨_, s1, hp, _, hpop⟩ := end_err h hn
        simp only [hp]
        exact takeErr_sim _ hpop
    | cons t1 r1 =>
      obtain ⟨s1, hp, hr1⟩ := peek_cons h
      obtain ⟨s2, hp2, hr2⟩ := pop_cons hr1
      simp only [hp]
      by_cases hlm : t1.val = .labelMark
      · simp only [if_pos hlm, hp2]; exact sim_ok hr2
      · simp only [if_neg hlm]; exact stmtTail_sim hr1 _

theorem pop_cases (s : TState) :
    (s.finished ∧ s.pop = (none, s)) ∨ ∃ x s1, s.pop = (some x, s1) ∧ s1.size + 1 = s.size := by
  obtain ⟨q, te, src, se, el, ec⟩ := s
  cases q with
  | cons t q => exact .inr ⟨_, _, rfl, by simp only [TState.size, List.length_cons]; omega⟩
  | nil =>
    cases te with
    | some e => exact .inr ⟨_, _, rfl, by simp [TState.size]; omega⟩
    | none =>
      cases src with
      | cons t r => exact .inr ⟨_, _, rfl, by simp only [TState.size, List.length_cons]; omega⟩
      | nil =>
        cases se with
        | some e => exact .inr ⟨_, _, rfl, by simp [TState.size]⟩
        | none => exact .inl ⟨⟨rfl, rfl, rfl, rfl⟩, rfl⟩

theorem drain_finishes : ∀ n (s : TState), s.size < n → ∃ s', drainF n s = some s' ∧ s'.finished := by
  intro n
  induction n with
  | zero => intro s h; omega
  | succ n ih =>
    intro s h
    rcases pop_cases s with ⟨hf, hp⟩ | ⟨x, s1, hp, hsz⟩
    · exact ⟨s, by simp only [drainF, hp], hf⟩
    · simp only [drainF, hp]
      exact ih s1 (by omega)

/-- `clear(); while next().is_some() {}` leaves nothing, whatever the look-ahead held -/
theorem clear_drain (s : TState) : ∃ s', drainF (s.clear.size + 1) s.clear = some s' ∧ s'.finished :=
  drain_finishes _ _ (Nat.lt_succ_self _)

theorem pop_finished {s : TState} (h : s.finished) : s.pop = (none, s) := by
  obtain ⟨q, te, src, se, el, ec⟩ := s
  obtain ⟨rfl, rfl, rfl, rfl⟩ := h
  rfl

theorem pop_none_finished {s s1 : TState} (h : s.pop = (none, s1)) : s1 = s ∧ s.finished := by
  rcases pop_cases s with ⟨hf, hp⟩ | ⟨x, s1', hp, _⟩ <;> rw [hp] at h <;> cases h
  exact ⟨rfl, hf⟩

theorem next_finished {s : TState} (h : s.finished) : next s = .done s := by
  unfold next
  rw [pop_finished h]

theorem calls_finished (k : Nat) {s : TState} (h : s.finished) : calls k s = some (List.replicate k none, s) := by
  induction k with
  | zero => rfl
  | succ k ih => simp [calls, next_finished h, ih, List.replicate_succ]

theorem next_ok {lo : LexOut} {s : TState} {t : Token} {r r' : List Token} {el : Element} (h : Rel lo s (t :: r))
    (he : element lo t r = .ok (el, r')) : ∃ s', next s = .item (.ok el) s' ∧ Rel lo s' r' := by
  obtain ⟨s1, hp, hr1⟩ := pop_cons h
  have hsim := doNext_sim t hr1
  rw [he] at hsim
  obtain ⟨s2, hx, hr2⟩ := hsim
  exact ⟨s2, by simp only [next, hp, hx], hr2⟩

theorem next_stops {lo : LexOut} {s : TState} {left : List Token} {err : Option ParseErr} (h : Rel lo s left)
    (hst : Stops lo left err) :
    match (generalizing := false) err with
    | none => next s = .done s ∧ s.finished
    | some e => ∃ s', next s = .item (.error e) s' ∧ s'.finished := by
  cases left with
  | nil =>
    cases hst
    cases hn : lo.err with
    | none =>
      have hf := rel_finished h hn
      exact ⟨next_finished hf, hf⟩
    | some e =>
      obtain ⟨⟨s1, hp⟩, _⟩ := end_err h hn
      obtain ⟨s', hd, hf⟩ := clear_drain s1
      exact ⟨s', by simp only [next, hp, doNextS, hd], hf⟩
  | cons t r =>
    obtain ⟨e, he, rfl⟩ := hst
    obtain ⟨s1, hp, hr1⟩ := pop_cons h
    have hsim := doNext_sim t hr1
    rw [he] at hsim
    obtain ⟨s2, hx⟩ := hsim
    obtain ⟨s', hd, hf⟩ := clear_drain s2
    exact ⟨s', by simp only [next, hp, hx, hd], hf⟩

theorem calls_run {lo : LexOut} {ts : List Token} {els : List Element} {left : List Token} {err : Option ParseErr}
    (hs : Segs lo ts els left) (hst : Stops lo left err) (k : Nat) : ∀ s, Rel lo s ts →
    ∃ sf, sf.finished ∧ calls (els.length + 1 + k) s =
      some (els.map (fun e => some (.ok e)) ++ [err.map .error] ++ List.replicate k none, sf) := by
  induction hs with
  | nil ts =>
    intro s hr
    have hspec := next_stops hr hst
    rw [show ([] : List Element).length + 1 + k = k + 1 by simp [Nat.add_comm]]
    cases err with
    | none => exact ⟨s, hspec.2, by simp [calls, hspec.1, calls_finished k hspec.2]⟩
    | some e =>
      obtain ⟨s', hnext, hf⟩ := hspec
      exact ⟨s', hf, by simp [calls, hnext, calls_finished k hf]⟩
  | cons t seg r' el els left he _ ih =>
    intro s hr
    obtain ⟨s', hnext, hr'⟩ := next_ok hr he
    obtain ⟨sf, hf, hc⟩ := ih hst s' hr'
    refine ⟨sf, hf, ?_⟩
    rw [show (el :: els).length + 1 + k = (els.length + 1 + k) + 1 by simp only [List.length_cons]; omega]
    simp [calls, hnext, hc]

theorem calls_prefix : ∀ (a : Nat) {b : Nat} {s : TState} {l : List (Option (Except ParseErr Element))} {sf : TState},
    calls (a + b) s = some (l, sf) → ∃ s', calls a s = some (l.take a, s') := by
  intro a
  induction a with
  | zero => intro b s l sf _; exact ⟨s, rfl⟩
  | succ a ih =>
    intro b s l sf h
    rw [Nat.add_right_comm] at h
    simp only [calls] at h ⊢
    cases hn : next s with
    | item x s1 =>
      simp only [hn] at h ⊢
      cases hc : calls (a + b) s1 with
      | none => rw [hc] at h; cases h
      | some p =>
        rw [hc] at h
        cases h
        obtain ⟨s', hs'⟩ := ih hc
        exact ⟨s', by rw [hs']; rfl⟩
    | done s1 =>
      simp only [hn] at h ⊢
      cases hc : calls (a + b) s1 with
      | none => rw [hc] at h; cases h
      | some p =>
        rw [hc] at h
        cases h
        obtain ⟨s', hs'⟩ := ih hc
        exact ⟨s', by rw [hs']; rfl⟩
    | panic => rw [hn] at h; cases h
    | fuel => rw [hn] at h; cases h

/-- The invariant of a run of `next()` calls over `lo` (it holds of `TState.init lo` and every call keeps it: `reach_new`,
`next_progress_reach`, `Props/C10Parse.lean`): `s` stands for some remaining token list of the batch model, or the tokenizer
has nothing left. -/
def Reach (lo : LexOut) (s : TState) : Prop := (∃ ts, Rel lo s ts) ∨ s.finished

theorem finished_size {s : TState} (h : s.finished) : s.size = 0 := by
  obtain ⟨q, te, src, se, el, ec⟩ := s
  obtain ⟨rfl, rfl, rfl, rfl⟩ := h
  rfl

end Trion.Parse
