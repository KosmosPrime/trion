import TrionModel.Lemmas.C04Diag
import TrionModel.Lemmas.AsmRetrySim
/-!
# C06: an undefined name in an instruction operand — the deferred first attempt and the end-of-file retry

First attempt (`local = true`): `NoSuchVariable n` defers the statement (`Deferred n`), a placeholder is written and a retry is
queued.  Retry (`local = false`, same table): the same name is still undefined, now an error (`Front.assemble_loc_false`,
Lemmas/FrontRetry.lean).
-/
namespace Trion.C04
open Trion Trion.Front Trion.Asm

/-- the diagnostic at once: the placeholder does not fit / is not encodable -/
theorem instr_undef_stmt (env : Asm.Env) (st : Asm.St) (tbl : Asm.Table) (henv : env.paths ≠ [])
    (hl : st.locals = some tbl) (hlt : st.localTasks = some []) (map : Map.Segs) (seg : Seg.Active) (pending : List (Nat × Nat))
    (hs : st.seg = ⟨map, some seg, pending⟩) (l c : Nat) (name : Bytes) (args : List Arg) (t : Instr)
    (hm : mnemonic name = some t) (fs1 : Front.St) (n : Bytes)
    (hdef : Front.assemble ⟨seg.cur, t, 0, args⟩ (Asm.frontEval tbl) true = (fs1, .deferred n)) :
    ∀ st' r, Asm.instruction Asm.encoder env st l c name args = .ok (st', r) →
      st.errors.length + 1 ≤ st'.errors.length ∨
      (r = .ok ∧ st'.locals = some tbl ∧ st'.errors = st.errors ∧
        ∃ i' : Asm.ArmInstr, st'.localTasks = some [.instr i' false] ∧ i'.st = fs1) := by
  intro st' r h
  rw [instruction_front env st tbl henv hl hs l c name args t hm hdef] at h
  obtain ⟨_, _, he, hok⟩ := instrPlaceholder_spec h
  cases r with
  | err lv => exact .inl (he rfl)
  | ok =>
    obtain ⟨h1, h2, i', h3, h4⟩ := hok rfl [] hlt
    exact .inr ⟨rfl, h1.trans hl, h2, i', h3, h4⟩

theorem instr_undef_task (env : Asm.Env) (st : Asm.St) (tbl : Asm.Table) (hnd : Asm.Table.NoDef tbl) (henv : env.paths ≠ [])
    (hl : st.locals = some tbl) (addr : Nat) (t : Instr) (args : List Arg) (fs1 : Front.St) (n : Bytes)
    (hdef : Front.assemble ⟨addr, t, 0, args⟩ (Asm.frontEval tbl) true = (fs1, .deferred n))
    (i' : Asm.ArmInstr) (hi : i'.st = fs1) :
    ∀ st' r, Asm.runTask Asm.encoder env st (.instr i' false) = .ok (st', r) → st.errors.length + 1 ≤ st'.errors.length := by
  intro st' r h
  have hre := Asm.assemble_retry_tables_all (Asm.Table.Sub.refl tbl) hnd addr t args fs1 n hdef false
  have hlf := assemble_loc_false (Asm.frontEval tbl) (fun a c a' => Asm.frontEval_never_deferred hnd a c a') _ fs1 n hdef
  rw [hlf] at hre
  simp only [Asm.runTask, Asm.runInstrTask, Asm.ArmInstr.assemble, Asm.evalTable, Asm.paths_nonempty henv, hl, Asm.evalPanics_false,
    Bool.false_eq_true, if_false, hi, hre] at h
  cases h
  simp

end Trion.C04
