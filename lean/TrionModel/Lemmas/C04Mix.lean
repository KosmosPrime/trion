import TrionModel.Spec.C04Mix
import TrionModel.Lemmas.C04Eval
import TrionModel.Lemmas.FrontRun
/-!
# C04 closed: sums of one register name and numbers (`R1 + 0`, `[R1 + 2 + 3]`, `[4 + R1 + 4]`)

The argument is semantic: `evaluate` preserves the ideal value of a tree under EVERY assignment of integers to the
register names (C08 `evaluate_val`); a sum with one register name has the value `g Rn + c`; the trees the operand reader
accepts have the values `g Rn' + c'`; equality for all `g` forces `Rn' = Rn`, `c' = c`.  The documented forms `[Rn + e]`,
`[e + Rn]` are such sums (`sumForm_regexpr`, `sumForm_exprreg`): their soundness (`mem_sound`, Lemmas/C04Addr.lean) is read
off `accept_mem` like that of the extended forms (Lemmas/C04MixAsm.lean).
-/
namespace Trion.C04
open Trion Trion.Front Trion.Simp

/-- the environment of `T` in which every register name `s` has the value `g s` -/
def envR (T : SymTable) (g : Bytes → Int) : Simp.Env := fun s => if isRegister s then some (g s) else T s

theorem consistent_envR (lk : Bytes → Lookup) (g : Bytes → Int) : consistent lk isRegister (envR (tab lk) g) := by
  intro s v hr hl
  simp [envR, hr, tab, envOf, hl]

theorem valZ_expr (T : SymTable) (g : Bytes → Int) : ∀ x, expr x = true → valZ (envR T g) x = valZ (env T) x := by
  apply Arg.ind
  case const => intro v _; rfl
  case ident => intro s h; simp only [expr, Bool.not_eq_true'] at h; simp [valZ, envR, env, h]
  case str => intro s _; rfl
  case bin => intro op l r ihl ihr h; simp only [expr, Bool.and_eq_true] at h; simp [valZ, ihl h.1, ihr h.2]
  case neg => intro a ih h; simp only [expr] at h; simp [valZ, ih h]
  case not => intro a ih h; simp only [expr] at h; simp [valZ, ih h]
  case addr => intro a _ h; simp [expr] at h
  case seq => intro as h; simp [expr] at h
  case func => intro n as h; simp [expr] at h

theorem value_valZ (T : SymTable) (g : Bytes → Int) {x : Arg} {v : Int} (h : value T x = some v) :
    valZ (envR T g) x = some v := by
  rw [valZ_expr T g x (value_expr T x v h)]
  exact valC_sub_valZ _ _ h

theorem sumForm_expr (T : SymTable) {x : Arg} (h : expr x = true) : sumForm T x = (value T x).map fun v => ([], v) := by
  cases x with
  | ident s => simp only [expr, Bool.not_eq_true'] at h; simp [sumForm, h]
  | bin op l r => cases op <;> simp [sumForm, h]
  | _ => simp [sumForm, h]

theorem sumShaped_of_expr {x : Arg} (h : expr x = true) : sumShaped x = true := by
  cases x with
  | bin op l r => cases op <;> simp [sumShaped, h]
  | ident s => rfl
  | _ => simpa [sumShaped] using h

/-- the documented mixed forms `Rn + e`, `e + Rn` (`e` register-free) as sums with one register name -/
theorem sumForm_regexpr (T : SymTable) {b : Bytes} {e : Arg} (hb : isRegister b = true) (he : expr e = true) :
    sumForm T (.bin .add (.ident b) e) = (value T e).map fun v => ([b], 0 + v) := by
  have hx : expr (.bin .add (.ident b) e) = false := by simp [expr, hb]
  rw [sumForm, hx, if_neg Bool.false_ne_true, sumForm_expr T he, sumForm, if_pos hb]
  cases value T e <;> rfl

theorem sumForm_exprreg (T : SymTable) {b : Bytes} {e : Arg} (hb : isRegister b = true) (he : expr e = true) :
    sumForm T (.bin .add e (.ident b)) = (value T e).map fun v => ([b], v + 0) := by
  have hx : expr (.bin .add e (.ident b)) = false := by simp [expr, hb]
  rw [sumForm, hx, if_neg Bool.false_ne_true, sumForm_expr T he, sumForm, if_pos hb]
  cases value T e <;> rfl

theorem sumForm_ind {T : SymTable} {R : Arg → List Bytes → Int → Prop}
    (free : ∀ x v, expr x = true → value T x = some v → R x [] v)
    (reg : ∀ s, isRegister s = true → R (.ident s) [s] 0)
    (add : ∀ l r a c b d, expr (.bin .add l r) = false → R l a c → R r b d → R (.bin .add l r) (a ++ b) (c + d))
    (sub : ∀ l r a c d, expr (.bin .sub l r) = false → R l a c → R r [] d → R (.bin .sub l r) a (c - d)) :
    ∀ (x : Arg) (rs : List Bytes) (c : Int), sumForm T x = some (rs, c) → R x rs c := by
  have hexpr : ∀ (x : Arg) (rs : List Bytes) (c : Int), expr x = true → sumForm T x = some (rs, c) → R x rs c := by
    intro x rs c he h
    rw [sumForm_expr T he] at h
    simp only [Option.map_eq_some_iff, Prod.mk.injEq] at h
    obtain ⟨v, hv, rfl, rfl⟩ := h
    exact free x v he hv
  apply Arg.ind
  case const => intro v rs c h; exact hexpr _ _ _ rfl h
  case ident =>
    intro s rs c h
    by_cases hr : isRegister s = true
    · simp only [sumForm, hr, if_true, Option.some.injEq, Prod.mk.injEq] at h
      obtain ⟨rfl, rfl⟩ := h
      exact reg s hr
    · exact hexpr _ _ _ (by simp [expr, hr]) h
  case str => intro s rs c h; simp [sumForm, expr] at h
  case bin =>
    intro op l r ihl ihr rs c h
    cases he : expr (.bin op l r) with
    | true => exact hexpr _ _ _ he h
    | false =>
      cases op <;> simp only [sumForm, he, Bool.false_eq_true, if_false] at h <;> try (simp at h; done)
      case add =>
        cases h1 : sumForm T l with
        | none => simp [h1] at h
        | some p =>
          cases h2 : sumForm T r with
          | none => simp [h1, h2] at h
          | some q =>
            obtain ⟨a, c1⟩ := p
            obtain ⟨b, d⟩ := q
            simp only [h1, h2, Option.some.injEq, Prod.mk.injEq] at h
            obtain ⟨rfl, rfl⟩ := h
            exact add l r a c1 b d he (ihl a c1 h1) (ihr b d h2)
      case sub =>
        cases h1 : sumForm T l with
        | none => simp [h1] at h
        | some p =>
          cases h2 : sumForm T r with
          | none => simp [h1, h2] at h
          | some q =>
            obtain ⟨a, c1⟩ := p
            obtain ⟨b, d⟩ := q
            cases b with
            | cons b0 bs => simp [h1, h2] at h
            | nil =>
              simp only [h1, h2, Option.some.injEq, Prod.mk.injEq] at h
              obtain ⟨rfl, rfl⟩ := h
              exact sub l r a c1 d he (ihl a c1 h1) (ihr [] d h2)
  case neg => intro a _ rs c h; by_cases he : expr (.neg a) = true; exact hexpr _ _ _ he h; simp [sumForm, he] at h
  case not => intro a _ rs c h; by_cases he : expr (.not a) = true; exact hexpr _ _ _ he h; simp [sumForm, he] at h
  case addr => intro a _ rs c h; simp [sumForm, expr] at h
  case seq => intro as rs c h; simp [sumForm, expr] at h
  case func => intro n as rs c h; simp [sumForm, expr] at h

theorem sumForm_val (T : SymTable) (g : Bytes → Int) : ∀ (x : Arg) (rs : List Bytes) (c : Int),
    sumForm T x = some (rs, c) → valZ (envR T g) x = some ((rs.map g).sum + c) := by
  apply sumForm_ind
  case free => intro x v _ hv; simp [value_valZ T g hv]
  case reg => intro s hr; simp [valZ, envR, hr]
  case add =>
    intro l r a c b d _ hl hr
    simp only [valZ, hl, hr, liftBin, opZ, List.map_append, List.sum_append]
    congr 1; omega
  case sub =>
    intro l r a c d _ hl hr
    simp only [List.map_nil, List.sum_nil, Int.zero_add] at hr
    simp only [valZ, hl, hr, liftBin, opZ]
    congr 1; omega

theorem sumForm_len (T : SymTable) : ∀ (x : Arg) (rs : List Bytes) (c : Int),
    sumForm T x = some (rs, c) → rs.length = regCount x := by
  apply sumForm_ind
  case free =>
    intro x v he hv
    cases x <;> first | rfl | skip
    case ident s => simp only [expr, Bool.not_eq_true'] at he; simp [regCount, he]
    case bin op l r => cases op <;> simp [regCount, he]
  case reg => intro s hr; simp [regCount, hr]
  case add => intro l r a c b d he hl hr; simp [regCount, he, hl, hr]
  case sub => intro l r a c d he hl _; simp [regCount, he, hl]

theorem sumForm_defined {lk : Bytes → Lookup} (hn : NoDef lk) (hT : Simp.tableOk lk) : ∀ (x : Arg), sumShaped x = true →
    lits x = true → ∀ ev x', evaluate lk isRegister x = .ok (ev, x') → ∃ rs c, sumForm (tab lk) x = some (rs, c) := by
  have hexpr : ∀ (x : Arg), expr x = true → lits x = true → ∀ ev x', evaluate lk isRegister x = .ok (ev, x') →
      ∃ rs c, sumForm (tab lk) x = some (rs, c) := by
    intro x he hl ev x' h
    obtain ⟨v, rfl⟩ := expr_const hn he h
    exact ⟨[], v, by rw [sumForm_expr _ he, evaluate_value hT hl h]; rfl⟩
  apply Arg.ind
  case const => intro v _ hl ev x' h; exact hexpr _ rfl hl ev x' h
  case ident =>
    intro s _ hl ev x' h
    by_cases hr : isRegister s = true
    · exact ⟨[s], 0, by simp [sumForm, hr]⟩
    · exact hexpr _ (by simp [expr, hr]) hl ev x' h
  case str => intro s hs; simp [sumShaped, expr] at hs
  case bin =>
    intro op l r ihl ihr hs hl ev x' h
    by_cases he : expr (.bin op l r) = true
    · exact hexpr _ he hl ev x' h
    · simp only [lits, Bool.and_eq_true] at hl
      rw [evaluate_bin] at h
      cases h1 : evaluate lk isRegister l with
      | ok p =>
        obtain ⟨e1, l'⟩ := p
        cases h2 : evaluate lk isRegister r with
        | ok q =>
          obtain ⟨e2, r'⟩ := q
          cases op
          case add =>
            simp only [sumShaped, he, Bool.false_or, Bool.and_eq_true] at hs
            obtain ⟨a, c1, ha⟩ := ihl hs.1 hl.1 _ _ h1
            obtain ⟨b, d, hb⟩ := ihr hs.2 hl.2 _ _ h2
            exact ⟨a ++ b, c1 + d, by simp [sumForm, he, ha, hb]⟩
          case sub =>
            simp only [sumShaped, he, Bool.false_or, Bool.and_eq_true] at hs
            obtain ⟨a, c1, ha⟩ := ihl hs.1 hl.1 _ _ h1
            obtain ⟨b, d, hb⟩ := hexpr r hs.2 hl.2 _ _ h2
            have hb0 : b = [] := by
              rw [sumForm_expr _ hs.2] at hb
              simp only [Option.map_eq_some_iff, Prod.mk.injEq] at hb
              obtain ⟨v, _, rfl, _⟩ := hb; rfl
            subst hb0
            exact ⟨a, c1 - d, by simp [sumForm, he, ha, hb]⟩
          all_goals (simp [sumShaped, he] at hs)
        | err e => rw [h1, h2] at h; cases h
        | panic => rw [h1, h2] at h; cases h
      | err e => rw [h1] at h; cases h
      | panic => rw [h1] at h; cases h
  case neg => intro a _ hs hl ev x' h; exact hexpr _ (by simpa [sumShaped] using hs) hl ev x' h
  case not => intro a _ hs hl ev x' h; exact hexpr _ (by simpa [sumShaped] using hs) hl ev x' h
  case addr => intro a _ hs; simp [sumShaped, expr] at hs
  case seq => intro as hs; simp [sumShaped, expr] at hs
  case func => intro n as hs; simp [sumShaped, expr] at hs

end Trion.C04

namespace Trion.C04
open Trion Trion.Front Trion.Simp

theorem sum_result {lk : Bytes → Lookup} {x x' : Arg} {ev : Ev} {b : Bytes} {c : Int}
    (he : evaluate lk isRegister x = .ok (ev, x')) (hs : sumForm (tab lk) x = some ([b], c)) (g : Bytes → Int) :
    valZ (envR (tab lk) g) x' = some (g b + c) := by
  have h1 := sumForm_val (tab lk) g x [b] c hs
  simp only [List.map_cons, List.map_nil, List.sum_cons, List.sum_nil, Int.add_zero] at h1
  exact evaluate_val lk isRegister _ (consistent_envR lk g) x ev x' _ he h1

/-! three assignments of integers to the register names that tell sums apart: all 0, all 1, 1 on `b` alone -/

def g0 : Bytes → Int := fun _ => 0
def g1 : Bytes → Int := fun _ => 1
def gI (b : Bytes) : Bytes → Int := fun s => if s = b then 1 else 0

theorem envR_reg (T : SymTable) (g : Bytes → Int) {s : Bytes} (h : isRegister s = true) : envR T g s = some (g s) := by
  simp [envR, h]

theorem valZ_regIdent (T : SymTable) (g : Bytes → Int) {s : Bytes} (h : isRegister s = true) :
    valZ (envR T g) (.ident s) = some (g s) := by simp [valZ, envR, h]

theorem accept_mem {lk : Bytes → Lookup} {x x' : Arg} {ev : Ev} {b : Bytes} {c : Int}
    (he : evaluate lk isRegister x = .ok (ev, x')) (hs : sumForm (tab lk) x = some ([b], c))
    {idx : Nat} {r : Reg} {o : Option ImmReg} (ha : addrOff idx x' = .ok (r, o)) :
    regl b = some r ∧ o = some (.imm c) ∧ inI32 c := by
  have hv := sum_result he hs
  -- `Rn + k = b + c` under every assignment: the assignments `g0` and `gI b` force `k = c` and `Rn = b`
  have hsum : ∀ (a : Bytes) (k : Int) (ra : Reg), regl a = some ra → (∀ g : Bytes → Int, g a + k = g b + c) →
      regl b = some ra ∧ k = c := by
    intro a k ra hra h
    have e0 := h g0; have eb := h (gI b)
    simp only [g0, gI, if_true] at e0 eb
    have hab : a = b := by
      by_cases hne : a = b
      · exact hne
      · rw [if_neg hne] at eb; omega
    subst hab
    exact ⟨hra, by omega⟩
  cases addrOff_ok_iff.1 ha with
  | reg hr =>
    obtain ⟨h1, h2⟩ := hsum _ 0 _ hr fun g => by
      have := hv g; rw [valZ_regIdent _ _ (isRegister_of_regl hr)] at this
      simp only [Option.some.injEq] at this; omega
    exact ⟨h1, by rw [h2], h2 ▸ (by decide)⟩
  | regReg hra hro =>
    exfalso
    have e0 := hv g0; have e1 := hv g1
    simp only [valZ, liftBin, opZ, envR_reg _ _ (isRegister_of_regl hra), envR_reg _ _ (isRegister_of_regl hro)] at e0 e1
    simp only [g0, g1, Option.some.injEq] at e0 e1
    omega
  | @regImm a k _ hk hra =>
    obtain ⟨h1, h2⟩ := hsum a k _ hra fun g => by
      have := hv g
      simp only [valZ, liftBin, opZ, envR_reg _ _ (isRegister_of_regl hra), Option.some.injEq] at this; omega
    exact ⟨h1, by rw [h2], h2 ▸ hk⟩
  | @immReg a k _ hk hra =>
    obtain ⟨h1, h2⟩ := hsum a k _ hra fun g => by
      have := hv g
      simp only [valZ, liftBin, opZ, envR_reg _ _ (isRegister_of_regl hra), Option.some.injEq] at this; omega
    exact ⟨h1, by rw [h2], h2 ▸ hk⟩

theorem accept_reg {lk : Bytes → Lookup} {a a1 : Arg} {ev : Ev} {b : Bytes} {c : Int}
    (he : evaluate lk isRegister a = .ok (ev, a1)) (hs : sumForm (tab lk) a = some ([b], c)) :
    (∀ v, a1 ≠ .const v) ∧ (∀ x1, a1 ≠ .addr x1) ∧
    (∀ s r, a1 = .ident s → regl s = some r → regl b = some r ∧ c = 0) := by
  have hv := sum_result he hs
  refine ⟨fun v h => ?_, fun x1 h => ?_, fun s r h hr => ?_⟩
  · subst h
    have e0 := hv g0; have e1 := hv g1
    simp only [valZ, g0, g1, Option.some.injEq] at e0 e1
    omega
  · subst h
    have e0 := hv g0
    simp [valZ] at e0
  · subst h
    have e0 := hv g0; have eb := hv (gI b)
    rw [valZ_regIdent _ _ (isRegister_of_regl hr)] at e0 eb
    simp only [g0, gI, Option.some.injEq, if_true] at e0 eb
    have hc : c = 0 := by omega
    subst hc
    have : s = b := by
      by_cases hne : s = b
      · exact hne
      · simp [hne] at eb
    subst this
    exact ⟨hr, rfl⟩

end Trion.C04
