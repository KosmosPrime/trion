import TrionModel.Lemmas.C06Dispatch
import TrionModel.Lemmas.C06Run
/-!
# C06 invalid constructs, placeholder-and-retry path: the generic lemma for the LAST statement of the main file

A statement that goes through `assemble → placeholder → task` returns `Ok` even when it has recorded a diagnostic, and an
undefined name is only reported when the queued task runs.  `run_last` (Lemmas/C06Run.lean) is the run-level fact;
`run_last_retry` / `run_last_instr` / `run_last_du` put its hypothesis in the shape the statement-level lemmas deliver.
-/
namespace Trion.C04
open Trion Trion.Asm
open Trion.C06 (envOf incOf)

theorem localLoop_first {env : Asm.Env} {t : Asm.Task} {st0 : Asm.St}
    (ht : ∀ st' r, Asm.runTask Asm.encoder env st0 t = .ok (st', r) → 1 ≤ st'.errors.length) :
    ∀ (k : Nat) (res : Asm.Res) (S2 : Asm.St) (r2 : Asm.Res),
      Asm.localLoop Asm.encoder env (k + 1) [t] st0 res = .ok (S2, r2) → 1 ≤ S2.errors.length := by
  intro k res S2 r2 h
  simp only [Asm.localLoop, List.isEmpty_cons, Bool.false_eq_true, if_false] at h
  cases hr : Asm.localRound Asm.encoder env [t] st0 res with
  | stop s => rw [hr] at h; cases h
  | ok p =>
    obtain ⟨st1, res1⟩ := p
    rw [hr] at h
    have h1 : 1 ≤ st1.errors.length := by
      simp only [Asm.localRound] at hr
      cases hrt : Asm.runTask Asm.encoder env st0 t with
      | stop s => rw [hrt] at hr; cases hr
      | ok q =>
        obtain ⟨st', rr⟩ := q
        have := ht st' rr hrt
        rw [hrt] at hr
        cases rr with
        | ok => simp only at hr; cases hr; exact this
        | err lv =>
          simp only at hr
          split at hr <;> (cases hr; exact this)
    simp only at h
    cases hlt : st1.localTasks with
    | none => rw [hlt] at h; cases h
    | some new =>
      rw [hlt] at h
      simp only at h
      split at h
      · cases h; exact h1
      · have := (Asm.localLoop_grew _ _ _ _ _ _ h).1
        simp only at this
        omega

section
variable {fs : Bytes → Option Bytes} {main data : Bytes} {pre : List Element} {S : Asm.St}

/-- the shape in which the statement-level lemmas deliver "reported at once, or by the retry": the statement records a
diagnostic or queues one task whose run records one -/
theorem run_last_retry (hfs : fs main = some data) {el : Element}
    (h : Reaches fs (Asm.maxDepth - 1) (envOf main) data init2 pre el [] none S) (hq : QuietSt S)
    (hni : ∀ as, el.val ≠ .directive (bytesOf "include") as)
    (hK : ∀ S1 r1, Asm.statement fs Asm.encoder (incOf fs) (envOf main) S el = .ok (S1, r1) →
      S.errors.length + 1 ≤ S1.errors.length ∨
       (r1 = .ok ∧ ∃ t, S1.localTasks = some [t] ∧
          ∀ st' r, Asm.runTask Asm.encoder (envOf main) { S1 with localTasks := some [] } t = .ok (st', r) →
            S1.errors.length + 1 ≤ st'.errors.length)) :
    ∃ o, Asm.run fs main = .done o ∧ o.success = false ∧ o.diags ≠ [] ∧
      ∀ d ∈ o.diags, (d.file = main ∧ d.line = el.line ∧ d.col = el.col) ∧ Asm.pushesC (Asm.Cls.of el.val) d.kind = true :=
  run_last hfs h hq hni fun S1 r1 hX => by
    refine (hK S1 r1 hX).imp (fun h e => by rw [e] at h; simp at h) fun ⟨hr, t, hlt, ht⟩ => ⟨hr, fun tasks st4 r4 htk hl e => ?_⟩
    rw [hlt] at htk
    cases htk
    have := localLoop_first (fun st' r hrt => by have := ht st' r hrt; omega) (Asm.rounds - 1) r1 st4 r4 hl
    rw [e] at this
    simp at this

theorem run_last_instr (hfs : fs main = some data) {l c : Nat} {name : Bytes} {args : Args}
    (h : Reaches fs (Asm.maxDepth - 1) (envOf main) data init2 pre ⟨l, c, .instruction name args⟩ [] none S) (hq : QuietSt S)
    (hact : S.seg.active.isSome = true)
    (hK : ∀ S1 r1, Asm.instruction Asm.encoder (envOf main) S l c name args.toList = .ok (S1, r1) →
      S.errors.length + 1 ≤ S1.errors.length ∨
       (r1 = .ok ∧ ∃ t, S1.localTasks = some [t] ∧
          ∀ st' r, Asm.runTask Asm.encoder (envOf main) { S1 with localTasks := some [] } t = .ok (st', r) →
            S1.errors.length + 1 ≤ st'.errors.length)) :
    ∃ o, Asm.run fs main = .done o ∧ o.success = false ∧ o.diags ≠ [] ∧
      ∀ d ∈ o.diags, (d.file = main ∧ d.line = l ∧ d.col = c) ∧ Asm.pushesC .ins d.kind = true :=
  run_last_retry hfs h hq nofun fun S1 r1 hX =>
    hK S1 r1 (statement_instr fs Asm.encoder (incOf fs) (envOf main) hact l c name args ▸ hX)

theorem run_last_du (hfs : fs main = some data) {l c : Nat} (du : Asm.DU) {dn : Bytes} (hdn : dn = bytesOf du.name) {as : List Arg}
    (h : Reaches fs (Asm.maxDepth - 1) (envOf main) data init2 pre ⟨l, c, .directive dn (Args.ofList as)⟩ [] none S)
    (hq : QuietSt S)
    (hK : ∀ S1 r1, Asm.duDirective du (envOf main) S l c as = .ok (S1, r1) →
      S.errors.length + 1 ≤ S1.errors.length ∨
       (r1 = .ok ∧ ∃ t, S1.localTasks = some [t] ∧
          ∀ st' r, Asm.runTask Asm.encoder (envOf main) { S1 with localTasks := some [] } t = .ok (st', r) →
            S1.errors.length + 1 ≤ st'.errors.length)) :
    ∃ o, Asm.run fs main = .done o ∧ o.success = false ∧ o.diags ≠ [] ∧
      ∀ d ∈ o.diags, (d.file = main ∧ d.line = l ∧ d.col = c) ∧ Asm.pushesC (.dir dn) d.kind = true :=
  run_last_retry hfs h hq
    (fun _ e => by cases e; exact absurd hdn (by cases du <;> decide)) fun S1 r1 hX =>
    hK S1 r1 (statement_du fs Asm.encoder (incOf fs) (envOf main) S l c du hdn as ▸ hX)

end

end Trion.C04
