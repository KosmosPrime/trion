import TrionModel.Lemmas.AsmRetrySim
import TrionModel.Lemmas.SimpArithFwd
/-!
# The retry of `Front.assemble` when the first table has `Deferred` names, for the evaluators of `Asm`

With a `Deferred` name in the table the first attempt is deferred either because `evaluate` stopped at an unknown name or
because it completed AROUND a Deferred name (`EvalOut.deferred`).  Acceptance of the two routes may then differ (overflow;
for an operand at a register / address position that mentions a Deferred name nothing is proved: the `_partial` of
Props/C08Deferred.lean), so the relation carried through `convert!`
is weaker than equality (`Front.assemble_retry_ov`, Lemmas/FrontRetry.lean: whenever one run completes, the other completes
with the same instruction or reports an arithmetic overflow).  Here its hypothesis `Front.GrowsO` for `frontEval`
(`growsO_any`), by the kind of the getter:

* a getter that does not evaluate its operand: nothing to show (`growsO_nonevals`); one that does is of a number or of a
  shape kind (`growsO_noshape`);
* positions that need a number, no condition: `Simp.retry_of_fresh_number` / `fresh_of_retry_number` stated for `evalIn`
  (`evalIn_retry_of_fresh`, `evalIn_fresh_of_retry`: what Props/C08Deferred.lean says of `.du*`), then for the getter, whose
  outcome at such a position is read off `evalIn` (`getLe_number`, `growsO_number`);
* positions where a register or an address may result: the operand mentions no Deferred name of `t₁` (`noDeferredIn`).
  Then the Deferred entries of the table are irrelevant (`Simp.evaluateE_undefer`, Lemmas/SimpRetry.lean), the first attempt
  stopped at an unknown name and the tree it left evaluates like the operand, as over a table without Deferred names
  (`Simp.resumes_noDefIn`, `growsO_noDeferred`).
-/
namespace Trion.Asm
open Trion

theorem frontEval_deferred_eval {t : Table} {a : Arg} {c : Bytes} {a₁ : Arg} (h : frontEval t a = .deferred c a₁) :
    ∃ ev, Simp.evaluateE (fun n => t.get n) Front.isRegister a = .ok ev a₁ := by
  obtain ⟨ev, he, _⟩ := evalIn_deferred_iff.1 (frontEval_deferred_iff.1 h)
  exact ⟨ev, he⟩

theorem leftBy_of_frontEval {t : Table} {a a₁ : Arg}
    (h : (∃ n, frontEval t a = .noSuchVariable n a₁) ∨ (∃ c, frontEval t a = .deferred c a₁)) :
    Simp.LeftBy (fun n => t.get n) Front.isRegister a a₁ := by
  rcases h with ⟨n, h⟩ | ⟨c, h⟩
  · exact .inr ⟨n, frontEval_noSuch_eval h⟩
  · exact .inl (frontEval_deferred_eval h)

theorem evalIn_overflow {t : Table} {x y : Arg} {k : Simp.OvKind}
    (h : Simp.evaluateE (fun n => t.get n) Front.isRegister x = .err (.overflow k) y) :
    evalIn t x = .ok (.err (.overflow k) y) := evalIn_err_iff.2 ⟨_, h, rfl⟩

theorem frontEval_overflow {t : Table} {x y : Arg} {k : Simp.OvKind} (h : evalIn t x = .ok (.err (.overflow k) y)) :
    frontEval t x = .error (.overflow (ovName k)) y := by
  simp only [frontEval, h]

section
variable {t₁ t₂ : Table} (hs : Table.Sub t₁ t₂) (hT : Simp.tableOk (fun n => t₂.get n)) {a a₁ : Arg}
  (hlit : Simp.litsOk a = true) (hl : Simp.LeftBy (fun n => t₁.get n) Front.isRegister a a₁)
include hs hT hlit hl

theorem evalIn_retry_of_fresh {w : Int} (h : evalIn t₂ a = .ok (.complete (.const w))) :
    evalIn t₂ a₁ = .ok (.complete (.const w)) ∨ ∃ k y, evalIn t₂ a₁ = .ok (.err (.overflow k) y) := by
  obtain ⟨ev, e, hc⟩ := evalIn_complete_iff.1 h
  rcases Simp.retry_of_fresh_number (Table.sub_get hs) hT hlit hl e hc with ⟨ev₂, e₂, c₂⟩ | ⟨k, y, e₂⟩
  · exact .inl (evalIn_complete_iff.2 ⟨ev₂, e₂, c₂⟩)
  · exact .inr ⟨k, y, evalIn_overflow e₂⟩

theorem evalIn_fresh_of_retry {v : Int} (h : evalIn t₂ a₁ = .ok (.complete (.const v))) :
    evalIn t₂ a = .ok (.complete (.const v)) ∨ ∃ k y, evalIn t₂ a = .ok (.err (.overflow k) y) := by
  obtain ⟨ev, e, hc⟩ := evalIn_complete_iff.1 h
  rcases Simp.fresh_of_retry_number (Table.sub_get hs) hT hlit hl e hc with ⟨ev₂, e₂, c₂⟩ | ⟨k, y, e₂⟩
  · exact .inl (evalIn_complete_iff.2 ⟨ev₂, e₂, c₂⟩)
  · exact .inr ⟨k, y, evalIn_overflow e₂⟩

end

theorem getLe_number {t : Table} {k : Front.Kind} (hk : k.number = true) (loc : Bool) {pos done : Nat} (hd : done ≤ pos)
    {x y : Arg}
    (h : ∀ w, evalIn t y = .ok (.complete (.const w)) →
      evalIn t x = .ok (.complete (.const w)) ∨ ∃ o z, evalIn t x = .ok (.err (.overflow o) z)) :
    Front.GetLe (Front.get k (frontEval t) loc pos done x) (Front.get k (frontEval t) loc pos done y) := by
  intro v y' d g
  obtain ⟨c, e, n, _, rfl⟩ := Front.get_number_ok hk hd g
  rcases h c (frontEval_complete_iff.1 e) with h₂ | ⟨o, z, h₂⟩
  · exact .inl ⟨_, Front.get_number_intro hk loc hd (frontEval_complete_iff.2 h₂) n⟩
  · exact .inr ⟨z, done, _, Front.get_eval_error (Front.number_evals hk) loc hd (frontEval_overflow h₂), trivial⟩

theorem growsO_number {t₁ t₂ : Table} (hs : Table.Sub t₁ t₂) (hT : Simp.tableOk (fun n => t₂.get n)) {k : Front.Kind}
    (hk : k.number = true) (a : Arg) (hlit : Simp.litsOk a = true) :
    Front.GrowsO k (frontEval t₁) (frontEval t₂) a :=
  ⟨fun _ h => frontEval_complete_mono hs h, fun _ _ hl loc _ _ hd =>
    ⟨getLe_number hk loc hd fun _ => evalIn_retry_of_fresh hs hT hlit (leftBy_of_frontEval hl),
     getLe_number hk loc hd fun _ => evalIn_fresh_of_retry hs hT hlit (leftBy_of_frontEval hl)⟩⟩

theorem growsO_nonevals {t₁ t₂ : Table} (hs : Table.Sub t₁ t₂) {k : Front.Kind} (hk : k.evals = false) (a : Arg) :
    Front.GrowsO k (frontEval t₁) (frontEval t₂) a :=
  ⟨fun a' h => frontEval_complete_mono hs h, fun h => by rw [hk] at h; cases h⟩

theorem growsO_noshape {t₁ t₂ : Table} (hs : Table.Sub t₁ t₂) (hT : Simp.tableOk (fun n => t₂.get n)) {k : Front.Kind}
    (hk : k.shape = false) (a : Arg) (hlit : Simp.litsOk a = true) : Front.GrowsO k (frontEval t₁) (frontEval t₂) a := by
  cases hnum : k.number with
  | true => exact growsO_number hs hT hnum a hlit
  | false =>
    refine growsO_nonevals hs ?_ a
    cases k <;> simp_all [Front.Kind.shape, Front.Kind.number, Front.Kind.evals]

def noDeferredIn (t : Table) (a : Arg) : Bool := Simp.noDefIn (fun n => t.get n) a

theorem growsO_noDeferred {t₁ t₂ : Table} (hs : Table.Sub t₁ t₂) (k : Front.Kind) {a : Arg}
    (ha : noDeferredIn t₁ a = true) : Front.GrowsO k (frontEval t₁) (frontEval t₂) a := by
  refine ⟨fun _ h => frontEval_complete_mono hs h, fun hk a₁ hl loc pos done hd => ?_⟩
  rcases hl with ⟨n, h⟩ | ⟨c, h⟩
  · -- as over a table without Deferred names, the getter on the tree left is the getter on the operand
    have hres := Simp.resumes_noDefIn (isReg := Front.isRegister) (Table.sub_get hs) ha n a₁ (frontEval_noSuch_eval h)
    rw [Front.get_congr hk (frontEval_congr t₂ _ _ (evalIn_forget t₂ _ _ hres)) loc hd]
    exact ⟨Front.GetLe.refl _, Front.GetLe.refl _⟩
  · obtain ⟨ev, he, hc⟩ := evalIn_deferred_iff.1 (frontEval_deferred_iff.1 h)
    rw [Simp.evaluateE_undefer Front.isRegister ha] at he
    rw [Simp.evaluateE_cause_none (Simp.undefer_noDef _) he] at hc
    cases hc

theorem growsO_any {t₁ t₂ : Table} (hs : Table.Sub t₁ t₂) (hT : Simp.tableOk (fun n => t₂.get n)) (k : Front.Kind) (a : Arg)
    (hlit : Simp.litsOk a = true) (hp : k.shape = true → noDeferredIn t₁ a = true) :
    Front.GrowsO k (frontEval t₁) (frontEval t₂) a := by
  cases hsh : k.shape with
  | true => exact growsO_noDeferred hs k (hp hsh)
  | false => exact growsO_noshape hs hT hsh a hlit

end Trion.Asm
