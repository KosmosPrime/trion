import TrionModel.Model.Uf2
/-! The UF2 writer in terms of abstract blocks (`Blk`): the byte layout of an encoded block and what the reader makes
of it, the blocks `write` / `write_all` append, and the image a loader must see of a history of operations. -/
namespace Trion.Uf2

@[simp] theorem le32_length (n : Nat) : (le32 n).length = 4 := rfl
@[simp] theorem zeros_length (n : Nat) : (zeros n).length = n := by simp [zeros]

theorem rd32_le32 (n : Nat) (h : n < 4294967296) (r : List UInt8) : rd32 (le32 n ++ r) = n := by
  simp only [le32, List.cons_append, List.nil_append, rd32, Nat.toUInt8, UInt8.toNat_ofNat']
  omega

@[simp] theorem blockHead_length (cfg : Cfg) (a bl c : Nat) (nf : Bool) : (blockHead cfg a bl c nf).length = 24 := by
  simp [blockHead]

theorem blockTail_length (cfg : Cfg) (b : List UInt8) (h : b.length ≤ 476) : (blockTail cfg b).length = 484 := by
  simp [blockTail]; omega

theorem encodeBlock_length (cfg : Cfg) (a : Nat) (b : List UInt8) (bl c t : Nat) (nf : Bool) (h : b.length ≤ 476) :
    (encodeBlock cfg a b bl c t nf).length = 512 := by
  simp [encodeBlock, blockTail_length cfg b h]

/-- What one call of `encode` stores, the writer's side of a block: target address, the data chunk, declared payload
size, flag, number. (`Block` is what the reader decodes and `toBlock` takes a `Blk` to it; `block : List UInt8` in the
model is the payload, `data` here. The payload size is `Cfg.ps` or the rest rounded up to the alignment; it is `blockLen`
in `encode`, `blen` here, `Block.psize` for the reader.) -/
structure Blk where
  addr : Nat
  data : List UInt8
  blen : Nat
  nf : Bool
  no : Nat

/-- the 512 bytes of `b`; `total` is the total-block-count field (`numBlocks` for the reader): 0 as `encode` leaves it,
the final count after `Drop` -/
def encBlk (cfg : Cfg) (total : Nat) (b : Blk) : List UInt8 :=
  encodeBlock cfg b.addr b.data b.blen b.no total b.nf

/-- what the round trip through the reader (`readBlock_encBlk`) asks of a block: address and number are `u32`s, the data
fits the 476-byte data area (so `encBlk` is 512 bytes), the declared payload size passes the reader's check `≤ 476` -/
def Blk.ok (b : Blk) : Prop :=
  b.addr < 4294967296 ∧ b.data.length ≤ 476 ∧ b.blen ≤ 476 ∧ b.no < 4294967296

/-- the block an independent reader must see -/
def toBlock (cfg : Cfg) (total : Nat) (b : Blk) : Block :=
  { flags := flagsOf cfg b.nf, addr := b.addr, psize := b.blen, blockNo := b.no, numBlocks := total,
    fam := infoOf cfg, data := b.data ++ zeros (476 - b.data.length) }

/-- the family id is a `u32`, so the reader gets it back from its four bytes -/
def Cfg.famOk (cfg : Cfg) : Prop := ∀ f, cfg.fam = some f → f < 4294967296

theorem flagsOf_lt (cfg : Cfg) (nf : Bool) : flagsOf cfg nf < 4294967296 := by
  unfold flagsOf; split <;> split <;> omega

theorem infoOf_lt (cfg : Cfg) (h : cfg.famOk) : infoOf cfg < 4294967296 := by
  unfold infoOf; split
  · omega
  · exact h _ ‹_›

theorem encBlk_length (cfg : Cfg) (t : Nat) (b : Blk) (h : b.ok) : (encBlk cfg t b).length = 512 :=
  encodeBlock_length _ _ _ _ _ _ _ h.2.1

/-- a run of little-endian words followed by `tail` -/
def words (ws : List Nat) (tail : List UInt8) : List UInt8 := ws.foldr (fun w r => le32 w ++ r) tail

theorem drop_words (ws : List Nat) (tail : List UInt8) (k : Nat) (hk : k ≤ ws.length) :
    (words ws tail).drop (4 * k) = words (ws.drop k) tail := by
  induction ws generalizing k with
  | nil => simp at hk; subst hk; simp [words]
  | cons w ws ih =>
    cases k with
    | zero => simp
    | succ k =>
      have : 4 * (k + 1) = 4 + 4 * k := by omega
      rw [this, ← List.drop_drop]
      show ((le32 w ++ words ws tail).drop 4).drop (4 * k) = _
      rw [List.drop_left' (le32_length w), ih k (by simpa using hk)]
      simp

theorem rd32_words (ws : List Nat) (tail : List UInt8) (k w : Nat) (h : ws[k]? = some w) (hw : w < 4294967296) :
    rd32 ((words ws tail).drop (4 * k)) = w := by
  have hk : k < ws.length := by
    rcases Nat.lt_or_ge k ws.length with h' | h'
    · exact h'
    · rw [List.getElem?_eq_none h'] at h; cases h
  rw [drop_words ws tail k (Nat.le_of_lt hk)]
  have : ws.drop k = w :: ws.drop (k + 1) := by
    rw [List.drop_eq_getElem_cons hk]
    congr 1
    rw [List.getElem?_eq_getElem hk] at h
    exact Option.some.inj h
  rw [this]
  exact rd32_le32 w hw _

theorem readBlock_encBlk (cfg : Cfg) (hc : cfg.famOk) (t : Nat) (ht : t < 4294967296) (b : Blk) (h : b.ok) :
    readBlock (encBlk cfg t b) = some (toBlock cfg t b) := by
  obtain ⟨ha, hd, hl, hn⟩ := h
  have hlen := encBlk_length cfg t b ⟨ha, hd, hl, hn⟩
  have hP : (b.data ++ zeros (476 - b.data.length)).length = 476 := by simp; omega
  have hshape : encBlk cfg t b =
      words [0x0A324655, 0x9E5D5157, flagsOf cfg b.nf, b.addr, b.blen, b.no, t, infoOf cfg]
        ((b.data ++ zeros (476 - b.data.length)) ++ le32 0x0AB16F30) := by
    simp [words, encBlk, encodeBlock, blockHead, blockTail, List.append_assoc]
  have hw : ∀ k w, [0x0A324655, 0x9E5D5157, flagsOf cfg b.nf, b.addr, b.blen, b.no, t, infoOf cfg][k]? = some w →
      w < 4294967296 → rd32 ((encBlk cfg t b).drop (4 * k)) = w :=
    fun k w h hlt => by rw [hshape]; exact rd32_words _ _ k w h hlt
  have e0 : rd32 (encBlk cfg t b) = 0x0A324655 := by simpa using hw 0 _ rfl (by decide)
  have e4 : rd32 ((encBlk cfg t b).drop 4) = 0x9E5D5157 := hw 1 _ rfl (by decide)
  have e8 : rd32 ((encBlk cfg t b).drop 8) = flagsOf cfg b.nf := hw 2 _ rfl (flagsOf_lt _ _)
  have e12 : rd32 ((encBlk cfg t b).drop 12) = b.addr := hw 3 _ rfl ha
  have e16 : rd32 ((encBlk cfg t b).drop 16) = b.blen := hw 4 _ rfl (by omega)
  have e20 : rd32 ((encBlk cfg t b).drop 20) = b.no := hw 5 _ rfl hn
  have e24 : rd32 ((encBlk cfg t b).drop 24) = t := hw 6 _ rfl ht
  have e28 : rd32 ((encBlk cfg t b).drop 28) = infoOf cfg := hw 7 _ rfl (infoOf_lt _ hc)
  have e32 : (encBlk cfg t b).drop 32 = (b.data ++ zeros (476 - b.data.length)) ++ le32 0x0AB16F30 := by
    rw [hshape]; exact drop_words _ _ 8 (by simp)
  have e508 : (encBlk cfg t b).drop 508 = le32 0x0AB16F30 := by
    rw [show 508 = 32 + 476 from rfl, ← List.drop_drop, e32, List.drop_left' hP]
  unfold readBlock
  rw [if_pos]
  · simp only [toBlock, e8, e12, e16, e20, e24, e28, e32, Option.some.injEq]
    rw [List.take_left' hP]
  · refine ⟨hlen, e0, e4, ?_, ?_⟩
    · rw [e508]; exact rd32_le32 _ (by decide) []
    · rw [e16]; exact hl

/-- the bytes of a block list, every block with `t` in its total-count field (`encBlk`) -/
def encAll (cfg : Cfg) (t : Nat) : List Blk → List UInt8
  | [] => []
  | b :: r => encBlk cfg t b ++ encAll cfg t r

def AllOk (bl : List Blk) : Prop := ∀ b ∈ bl, b.ok

theorem encAll_append (cfg : Cfg) (t : Nat) (xs ys : List Blk) :
    encAll cfg t (xs ++ ys) = encAll cfg t xs ++ encAll cfg t ys := by
  induction xs with
  | nil => rfl
  | cons b r ih => simp [encAll, ih]

theorem encAll_length (cfg : Cfg) (t : Nat) (bl : List Blk) (h : AllOk bl) :
    (encAll cfg t bl).length = 512 * bl.length := by
  induction bl with
  | nil => rfl
  | cons b r ih =>
    have hb := encBlk_length cfg t b (h b (by simp))
    have := ih (fun x hx => h x (by simp [hx]))
    simp [encAll, hb, this]; omega

theorem readN_encAll (cfg : Cfg) (hc : cfg.famOk) (t : Nat) (ht : t < 4294967296) (bl : List Blk) (h : AllOk bl)
    (rest : List UInt8) :
    readN bl.length (encAll cfg t bl ++ rest) = some (bl.map (toBlock cfg t)) := by
  induction bl with
  | nil => rfl
  | cons b r ih =>
    have hb := encBlk_length cfg t b (h b (by simp))
    have hr := ih (fun x hx => h x (by simp [hx]))
    simp only [encAll, List.length_cons, readN, List.append_assoc]
    rw [List.take_left' hb, List.drop_left' hb, readBlock_encBlk cfg hc t ht b (h b (by simp)), hr]
    rfl

theorem read_encAll (cfg : Cfg) (hc : cfg.famOk) (t : Nat) (ht : t < 4294967296) (bl : List Blk) (h : AllOk bl) :
    read (encAll cfg t bl) = some (bl.map (toBlock cfg t)) := by
  have hl := encAll_length cfg t bl h
  unfold read
  rw [if_pos (by omega), hl, Nat.mul_div_cancel_left _ (by decide : 0 < 512)]
  simpa using readN_encAll cfg hc t ht bl h []

theorem encBlk_split (cfg : Cfg) (t : Nat) (b : Blk) :
    encBlk cfg t b = blockHead cfg b.addr b.blen b.no b.nf ++ (le32 t ++ blockTail cfg b.data) := by
  simp [encBlk, encodeBlock]

/-- `Drop` turns the placeholder total of the last `bl.length` blocks into `t` -/
theorem finishLoop_encAll (cfg : Cfg) (t : Nat) (bl : List Blk) (h : AllOk bl) (X : List UInt8) :
    finishLoop t bl.length (X ++ encAll cfg 0 bl) = .ok (X ++ encAll cfg t bl) := by
  induction bl generalizing X with
  | nil => simp [finishLoop, encAll]
  | cons b r ih =>
    have hr : AllOk r := fun x hx => h x (by simp [hx])
    have hb0 := encBlk_length cfg 0 b (h b (by simp))
    have hlr := encAll_length cfg 0 r hr
    have hT := blockTail_length cfg b.data (h b (by simp)).2.1
    have hlen : (X ++ encAll cfg 0 (b :: r)).length = X.length + 512 * (r.length + 1) := by
      simp [encAll, hb0, hlr]; omega
    simp only [List.length_cons, finishLoop]
    rw [if_neg (by omega), if_neg (by omega), hlen]
    have hbase : X.length + 512 * (r.length + 1) - 512 * (r.length + 1) = X.length := by omega
    rw [hbase]
    have htake : (X ++ encAll cfg 0 (b :: r)).take (X.length + 24) = X ++ blockHead cfg b.addr b.blen b.no b.nf := by
      simp only [encAll, encBlk_split, List.append_assoc]
      rw [← List.append_assoc X, List.take_left' (by simp)]
    have hdrop : (X ++ encAll cfg 0 (b :: r)).drop (X.length + 28) = blockTail cfg b.data ++ encAll cfg 0 r := by
      simp only [encAll, encBlk_split, List.append_assoc]
      rw [← List.append_assoc X, ← List.append_assoc (X ++ _), List.drop_left' (by simp)]
    rw [htake, hdrop]
    have := ih hr (X ++ encBlk cfg t b)
    simp only [encAll, encBlk_split, List.append_assoc] at this ⊢
    exact this

/-- `aligned` of `write_all` -/
def roundUp (n al : Nat) : Nat := if n % al ≠ 0 then n - n % al + al else n

/-- `block_cnt` of `write_all` -/
def ceilDiv (x p : Nat) : Nat := x / p + (if x % p > 0 then 1 else 0)

theorem lt_ceilDiv (x p k : Nat) (hp : 0 < p) : k < ceilDiv x p ↔ k * p < x := by
  unfold ceilDiv
  have hx := Nat.div_add_mod x p
  have hr := Nat.mod_lt x hp
  have hc : p * (x / p) = (x / p) * p := Nat.mul_comm _ _
  rcases Nat.lt_or_ge k (x / p) with h | h
  · have := Nat.mul_le_mul_right p (Nat.succ_le_of_lt h)
    rw [Nat.succ_mul] at this
    split <;> constructor <;> intro _ <;> omega
  · rcases Nat.eq_or_lt_of_le h with h | h
    · subst h
      split <;> constructor <;> intro _ <;> omega
    · have := Nat.mul_le_mul_right p (Nat.succ_le_of_lt h)
      rw [Nat.succ_mul] at this
      split <;> constructor <;> intro _ <;> omega

theorem lt_roundUp (n al m : Nat) (ha : 0 < al) (hm : m % al = 0) : m < roundUp n al ↔ m < n := by
  unfold roundUp
  have hn := Nat.div_add_mod n al
  have hr := Nat.mod_lt n ha
  have hmm := Nat.div_add_mod m al
  rw [hm] at hmm
  split
  · rcases Nat.lt_or_ge (m / al) (n / al + 1) with h | h
    · have := Nat.mul_le_mul_left al (Nat.le_of_lt_succ h)
      constructor <;> intro _ <;> omega
    · have := Nat.mul_le_mul_left al h
      rw [Nat.mul_add] at this
      constructor <;> intro _ <;> omega
  · rfl

theorem roundUp_add (q d al : Nat) (hq : q % al = 0) : roundUp (q + d) al = q + roundUp d al := by
  unfold roundUp
  have : (q + d) % al = d % al := by rw [Nat.add_mod, hq, Nat.zero_add, Nat.mod_mod]
  rw [this]
  have := Nat.mod_le d al
  split <;> omega

theorem roundUp_ge (n al : Nat) (ha : 0 < al) : n ≤ roundUp n al ∧ roundUp n al < n + al := by
  unfold roundUp
  have := Nat.mod_lt n ha
  have := Nat.mod_le n al
  split <;> omega

theorem roundUp_le_of_dvd (n al ps : Nat) (ha : 0 < al) (hps : ps % al = 0) (h : n ≤ ps) : roundUp n al ≤ ps := by
  rcases Nat.lt_or_ge ps (roundUp n al) with h' | h'
  · have := (lt_roundUp n al ps ha hps).mp h'
    omega
  · exact h'

def Cfg.valid (cfg : Cfg) : Prop := 1 ≤ cfg.ps ∧ cfg.ps ≤ 476 ∧ 1 ≤ cfg.al ∧ cfg.ps % cfg.al = 0

theorem encode_ok (st : St) (a : Nat) (blk : List UInt8) (bl : Nat) (nf : Bool)
    (h1 : st.pos + 512 ≤ st.len) (h2 : st.len ≤ 9223372036854775807) (h3 : blk.length ≤ 476)
    (h4 : st.count + 1 ≤ 4294967295) :
    encode st a blk bl nf = .ok { st with
      out := st.out ++ encBlk st.cfg 0 ⟨a, blk, bl, nf, st.count⟩, pos := st.pos + 512, count := st.count + 1 } := by
  unfold encode
  rw [if_neg (by omega), if_neg (by omega), if_neg (by omega), if_neg (by omega)]
  rfl

/-- the blocks `write_all` appends, by recursion on the remaining data: target address `a`, number `no` -/
def allBlks (cfg : Cfg) (nf : Bool) : Nat → List UInt8 → Nat → Nat → List Blk
  | 0, _, _, _ => []
  | f + 1, d, a, no =>
    if d.isEmpty then []
    else ⟨a, d.take cfg.ps, if cfg.ps < d.length then cfg.ps else roundUp d.length cfg.al, nf, no⟩
      :: allBlks cfg nf f (d.drop cfg.ps) (a + cfg.ps) (no + 1)

theorem mul_mod_of_mod (k ps al : Nat) (h : ps % al = 0) : (k * ps) % al = 0 := by
  have : al ∣ ps := Nat.dvd_of_mod_eq_zero h
  exact Nat.mod_eq_zero_of_dvd (Nat.dvd_trans this (Nat.dvd_mul_left _ _))

theorem allBlks_nil (cfg : Cfg) (nf : Bool) (f a no : Nat) : allBlks cfg nf f [] a no = [] := by
  cases f <;> simp [allBlks]

theorem allBlks_cons (cfg : Cfg) (nf : Bool) (f : Nat) {d : List UInt8} (hd : d ≠ []) (a no : Nat) :
    allBlks cfg nf (f + 1) d a no =
      ⟨a, d.take cfg.ps, if cfg.ps < d.length then cfg.ps else roundUp d.length cfg.al, nf, no⟩ ::
        allBlks cfg nf f (d.drop cfg.ps) (a + cfg.ps) (no + 1) := by
  simp only [allBlks, List.isEmpty_eq_false_iff.mpr hd, Bool.false_eq_true, if_false]

theorem allBlks_length_iff (cfg : Cfg) (hps : 1 ≤ cfg.ps) (nf : Bool) (fuel : Nat) :
    ∀ (d : List UInt8) (a no : Nat), d.length ≤ fuel → ∀ k,
      k < (allBlks cfg nf fuel d a no).length ↔ k * cfg.ps < d.length := by
  induction fuel with
  | zero =>
    intro d a no hf k
    have : d.length = 0 := by omega
    simp [allBlks, this]
  | succ f ih =>
    intro d a no hf k
    by_cases hd : d = []
    · subst hd; simp [allBlks]
    · have hdl : 0 < d.length := List.length_pos_iff.mpr hd
      have hdrop : (d.drop cfg.ps).length = d.length - cfg.ps := List.length_drop
      rw [allBlks_cons cfg nf f hd, List.length_cons]
      cases k with
      | zero => simp; exact hdl
      | succ k =>
        have := ih (d.drop cfg.ps) (a + cfg.ps) (no + 1) (by omega) k
        rw [Nat.succ_mul]
        constructor
        · intro h; have := this.mp (by omega); omega
        · intro h; have := this.mpr (by omega); omega

theorem allBlks_getElem (cfg : Cfg) (nf : Bool) (fuel : Nat) :
    ∀ (d : List UInt8) (a no : Nat) (k : Nat) (hk : k < (allBlks cfg nf fuel d a no).length),
      ((allBlks cfg nf fuel d a no)[k]).addr = a + k * cfg.ps ∧
      ((allBlks cfg nf fuel d a no)[k]).data = (d.drop (k * cfg.ps)).take cfg.ps ∧
      ((allBlks cfg nf fuel d a no)[k]).blen =
        (if cfg.ps < d.length - k * cfg.ps then cfg.ps else roundUp (d.length - k * cfg.ps) cfg.al) ∧
      ((allBlks cfg nf fuel d a no)[k]).nf = nf ∧
      ((allBlks cfg nf fuel d a no)[k]).no = no + k ∧
      k * cfg.ps < d.length := by
  induction fuel with
  | zero => intro d a no k hk; simp [allBlks] at hk
  | succ f ih =>
    intro d a no k hk
    by_cases hd : d = []
    · subst hd; simp [allBlks] at hk
    · have heq := allBlks_cons cfg nf f hd a no
      have hdl : 0 < d.length := List.length_pos_iff.mpr hd
      have hdrop : (d.drop cfg.ps).length = d.length - cfg.ps := List.length_drop
      cases k with
      | zero => simp [heq, hdl]
      | succ k =>
        have hk' : k < (allBlks cfg nf f (d.drop cfg.ps) (a + cfg.ps) (no + 1)).length := by
          rw [heq] at hk; simpa using hk
        obtain ⟨i1, i2, i3, i4, i5, i6⟩ := ih (d.drop cfg.ps) (a + cfg.ps) (no + 1) k hk'
        simp only [heq, List.getElem_cons_succ]
        have e1 : (k + 1) * cfg.ps = cfg.ps + k * cfg.ps := by rw [Nat.succ_mul]; omega
        have e2 : d.length - cfg.ps - k * cfg.ps = d.length - (k + 1) * cfg.ps := by omega
        refine ⟨by rw [i1]; omega, ?_, ?_, i4, by rw [i5]; omega, by omega⟩
        · rw [i2, List.drop_drop, e1]
        · rw [i3, hdrop, e2]

theorem allBlks_mem {cfg : Cfg} {nf : Bool} {fuel : Nat} {d : List UInt8} {a no : Nat} {b : Blk}
    (hb : b ∈ allBlks cfg nf fuel d a no) :
    ∃ k, k * cfg.ps < d.length ∧ b.addr = a + k * cfg.ps ∧ b.data.length ≤ cfg.ps ∧
      b.blen = (if cfg.ps < d.length - k * cfg.ps then cfg.ps else roundUp (d.length - k * cfg.ps) cfg.al) ∧
      b.nf = nf ∧ b.no = no + k ∧ k < (allBlks cfg nf fuel d a no).length := by
  obtain ⟨k, hk, rfl⟩ := List.getElem_of_mem hb
  obtain ⟨h1, h2, h3, h4, h5, h6⟩ := allBlks_getElem cfg nf fuel d a no k hk
  exact ⟨k, h6, h1, by rw [h2, List.length_take]; omega, h3, h4, h5, hk⟩

/-- the declared payload size of a chunk with `r > 0` bytes still to go -/
theorem chunkLen_bounds {cfg : Cfg} (hv : cfg.valid) {r : Nat} (hr : 0 < r) :
    1 ≤ (if cfg.ps < r then cfg.ps else roundUp r cfg.al) ∧
    (if cfg.ps < r then cfg.ps else roundUp r cfg.al) ≤ cfg.ps := by
  obtain ⟨hps1, _, hal1, hdiv⟩ := hv
  split
  · omega
  · have := roundUp_ge r cfg.al (by omega)
    have := roundUp_le_of_dvd r cfg.al cfg.ps (by omega) hdiv (by omega)
    omega

theorem allBlks_addr_ge (cfg : Cfg) (nf : Bool) (fuel : Nat) (d : List UInt8) (a no : Nat) :
    ∀ b ∈ allBlks cfg nf fuel d a no, a ≤ b.addr := by
  intro b hb
  obtain ⟨k, _, h, _⟩ := allBlks_mem hb
  omega

theorem allBlks_blen_pos (cfg : Cfg) (hv : cfg.valid) (nf : Bool) (fuel : Nat) (d : List UInt8) (a no : Nat) :
    ∀ b ∈ allBlks cfg nf fuel d a no, 1 ≤ b.blen := by
  intro b hb
  obtain ⟨k, hk, _, _, h, _⟩ := allBlks_mem hb
  rw [h]; exact (chunkLen_bounds hv (by omega)).1

theorem allBlks_range (cfg : Cfg) (hv : cfg.valid) (nf : Bool) (fuel : Nat) (d : List UInt8) (a no : Nat) :
    ∀ b ∈ allBlks cfg nf fuel d a no, a ≤ b.addr ∧ b.addr + b.blen ≤ a + roundUp d.length cfg.al := by
  intro b hb
  obtain ⟨k, hk, h1, _, h3, _⟩ := allBlks_mem hb
  have hal : 0 < cfg.al := hv.2.2.1
  have hsplit : roundUp d.length cfg.al = k * cfg.ps + roundUp (d.length - k * cfg.ps) cfg.al := by
    have := roundUp_add (k * cfg.ps) (d.length - k * cfg.ps) cfg.al (mul_mod_of_mod k _ _ hv.2.2.2)
    rwa [show k * cfg.ps + (d.length - k * cfg.ps) = d.length by omega] at this
  have := roundUp_ge (d.length - k * cfg.ps) cfg.al hal
  rw [h1, h3]
  refine ⟨by omega, ?_⟩
  split <;> omega

theorem allBlks_disjoint (cfg : Cfg) (hv : cfg.valid) (nf : Bool) (fuel : Nat) (d : List UInt8) (a no : Nat) :
    List.Pairwise (fun b c : Blk => b.addr + b.blen ≤ c.addr) (allBlks cfg nf fuel d a no) := by
  rw [List.pairwise_iff_getElem]
  intro i j hi hj hij
  obtain ⟨a1, _, b1, _, _, l1⟩ := allBlks_getElem cfg nf fuel d a no i hi
  obtain ⟨a2, _⟩ := allBlks_getElem cfg nf fuel d a no j hj
  have := (chunkLen_bounds hv (r := d.length - i * cfg.ps) (by omega)).2
  have h : (i + 1) * cfg.ps ≤ j * cfg.ps := Nat.mul_le_mul_right _ hij
  rw [Nat.succ_mul] at h
  rw [a1, b1, a2]; omega

theorem allBlks_ok (cfg : Cfg) (hv : cfg.valid) (nf : Bool) (fuel : Nat) (d : List UInt8) (a no : Nat)
    (ha : a + roundUp d.length cfg.al ≤ 4294967296) (hno : no + (allBlks cfg nf fuel d a no).length ≤ 4294967296) :
    AllOk (allBlks cfg nf fuel d a no) ∧
    ∀ k (h : k < (allBlks cfg nf fuel d a no).length), (allBlks cfg nf fuel d a no)[k].no = no + k := by
  refine ⟨fun b hb => ?_, fun k h => (allBlks_getElem cfg nf fuel d a no k h).2.2.2.2.1⟩
  have hr := allBlks_range cfg hv nf fuel d a no b hb
  have hp := allBlks_blen_pos cfg hv nf fuel d a no b hb
  obtain ⟨k, hk, _, h2, h3, _, h5, hlt⟩ := allBlks_mem hb
  have := (chunkLen_bounds hv (r := d.length - k * cfg.ps) (by omega)).2
  have := hv.2.1
  exact ⟨by omega, by omega, by omega, by omega⟩

theorem lt_cnt (cfg : Cfg) (hv : cfg.valid) (len k : Nat) :
    k < ceilDiv (roundUp len cfg.al) cfg.ps ↔ k * cfg.ps < len := by
  rw [lt_ceilDiv _ _ _ (by have := hv.1; omega), lt_roundUp _ _ _ (by have := hv.2.2.1; omega) (mul_mod_of_mod _ _ _ hv.2.2.2)]

theorem writeLoop_ok (addr len : Nat) (nf : Bool) (fuel : Nat) :
    ∀ (d : List UInt8) (i q : Nat) (st : St), st.cfg.valid → q = i * st.cfg.ps → d.length = len - q →
      (d ≠ [] → q < len) → d.length ≤ fuel →
      addr + roundUp len st.cfg.al ≤ 4294967296 →
      st.pos + 512 * (ceilDiv (roundUp len st.cfg.al) st.cfg.ps - i) ≤ st.len → st.len ≤ 9223372036854775807 →
      st.count + (ceilDiv (roundUp len st.cfg.al) st.cfg.ps - i) ≤ 4294967295 →
      ∃ st', writeLoop addr (roundUp len st.cfg.al) (ceilDiv (roundUp len st.cfg.al) st.cfg.ps) nf i
                (chunksAux st.cfg.ps fuel d) st = .ok st' ∧
        st'.out = st.out ++ encAll st.cfg 0 (allBlks st.cfg nf fuel d (addr + q) st.count) ∧
        st'.cfg = st.cfg ∧ st'.pos = st.pos + 512 * (ceilDiv (roundUp len st.cfg.al) st.cfg.ps - i) ∧
        st'.count = st.count + (ceilDiv (roundUp len st.cfg.al) st.cfg.ps - i) ∧ st'.len = st.len ∧
        st'.isVec = st.isVec ∧
        (allBlks st.cfg nf fuel d (addr + q) st.count).length = ceilDiv (roundUp len st.cfg.al) st.cfg.ps - i := by
  induction fuel with
  | zero =>
    intro d i q st hv hq hd hne hf _ _ _ _
    have hd0 : d = [] := List.eq_nil_of_length_eq_zero (by omega)
    have hcnt : ¬ i < ceilDiv (roundUp len st.cfg.al) st.cfg.ps := by
      rw [lt_cnt st.cfg hv]; subst hd0; simp at hd; omega
    refine ⟨st, ?_⟩
    simp [chunksAux, writeLoop, allBlks, encAll]
    omega
  | succ fuel ih =>
    intro d i q st hv hq hd hne hf haddr hpos hlen hcount
    by_cases hd0 : d = []
    · have hcnt : ¬ i < ceilDiv (roundUp len st.cfg.al) st.cfg.ps := by
        rw [lt_cnt st.cfg hv]; subst hd0; simp at hd; omega
      refine ⟨st, ?_⟩
      subst hd0
      simp [chunksAux, writeLoop, allBlks, encAll]
      omega
    · have hql := hne hd0
      have hdl : 0 < d.length := List.length_pos_iff.mpr hd0
      have hemp : d.isEmpty = false := by simpa using hd0
      obtain ⟨hps1, hps2, hal1, hdiv⟩ := hv
      have hv : st.cfg.valid := ⟨hps1, hps2, hal1, hdiv⟩
      have hru := roundUp_ge len st.cfg.al (by omega)
      have hi : i < ceilDiv (roundUp len st.cfg.al) st.cfg.ps := by rw [lt_cnt st.cfg hv]; omega
      have hi1 : i + 1 < ceilDiv (roundUp len st.cfg.al) st.cfg.ps ↔ st.cfg.ps < d.length := by
        rw [lt_cnt st.cfg hv, Nat.succ_mul]; omega
      have hqal : q % st.cfg.al = 0 := by rw [hq]; exact mul_mod_of_mod _ _ _ hdiv
      have hlast : roundUp len st.cfg.al - q = roundUp d.length st.cfg.al := by
        have : len = q + d.length := by omega
        rw [this, roundUp_add _ _ _ hqal]; omega
      simp only [chunksAux, hemp, Bool.false_eq_true, if_false, writeLoop, loopBody, allBlks]
      rw [if_neg (by simpa using hi), if_neg (by omega), if_neg (by omega), if_neg (by rw [← hq]; omega)]
      have hblen : (if i < ceilDiv (roundUp len st.cfg.al) st.cfg.ps - 1 then st.cfg.ps % 4294967296
            else (roundUp len st.cfg.al - i * st.cfg.ps) % 4294967296) =
          (if st.cfg.ps < d.length then st.cfg.ps else roundUp d.length st.cfg.al) := by
        have hle := roundUp_le_of_dvd d.length st.cfg.al st.cfg.ps (by omega) hdiv
        by_cases hc : st.cfg.ps < d.length
        · rw [if_pos (by omega), if_pos hc]; omega
        · rw [if_neg (by omega), if_neg hc, ← hq, hlast]
          have := hle (by omega); omega
      have hamod : addr + i * st.cfg.ps % 4294967296 = addr + q := by rw [← hq]; omega
      simp only [hblen, hamod]
      have htake : (d.take st.cfg.ps).length ≤ 476 := by simp; omega
      rw [encode_ok st _ _ _ _ (by omega) hlen htake (by omega)]
      simp only
      have hcntpos : ceilDiv (roundUp len st.cfg.al) st.cfg.ps - i = (ceilDiv (roundUp len st.cfg.al) st.cfg.ps - (i + 1)) + 1 := by omega
      obtain ⟨st', h1, h2, h3, h4, h5, h6, h7, h8⟩ := ih (d.drop st.cfg.ps) (i + 1) (q + st.cfg.ps)
        { st with
          out := st.out ++ encBlk st.cfg 0 ⟨addr + q, d.take st.cfg.ps,
                      if st.cfg.ps < d.length then st.cfg.ps else roundUp d.length st.cfg.al, nf, st.count⟩,
          pos := st.pos + 512, count := st.count + 1 }
        hv (by simp only; rw [Nat.succ_mul, hq]) (by simp; omega) (by simp; intro _; omega) (by simp; omega)
        haddr (by simp only; omega) hlen (by simp only; omega)
      dsimp only at h1 h2 h3 h4 h5 h6 h7 h8
      have haa : addr + (q + st.cfg.ps) = addr + q + st.cfg.ps := by omega
      rw [haa] at h2 h8
      refine ⟨st', h1, ?_, h3, ?_, ?_, h6, h7, ?_⟩
      · rw [h2]; simp only [encAll, List.append_assoc]
      · rw [h4]; omega
      · rw [h5]; omega
      · simp only [List.length_cons]; rw [h8]; omega

/-- what holds of the writer between operations (`pos`, `len`, `isVec`: `self.pos`, `dst.len()`, and whether the
destination is the vector, `Model/Uf2.lean`) -/
structure Inv (st : St) : Prop where
  valid : st.cfg.valid
  famOk : st.cfg.famOk
  posLe : st.pos ≤ st.len
  -- `isize::MAX`: no slice or `Vec<u8>` is longer, and `check_write` lets `resize` go no further
  lenLe : st.len ≤ 9223372036854775807
  -- the vector is resized to exactly what an operation then writes, so it is always written at its end
  vec : st.isVec = true → st.pos = st.len
  -- `self.count : u32`
  cnt : st.count ≤ 4294967295
  -- the total-count field is 0: `encode` leaves it to `Drop`, and the model stores 0 there
  blocks : ∃ bl, AllOk bl ∧ st.out = encAll st.cfg 0 bl ∧ bl.length = st.count ∧
    ∀ k (h : k < bl.length), bl[k].no = k

theorem Inv.fresh {cfg : Cfg} (hv : cfg.valid) (hf : cfg.famOk) {pos len : Nat} {isVec : Bool} (h1 : pos ≤ len)
    (h2 : len ≤ 9223372036854775807) (h3 : isVec = true → pos = len) : Inv ⟨cfg, [], pos, 0, len, isVec⟩ :=
  ⟨hv, hf, h1, h2, h3, Nat.zero_le _, [], (fun _ h => by cases h), rfl, rfl, (fun _ h => by cases h)⟩

/-- `st'` is `st` with the blocks `new` appended -/
structure Extends (st st' : St) (new : List Blk) : Prop where
  cfg : st'.cfg = st.cfg
  out : st'.out = st.out ++ encAll st.cfg 0 new
  count : st'.count = st.count + new.length
  isVec : st'.isVec = st.isVec
  ok : AllOk new
  no : ∀ k (h : k < new.length), new[k].no = st.count + k

theorem Extends.refl (st : St) : Extends st st [] :=
  ⟨rfl, by simp [encAll], by simp, rfl, by simp [AllOk], by simp⟩

theorem Extends.trans {a b c : St} {x y : List Blk} (h1 : Extends a b x) (h2 : Extends b c y) :
    Extends a c (x ++ y) := by
  refine ⟨by rw [h2.cfg, h1.cfg], ?_, ?_, by rw [h2.isVec, h1.isVec], ?_, ?_⟩
  · rw [h2.out, h1.out, h1.cfg, encAll_append, List.append_assoc]
  · rw [h2.count, h1.count, List.length_append]; omega
  · intro b hb
    exact (List.mem_append.mp hb).elim (h1.ok b) (h2.ok b)
  · intro k hk
    rcases Nat.lt_or_ge k x.length with h | h
    · rw [List.getElem_append_left h]; exact h1.no k h
    · rw [List.getElem_append_right h, h2.no (k - x.length) (by rw [List.length_append] at hk; omega), h1.count]
      omega

theorem Inv.extend {st st' : St} {new : List Blk} (hI : Inv st) (hE : Extends st st' new)
    (hpos : st'.pos ≤ st'.len) (hlen : st'.len ≤ 9223372036854775807) (hvec : st'.isVec = true → st'.pos = st'.len)
    (hcnt : st'.count ≤ 4294967295) : Inv st' := by
  obtain ⟨bl, hbl, hout, hlenb, hno⟩ := hI.blocks
  refine ⟨by rw [hE.cfg]; exact hI.valid, by rw [hE.cfg]; exact hI.famOk, hpos, hlen, hvec, hcnt, bl ++ new, ?_, ?_, ?_, ?_⟩
  · intro b hb
    rcases List.mem_append.mp hb with h | h
    · exact hbl b h
    · exact hE.ok b h
  · rw [hE.out, hE.cfg, hout, encAll_append]
  · rw [List.length_append, hlenb, hE.count]
  · intro k hk
    rcases Nat.lt_or_ge k bl.length with h | h
    · rw [List.getElem_append_left h]; exact hno k h
    · rw [List.getElem_append_right h]
      have := hE.no (k - bl.length) (by rw [List.length_append] at hk; omega)
      rw [this, hlenb] ; omega

theorem checkWrite_cases (st : St) (n : Nat) (hpos : st.pos ≤ st.len) (hlen : st.len ≤ 9223372036854775807)
    (hvec : st.isVec = true → st.pos = st.len) :
    (∃ e, checkWrite st n = .err e ∧
        (if st.isVec then 9223372036854775807 - st.pos < n else st.len - st.pos < n)) ∨
    (∃ l, checkWrite st n = .ok { st with len := l } ∧ st.pos + n ≤ l ∧ l ≤ 9223372036854775807 ∧
        (st.isVec = true → l = st.pos + n) ∧ (st.isVec = false → l = st.len) ∧
        ¬ (if st.isVec then 9223372036854775807 - st.pos < n else st.len - st.pos < n)) := by
  unfold checkWrite
  rw [if_neg (by omega)]
  cases hv : st.isVec with
  | true =>
    have := hvec hv
    simp only [if_true]
    by_cases h1 : st.len - st.pos < n
    · rw [if_pos h1, if_neg (by omega)]
      by_cases h2 : 9223372036854775807 - st.pos < n
      · rw [if_pos h2]; exact .inl ⟨_, rfl, h2⟩
      · rw [if_neg h2]; exact .inr ⟨st.pos + n, rfl, by omega, by omega, fun _ => rfl, by simp, h2⟩
    · rw [if_neg h1]
      refine .inr ⟨st.len, ?_, by omega, hlen, fun _ => by omega, fun _ => rfl, by omega⟩
      cases st; simp only at hv; subst hv; rfl
  | false =>
    simp only [Bool.false_eq_true, if_false]
    by_cases h1 : st.len - st.pos < n
    · rw [if_pos h1]; exact .inl ⟨_, rfl, h1⟩
    · rw [if_neg h1]
      refine .inr ⟨st.len, ?_, by omega, hlen, by simp, fun _ => rfl, h1⟩
      cases st; simp only at hv; subst hv; rfl

/-- the block `write` appends -/
def writeBlks (st : St) (addr : Nat) (block : List UInt8) (nf : Bool) : List Blk :=
  if block.isEmpty then [] else [⟨addr, block, st.cfg.ps, nf, st.count⟩]

/-- why `write` rejects -/
def WriteRejects (st : St) (block : List UInt8) : Prop :=
  block ≠ [] ∧ (block.length % st.cfg.al ≠ 0 ∨ block.length > st.cfg.ps ∨ st.count = 4294967295 ∨
    (if st.isVec then 9223372036854775807 - st.pos < 512 else st.len - st.pos < 512))

theorem write_spec (st : St) (hI : Inv st) (addr : Nat) (ha : addr < 4294967296) (block : List UInt8) (nf : Bool) :
    (∃ st', write st addr block nf = (st', .ok ()) ∧ Inv st' ∧ Extends st st' (writeBlks st addr block nf) ∧
        ¬ WriteRejects st block) ∨
    (∃ e, write st addr block nf = (st, .err e) ∧ WriteRejects st block) := by
  obtain ⟨hps1, hps2, hal1, hdiv⟩ := hI.valid
  unfold write
  by_cases hb : block = []
  · subst hb
    exact .inl ⟨st, by simp, hI, Extends.refl st, by simp [WriteRejects]⟩
  · have hemp : block.isEmpty = false := by simpa using hb
    rw [hemp]
    simp only [Bool.false_eq_true, if_false]
    rw [if_neg (by omega)]
    by_cases h1 : block.length % st.cfg.al ≠ 0
    · rw [if_pos h1]; exact .inr ⟨_, rfl, hb, .inl h1⟩
    rw [if_neg h1]
    by_cases h2 : block.length > st.cfg.ps
    · rw [if_pos h2]; exact .inr ⟨_, rfl, hb, .inr (.inl h2)⟩
    rw [if_neg h2]
    by_cases hcnt : st.count = 4294967295
    · rw [if_pos hcnt]; exact .inr ⟨_, rfl, hb, .inr (.inr (.inl hcnt))⟩
    rw [if_neg hcnt]
    rcases checkWrite_cases st 512 hI.posLe hI.lenLe hI.vec with ⟨e, he, hc⟩ | ⟨l, hl, hl1, hl2, hl3, hl4, hc⟩
    · rw [he]; exact .inr ⟨_, rfl, hb, .inr (.inr (.inr hc))⟩
    · rw [hl]
      dsimp only
      have hnr : ¬ WriteRejects st block := by
        intro ⟨_, h⟩; rcases h with h | h | h | h
        · exact h1 h
        · exact h2 h
        · exact hcnt h
        · exact hc h
      · have hcl := hI.cnt
        rw [encode_ok { st with len := l } addr block _ nf (by simp only; omega) (by simp only; omega) (by omega)
          (by simp only; omega)]
        dsimp only
        have hmod : st.cfg.ps % 4294967296 = st.cfg.ps := by omega
        rw [hmod]
        have hE : Extends st
            { st with
              len := l, out := st.out ++ encBlk st.cfg 0 ⟨addr, block, st.cfg.ps, nf, st.count⟩,
              pos := st.pos + 512, count := st.count + 1 } (writeBlks st addr block nf) := by
          refine ⟨rfl, ?_, ?_, rfl, ?_, ?_⟩
          · simp [writeBlks, hemp, encAll]
          · simp [writeBlks, hemp]
          · intro b hb'
            simp [writeBlks, hemp] at hb'
            subst hb'
            exact ⟨ha, by simp only; omega, by simp only; omega, by simp only; omega⟩
          · intro k hk
            simp [writeBlks, hemp] at hk ⊢
            exact hk
        refine .inl ⟨_, rfl, ?_, hE, hnr⟩
        refine hI.extend hE (by simp only; omega) (by simp only; omega) ?_ (by simp only; omega)
        simp only
        intro hv
        have := hl3 hv
        omega

theorem roundUp_zero (al : Nat) : roundUp 0 al = 0 := by simp [roundUp]

/-- why `write_all` rejects -/
def WriteAllRejects (st : St) (addr : Nat) (data : List UInt8) : Prop :=
  data ≠ [] ∧
    ((data.length % st.cfg.al ≠ 0 ∧ 18446744073709551615 - data.length < st.cfg.al - data.length % st.cfg.al) ∨
     4294967296 < addr + roundUp data.length st.cfg.al ∨
     4294967295 - st.count < ceilDiv (roundUp data.length st.cfg.al) st.cfg.ps ∨
     (if st.isVec then 9223372036854775807 - st.pos < ceilDiv (roundUp data.length st.cfg.al) st.cfg.ps * 512
      else st.len - st.pos < ceilDiv (roundUp data.length st.cfg.al) st.cfg.ps * 512))

/-- the blocks `write_all` appends -/
def writeAllBlks (st : St) (addr : Nat) (data : List UInt8) (nf : Bool) : List Blk :=
  allBlks st.cfg nf data.length data addr st.count

theorem writeAll_spec (st : St) (hI : Inv st) (addr : Nat) (ha : addr < 4294967296) (data : List UInt8) (nf : Bool) :
    (∃ st', writeAll st addr data nf = (st', .ok (writeAllBlks st addr data nf).length) ∧ Inv st' ∧
        Extends st st' (writeAllBlks st addr data nf) ∧ ¬ WriteAllRejects st addr data) ∨
    (∃ e, writeAll st addr data nf = (st, .err e) ∧ WriteAllRejects st addr data) := by
  obtain ⟨hps1, hps2, hal1, hdiv⟩ := hI.valid
  have hv := hI.valid
  unfold writeAll
  by_cases hb : data = []
  · subst hb
    exact .inl ⟨st, by simp [writeAllBlks, allBlks], hI, Extends.refl st, by simp [WriteAllRejects]⟩
  · have hemp : data.isEmpty = false := by simpa using hb
    have hdl : 0 < data.length := List.length_pos_iff.mpr hb
    rw [hemp]
    simp only [Bool.false_eq_true, if_false]
    rw [if_neg (by omega)]
    have hcl := hI.cnt
    have hal : (if data.length % st.cfg.al ≠ 0 then data.length - data.length % st.cfg.al + st.cfg.al else data.length)
        = roundUp data.length st.cfg.al := rfl
    have hcd : ∀ x p : Nat, x / p + (if x % p > 0 then 1 else 0) = ceilDiv x p := fun _ _ => rfl
    simp only [hal, hcd]
    by_cases h1 : data.length % st.cfg.al ≠ 0 ∧ 18446744073709551615 - data.length < st.cfg.al - data.length % st.cfg.al
    · rw [if_pos h1]; exact .inr ⟨_, rfl, hb, .inl h1⟩
    rw [if_neg h1]
    have hru := roundUp_ge data.length st.cfg.al (by omega)
    by_cases h2 : 4294967295 - addr < roundUp data.length st.cfg.al - 1
    · rw [if_pos h2]; exact .inr ⟨_, rfl, hb, .inr (.inl (by omega))⟩
    rw [if_neg h2, if_neg (by omega)]
    by_cases h3 : ceilDiv (roundUp data.length st.cfg.al) st.cfg.ps > 4294967295 ∨
        4294967295 - st.count < ceilDiv (roundUp data.length st.cfg.al) st.cfg.ps
    · rw [if_pos h3]; exact .inr ⟨_, rfl, hb, .inr (.inr (.inl (by omega)))⟩
    rw [if_neg h3, if_neg (by omega)]
    rcases checkWrite_cases st (ceilDiv (roundUp data.length st.cfg.al) st.cfg.ps * 512) hI.posLe hI.lenLe hI.vec with
      ⟨e, he, hc⟩ | ⟨l, hl, hl1, hl2, hl3, hl4, hc⟩
    · rw [he]; exact .inr ⟨_, rfl, hb, .inr (.inr (.inr hc))⟩
    · rw [hl]
      dsimp only
      have hnr : ¬ WriteAllRejects st addr data := by
        intro ⟨_, h⟩; rcases h with h | h | h | h
        · exact h1 h
        · omega
        · omega
        · exact hc h
      obtain ⟨st', w1, w2, w3, w4, w5, w6, w7, w8⟩ := writeLoop_ok addr data.length nf data.length data 0 0
        { st with len := l } hv (by simp) (by simp) (fun _ => hdl) (Nat.le_refl _) (by simp only; omega)
        (by simp only; omega) (by simp only; omega) (by simp only; omega)
      dsimp only at w1 w2 w3 w4 w5 w6 w7 w8
      simp only [Nat.add_zero, Nat.sub_zero] at w1 w2 w4 w5 w8
      unfold chunks
      rw [w1]
      dsimp only
      have hblk : writeAllBlks st addr data nf = allBlks st.cfg nf data.length data addr st.count := rfl
      rw [hblk, w8]
      obtain ⟨o1, o2⟩ := allBlks_ok st.cfg hv nf data.length data addr st.count (by omega) (by rw [w8]; omega)
      have hE : Extends st st' (allBlks st.cfg nf data.length data addr st.count) :=
        ⟨w3, w2, by rw [w5, w8], w7, o1, o2⟩
      refine .inl ⟨st', rfl, ?_, hE, hnr⟩
      refine hI.extend hE (by rw [w4, w6]; omega) (by rw [w6]; exact hl2) ?_ (by rw [w5]; omega)
      intro hvv
      rw [w7] at hvv
      have := hl3 hvv
      rw [w4, w6]; omega

theorem getElem?_pad (d : List UInt8) (n j : Nat) :
    (d ++ zeros n)[j]? = if j < d.length then d[j]? else if j < d.length + n then some 0 else none := by
  by_cases h : j < d.length
  · rw [if_pos h, List.getElem?_append_left h]
  · rw [if_neg h, List.getElem?_append_right (by omega)]
    unfold zeros
    rw [List.getElem?_replicate]
    by_cases h2 : j < d.length + n
    · rw [if_pos h2, if_pos (by omega)]
    · rw [if_neg h2, if_neg (by omega)]

theorem window_pad (d : List UInt8) (m a w x : Nat) (h : w ≤ d.length + m) :
    (if a ≤ x ∧ x < a + w then (d ++ zeros m)[x - a]? else none) =
      if a ≤ x ∧ x < a + w then (if x - a < d.length then d[x - a]? else some 0) else none := by
  by_cases hx : a ≤ x ∧ x < a + w
  · rw [if_pos hx, if_pos hx, getElem?_pad]
    by_cases h1 : x - a < d.length
    · rw [if_pos h1, if_pos h1]
    · rw [if_neg h1, if_neg h1, if_pos (by omega)]
  · rw [if_neg hx, if_neg hx]

/-- the expected content of a write: the data followed by zero padding up to `n` bytes -/
def padded (data : List UInt8) (n : Nat) : List UInt8 := data ++ zeros (n - data.length)

/-- what a loader must see for one write: `padded` at `addr`, nothing elsewhere -/
def expectImage (addr : Nat) (data : List UInt8) (n : Nat) (x : Nat) : Option UInt8 :=
  if addr ≤ x ∧ x < addr + n then (padded data n)[x - addr]? else none

theorem image_nil (x : Nat) : image [] x = none := rfl

theorem image_cons (b : Block) (r : List Block) (x : Nat) :
    image (b :: r) x = match image r x with | some v => some v | none => b.at x := rfl

theorem expectImage_val (a : Nat) (d : List UInt8) (n x : Nat) (h : d.length ≤ n) :
    expectImage a d n x =
      if a ≤ x ∧ x < a + n then (if x - a < d.length then d[x - a]? else some 0) else none :=
  window_pad d (n - d.length) a n x (by omega)

theorem toBlock_at (cfg : Cfg) (t a : Nat) (c : List UInt8) (bl : Nat) (nf : Bool) (no x : Nat)
    (hc : c.length ≤ 476) (hbl : bl ≤ 476) :
    (toBlock cfg t ⟨a, c, bl, nf, no⟩).at x =
      if a ≤ x ∧ x < a + bl then (if x - a < c.length then c[x - a]? else some 0) else none :=
  window_pad c (476 - c.length) a bl x (by omega)

theorem image_writeBlks (st : St) (hv : st.cfg.valid) (addr : Nat) (block : List UInt8) (nf : Bool) (t : Nat)
    (hb : block ≠ []) (hl : block.length ≤ st.cfg.ps) (x : Nat) :
    image ((writeBlks st addr block nf).map (toBlock st.cfg t)) x = expectImage addr block st.cfg.ps x := by
  have := hv.2.1
  simp only [writeBlks, List.isEmpty_eq_false_iff.mpr hb, Bool.false_eq_true, if_false, List.map_cons, List.map_nil,
    image_cons, image_nil]
  rw [toBlock_at _ _ _ _ _ _ _ _ (by omega) (by omega), expectImage_val _ _ _ _ hl]

theorem image_allBlks (cfg : Cfg) (hv : cfg.valid) (nf : Bool) (t : Nat) (fuel : Nat) :
    ∀ (d : List UInt8) (a no : Nat), d.length ≤ fuel → ∀ x,
      image ((allBlks cfg nf fuel d a no).map (toBlock cfg t)) x = expectImage a d (roundUp d.length cfg.al) x := by
  obtain ⟨hps1, hps2, hal1, hdiv⟩ := hv
  have hnilcase : ∀ a x, expectImage a [] (roundUp 0 cfg.al) x = none := by
    intro a x
    rw [roundUp_zero, expectImage_val _ _ _ _ (by simp), if_neg (by omega)]
  induction fuel with
  | zero =>
    intro d a no hf x
    have : d = [] := List.eq_nil_of_length_eq_zero (by omega)
    subst this
    rw [show ([] : List UInt8).length = 0 from rfl, hnilcase]; rfl
  | succ f ih =>
    intro d a no hf x
    by_cases hd : d = []
    · subst hd
      rw [show ([] : List UInt8).length = 0 from rfl, hnilcase]; rfl
    · have hdl : 0 < d.length := List.length_pos_iff.mpr hd
      have hru := roundUp_ge d.length cfg.al (by omega)
      have hdrop : (d.drop cfg.ps).length = d.length - cfg.ps := List.length_drop
      have htk : (d.take cfg.ps).length = min cfg.ps d.length := List.length_take
      rw [allBlks_cons cfg nf f hd, List.map_cons, image_cons, expectImage_val a d _ x hru.1]
      by_cases hc : cfg.ps < d.length
      · have hsplit : roundUp d.length cfg.al = cfg.ps + roundUp (d.drop cfg.ps).length cfg.al := by
          have : d.length = cfg.ps + (d.drop cfg.ps).length := by omega
          rw [this, roundUp_add _ _ _ hdiv]
        have hru2 := roundUp_ge (d.drop cfg.ps).length cfg.al (by omega)
        rw [ih (d.drop cfg.ps) (a + cfg.ps) (no + 1) (by omega) x, expectImage_val _ _ _ x hru2.1, if_pos hc,
          toBlock_at cfg t a _ _ nf no x (by omega) (by omega)]
        by_cases hx2 : a + cfg.ps ≤ x ∧ x < a + cfg.ps + roundUp (d.drop cfg.ps).length cfg.al
        · have hR : a ≤ x ∧ x < a + roundUp d.length cfg.al := by omega
          rw [if_pos hx2, if_pos hR]
          by_cases h1 : x - a < d.length
          · have h1' : x - (a + cfg.ps) < (d.drop cfg.ps).length := by omega
            rw [if_pos h1', if_pos h1, List.getElem?_drop,
              show cfg.ps + (x - (a + cfg.ps)) = x - a from by omega, List.getElem?_eq_getElem h1]
          · have h1' : ¬ x - (a + cfg.ps) < (d.drop cfg.ps).length := by omega
            rw [if_neg h1', if_neg h1]
        · rw [if_neg hx2]
          by_cases hx1 : a ≤ x ∧ x < a + cfg.ps
          · have hR : a ≤ x ∧ x < a + roundUp d.length cfg.al := by omega
            have h2 : x - a < (d.take cfg.ps).length := by omega
            have h3 : x - a < d.length := by omega
            rw [if_pos hx1, if_pos hR, if_pos h2, if_pos h3, List.getElem?_take_of_lt (by omega)]
          · have hR : ¬ (a ≤ x ∧ x < a + roundUp d.length cfg.al) := by omega
            rw [if_neg hx1, if_neg hR]
      · have hnil : d.drop cfg.ps = [] := List.drop_eq_nil_of_le (by omega)
        have htake : d.take cfg.ps = d := List.take_of_length_le (by omega)
        have hle := roundUp_le_of_dvd d.length cfg.al cfg.ps (by omega) hdiv (by omega)
        rw [hnil, allBlks_nil]
        simp only [List.map_nil, image_nil]
        rw [if_neg hc, htake, toBlock_at cfg t a d _ nf no x (by omega) (by omega)]

/-- the blocks one operation appends (none when it is rejected) -/
def stepBlks (st : St) : Op → List Blk
  | .write a d nf => match (write st a d nf).2 with
    | .ok _ => writeBlks st a d nf
    | _ => []
  | .writeAll a d nf => match (writeAll st a d nf).2 with
    | .ok _ => writeAllBlks st a d nf
    | _ => []

/-- one block list per operation of a history: `stepBlks` of each operation in the state the earlier ones reach -/
def runBlks (st : St) : List Op → List (List Blk)
  | [] => []
  | op :: ops => stepBlks st op :: runBlks (step st op).1 ops

theorem run_cons (st : St) (op : Op) (ops : List Op) :
    run st (op :: ops) = ((run (step st op).1 ops).1, (step st op).2 :: (run (step st op).1 ops).2) := rfl

theorem step_spec (st : St) (hI : Inv st) (op : Op) (ha : op.addr < 4294967296) :
    Inv (step st op).1 ∧ Extends st (step st op).1 (stepBlks st op) ∧
      ((∃ n, (step st op).2 = .ok n) ∨ ((∃ e, (step st op).2 = .err e) ∧ (step st op).1 = st)) := by
  have hnil := Extends.refl st
  cases op with
  | write a d nf =>
    rcases write_spec st hI a ha d nf with ⟨st', h, hI', hE, _⟩ | ⟨e, h, _⟩
    · simp only [step, stepBlks, h]; exact ⟨hI', hE, .inl ⟨0, rfl⟩⟩
    · simp only [step, stepBlks, h]; exact ⟨hI, hnil, .inr ⟨⟨e, rfl⟩, trivial⟩⟩
  | writeAll a d nf =>
    rcases writeAll_spec st hI a ha d nf with ⟨st', h, hI', hE, _⟩ | ⟨e, h, _⟩
    · simp only [step, stepBlks, h]; exact ⟨hI', hE, .inl ⟨_, rfl⟩⟩
    · simp only [step, stepBlks, h]; exact ⟨hI, hnil, .inr ⟨⟨e, rfl⟩, trivial⟩⟩

theorem run_spec (ops : List Op) : ∀ (st : St), Inv st → (∀ op ∈ ops, op.addr < 4294967296) →
    Inv (run st ops).1 ∧ Extends st (run st ops).1 (runBlks st ops).flatten ∧
      ∀ r ∈ (run st ops).2, ∀ s, r ≠ .panic s := by
  induction ops with
  | nil =>
    intro st hI _
    exact ⟨hI, Extends.refl st, by simp [run]⟩
  | cons op ops ih =>
    intro st hI ha
    rw [run_cons]
    obtain ⟨hI1, hE1, hr1⟩ := step_spec st hI op (ha op (by simp))
    obtain ⟨hI2, hE2, hnp2⟩ := ih (step st op).1 hI1 (fun o ho => ha o (by simp [ho]))
    refine ⟨hI2, hE1.trans hE2, ?_⟩
    intro r hr s
    rcases List.mem_cons.mp hr with h | h
    · subst h
      rcases hr1 with ⟨n, h⟩ | ⟨⟨e, h⟩, _⟩ <;> rw [h] <;> simp
    · exact hnp2 r h s

/-- what a loader must see of one operation: the data followed by zero padding (up to the payload size for
`write`, up to the alignment for `write_all`) at the target address and nothing else; nothing at all for a
rejected or empty write -/
def opImage (cfg : Cfg) (op : Op) (r : Res Nat) (x : Nat) : Option UInt8 :=
  match r with
  | .ok _ => (match op with
    | .write a d _ => if d = [] then none else expectImage a d cfg.ps x
    | .writeAll a d _ => expectImage a d (roundUp d.length cfg.al) x)
  | _ => none

theorem stepBlks_image (st : St) (hI : Inv st) (op : Op) (ha : op.addr < 4294967296) (t x : Nat) :
    image ((stepBlks st op).map (toBlock st.cfg t)) x = opImage st.cfg op (step st op).2 x := by
  cases op with
  | write a d nf =>
    rcases write_spec st hI a ha d nf with ⟨st', h, _, _, hnr⟩ | ⟨e, h, _⟩
    · simp only [step, stepBlks, h, opImage]
      by_cases hd : d = []
      · subst hd; simp [writeBlks, image]
      · rw [if_neg hd]
        refine image_writeBlks st hI.valid a d nf t hd ?_ x
        rcases Nat.lt_or_ge st.cfg.ps d.length with h' | h'
        · exact absurd ⟨hd, .inr (.inl h')⟩ hnr
        · exact h'
    · simp only [step, stepBlks, h, opImage]; rfl
  | writeAll a d nf =>
    rcases writeAll_spec st hI a ha d nf with ⟨st', h, _, _, _⟩ | ⟨e, h, _⟩
    · simp only [step, stepBlks, h, opImage, writeAllBlks]
      exact image_allBlks st.cfg hI.valid nf t d.length d a st.count (Nat.le_refl _) x
    · simp only [step, stepBlks, h, opImage]; rfl

theorem runBlks_length (ops : List Op) : ∀ st, (runBlks st ops).length = ops.length := by
  induction ops with
  | nil => intro _; rfl
  | cons op ops ih => intro st; simp [runBlks, ih]

theorem run_length (ops : List Op) : ∀ st, (run st ops).2.length = ops.length := by
  induction ops with
  | nil => intro _; rfl
  | cons op ops ih => intro st; rw [run_cons]; simp [ih]

theorem runBlks_image (ops : List Op) : ∀ (st : St), Inv st → (∀ op ∈ ops, op.addr < 4294967296) →
    ∀ (i : Nat) (h1 : i < (runBlks st ops).length) (h2 : i < ops.length) (h3 : i < (run st ops).2.length) (t x : Nat),
      image (((runBlks st ops)[i]).map (toBlock st.cfg t)) x = opImage st.cfg ops[i] ((run st ops).2[i]) x := by
  induction ops with
  | nil => intro st _ _ i h1; simp [runBlks] at h1
  | cons op ops ih =>
    intro st hI ha i h1 h2 h3 t x
    obtain ⟨hI1, hE1, _⟩ := step_spec st hI op (ha op (by simp))
    cases i with
    | zero =>
      simp only [runBlks, List.getElem_cons_zero, run_cons]
      exact stepBlks_image st hI op (ha op (by simp)) t x
    | succ i =>
      simp only [runBlks, List.getElem_cons_succ, run_cons]
      have := ih (step st op).1 hI1 (fun o ho => ha o (by simp [ho])) i
        (by simp [runBlks] at h1; omega) (by simp at h2; omega) (by rw [run_cons] at h3; simp at h3; omega) t x
      rw [hE1.cfg] at this
      exact this

theorem finish_spec (st : St) (hI : Inv st) (bl : List Blk) (hbl : AllOk bl) (hout : st.out = encAll st.cfg 0 bl)
    (hlen : bl.length = st.count) :
    finish st = .ok (encAll st.cfg st.count bl) ∧
      read (encAll st.cfg st.count bl) = some (bl.map (toBlock st.cfg st.count)) ∧
      (encAll st.cfg st.count bl).length = 512 * st.count := by
  refine ⟨?_, read_encAll st.cfg hI.famOk st.count (by have := hI.cnt; omega) bl hbl, by rw [encAll_length _ _ _ hbl, hlen]⟩
  unfold finish
  rw [hout, ← hlen]
  have := finishLoop_encAll st.cfg bl.length bl hbl []
  simpa using this

/-- `Drop` after blocks `bl` have been appended by a writer that had produced nothing before -/
theorem finish_of_extends {st0 st : St} {bl : List Blk} (hout0 : st0.out = []) (hcnt0 : st0.count = 0)
    (hI : Inv st) (hE : Extends st0 st bl) :
    bl.length = st.count ∧ finish st = .ok (encAll st.cfg st.count bl) ∧
    read (encAll st.cfg st.count bl) = some (bl.map (toBlock st0.cfg st.count)) ∧
    (encAll st.cfg st.count bl).length = 512 * st.count := by
  have hout : st.out = encAll st.cfg 0 bl := by rw [hE.out, hout0, hE.cfg]; rfl
  have hlen : bl.length = st.count := by rw [hE.count, hcnt0]; omega
  obtain ⟨f1, f2, f3⟩ := finish_spec st hI bl hE.ok hout hlen
  exact ⟨hlen, f1, by rw [← hE.cfg]; exact f2, f3⟩

theorem runBlks_getElem (ops : List Op) : ∀ (st : St) (i : Nat) (h : i < ops.length) (h' : i < (runBlks st ops).length),
    (runBlks st ops)[i] = stepBlks (run st (ops.take i)).1 ops[i] := by
  induction ops with
  | nil => intro st i h; simp at h
  | cons op ops ih =>
    intro st i h h'
    cases i with
    | zero => rfl
    | succ i =>
      simp only [runBlks, List.getElem_cons_succ, List.take_succ_cons, run_cons]
      exact ih (step st op).1 i (by simpa using h) (by simpa [runBlks] using h')

end Trion.Uf2

namespace Trion.Trias
open Trion.Uf2

theorem allBlks_addr_lt (cfg : Cfg) (nf : Bool) (fuel : Nat) (d : List UInt8) (a no : Nat) :
    ∀ b ∈ allBlks cfg nf fuel d a no, b.addr < a + d.length := by
  intro b hb
  obtain ⟨k, hk, h1, _⟩ := allBlks_mem hb
  omega

end Trion.Trias
