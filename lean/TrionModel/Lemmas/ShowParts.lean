import TrionModel.Lemmas.ShowLex
import TrionModel.Lemmas.ShowEnc
/-!
# The statement `Show.parts i a` has a printable mnemonic and, under `LitOk i`, operands of the shapes `Opnd`
-/
namespace Trion.Show
open Trion.Lex Trion.Front Trion.Codec

theorem identOk_regName : ∀ r : Reg, identOk (regName r) = true := by decide
theorem identOk_sysName : ∀ s : SysReg, identOk (sysName s) = true := by intro s; cases s <;> decide
theorem identOk_bcond : ∀ c : Cond, identOk (bytesOf "B" ++ condName c) = true := by decide

theorem hexDigit_ident (n : Nat) (h : n < 16) : isIdentByte (hexDigit n) = true := by
  have : ∀ n, n < 16 → isIdentByte (hexDigit n) = true := by decide
  exact this n h

theorem identOk_label (t : Nat) : identOk (label t) = true := by
  have hm : ∀ k, k % 16 < 16 := fun k => Nat.mod_lt _ (by decide)
  simp [label, hex8, identOk, bytesOf, identStart, hexDigit_ident _ (hm _)]
  decide

theorem opnd_rA (r : Reg) : Opnd (rA r) := .atom (.ident _ (identOk_regName r))
theorem atom_rA (r : Reg) : Atom (rA r) := .ident _ (identOk_regName r)
theorem opnd_lblA (t : Nat) : Opnd (lblA t) := .atom (.ident _ (identOk_label t))
theorem opnd_const (v : Int) (h : 0 ≤ v ∧ v ≤ i64Max) : Opnd (.const v) := .atom (.const v h.1 h.2)

theorem atom_irA (o : ImmReg) (h : ∀ v, o = .imm v → 0 ≤ v ∧ v ≤ i64Max) : Atom (irA o) := by
  cases o with
  | imm v => exact .const v (h v rfl).1 (h v rfl).2
  | reg r => exact atom_rA r

theorem opnd_irA (o : ImmReg) (h : ∀ v, o = .imm v → 0 ≤ v ∧ v ≤ i64Max) : Opnd (irA o) := .atom (atom_irA o h)

theorem opnd_memA (ad : Reg) (o : ImmReg) (h : ∀ v, o = .imm v → 0 ≤ v ∧ v ≤ i64Max) : Opnd (memA ad (irA o)) :=
  .mem (atom_rA ad) (atom_irA o h)

theorem opnd_memR (ad r : Reg) : Opnd (memA ad (rA r)) := .mem (atom_rA ad) (atom_rA r)

theorem opnd_rsA (rs : RegSet) : Opnd (rsA rs) := by
  unfold rsA
  exact .set _ (by intro x hx; simp at hx; obtain ⟨r, _, rfl⟩ := hx; exact atom_rA r)

theorem opnd_ident (s : Bytes) (h : identOk s = true) : Opnd (.ident s) := .atom (.ident s h)

theorem name_ok (i : Instr) (a : Nat) : identOk (parts i a).1 = true := by
  cases i
  case add f d l r => cases f <;> (dsimp only [parts]; decide)
  case sub f d l r => cases f <;> (dsimp only [parts]; decide)
  case mov f d r => cases f <;> (dsimp only [parts]; decide)
  case cps e => cases e <;> (dsimp only [parts]; decide)
  case b c off => exact identOk_bcond c
  case ldr d ad o =>
    cases o with
    | reg r => dsimp only [parts]; decide
    | imm v => dsimp only [parts]; split <;> (dsimp only; decide)
  all_goals (dsimp only [parts]; decide)

theorem opnd_sysName (s : SysReg) : Opnd (.ident (sysName s)) := opnd_ident _ (identOk_sysName s)

theorem args_ok (i : Instr) (a : Nat) (h : LitOk i) : ∀ x ∈ (parts i a).2, Opnd x := by
  cases i <;> simp only [parts, List.forall_mem_cons, List.not_mem_nil, false_imp_iff, implies_true, and_true, true_and,
    opnd_rA, opnd_lblA, opnd_rsA, opnd_memR, opnd_sysName]
  case add _ _ _ r | sub _ _ _ r | asr _ _ r | lsl _ _ r | lsr _ _ r | cmp _ r | mov _ _ r =>
    exact opnd_irA r (fun v e => h v (by subst e; rfl))
  case ldrb _ _ o | ldrh _ _ o | str _ _ o | strb _ _ o | strh _ _ o =>
    exact opnd_memA _ o (fun v e => h v (by subst e; rfl))
  case ldr d ad o =>
    have hm : Opnd (memA ad (irA o)) := opnd_memA ad o (fun v e => h v (by subst e; rfl))
    cases o with
    | reg r => simp only [List.forall_mem_cons, List.not_mem_nil, false_imp_iff, implies_true, and_true, opnd_rA, hm]
    | imm v =>
      simp only
      split <;> simp only [List.forall_mem_cons, List.not_mem_nil, false_imp_iff, implies_true, and_true, opnd_rA,
        opnd_lblA, hm]
  case bkpt v | svc v | udf v | udfw v => exact opnd_const v (h v rfl)
  case rsb => exact opnd_const 0 (by decide)
  case cps | dmb | dsb | isb => exact opnd_ident _ (by decide)

end Trion.Show

namespace Trion.Tridas
open Trion.Show Trion.Lex

theorem hexDigit_inj : ∀ m, m < 16 → ∀ n, n < 16 → hexDigit m = hexDigit n → m = n := by decide

theorem label_inj (s t : Nat) (hs : s < 4294967296) (ht : t < 4294967296) (h : label s = label t) : s = t := by
  simp only [label, hex8, List.append_cancel_left_eq, List.cons.injEq, and_true] at h
  obtain ⟨h1, h2, h3, h4, h5, h6, h7, h8⟩ := h
  have hm : ∀ k, k % 16 < 16 := fun k => Nat.mod_lt _ (by decide)
  have e1 := hexDigit_inj _ (hm _) _ (hm _) h1
  have e2 := hexDigit_inj _ (hm _) _ (hm _) h2
  have e3 := hexDigit_inj _ (hm _) _ (hm _) h3
  have e4 := hexDigit_inj _ (hm _) _ (hm _) h4
  have e5 := hexDigit_inj _ (hm _) _ (hm _) h5
  have e6 := hexDigit_inj _ (hm _) _ (hm _) h6
  have e7 := hexDigit_inj _ (hm _) _ (hm _) h7
  have e8 := hexDigit_inj _ (hm _) _ (hm _) h8
  omega

end Trion.Tridas
