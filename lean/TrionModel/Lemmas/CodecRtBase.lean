import TrionModel.Lemmas.CodecEq
/-! `Reads`, the per-instruction round-trip statement `RT` for the codec proofs (C01–C03), and the ways of establishing
`RT` from one arm of the encoder's `match`.

Method (DESIGN §4): an encoder arm is a guard and a halfword that is an arithmetic expression in the operand
values; the decoder is followed along the branch this halfword takes, each field it reads being settled by
one linear-arithmetic fact. -/
namespace Trion.Codec
open Trion

theorem SysReg.toNat_le (s : SysReg) : s.toNat ≤ 20 := by cases s <;> simp [SysReg.toNat]
theorem SysReg.ofNat?_toNat (s : SysReg) : SysReg.ofNat? s.toNat = some s := by cases s <;> rfl

/-- the decoder reads the halfwords `hws` — one below the 32-bit space, or two from inside it — as the instruction `i` -/
def Reads (hws : List Nat) (i : Instr) : Prop :=
  (∃ w, hws = [w] ∧ w < 65536 ∧ w / 2048 < 29 ∧ decode16 w = .ok (2, i)) ∨
  (∃ w0 w1, hws = [w0, w1] ∧ w0 < 65536 ∧ w1 < 65536 ∧ 29 ≤ w0 / 2048 ∧ decode32 w0 w1 = .ok (4, i))

/-- the round trip of one instruction: what the encoder emits for it, the decoder reads as it -/
def RT (i : Instr) : Prop := ∀ hws, encode i = .ok hws → i.wf → Reads hws i

/-- `RT` from an encoder arm of one halfword, `if guard then unrep else .ok [w]`: under the negated guard `w` lies below
the 32-bit space, which begins at 59392 = 29 · 2048, and `decode16` gives the instruction back.  `rt_ok` is the arm
without a guard, `rt_arm32` and `rt_ok32` the arms of two halfwords. -/
theorem rt_arm {i : Instr} {g : Prop} [Decidable g] {w : Nat}
    (henc : encode i = if g then unrep else .ok [w])
    (hdec : ¬ g → i.wf → w < 59392 ∧ decode16 w = .ok (2, i)) : RT i := by
  intro hws h wf
  rw [henc] at h
  split at h
  · cases h
  · rename_i hg; cases h
    obtain ⟨hb, hd⟩ := hdec hg wf
    exact .inl ⟨w, rfl, by omega, by omega, hd⟩

theorem rt_ok {i : Instr} {w : Nat} (henc : encode i = .ok [w])
    (hdec : i.wf → w < 59392 ∧ decode16 w = .ok (2, i)) : RT i :=
  rt_arm (g := False) (by rw [henc, if_neg id]) fun _ => hdec

theorem rt_arm32 {i : Instr} {g : Prop} [Decidable g] {w0 w1 : Nat}
    (henc : encode i = if g then unrep else .ok [w0, w1])
    (hdec : ¬ g → i.wf → w0 < 65536 ∧ w1 < 65536 ∧ 29 ≤ w0 / 2048 ∧ decode32 w0 w1 = .ok (4, i)) : RT i := by
  intro hws h wf
  rw [henc] at h
  split at h
  · cases h
  · rename_i hg; cases h
    obtain ⟨b0, b1, ht, hd⟩ := hdec hg wf
    exact .inr ⟨w0, w1, rfl, b0, b1, ht, hd⟩

theorem rt_ok32 {i : Instr} {w0 w1 : Nat} (henc : encode i = .ok [w0, w1])
    (hdec : i.wf → w0 < 65536 ∧ w1 < 65536 ∧ 29 ≤ w0 / 2048 ∧ decode32 w0 w1 = .ok (4, i)) : RT i :=
  rt_arm32 (g := False) (by rw [henc, if_neg id]) fun _ => hdec

theorem flag_true {f : Bool} {p : Prop} (g : ¬ (f = false ∨ p)) : f = true ∧ ¬ p := by
  cases f
  · exact absurd (.inl rfl) g
  · exact ⟨rfl, fun hp => g (.inr hp)⟩

theorem flag_false {f : Bool} {p : Prop} (g : ¬ (f = true ∨ p)) : f = false ∧ ¬ p := by
  cases f
  · exact ⟨rfl, fun hp => g (.inr hp)⟩
  · exact absurd (.inl rfl) g

end Trion.Codec
