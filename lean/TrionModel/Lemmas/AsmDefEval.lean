import TrionModel.Lemmas.AsmRetryAgree
import TrionModel.Lemmas.AsmAbs
/-!
# Complete evaluations over a table with `Deferred` entries

`evalIn_complete_valued`: the strengthening of `evalIn_complete_idents` (Lemmas/AsmAbs.lean) that does not need `Table.NoDef`:
if `evaluate` over `t` completes, every identifier of the operand is VALUED in `t` (not merely present) — even when `t` holds
forward-declared / imported-unvalued names.  `evalIn_complete_noDeferred`: the operand mentions no Deferred name.
-/
namespace Trion.Asm
open Trion

theorem tableOk_reg {t : Table} (h : TableOk t) : ∀ s, Front.isRegister s = true → (fun n => t.get n) s ≠ .deferred := by
  intro s hs hd
  simp only [Table.get] at hd
  cases hf : t.find s with
  | none => rw [hf] at hd; cases hd
  | some w =>
    have := h s w hf
    rw [hs] at this; cases this

theorem evalIn_complete_noDeferred {t : Table} (hok : TableOk t) {a a' : Arg} (h : evalIn t a = .ok (.complete a')) :
    noDeferredIn t a = true := by
  obtain ⟨ev, he, hc⟩ := evalIn_complete_iff.1 h
  exact Simp.evaluateE_complete_noDefIn (tableOk_reg hok) he hc

theorem evalIn_complete_valued {t : Table} (hok : TableOk t) {a a' : Arg} (h : evalIn t a = .ok (.complete a')) :
    ∀ s ∈ idents a, ∃ v, t.find s = some (some v) := by
  have hnd := evalIn_complete_noDeferred hok h
  obtain ⟨ev, he, _⟩ := evalIn_complete_iff.1 h
  intro s hs
  rw [Simp.evaluateE_undefer Front.isRegister hnd] at he
  have hne := evaluateE_ok_idents (Simp.undefer (fun n => t.get n)) _ _ _ he s hs
  unfold Simp.undefer at hne
  cases hl : t.get s with
  | notFound => simp only [hl] at hne; exact absurd rfl hne
  | deferred => simp only [hl] at hne; exact absurd rfl hne
  | found v => exact ⟨v, get_found hl⟩

end Trion.Asm
