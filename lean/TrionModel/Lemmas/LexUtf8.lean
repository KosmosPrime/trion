import TrionModel.Lemmas.LexNumber
/-!
# An encoded character advances the column by one; building well-formed texts (`utf8_*`); on them `Tokenizer::new` keeps
everything (`new_of_utf8`)
-/
namespace Trion.Lex
open Trion.Pos (isCont adv)

theorem encodeChar_ne_nil (c : Nat) : encodeChar c ≠ [] := by
  unfold encodeChar; split
  · simp
  · split
    · simp
    · split <;> simp

theorem encodeChar_high (c : Nat) (hs : isScalar c = true) (h : 128 ≤ c) : ∀ b ∈ encodeChar c, 128 ≤ b.toNat := by
  obtain ⟨b, tl, he, _, htl, _, hb⟩ := encodeChar_shape c hs
  rw [he]
  intro x hx
  rcases List.mem_cons.mp hx with rfl | hx
  · exact (hb h).1
  · exact ((isCont_iff x).mp (htl x hx)).1

theorem encodeChar_head (c : Nat) (hs : isScalar c = true) (rest : Bytes) :
    ∀ b, (encodeChar c ++ rest).head? = some b → isCont b = false := by
  obtain ⟨b, tl, he, hb, _⟩ := encodeChar_shape c hs
  rw [he]; intro x hx; simp at hx; subst hx; exact hb

theorem scalars_append (a b : Bytes) : Pos.scalars (a ++ b) = Pos.scalars a + Pos.scalars b := by
  simp [Pos.scalars]

theorem countLF_append (a b : Bytes) : Pos.countLF (a ++ b) = Pos.countLF a + Pos.countLF b := by
  simp [Pos.countLF]

theorem scalars_encodeChar (c : Nat) (hs : isScalar c = true) : Pos.scalars (encodeChar c) = 1 := by
  obtain ⟨b, tl, he, hb, htl, _⟩ := encodeChar_shape c hs
  rw [he, Pos.scalars_cons, hb]
  have : Pos.scalars tl = 0 := by
    unfold Pos.scalars
    rw [List.length_eq_zero_iff, List.filter_eq_nil_iff]
    intro x hx; simp [htl x hx]
  simp [this]

theorem countLF_encodeChar (c : Nat) (hs : isScalar c = true) (hc : c ≠ 10) : Pos.countLF (encodeChar c) = 0 := by
  apply countLF_eq_zero
  intro x hx
  by_cases h : c < 128
  · rw [encodeChar_ascii c h] at hx; simp at hx; subst hx; rw [toNat_toUInt8 _ (by omega)]; exact hc
  · have := encodeChar_high c hs (by omega) x hx; omega

theorem adv_noLF (p : Nat × Nat) (d : Bytes) (h : Pos.countLF d = 0) : adv p d = (p.1, p.2 + Pos.scalars d) := by
  rw [Pos.adv_closed, h, Pos.lastLine_of_noLF h]; simp

theorem utf8_encodeChar (c : Nat) (hs : isScalar c = true) {rest : Bytes} (h : Utf8 rest) : Utf8 (encodeChar c ++ rest) :=
  Utf8.cons _ c _ (decodeChar_encodeChar c hs rest) (by simpa using h)

theorem utf8_ascii_cons (b : UInt8) (hb : b.toNat < 128) {rest : Bytes} (h : Utf8 rest) : Utf8 (b :: rest) :=
  Utf8.cons _ b.toNat 1 (decodeChar_ascii_cons b rest hb) (by simpa using h)

theorem utf8_ascii_append (a : Bytes) (ha : ∀ b ∈ a, b.toNat < 128) {rest : Bytes} (h : Utf8 rest) : Utf8 (a ++ rest) := by
  induction a with
  | nil => exact h
  | cons b a ih => exact utf8_ascii_cons b (ha b (by simp)) (ih (fun x hx => ha x (by simp [hx])))

theorem utf8_number (r : Nat) (ds : Bytes) (hds : ∀ b ∈ ds, isDigit r b = true) {rest : Bytes} (hur : Utf8 rest) :
    Utf8 (radixPrefix r ++ ds ++ rest) :=
  utf8_ascii_append _ (fun b hb => (number_ascii r ds hds b hb).1) hur

theorem validUpToF_utf8 {d : Bytes} (h : Utf8 d) : ∀ f, d.length ≤ f → validUpToF f d = d.length := by
  induction h with
  | nil => intro f _; cases f <;> simp [validUpToF, decodeChar]
  | cons d c n hd _ ih =>
    intro f hf
    obtain ⟨hn1, hnl, _, _⟩ := decodeChar_some hd
    cases f with
    | zero => omega
    | succ f =>
      rw [validUpToF, hd]
      simp only
      rw [ih f (by simp; omega)]
      simp; omega

theorem new_of_utf8 (bs : Bytes) (h : Utf8 bs) : State.new bs = ⟨bs, false, 1, 1⟩ := by
  have hv : validUpTo bs = bs.length := validUpToF_utf8 h _ (Nat.le_refl _)
  simp [State.new, hv]

end Trion.Lex
