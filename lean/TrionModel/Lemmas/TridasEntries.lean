import TrionModel.Model.Codec
import TrionModel.Lemmas.TridasText
import TrionModel.Lemmas.Tridas
/-! The statements of a tridas listing, and what is assumed of its entries (C20).  The run of `Asm.run` on the listing
text is `Lemmas/TridasRun.lean`. -/
namespace Trion.Tridas
open Trion.Show Trion.Lex

/-- the statements of the entries: an optional label definition and the instruction -/
def entryVals (br : List Nat) (es : List Entry) : List ElemVal :=
  es.flatMap fun e =>
    (if br.contains e.addr = true then [ElemVal.label (label e.addr)] else []) ++
      [.instruction (parts e.instr e.addr).1 (Args.ofList (parts e.instr e.addr).2)]

theorem entryVals_cons (br : List Nat) (e : Entry) (r : List Entry) :
    entryVals br (e :: r) = (if br.contains e.addr = true then [ElemVal.label (label e.addr)] else []) ++
      [.instruction (parts e.instr e.addr).1 (Args.ofList (parts e.instr e.addr).2)] ++ entryVals br r := by
  simp only [entryVals, List.flatMap_cons]

theorem lead_vals (br : List Nat) (e : Entry) (space : Bool) (last : Nat) :
    (lead br e space last).flatMap lineVals = if br.contains e.addr = true then [ElemVal.label (label e.addr)] else [] := by
  unfold lead
  cases br.contains e.addr <;> cases decide (e.addr ≠ last) <;> cases space <;> simp [lineVals]

theorem lineVals_render (br : List Nat) : ∀ (es : List Entry) (space : Bool) (last : Nat),
    (render br es space last).flatMap lineVals = entryVals br es := by
  intro es
  induction es with
  | nil => intro _ _; rfl
  | cons e r ih =>
    intro space last
    rw [render_cons]
    simp only [List.flatMap_append, List.flatMap_cons, ih, entryVals, lead_vals, lineVals]
    simp

theorem mem_instrLines {a : Nat} {i : Instr} : ∀ {ls : List Line}, Line.instr a i ∈ ls → (a, i) ∈ instrLines ls
  | l :: r, h => by
    rcases List.mem_cons.mp h with rfl | hr
    · exact List.mem_cons_self
    · cases l <;> simp [instrLines, mem_instrLines hr]

theorem linesOk_render (br : List Nat) (es : List Entry) (space : Bool) (last : Nat) (h : ∀ e ∈ es, LitOk e.instr) :
    LinesOk (render br es space last) := fun a i hm => by
  have := mem_instrLines hm
  rw [instrLines_render] at this
  obtain ⟨e, he, heq⟩ := List.mem_map.mp this
  cases heq
  exact h e he

/-- what is assumed of every entry: the instruction is encodable and well-formed (true of decoded instructions),
its PC-relative target lies in the address space, and its bytes in the file are its CANONICAL encoding.
(Two weaker spellings occur in the theorems of `Props/C20*.lean`: `CanonicalAt`, `Props/C20Codec.lean`, is the last clause alone — the
others then come from the real decoder, `entryOk_of_canonical`; the `henc` of `listing_roundtrip_semantic` has the
length of the encoding in place of its bytes.) -/
def EntryOk (b : List UInt8) (e : Entry) : Prop :=
  ∃ hws, Codec.encode e.instr = .ok hws ∧ e.instr.wf ∧ targetInRange e.instr e.addr ∧
    (Codec.toBytes hws).map (·.toUInt8) = slice b e

/-- the canonical encoding of the instruction of an entry -/
def canon (e : Entry) : List UInt8 :=
  match Codec.encode e.instr with
  | .ok hws => (Codec.toBytes hws).map (·.toUInt8)
  | .error _ => []

theorem canon_slices : ∀ (es : List Entry) (a z : Nat) (pre : List UInt8), Chain es a z → BASE ≤ a →
    pre.length = a - BASE → (∀ e ∈ es, (canon e).length = e.after - e.addr) →
    (pre ++ (es.map canon).flatten).length = z - BASE ∧
      ∀ e ∈ es, slice (pre ++ (es.map canon).flatten) e = canon e := by
  intro es
  induction es with
  | nil =>
    intro a z pre hc _ hp _
    simp only [Chain] at hc
    subst hc
    exact ⟨by simpa using hp, by intro e he; cases he⟩
  | cons e r ih =>
    intro a z pre hc ha hp hl
    obtain ⟨c1, c2, c3⟩ := hc
    have hle := hl e (by simp)
    have hrec := ih e.after z (pre ++ canon e) c3 (by omega) (by simp [hp, hle]; omega)
      (fun f hf => hl f (by simp [hf]))
    have hassoc : pre ++ ((e :: r).map canon).flatten = (pre ++ canon e) ++ (r.map canon).flatten := by simp
    rw [hassoc]
    refine ⟨hrec.1, ?_⟩
    intro f hf
    rcases List.mem_cons.mp hf with rfl | hf
    · unfold slice
      rw [List.append_assoc, List.drop_left' (by omega), List.take_left' hle]
    · exact hrec.2 f hf

end Trion.Tridas
