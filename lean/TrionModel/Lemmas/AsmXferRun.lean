import TrionModel.Lemmas.AsmGlobRun
import TrionModel.Lemmas.AsmRefineRun
/-!
# Projects with `.include`, `.global`, `.export` and `.import` (of a name the includer holds valued) against the reference

Continues Lemmas/AsmGlobRun.lean.  `.export x` publishes the file's `x` to the includer's table like `.global x` does when
`x` is valued (the table is left as `g.set x (some v)` instead of `(g.set x none).set x (some v)`: the includer's table
is therefore related to `pub Gt₀ A` by `TEq`, equality of all lookups, not literally).  `.import x` in a file whose
includer holds `x` valued makes the file's `x` an alias of the includer's symbol: the statement
`.const (file's x) [includer's x] v` at the position of the `.import`.

There is ONE simulation for the three stages of the C05 pipeline clause (DESIGN.md §16; here stage 3, `XFlat`/`XFlatS`,
the latter also recording that every statement is genuine; main file instance 1, name space `num 0` = the real global
table): `stmt_step` / `doAssemble_sim` / `fileBody_sim` / `assembleFile_simF` / `run_flat` are proved for every family `F`
of flattening predicates closed under the five ways the statement loop extends a flattening (`Flat`); `XFlatS.flat` (below
`Flat`), `GFlat.flat` (at the end of this file) and `FE.flat` (Lemmas/AsmFlatEls.lean, stage 1 through a renaming) are the
instances.  The family is a parameter and not one fixed predicate because the side conditions of the stages
(`XferProject`, `GlobalProject`, `LocalProject`) are bounded by the include depth `fuel`, and only the simulation, which
runs down the same depth, can hand them to the flattening of every included file (`ok`, `proj`).
-/
namespace Trion.Asm.Xfer
open Trion Trion.SegLayout Trion.Asm Trion.Asm.Multi Trion.Asm.Glob
open Trion.Layout (MRun withTasks)

def isExport (el : Element) : Bool :=
  match el.val with
  | .directive name _ => name = bytesOf "export"
  | _ => false

def isImport (el : Element) : Bool :=
  match el.val with
  | .directive name _ => name = bytesOf "import"
  | _ => false

def exportName (el : Element) : Option Bytes :=
  match el.val with
  | .directive name args =>
    if name = bytesOf "export" then
      match args.toList with
      | [.ident x] => some x
      | _ => none
    else none
  | _ => none

def importName (el : Element) : Option Bytes :=
  match el.val with
  | .directive name args =>
    if name = bytesOf "import" then
      match args.toList with
      | [.ident x] => some x
      | _ => none
    else none
  | _ => none

def pubName (el : Element) : Option Bytes :=
  match globalName el with
  | some x => some x
  | none => exportName el

theorem okEl_iff4 {el : Element} : okEl el = true ↔
    isInclude el = false ∧ isGlobal el = false ∧ isExport el = false ∧ isImport el = false := by
  obtain ⟨line, col, val⟩ := el
  cases val with
  | directive name args =>
    simp only [okEl, isInclude, isGlobal, isExport, isImport, Bool.not_eq_true', Bool.or_eq_false_iff,
      decide_eq_false_iff_not]
    exact ⟨fun h => ⟨h.1.1.1, h.1.1.2, h.2, h.1.2⟩, fun h => ⟨⟨⟨h.1, h.2.1⟩, h.2.2.2⟩, h.2.2.1⟩⟩
  | _ => simp [okEl, isInclude, isGlobal, isExport, isImport]

theorem exportName_none {el : Element} (h : isExport el = false) : exportName el = none := by
  obtain ⟨_, _, v⟩ := el; cases v <;> simp_all [exportName, isExport]

theorem importName_none {el : Element} (h : isImport el = false) : importName el = none := by
  obtain ⟨_, _, v⟩ := el; cases v <;> simp_all [importName, isImport]

/-- the same lookups: `.export x` leaves the includer's table as `g.set x (some v)`, `.global x` as `pub1 g x v`, which are
not the same list; the loop invariant holds the includer's table up to `TEq` -/
def TEq (g g' : Table) : Prop := ∀ m, g.find m = g'.find m

theorem TEq.val {g g' : Table} (h : TEq g g') (m : Bytes) : g.val m = g'.val m := by
  unfold Table.val; rw [h m]

theorem TEq.nodef {g g' : Table} (h : TEq g g') (hn : Table.NoDef g') : Table.NoDef g := fun m hm => hn m (by rw [← h m]; exact hm)

theorem nodef_pub {g : Table} (hg : Table.NoDef g) : ∀ (A : List (Bytes × Int)), Table.NoDef (pub g A)
  | [] => hg
  | xv :: A => nodef_pub (nodef_pub1 hg xv.1 xv.2) A

theorem find_pub_notin : ∀ (A : List (Bytes × Int)) (g : Table) (x : Bytes), x ∉ A.map Prod.fst → (pub g A).find x = g.find x := by
  intro A
  induction A with
  | nil => intro g x _; rfl
  | cons xv A ih =>
    intro g x hx
    simp only [List.map_cons, List.mem_cons, not_or] at hx
    show (pub (pub1 g xv.1 xv.2) A).find x = _
    rw [ih _ x hx.2, find_pub1, if_neg (fun e => hx.1 e.symm)]

/-- C14 (pipeline)  A `.export x` that succeeds without a diagnostic: `x` is valued in the file's own table, was absent
from the includer's table, and now has the FILE's value there; nothing else changes.  (UP.) -/
theorem _root_.Trion.Asm.export_publishes_file_value {fs : Bytes → Option Bytes} {enc : Encoder} {inc : Inc} {env : Env} {st st' : St}
    {el : Element} (hg : isExport el = true) (h : statement fs enc inc env st el = .ok (st', .ok)) {t : Table}
    (hl : st.locals = some t) (hnd : Table.NoDef st.globals) :
    ∃ x v, exportName el = some x ∧ t.find x = some (some v) ∧ st.globals.find x = none ∧
      st' = { st with globals := st.globals.set x (some v) } := by
  obtain ⟨line, col, val⟩ := el
  cases val with
  | label n => simp [isExport] at hg
  | instruction n a => simp [isExport] at hg
  | directive name args =>
    simp only [isExport, decide_eq_true_eq] at hg
    subst hg
    simp only [statement, directive_export] at h
    obtain ⟨x, hargs, hx⟩ := xferDirective_ok (by simp) h
    simp only [if_true, reduceCtorEq, false_and, or_false] at hx
    obtain ⟨v, b, hg, hi⟩ := hx
    simp only [getConstant, hl] at hg
    obtain ⟨hu, rfl⟩ := insertConstant_global_ok hi
    refine ⟨x, v, by simp [exportName, hargs], ?_, find_fresh hnd hu, rfl⟩
    unfold Table.get at hg
    split at hg <;> cases hg
    assumption

/-- C14 (pipeline)  A `.import x` that succeeds without a diagnostic in a file whose includer's table (`globals` while the
file is assembled) holds `x` valued: `x` was absent from the file's own table and now has the INCLUDER's value there;
nothing else changes.  (DOWN: the only way a name of the includer becomes visible in the included file.) -/
theorem _root_.Trion.Asm.import_binds_includer_value {fs : Bytes → Option Bytes} {enc : Encoder} {inc : Inc} {env : Env} {st st' : St}
    {el : Element} (hg : isImport el = true) (h : statement fs enc inc env st el = .ok (st', .ok)) {t : Table}
    (hl : st.locals = some t) (hnd : Table.NoDef t)
    (hav : ∀ x, importName el = some x → ∃ v, st.globals.find x = some (some v)) :
    ∃ x v, importName el = some x ∧ st.globals.find x = some (some v) ∧ t.find x = none ∧
      st' = { st with locals := some (t.set x (some v)) } := by
  obtain ⟨line, col, val⟩ := el
  cases val with
  | label n => simp [isImport] at hg
  | instruction n a => simp [isImport] at hg
  | directive name args =>
    simp only [isImport, decide_eq_true_eq] at hg
    subst hg
    simp only [statement, directive_import] at h
    obtain ⟨x, hargs, hx⟩ := xferDirective_ok (by simp) h
    have hgn : importName ⟨line, col, .directive (bytesOf "import") args⟩ = some x := by simp [importName, hargs]
    obtain ⟨v, hv⟩ := hav x hgn
    have hg : getConstant st x .global = .ok (.found v) := by simp [getConstant, Table.get, hv]
    simp only [reduceCtorEq, if_false, hg, Out.ok.injEq, Simp.Lookup.found.injEq, false_and, and_false, or_false] at hx
    obtain ⟨v', b, rfl, hi⟩ := hx
    obtain ⟨t', hl', hu, rfl⟩ := insertConstant_loc_ok hi
    rw [hl] at hl'; cases hl'
    exact ⟨x, v, hgn, hv, find_fresh hnd hu, rfl⟩

theorem kinds_disjoint (el : Element) :
    (isInclude el = true → isGlobal el = false ∧ isExport el = false ∧ isImport el = false) ∧
    (isGlobal el = true → isExport el = false ∧ isImport el = false) ∧ (isExport el = true → isImport el = false) := by
  obtain ⟨line, col, val⟩ := el
  cases val with
  | directive name args =>
    simp only [isInclude, isGlobal, isExport, isImport, decide_eq_true_eq, decide_eq_false_iff_not]
    refine ⟨?_, ?_, ?_⟩ <;> (rintro rfl; decide)
  | _ => simp [isInclude, isGlobal, isExport, isImport]

/-- the names an `.include` statement brings into the includer's table -/
def xincNames (fs : Bytes → Option Bytes) (path : Bytes) (el : Element) : List Bytes :=
  match incTarget fs path el with
  | some (_, d') =>
    match parseFile d' with
    | .ok (els', _) => els'.filterMap pubName
    | .stop _ => []
  | none => []

/-- the names a statement leaves valued in its file's table -/
def xNames (fs : Bytes → Option Bytes) (path : Bytes) (el : Element) : List Bytes :=
  (definedName el).toList ++ (importName el).toList ++ (exportName el).toList ++ xincNames fs path el

/-- every `.global x` stands below a definition / import / export / publishing include of `x` in its file; every
`.import x` names something the includer holds valued where it includes the file (`avail`); every included file satisfies
`proj` with the names valued at its `.include` statement -/
def ElsOk (fs : Bytes → Option Bytes) (path : Bytes) (proj : List Bytes → Bytes → Bytes → Prop) (avail : List Bytes) :
    List Bytes → List Element → Prop
  | _, [] => True
  | seen, el :: els =>
    (isGlobal el = true → ∃ x, globalName el = some x ∧ x ∈ seen) ∧
    (isImport el = true → ∃ x, importName el = some x ∧ x ∈ avail) ∧
    (∀ p' d', incTarget fs path el = some (p', d') → proj seen p' d') ∧
    ElsOk fs path proj avail (xNames fs path el ++ seen) els

inductive XFlat (num : Nat → Bytes → Nat) (fs : Bytes → Option Bytes) (enc : Encoder) (E : Layout.Env) :
    Nat → Nat → Bytes → Table → Nat → Option Nat → List Element → List Layout.Stmt → Nat → Prop
  | nil (pid id : Nat) (path : Bytes) (t : Table) (nxt : Nat) (c : Option Nat) : XFlat num fs enc E pid id path t nxt c [] [] nxt
  | stmt {pid id : Nat} {path : Bytes} {t : Table} {nxt : Nat} {c : Option Nat} {el : Element} {els : List Element}
      {p : List Layout.Stmt} {nxt' : Nat} : isInclude el = false → isGlobal el = false → isExport el = false →
      isImport el = false →
      XFlat num fs enc E pid id path t nxt (Layout.Ref.next c (absStmt (num id) fs enc path t c el)) els p nxt' →
      XFlat num fs enc E pid id path t nxt c (el :: els) (absStmt (num id) fs enc path t c el :: p) nxt'
  | pubs {pid id : Nat} {path : Bytes} {t : Table} {nxt : Nat} {c : Option Nat} {el : Element} {els : List Element}
      {p : List Layout.Stmt} {nxt' : Nat} : (isGlobal el = true ∨ isExport el = true) →
      XFlat num fs enc E pid id path t nxt c els p nxt' → XFlat num fs enc E pid id path t nxt c (el :: els) p nxt'
  | imp {pid id : Nat} {path : Bytes} {t : Table} {nxt : Nat} {c : Option Nat} {el : Element} {els : List Element}
      {p : List Layout.Stmt} {nxt' : Nat} {x : Bytes} {v : Int} : importName el = some x → t.val x = some v →
      XFlat num fs enc E pid id path t nxt c els p nxt' →
      XFlat num fs enc E pid id path t nxt c (el :: els) (.const (num id x) [num pid x] v :: p) nxt'
  | inc {pid id : Nat} {path : Bytes} {t : Table} {nxt : Nat} {c : Option Nat} {el : Element} {els : List Element}
      {p : List Layout.Stmt} {nxt' : Nat} {path' data' : Bytes} {els' : List Element} {perr' : Option ParseErr}
      {t' : Table} {pc : List Layout.Stmt} {nxt1 : Nat} {A : List (Bytes × Int)} :
      incTarget fs path el = some (path', data') → parseFile data' = .ok (els', perr') →
      EnvRel (num nxt) t' E →
      XFlat num fs enc E id nxt path' t' (nxt + 1) c els' pc nxt1 →
      A.map Prod.fst = els'.filterMap pubName → (∀ xv ∈ A, t'.val xv.1 = some xv.2) →
      XFlat num fs enc E pid id path t nxt1 (Layout.Ref.cursorAfter c pc) els p nxt' →
      XFlat num fs enc E pid id path t nxt c (el :: els) (pc ++ (aliases (num id) (num nxt) A ++ p)) nxt'

theorem XFlat.source {num : Nat → Bytes → Nat} {fs : Bytes → Option Bytes} {enc : Encoder} {E : Layout.Env} {pid id : Nat}
    {path : Bytes} {t : Table} {nxt : Nat} {c : Option Nat} {els : List Element} {p : List Layout.Stmt} {nxt' : Nat}
    (h : XFlat num fs enc E pid id path t nxt c els p nxt') (ht : EnvRel (num id) t E) :
    ∀ s ∈ p, (∃ id' path' t' c' el, EnvRel (num id') t' E ∧ isInclude el = false ∧
      s = absStmt (num id') fs enc path' t' c' el) ∨ (∃ n d v, s = .const n [d] v) := by
  induction h with
  | nil => intro s hs; cases hs
  | stmt hi _ _ _ _ ih =>
    intro s hs
    rcases List.mem_cons.mp hs with rfl | hs
    · exact .inl ⟨_, _, _, _, _, ht, hi, rfl⟩
    · exact ih ht s hs
  | pubs _ _ ih => exact ih ht
  | imp _ _ _ ih =>
    intro s hs
    rcases List.mem_cons.mp hs with rfl | hs
    · exact .inr ⟨_, _, _, rfl⟩
    · exact ih ht s hs
  | inc _ _ er _ _ _ _ ih1 ih2 =>
    intro s hs
    rcases List.mem_append.mp hs with hs | hs
    · exact ih1 er s hs
    · rcases List.mem_append.mp hs with hs | hs
      · simp only [aliases, List.mem_map] at hs
        obtain ⟨xv, _, rfl⟩ := hs
        exact .inr ⟨_, _, _, rfl⟩
      · exact ih2 ht s hs

/-- `XFlat` in which every ordinary statement is GENUINE over its file's table (`ElGen`): its abstraction is no fallback,
the fresh assembly of an instruction over the table completes and is accepted by the encoder, a `.du*` operand evaluates to
a value in range, strings decode, files exist -/
inductive XFlatS (num : Nat → Bytes → Nat) (fs : Bytes → Option Bytes) (enc : Encoder) (E : Layout.Env) :
    Nat → Nat → Bytes → Table → Nat → Option Nat → List Element → List Layout.Stmt → Nat → Prop
  | nil (pid id : Nat) (path : Bytes) (t : Table) (nxt : Nat) (c : Option Nat) : XFlatS num fs enc E pid id path t nxt c [] [] nxt
  | stmt {pid id : Nat} {path : Bytes} {t : Table} {nxt : Nat} {c : Option Nat} {el : Element} {els : List Element}
      {p : List Layout.Stmt} {nxt' : Nat} : isInclude el = false → isGlobal el = false → isExport el = false →
      isImport el = false → ElGen fs enc path t c el →
      XFlatS num fs enc E pid id path t nxt (Layout.Ref.next c (absStmt (num id) fs enc path t c el)) els p nxt' →
      XFlatS num fs enc E pid id path t nxt c (el :: els) (absStmt (num id) fs enc path t c el :: p) nxt'
  | pubs {pid id : Nat} {path : Bytes} {t : Table} {nxt : Nat} {c : Option Nat} {el : Element} {els : List Element}
      {p : List Layout.Stmt} {nxt' : Nat} : (isGlobal el = true ∨ isExport el = true) →
      XFlatS num fs enc E pid id path t nxt c els p nxt' → XFlatS num fs enc E pid id path t nxt c (el :: els) p nxt'
  | imp {pid id : Nat} {path : Bytes} {t : Table} {nxt : Nat} {c : Option Nat} {el : Element} {els : List Element}
      {p : List Layout.Stmt} {nxt' : Nat} {x : Bytes} {v : Int} : importName el = some x → t.val x = some v →
      XFlatS num fs enc E pid id path t nxt c els p nxt' →
      XFlatS num fs enc E pid id path t nxt c (el :: els) (.const (num id x) [num pid x] v :: p) nxt'
  | inc {pid id : Nat} {path : Bytes} {t : Table} {nxt : Nat} {c : Option Nat} {el : Element} {els : List Element}
      {p : List Layout.Stmt} {nxt' : Nat} {path' data' : Bytes} {els' : List Element} {perr' : Option ParseErr}
      {t' : Table} {pc : List Layout.Stmt} {nxt1 : Nat} {A : List (Bytes × Int)} :
      incTarget fs path el = some (path', data') → parseFile data' = .ok (els', perr') →
      EnvRel (num nxt) t' E →
      XFlatS num fs enc E id nxt path' t' (nxt + 1) c els' pc nxt1 →
      A.map Prod.fst = els'.filterMap pubName → (∀ xv ∈ A, t'.val xv.1 = some xv.2) →
      XFlatS num fs enc E pid id path t nxt1 (Layout.Ref.cursorAfter c pc) els p nxt' →
      XFlatS num fs enc E pid id path t nxt c (el :: els) (pc ++ (aliases (num id) (num nxt) A ++ p)) nxt'

theorem XFlatS.toXFlat {num : Nat → Bytes → Nat} {fs : Bytes → Option Bytes} {enc : Encoder} {E : Layout.Env} {pid id : Nat}
    {path : Bytes} {t : Table} {nxt : Nat} {c : Option Nat} {els : List Element} {p : List Layout.Stmt} {nxt' : Nat}
    (h : XFlatS num fs enc E pid id path t nxt c els p nxt') : XFlat num fs enc E pid id path t nxt c els p nxt' := by
  induction h with
  | nil => exact .nil ..
  | stmt h1 h2 h3 h4 _ _ ih => exact .stmt h1 h2 h3 h4 ih
  | pubs h1 _ ih => exact .pubs h1 ih
  | imp h1 h2 _ ih => exact .imp h1 h2 ih
  | inc h1 h2 h3 _ h5 h6 _ ih1 ih2 => exact .inc h1 h2 h3 ih1 h5 h6 ih2

theorem XFlatS.source {num : Nat → Bytes → Nat} {fs : Bytes → Option Bytes} {enc : Encoder} {E : Layout.Env} {pid id : Nat}
    {path : Bytes} {t : Table} {nxt : Nat} {c : Option Nat} {els : List Element} {p : List Layout.Stmt} {nxt' : Nat}
    (h : XFlatS num fs enc E pid id path t nxt c els p nxt') (ht : EnvRel (num id) t E) :
    ∀ s ∈ p, (∃ id' path' t' c' el, EnvRel (num id') t' E ∧ isInclude el = false ∧ ElGen fs enc path' t' c' el ∧
      s = absStmt (num id') fs enc path' t' c' el) ∨ (∃ n d v, s = .const n [d] v) := by
  induction h with
  | nil => intro s hs; cases hs
  | stmt hi _ _ _ hg _ ih =>
    intro s hs
    rcases List.mem_cons.mp hs with rfl | hs
    · exact .inl ⟨_, _, _, _, _, ht, hi, hg, rfl⟩
    · exact ih ht s hs
  | pubs _ _ ih => exact ih ht
  | imp _ _ _ ih =>
    intro s hs
    rcases List.mem_cons.mp hs with rfl | hs
    · exact .inr ⟨_, _, _, rfl⟩
    · exact ih ht s hs
  | inc _ _ er _ _ _ _ ih1 ih2 =>
    intro s hs
    rcases List.mem_append.mp hs with hs | hs
    · exact ih1 er s hs
    · rcases List.mem_append.mp hs with hs | hs
      · simp only [aliases, List.mem_map] at hs
        obtain ⟨xv, _, rfl⟩ := hs
        exact .inr ⟨_, _, _, rfl⟩
      · exact ih2 ht s hs

theorem XFlatS.emitting {num : Nat → Bytes → Nat} {fs : Bytes → Option Bytes} {enc : Encoder} {E : Layout.Env} {pid id : Nat}
    {path : Bytes} {t : Table} {nxt : Nat} {c : Option Nat} {els : List Element} {p : List Layout.Stmt} {nxt' : Nat}
    (h : XFlatS num fs enc E pid id path t nxt c els p nxt') (ht : EnvRel (num id) t E) {pnum cnum : Bytes → Nat}
    {A : List (Bytes × Int)} {q r : List Layout.Stmt} {s : Layout.Stmt} (hp : p ++ aliases pnum cnum A = q ++ s :: r)
    (hse : s.emits = true) :
    ∃ id' path' t' c' el, EnvRel (num id') t' E ∧ isInclude el = false ∧ ElGen fs enc path' t' c' el ∧
      s = absStmt (num id') fs enc path' t' c' el := by
  have hmem : s ∈ p ++ aliases pnum cnum A := by rw [hp]; simp
  rcases List.mem_append.mp hmem with hm | hm
  · rcases h.source ht s hm with hsrc | ⟨n', d, v, rfl⟩
    · exact hsrc
    · cases hse
  · simp only [aliases, List.mem_map] at hm
    obtain ⟨xv, _, rfl⟩ := hm
    cases hse

/-- the shape of a family of flattening predicates, `F E pid id path t nxt c els p nxt'`: over the final symbol table `E`
of the whole flattened program, the statements `els` of file instance `id` (includer `pid`, path `path`, final table `t`)
with the reference cursor `c` in front flatten to the program `p`; included files are numbered from `nxt`, the next free
number is `nxt'`.  `E` is an index because an included instance's table is tied to it (`EnvRel (num nxt) t' E`) where the
instance is spliced in, long before `E` exists: hence the form `∀ E, E agrees with the present table on the instances
numbered so far → F E …` of what the simulation returns. -/
abbrev FlatT : Type :=
  Layout.Env → Nat → Nat → Bytes → Table → Nat → Option Nat → List Element → List Layout.Stmt → Nat → Prop

/-- `F` is closed under the five ways the statement loop extends a flattening; `ok` is what `F` asks of every source
statement.  The simulation below is proved once for every such `F`. -/
structure Flat (num : Nat → Bytes → Nat) (fs : Bytes → Option Bytes) (enc : Encoder) (ok : Element → Prop) (F : FlatT) : Prop where
  nil : ∀ (E : Layout.Env) (pid id : Nat) (path : Bytes) (t : Table) (nxt : Nat) (c : Option Nat), F E pid id path t nxt c [] [] nxt
  stmt : ∀ {E : Layout.Env} {pid id : Nat} {path : Bytes} {t : Table} {nxt : Nat} {c : Option Nat} {el : Element}
    {els : List Element} {p : List Layout.Stmt} {nxt' : Nat}, ok el → isInclude el = false → isGlobal el = false →
    isExport el = false → isImport el = false → ElGen fs enc path t c el →
    F E pid id path t nxt (Layout.Ref.next c (absStmt (num id) fs enc path t c el)) els p nxt' →
    F E pid id path t nxt c (el :: els) (absStmt (num id) fs enc path t c el :: p) nxt'
  pubs : ∀ {E : Layout.Env} {pid id : Nat} {path : Bytes} {t : Table} {nxt : Nat} {c : Option Nat} {el : Element}
    {els : List Element} {p : List Layout.Stmt} {nxt' : Nat}, ok el → (isGlobal el = true ∨ isExport el = true) →
    F E pid id path t nxt c els p nxt' → F E pid id path t nxt c (el :: els) p nxt'
  imp : ∀ {E : Layout.Env} {pid id : Nat} {path : Bytes} {t : Table} {nxt : Nat} {c : Option Nat} {el : Element}
    {els : List Element} {p : List Layout.Stmt} {nxt' : Nat} {x : Bytes} {v : Int}, ok el → importName el = some x →
    t.val x = some v → F E pid id path t nxt c els p nxt' →
    F E pid id path t nxt c (el :: els) (.const (num id x) [num pid x] v :: p) nxt'
  inc : ∀ {E : Layout.Env} {pid id : Nat} {path : Bytes} {t : Table} {nxt : Nat} {c : Option Nat} {el : Element}
    {els : List Element} {p : List Layout.Stmt} {nxt' : Nat} {path' data' : Bytes} {els' : List Element}
    {perr' : Option ParseErr} {t' : Table} {pc : List Layout.Stmt} {nxt1 : Nat} {A : List (Bytes × Int)}, ok el →
    incTarget fs path el = some (path', data') → parseFile data' = .ok (els', perr') → (∀ e ∈ els', ok e) →
    EnvRel (num nxt) t' E → F E id nxt path' t' (nxt + 1) c els' pc nxt1 →
    A.map Prod.fst = els'.filterMap pubName → (∀ xv ∈ A, t'.val xv.1 = some xv.2) →
    F E pid id path t nxt1 (Layout.Ref.cursorAfter c pc) els p nxt' →
    F E pid id path t nxt c (el :: els) (pc ++ (aliases (num id) (num nxt) A ++ p)) nxt'

theorem XFlatS.flat (num : Nat → Bytes → Nat) (fs : Bytes → Option Bytes) (enc : Encoder) :
    Flat num fs enc (fun _ => True) (XFlatS num fs enc) :=
  ⟨fun _ => .nil, fun _ h1 h2 h3 h4 h5 h6 => .stmt h1 h2 h3 h4 h5 h6, fun _ h1 h2 => .pubs h1 h2, fun _ h1 h2 h3 => .imp h1 h2 h3,
    fun _ h1 h2 _ h3 h4 h5 h6 h7 => .inc h1 h2 h3 h4 h5 h6 h7⟩

/-- what the recursive call `inc` of `.include` does, seen from the includer (instance `pid`, table `tP`, holding the
names `avail` valued; the included file becomes instance `id`, and `proj avail path data` is the side condition on its
tree).  If the call returns `Ok` without a diagnostic, then with `els` the file's statements, `t` its final table, `A` the
names it published:
* the layout core runs a flattening `pc` of the file from an empty queue (`MRun`), then the file's queue (`runTasks`),
  then the aliases `A` into the includer's name space; the regions agree afterwards (`R`);
* the includer's table has become `pub tP A` up to `TEq` and is the layout core's table at `num pid`; its queues are as
  before; the cursor has moved along `pc`;
* symbols of other instances than `pid` and `[id, id')` are untouched, and for every final table `E` that agrees with
  the present one on `[id, id')`, `pc` is an `F`-flattening of the file over `E`. -/
def FIncSim (num : Nat → Bytes → Nat) (ok : Element → Prop) (F : FlatT) (inc : Inc)
    (proj : List Bytes → Bytes → Bytes → Prop) : Prop :=
  ∀ (env : Env) (st st' : St) (data path : Bytes) (pid id : Nat) (l : Layout.State) (tP : Table) (avail : List Bytes),
    proj avail path data → Good true st → env.paths.isEmpty = false → R st.seg l →
    st.locals = some tP → Table.NoDef tP → EnvRel (num pid) tP l.env → pid < id →
    (∀ x ∈ avail, ∃ v, tP.find x = some (some v)) →
    (∀ j n, id ≤ j → l.env.get (num j n) = none) →
    inc env st data path = .ok (st', .ok) → st'.errors = [] →
    ∃ els perr t pc l1 l2 A la id' tP', parseFile data = .ok (els, perr) ∧ id < id' ∧
      MRun (withTasks [] l) pc l1 ∧ Layout.runTasks (withTasks [] l1) l1.tasks = .ok l2 ∧
      MRun (withTasks l.tasks l2) (aliases (num pid) (num id) A) la ∧ la.tasks = l.tasks ∧
      R st'.seg la ∧ st'.locals = some tP' ∧ TEq tP' (pub tP A) ∧ Table.NoDef tP' ∧ EnvRel (num pid) tP' la.env ∧
      st'.localTasks = st.localTasks ∧ st'.globals = st.globals ∧
      st'.globalTasks = st.globalTasks ∧ cursor st' = Layout.Ref.cursorAfter (cursor st) pc ∧
      (∀ s ∈ pc, s.wf = true) ∧
      (∀ j n, j ≠ pid → (j < id ∨ id' ≤ j) → la.env.get (num j n) = l.env.get (num j n)) ∧
      (∀ E : Layout.Env, (∀ j n, id ≤ j → j < id' → E.get (num j n) = la.env.get (num j n)) →
        EnvRel (num id) t E ∧ F E pid id path t (id + 1) (cursor st) els pc id') ∧
      A.map Prod.fst = els.filterMap pubName ∧ (∀ xv ∈ A, t.val xv.1 = some xv.2) ∧ ∀ e ∈ els, ok e

def XIncSim (num : Nat → Bytes → Nat) (enc : Encoder) (fs : Bytes → Option Bytes) (inc : Inc)
    (proj : List Bytes → Bytes → Bytes → Prop) : Prop :=
  FIncSim num (fun _ => True) (XFlatS num fs enc) inc proj

section
variable {num : Nat → Bytes → Nat} {enc : Encoder} {t₂ : Table} {G : List Task} {ok : Element → Prop} {F : FlatT}

theorem filterMap_cons_toList {α β : Type} (f : α → Option β) (a : α) (l : List α) :
    (a :: l).filterMap f = (f a).toList ++ l.filterMap f := by
  cases h : f a <;> simp [h]

/-- what the statement loop of the file instance `id` keeps (`pid`: its includer, whose table was `Gt₀` when the file was
entered): the state simulation; the includer's table is `Gt₀` with the names `A` published so far, all of them among the
names `seen`, which the file's table holds valued; the includer's symbols are those of `Gt₀` still (the aliases come when the
file ends); the instances from `nxt` on are unused -/
structure LoopInv (num : Nat → Bytes → Nat) (enc : Encoder) (t₂ : Table) (G : List Task) (pid id : Nat) (Gt₀ : Table)
    (seen : List Bytes) (A : List (Bytes × Int)) (nxt : Nat) (st : St) (l : Layout.State) : Prop where
  sim : Multi.Sim (num id) enc t₂ G st.globals st l
  teq : TEq st.globals (pub Gt₀ A)
  pubOk : PubOk Gt₀ A
  pubSeen : ∀ xv ∈ A, xv.1 ∈ seen
  par : EnvRel (num pid) Gt₀ l.env
  valued : ∀ x ∈ seen, ∀ t, st.locals = some t → ∃ v, t.find x = some (some v)
  lt : id < nxt
  fresh : ∀ j n, nxt ≤ j → l.env.get (num j n) = none

/-- a step of the file that publishes nothing: a simulation of the new states, the includer's table and the symbols of the
other instances left alone, instances drawn from `nxt` on only -/
theorem LoopInv.keep {pid id nxt nxt1 : Nat} {Gt₀ : Table} {seen seen1 : List Bytes} {A : List (Bytes × Int)} {st st1 : St}
    {l l1 : Layout.State} (inv : LoopInv num enc t₂ G pid id Gt₀ seen A nxt st l) (hpid : pid < id) (hn : nxt ≤ nxt1)
    (sim1 : Multi.Sim (num id) enc t₂ G st1.globals st1 l1) (hg : st1.globals = st.globals)
    (hframe : ∀ j n, j ≠ id → (j < nxt ∨ nxt1 ≤ j) → l1.env.get (num j n) = l.env.get (num j n))
    (hsub : ∀ x ∈ seen, x ∈ seen1)
    (hval : ∀ x ∈ seen1, ∀ t, st1.locals = some t → ∃ v, t.find x = some (some v)) :
    LoopInv num enc t₂ G pid id Gt₀ seen1 A nxt1 st1 l1 := by
  have hid := inv.lt
  exact ⟨sim1, by rw [hg]; exact inv.teq, inv.pubOk, fun xv hxv => hsub _ (inv.pubSeen xv hxv),
    fun m => by rw [hframe pid m (by omega) (.inl (by omega))]; exact inv.par m, hval, by omega,
    fun j n hj => by rw [hframe j n (by omega) (.inr hj)]; exact inv.fresh j n (by omega)⟩

/-! The standing context of the statement loop of one file: a family `F` closed under `Flat`, and a recursive call `inc` of
which the include simulation (`FIncSim`, over the side condition `proj` of included files) and `IncFacts` are known. -/
section
variable (hinj : NumInj num) (henc : EncLen enc) (fs : Bytes → Option Bytes) (hF : Flat num fs enc ok F) (inc : Inc)
  (proj : List Bytes → Bytes → Bytes → Prop) (hincs : FIncSim num ok F inc proj) (hinc : IncFacts inc)
include hinj henc hF hincs hinc

/-- one statement of the loop: the layout core runs the piece `ps` of the flattened program (one statement, an alias, nothing,
or a whole included file with its aliases), the invariant is kept with the names `A1` the statement published, and every
flattening of the rest extends by the statement -/
theorem stmt_step (env : Env) (path : Bytes) (rest : List Bytes) (henv : env.paths = path :: rest)
    {pid id : Nat} (hpid : pid < id) {Gt₀ : Table} (hGn : Table.NoDef Gt₀) (avail : List Bytes)
    (hav : ∀ x ∈ avail, ∃ v, Gt₀.find x = some (some v)) {seen : List Bytes} {A : List (Bytes × Int)} {nxt : Nat} {st st1 : St}
    {l : Layout.State} (inv : LoopInv num enc t₂ G pid id Gt₀ seen A nxt st l) {el : Element}
    (hokg : isGlobal el = true → ∃ x, globalName el = some x ∧ x ∈ seen)
    (hoki : isImport el = true → ∃ x, importName el = some x ∧ x ∈ avail)
    (hokinc : ∀ p' d', incTarget fs path el = some (p', d') → proj seen p' d') (hokel : ok el)
    (hs : statement fs enc inc env st el = .ok (st1, .ok)) (herr1 : st1.errors = [])
    (hT : ∀ t', st1.locals = some t' → Table.Sub t' t₂) :
    ∃ ps l1 nxt1 A1, nxt ≤ nxt1 ∧ MRun l ps l1 ∧
      LoopInv num enc t₂ G pid id Gt₀ (xNames fs path el ++ seen) (A ++ A1) nxt1 st1 l1 ∧
      A1.map Prod.fst = (pubName el).toList ∧ (∀ xv ∈ A1, t₂.val xv.1 = some xv.2) ∧
      cursor st1 = Layout.Ref.cursorAfter (cursor st) ps ∧ (∀ s ∈ ps, s.wf = true) ∧
      (∀ j n, j ≠ id → (j < nxt ∨ nxt1 ≤ j) → l1.env.get (num j n) = l.env.get (num j n)) ∧ QSub st st1 ∧
      ∀ (E : Layout.Env) (els : List Element) (p : List Layout.Stmt) (nxt' : Nat),
        (∀ j n, nxt ≤ j → j < nxt1 → E.get (num j n) = l1.env.get (num j n)) →
        (∀ q task, st1.localTasks = some (q ++ [task]) → GenTask enc t₂ task) →
        F E pid id path t₂ nxt1 (cursor st1) els p nxt' → F E pid id path t₂ nxt (cursor st) (el :: els) (ps ++ p) nxt' := by
  have henv' : env.paths.isEmpty = false := by rw [henv]; rfl
  have ⟨sim, hte, hpo, hAs, hP, hseen, hid, hfresh⟩ := inv
  obtain ⟨t, hl, hnd, hsub, henvr⟩ := sim.tbl
  have good1 := ((statement_safe henc hinc.ok sim.good henv' fs el).2 _ _ hs).1
  obtain ⟨C0, C1, hC0, hC1, hle01, _⟩ := (statement_rel hinc.rel hl _ _ hs).tabs
  rw [hl] at hC0; cases hC0
  have hGtn : Table.NoDef st.globals := hte.nodef (nodef_pub hGn A)
  have hAs' : ∀ xv ∈ A, xv.1 ∈ xNames fs path el ++ seen := fun xv hxv => List.mem_append_right _ (hAs xv hxv)
  have hseen1 : (∀ x ∈ xincNames fs path el, ∃ v, C1.find x = some (some v)) →
      (∀ x ∈ (importName el).toList ++ (exportName el).toList, ∃ v, C1.find x = some (some v)) →
      ∀ x ∈ xNames fs path el ++ seen, ∀ t', st1.locals = some t' → ∃ v, t'.find x = some (some v) := by
    intro hincn hie x hx t' ht'
    rw [hC1] at ht'; cases ht'
    have hold : x ∈ seen → ∃ v, C1.find x = some (some v) := fun hxs => by
      obtain ⟨v, hv⟩ := hseen x hxs t hl
      exact ⟨v, hle01 x v hv⟩
    simp only [xNames, List.mem_append] at hx
    rcases hx with (((hx | hx) | hx) | hx) | hx
    · cases hdn : definedName el with
      | none => rw [hdn] at hx; cases hx
      | some y =>
        rw [hdn] at hx
        simp only [Option.toList_some, List.mem_singleton] at hx
        subst hx
        obtain ⟨l', v, e1, e2⟩ := defined_valued hdn hs
        rw [hC1] at e1; cases e1
        exact ⟨v, e2⟩
    · exact hie x (List.mem_append_left _ hx)
    · exact hie x (List.mem_append_right _ hx)
    · exact hincn x hx
    · exact hold hx
  have hnoinc : isInclude el = false → ∀ x ∈ xincNames fs path el, ∃ v, C1.find x = some (some v) := by
    intro hi' x hx
    simp only [xincNames, incTarget_none hi'] at hx
    cases hx
  have hnoie : isImport el = false → isExport el = false →
      ∀ x ∈ (importName el).toList ++ (exportName el).toList, ∃ v, C1.find x = some (some v) := by
    intro h1 h2 x hx
    simp only [importName_none h1, exportName_none h2, Option.toList_none, List.append_nil] at hx
    cases hx
  by_cases hi : isInclude el = true
  · -- a complete included file
    obtain ⟨p', d', htgt, hcall⟩ := include_inv henv hi hs
    obtain ⟨q, hq, hqr⟩ := sim.tasks
    obtain ⟨hig, hie, hii⟩ := (kinds_disjoint el).1 hi
    obtain ⟨els', perr', t', pc, l1, l2, Ac, la, id', tP', hparse, hlt, hm, hrt, hal, hlat, hR, e1, hte1, hnd1, henvr1, e2, e3,
        e4, hcur, hwf, hframe, hflat, hAn, hAv, hokc⟩ :=
      hincs env st st1 d' p' id nxt l t seen (hokinc _ _ htgt) sim.good henv' sim.r hl hnd henvr hid
        (fun x hx => hseen x hx t hl) hfresh hcall herr1
    have sim1 : Multi.Sim (num id) enc t₂ G st1.globals st1 la :=
      ⟨⟨hR, ⟨_, e1, hnd1, hT _ e1, henvr1⟩,
        ⟨q, by rw [e2]; exact hq, by rw [hlat]; exact hqr⟩, ⟨e4.trans sim.gl.1, rfl⟩⟩, good1⟩
    have hval1 := hseen1 (fun x hx => by
      simp only [xincNames, htgt, hparse] at hx
      rw [e1] at hC1; cases hC1
      obtain ⟨v, hv⟩ := pub_valued Ac t x (.inl (by rw [hAn]; exact hx))
      exact ⟨v, by rw [hte1 x]; exact hv⟩) (hnoie hii hie)
    refine ⟨pc ++ aliases (num id) (num nxt) Ac, la, id', [], by omega, .file hm hrt hal,
      by rw [List.append_nil]; exact inv.keep hpid (by omega) sim1 e3 hframe (fun _ => List.mem_append_right _) hval1,
      by simp only [pubName, globalName_none hig, exportName_none hie]; rfl, fun _ hx => (by cases hx), ?_, ?_,
      fun j n hj hjr => hframe j n hj (by omega), QSub.of_eq e2, fun E els p nxt' hE _ hfl => ?_⟩
    · rw [Layout.cursorAfter_append, cursorAfter_aliases, ← hcur]
    · intro s hs'
      rcases List.mem_append.mp hs' with hs' | hs'
      · exact hwf s hs'
      · exact aliases_wf _ _ _ s hs'
    · obtain ⟨er, fl⟩ := hflat E hE
      rw [List.append_assoc]
      refine hF.inc hokel htgt hparse hokc er fl hAn hAv ?_
      rw [← hcur]; exact hfl
  · have hi' : isInclude el = false := by simpa using hi
    by_cases hpb : isGlobal el = true ∨ isExport el = true
    · -- `.global x` with `x` valued, `.export x`: the includer's table receives the file's value
      obtain ⟨x, v, G', hpn, hv, hgf, hst1, hG, hxs, hie⟩ : ∃ x v G', pubName el = some x ∧ t.find x = some (some v) ∧
          st.globals.find x = none ∧ st1 = { st with globals := G' } ∧
          (∀ m, G'.find m = (pub1 st.globals x v).find m) ∧ x ∈ xNames fs path el ++ seen ∧
          ∀ y ∈ (importName el).toList ++ (exportName el).toList, ∃ w, t.find y = some (some w) := by
        rcases hpb with hg | hx
        · obtain ⟨hge, hgi⟩ := (kinds_disjoint el).2.1 hg
          obtain ⟨x, hx0, hx0s⟩ := hokg hg
          obtain ⟨x', v, hgn, hv, hgf, hst1⟩ := global_publishes_file_value hg hs hl (fun y hy => by
            rw [hx0] at hy; cases hy; exact hseen x hx0s t hl)
          obtain rfl : x = x' := by rw [hx0] at hgn; exact Option.some.inj hgn
          refine ⟨x, v, _, by simp only [pubName, hx0], hv, hgf, hst1, fun _ => rfl, List.mem_append_right _ hx0s,
            fun y hy => ?_⟩
          simp only [importName_none hgi, exportName_none hge, Option.toList_none, List.append_nil] at hy
          cases hy
        · have hxi := (kinds_disjoint el).2.2 hx
          have hg' : isGlobal el = false := by
            cases hgb : isGlobal el with
            | false => rfl
            | true => rw [((kinds_disjoint el).2.1 hgb).1] at hx; cases hx
          obtain ⟨x, v, hgn, hv, hgf, hst1⟩ := export_publishes_file_value hx hs hl hGtn
          refine ⟨x, v, _, by simp only [pubName, globalName_none hg', hgn], hv, hgf, hst1,
            fun m => by rw [find_set, find_pub1], List.mem_append_left _ (by simp [xNames, hgn]), fun y hy => ?_⟩
          simp only [importName_none hxi, hgn, Option.toList_none, Option.toList_some, List.nil_append,
            List.mem_singleton] at hy
          subst hy; exact ⟨v, hv⟩
      have hgf' : (pub Gt₀ A).find x = none := by rw [← hte x]; exact hgf
      have hC1t : C1 = t := by rw [hst1] at hC1; rw [hl] at hC1; cases hC1; rfl
      subst hst1
      refine ⟨[], l, nxt, [(x, v)], Nat.le_refl _, .nil l,
        ⟨⟨⟨sim.r, ⟨t, hl, hnd, hsub, henvr⟩, sim.tasks, ⟨sim.gl.1, rfl⟩⟩, good1⟩,
          fun m => by rw [hG m, pub_snoc, find_pub1, find_pub1, hte m], pubOk_snoc _ _ _ _ hpo hgf', ?_, hP,
          hseen1 (hnoinc hi') (fun y hy => by rw [hC1t]; exact hie y hy), hid, hfresh⟩,
        by simp only [hpn]; rfl, ?_, rfl, fun _ hx => (by cases hx), fun _ _ _ _ => rfl, QSub.of_eq rfl,
        fun E els p nxt' _ _ hfl => hF.pubs hokel hpb hfl⟩
      · intro xv hxv
        rcases List.mem_append.mp hxv with hxv | hxv
        · exact hAs' xv hxv
        · simp only [List.mem_singleton] at hxv; subst hxv; exact hxs
      · intro xv hxv
        simp only [List.mem_singleton] at hxv; subst hxv
        simp only [Table.val, hsub x v hv]
    · have hg' : isGlobal el = false := by
        cases hgb : isGlobal el with
        | false => rfl
        | true => exact absurd (.inl hgb) hpb
      have hx' : isExport el = false := by
        cases hxb : isExport el with
        | false => rfl
        | true => exact absurd (.inr hxb) hpb
      have hpn : (pubName el).toList = [] := by simp only [pubName, globalName_none hg', exportName_none hx']; rfl
      by_cases hm : isImport el = true
      · -- `.import x` of a name the includer holds valued
        obtain ⟨x, hx0, hx0a⟩ := hoki hm
        obtain ⟨v0, hv0⟩ := hav x hx0a
        have havail : ∀ y, importName el = some y → ∃ v, st.globals.find y = some (some v) := by
          intro y hy
          rw [hx0] at hy; cases hy
          obtain ⟨w, hw⟩ := pub_valued A Gt₀ x (.inr ⟨v0, hv0⟩)
          exact ⟨w, by rw [hte x]; exact hw⟩
        obtain ⟨x', v, hgn, hgv, hf, hst1⟩ := import_binds_includer_value hm hs hl hnd havail
        have hxx : x = x' := by rw [hx0] at hgn; exact Option.some.inj hgn
        subst hxx
        have hxA : x ∉ A.map Prod.fst := by
          intro hin
          obtain ⟨xv, hxv, hxe⟩ := List.mem_map.mp hin
          obtain ⟨w, hw⟩ := hseen xv.1 (hAs xv hxv) t hl
          rw [hxe, hf] at hw; cases hw
        have hG0 : Gt₀.find x = some (some v) := by
          rw [← find_pub_notin A Gt₀ x hxA, ← hte x]; exact hgv
        have hpx : l.env.get (num pid x) = some v := by rw [hP x]; simp [Table.val, hG0]
        have hget : l.env.get (num id x) = none := by rw [henvr x, val_none_of_find hf]
        let l1 : Layout.State := { l with env := (num id x, v) :: l.env }
        have hstep : Layout.step l (.const (num id x) [num pid x] v) = .ok l1 := step_alias hget hpx
        have hne : ∀ j n, j ≠ id → num id x ≠ num j n := fun j n hj e => hj (hinj _ _ _ _ e).1.symm
        have henv1 : ∀ j n, j ≠ id → l1.env.get (num j n) = l.env.get (num j n) := fun j n hj => by
          show Layout.Env.get ((num id x, v) :: l.env) (num j n) = _
          simp only [Layout.Env.get, if_neg (hne j n hj)]
        have hC1t : C1 = t.set x (some v) := by rw [hst1] at hC1; cases hC1; rfl
        have hv2 : t₂.val x = some v := by
          have := hT (t.set x (some v)) (by rw [hst1]) x v (by rw [find_set]; simp)
          simp only [Table.val, this]
        subst hst1
        have hval1 := hseen1 (hnoinc hi') (fun y hy => by
          simp only [hx0, exportName_none hx', Option.toList_none, Option.toList_some, List.append_nil,
            List.mem_singleton] at hy
          subst hy; rw [hC1t]; exact ⟨v, by rw [find_set]; simp⟩)
        refine ⟨[_], l1, nxt, [], Nat.le_refl _, .step hstep (.nil _),
          by
            rw [List.append_nil]
            exact inv.keep hpid (Nat.le_refl _)
              ⟨⟨sim.r, ⟨t.set x (some v), rfl, Table.nodef_set hnd x v, hT _ rfl, envRel_insert (hinj.inj id) henvr x v⟩,
                sim.tasks, ⟨sim.gl.1, rfl⟩⟩, good1⟩ rfl (fun j n hj _ => henv1 j n hj) (fun _ => List.mem_append_right _) hval1,
          hpn.symm, fun _ hx => (by cases hx), rfl, ?_, fun j n hj _ => henv1 j n hj, QSub.of_eq rfl,
          fun E els p nxt' _ _ hfl => hF.imp hokel hx0 hv2 hfl⟩
        · intro s hs'
          simp only [List.mem_singleton] at hs'; subst hs'; rfl
      · -- an ordinary statement
        have hm' : isImport el = false := by simpa using hm
        have hokel4 := okEl_iff4.mpr ⟨hi', hg', hx', hm'⟩
        obtain ⟨l1, s1, s2, s3, hfate⟩ :=
          Multi.statement_sim_fate (hinj.inj id) henc sim fs inc env path henv el hokel4 hs herr1 hT
        have henv1 : ∀ j n, j ≠ id → l1.env.get (num j n) = l.env.get (num j n) := fun j n hj =>
          Layout.step_env_raw l l1 _ s1 _ (fun hd => by
            obtain ⟨m, hm⟩ := defines_absStmt (num id) fs path t₂ (cursor st) el _ hd
            exact hj (hinj _ _ _ _ hm).1)
        refine ⟨[_], l1, nxt, [], Nat.le_refl _, .step s1 (.nil _),
          by
            rw [List.append_nil]
            exact inv.keep hpid (Nat.le_refl _) ⟨⟨s2.r, s2.tbl, s2.tasks, ⟨s2.gl.1, rfl⟩⟩, good1⟩ s2.gl.2
              (fun j n hj _ => henv1 j n hj) (fun _ => List.mem_append_right _) (hseen1 (hnoinc hi') (hnoie hm' hx')),
          hpn.symm, fun _ hx => (by cases hx), s3, ?_, fun j n hj _ => henv1 j n hj, (statement_addsK (fun as e => by simp [okEl, e] at hokel4) _ _ hs).qsub,
          fun E els p nxt' _ hGen hfl => ?_⟩
        · intro s hs'
          simp only [List.mem_singleton] at hs'; subst hs'; exact absStmt_wf henc ..
        · -- the statement is genuine: now, or because the task it queued was run when the file ended
          have hgen : ElGen fs enc path t₂ (cursor st) el := by
            refine ElGenW.mono (fun x tpl args hI => ?_) (fun du a hD => ?_) hfate
            · rcases hI with hI | ⟨q, i, t₁, c, hq, haddr, hs', hn', hf⟩
              · exact hI
              · have := hGen q _ hq tpl args t₁ c hs' hn' (by rw [haddr]; exact hf)
                rw [haddr] at this; exact this
            · rcases hD with hD | ⟨q, d, t₁, n, hq, hdu, hs', hn', hf⟩
              · exact hD
              · have := hGen q _ hq a t₁ n hs' hn' hf
                rw [hdu] at this; exact this
          refine hF.stmt hokel hi' hg' hx' hm' hgen ?_
          rw [← s3]; exact hfl

theorem doAssemble_sim (env : Env) (path : Bytes) (rest : List Bytes) (henv : env.paths = path :: rest)
    (perr : Option ParseErr) (pid id : Nat) (hpid : pid < id) (Gt₀ : Table) (hGn : Table.NoDef Gt₀) (avail : List Bytes)
    (hav : ∀ x ∈ avail, ∃ v, Gt₀.find x = some (some v)) :
    ∀ (els : List Element) (st stf : St) (l : Layout.State) (nxt : Nat) (seen : List Bytes) (A : List (Bytes × Int)),
      ElsOk fs path proj avail seen els → (∀ el ∈ els, ok el) → LoopInv num enc t₂ G pid id Gt₀ seen A nxt st l →
      doAssemble fs enc inc env els perr st = .ok (stf, .ok) → stf.errors = [] → stf.locals = some t₂ →
      ∃ p lf nxt' A' seen', nxt ≤ nxt' ∧ MRun l p lf ∧ LoopInv num enc t₂ G pid id Gt₀ seen' (A ++ A') nxt' stf lf ∧
        A'.map Prod.fst = els.filterMap pubName ∧ (∀ xv ∈ A', t₂.val xv.1 = some xv.2) ∧
        cursor stf = Layout.Ref.cursorAfter (cursor st) p ∧ (∀ s ∈ p, s.wf = true) ∧
        (∀ j n, j ≠ id → (j < nxt ∨ nxt' ≤ j) → lf.env.get (num j n) = l.env.get (num j n)) ∧ QSub st stf ∧
        (∀ E : Layout.Env, (∀ j n, nxt ≤ j → j < nxt' → E.get (num j n) = lf.env.get (num j n)) →
          (∀ qf, stf.localTasks = some qf → ∀ task ∈ qf, GenTask enc t₂ task) →
          F E pid id path t₂ nxt (cursor st) els p nxt') := by
  intro els
  induction els with
  | nil =>
    intro st stf l nxt seen A _ _ inv h _ _
    cases perr with
    | none =>
      simp only [doAssemble] at h; cases h
      exact ⟨[], l, nxt, [], seen, Nat.le_refl _, .nil l, by rw [List.append_nil]; exact inv, rfl, fun _ hx => (by cases hx), rfl,
        fun _ hs => (by cases hs), fun _ _ _ _ => rfl, QSub.refl _, fun E _ _ => hF.nil ..⟩
    | some e => simp only [doAssemble] at h; cases h
  | cons el els ih =>
    intro st stf l nxt seen A hok hokA inv h herr hfin
    simp only [doAssemble] at h
    split at h
    · rename_i st1 hs
      obtain ⟨hokg, hoki, hokinc, hok'⟩ := hok
      have herr1 : st1.errors = [] := (grew_nil (doAssemble_grew hinc.grew perr els st1 stf _ h) herr).1
      have hT : ∀ t', st1.locals = some t' → Table.Sub t' t₂ := by
        intro t' ht'
        obtain ⟨C, C', hC, hC', le, _⟩ := (doAssemble_rel hinc.rel perr els st1 t' ht' _ _ h).tabs
        rw [ht'] at hC; cases hC
        rw [hfin] at hC'; cases hC'
        exact le
      obtain ⟨ps, l1, nxt1, A1, hle1, hm1, inv1, hA1, hAv1, hcur1, hwf1, hframe1, hq1, hext⟩ :=
        stmt_step hinj henc fs hF inc proj hincs hinc env path rest henv hpid hGn avail hav inv hokg hoki hokinc
          (hokA el List.mem_cons_self) hs herr1 hT
      obtain ⟨p, lf, nxt', A2, seen', hle2, hm2, inv2, hA2, hAv2, hcur2, hwf2, hframe2, hq2, hflat2⟩ :=
        ih st1 stf l1 nxt1 _ _ hok' (fun x hx => hokA x (List.mem_cons_of_mem _ hx)) inv1 h herr hfin
      refine ⟨ps ++ p, lf, nxt', A1 ++ A2, seen', by omega, MRun.append hm1 hm2, by rw [← List.append_assoc]; exact inv2,
        by rw [List.map_append, hA1, hA2, filterMap_cons_toList], ?_, by rw [Layout.cursorAfter_append, ← hcur1]; exact hcur2, ?_,
        fun j n hj hjr => by rw [hframe2 j n hj (by omega), hframe1 j n hj (by omega)], hq1.trans hq2, fun E hE hGen => ?_⟩
      · intro xv hxv
        rcases List.mem_append.mp hxv with hxv | hxv
        · exact hAv1 xv hxv
        · exact hAv2 xv hxv
      · intro s hs'
        rcases List.mem_append.mp hs' with hs' | hs'
        · exact hwf1 s hs'
        · exact hwf2 s hs'
      · refine hext E els p nxt' (fun j n h1 h2 => ?_) (fun q task hq => ?_)
          (hflat2 E (fun j n h1 h2 => hE j n (by omega) h2) hGen)
        · rw [hE j n h1 (by omega)]
          exact hframe2 j n (by have := inv.lt; omega) (.inl h2)
        · obtain ⟨new, hnew⟩ := hq2 _ hq
          exact hGen _ hnew task (by simp)
    · cases h
    · cases h

/-- the body of a file (`doAssemble`, then the file's task loop) from the state `enterFile` leaves: what `FIncSim` says of
the whole call, before `leaveFile`; the aliases are run over any queue `T` the caller puts back -/
theorem fileBody_sim (env1 : Env) (path : Bytes) (rest : List Bytes) (henv : env1.paths = path :: rest)
    (data : Bytes) (pid id : Nat) (hpid : pid < id) (st2 st4 : St) (res : Res) (l2 : Layout.State) (avail : List Bytes)
    (hproj : ∀ els perr, parseFile data = .ok (els, perr) → ElsOk fs path proj avail [] els ∧ ∀ el ∈ els, ok el)
    (good : Good true st2) (r : R st2.seg l2) (hloc : st2.locals = some []) (hlt : st2.localTasks = some [])
    (hlk : l2.tasks = []) (hfresh : ∀ j n, id ≤ j → l2.env.get (num j n) = none)
    (hgn : Table.NoDef st2.globals) (hgr : EnvRel (num pid) st2.globals l2.env)
    (hav : ∀ x ∈ avail, ∃ v, st2.globals.find x = some (some v))
    (h : fileBody fs enc inc env1 data st2 = .ok (st4, res)) (herr : st4.errors = []) :
    ∃ els perr t p l3 l4 A id', parseFile data = .ok (els, perr) ∧ id < id' ∧ res = .ok ∧
      MRun l2 p l3 ∧ Layout.runTasks (withTasks [] l3) l3.tasks = .ok l4 ∧
      Good true st4 ∧ TEq st4.globals (pub st2.globals A) ∧ Table.NoDef st4.globals ∧
      st4.globalTasks = st2.globalTasks ∧
      st4.localTasks = some [] ∧ st4.locals = some t ∧
      cursor st4 = Layout.Ref.cursorAfter (cursor st2) p ∧ (∀ s ∈ p, s.wf = true) ∧
      A.map Prod.fst = els.filterMap pubName ∧ (∀ xv ∈ A, t.val xv.1 = some xv.2) ∧
      (∀ T : List Layout.Task, ∃ la, MRun (withTasks T l4) (aliases (num pid) (num id) A) la ∧ la.tasks = T ∧
        R st4.seg la ∧ EnvRel (num pid) st4.globals la.env ∧
        (∀ j n, j ≠ pid → (j < id ∨ id' ≤ j) → la.env.get (num j n) = l2.env.get (num j n)) ∧
        (∀ E : Layout.Env, (∀ j n, id ≤ j → j < id' → E.get (num j n) = la.env.get (num j n)) →
          EnvRel (num id) t E ∧ F E pid id path t (id + 1) (cursor st2) els p id')) ∧
      Table.NoDef t ∧ ∀ el ∈ els, ok el := by
  have henv' : env1.paths.isEmpty = false := by rw [henv]; rfl
  obtain ⟨els, perr, st3, tasks, hparse, hda, herr3, htk, hfb', hres⟩ := fileBody_inv hinc.grew h herr
  obtain ⟨C, t₂, hC, ht₂, _, _⟩ := (doAssemble_rel hinc.rel perr els st2 [] hloc _ _ hda).tabs
  have sim2 : Multi.Sim (num id) enc t₂ st2.globalTasks st2.globals st2 l2 :=
    ⟨⟨r, ⟨[], hloc, fun n hh => by simp [Table.find] at hh, fun n v hh => by simp [Table.find] at hh,
        fun n => by rw [hfresh id n (Nat.le_refl _)]; rfl⟩,
      ⟨[], hlt, by rw [hlk]; trivial⟩, ⟨rfl, rfl⟩⟩, good⟩
  obtain ⟨p, lf, id', A, _, hle, hm, ⟨f2, hte, hpo, _, hPf, _, _, _⟩, hAn, hAv, hcur, hwf, hframe, _, hflat⟩ :=
    doAssemble_sim (t₂ := t₂) hinj henc fs hF inc proj hincs hinc env1 path rest henv perr pid id hpid st2.globals
      hgn avail hav els st2 st3 l2 (id + 1) [] [] (hproj els perr hparse).1 (hproj els perr hparse).2
      ⟨sim2, fun _ => rfl, trivial, fun x hx => (by cases hx), hgr, fun x hx => (by cases hx), Nat.lt_succ_self _,
        fun j n hj => hfresh j n (by omega)⟩ hda herr3 ht₂
  rw [List.nil_append] at hte hpo
  -- `n + 2 = rounds` (= 8), the round bound `fileBody` gives the file's task loop
  obtain ⟨l4, g1, g2, g3, g5⟩ := f2.localLoop henc env1 henv' (n := 6) ht₂ htk hfb' herr
  have he4 : l4.env = lf.env := Layout.runTasks_env _ (withTasks [] lf) l4 g1
  have hte4 : TEq st4.globals (pub st2.globals A) := by rw [g2.gl.2]; exact hte
  refine ⟨els, perr, t₂, p, lf, l4, A, id', hparse, by omega, hres, hm, g1, g2.good, hte4, hte4.nodef (nodef_pub hgn A),
    g2.gl.1, g2.lq, g2.loc, by rw [← hcur]; exact g3, hwf, hAn, hAv, fun T => ?_, g2.nodef, (hproj els perr hparse).2⟩
  have hgr4 : EnvRel (num pid) st2.globals (withTasks T l4).env := by
    intro n
    show l4.env.get (num pid n) = _
    rw [he4]; exact hPf n
  obtain ⟨la, a1, a2, a3, a4, a5, _, a7⟩ := alias_steps (num pid) (num id) (hinj.inj pid) A st2.globals (withTasks T l4) hpo hgn
    hgr4 (fun xv hxv => by
      show l4.env.get (num id xv.1) = _
      rw [g2.env xv.1]; exact hAv xv hxv)
    (fun a b hab => by have := (hinj _ _ _ _ hab).1; omega)
  have hother : ∀ j n, j ≠ pid → la.env.get (num j n) = l4.env.get (num j n) := fun j n hj =>
    a7 _ (fun x hx => hj (hinj _ _ _ _ hx).1)
  refine ⟨la, a1, a4, ⟨fun k => by rw [a2]; exact g2.r.1 k, by rw [a3]; exact g2.r.2⟩,
    fun m => by rw [a5 m, hte4.val m], fun j n hj hjr => ?_, fun E hE => ?_⟩
  · rw [hother j n hj, he4]
    exact hframe j n (by omega) (by omega)
  · have hE' : ∀ j n, id ≤ j → j < id' → E.get (num j n) = l4.env.get (num j n) := fun j n h1 h2 => by
      rw [hE j n h1 h2, hother j n (by omega)]
    refine ⟨fun n => ?_, hflat E (fun j n h1 h2 => by rw [hE' j n (by omega) h2, he4])
      (fun qf hqf task htask => g5 task (by rw [htk] at hqf; cases hqf; exact htask))⟩
    rw [hE' id n (Nat.le_refl _) (by omega)]
    exact g2.env n

end

/-- every file of the include tree below (`path`, `data`), to depth `fuel`, given the names `avail` its includer holds
valued at the `.include` statement: `ElsOk` -/
def XferProject (fs : Bytes → Option Bytes) : Nat → List Bytes → Bytes → Bytes → Prop
  | 0, _, _, _ => True
  | fuel + 1, avail, path, data => ∀ els perr, parseFile data = .ok (els, perr) →
      ElsOk fs path (XferProject fs fuel) avail [] els

theorem assembleFile_simF (hinj : NumInj num) (henc : EncLen enc) (fs : Bytes → Option Bytes) (hF : Flat num fs enc ok F)
    (proj : Nat → List Bytes → Bytes → Bytes → Prop)
    (hstep : ∀ fuel avail path data, proj (fuel + 1) avail path data → ∀ els perr, parseFile data = .ok (els, perr) →
      ElsOk fs path (proj fuel) avail [] els ∧ ∀ el ∈ els, ok el) :
    ∀ fuel, FIncSim num ok F (assembleFile fs enc fuel) (proj fuel) := by
  intro fuel
  induction fuel with
  | zero => intro env st st' data path pid id l tP avail _ _ _ _ _ _ _ _ _ _ h _; simp [assembleFile] at h
  | succ fuel ih =>
    intro env st st' data path pid id l tP avail hproj good henv r hlP hndP hrP hpid havP hfresh h herr
    obtain ⟨c, t, st4, hc, ht, g2, hf, rfl⟩ := assembleFile_inv good h
    rw [hlP] at hc; cases hc
    obtain ⟨els, perr, tt, p, l3, l4, A, id', hparse, hlt, _, hm, hrt, g4, e1, hnd, e2, e3, e4, hcur, hwf, hAn, hAv, hal, _, hokc⟩ :=
      fileBody_sim hinj henc fs hF (assembleFile fs enc fuel) (proj fuel) ih (.assembleFile henc fs fuel)
        ⟨path :: env.paths, path⟩ path env.paths rfl data pid id hpid _ st4 _ (withTasks [] l)
        avail (hstep fuel avail path data hproj) g2 r rfl rfl rfl hfresh hndP hrP havP hf herr
    obtain ⟨la, a1, a2, a3, a4, a5, a6⟩ := hal l.tasks
    refine ⟨els, perr, tt, p, l3, l4, A, la, id', st4.globals, hparse, hlt, hm, hrt, a1, a2, a3, rfl, e1, hnd, a4, ?_, rfl, rfl,
      hcur, hwf, a5, a6, hAn, hAv, hokc⟩
    simp only [leaveFile]; rw [e2, ht]

theorem assembleFile_sim (hinj : NumInj num) (henc : EncLen enc) (fs : Bytes → Option Bytes) :
    ∀ fuel, XIncSim num enc fs (assembleFile fs enc fuel) (XferProject fs fuel) :=
  assembleFile_simF hinj henc fs (XFlatS.flat num fs enc) (XferProject fs)
    (fun _ _ _ _ h els perr hp => ⟨h els perr hp, fun _ _ => trivial⟩)

end

end Trion.Asm.Xfer

namespace Trion.Asm
open Trion Trion.SegLayout Trion.Asm.Multi Trion.Asm.Glob Trion.Asm.Xfer

theorem pubName_of_global {el : Element} {x : Bytes} (h : globalName el = some x) : pubName el = some x := by
  simp only [pubName, h]

theorem not_import_export_of_okGlob {el : Element} (h : okGlob el = true) : isImport el = false ∧ isExport el = false := by
  obtain ⟨line, col, val⟩ := el
  cases val with
  | label n => exact ⟨rfl, rfl⟩
  | instruction n a => exact ⟨rfl, rfl⟩
  | directive name args =>
    simp only [okGlob, Bool.not_eq_true', Bool.or_eq_false_iff, decide_eq_false_iff_not] at h
    simp only [isImport, isExport, decide_eq_false_iff_not]
    exact h

theorem pubName_eq_of_okGlob {el : Element} (h : okGlob el = true) : pubName el = globalName el := by
  unfold pubName
  cases hg : globalName el with
  | some x => rfl
  | none => simp only [exportName_none (not_import_export_of_okGlob h).2]

theorem filterMap_pubName_of_okGlob : ∀ (l : List Element), (∀ el ∈ l, okGlob el = true) →
    l.filterMap pubName = l.filterMap globalName
  | [], _ => rfl
  | el :: l, h => by
    simp only [List.filterMap_cons, pubName_eq_of_okGlob (h el List.mem_cons_self)]
    rw [filterMap_pubName_of_okGlob l (fun x hx => h x (List.mem_cons_of_mem _ hx))]

theorem newNames_sub_xNames (fs : Bytes → Option Bytes) (path : Bytes) (el : Element) :
    ∀ x ∈ newNames fs path el, x ∈ xNames fs path el := by
  intro x hx
  simp only [newNames, List.mem_append] at hx
  simp only [xNames, List.mem_append]
  rcases hx with hx | hx
  · refine .inl (.inl (.inl ?_))
    cases hd : definedName el with
    | none => rw [hd] at hx; cases hx
    | some y => rw [hd] at hx; simpa using hx
  · refine .inr ?_
    unfold incNames at hx
    unfold xincNames
    split
    · rename_i p' d' ht
      rw [ht] at hx
      simp only at hx ⊢
      split
      · rename_i els' pe hp
        rw [hp] at hx
        simp only [List.mem_filterMap] at hx ⊢
        obtain ⟨e, he, hg⟩ := hx
        exact ⟨e, he, pubName_of_global hg⟩
      · rename_i r hp
        rw [hp] at hx; cases hx
    · rename_i ht
      rw [ht] at hx; cases hx

theorem elsOk_of_declOk (fs : Bytes → Option Bytes) (path : Bytes) (proj : List Bytes → Bytes → Bytes → Prop)
    (avail : List Bytes) : ∀ (els : List Element) (seen seen' : List Bytes),
      (∀ el ∈ els, okGlob el = true ∧ ∀ p' d', incTarget fs path el = some (p', d') → ∀ a, proj a p' d') →
      declOk fs path seen els = true → (∀ x ∈ seen, x ∈ seen') → ElsOk fs path proj avail seen' els := by
  intro els
  induction els with
  | nil => intro _ _ _ _ _; trivial
  | cons el els ih =>
    intro seen seen' hok hd hsub
    simp only [declOk, Bool.and_eq_true] at hd
    obtain ⟨h1, h2⟩ := hd
    have hel := hok el List.mem_cons_self
    refine ⟨fun hg => ?_, fun hm => ?_, fun p' d' ht => hel.2 p' d' ht _, ih _ _ (fun x hx => hok x (List.mem_cons_of_mem _ hx)) h2 ?_⟩
    · rw [if_pos hg] at h1
      cases hgn : globalName el with
      | none => rw [hgn] at h1; cases h1
      | some x => rw [hgn] at h1; exact ⟨x, rfl, hsub x (by simpa using h1)⟩
    · rw [(not_import_export_of_okGlob hel.1).1] at hm; cases hm
    · intro x hx
      rcases List.mem_append.mp hx with hx | hx
      · exact List.mem_append_left _ (newNames_sub_xNames fs path el x hx)
      · exact List.mem_append_right _ (hsub x hx)

open Trion.Layout (MRun withTasks) in
/-- A successful run against the reference, for any family `F` of flattenings (`Xfer.Flat`) and any family `proj` of side
conditions that at depth `fuel + 1` gives `ok` of every statement and `ElsOk` over the family at depth `fuel`: the main file
is run like an included one (number 1, includer 0 with the empty table), its publications are the aliases behind it. -/
theorem run_flat {num : Nat → Bytes → Nat} (hinj : NumInj num) (fs : Bytes → Option Bytes) {ok : Element → Prop}
    {F : Xfer.FlatT} (hF : Xfer.Flat num fs encoder ok F) (proj : Nat → List Bytes → Bytes → Bytes → Prop)
    (hstep : ∀ fuel avail path data, proj (fuel + 1) avail path data → ∀ els perr, parseFile data = .ok (els, perr) →
      Xfer.ElsOk fs path (proj fuel) avail [] els ∧ ∀ el ∈ els, ok el)
    (main data : Bytes) (hfs : fs main = some data) (hproj : proj maxDepth [] main data) (o : Outcome)
    (h : run fs main = .done o) (hs : o.success = true) :
    ∃ (els : List Element) (perr : Option ParseErr) (p : List Layout.Stmt) (t : Table) (n : Nat)
      (A : List (Bytes × Int)) (im' : Layout.Img) (la : Layout.State),
      parseFile data = .ok (els, perr) ∧
      EnvRel (num 1) t la.env ∧ Table.NoDef t ∧ F la.env 0 1 main t 2 none els p n ∧ (∀ el ∈ els, ok el) ∧
      MRun ({} : Layout.State) (p ++ aliases (num 0) (num 1) A) la ∧
      A.map Prod.fst = els.filterMap Xfer.pubName ∧ (∀ xv ∈ A, t.val xv.1 = some xv.2) ∧
      EnvRel (num 0) (pub [] A) la.env ∧
      (∀ s ∈ p ++ aliases (num 0) (num 1) A, s.wf = true) ∧
      Layout.Ref.pass2 none [] (p ++ aliases (num 0) (num 1) A) = some im' ∧ (∀ a, Map.abs o.image a = im'.get a) ∧
      (∀ q s r, p ++ aliases (num 0) (num 1) A = q ++ s :: r → s.emits = true →
        ∃ x, Layout.Ref.cursorAfter none q = some x ∧
          ∀ i, i < (Layout.Ref.bytes x s).length → im'.get (x + i) = (Layout.Ref.bytes x s)[i]?) ∧
      (Layout.NoLabelAtTop (p ++ aliases (num 0) (num 1) A) →
        Layout.Ref.pass1 none [] (p ++ aliases (num 0) (num 1) A) = some la.env) := by
  have henc := encoder_len
  obtain ⟨st4, res4, s', hfb, herr4, _, hcl, himg⟩ := run_success_inv hfs h hs
  -- 63 = `maxDepth - 1`: `runWith` calls `assembleFile` with fuel `maxDepth`, the main file's `.include`s get one less
  rw [show maxDepth = 63 + 1 from rfl] at hproj
  obtain ⟨els, perr, tt, p, l3, l4, A, id', hparse, _, _, hm, hrt, g4, e1, _, e2, _, _, _, hwf, hAn, hAv, hal, hndt, hok⟩ :=
    Xfer.fileBody_sim (num := num) hinj henc fs hF (assembleFile fs encoder 63) (proj 63)
      (Xfer.assembleFile_simF hinj henc fs hF proj hstep 63) (.assembleFile henc fs 63) ⟨[main], main⟩ main [] rfl data 0 1 (by omega) C04.init2 st4 res4 {} []
      (hstep 63 [] main data hproj) good_init2 ⟨fun _ => rfl, rfl⟩ rfl rfl rfl
      (fun _ _ _ => rfl) (fun n hh => by simp [C04.init2, Table.find] at hh) (fun n => rfl) (fun x hx => by cases hx)
      hfb herr4
  obtain ⟨la, a1, a2, a3, a4, _, a6⟩ := hal []
  have hwfall : ∀ s ∈ p ++ aliases (num 0) (num 1) A, s.wf = true := by
    intro s hs'
    rcases List.mem_append.mp hs' with hs' | hs'
    · exact hwf s hs'
    · exact aliases_wf _ _ _ s hs'
  have hwhole : MRun ({} : Layout.State) (p ++ aliases (num 0) (num 1) A) la := .file hm hrt a1
  obtain ⟨im', hp2, hi, hpl, hp1⟩ := image_ref hwhole a2 hwfall g4.inv a3 hcl
  obtain ⟨hE, hF'⟩ := a6 la.env (fun _ _ _ _ => rfl)
  exact ⟨els, perr, p, tt, id', A, im', la, hparse, hE, hndt, hF', hok, hwhole, hAn, hAv,
    fun m => by rw [a4 m, e1.val m]; rfl, hwfall, hp2, fun a => by rw [himg e2]; exact hi a, hpl, hp1⟩

end Trion.Asm

namespace Trion.Asm.Glob
open Trion Trion.SegLayout Trion.Asm Trion.Asm.Multi Trion.Asm.Xfer

/-- `GFlat` as a family of flattenings (it does not mention the includer's number) -/
def GF (num : Nat → Bytes → Nat) (fs : Bytes → Option Bytes) (enc : Encoder) : FlatT :=
  fun E _ id path t nxt c els p nxt' => GFlat num fs enc E id path t nxt c els p nxt'

theorem GFlat.flat (num : Nat → Bytes → Nat) (fs : Bytes → Option Bytes) (enc : Encoder) :
    Flat num fs enc (fun el => okGlob el = true) (GF num fs enc) where
  nil := fun _ _ _ _ _ _ _ => .nil ..
  stmt := fun _ h1 h2 _ _ _ h => .stmt h1 h2 h
  pubs := fun hok hg h => by
    rcases hg with hg | hg
    · exact .glob hg h
    · rw [(not_import_export_of_okGlob hok).2] at hg; cases hg
  imp := fun hok hi _ _ => by
    rw [importName_none (not_import_export_of_okGlob hok).1] at hi; cases hi
  inc := fun _ h1 h2 hokc h3 h4 h5 h6 h7 => .inc h1 h2 h3 h4 (h5.trans (filterMap_pubName_of_okGlob _ hokc)) h6 h7

theorem globalProject_step (fs : Bytes → Option Bytes) (fuel : Nat) (avail : List Bytes) (path data : Bytes)
    (h : GlobalProject fs (fuel + 1) path data) (els : List Element) (perr : Option ParseErr)
    (hp : parseFile data = .ok (els, perr)) :
    ElsOk fs path (fun _ p d => GlobalProject fs fuel p d) avail [] els ∧ ∀ el ∈ els, okGlob el = true :=
  ⟨elsOk_of_declOk fs path _ avail els [] []
      (fun el hel => ⟨((h els perr hp).2 el hel).1, fun p' d' ht _ => ((h els perr hp).2 el hel).2 p' d' ht⟩)
      (h els perr hp).1 (fun _ hx => hx),
    fun el hel => ((h els perr hp).2 el hel).1⟩

def GIncSim (num : Nat → Bytes → Nat) (enc : Encoder) (fs : Bytes → Option Bytes) (inc : Inc) (proj : Bytes → Bytes → Prop) : Prop :=
  FIncSim num (fun el => okGlob el = true) (GF num fs enc) inc (fun _ p d => proj p d)

theorem assembleFile_sim {num : Nat → Bytes → Nat} {enc : Encoder} (hinj : NumInj num) (henc : EncLen enc)
    (fs : Bytes → Option Bytes) :
    ∀ fuel, GIncSim num enc fs (assembleFile fs enc fuel) (GlobalProject fs fuel) :=
  assembleFile_simF hinj henc fs (GFlat.flat num fs enc) (fun fuel _ p d => GlobalProject fs fuel p d)
    (fun fuel avail path data h => globalProject_step fs fuel avail path data h)

end Trion.Asm.Glob
