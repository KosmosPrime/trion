import TrionModel.Lemmas.C04Addr
/-!
# C04 closed: the operand getters of `convert!` with the concrete evaluator, against `C04.denote`

For an evaluator that IS `Simp.evaluate` over a table without deferred entries (`EvalSimp`, `NoDef`, `tableOk`) a getter
yields exactly the operand's meaning (`denote`) when that is inside the type (`okValC`), and otherwise ends `assemble`
with a diagnostic — no deferral, no panic.  That a yielded value is inside its Rust type is `Front.get_wf`, for any
evaluator.
-/
namespace Trion.C04
open Trion Trion.Front Trion.Simp

theorem evaluated_eq (k : Kind) : evaluated k = k.evals := by cases k <;> rfl

/-- the condition on an operand's meaning under which the getter yields it (`C` for completeness, `get_complete`): the value
fits the Rust type the getter narrows to (`Val.wf`), and an immediate offset inside `[…]` is not negative (`immOkNonneg`:
`[Rn + -4]` is rewritten to `[Rn - 4]` and refused; for an instruction, `Show.MemNonneg`) -/
def okValC : Val → Prop
  | .imm v => inI32 v
  | .off v => 0 ≤ v ∧ v ≤ 4294967295
  | .immReg x => x.wf
  | .address _ (some o) => immOkNonneg o
  | _ => True

theorem denote_fits {T : SymTable} {k : Kind} {a : Arg} {v : Val} (h : denote T k a = some v) : Fits k v := by
  cases k <;> simp only [denote] at h
  case register => cases a <;> simp at h; obtain ⟨_, _, rfl⟩ := h; constructor
  case systemReg => cases a <;> simp at h; obtain ⟨_, _, rfl⟩ := h; constructor
  case identifier => cases a <;> simp at h; subst h; constructor
  case regSet => cases a <;> simp at h; obtain ⟨_, _, rfl⟩ := h; constructor
  case immediate => simp at h; obtain ⟨_, _, rfl⟩ := h; constructor
  case offset => simp at h; obtain ⟨_, _, rfl⟩ := h; constructor
  case immReg =>
    split at h
    · split at h
      · simp at h; obtain ⟨_, _, rfl⟩ := h; constructor
      · simp at h; obtain ⟨_, _, rfl⟩ := h; constructor
    · simp at h; obtain ⟨_, _, rfl⟩ := h; constructor
  case address => cases a <;> simp at h; obtain ⟨_, _, _, rfl⟩ := h; constructor
  case addrOffset =>
    split at h
    · simp at h; obtain ⟨_, _, _, rfl⟩ := h; constructor
    · simp at h; obtain ⟨_, _, rfl⟩ := h; constructor

theorem regset_spec (idx : Nat) : ∀ (items : List Arg) (acc : RegSet),
    (∀ rs, regset idx items acc = .ok rs ↔ regList items acc = some rs) := by
  intro items
  induction items with
  | nil => intro acc rs; simp [regset, regList]
  | cons a rest ih =>
    intro acc rs
    cases a with
    | ident s =>
      simp only [regset, regList]
      cases regl s with
      | none => simp
      | some r => exact ih _ rs
    | _ => simp [regset, regList]

theorem eval_shape {lk : Bytes → Lookup} (hn : NoDef lk) {a a1 : Arg} {ev : Ev}
    (hd : doc a = true) (hv : valued (tab lk) a = true) (he : evaluate lk isRegister a = .ok (ev, a1)) :
    match a with
    | .const c => a1 = .const c
    | .ident s => (isRegister s = true ∧ a1 = .ident s) ∨ (isRegister s = false ∧ ∃ c, a1 = .const c)
    | .str s => a1 = .str s
    | .bin .. | .neg _ | .not _ => ∃ c, a1 = .const c
    | .addr x => ∃ e1 x1, evaluate lk isRegister x = .ok (e1, x1) ∧ a1 = .addr x1
    | .seq _ => ∃ as', a1 = .seq as'
    | .func n _ => ∃ as', a1 = .func n as' := by
  cases a with
  | const c => simp only [evaluate] at he; cases he; rfl
  | ident s =>
    by_cases hr : isRegister s = true
    · simp only [evaluate, hr, if_true] at he; cases he; exact .inl ⟨hr, rfl⟩
    · have hr' : isRegister s = false := by simpa using hr
      obtain ⟨c, hl⟩ := valued_lookup hv hr'
      simp only [evaluate, hr', Bool.false_eq_true, if_false, hl] at he; cases he
      exact .inr ⟨hr', c, rfl⟩
  | str s => simp only [evaluate] at he; cases he; rfl
  | bin op l r => exact expr_const hn hd he
  | neg x => exact expr_const hn hd he
  | not x => exact expr_const hn hd he
  | addr x => exact evaluate_addr_ok he
  | seq as =>
    simp only [evaluate] at he
    cases h1 : evaluateArgs lk isRegister as with
    | ok p => rw [h1] at he; cases he; exact ⟨_, rfl⟩
    | err e => rw [h1] at he; cases he
    | panic => rw [h1] at he; cases he
  | func n as =>
    simp only [evaluate] at he
    cases h1 : evaluateArgs lk isRegister as with
    | ok p => rw [h1] at he; cases he; exact ⟨_, rfl⟩
    | err e => rw [h1] at he; cases he
    | panic => rw [h1] at he; cases he

theorem not_reg_of_const {lk : Bytes → Lookup} {a : Arg} {ev : Ev} {c : Int}
    (he : evaluate lk isRegister a = .ok (ev, .const c)) : regIdent a = false := by
  cases hr : regIdent a with
  | false => rfl
  | true => rw [evaluate_regIdent lk hr] at he; cases he; cases hr

theorem eval_ident_inv {lk : Bytes → Lookup} (hn : NoDef lk) {a : Arg} {ev : Ev} {s : Bytes}
    (hd : doc a = true) (hv : valued (tab lk) a = true) (he : evaluate lk isRegister a = .ok (ev, .ident s)) :
    a = .ident s ∧ isRegister s = true := by
  have hsh := eval_shape hn hd hv he
  cases a <;> dsimp only at hsh
  case ident s0 =>
    rcases hsh with ⟨hr, h⟩ | ⟨_, c, h⟩
    · cases h; exact ⟨rfl, hr⟩
    · cases h
  all_goals first
    | cases hsh; done
    | (obtain ⟨_, _, _, h⟩ := hsh; cases h; done)
    | (obtain ⟨_, h⟩ := hsh; cases h; done)

theorem eval_addr_inv {lk : Bytes → Lookup} (hn : NoDef lk) {a : Arg} {ev : Ev} {x1 : Arg}
    (hd : doc a = true) (hv : valued (tab lk) a = true) (he : evaluate lk isRegister a = .ok (ev, .addr x1)) :
    ∃ x e1, a = .addr x ∧ evaluate lk isRegister x = .ok (e1, x1) := by
  have hsh := eval_shape hn hd hv he
  cases a <;> dsimp only at hsh
  case addr x => obtain ⟨e1, x1', hx, h⟩ := hsh; cases h; exact ⟨x, e1, rfl, hx⟩
  case ident s0 => rcases hsh with ⟨_, h⟩ | ⟨_, c, h⟩ <;> cases h
  all_goals first
    | cases hsh; done
    | (obtain ⟨_, h⟩ := hsh; cases h; done)

theorem denote_immReg_val {T : SymTable} {a : Arg} (h : regIdent a = false) :
    denote T .immReg a = (value T a).map fun v => .immReg (.imm v) := by
  cases a <;> simp_all [denote, regIdent]

theorem denote_addrOffset_val {T : SymTable} {a : Arg} (h : ∀ x, a ≠ .addr x) :
    denote T .addrOffset a = (value T a).map .off := by
  cases a <;> simp_all [denote]

section
variable {lk : Bytes → Lookup} (hn : NoDef lk) (hT : Simp.tableOk lk)
include hn hT

theorem denote_value_of_const {k : Kind} {a : Arg} {ev : Ev} {c : Int} (hl : lits a = true)
    (he : evaluate lk isRegister a = .ok (ev, .const c)) : value (tab lk) a = some c := evaluate_value hT hl he

theorem yields_sound {k : Kind} (hk : k.evals = true) {a a1 : Arg} {ev : Ev}
    (hd : doc a = true) (hl : lits a = true) (hv : valued (tab lk) a = true)
    (he : evaluate lk isRegister a = .ok (ev, a1)) {pos : Nat} {v : Val} (hy : Yields pos k a1 v) :
    denote (tab lk) k a = some v := by
  have hconst : ∀ c, a1 = .const c → value (tab lk) a = some c := fun c h => evaluate_value hT hl (h ▸ he)
  cases hy with
  | ident | reg | sys | regSet => cases hk
  | imm h => obtain ⟨_, _, rfl⟩ := narrow_iff.1 h; simp [denote, hconst _ rfl]
  | immRegI h => obtain ⟨_, _, rfl⟩ := narrow_iff.1 h; simp [denote_immReg_val (not_reg_of_const he), hconst _ rfl]
  | immRegR h => obtain ⟨rfl, hreg⟩ := eval_ident_inv hn hd hv he; simp [denote, hreg, h]
  | addr hk' h =>
    obtain ⟨x, e1, rfl, hx⟩ := eval_addr_inv hn hd hv he
    obtain ⟨o', rfl, hm⟩ := mem_sound hn hT (by simpa [doc] using hd) (by simpa [lits] using hl) hx h
    rcases hk' with rfl | rfl <;> simp [denote, hm]
  | off hk' h =>
    obtain ⟨_, _, rfl⟩ := narrow_iff.1 h
    rcases hk' with rfl | rfl
    · simp [denote, hconst _ rfl]
    · have hna : ∀ x, a ≠ .addr x := by
        intro x hx; subst hx
        obtain ⟨_, _, _, h⟩ := eval_shape hn hd hv he; cases h
      simp [denote_addrOffset_val hna, hconst _ rfl]

omit hn hT in
/-- the operand as `evaluate` leaves it (as written, for the four kinds that do not evaluate) is one the getter reads the
meaning from, when that is inside the ranges the getter accepts -/
theorem denote_yields {k : Kind} {a : Arg} {v : Val} (hden : denote (tab lk) k a = some v) (hok : okValC v) (pos : Nat) :
    ∃ a1, Yields pos k a1 v ∧ if k.evals = true then ∃ ev, evaluate lk isRegister a = .ok (ev, a1) else a1 = a := by
  -- an operand that is read by its value `c`
  have hvalcase : ∀ (c : Int) (w : Val), k.evals = true → value (tab lk) a = some c → Yields pos k (.const c) w →
      ∃ a1, Yields pos k a1 w ∧ if k.evals = true then ∃ ev, evaluate lk isRegister a = .ok (ev, a1) else a1 = a := by
    intro c w hk hc hy
    obtain ⟨ev, he⟩ := value_evaluate lk a c hc
    exact ⟨_, hy, by rw [if_pos hk]; exact ⟨ev, he⟩⟩
  have hmemcase : ∀ x r o, k.evals = true → (k = .address ∨ k = .addrOffset) → a = .addr x →
      mem (tab lk) x = some (r, o) → immOkNonneg o →
      ∃ a1, Yields pos k a1 (.address r (some o)) ∧
        if k.evals = true then ∃ ev, evaluate lk isRegister a = .ok (ev, a1) else a1 = a := by
    intro x r o hk hk' ha hm ho
    subst ha
    obtain ⟨e1, x1, hx, hb, hao⟩ := mem_complete lk hm ho
    exact ⟨.addr x1, .addr hk' (hao _), by rw [if_pos hk]; exact ⟨e1.or ⟨false, none⟩, by rw [evaluate_addr, hx]; simp [hb]⟩⟩
  cases k
  case immediate =>
    simp only [denote, Option.map_eq_some_iff] at hden
    obtain ⟨c, hc, rfl⟩ := hden
    exact hvalcase c _ rfl hc (.imm (narrowI32_ok hok))
  case offset =>
    simp only [denote, Option.map_eq_some_iff] at hden
    obtain ⟨c, hc, rfl⟩ := hden
    exact hvalcase c _ rfl hc (.off (.inl rfl) (narrowU32_ok hok))
  case immReg =>
    cases hr : regIdent a with
    | true =>
      obtain ⟨s, rfl, hs⟩ := regIdent_iff.1 hr
      simp only [denote, hs, if_true, Option.map_eq_some_iff] at hden
      obtain ⟨r, hreg, rfl⟩ := hden
      exact ⟨_, .immRegR hreg, by rw [if_pos (show Kind.evals .immReg = true from rfl)]; exact ⟨_, evaluate_regIdent lk hr⟩⟩
    | false =>
      simp only [denote_immReg_val hr, Option.map_eq_some_iff] at hden
      obtain ⟨c, hc, rfl⟩ := hden
      exact hvalcase c _ rfl hc (.immRegI (narrowI32_ok hok))
  case address =>
    cases a with
    | addr x =>
      simp only [denote, Option.map_eq_some_iff] at hden
      obtain ⟨⟨r, o⟩, hm, rfl⟩ := hden
      exact hmemcase x r o rfl (.inl rfl) rfl hm hok
    | _ => simp [denote] at hden
  case addrOffset =>
    by_cases hx : ∃ x, a = .addr x
    · obtain ⟨x, rfl⟩ := hx
      simp only [denote, Option.map_eq_some_iff] at hden
      obtain ⟨⟨r, o⟩, hm, rfl⟩ := hden
      exact hmemcase x r o rfl (.inr rfl) rfl hm hok
    · simp only [denote_addrOffset_val fun x h => hx ⟨x, h⟩, Option.map_eq_some_iff] at hden
      obtain ⟨c, hc, rfl⟩ := hden
      exact hvalcase c _ rfl hc (.off (.inr rfl) (narrowU32_ok hok))
  case identifier =>
    cases a <;> simp only [denote, Option.some.injEq, reduceCtorEq] at hden
    subst hden; exact ⟨_, .ident _, rfl⟩
  case register =>
    cases a <;> simp only [denote, Option.map_eq_some_iff, reduceCtorEq] at hden
    obtain ⟨r, hr, rfl⟩ := hden; exact ⟨_, .reg hr, rfl⟩
  case systemReg =>
    cases a <;> simp only [denote, Option.map_eq_some_iff, reduceCtorEq] at hden
    obtain ⟨r, hr, rfl⟩ := hden; exact ⟨_, .sys hr, rfl⟩
  case regSet =>
    cases a <;> simp only [denote, Option.map_eq_some_iff, reduceCtorEq] at hden
    obtain ⟨rs, hr, rfl⟩ := hden; exact ⟨_, .regSet ((regset_spec pos _ 0 rs).2 hr), rfl⟩

variable {eval : Arg → EvalOut} (hE : EvalSimp eval lk)
include hE

omit hT in
theorem evalArg_cases {loc : Bool} {pos done : Nat} (hdn : done ≤ pos) {a : Arg} (hv : valued (tab lk) a = true) :
    (∃ ev a1, evaluate lk isRegister a = .ok (ev, a1) ∧ evalArg eval loc pos done a = .ok (a1, pos + 1)) ∨
    (∃ e a1, evalArg eval loc pos done a = .error (a1, .error (.evalErr e))) := by
  rcases eval_cases hE hn a hv with ⟨ev, a1, he, hc⟩ | ⟨e, a1, hc⟩
  · exact .inl ⟨ev, a1, he, by simp [evalArg, hdn, hc]⟩
  · exact .inr ⟨e, a1, by simp [evalArg, hdn, hc]⟩

omit hn hT hE in
theorem yields_plain {T : SymTable} {k : Kind} (hk : k.evals = false) {pos : Nat} {a : Arg} {v : Val}
    (hy : Yields pos k a v) : denote T k a = some v := by
  cases hy with
  | ident => rfl
  | reg h | sys h => simp [denote, h]
  | regSet h => simp [denote, (regset_spec pos _ 0 _).1 h]
  | addr hk' | off hk' => rcases hk' with rfl | rfl <;> cases hk
  | _ => cases hk

omit hT in
/-- a getter that yields a value, with the concrete evaluator: the value is read (`Yields`) from what `evaluate` makes of
the argument, for the four kinds that do not evaluate from the argument itself -/
theorem get_reads {k : Kind} {loc : Bool} {pos done : Nat} (hdn : done ≤ pos) {a : Arg}
    (hv : k.evals = true → valued (tab lk) a = true) {v : Val} {a' : Arg} {d' : Nat}
    (hg : get k eval loc pos done a = .ok v a' d') :
    Yields pos k a' v ∧ if k.evals = true then ∃ ev, evaluate lk isRegister a = .ok (ev, a') else a' = a := by
  obtain ⟨hy, h⟩ := get_ok hg
  refine ⟨hy, ?_⟩
  rcases prologue_ok h with ⟨hk, _, he, _⟩ | ⟨hs, rfl, _⟩
  · rw [if_pos hk]
    rcases eval_cases hE hn a (hv hk) with ⟨ev, a1, h1, hc⟩ | ⟨e, a1, hc⟩
    · rw [he] at hc; cases hc; exact ⟨ev, h1⟩
    · rw [he] at hc; cases hc
  · rw [if_neg]
    exact (hs.resolve_right (by omega)) ▸ Bool.false_ne_true

omit hT in
/-- soundness of a getter for any reading `den` of an operand and any class `D` of operand forms, given the reading of
what the getter looks at (`Yields`): instances `get_sound` (`denote`, `doc`) and `get_sound2` (`denote2`, `doc2`) -/
theorem get_sound_of {D : Arg → Bool} {den : Kind → Arg → Option Val}
    (hplain : ∀ {k pos a v}, k.evals = false → Yields pos k a v → den k a = some v)
    (hread : ∀ {k a a1 ev pos v}, k.evals = true → D a = true → lits a = true → valued (tab lk) a = true →
      evaluate lk isRegister a = .ok (ev, a1) → Yields pos k a1 v → den k a = some v)
    {k : Kind} {loc : Bool} {pos done : Nat} (hdn : done ≤ pos) {a : Arg}
    (hs : evaluated k = true → valued (tab lk) a = true ∧ lits a = true ∧ D a = true)
    {v : Val} {a' : Arg} {d' : Nat} (hg : get k eval loc pos done a = .ok v a' d') : den k a = some v := by
  have hs := fun hk : k.evals = true => hs ((evaluated_eq k).trans hk)
  obtain ⟨hy, hr⟩ := get_reads hn hE hdn (fun hk => (hs hk).1) hg
  cases hk : k.evals with
  | false => simp only [hk, Bool.false_eq_true, if_false] at hr; subst hr; exact hplain hk hy
  | true =>
    simp only [hk, if_true] at hr
    obtain ⟨ev, he⟩ := hr
    obtain ⟨hv, hl, hd⟩ := hs hk
    exact hread hk hd hl hv he hy

theorem get_sound {k : Kind} {loc : Bool} {pos done : Nat} (hdn : done ≤ pos) {a : Arg}
    (hs : evaluated k = true → valued (tab lk) a = true ∧ lits a = true ∧ doc a = true)
    {v : Val} {a' : Arg} {d' : Nat} (hg : get k eval loc pos done a = .ok v a' d') : denote (tab lk) k a = some v :=
  get_sound_of hn hE (fun hk hy => yields_plain hk hy) (fun hk hd hl hv he hy => yields_sound hn hT hk hd hl hv he hy) hdn hs hg

omit hT in
theorem get_complete {k : Kind} {loc : Bool} {pos done : Nat} (hdn : done ≤ pos) {a : Arg} {v : Val}
    (hden : denote (tab lk) k a = some v) (hok : okValC v) :
    ∃ a' d', get k eval loc pos done a = .ok v a' d' ∧ d' ≤ pos + 1 := by
  obtain ⟨a1, hy, hr⟩ := denote_yields hden hok pos
  cases hk : k.evals with
  | false =>
    rw [hk, if_neg Bool.false_ne_true] at hr; subst hr
    exact ⟨a1, done, get_ok_iff.2 ⟨prologue_skip (.inl hk) .., yields_classify hy⟩, by omega⟩
  | true =>
    rw [hk, if_pos rfl] at hr
    obtain ⟨ev, he⟩ := hr
    have hc := (hE.ok a ev a1 he).1 (evaluate_cause_none hn he)
    exact ⟨a1, pos + 1, by rw [get_of_complete hk loc hdn hc, yields_classify hy]; rfl, Nat.le_refl _⟩

omit hT in
theorem get_total {k : Kind} {loc : Bool} {pos done : Nat} (hdn : done ≤ pos) {a : Arg}
    (hs : k.evals = true → valued (tab lk) a = true) :
    (∃ v a' d', get k eval loc pos done a = .ok v a' d') ∨ (∃ a' d' e, get k eval loc pos done a = .stop a' d' (.error e)) := by
  have hp : (∃ a1 d, prologue k eval loc pos done a = .ok (a1, d)) ∨
      (∃ e a1, prologue k eval loc pos done a = .error (a1, .error (.evalErr e))) := by
    cases hk : k.evals with
    | false => exact .inl ⟨a, done, prologue_skip (.inl hk) ..⟩
    | true =>
      rw [prologue_evals hk]
      rcases evalArg_cases hn hE (loc := loc) hdn (hs hk) with ⟨ev, a1, _, h⟩ | ⟨e, a1, h⟩
      · exact .inl ⟨_, _, h⟩
      · exact .inr ⟨_, _, h⟩
  rw [get_eq]
  rcases hp with ⟨a1, d, h⟩ | ⟨e, a1, h⟩
  · rw [h]
    cases hc : classify k pos a1 with
    | ok v => exact .inl ⟨v, a1, d, by simp only [hc, GetOut.of]⟩
    | error x => exact .inr ⟨a1, d, x, by simp only [hc, GetOut.of]⟩
  · rw [h]; exact .inr ⟨_, _, _, rfl⟩

end

end Trion.C04
