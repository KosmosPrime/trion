import TrionModel.Lemmas.Front
/-! # `Show.text i a = Show.render (Show.parts i a)` — the printed text is the concrete syntax of the denoted statement -/
namespace Trion.Show
open Trion.Front

theorem toList_ofList (l : List Arg) : (Args.ofList l).toList = l := by
  induction l with
  | nil => rfl
  | cons a l ih => simp [Args.ofList, Args.toList, ih]

theorem regSetLoop_render (bits : Nat) : ∀ (fuel i : Nat) (first : Bool),
    regSetLoop bits fuel i first = renderArgs (Args.ofList ((regSetList bits fuel i).map rA)) first := by
  intro fuel
  induction fuel with
  | zero => intro i first; simp [regSetLoop, regSetList, Args.ofList, renderArgs]
  | succ fuel ih =>
    intro i first
    unfold regSetLoop regSetList
    by_cases hb : bits / 2 ^ i % 2 ≠ 0
    · rw [if_pos hb, if_pos hb]
      simp [Args.ofList, renderArgs, renderArg, rA, ih]
    · rw [if_neg hb, if_neg hb]
      exact ih _ _

theorem immReg_render (r : ImmReg) : immRegText r = renderArg (irA r) := by
  cases r <;> simp [immRegText, irA, renderArg, rA]

theorem text_eq_render_proof (i : Instr) (a : Nat) : text i a = render (parts i a) := by
  have h0 : intDec 0 = bytesOf "0" := by decide
  cases i
  case cps e => cases e <;> (simp only [text, parts]; decide)
  case dmb => simp only [text, parts]; decide
  case dsb => simp only [text, parts]; decide
  case isb => simp only [text, parts]; decide
  case nop => simp only [text, parts]; decide
  case sev => simp only [text, parts]; decide
  case wfe => simp only [text, parts]; decide
  case wfi => simp only [text, parts]; decide
  case yield => simp only [text, parts]; decide
  case ldr d ad o =>
    cases o with
    | reg r => simp [text, parts, render, renderArgs, renderArg, Args.ofList, rA, irA, memA, immRegText, opText, mem, List.append_assoc]
    | imm v =>
      by_cases h15 : ad.val = 15
      · simp [text, parts, render, renderArgs, renderArg, Args.ofList, rA, lblA, h15, two, List.append_assoc]
      · simp [text, parts, render, renderArgs, renderArg, Args.ofList, rA, irA, memA, immRegText, opText, mem, h15, List.append_assoc]
  all_goals
    simp [text, parts, render, renderArgs, renderArg, Args.ofList, rA, irA, memA, lblA, rsA, immReg_render, opText,
      two, three, one, mem, regSetText, regSetLoop_render, h0, List.append_assoc]
end Trion.Show
