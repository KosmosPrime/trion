import TrionModel.Lemmas.SegRewrite
import TrionModel.Lemmas.LayoutInv
/-!
# The region machine of C13 (`Seg`, over the `MemoryMap` model) refines the layout core of C05 (`Layout`)

`R s l`: the closed map of `s` denotes the closed image of `l`, and the active regions coincide
(`base`, `buf`, `maxLen`).  Under the region invariant every operation of `Seg` that succeeds is matched by the
corresponding operation of `Layout`, which succeeds too and re-establishes `R`.
-/
namespace Trion.SegLayout
open Trion Trion.Map Trion.Dict

/-- the active region of `Seg` as one of the layout core -/
def toL (a : Seg.Active) : Layout.Active := ⟨a.base, a.buf, a.maxLen⟩

def R (s : Seg.State) (l : Layout.State) : Prop :=
  (∀ k, abs s.map k = l.closed.get k) ∧ l.active = s.active.map toL

theorem has_eq {s : Seg.State} {l : Layout.State} (r : R s l) (k : Nat) : l.closed.has k = (abs s.map k).isSome := by
  unfold Layout.Img.has; rw [r.1]

theorem cur_eq (seg : Seg.Active) (h : seg.base + seg.buf.length ≤ 4294967296) : (toL seg).curr = seg.cur := by
  unfold Layout.Active.curr Seg.Active.cur toL Layout.top u32Max
  simp only
  omega

theorem close_sim {s : Seg.State} {l : Layout.State} (inv : Seg.Inv s) (r : R s l) :
    ∃ l', Layout.closeSeg l = .ok l' ∧ R (Seg.closeSegment s).1 l' ∧ l'.env = l.env ∧ l'.tasks = l.tasks := by
  cases ha : s.active with
  | none =>
    have hl : l.active = none := by rw [r.2, ha]; rfl
    refine ⟨l, by simp [Layout.closeSeg, hl], ?_, rfl, rfl⟩
    have : Seg.closeSegment s = (s, .ok) := by unfold Seg.closeSegment; rw [ha]
    rw [this]; exact r
  | some seg =>
    obtain ⟨c1, _, c3⟩ := Seg.close_ok inv ha
    have hl : l.active = some (toL seg) := by rw [r.2, ha]; rfl
    obtain ⟨a1, _, _, a4⟩ := inv.2.1 seg ha
    have hf : l.closed.freeRange seg.base seg.buf.length = true := by
      rw [Layout.freeRange_iff]
      intro k k1 k2
      rw [has_eq r, a4 k k1 (by omega)]; rfl
    refine ⟨{ l with closed := l.closed.put seg.base seg.buf, active := none }, ?_, ?_, rfl, rfl⟩
    · simp only [Layout.closeSeg, hl, toL, hf, if_true]
    · rw [c1]
      refine ⟨fun k => ?_, rfl⟩
      show abs (Map.put s.map seg.base seg.buf).2 k = _
      rw [c3, put_apply, Layout.get_put, r.1]

theorem open_sim {s : Seg.State} {l : Layout.State} (inv : Seg.Inv s) (r : R s l) (a : Nat)
    (ha : a ≤ u32Max) {s' : Seg.State} (h : Seg.openSegment s a = (s', .ok)) :
    ∃ l', Layout.changeSeg.openAt l a = .ok l' ∧ R s' l' ∧ l'.env = l.env ∧ l'.tasks = l.tasks := by
  unfold u32Max at ha
  unfold Seg.openSegment at h
  rcases find_spec inv.1 a .above with ⟨_, h1, h2⟩ | ⟨j, sg, h0, _, h1, h2⟩
  · rw [h1] at h
    simp only at h
    cases h
    have hna : l.closed.nextAbove a = none := by
      cases hx : l.closed.nextAbove a with
      | none => rfl
      | some n =>
        obtain ⟨n1, n2, _⟩ := Layout.nextAbove_some _ _ _ hx
        rw [has_eq r, h2 n n1] at n2; cases n2
    refine ⟨{ l with active := some ⟨a, [], Layout.top - a⟩ }, by simp [Layout.changeSeg.openAt, hna], ⟨r.1, ?_⟩, rfl, rfl⟩
    show some _ = some _
    simp only [toL, Seg.maxLenFor, Layout.top, u32Max, Option.some.injEq, Layout.Active.mk.injEq, true_and]
    omega
  · rw [h1] at h
    simp only at h
    obtain ⟨a1, _, _, a4, _⟩ := abs_of_idx inv.1 h0
    have hx : 0 < sg.2.length := List.length_pos_iff.mpr a4
    rcases h2 with ⟨h3, h4⟩ | ⟨h3, h4⟩
    · simp only [h3, if_true] at h; cases h
    · simp only [show ¬ (sg.1 ≤ a) by omega, if_false] at h
      cases h
      have hocc : l.closed.has sg.1 = true := by
        rw [has_eq r, a1 sg.1 (Nat.le_refl _) (by omega), List.getElem?_eq_getElem (by omega)]; rfl
      have hna : l.closed.nextAbove a = some sg.1 := by
        cases hx' : l.closed.nextAbove a with
        | none =>
          have := Layout.nextAbove_none _ _ hx' sg.1 (by omega)
          rw [hocc] at this; cases this
        | some n =>
          obtain ⟨n1, n2, n3⟩ := Layout.nextAbove_some _ _ _ hx'
          by_cases c : n = sg.1
          · rw [c]
          · exfalso
            by_cases c2 : n < sg.1
            · rw [has_eq r, h4 n n1 c2] at n2; cases n2
            · have := n3 sg.1 (by omega) (by omega)
              rw [hocc] at this; cases this
      refine ⟨{ l with active := some ⟨a, [], sg.1 - a⟩ }, ?_, ⟨r.1, ?_⟩, rfl, rfl⟩
      · simp only [Layout.changeSeg.openAt, hna, show ¬ (sg.1 ≤ a) by omega, if_false]
      · show some _ = some _
        simp [toL, Seg.maxLenFor]

theorem select_sim {s : Seg.State} {l : Layout.State} (inv : Seg.Inv s) (r : R s l) (a : Nat) (ha : a ≤ u32Max)
    {s' : Seg.State} (h : Seg.changeSegment s a = (s', .ok)) :
    ∃ l', Layout.changeSeg l a = .ok l' ∧ R s' l' ∧ l'.env = l.env ∧ l'.tasks = l.tasks := by
  have hat : ¬ Layout.top ≤ a := by unfold Layout.top; unfold u32Max at ha; omega
  unfold Seg.changeSegment at h
  unfold Layout.changeSeg
  rw [if_neg hat]
  cases hact : s.active with
  | none =>
    rw [hact] at h
    simp only at h
    have hl : l.active = none := by rw [r.2, hact]; rfl
    rw [hl]
    exact open_sim inv r a ha h
  | some seg =>
    rw [hact] at h
    simp only at h
    have hl : l.active = some (toL seg) := by rw [r.2, hact]; rfl
    rw [hl]
    simp only
    by_cases c : a = seg.base ∧ seg.buf.isEmpty = true
    · rw [if_pos c] at h
      cases h
      have c' : a = (toL seg).base ∧ (toL seg).buf = [] := ⟨c.1, by simpa [toL] using c.2⟩
      rw [if_pos c']
      exact ⟨l, rfl, r, rfl, rfl⟩
    · rw [if_neg c] at h
      have c' : ¬ (a = (toL seg).base ∧ (toL seg).buf = []) := by
        intro hc; apply c; exact ⟨hc.1, by simpa [toL] using hc.2⟩
      rw [if_neg c']
      obtain ⟨l1, hc1, r1, e1, t1⟩ := close_sim inv r
      obtain ⟨cs1, cs2, _⟩ := Seg.close_spec inv
      rw [hc1]
      simp only
      cases hcs : Seg.closeSegment s with
      | mk s1 o1 =>
        rw [hcs] at h cs1 cs2 r1
        simp only at cs1 cs2 r1
        subst cs1
        simp only at h
        obtain ⟨l', h1, r', e', t'⟩ := open_sim cs2 r1 a ha h
        exact ⟨l', h1, r', e'.trans e1, t'.trans t1⟩

theorem append_sim {s : Seg.State} {l : Layout.State} (inv : Seg.Inv s) (r : R s l) (d : Bytes) {seg : Seg.Active}
    (ha : s.active = some seg) (hfit : seg.buf.length + d.length ≤ seg.maxLen) :
    Layout.append l d = .ok { l with active := some (toL { seg with buf := seg.buf ++ d }) } ∧
    R { s with active := some { seg with buf := seg.buf ++ d } } { l with active := some (toL { seg with buf := seg.buf ++ d }) } := by
  have hl : l.active = some (toL seg) := by rw [r.2, ha]; rfl
  obtain ⟨a1, _, _, _⟩ := inv.2.1 seg ha
  refine ⟨?_, r.1, rfl⟩
  have h1 : ¬ (toL seg).maxLen < (toL seg).buf.length := by simp only [toL]; omega
  have h2 : d.length ≤ (toL seg).remaining := by simp only [toL, Layout.Active.remaining]; omega
  simp only [Layout.append, hl, h1, h2, if_true, if_false]
  rfl

theorem write_sim {s : Seg.State} {l : Layout.State} (inv : Seg.Inv s) (r : R s l) {seg : Seg.Active}
    (ha : s.active = some seg) (d : Bytes) (op : Seg.Op) (hop : op = .append d ∨ op = .place d) {s' : Seg.State}
    {o : Seg.Out} (h : Seg.step s op = (s', o)) (hnd : ∀ e, o ≠ .diag e) :
    s'.active = some { seg with buf := seg.buf ++ d } ∧ seg.buf.length + d.length ≤ seg.maxLen ∧
    Layout.append l d = .ok { l with active := some (toL { seg with buf := seg.buf ++ d }) } ∧
    R s' { l with active := some (toL { seg with buf := seg.buf ++ d }) } := by
  rcases Seg.write_spec (inv.2.1 seg ha) d with ⟨f1, f2⟩ | ⟨_, f2⟩
  · obtain ⟨a1, a2⟩ := append_sim inv r d ha f1
    rcases hop with rfl | rfl
    · simp only [Seg.step, ha, f2] at h
      cases h
      exact ⟨rfl, f1, a1, a2⟩
    · simp only [Seg.step, ha, f2] at h
      cases h
      exact ⟨rfl, f1, a1, ⟨a2.1, rfl⟩⟩
  · rcases hop with rfl | rfl <;>
    · simp only [Seg.step, ha, f2] at h
      cases h
      exact absurd rfl (hnd _)

theorem rewrite_shape {s : Seg.State} (inv : Seg.Inv s) (addr : Nat) (d : Bytes) (hp : (addr, d.length) ∈ s.pending) :
    (∃ seg buf', s.active = some seg ∧ abs s.map addr = none ∧ seg.base ≤ addr ∧ addr ≤ seg.cur ∧
        addr + d.length ≤ seg.base + seg.buf.length ∧
        Seg.rewrite s addr d = ({ s with active := some { seg with buf := buf' } }, .ok) ∧ buf'.length = seg.buf.length ∧
        ∀ j, buf'[j]? = if addr - seg.base ≤ j ∧ j < addr - seg.base + d.length then d[j - (addr - seg.base)]?
          else seg.buf[j]?) ∨
    ((∀ k, addr ≤ k → k < addr + d.length → (abs s.map k).isSome = true) ∧
      (∀ seg, s.active = some seg → ¬ (abs s.map addr = none ∧ seg.base ≤ addr ∧ addr ≤ seg.cur)) ∧
      ∃ m', Seg.rewrite s addr d = ({ s with map := m' }, .ok) ∧ abs m' = Dict.put (abs s.map) addr d) := by
  have P : Seg.Placed s (addr, d.length) := inv.2.2 (addr, d.length) hp
  have hfind : ∃ hit, Map.find s.map addr .exact = .ok hit ∧ (hit.isNone = true ↔ abs s.map addr = none) := by
    rcases find_exact_spec inv.1 addr with ⟨_, hf, hn⟩ | ⟨j, sg, hj, _, hf, h1, h2⟩
    · exact ⟨none, hf, by simp [hn]⟩
    · refine ⟨_, hf, ?_⟩
      obtain ⟨a1, _⟩ := abs_of_idx inv.1 hj
      rw [a1 addr h1 h2, List.getElem?_eq_getElem (by omega)]
      simp
  obtain ⟨hit, hf, hhit⟩ := hfind
  by_cases hbr : ∃ seg, s.active = some seg ∧ (hit.isNone ∧ addr ≥ seg.base ∧ addr ≤ seg.cur)
  · left
    obtain ⟨seg, ha, hc⟩ := hbr
    obtain ⟨a1, a2, a3, a4⟩ := inv.2.1 seg ha
    have hrange : seg.base ≤ addr ∧ addr + d.length ≤ seg.base + seg.buf.length := by
      rcases P with h | ⟨sg, hs, h1, h2⟩
      · by_cases hd : d.length = 0
        · have hbase : seg.base ≤ u32Max := by unfold u32Max; omega
          have hcb := Seg.cur_bounds seg hbase
          have := hc.2.1; have := hc.2.2; omega
        · exfalso
          have h1 := h addr (Nat.le_refl _) (by show addr < addr + d.length; omega)
          rw [hhit.mp hc.1] at h1
          simp at h1
      · rw [ha] at hs; cases hs
        exact ⟨h1, h2⟩
    obtain ⟨buf', hw, hl, hg⟩ := Seg.writeAt_inplace seg addr d hrange.1 hrange.2 hc.2.2
    exact ⟨seg, buf', ha, hhit.mp hc.1, hrange.1, hc.2.2, hrange.2, Seg.rewrite_writeAt hf ha hc hw, hl, hg⟩
  · right
    have hn : ∀ seg, s.active = some seg → ¬ (hit.isNone ∧ addr ≥ seg.base ∧ addr ≤ seg.cur) :=
      fun seg ha hc => hbr ⟨seg, ha, hc⟩
    have H : ∀ k, addr ≤ k → k < addr + d.length → (abs s.map k).isSome = true := by
      rcases P with h | ⟨seg, ha, h1, h2⟩
      · exact h
      · intro k k1 k2
        exfalso
        apply hn seg ha
        obtain ⟨a1, a2, a3, a4⟩ := inv.2.1 seg ha
        have h1 : seg.base ≤ addr := h1
        have h2 : addr + d.length ≤ seg.base + seg.buf.length := h2
        refine ⟨hhit.mpr (a4 addr h1 (by omega)), h1, ?_⟩
        unfold Seg.Active.cur u32Max
        omega
    obtain ⟨m', hput, _, habs⟩ := Seg.put_zero inv addr d H
    refine ⟨H, fun seg ha hc => hn seg ha ⟨hhit.mpr hc.1, hc.2.1, hc.2.2⟩, m', Seg.rewrite_viaMap hf hn hput, habs⟩

theorem rewrite_sim {s : Seg.State} {l : Layout.State} (inv : Seg.Inv s) (r : R s l) (addr : Nat) (d : Bytes)
    (hp : (addr, d.length) ∈ s.pending) :
    (Seg.rewrite s addr d).2 = .ok ∧
    ∃ l', Layout.rewrite l addr d = .ok l' ∧ R (Seg.rewrite s addr d).1 l' ∧ l'.env = l.env ∧ l'.tasks = l.tasks := by
  rcases rewrite_shape inv addr d hp with ⟨seg, buf', ha, hnone, hb, hc, hfit, hrw, hlen, hg⟩ | ⟨H, hnot, m', hrw, habs⟩
  · -- in place, in the active buffer
    rw [hrw]
    refine ⟨rfl, ?_⟩
    obtain ⟨a1, a2, _, _⟩ := inv.2.1 seg ha
    have hl : l.active = some (toL seg) := by rw [r.2, ha]; rfl
    have hhas : l.closed.has addr = false := by rw [has_eq r, hnone]; rfl
    have hcur : (toL seg).curr = seg.cur := cur_eq seg (by omega)
    have hbuf : Layout.overwrite seg.buf (addr - seg.base) d = buf' := by
      apply List.ext_getElem?
      intro j
      rw [Layout.getElem?_overwrite _ _ _ (by omega), hg]
    refine ⟨{ l with active := some { toL seg with buf := buf' } }, ?_, ⟨r.1, rfl⟩, rfl, rfl⟩
    unfold Layout.rewrite
    rw [hhas, hl]
    simp only [Bool.false_eq_true, if_false]
    have c1 : (toL seg).base ≤ addr ∧ addr ≤ (toL seg).curr := ⟨hb, by rw [hcur]; exact hc⟩
    rw [if_pos c1]
    have c2 : ¬ (toL seg).buf.length < addr - (toL seg).base := by simp only [toL]; omega
    have c3 : ¬ (toL seg).buf.length - (addr - (toL seg).base) < d.length := by simp only [toL]; omega
    simp only [c2, c3, if_false]
    simp only [toL, hbuf]
  · -- through the closed map
    rw [hrw]
    refine ⟨rfl, ?_⟩
    have rmap : ∀ c : Layout.Img, (∀ k, c.get k = (l.closed.put addr d).get k) →
        ∀ k, abs m' k = c.get k := by
      intro c hc k
      rw [habs, put_apply, hc, Layout.get_put, r.1]
    by_cases hd : d = []
    · subst hd
      have rsame : ∀ k, abs m' k = l.closed.get k := rmap l.closed (fun k => by rw [Layout.put_nil])
      unfold Layout.rewrite
      by_cases hh : l.closed.has addr = true
      · rw [if_pos hh]
        simp only [List.length_nil, Layout.Img.hasRange, if_true]
        exact ⟨_, rfl, ⟨fun k => by rw [Layout.put_nil]; exact rsame k, r.2⟩, rfl, rfl⟩
      · rw [if_neg hh]
        cases hact : s.active with
        | none =>
          have hl : l.active = none := by rw [r.2, hact]; rfl
          rw [hl]
          simp only [List.length_nil, if_true]
          exact ⟨l, rfl, ⟨rsame, by rw [hl]; rfl⟩, rfl, rfl⟩
        | some seg =>
          obtain ⟨a1, a2, _, _⟩ := inv.2.1 seg hact
          have hl : l.active = some (toL seg) := by rw [r.2, hact]; rfl
          rw [hl]
          simp only
          by_cases c1 : (toL seg).base ≤ addr ∧ addr ≤ (toL seg).curr
          · rw [if_pos c1]
            have hcur : (toL seg).curr = seg.cur := cur_eq seg (by omega)
            have hbase : seg.base ≤ u32Max := by unfold u32Max; omega
            have hcb := Seg.cur_bounds seg hbase
            have c2 : ¬ (toL seg).buf.length < addr - (toL seg).base := by
              have := c1.2; rw [hcur] at this; simp only [toL] at c1 ⊢; omega
            simp only [c2, List.length_nil, Nat.not_lt_zero, if_false, Layout.overwrite_nil]
            exact ⟨_, rfl, ⟨rsame, rfl⟩, rfl, rfl⟩
          · rw [if_neg c1]
            simp only [List.length_nil, if_true]
            exact ⟨l, rfl, ⟨rsame, by rw [hl]; rfl⟩, rfl, rfl⟩
    · have hpos : 0 < d.length := List.length_pos_iff.mpr hd
      have hh : l.closed.has addr = true := by rw [has_eq r]; exact H addr (Nat.le_refl _) (by omega)
      have hr : l.closed.hasRange addr d.length = true := by
        rw [Layout.hasRange_iff]; intro k k1 k2; rw [has_eq r]; exact H k k1 k2
      refine ⟨{ l with closed := l.closed.put addr d }, ?_, ⟨rmap _ (fun _ => rfl), r.2⟩, rfl, rfl⟩
      unfold Layout.rewrite
      rw [if_pos hh, if_pos hr]

/-- the operation of the layout core that matches a region operation of `Seg` (`.align`: the padding `Layout.step` appends) -/
def lstep (l : Layout.State) : Seg.Op → Except Layout.Fail Layout.State
  | .select a => Layout.changeSeg l a
  | .append d => Layout.append l d
  | .place d => Layout.append l d
  | .align n =>
    match l.active with
    | none => .error .inactive
    | some a =>
      let off := (a.base + a.buf.length) % n
      if off = 0 then .ok l else Layout.append l (Layout.placeholder (n - off))
  | .rewrite addr d => Layout.rewrite l addr d
  | .close => Layout.closeSeg l

theorem step_sim {s : Seg.State} {l : Layout.State} (inv : Seg.Inv s) (r : R s l) (op : Seg.Op) (wf : Seg.Op.wf s op)
    {s' : Seg.State} {o : Seg.Out} (h : Seg.step s op = (s', o)) (hok : ∀ e, o ≠ .diag e) :
    ∃ l', lstep l op = .ok l' ∧ R s' l' ∧ l'.env = l.env ∧ l'.tasks = l.tasks := by
  cases op with
  | select a =>
    have hnp : o ≠ .panic := by
      have := (Trion.Seg.step_nonrewrite inv (.select a) wf (fun _ _ e => by cases e)).1
      rw [h] at this; exact this
    have : o = .ok := by
      cases o with
      | ok => rfl
      | placed x =>
        exfalso
        have hs := Seg.select_spec inv a wf
        have e : Seg.changeSegment s a = (s', .placed x) := h
        rw [e] at hs
        rcases hs.2.2.2 with ⟨_, h2⟩ | ⟨_, h2, _⟩ <;> cases h2
      | diag e => exact absurd rfl (hok e)
      | panic => exact absurd rfl hnp
    subst this
    exact select_sim inv r a wf h
  | close =>
    have e : Seg.closeSegment s = (s', o) := h
    have := close_sim inv r
    rw [e] at this
    exact this
  | rewrite addr d =>
    have e : Seg.rewrite s addr d = (s', o) := h
    have := (rewrite_sim inv r addr d wf).2
    rw [e] at this
    exact this
  | append d | place d =>
    cases ha : s.active with
    | none => simp only [Seg.step, ha] at h; cases h; exact absurd rfl (hok _)
    | some seg =>
      obtain ⟨_, _, w3, w4⟩ := write_sim inv r ha d _ (by simp) h hok
      exact ⟨_, w3, w4, rfl, rfl⟩
  | align n =>
    cases ha : s.active with
    | none => simp only [Seg.step, ha] at h; cases h; exact absurd rfl (hok _)
    | some seg =>
      have hl : l.active = some (toL seg) := by rw [r.2, ha]; rfl
      simp only [Seg.step, ha] at h
      simp only [lstep, hl, toL]
      by_cases c : (seg.base + seg.buf.length) % n = 0
      · simp only [c, if_true] at h ⊢
        cases h
        exact ⟨l, rfl, r, rfl, rfl⟩
      · simp only [c, if_false] at h ⊢
        have hrem : seg.remaining = some (seg.maxLen - seg.buf.length) := by
          unfold Seg.Active.remaining; rw [if_pos (inv.2.1 seg ha).1]
        rw [hrem] at h
        simp only at h
        by_cases c2 : n - (seg.base + seg.buf.length) % n ≤ seg.maxLen - seg.buf.length
        · rw [if_pos c2] at h
          have hfit : seg.buf.length + (List.replicate (n - (seg.base + seg.buf.length) % n) (0xBE : UInt8)).length ≤ seg.maxLen := by
            have := (inv.2.1 seg ha).1
            simp only [List.length_replicate]; omega
          rcases Seg.write_spec (inv.2.1 seg ha) (List.replicate (n - (seg.base + seg.buf.length) % n) 0xBE) with ⟨_, f2⟩ | ⟨f1, _⟩
          · rw [f2] at h
            cases h
            exact ⟨_, (append_sim inv r _ ha hfit).1, (append_sim inv r _ ha hfit).2, rfl, rfl⟩
          · omega
        · rw [if_neg c2] at h; cases h; exact absurd rfl (hok _)

end Trion.SegLayout
