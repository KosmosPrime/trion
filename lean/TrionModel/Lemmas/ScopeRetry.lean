import TrionModel.Lemmas.ScopeRun
/-!
What the RETRIES of a `.du32 n` read — stage 1 = the local task at the end of the statement's file, stage 2 = the task
rescheduled into the includer (run at the includer's end) or into the real global list (run by `finalize`).  Also here:
`CInv` (a queued `.du32` caches only a value the writer refused) from `Context::new()` through statements, tasks, steps, runs
and `Reach` (`cinv_init` … `cinv_reach`), by which a retry that writes a value has no cached one.
-/
namespace Trion.Scope

/-- `e` is a diagnostic, or the value written by the retry of a `.du32 n` of `ts` — at stage 1 (local task) or 2
(rescheduled) — which is the cached value (then in range) or `n`'s valued entry in `T` -/
def RetryEv (ts : List Task) (T : Table) (e : Ev) : Prop :=
  (∃ tag k, e = .diag tag k) ∨
  ∃ n c tag g v, Task.use n c tag g ∈ ts ∧ e = .value tag v (if g then 2 else 1) ∧
    ((c = some v ∧ 0 ≤ v ∧ v < 4294967296) ∨ (c = none ∧ T.find n = some (some v)))

/-- From `s` to `s'` the log only grew, by diagnostics and by values of retried `.du32`s of the task list `ts`, each
resolved in the table `T` (or cached). -/
def Retried (ts : List Task) (T : Table) (s s' : State) : Prop :=
  ∃ add, s'.log = add ++ s.log ∧ ∀ e ∈ add, RetryEv ts T e

theorem RetryEv.mono {ts ts' : List Task} {T : Table} {e : Ev} (h : RetryEv ts T e) (hs : ∀ t ∈ ts, t ∈ ts') :
    RetryEv ts' T e := by
  rcases h with h | ⟨n, c, tag, g, v, hm, he, hc⟩
  · exact .inl h
  · exact .inr ⟨n, c, tag, g, v, hs _ hm, he, hc⟩

theorem Retried.refl (ts : List Task) (T : Table) (s : State) : Retried ts T s s := ⟨[], rfl, by simp⟩

theorem Retried.of_log {ts : List Task} {T : Table} {s s' : State} (h : s'.log = s.log) : Retried ts T s s' :=
  ⟨[], by simp [h], by simp⟩

theorem Retried.trans {ts : List Task} {T : Table} {a b c : State} (h1 : Retried ts T a b) (h2 : Retried ts T b c) :
    Retried ts T a c := by
  obtain ⟨x, hx, px⟩ := h1
  obtain ⟨y, hy, py⟩ := h2
  refine ⟨y ++ x, by rw [hy, hx, List.append_assoc], fun e he => ?_⟩
  rcases List.mem_append.1 he with he | he
  · exact py e he
  · exact px e he

theorem Retried.mono {ts ts' : List Task} {T : Table} {s s' : State} (h : Retried ts T s s')
    (hs : ∀ t ∈ ts, t ∈ ts') : Retried ts' T s s' := by
  obtain ⟨x, hx, px⟩ := h
  exact ⟨x, hx, fun e he => (px e he).mono hs⟩

theorem retried_diag (ts : List Task) (T : Table) (s : State) (tag : Nat) (k : Kind) : Retried ts T s (s.err tag k) :=
  ⟨[.diag tag k], rfl, fun e he => by simp at he; exact .inl ⟨tag, k, he⟩⟩

theorem retried_runTask {s s' : State} {T : Table} {t : Task} {r : Option Level} (hT : evalTab s = some T)
    (h : runTask s t = .ok (s', r)) : Retried [t] T s s' := by
  cases t with
  | globalCopy n tag =>
    -- the closure of `.global` logs diagnostics only
    rcases (copyUp_spec _ _ _).2.ok h with ⟨k, rfl⟩ | ⟨_, s1, _, _, hi, hs⟩
    · exact retried_diag _ _ _ _ _
    · have h1 : s1.log = s.log := by
        rcases insertConstant_global hi with rfl | ⟨_, rfl⟩ <;> rfl
      rcases hs with rfl | ⟨k, rfl⟩
      · exact .of_log h1
      · exact (Retried.of_log h1).trans (retried_diag _ _ _ _ _)
  | use n c tag g =>
    obtain ⟨s1, res, c', ha, hs⟩ := (runUse_spec _ _ _ _ _).ok h
    have key : Retried [.use n c tag g] T s s1 := by
      rcases applyUse_log hT ha with e | ⟨k, e⟩ | ⟨v, e, hc⟩
      · exact .of_log e
      · exact ⟨[.diag tag k], e, fun x hx => by simp at hx; exact .inl ⟨tag, k, hx⟩⟩
      · exact ⟨[.value tag v (if g then 2 else 1)], e, fun x hx => by
          simp at hx; exact .inr ⟨n, c, tag, g, v, by simp, hx, hc⟩⟩
    rcases hs with ⟨_, rfl⟩ | ⟨_, ⟨_, rfl⟩ | ⟨_, rfl⟩⟩
    · exact key
    · exact key.trans (retried_diag _ _ _ _ _)
    · exact key.trans (.of_log rfl)

/-- the table read stays the same: inside a file it is the file's own table; outside, the global table, which the tasks
of the real global list (rescheduled `.du32`s) never touch -/
theorem runTask_evalTab {s s' : State} {T : Table} {t : Task} {r : Option Level} (hT : evalTab s = some T)
    (hg : s.depth = 0 → t.isGU) (h : runTask s t = .ok (s', r)) : evalTab s' = some T := by
  obtain ⟨hl, _, hd, _⟩ := runTask_keeps h
  unfold evalTab at hT ⊢
  rw [hd, hl]
  by_cases h0 : s.depth ≠ 0
  · rw [if_pos h0] at hT ⊢; exact hT
  · rw [if_neg h0] at hT ⊢
    have hgu := hg (by simpa using h0)
    cases t with
    | globalCopy n tag => exact hgu.elim
    | use n c tag g => rw [(use_tables (.inl ⟨c, g, h⟩)).2]; exact hT

theorem retried_round {T : Table} {ts : List Task} {s : State} (hg : s.depth = 0 → ∀ t ∈ ts, t.isGU) :
    ∀ t ∈ ts, ∀ {a b : State} {r : Option Level}, runTask a t = .ok (b, r) →
      (Retried ts T s a ∧ evalTab a = some T ∧ a.depth = s.depth) →
      (Retried ts T s b ∧ evalTab b = some T ∧ b.depth = s.depth) :=
  fun t ht _ _ _ hr ⟨x, hTa, hda⟩ =>
    ⟨x.trans ((retried_runTask hTa hr).mono (by simpa using ht)),
      runTask_evalTab hTa (fun h0 => hg (hda ▸ h0) t ht) hr, (runTask_keeps hr).2.2.1.trans hda⟩

theorem retried_drainFinal {T : Table} {ts : List Task} {s s' : State} {b : Bool} (hT : evalTab s = some T)
    (hg : s.depth = 0 → ∀ t ∈ ts, t.isGU) (h : drainFinal s ts = .ok (s', b)) : Retried ts T s s' :=
  (drainFinal_pres (retried_round hg) h ⟨.refl _ _ _, hT, rfl⟩).1

/-- The lemma behind `isolation_retry_exit` of Props/C14.lean.  Everything the end of a file adds to the log — the file's local tasks, then at
most the includer's `AssemblyFailed` — is a diagnostic or the value of a retried `.du32 n` of the file's task list,
resolved in the table `C` of the file being left (or its cached value). -/
theorem retried_exit {s s' : State} {res : Option Level} {C : Table} {ts : List Task} (hd : s.depth ≠ 0)
    (hl : s.locals = some C) (hts : s.localTasks = some ts) (h : exitFile s res = .ok s') : Retried ts C s s' := by
  cases hf : s.frames with
  | nil => rw [exitFile_nil res hf] at h; cases h; exact .refl _ _ _
  | cons f fs =>
    obtain ⟨mid, s2, ⟨hx, _⟩, hin, hs'⟩ := exitFile_tasks
      (P := fun a => Retried ts C s a ∧ evalTab a = some C ∧ a.depth = s.depth) hf h
      ⟨.refl _ _ _, evalTab_inFile hd hl, rfl⟩ (fun _ ⟨x, e⟩ => ⟨x.trans (.of_log rfl), e⟩)
      (fun ts' hts' => by cases hts.symm.trans hts'; exact retried_round fun h0 => absurd h0 hd)
    obtain ⟨_, _, _, rfl⟩ := intoInner_eq hin
    rcases hs' with ⟨_, rfl⟩ | rfl
    · exact hx.trans ((Retried.of_log rfl).trans ((retried_diag _ _ _ _ _).trans (.of_log rfl)))
    · exact hx.trans (.of_log rfl)

/-! ## cached values are out of range: `CInv`

`DataExpr::apply` replaces the identifier by its value in place (`cached = some v`) and then hands the value to the writer;
the statement is only ever queued again when the writer refused the value (`u32::try_from` failed).  So in every state
reachable from `Context::new()` each queued `.du32` with a cached value caches a value out of range — its retry can only
repeat the diagnostic. -/

theorem cinv_init : CInv init :=
  ⟨(fun _ h => by cases h), (fun _ h => by cases h), (fun _ h => by cases h)⟩

theorem cinv_of_queues {s s' : State} (h : CInv s) (hg : s'.globalTasks = s.globalTasks)
    (hl : s'.localTasks = s.localTasks) (hf : s'.frames = s.frames) : CInv s' :=
  ⟨by rw [hg]; exact h.gtasks, by rw [hl]; exact h.ltasks, by rw [hf]; exact h.saved⟩

theorem cinv_addTask {s s' : State} {t : Task} {r : Realm} (h : addTask s t r = .ok s') (hi : CInv s) (ht : t.cok) :
    CInv s' := by
  cases r with
  | global =>
    cases h
    refine ⟨fun x hx => ?_, hi.ltasks, hi.saved⟩
    rcases List.mem_append.1 hx with hx | hx
    · exact hi.gtasks x hx
    · simp only [List.mem_singleton] at hx; subst hx; exact ht
  | loc =>
    obtain ⟨q0, hq0, rfl⟩ := addTask_loc.1 h
    refine ⟨hi.gtasks, fun q hq x hx => ?_, hi.saved⟩
    cases hq
    rcases List.mem_append.1 hx with hx | hx
    · exact hi.ltasks q0 hq0 x hx
    · simp only [List.mem_singleton] at hx; subst hx; exact ht

theorem Acts.cinv {q : Realm → Task → Prop} (hq : ∀ {r t}, q r t → t.cok) {s s' : State} (h : Acts q s s') :
    CInv s → CInv s' :=
  h.pres (fun _ _ _ i => cinv_of_queues i rfl rfl rfl) (fun _ _ _ _ i => cinv_of_queues i rfl rfl rfl)
    (fun _ i => cinv_of_queues i rfl rfl rfl) (fun hq' ha i => cinv_addTask ha i (hq hq'))

theorem cinv_stmt {s s' : State} {op : Op} {r : Option Level} (h : stmt s op = .ok (s', r)) : CInv s → CInv s' :=
  (stmt_acts h).cinv fun hq => (Op.queues_spec hq).2.2.1

theorem cinv_runTask {s s' : State} {t : Task} {r : Option Level} (h : runTask s t = .ok (s', r)) :
    CInv s → CInv s' :=
  (runTask_acts h).cinv fun hq => (Task.requeues_spec hq).2.2.1

theorem cinv_clearLocal {s : State} (h : CInv s) : CInv { s with localTasks := some [] } :=
  ⟨h.gtasks, (fun q hq t ht => by cases hq; cases ht), h.saved⟩

theorem cinv_clearGlobal {s : State} (h : CInv s) : CInv { s with globalTasks := [] } :=
  ⟨(fun t ht => by cases ht), h.ltasks, h.saved⟩

theorem cinv_enterFile {s : State} (h : CInv s) (tag : Nat) : CInv (enterFile s tag) := by
  have hfr : ∀ (sv : Saved), (∀ q, sv.tasks = some q → ∀ t ∈ q, t.cok) →
      ∀ fr ∈ sv :: s.frames, ∀ q, fr.tasks = some q → ∀ t ∈ q, t.cok := by
    intro sv hsv fr hfr
    rcases List.mem_cons.1 hfr with rfl | hfr
    · exact hsv
    · exact h.saved fr hfr
  have hnil : ∀ q, some ([] : List Task) = some q → ∀ t ∈ q, t.cok := fun q hq t ht => by cases hq; cases ht
  unfold enterFile
  cases hl : s.locals <;> cases hq : s.localTasks <;> simp only
  · exact ⟨h.gtasks, hnil, hfr _ (fun q hq' => by cases hq')⟩
  · exact ⟨h.ltasks _ hq, hnil, hfr _ (fun q hq' => by cases hq'; exact h.gtasks)⟩
  · exact ⟨h.gtasks, hnil, hfr _ (fun q hq' => by cases hq')⟩
  · exact ⟨h.ltasks _ hq, hnil, hfr _ (fun q hq' => by cases hq'; exact h.gtasks)⟩

theorem cinv_intoInner {s s' : State} {f : Saved} {fs : List Saved} (hf : s.frames = f :: fs) (hi : CInv s)
    (h : intoInner s f fs = .ok s') : CInv s' := by
  have hfs : ∀ fr ∈ fs, ∀ q, fr.tasks = some q → ∀ t ∈ q, t.cok :=
    fun fr hfr => hi.saved fr (by rw [hf]; exact List.mem_cons_of_mem _ hfr)
  have hf0 : ∀ q, f.tasks = some q → ∀ t ∈ q, t.cok := hi.saved f (by rw [hf]; exact List.mem_cons_self)
  obtain ⟨_, _, _, rfl⟩ := intoInner_eq h
  cases ht : f.tasks with
  | none => exact ⟨hi.gtasks, (fun q hq => by cases hq), hfs⟩
  | some q0 => exact ⟨hf0 _ ht, (fun q hq => by cases hq; exact hi.gtasks), hfs⟩

theorem cinv_step {s s' : State} {op : Op} (hi : CInv s) (h : step s op = .ok s') : CInv s' :=
  step_pres cinv_stmt cinv_runTask (fun _ i => cinv_of_queues i rfl rfl rfl) (fun _ i => cinv_of_queues i rfl rfl rfl)
    (fun tag i => cinv_enterFile i tag) (fun _ i => cinv_clearLocal i) cinv_clearGlobal
    (fun hf hin i => cinv_intoInner hf i hin) h hi

theorem cinv_run (ops : List Op) {s s' : State} (hi : CInv s) (h : run s ops = .ok s') : CInv s' :=
  run_pres (fun hs i => cinv_step i hs) ops h hi

theorem cinv_reach {s0 : State} (h0 : CInv s0) : ∀ (ctx : List (Nat × Body)) {s : State}, Reach s0 ctx s → CInv s :=
  reach_pres (fun h i => cinv_run _ i h) h0

theorem RetryEv.resolved {ts : List Task} {T : Table} {e : Ev} (h : RetryEv ts T e) (hc : ∀ t ∈ ts, t.cok) :
    (∃ tag k, e = .diag tag k) ∨
    ∃ n tag g v, Task.use n none tag g ∈ ts ∧ e = .value tag v (if g then 2 else 1) ∧ T.find n = some (some v) := by
  rcases h with h | ⟨n, c, tag, g, v, hm, he, hcase⟩
  · exact .inl h
  · rcases hcase with ⟨rfl, hr⟩ | ⟨rfl, hf⟩
    · exact absurd hr (hc _ hm v rfl)
    · exact .inr ⟨n, tag, g, v, hm, he, hf⟩

/-- `Context::finalize` outside any file (the real global list holds rescheduled `.du32`s only): what it adds to the log
before its verdict are diagnostics and the values of those `.du32 n`, resolved in the global table -/
theorem retried_finalize {s s' : State} (hi : Inv s) (hd : s.depth = 0) (h : finalize s = .ok s') :
    ∃ add b, s'.log = .done b :: (add ++ s.log) ∧ ∀ e ∈ add, RetryEv s.globalTasks s.globals e := by
  have hgu := hi.root_gtasks hd
  have hT : evalTab ({ s with globalTasks := [] } : State) = some s.globals := by simp [evalTab, hd]
  obtain ⟨s1, ab, hl, rfl⟩ := finalize_cases h
  have key : Retried s.globalTasks s.globals ({ s with globalTasks := [] } : State) s1 := by
    cases hts : s.globalTasks with
    | nil => rw [hts] at hl; simp only [finalLoop] at hl; cases hl; exact .refl _ _ _
    | cons t ts =>
      rw [hts] at hl hgu
      simp only [finalLoop] at hl
      split at hl
      · cases hl
      · rename_i s2 ab2 hdr
        have a1 := retried_drainFinal hT (fun _ => hgu) hdr
        have hn : s2.globalTasks = [] := (drainFinal_gtasks hdr).2 hgu
        have a2 : Retried (t :: ts) s.globals s2 { s2 with globalTasks := [] } := .of_log rfl
        split at hl
        · cases hl; exact a1.trans a2
        · rw [hn] at hl; simp only [finalLoop] at hl; cases hl; exact a1.trans a2
  obtain ⟨add, hadd, hev⟩ := key
  exact ⟨add, _, by rw [hadd], hev⟩

/-! ## which retries a file hands to its includer

Only those whose name the file's OWN table has announced (an entry without a value: `.import` of a name the includer
announced, or `.global`). -/


/-- a task the file with task list `ts` and table `l` may hand to its includer: the stage-2 form of one of its own
`.du32 n` retries, for a name `n` that `l` has announced (entry present, no value) -/
def Handed (ts : List Task) (l : Table) (t : Task) : Prop :=
  ∃ n c c0 tag, t = .use n c tag true ∧ Task.use n c0 tag false ∈ ts ∧ l.find n = some none

/-- everything new in `global_tasks` (the includer's list while the file is open) is `Handed` -/
def HandUp (ts : List Task) (l : Table) (s s' : State) : Prop :=
  ∀ t ∈ s'.globalTasks, t ∈ s.globalTasks ∨ Handed ts l t

theorem HandUp.refl (ts : List Task) (l : Table) (s : State) : HandUp ts l s s := fun _ h => .inl h

theorem HandUp.of_eq {ts : List Task} {l : Table} {s s' : State} (h : s'.globalTasks = s.globalTasks) :
    HandUp ts l s s' := fun _ ht => .inl (h ▸ ht)

theorem HandUp.trans {ts : List Task} {l : Table} {a b c : State} (h1 : HandUp ts l a b) (h2 : HandUp ts l b c) :
    HandUp ts l a c := by
  intro t ht
  rcases h2 t ht with h | h
  · exact h1 t h
  · exact .inr h

/-- a retry (`local = false`) reports "deferred" only for a name the table it reads has ANNOUNCED; an unknown name is
the diagnostic `no such local constant` -/
theorem applyUse_deferred {s s' : State} {l : Table} {n : Bytes} {c c' : Option Int} {tag stage : Nat}
    (hd : s.depth ≠ 0) (hl : s.locals = some l)
    (h : applyUse s n c tag stage false = .ok (s', .ok .deferred, c')) : l.find n = some none := by
  have hgc := getConstant_evalTab n (evalTab_inFile hd hl)
  rcases (applyUse_spec _ _ _ _ _ _).ok h with ⟨v, _, _, ⟨_, _, _, e⟩ | ⟨_, _, e⟩⟩ |
    ⟨_, _, ⟨_, _, e⟩ | ⟨_, _, _, hg | ⟨e, _⟩⟩ | ⟨_, _, _, e, _⟩⟩
  · cases e
  · cases e
  · cases e
  · rw [hgc] at hg; exact get_deferred (Except.ok.inj hg)
  · cases e
  · cases e

theorem handUp_runTask {s s' : State} {ts : List Task} {l : Table} {t : Task} {r : Option Level}
    (hd : s.depth ≠ 0) (hl : s.locals = some l) (ht : t ∈ ts) (h : runTask s t = .ok (s', r)) :
    HandUp ts l s s' := by
  cases t with
  | globalCopy n tag =>
    refine .of_eq ((runTask_acts h).pres (P := fun x => x.globalTasks = s.globalTasks) (fun _ _ _ p => p)
      (fun _ _ _ _ p => p) (fun _ p => p) ?_ rfl)
    intro _ _ _ _ hq
    obtain ⟨_, _, _, _, _, _, e⟩ := Task.requeues_spec hq
    cases e
  | use n c tag g =>
    obtain ⟨s1, res, c', ha, hs⟩ := (runUse_spec _ _ _ _ _).ok h
    obtain ⟨add, rfl⟩ := applyUse_grows_log ha
    rcases hs with ⟨_, rfl⟩ | ⟨rfl, ⟨_, rfl⟩ | ⟨rfl, rfl⟩⟩
    · exact .of_eq rfl
    · exact .of_eq rfl
    · have hann := applyUse_deferred hd hl ha
      intro t htm
      rcases List.mem_append.1 htm with htm | htm
      · exact .inl htm
      · simp only [List.mem_singleton] at htm
        exact .inr ⟨n, c', c, tag, htm, ht, hann⟩

theorem handUp_exit {s s' : State} {res : Option Level} {l : Table} {ts : List Task} (hd : s.depth ≠ 0)
    (hl : s.locals = some l) (hts : s.localTasks = some ts) (hf : s.frames ≠ []) (h : exitFile s res = .ok s') :
    ∀ t ∈ outTasks s', t ∈ s.globalTasks ∨ Handed ts l t := by
  cases hfr : s.frames with
  | nil => exact absurd hfr hf
  | cons f fs =>
    obtain ⟨mid, s2, ⟨hx, _⟩, hin, hs'⟩ := exitFile_tasks
      (P := fun x => HandUp ts l s x ∧ x.locals = some l ∧ x.depth = s.depth) hfr h ⟨.refl _ _ _, hl, rfl⟩
      (fun _ p => p) (fun ts' hts' u hu _ _ _ hr ⟨x, hla, hda⟩ => by
        cases hts.symm.trans hts'
        exact ⟨x.trans (handUp_runTask (hda ▸ hd) hla hu hr), (runTask_keeps hr).1.trans hla,
          (runTask_keeps hr).2.2.1.trans hda⟩)
    have hout : outTasks s' = mid.globalTasks := by
      obtain ⟨_, _, _, rfl⟩ := intoInner_eq hin
      rcases hs' with ⟨_, rfl⟩ | rfl <;> (unfold outTasks; cases f.tasks <;> rfl)
    rw [hout]
    exact hx

end Trion.Scope
