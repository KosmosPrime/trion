import TrionModel.Lemmas.C04Fin
/-!
# C04 closed: `conv`, `assemble`, `build` with the concrete evaluator against `C04.means`

A `build` that completes has passed every getter and `finish` (`Front.build_completed_iff`, over `Front.run`); soundness is
read off getter by getter (`run_reads`) and off `C04.row`, for any reading `den` of one operand with the list reading `dall`
built on it (`Reads den dall`: `denote`/`denoteAll` and the extended `denote2`/`denoteAll2`) and any operand condition
`WF` that gives each getter what it needs; so is totality.
-/
namespace Trion.C04
open Trion Trion.Front Trion.Simp

theorem kinds_sig (t : Instr) : kinds t = sig t := by cases t <;> rfl

/-- The front end's first attempt `b` gives no instruction that the encoder accepts: it ends with a diagnostic, or it
completes to an instruction the encoder refuses.  It does not defer: this is said of statements over defined names. -/
structure NotEncoded (b : BuildOut) : Prop where
  total : (∃ i, b = .completed i) ∨ ∃ d st, b = .error d st
  refused : ∀ i (hws : List Nat), b = .completed i → Codec.encode i ≠ .ok hws

theorem NotEncoded.of_error (d : Diag) (st : St) : NotEncoded (.error d st) :=
  ⟨.inr ⟨d, st, rfl⟩, fun _ _ h => nomatch h⟩

theorem NotEncoded.of_refused {i : Instr} {e : Codec.EncErr} (he : Codec.encode i = .error e) : NotEncoded (.completed i) :=
  ⟨.inl ⟨i, rfl⟩, fun _ _ h he' => by cases h; rw [he] at he'; cases he'⟩

theorem NotEncoded.cases {b : BuildOut} (h : NotEncoded b) :
    (∃ i e, b = .completed i ∧ Codec.encode i = .error e) ∨ ∃ d st, b = .error d st :=
  h.total.imp_left fun ⟨i, hb⟩ =>
    match he : Codec.encode i with
    | .error e => ⟨i, e, hb, he⟩
    | .ok hws => absurd he (h.refused i hws hb)

/-- C04 `build_wf` (for any evaluator): in namespace `Front` like the other `*_proof` lemmas, proved here because it is read
off `C04.row` -/
theorem _root_.Trion.Front.build_wf_proof (a : Nat) (name : Bytes) (args : List Arg) (eval : Arg → EvalOut) (loc : Bool) (i : Instr)
    (h : build a name args eval loc = .completed i) : i.wf := by
  cases hm : mnemonic name with
  | none => simp [build, hm] at h
  | some t =>
    obtain ⟨_, hs, hf⟩ := (build_completed_iff hm).1 h
    exact (row a _ t _ (kinds_sig t ▸ (run_shape ..).2.1) (kinds_sig t ▸ run_pass_length hs)).wf (run_wf _ _ _ _ _ _) hf

/-- `dall` reads an operand list kind by kind with `den`, and only lists of equal length -/
structure Reads (den : Kind → Arg → Option Val) (dall : List Kind → List Arg → Option (List Val)) : Prop where
  nil : dall [] [] = some []
  cons : ∀ k ks a as, dall (k :: ks) (a :: as) =
    match den k a, dall ks as with
    | some v, some vs => some (v :: vs)
    | _, _ => none
  nil_cons : ∀ a as, dall [] (a :: as) = none
  cons_nil : ∀ k ks, dall (k :: ks) [] = none

theorem reads_denote (T : SymTable) : Reads (denote T) (denoteAll T) :=
  ⟨rfl, fun _ _ _ _ => rfl, fun _ _ => rfl, fun _ _ => rfl⟩

section
variable {den : Kind → Arg → Option Val} {dall : List Kind → List Arg → Option (List Val)} (hR : Reads den dall)
include hR

theorem Reads.nil_some {as : List Arg} {vs : List Val} : dall [] as = some vs ↔ as = [] ∧ vs = [] := by
  cases as with
  | nil => rw [hR.nil]; simp [eq_comm]
  | cons a as => rw [hR.nil_cons]; simp

theorem Reads.cons_some {k : Kind} {ks : List Kind} {as : List Arg} {vs : List Val} :
    dall (k :: ks) as = some vs ↔
      ∃ a as' v vs', as = a :: as' ∧ vs = v :: vs' ∧ den k a = some v ∧ dall ks as' = some vs' := by
  cases as with
  | nil => rw [hR.cons_nil]; simp
  | cons a as' =>
    rw [hR.cons]
    cases h1 : den k a <;> cases h2 : dall ks as' <;> simp [h1, h2, eq_comm]
    constructor
    · rintro rfl; exact ⟨a, as', ⟨rfl, rfl⟩, _, _, rfl, h1, h2⟩
    · rintro ⟨_, _, ⟨rfl, rfl⟩, x, x1, rfl, hx, hx1⟩
      rw [h1] at hx; rw [h2] at hx1; cases hx; cases hx1; rfl

theorem Reads.length : ∀ {ks : List Kind} {as : List Arg} {vs : List Val}, dall ks as = some vs → ks.length = as.length := by
  intro ks
  induction ks with
  | nil => intro as vs h; simp [(hR.nil_some.1 h).1]
  | cons k ks ih =>
    intro as vs h
    obtain ⟨a, as', v, vs', rfl, rfl, _, h2⟩ := hR.cons_some.1 h
    simp [ih h2]

theorem Reads.allFit (hsh : ∀ {k a v}, den k a = some v → Fits k v) :
    ∀ {ks : List Kind} {as : List Arg} {vs : List Val}, dall ks as = some vs → AllFit ks vs ∧ vs.length = ks.length := by
  intro ks
  induction ks with
  | nil => intro as vs h; rw [(hR.nil_some.1 h).2]; exact ⟨trivial, rfl⟩
  | cons k ks ih =>
    intro as vs h
    obtain ⟨a, as', v, vs', rfl, rfl, h1, h2⟩ := hR.cons_some.1 h
    exact ⟨⟨hsh h1, (ih h2).1⟩, by simp [(ih h2).2]⟩

theorem Reads.mono {den' : Kind → Arg → Option Val} {dall' : List Kind → List Arg → Option (List Val)} (hR' : Reads den' dall')
    (hm : ∀ {k a v}, den k a = some v → den' k a = some v) :
    ∀ {ks : List Kind} {as : List Arg} {vs : List Val}, dall ks as = some vs → dall' ks as = some vs := by
  intro ks
  induction ks with
  | nil => intro as vs h; obtain ⟨rfl, rfl⟩ := hR.nil_some.1 h; exact hR'.nil
  | cons k ks ih =>
    intro as vs h
    obtain ⟨a, as', v, vs', rfl, rfl, h1, h2⟩ := hR.cons_some.1 h
    exact hR'.cons_some.2 ⟨a, as', v, vs', rfl, rfl, hm h1, ih h2⟩

variable {ok : Kind → Arg → Prop} {WF : List Kind → List Arg → Prop}
  (hWF : ∀ {k ks a as}, WF (k :: ks) (a :: as) → ok k a ∧ WF ks as) {eval : Arg → EvalOut} {loc : Bool}
include hWF

theorem run_reads
    (hget : ∀ {k pos done a v a' d'}, done ≤ pos → ok k a → get k eval loc pos done a = .ok v a' d' → den k a = some v) :
    ∀ (ks : List Kind) (pos : Nat) (rest : List Arg) (done : Nat), done ≤ pos → ks.length = rest.length → WF ks rest →
      (run eval loc ks pos rest done).stop = none → dall ks rest = some (run eval loc ks pos rest done).vals := by
  intro ks
  induction ks with
  | nil =>
    intro pos rest done _ hl _ _
    cases rest with
    | nil => exact hR.nil
    | cons a r => cases hl
  | cons k ks ih =>
    intro pos rest done hd hl hw h
    obtain ⟨a, rest', v, a', d', rfl, hg, h2, h3⟩ := run_pass_cons h
    obtain ⟨hslot, hw'⟩ := hWF hw
    rw [h2]
    exact hR.cons_some.2 ⟨a, rest', v, _, rfl, rfl, hget hd hslot hg,
      ih (pos + 1) rest' d' (get_ok_done_le hd hg) (by simpa using hl) hw' h3⟩

omit hR in
theorem run_total_of
    (hget : ∀ {k pos done a}, done ≤ pos → ok k a →
      (∃ v a' d', get k eval loc pos done a = .ok v a' d') ∨ (∃ a' d' e, get k eval loc pos done a = .stop a' d' (.error e))) :
    ∀ (ks : List Kind) (pos : Nat) (rest : List Arg) (done : Nat), done ≤ pos → ks.length = rest.length → WF ks rest →
      (run eval loc ks pos rest done).stop = none ∨ ∃ e, (run eval loc ks pos rest done).stop = some (.error e) := by
  intro ks
  induction ks with
  | nil => intro pos rest done _ _ _; exact .inl rfl
  | cons k ks ih =>
    intro pos rest done hd hlen hw
    cases rest with
    | nil => simp at hlen
    | cons a rest =>
      obtain ⟨hslot, hw'⟩ := hWF hw
      simp only [run]
      rcases hget hd hslot with ⟨v, a', d', hg⟩ | ⟨a', d', e, hg⟩
      · rw [hg]
        exact ih (pos + 1) rest d' (get_ok_done_le hd hg) (by simpa using hlen) hw'
      · rw [hg]; exact .inr ⟨_, rfl⟩

theorem build_sound_of
    (hget : ∀ {k pos done a v a' d'}, done ≤ pos → ok k a → get k eval loc pos done a = .ok v a' d' → den k a = some v)
    (A : Nat) (name : Bytes) (args : List Arg) (t : Instr) (hm : mnemonic name = some t)
    (hw : WF (sig t) args) (i : Instr) (hb : build A name args eval loc = .completed i)
    (hq : ∀ vs, dall (sig t) args = some vs → ¬ svQuirk t vs) :
    (∃ vs, dall (sig t) args = some vs ∧ meaning A t vs = some i) ∧ i.wf := by
  refine ⟨?_, build_wf_proof A name args eval loc i hb⟩
  obtain ⟨hl, hs, hf⟩ := (build_completed_iff hm).1 hb
  rw [kinds_sig] at hl hs
  have hden := run_reads hR hWF hget _ 0 args 0 (Nat.le_refl _) hl.symm hw hs
  exact ⟨_, hden, (row A _ t _ ((run_shape ..).2.1) (run_pass_length hs)).sound (run_wf _ _ _ _ _ _) (hq _ hden)
    (by simpa only [kinds_sig] using hf)⟩

omit hR in
theorem build_total_of
    (hget : ∀ {k pos done a}, done ≤ pos → ok k a →
      (∃ v a' d', get k eval loc pos done a = .ok v a' d') ∨ (∃ a' d' e, get k eval loc pos done a = .stop a' d' (.error e)))
    (A : Nat) (name : Bytes) (args : List Arg) (t : Instr) (hm : mnemonic name = some t) (hw : WF (sig t) args) :
    (∃ i, build A name args eval loc = .completed i) ∨ (∃ d st, build A name args eval loc = .error d st) := by
  by_cases hlen : args.length = (kinds t).length
  · simp only [build, hm, assemble_eq_run (st := ⟨A, t, 0, args⟩) hlen, assembleRun]
    rcases run_total_of hWF hget (kinds t) 0 args 0 (Nat.le_refl _) hlen.symm (kinds_sig t ▸ hw) with hs | ⟨e, hs⟩
    · rw [hs]
      simp only
      cases finish A _ _ (kinds t).length with
      | ok j => exact .inl ⟨_, rfl⟩
      | error e => exact .inr ⟨_, _, rfl⟩
    · rw [hs]; exact .inr ⟨_, _, rfl⟩
  · exact .inr ⟨_, _, arity_rejected_proof A name args eval loc t hm hlen⟩

end

section
variable {lk : Bytes → Lookup} (hn : NoDef lk) (hT : Simp.tableOk lk) {eval : Arg → EvalOut} (hE : EvalSimp eval lk)
include hn hE

theorem run_complete (loc : Bool) : ∀ (ks : List Kind) (pos : Nat) (rest : List Arg) (done : Nat) (new : List Val),
    done ≤ pos → denoteAll (tab lk) ks rest = some new → (∀ v ∈ new, okValC v) →
    ∃ as' d, run eval loc ks pos rest done = ⟨new, as', d, none⟩ := by
  intro ks
  induction ks with
  | nil =>
    intro pos rest done new _ hden _
    obtain ⟨rfl, rfl⟩ := (reads_denote _).nil_some.1 hden
    exact ⟨[], done, rfl⟩
  | cons k ks ih =>
    intro pos rest done new hd hden hok
    obtain ⟨a, rest, v, vs, rfl, rfl, h1, h2⟩ := (reads_denote _).cons_some.1 hden
    obtain ⟨a', d', hg, hd'⟩ := get_complete hn hE (loc := loc) hd h1 (hok v (by simp))
    obtain ⟨as', d, h⟩ := ih (pos + 1) rest d' vs hd' h2 (fun w hw => hok w (by simp [hw]))
    exact ⟨a' :: as', d, run_cons hg h⟩

theorem build_complete (loc : Bool) (A : Nat) (name : Bytes) (args : List Arg) (i : Instr)
    (hmeans : means (tab lk) A name args = some i) (hwf : i.wf) (hws : List Nat) (he : Codec.encode i = .ok hws) :
    build A name args eval loc = .completed i := by
  unfold means at hmeans
  cases hm : mnemonic name with
  | none => simp [hm] at hmeans
  | some t =>
    simp only [hm] at hmeans
    cases hden : denoteAll (tab lk) (sig t) args with
    | none => simp [hden] at hmeans
    | some vs =>
      simp only [hden] at hmeans
      obtain ⟨hfit, hlen⟩ := (reads_denote _).allFit denote_fits hden
      obtain ⟨hok, hf⟩ := (row A (sig t).length t vs hfit hlen).complete hmeans hwf he
      obtain ⟨as', d, hr⟩ := run_complete hn hE loc (sig t) 0 args 0 vs (Nat.le_refl _) hden hok
      refine (build_completed_iff hm).2 ?_
      rw [kinds_sig, hr]
      exact ⟨((reads_denote _).length hden).symm, rfl, hf⟩

include hT

theorem build_sound (loc : Bool) (A : Nat) (name : Bytes) (args : List Arg) (t : Instr) (hm : mnemonic name = some t)
    (hw : wellFormed (tab lk) (sig t) args) (i : Instr) (hb : build A name args eval loc = .completed i)
    (hq : ∀ vs, denoteAll (tab lk) (sig t) args = some vs → ¬ svQuirk t vs) :
    means (tab lk) A name args = some i ∧ i.wf := by
  obtain ⟨⟨vs, hden, hmn⟩, hwf⟩ := build_sound_of (reads_denote _) (ok := fun k a => evaluated k = true → valued (tab lk) a = true ∧ lits a = true ∧ doc a = true) (WF := wellFormed (tab lk)) (fun h => h)
    (fun hd hs hg => get_sound hn hT hE hd hs hg) A name args t hm hw i hb hq
  exact ⟨by simp only [means, hm, hden, hmn], hwf⟩

omit hT in
theorem build_total (loc : Bool) (A : Nat) (name : Bytes) (args : List Arg) (t : Instr) (hm : mnemonic name = some t)
    (hw : wellFormed (tab lk) (sig t) args) :
    (∃ i, build A name args eval loc = .completed i) ∨ (∃ d st, build A name args eval loc = .error d st) :=
  build_total_of (ok := fun k a => evaluated k = true → valued (tab lk) a = true ∧ lits a = true ∧ doc a = true) (WF := wellFormed (tab lk)) (fun h => h)
    (fun hd hs => get_total hn hE hd fun hk => (hs hk).1) A name args t hm hw

end

end Trion.C04
