import TrionModel.Lemmas.Map
/-!
# Memory map: the return count of `put`
-/
namespace Trion.Map
open Trion.Dict

/-- number of addresses of `[a, e)` covered by the segments (segment-wise interval arithmetic) -/
def occSegs : Segs → Nat → Nat → Nat
  | [], _, _ => 0
  | (f, x) :: r, a, e => (min e (f + x.length) - max a f) + occSegs r a e

def sumLen : Segs → Nat
  | [] => 0
  | s :: r => s.2.length + sumLen r

theorem occSegs_append (P Q : Segs) (a e : Nat) : occSegs (P ++ Q) a e = occSegs P a e + occSegs Q a e := by
  induction P with
  | nil => simp [occSegs]
  | cons s P ih => obtain ⟨f, x⟩ := s; simp only [List.cons_append, occSegs, ih]; omega

theorem occSegs_below (A : Segs) (a e : Nat) (h : ∀ s ∈ A, s.1 + s.2.length ≤ a) : occSegs A a e = 0 := by
  induction A with
  | nil => rfl
  | cons s A ih =>
    obtain ⟨f, x⟩ := s
    have h1 := h (f, x) (List.mem_cons_self ..)
    simp only [occSegs, ih (fun u hu => h u (List.mem_cons_of_mem _ hu))]
    simp only at h1; omega

theorem occSegs_above (R : Segs) (a e : Nat) (h : ∀ s ∈ R, e ≤ s.1) : occSegs R a e = 0 := by
  induction R with
  | nil => rfl
  | cons s R ih =>
    obtain ⟨f, x⟩ := s
    have h1 := h (f, x) (List.mem_cons_self ..)
    simp only [occSegs, ih (fun u hu => h u (List.mem_cons_of_mem _ hu))]
    simp only at h1; omega

theorem occSegs_inside (M : Segs) (a e : Nat) (h : ∀ s ∈ M, a ≤ s.1 ∧ s.1 + s.2.length ≤ e) :
    occSegs M a e = sumLen M := by
  induction M with
  | nil => rfl
  | cons s M ih =>
    obtain ⟨f, x⟩ := s
    have h1 := h (f, x) (List.mem_cons_self ..)
    simp only [occSegs, sumLen, ih (fun u hu => h u (List.mem_cons_of_mem _ hu))]
    simp only at h1; omega

theorem occSegs_congr {l : Nat} {r : Segs} (ok : Ok l r) (a a' e e' : Nat) (ha : a ≤ l) (ha' : a' ≤ l)
    (he : e = e' ∨ (e ≤ l ∧ e' ≤ l)) : occSegs r a e = occSegs r a' e' := by
  induction r generalizing l with
  | nil => rfl
  | cons s r ih =>
    obtain ⟨f, x⟩ := s
    obtain ⟨o1, _, _, o4⟩ := ok
    simp only [occSegs]
    rw [ih o4 (by omega) (by omega) (by omega)]
    omega

theorem putGo_fst (ps : Segs) : ∀ (l a : Nat) (d : List UInt8), Ok l ps → d ≠ [] →
    (putGo ps a d).1 = occSegs ps a (a + d.length) := by
  induction ps with
  | nil => intro l a d _ _; rfl
  | cons s r ih =>
    obtain ⟨f, x⟩ := s
    intro l a d ok hd
    obtain ⟨o1, o2, o3, o4⟩ := ok
    unfold putGo
    by_cases c1 : f + x.length < a
    · simp only [c1, if_true, occSegs]
      rw [ih _ a d o4 hd]
      omega
    · simp only [c1, if_false]
      by_cases c2 : a + d.length < f
      · simp only [c2, if_true, occSegs]
        rw [occSegs_above r a (a + d.length) (fun s hs => by have := Ok_mem o4 hs; omega)]
        omega
      · simp only [c2, if_false, occSegs]
        rw [ih _ (min a f) _ o4 (merged_ne_nil f a x hd)]
        have hl := merged_length f a x d
        rw [occSegs_congr o4 (min a f) a (min a f + (x.take (a - f) ++ d ++ x.drop (a + d.length - f)).length)
          (a + d.length) (by omega) (by omega) (by rw [hl]; omega)]
        simp only [List.length_take, List.length_drop]
        omega

theorem occupied_succ (D : Dict) (a n : Nat) :
    occupied D a (n + 1) = occupied D a n + (if (D (a + n)).isSome then 1 else 0) := by
  unfold occupied
  rw [List.range_succ, List.filter_append, List.length_append]
  by_cases h : (D (a + n)).isSome <;> simp [h]

theorem fresh_succ (D : Dict) (a n : Nat) :
    fresh D a (n + 1) = fresh D a n + (if (D (a + n)).isSome then 0 else 1) := by
  unfold fresh
  rw [List.range_succ, List.filter_append, List.length_append]
  by_cases h : (D (a + n)).isSome
  · have : (D (a + n)).isNone = false := by cases hh : D (a + n) <;> simp_all
    simp [h, this]
  · have : (D (a + n)).isNone = true := by cases hh : D (a + n) <;> simp_all
    simp [h, this]

theorem fresh_add_occupied (D : Dict) (a n : Nat) : fresh D a n + occupied D a n = n := by
  induction n with
  | zero => simp [fresh, occupied]
  | succ n ih =>
    rw [fresh_succ, occupied_succ]
    by_cases h : (D (a + n)).isSome <;> simp [h] <;> omega

theorem occSegs_succ {l : Nat} {ps : Segs} (ok : Ok l ps) (a e : Nat) (h : a ≤ e) :
    occSegs ps a (e + 1) = occSegs ps a e + (if (abs ps e).isSome then 1 else 0) := by
  induction ps generalizing l with
  | nil => simp [occSegs, abs]
  | cons s r ih =>
    obtain ⟨f, x⟩ := s
    obtain ⟨o1, o2, o3, o4⟩ := ok
    simp only [occSegs]
    rw [ih o4]
    by_cases c : f ≤ e ∧ e < f + x.length
    · have hA : abs ((f, x) :: r) e = x[e - f]? := by rw [abs_cons, if_pos c]
      have h1 : abs r e = none := abs_none_of_lt o4 (by omega)
      have h2 : (x[e - f]?).isSome = true := by
        rw [List.getElem?_eq_getElem (by omega)]; rfl
      rw [hA, h1, h2]
      simp only [Option.isSome_none, Bool.false_eq_true, if_false, if_true]
      omega
    · have hA : abs ((f, x) :: r) e = abs r e := by rw [abs_cons, if_neg c]
      rw [hA]
      omega

theorem occSegs_eq_occupied {l : Nat} {ps : Segs} (ok : Ok l ps) (a n : Nat) :
    occSegs ps a (a + n) = occupied (abs ps) a n := by
  induction n with
  | zero =>
    simp only [Nat.add_zero, occupied, List.range_zero, List.filter_nil, List.length_nil]
    induction ps generalizing l with
    | nil => rfl
    | cons s r ih =>
      obtain ⟨f, x⟩ := s
      simp only [occSegs]
      rw [ih ok.2.2.2]
      omega
  | succ n ih =>
    rw [← Nat.add_assoc, occSegs_succ ok a (a + n) (by omega), ih, occupied_succ]

theorem put_spec (ps : Segs) (a : Nat) (d : List UInt8) (inv : MInv ps)
    (h : a + d.length ≤ 4294967296) :
    (put ps a d).1 = .ok (fresh (abs ps) a d.length) ∧
    MInv (put ps a d).2 ∧ abs (put ps a d).2 = Dict.put (abs ps) a d := by
  unfold put
  cases d with
  | nil =>
    refine ⟨by simp [fresh], inv, ?_⟩
    funext k
    simp [Dict.put]; omega
  | cons b t =>
    have hne : (b :: t) ≠ [] := by simp
    simp only [List.isEmpty_cons, Bool.false_eq_true, if_false]
    rw [if_neg (by unfold u32Max; simp only [List.length_cons] at h ⊢; omega)]
    obtain ⟨i1, i2⟩ := putGo_spec ps 0 a (b :: t) inv (Nat.zero_le _) hne h
    refine ⟨?_, i1, funext i2⟩
    have hc := putGo_fst ps 0 a (b :: t) inv hne
    have ho := occSegs_eq_occupied inv a (b :: t).length
    have hf := fresh_add_occupied (abs ps) a (b :: t).length
    show Except.ok ((b :: t).length - (putGo ps a (b :: t)).1) = _
    congr 1
    omega

end Trion.Map
