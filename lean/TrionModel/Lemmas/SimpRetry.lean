import TrionModel.Lemmas.SimpNF
/-!
# `evaluate` over a growing constant table: monotonicity and the retry theorem

`lk₁ ⊆ lk₂` (`Sub`): every name that has a value in `lk₁` has the same value in `lk₂`; `NoDef lk`: no name is
`Deferred` (inside one file without `.global/.import` no table entry is ever `None`).

`Resumes lk₁ lk₂ a`: when `evaluate` over `lk₁` stops at an unknown name and leaves the tree `a₁`, evaluating `a₁`
over `lk₂` has the same outcome (up to the `changed` flag, which no caller reads) as evaluating the original `a`
over `lk₂`.  The two computations differ only in that the sub-trees left of the unknown name have already been
evaluated; those complete in the same way over `lk₂` (`evaluateE_mono_complete`) and are fixed points of `evaluate`
(`evaluateE_idempotent`).

`Resumes` holds of every tree when `lk₁` has no `Deferred` name (`resumes_all`), so the syntactic condition `plain` defined
here, a hypothesis of the retry theorems of Props/C08Asm.lean and C08Bytes.lean, is not needed for it.
-/
namespace Trion.Simp
open Trion

def Sub (lk₁ lk₂ : Bytes → Lookup) : Prop := ∀ s v, lk₁ s = .found v → lk₂ s = .found v

def NoDef (lk : Bytes → Lookup) : Prop := ∀ s, lk s ≠ .deferred

/-- The outcome with the `changed` flag of an `.ok` reset to `false`: `r₁.forget = r₂.forget` is "same outcome up to the `changed`
flag", the form in which `Resumes` compares retry and fresh evaluation. -/
def EvE.forget {α : Type} : EvE α → EvE α
  | .ok ev a => .ok ⟨false, ev.cause⟩ a
  | r => r

theorem afterRawE_forget (ev ev' : Ev) (a : Arg) (h : ev.cause = ev'.cause) :
    (afterRawE ev a).forget = (afterRawE ev' a).forget := by
  unfold afterRawE
  cases simplifyRawE a with
  | ok p => simp [EvE.forget, Ev.or, h]
  | _ => rfl

theorem afterRawE_cause (ev ev' : Ev) (a a' : Arg) (h : afterRawE ev a = .ok ev' a') : ev'.cause = ev.cause := by
  unfold afterRawE at h
  split at h
  · cases h; simp [Ev.or]
  · cases h
  · cases h

theorem forget_eq_cases {α : Type} {r₁ r₂ : EvE α} (h : r₁.forget = r₂.forget) :
    (∃ e₁ e₂ a, r₁ = .ok e₁ a ∧ r₂ = .ok e₂ a ∧ e₁.cause = e₂.cause) ∨
    ((∀ e a, r₁ ≠ .ok e a) ∧ r₁ = r₂) := by
  cases r₁ with
  | ok e1 a1 =>
    cases r₂ with
    | ok e2 a2 =>
      simp only [EvE.forget, EvE.ok.injEq, Ev.mk.injEq, true_and] at h
      obtain ⟨h1, h2⟩ := h
      subst h2
      exact .inl ⟨e1, e2, a1, rfl, rfl, h1⟩
    | _ => simp [EvE.forget] at h
  | nosuch n a | err e a | panic =>
    cases r₂ with
    | ok e2 a2 => simp [EvE.forget] at h
    | _ => exact .inr ⟨fun _ _ => by simp, h⟩

theorem evaluateE_cause_both (lk : Bytes → Lookup) (isReg : Bytes → Bool) (hn : NoDef lk) :
    (∀ a ev a', evaluateE lk isReg a = .ok ev a' → ev.cause = none) ∧
    (∀ as ev as', evaluateArgsE lk isReg as = .ok ev as' → ev.cause = none) :=
  evaluateE_ok_ind lk isReg (R := fun _ ev _ => ev.cause = none) (Rs := fun _ ev _ => ev.cause = none)
    (fun _ => rfl) (fun _ => rfl) (fun _ _ => rfl) (fun s _ hl => absurd hl (hn s)) (fun _ _ _ _ => rfl)
    (fun _ _ _ _ _ _ _ _ _ _ _ ihl ihr _ => by simp [Ev.or, ihl, ihr])
    (fun _ _ _ _ _ _ ih _ => by simp [Ev.or, ih]) (fun _ _ _ _ _ _ ih _ => by simp [Ev.or, ih])
    (fun _ _ _ _ _ _ ih _ => by simp [Ev.or, ih])
    (fun _ _ _ ih => ih) (fun _ _ _ _ ih => ih) rfl (fun _ _ _ _ _ _ iha ihas => by simp [Ev.or, iha, ihas])

theorem evaluateE_cause_none {lk : Bytes → Lookup} {isReg : Bytes → Bool} (hn : NoDef lk) {a : Arg} {ev : Ev} {a' : Arg}
    (h : evaluateE lk isReg a = .ok ev a') : ev.cause = none := (evaluateE_cause_both lk isReg hn).1 a ev a' h

theorem evaluate_cause_none {lk : Bytes → Lookup} {isReg : Bytes → Bool} (hn : NoDef lk) {a : Arg} {ev : Ev} {a' : Arg}
    (h : evaluate lk isReg a = .ok (ev, a')) : ev.cause = none := evaluateE_cause_none hn (evaluate_ok_iff.1 h)

theorem evaluateE_mono_complete {lk₁ lk₂ : Bytes → Lookup} {isReg : Bytes → Bool} (hs : Sub lk₁ lk₂) {a : Arg} {ev : Ev}
    {a' : Arg} (h : evaluateE lk₁ isReg a = .ok ev a') (hc : ev.cause = none) : evaluateE lk₂ isReg a = .ok ev a' :=
  (evaluateE_complete_ind lk₁ isReg (R := fun a ev a' => evaluateE lk₂ isReg a = .ok ev a')
    (Rs := fun as ev as' => evaluateArgsE lk₂ isReg as = .ok ev as')
    (fun _ => rfl) (fun _ => rfl) (fun s hr => by simp only [evaluateE, hr, if_true])
    (fun s v hr hl => by simp only [evaluateE, hr, Bool.false_eq_true, if_false, hs s v hl])
    (fun _ _ _ _ _ _ _ _ _ _ _ ihl ihr hsr => by simp only [evaluateE, ihl, ihr, afterRawE, simplifyRawE_ok_iff.2 hsr])
    (fun _ _ _ _ _ _ ih hsr => by simp only [evaluateE, ih, afterRawE, simplifyRawE_ok_iff.2 hsr])
    (fun _ _ _ _ _ _ ih hsr => by simp only [evaluateE, ih, afterRawE, simplifyRawE_ok_iff.2 hsr])
    (fun _ _ _ _ _ _ ih hsr => by simp only [evaluateE, ih, afterRawE, simplifyRawE_ok_iff.2 hsr])
    (fun _ _ _ ih => by simp only [evaluateE, ih]) (fun _ _ _ _ ih => by simp only [evaluateE, ih]) rfl
    (fun _ _ _ _ _ _ iha ihas => by simp only [evaluateArgsE, iha, ihas])).1 a ev a' h hc

theorem evaluateE_mono {lk₁ lk₂ : Bytes → Lookup} {isReg : Bytes → Bool} (hs : Sub lk₁ lk₂) (hn : NoDef lk₁)
    {a : Arg} {ev : Ev} {a' : Arg} (h : evaluateE lk₁ isReg a = .ok ev a') : evaluateE lk₂ isReg a = .ok ev a' :=
  evaluateE_mono_complete hs h (evaluateE_cause_none hn h)

/-- arithmetic (constants, binary operators, `Negate`, `Not`) over the identifiers that the parameter does NOT hold: with the
register predicate, register-free arithmetic, whose complete value is a constant; with `unknown lk isReg`
(Lemmas/SimpArithFwd.lean), arithmetic all of whose names have a value -/
def arith (isReg : Bytes → Bool) : Arg → Bool
  | .const _ => true
  | .ident s => !isReg s
  | .bin _ l r => arith isReg l && arith isReg r
  | .neg a => arith isReg a
  | .not a => arith isReg a
  | _ => false

def leaf : Arg → Bool
  | .const _ | .ident _ | .str _ => true
  | _ => false

/-- `Rn + c` (`c > 0`) and `c + Rn` (`c ≠ 0`): `evaluate` leaves them as they are -/
def regOff (isReg : Bytes → Bool) : Arg → Bool
  | .bin .add (.ident r) (.const c) => isReg r && decide (0 < c)
  | .bin .add (.const c) (.ident r) => isReg r && decide (c ≠ 0)
  | _ => false

/-- a sub-tree whose complete value is a fixed point of `evaluate`: a leaf, register-free arithmetic (a constant), or
a register plus a constant -/
def leafy (isReg : Bytes → Bool) (a : Arg) : Bool := leaf a || arith isReg a || regOff isReg a

/-- a sub-tree whose evaluation cannot stop at an unknown name -/
def quiet (isReg : Bytes → Bool) : Arg → Bool
  | .const _ | .str _ => true
  | .ident s => isReg s
  | _ => false

mutual
/-- whenever the evaluation of `l ∘ r` can stop inside `r`, `l` is `leafy` (a leaf, register-free arithmetic or `Rn + c`) -/
def plain (isReg : Bytes → Bool) : Arg → Bool
  | .bin _ l r => plain isReg l && plain isReg r && (leafy isReg l || quiet isReg r)
  | .neg a => plain isReg a
  | .not a => plain isReg a
  | .addr a => plain isReg a
  | .seq as => plainArgs isReg as
  | .func _ as => plainArgs isReg as
  | _ => true
def plainArgs (isReg : Bytes → Bool) : Args → Bool
  | .nil => true
  | .cons a as => plain isReg a && leafy isReg a && plainArgs isReg as
end

def Resumes (lk₁ lk₂ : Bytes → Lookup) (isReg : Bytes → Bool) (a : Arg) : Prop :=
  ∀ n a₁, evaluateE lk₁ isReg a = .nosuch n a₁ → (evaluateE lk₂ isReg a₁).forget = (evaluateE lk₂ isReg a).forget

section
variable {lk₂ : Bytes → Lookup} {isReg : Bytes → Bool}

theorem resume_right (op : BinOp) {l l' r r₁ : Arg} {e1 : Ev} (hl : evaluateE lk₂ isReg l = .ok e1 l')
    (hc : e1.cause = none) (hst : evaluateE lk₂ isReg l' = .ok ⟨false, none⟩ l')
    (hr : (evaluateE lk₂ isReg r₁).forget = (evaluateE lk₂ isReg r).forget) :
    (evaluateE lk₂ isReg (.bin op l' r₁)).forget = (evaluateE lk₂ isReg (.bin op l r)).forget := by
  simp only [evaluateE, hst, hl]
  rcases forget_eq_cases hr with ⟨e₁, e₂, x, h1, h2, hcc⟩ | ⟨hne, heq⟩
  · rw [h1, h2]
    exact afterRawE_forget _ _ _ (by simp [Ev.or, hcc, hc])
  · rw [← heq]
    cases h : evaluateE lk₂ isReg r₁ with
    | ok e a => exact absurd h (hne _ _)
    | _ => rfl

theorem resume_left (op : BinOp) {l l₁ r : Arg}
    (hl : (evaluateE lk₂ isReg l₁).forget = (evaluateE lk₂ isReg l).forget) :
    (evaluateE lk₂ isReg (.bin op l₁ r)).forget = (evaluateE lk₂ isReg (.bin op l r)).forget := by
  simp only [evaluateE]
  rcases forget_eq_cases hl with ⟨e₁, e₂, x, h1, h2, hcc⟩ | ⟨hne, heq⟩
  · rw [h1, h2]
    cases evaluateE lk₂ isReg r with
    | ok e a => exact afterRawE_forget _ _ _ (by simp [Ev.or, hcc])
    | _ => rfl
  · rw [← heq]

theorem resume_neg {v v₁ : Arg} (h : (evaluateE lk₂ isReg v₁).forget = (evaluateE lk₂ isReg v).forget) :
    (evaluateE lk₂ isReg (.neg v₁)).forget = (evaluateE lk₂ isReg (.neg v)).forget := by
  simp only [evaluateE]
  rcases forget_eq_cases h with ⟨e₁, e₂, x, h1, h2, hcc⟩ | ⟨hne, heq⟩
  · rw [h1, h2]; exact afterRawE_forget _ _ _ hcc
  · rw [← heq]

theorem resume_not {v v₁ : Arg} (h : (evaluateE lk₂ isReg v₁).forget = (evaluateE lk₂ isReg v).forget) :
    (evaluateE lk₂ isReg (.not v₁)).forget = (evaluateE lk₂ isReg (.not v)).forget := by
  simp only [evaluateE]
  rcases forget_eq_cases h with ⟨e₁, e₂, x, h1, h2, hcc⟩ | ⟨hne, heq⟩
  · rw [h1, h2]; exact afterRawE_forget _ _ _ hcc
  · rw [← heq]

theorem resume_addr {v v₁ : Arg} (h : (evaluateE lk₂ isReg v₁).forget = (evaluateE lk₂ isReg v).forget) :
    (evaluateE lk₂ isReg (.addr v₁)).forget = (evaluateE lk₂ isReg (.addr v)).forget := by
  simp only [evaluateE]
  rcases forget_eq_cases h with ⟨e₁, e₂, x, h1, h2, hcc⟩ | ⟨hne, heq⟩
  · rw [h1, h2]; exact afterRawE_forget _ _ _ hcc
  · rw [← heq]

theorem resume_seq {as as₁ : Args} (h : (evaluateArgsE lk₂ isReg as₁).forget = (evaluateArgsE lk₂ isReg as).forget) :
    (evaluateE lk₂ isReg (.seq as₁)).forget = (evaluateE lk₂ isReg (.seq as)).forget := by
  simp only [evaluateE]
  rcases forget_eq_cases h with ⟨e₁, e₂, x, h1, h2, hcc⟩ | ⟨hne, heq⟩
  · rw [h1, h2]; simp [EvE.forget, hcc]
  · rw [← heq]

theorem resume_func (f : Bytes) {as as₁ : Args}
    (h : (evaluateArgsE lk₂ isReg as₁).forget = (evaluateArgsE lk₂ isReg as).forget) :
    (evaluateE lk₂ isReg (.func f as₁)).forget = (evaluateE lk₂ isReg (.func f as)).forget := by
  simp only [evaluateE]
  rcases forget_eq_cases h with ⟨e₁, e₂, x, h1, h2, hcc⟩ | ⟨hne, heq⟩
  · rw [h1, h2]; simp [EvE.forget, hcc]
  · rw [← heq]

theorem resume_cons_right {a a' : Arg} {as as₁ : Args} {e1 : Ev} (hl : evaluateE lk₂ isReg a = .ok e1 a')
    (hc : e1.cause = none) (hst : evaluateE lk₂ isReg a' = .ok ⟨false, none⟩ a')
    (hr : (evaluateArgsE lk₂ isReg as₁).forget = (evaluateArgsE lk₂ isReg as).forget) :
    (evaluateArgsE lk₂ isReg (.cons a' as₁)).forget = (evaluateArgsE lk₂ isReg (.cons a as)).forget := by
  simp only [evaluateArgsE, hst, hl]
  rcases forget_eq_cases hr with ⟨e₁, e₂, x, h1, h2, hcc⟩ | ⟨hne, heq⟩
  · rw [h1, h2]
    simp [EvE.forget, Ev.or, hcc, hc]
  · rw [← heq]
    cases h : evaluateArgsE lk₂ isReg as₁ with
    | ok e a => exact absurd h (hne _ _)
    | _ => rfl

theorem resume_cons_left {a a₁ : Arg} {as : Args}
    (hl : (evaluateE lk₂ isReg a₁).forget = (evaluateE lk₂ isReg a).forget) :
    (evaluateArgsE lk₂ isReg (.cons a₁ as)).forget = (evaluateArgsE lk₂ isReg (.cons a as)).forget := by
  simp only [evaluateArgsE]
  rcases forget_eq_cases hl with ⟨e₁, e₂, x, h1, h2, hcc⟩ | ⟨hne, heq⟩
  · rw [h1, h2]
    cases evaluateArgsE lk₂ isReg as with
    | ok e a => simp [EvE.forget, Ev.or, hcc]
    | _ => rfl
  · rw [← heq]

end

theorem resumes_all_both (lk₁ lk₂ : Bytes → Lookup) (isReg : Bytes → Bool) (hs : Sub lk₁ lk₂) (hn : NoDef lk₁) :
    (∀ a, Resumes lk₁ lk₂ isReg a) ∧
    (∀ as n as₁, evaluateArgsE lk₁ isReg as = .nosuch n as₁ →
      (evaluateArgsE lk₂ isReg as₁).forget = (evaluateArgsE lk₂ isReg as).forget) :=
  evaluateE_nosuch_ind lk₁ isReg
    (R := fun a _ a₁ => (evaluateE lk₂ isReg a₁).forget = (evaluateE lk₂ isReg a).forget)
    (Rs := fun as _ as₁ => (evaluateArgsE lk₂ isReg as₁).forget = (evaluateArgsE lk₂ isReg as).forget)
    (fun _ _ _ => rfl) (fun op _ _ _ _ _ ih => resume_left op ih)
    (fun op _ _ _ _ _ _ h1 _ ih => resume_right op (evaluateE_mono hs hn h1) (evaluateE_cause_none hn h1)
      (evaluateE_idempotent h1 (evaluateE_cause_none hn h1) lk₂) ih)
    (fun _ _ _ ih => resume_neg ih) (fun _ _ _ ih => resume_not ih) (fun _ _ _ ih => resume_addr ih)
    (fun _ _ _ ih => resume_seq ih) (fun f _ _ _ ih => resume_func f ih) (fun _ _ _ _ ih => resume_cons_left ih)
    (fun _ _ _ _ _ _ h1 _ ih => resume_cons_right (evaluateE_mono hs hn h1) (evaluateE_cause_none hn h1)
      (evaluateE_idempotent h1 (evaluateE_cause_none hn h1) lk₂) ih)

theorem resumes_all {lk₁ lk₂ : Bytes → Lookup} {isReg : Bytes → Bool} (hs : Sub lk₁ lk₂) (hn : NoDef lk₁) (a : Arg) :
    Resumes lk₁ lk₂ isReg a := (resumes_all_both lk₁ lk₂ isReg hs hn).1 a

/-- `Resumes` on `(0 - (r1 - r0)) + x` (`r0`, `r1` registers, `x` unknown), the operand that depends on the swap
`0 - (l - r) ↦ r - l` of `neutralize_raw` (F30 in DESIGN.md): the first attempt leaves `(r0 - r1) + x`, and retry and fresh
evaluation end with the same tree.  Were `-(r1 - r0) + x` left instead, the retry would turn the evaluated `-(r1 - r0)` into
`r0 - r1`, which the fresh evaluation never does. -/
theorem resumes_old_witness :
    let isReg : Bytes → Bool := fun s => s = [114, 48] || s = [114, 49]
    let lk₁ : Bytes → Lookup := fun _ => .notFound
    let lk₂ : Bytes → Lookup := fun s => if s = [120] then .found 1 else .notFound
    let a : Arg := .bin .add (.bin .sub (.const 0) (.bin .sub (.ident [114, 49]) (.ident [114, 48]))) (.ident [120])
    evaluateE lk₁ isReg a = .nosuch [120] (.bin .add (.bin .sub (.ident [114, 48]) (.ident [114, 49])) (.ident [120])) ∧
    evaluateE lk₂ isReg (.bin .add (.bin .sub (.ident [114, 48]) (.ident [114, 49])) (.ident [120])) =
      .ok ⟨true, none⟩ (.bin .add (.bin .sub (.ident [114, 48]) (.ident [114, 49])) (.const 1)) ∧
    evaluateE lk₂ isReg a = .ok ⟨true, none⟩ (.bin .add (.bin .sub (.ident [114, 48]) (.ident [114, 49])) (.const 1)) :=
  ⟨rfl, rfl, rfl⟩

/-!
## The condition under which the retry is the fresh evaluation, tree for tree

The first attempt over `lk₁` stops at an unknown name; on the way it has COMPLETED some sub-trees `l ↦ l'` (the left
operands of the binary nodes — and the earlier list elements — on the path to the stop) and written their values `l'`
into the tree.  The retry over `lk₂ ⊇ lk₁` evaluates these `l'` once more; the fresh evaluation computes `l'` from `l`
and goes on.  So the two agree as soon as every such `l'` is a FIXED POINT of `evaluate` (`StableAt`).

`LeftStable lk₁ lk₂ isReg a` says exactly this (a decidable condition on the statement and the two tables: run
`evaluate` on the completed values).  Since `evaluate` is idempotent (Lemmas/SimpNF.lean) the condition HOLDS FOR EVERY
TREE over a table without Deferred names (`leftStable_all`), so a hypothesis `LeftStable …` / `plain …` of a theorem over
such a table restricts nothing; `leftStableB` (Lemmas/SimpStableDec.lean) is a checker for it that does not assume this of
the first table.
-/

def StableAt (lk : Bytes → Lookup) (isReg : Bytes → Bool) (a : Arg) : Prop :=
  ∃ ev, evaluateE lk isReg a = .ok ev a ∧ ev.cause = none

mutual
def LeftStable (lk₁ lk₂ : Bytes → Lookup) (isReg : Bytes → Bool) : Arg → Prop
  | .bin _ l r => LeftStable lk₁ lk₂ isReg l ∧ LeftStable lk₁ lk₂ isReg r ∧
      ∀ e l' n r₁, evaluateE lk₁ isReg l = .ok e l' → evaluateE lk₁ isReg r = .nosuch n r₁ → StableAt lk₂ isReg l'
  | .neg a => LeftStable lk₁ lk₂ isReg a
  | .not a => LeftStable lk₁ lk₂ isReg a
  | .addr a => LeftStable lk₁ lk₂ isReg a
  | .seq as => LeftStableArgs lk₁ lk₂ isReg as
  | .func _ as => LeftStableArgs lk₁ lk₂ isReg as
  | _ => True
def LeftStableArgs (lk₁ lk₂ : Bytes → Lookup) (isReg : Bytes → Bool) : Args → Prop
  | .nil => True
  | .cons a as => LeftStable lk₁ lk₂ isReg a ∧ LeftStableArgs lk₁ lk₂ isReg as ∧
      ∀ e a' n as₁, evaluateE lk₁ isReg a = .ok e a' → evaluateArgsE lk₁ isReg as = .nosuch n as₁ →
        StableAt lk₂ isReg a'
end

theorem leftStable_all_both (lk₁ lk₂ : Bytes → Lookup) (isReg : Bytes → Bool) (hn : NoDef lk₁) :
    (∀ a, LeftStable lk₁ lk₂ isReg a) ∧ (∀ as, LeftStableArgs lk₁ lk₂ isReg as) := by
  have key : ∀ x e x', evaluateE lk₁ isReg x = .ok e x' → StableAt lk₂ isReg x' := fun x e x' h =>
    ⟨⟨false, none⟩, evaluateE_idempotent h (evaluateE_cause_none hn h) lk₂, rfl⟩
  apply Arg.ind2
  case const => intro v; simp [LeftStable]
  case ident => intro v; simp [LeftStable]
  case str => intro v; simp [LeftStable]
  case bin =>
    intro op l r ihl ihr
    simp only [LeftStable]
    exact ⟨ihl, ihr, fun e l' _ _ h1 _ => key l e l' h1⟩
  case neg => intro v ih; simp only [LeftStable]; exact ih
  case not => intro v ih; simp only [LeftStable]; exact ih
  case addr => intro v ih; simp only [LeftStable]; exact ih
  case seq => intro as ih; simp only [LeftStable]; exact ih
  case func => intro f as ih; simp only [LeftStable]; exact ih
  case nil => simp [LeftStableArgs]
  case cons =>
    intro a as iha ihas
    simp only [LeftStableArgs]
    exact ⟨iha, ihas, fun e a' _ _ h1 _ => key a e a' h1⟩

theorem leftStable_all {lk₁ : Bytes → Lookup} (lk₂ : Bytes → Lookup) {isReg : Bytes → Bool} (hn : NoDef lk₁) (a : Arg) :
    LeftStable lk₁ lk₂ isReg a := (leftStable_all_both lk₁ lk₂ isReg hn).1 a

/-!
## Tables with `Deferred` names: an operand that mentions none

`noDefIn lk a`: no identifier of `a` is `Deferred` in `lk`.  For such an operand the Deferred entries of the table are
irrelevant (`evaluateE_undefer`: the evaluation is the one over `undefer lk`, a `NoDef` table), so the retry is the fresh
evaluation as over a table without Deferred names (`resumes_noDefIn`).  A complete evaluation (no `Deferred` cause) has looked
up no Deferred name — the first one met becomes the cause and no later step clears it (`evaluateE_complete_noDefIn`) —, so it
is the evaluation over `undefer lk`: what Lemmas/AsmDefEval.lean and Lemmas/AsmRetryAgree.lean need in a file whose table
holds forward-declared (`.global`) or imported-unvalued names.
-/

mutual
def noDefIn (lk : Bytes → Lookup) : Arg → Bool
  | .ident s => decide (lk s ≠ .deferred)
  | .bin _ l r => noDefIn lk l && noDefIn lk r
  | .neg a => noDefIn lk a
  | .not a => noDefIn lk a
  | .addr a => noDefIn lk a
  | .seq as => noDefInArgs lk as
  | .func _ as => noDefInArgs lk as
  | _ => true
def noDefInArgs (lk : Bytes → Lookup) : Args → Bool
  | .nil => true
  | .cons a as => noDefIn lk a && noDefInArgs lk as
end

/-- the table with its `Deferred` entries forgotten -/
def undefer (lk : Bytes → Lookup) (s : Bytes) : Lookup :=
  match lk s with
  | .deferred => .notFound
  | x => x

theorem undefer_noDef (lk : Bytes → Lookup) : NoDef (undefer lk) := by
  intro s h
  unfold undefer at h
  cases hl : lk s <;> simp [hl] at h

theorem undefer_sub {lk₁ lk₂ : Bytes → Lookup} (hs : Sub lk₁ lk₂) : Sub (undefer lk₁) lk₂ := by
  intro s v h
  unfold undefer at h
  cases hl : lk₁ s with
  | notFound => simp [hl] at h
  | deferred => simp [hl] at h
  | found w => simp only [hl, Lookup.found.injEq] at h; subst h; exact hs s w hl

theorem evaluateE_undefer_both (lk : Bytes → Lookup) (isReg : Bytes → Bool) :
    (∀ a, noDefIn lk a = true → evaluateE lk isReg a = evaluateE (undefer lk) isReg a) ∧
    (∀ as, noDefInArgs lk as = true → evaluateArgsE lk isReg as = evaluateArgsE (undefer lk) isReg as) := by
  apply Arg.ind2
  case const => intro v _; rfl
  case ident =>
    intro s h
    simp only [noDefIn, decide_eq_true_eq] at h
    cases hl : lk s with
    | deferred => exact absurd hl h
    | notFound => simp only [evaluateE, undefer, hl]
    | found v => simp only [evaluateE, undefer, hl]
  case str => intro v _; rfl
  case bin =>
    intro op l r ihl ihr h
    simp only [noDefIn, Bool.and_eq_true] at h
    simp only [evaluateE, ihl h.1, ihr h.2]
  case neg | not | addr => intro v ih h; simp only [noDefIn] at h; simp only [evaluateE, ih h]
  case seq => intro as ih h; simp only [noDefIn] at h; simp only [evaluateE, ih h]
  case func => intro f as ih h; simp only [noDefIn] at h; simp only [evaluateE, ih h]
  case nil => intro _; rfl
  case cons =>
    intro a as iha ihas h
    simp only [noDefInArgs, Bool.and_eq_true] at h
    simp only [evaluateArgsE, iha h.1, ihas h.2]

theorem evaluateE_undefer {lk : Bytes → Lookup} (isReg : Bytes → Bool) {a : Arg} (h : noDefIn lk a = true) :
    evaluateE lk isReg a = evaluateE (undefer lk) isReg a := (evaluateE_undefer_both lk isReg).1 a h

theorem resumes_noDefIn {lk₁ lk₂ : Bytes → Lookup} {isReg : Bytes → Bool} (hs : Sub lk₁ lk₂) {a : Arg}
    (ha : noDefIn lk₁ a = true) : Resumes lk₁ lk₂ isReg a := by
  intro n a₁ h
  rw [evaluateE_undefer isReg ha] at h
  exact resumes_all (undefer_sub hs) (undefer_noDef lk₁) a n a₁ h

theorem evaluateE_complete_noDefIn_both (lk : Bytes → Lookup) (isReg : Bytes → Bool)
    (hreg : ∀ s, isReg s = true → lk s ≠ .deferred) :
    (∀ a ev a', evaluateE lk isReg a = .ok ev a' → ev.cause = none → noDefIn lk a = true) ∧
    (∀ as ev as', evaluateArgsE lk isReg as = .ok ev as' → ev.cause = none → noDefInArgs lk as = true) :=
  evaluateE_complete_ind lk isReg (R := fun a _ _ => noDefIn lk a = true) (Rs := fun as _ _ => noDefInArgs lk as = true)
    (fun _ => rfl) (fun _ => rfl) (fun s hr => by simpa [noDefIn] using hreg s hr)
    (fun s v _ hl => by simp [noDefIn, hl])
    (fun _ _ _ _ _ _ _ _ _ _ _ ihl ihr _ => by simp [noDefIn, ihl, ihr])
    (fun _ _ _ _ _ _ ih _ => ih) (fun _ _ _ _ _ _ ih _ => ih) (fun _ _ _ _ _ _ ih _ => ih)
    (fun _ _ _ ih => ih) (fun _ _ _ _ ih => ih) rfl
    (fun _ _ _ _ _ _ iha ihas => by simp [noDefInArgs, iha, ihas])

theorem evaluateE_complete_noDefIn {lk : Bytes → Lookup} {isReg : Bytes → Bool} (hreg : ∀ s, isReg s = true → lk s ≠ .deferred)
    {a : Arg} {ev : Ev} {a' : Arg} (h : evaluateE lk isReg a = .ok ev a') (hc : ev.cause = none) : noDefIn lk a = true :=
  (evaluateE_complete_noDefIn_both lk isReg hreg).1 a ev a' h hc

end Trion.Simp
