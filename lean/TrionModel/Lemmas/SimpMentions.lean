import TrionModel.Lemmas.SimpE
/-!
# an expression that mentions an undefined name never evaluates (syntactic criterion)

`mentions n a`: the identifier `n` occurs somewhere in the tree `a`.  If `n` is not a register name and the table has
no entry for it (`lookup n = NotFound`), then `evaluate` of any tree that mentions `n` does not return `Ok`: it stops
with `NoSuchVariable` (of the first undefined name met), leaving a tree that STILL mentions `n` — so every retry fails the
same way —, or with an evaluation error met before.  `evaluateE_mentions` lists `.panic` as a third outcome; its caller
rules it out with `Asm.evaluateE_ne_panic` (Lemmas/AsmPrim.lean).
-/
namespace Trion.Simp
open Trion

mutual
def mentions (n : Bytes) : Arg → Bool
  | .const _ => false
  | .ident s => decide (s = n)
  | .str _ => false
  | .bin _ l r => mentions n l || mentions n r
  | .neg a => mentions n a
  | .not a => mentions n a
  | .addr a => mentions n a
  | .seq as => mentionsL n as
  | .func _ as => mentionsL n as
def mentionsL (n : Bytes) : Args → Bool
  | .nil => false
  | .cons a as => mentions n a || mentionsL n as
end

section
variable (lk : Bytes → Lookup) (isReg : Bytes → Bool) (n : Bytes) (hr : isReg n = false) (hl : lk n = .notFound)
include hr hl

theorem evaluateE_ok_mentions :
    (∀ a ev a', evaluateE lk isReg a = .ok ev a' → mentions n a = false) ∧
    (∀ as ev as', evaluateArgsE lk isReg as = .ok ev as' → mentionsL n as = false) := by
  have hne : ∀ s, (isReg s = true ∨ lk s ≠ .notFound) → mentions n (.ident s) = false := by
    intro s h
    simp only [mentions, decide_eq_false_iff_not]
    rintro rfl
    rcases h with h | h
    · rw [hr] at h; cases h
    · exact h hl
  apply evaluateE_ok_ind lk isReg (R := fun a _ _ => mentions n a = false) (Rs := fun as _ _ => mentionsL n as = false)
  case const | str => intro _; rfl
  case reg => intro s h; exact hne s (.inl h)
  case deferred => intro s _ h; exact hne s (.inr (by rw [h]; simp))
  case found => intro s v _ h; exact hne s (.inr (by rw [h]; simp))
  case bin => intro op l r e1 l' e2 r' c a' _ _ h1 h2 _; simp [mentions, h1, h2]
  case neg | not | addr => intro v e1 v' c a' _ h _; simpa [mentions] using h
  case seq => intro as ev as' h; simpa [mentions] using h
  case func => intro f as ev as' h; simpa [mentions] using h
  case nil => rfl
  case cons => intro a as e1 a' e2 as' h1 h2; simp [mentionsL, h1, h2]

theorem evaluateE_nosuch_mentions :
    (∀ a m a₁, evaluateE lk isReg a = .nosuch m a₁ → mentions n a = true → mentions n a₁ = true) ∧
    (∀ as m as₁, evaluateArgsE lk isReg as = .nosuch m as₁ → mentionsL n as = true → mentionsL n as₁ = true) := by
  have hok := evaluateE_ok_mentions lk isReg n hr hl
  apply evaluateE_nosuch_ind lk isReg (R := fun a _ a₁ => mentions n a = true → mentions n a₁ = true)
    (Rs := fun as _ as₁ => mentionsL n as = true → mentionsL n as₁ = true)
  case ident => intro s _ _ h; exact h
  case binL =>
    intro op l r m l₁ _ ih h
    simp only [mentions, Bool.or_eq_true] at h ⊢
    exact h.imp ih id
  case binR =>
    intro op l r e1 l' m r₁ h1 _ ih h
    simp only [mentions, hok.1 l e1 l' h1, Bool.false_or] at h
    simp [mentions, ih h]
  case neg | not | addr => intro v m v₁ ih h; simpa [mentions] using ih (by simpa [mentions] using h)
  case seq => intro as m as₁ ih h; simpa [mentions] using ih (by simpa [mentions] using h)
  case func => intro f as m as₁ ih h; simpa [mentions] using ih (by simpa [mentions] using h)
  case consL =>
    intro a as m a₁ ih h
    simp only [mentionsL, Bool.or_eq_true] at h ⊢
    exact h.imp ih id
  case consR =>
    intro a as e1 a' m as₁ h1 _ ih h
    simp only [mentionsL, hok.1 a e1 a' h1, Bool.false_or] at h
    simp [mentionsL, ih h]

theorem evaluateE_mentions (a : Arg) (hm : mentions n a = true) :
    (∃ m a', evaluateE lk isReg a = .nosuch m a' ∧ mentions n a' = true) ∨
    (∃ e t, evaluateE lk isReg a = .err e t) ∨ evaluateE lk isReg a = .panic := by
  cases h : evaluateE lk isReg a with
  | ok ev a' => rw [(evaluateE_ok_mentions lk isReg n hr hl).1 a ev a' h] at hm; cases hm
  | nosuch m a' => exact .inl ⟨m, a', rfl, (evaluateE_nosuch_mentions lk isReg n hr hl).1 a m a' h hm⟩
  | err e t => exact .inr (.inl ⟨e, t, rfl⟩)
  | panic => exact .inr (.inr rfl)

end

end Trion.Simp
