import TrionModel.Lemmas.ParseBasic
/-!
# Fuel: every call consumes tokens, and a fuel of 16 per token plus the function's own budget is enough (`FuelAt`)
-/
namespace Trion.Parse

/-- number of groups above `g` -/
def lvl (g : BinOpGroup) : Nat := 5 - g.toNat

theorem lvl_higher {g h : BinOpGroup} (hh : g.higher = some h) : lvl g = lvl h + 1 := by
  cases g <;> cases h <;> simp_all [BinOpGroup.higher, lvl, BinOpGroup.toNat]

theorem lvl_le (g : BinOpGroup) : lvl g ≤ 5 := by simp [lvl]

theorem close_ne_fuel (lo : LexOut) (e : String) (w : Tok) (ts : List Token) : close lo e w ts ≠ .fuel := by
  cases ts with
  | nil => simp [close]
  | cons t r => simp only [close]; split <;> simp

theorem bracket_ne_fuel {α β : Type} (lo : LexOut) (e : String) (w : Tok) {x : Res (α × List Token)} (hx : x ≠ .fuel)
    (k : α × List Token → List Token → β × List Token) :
    (x.bind fun p => (close lo e w p.2).bind fun r3 => .ok (k p r3)) ≠ .fuel := by
  rw [bind_ne_fuel]
  exact ⟨hx, fun p _ => by rw [bind_ne_fuel]; exact ⟨close_ne_fuel _ _ _ _, by intros; simp⟩⟩

theorem close_tail {lo : LexOut} {e : String} {w : Tok} {ts r : List Token} (h : close lo e w ts = .ok r) :
    ∃ t, ts = t :: r ∧ t.val = w := by
  cases ts with
  | nil => simp [close] at h
  | cons t r' =>
    simp only [close] at h
    split at h
    · rename_i hw; cases h; exact ⟨t, rfl, hw⟩
    · cases h

theorem close_suffix {lo : LexOut} {e : String} {w : Tok} {ts r : List Token} (h : close lo e w ts = .ok r) :
    r <:+ ts := by
  obtain ⟨t, rfl, _⟩ := close_tail h; exact List.suffix_cons _ _

theorem proper_of_suffix {r r0 : List Token} (t : Token) (h : r <:+ r0) : r <:+ t :: r0 ∧ r.length < (t :: r0).length :=
  ⟨h.trans (List.suffix_cons _ _), by have := h.length_le; simp only [List.length_cons]; omega⟩

structure ConsumesAt (lo : LexOut) (n : Nat) : Prop where
  unary : ∀ ts a r, unaryF lo n ts = .ok (a, r) → r <:+ ts ∧ r.length < ts.length
  binary : ∀ g st ts a r, binaryF lo n g st ts = .ok (a, r) → r <:+ ts ∧ r.length < ts.length
  loop : ∀ g st lhs ts a r, binLoopF lo n g st lhs ts = .ok (a, r) → r <:+ ts
  args : ∀ ts a r, argsF lo n ts = .ok (a, r) → r <:+ ts
  argsLoop : ∀ ts a r, argsLoopF lo n ts = .ok (a, r) → r <:+ ts

theorem operand_consumes {lo : LexOut} {n : Nat} (ih : ConsumesAt lo n) {g : BinOpGroup} {st : Nat × Nat}
    {ts : List Token} {a : Arg} {r : List Token} (h : operandF lo n g st ts = .ok (a, r)) :
    r <:+ ts ∧ r.length < ts.length := by
  unfold operandF at h
  split at h
  · exact ih.unary _ _ _ h
  · exact ih.binary _ _ _ _ _ h

theorem consumesAt (lo : LexOut) : ∀ n, ConsumesAt lo n := by
  intro n
  induction n with
  | zero => constructor <;> intros <;> simp_all [unaryF, binaryF, binLoopF, argsF, argsLoopF]
  | succ n ih =>
    constructor
    · intro ts a r h
      cases ts with
      | nil => simp [unaryF] at h
      | cons t r0 =>
        obtain ⟨F, ha, he⟩ := unaryF_arm lo t r0
        rw [he] at h
        cases ha with
        | wrap f =>
          obtain ⟨p, hp, h⟩ := bind_eq_ok.1 h
          cases h
          exact proper_of_suffix t (ih.unary _ _ _ hp).1
        | leaf a => cases h; exact proper_of_suffix t (List.suffix_refl _)
        | expr e w k =>
          obtain ⟨p, hp, h⟩ := bind_eq_ok.1 h
          obtain ⟨r3, hcl, h⟩ := bind_eq_ok.1 h
          cases h
          exact proper_of_suffix t ((close_suffix hcl).trans (ih.binary _ _ _ _ _ hp).1)
        | list e w k r1 hs =>
          obtain ⟨p, hp, h⟩ := bind_eq_ok.1 h
          obtain ⟨r3, hcl, h⟩ := bind_eq_ok.1 h
          cases h
          exact proper_of_suffix t (((close_suffix hcl).trans (ih.args _ _ _ hp)).trans hs)
        | bad => cases h
    · intro g st ts a r h
      rw [binaryF_succ] at h
      obtain ⟨p, hp, h⟩ := bind_eq_ok.1 h
      have h1 := operand_consumes ih hp
      have h2 := ih.loop _ _ _ _ _ _ h
      exact ⟨h2.trans h1.1, by have := h2.length_le; omega⟩
    · intro g st lhs ts a r h
      cases ts with
      | nil =>
        rw [binLoopF] at h
        split at h
        · cases h; exact List.suffix_refl _
        · cases h
      | cons t r0 =>
        obtain ⟨F, ha, he⟩ := binLoopF_arm lo g st lhs t r0
        rw [he] at h
        cases ha with
        | done _ => cases h; exact List.suffix_refl _
        | noOp => cases h
        | higher _ _ _ => cases h
        | same op =>
          obtain ⟨p, hp, h⟩ := bind_eq_ok.1 h
          exact ((ih.loop _ _ _ _ _ _ h).trans (operand_consumes ih hp).1).trans (List.suffix_cons _ _)
    · intro ts a r h
      cases ts with
      | nil =>
        rw [argsF] at h
        split at h
        · cases h; exact List.suffix_refl _
        · cases h
      | cons t r0 =>
        rw [argsF] at h
        split at h
        · cases h; exact List.suffix_refl _
        · exact ih.argsLoop _ _ _ h
    · intro ts a r h
      rw [argsLoopF] at h
      obtain ⟨p, hp, h⟩ := bind_eq_ok.1 h
      have hs := (ih.binary _ _ _ _ _ hp).1
      split at h
      · split at h <;> cases h
      · rename_i t r1 hp2
        rw [hp2] at hs
        split at h
        · obtain ⟨q, hq, h⟩ := bind_eq_ok.1 h
          cases h
          exact ((ih.argsLoop _ _ _ hq).trans (List.suffix_cons _ _)).trans hs
        · split at h
          · cases h; rw [hp2]; exact hs
          · cases h

structure SuffixAt (lo : LexOut) (n : Nat) : Prop where
  unary : ∀ ts a r, unaryF lo n ts = .ok (a, r) → r <:+ ts
  binary : ∀ g st ts a r, binaryF lo n g st ts = .ok (a, r) → r <:+ ts
  loop : ∀ g st lhs ts a r, binLoopF lo n g st lhs ts = .ok (a, r) → r <:+ ts
  args : ∀ ts a r, argsF lo n ts = .ok (a, r) → r <:+ ts
  argsLoop : ∀ ts a r, argsLoopF lo n ts = .ok (a, r) → r <:+ ts

theorem suffixAt (lo : LexOut) (n : Nat) : SuffixAt lo n :=
  have hc := consumesAt lo n
  ⟨fun ts a r h => (hc.unary ts a r h).1, fun g st ts a r h => (hc.binary g st ts a r h).1, hc.loop, hc.args, hc.argsLoop⟩

theorem args_suffix {lo : LexOut} {ts : List Token} {a : Args} {r : List Token} (h : args lo ts = .ok (a, r)) :
    r <:+ ts := (suffixAt lo _).args _ _ _ h

/-- Enough fuel. A call at fuel `n` makes its inner calls at `n - 1`, so a budget is one more than the largest budget of
an inner call on the same tokens: `parse_unary` 1 (a leaf); `parse_binary(g)` and its loop `2 + lvl g` — the `lvl g` nested
calls for the higher groups, `parse_unary`, and the loop —; the loop of `parse_args` `8 = 1 + (2 + lvl bitOr)`, `parse_args`
`9`. An inner call made after a token was consumed may spend 16 more: 16 is a round number above 9, the largest constant
(`parse_unary` on `t :: r` calls `parse_args` on `r`). `fuelFor ts = 16 * ts.length + 16` covers all of them
(`unary_ne_fuel`, `binary_ne_fuel`, `args_ne_fuel` in `Lemmas/ParseMono.lean`). The first five fields are `ConsumesAt`
once more, as lengths. -/
structure FuelAt (lo : LexOut) (n : Nat) : Prop where
  unaryLen : ∀ ts a r, unaryF lo n ts = .ok (a, r) → r.length < ts.length
  binaryLen : ∀ g st ts a r, binaryF lo n g st ts = .ok (a, r) → r.length < ts.length
  loopLen : ∀ g st lhs ts a r, binLoopF lo n g st lhs ts = .ok (a, r) → r.length ≤ ts.length
  argsLen : ∀ ts a r, argsF lo n ts = .ok (a, r) → r.length ≤ ts.length
  argsLoopLen : ∀ ts a r, argsLoopF lo n ts = .ok (a, r) → r.length ≤ ts.length
  unary : ∀ ts, 16 * ts.length + 1 ≤ n → unaryF lo n ts ≠ .fuel
  binary : ∀ g st ts, 16 * ts.length + 2 + lvl g ≤ n → binaryF lo n g st ts ≠ .fuel
  loop : ∀ g st lhs ts, 16 * ts.length + 2 + lvl g ≤ n → binLoopF lo n g st lhs ts ≠ .fuel
  args : ∀ ts, 16 * ts.length + 9 ≤ n → argsF lo n ts ≠ .fuel
  argsLoop : ∀ ts, 16 * ts.length + 8 ≤ n → argsLoopF lo n ts ≠ .fuel

theorem operand_len {lo : LexOut} {n : Nat} (ih : FuelAt lo n) {g : BinOpGroup} {st : Nat × Nat} {ts : List Token}
    {a : Arg} {r : List Token} (h : operandF lo n g st ts = .ok (a, r)) : r.length < ts.length := by
  unfold operandF at h
  split at h
  · exact ih.unaryLen _ _ _ h
  · exact ih.binaryLen _ _ _ _ _ h

theorem operand_ne_fuel {lo : LexOut} {n : Nat} (ih : FuelAt lo n) {g : BinOpGroup} {st : Nat × Nat} {ts : List Token}
    (h : 16 * ts.length + 1 + lvl g ≤ n) : operandF lo n g st ts ≠ .fuel := by
  unfold operandF
  split
  · exact ih.unary _ (by omega)
  · rename_i hd hh
    exact ih.binary _ _ _ (by have := lvl_higher hh; omega)

theorem fuelAt (lo : LexOut) : ∀ n, FuelAt lo n := by
  intro n
  induction n with
  | zero =>
    constructor <;> intros <;> simp_all [unaryF, binaryF, binLoopF, argsF, argsLoopF] <;> omega
  | succ n ih =>
    have hc := consumesAt lo (n+1)
    refine ⟨fun ts a r h => (hc.unary ts a r h).2, fun g st ts a r h => (hc.binary g st ts a r h).2,
      fun g st lhs ts a r h => (hc.loop g st lhs ts a r h).length_le, fun ts a r h => (hc.args ts a r h).length_le,
      fun ts a r h => (hc.argsLoop ts a r h).length_le, ?_, ?_, ?_, ?_, ?_⟩
    · -- unary
      intro ts hb
      cases ts with
      | nil => simp [unaryF]
      | cons t r =>
        simp only [List.length_cons] at hb
        obtain ⟨F, ha, he⟩ := unaryF_arm lo t r
        rw [he]
        cases ha with
        | wrap f => rw [bind_ne_fuel]; exact ⟨ih.unary _ (by omega), by intros; simp⟩
        | leaf a => simp
        | expr e w k => exact bracket_ne_fuel lo _ _ (ih.binary _ _ _ (by have := lvl_le .bitOr; omega)) _
        | list e w k r1 hs => exact bracket_ne_fuel lo _ _ (ih.args _ (by have := hs.length_le; omega)) _
        | bad => simp
    · -- binary
      intro g st ts hb
      rw [binaryF_succ, bind_ne_fuel]
      refine ⟨operand_ne_fuel ih (by omega), ?_⟩
      intro p hp
      have := operand_len ih (a := p.1) (r := p.2) hp
      exact ih.loop _ _ _ _ (by omega)
    · -- loop
      intro g st lhs ts hb
      cases ts with
      | nil => rw [binLoopF]; split <;> simp
      | cons t r =>
        simp only [List.length_cons] at hb
        obtain ⟨F, ha, he⟩ := binLoopF_arm lo g st lhs t r
        rw [he]
        cases ha with
        | done _ => simp
        | noOp => simp
        | higher _ _ _ => simp
        | same op =>
          rw [bind_ne_fuel]
          refine ⟨operand_ne_fuel ih (by omega), ?_⟩
          intro p hp
          have := operand_len ih (a := p.1) (r := p.2) hp
          exact ih.loop _ _ _ _ (by omega)
    · -- args
      intro ts hb
      cases ts with
      | nil => rw [argsF]; split <;> simp
      | cons t r =>
        rw [argsF]
        split
        · simp
        · exact ih.argsLoop _ (by omega)
    · -- argsLoop
      intro ts hb
      rw [argsLoopF, bind_ne_fuel]
      refine ⟨ih.binary _ _ _ (by have : lvl .bitOr = 5 := rfl; omega), ?_⟩
      intro p hp
      have hl := ih.binaryLen _ _ _ _ _ hp
      split
      · split <;> simp
      · rename_i t r1 hp2
        split
        · rw [bind_ne_fuel]
          refine ⟨ih.argsLoop _ ?_, by intros; simp⟩
          rw [hp2] at hl
          simp at hl
          omega
        · split <;> simp

end Trion.Parse
