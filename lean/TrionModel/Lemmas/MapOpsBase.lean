import TrionModel.Lemmas.MapCount
import TrionModel.Model.MapOps
/-!
# Operational memory map: the `Vec` primitives as list surgery, `Ok` under replacing or cutting off segments
-/
namespace Trion.Map
open Trion.Dict

@[simp] theorem Out.bind_ok {α β : Type} (a : α) (f : α → Out β) : (Out.ok a).bind f = f a := rfl

theorem mkSeg_ok {f l : Nat} {x : List UInt8} (site : String) (h : l = f + x.length - 1) :
    mkSeg f l x site = .ok (f, x) := if_neg (fun c => c h)

/-! The `Vec` primitives as list surgery at a named decomposition: the caller names the pieces, and the index
conditions become equations between lengths. -/

theorem getElem?_at {ps A R : Segs} {s : Seg} (e : ps = A ++ s :: R) {i : Nat} (hi : i = A.length) :
    ps[i]? = some s := by subst e hi; simp

theorem set_at {ps A R : Segs} {s : Seg} (e : ps = A ++ s :: R) {i : Nat} (hi : i = A.length) (v : Seg) :
    ps.set i v = A ++ v :: R := by subst e hi; simp

theorem getElem?_mid (A : Segs) (x : Seg) (R : Segs) : (A ++ x :: R)[A.length]? = some x := getElem?_at rfl rfl

theorem set_mid (A : Segs) (x y : Seg) (R : Segs) : (A ++ x :: R).set A.length y = A ++ y :: R := set_at rfl rfl y

theorem vecDrain_at {ps A M R : Segs} (e : ps = A ++ (M ++ R)) {i j : Nat} (hi : i = A.length)
    (hj : j = A.length + M.length) : vecDrain ps i j = .ok (A ++ R) := by
  subst e hi hj
  unfold vecDrain
  rw [if_neg (by omega), if_neg (by simp only [List.length_append]; omega), List.take_left,
    ← List.append_assoc, ← List.length_append, List.drop_left]

theorem vecInsert_at {ps A R : Segs} (e : ps = A ++ R) {i : Nat} (hi : i = A.length) (s : Seg) :
    vecInsert ps i s = .ok (A ++ s :: R) := by
  subst e hi
  unfold vecInsert
  rw [if_neg (by simp), List.take_left, List.drop_left]

theorem vecRemove_at {ps A R : Segs} {s : Seg} (e : ps = A ++ s :: R) {i : Nat} (hi : i = A.length) :
    vecRemove ps i = .ok (A ++ R) := by
  subst e hi
  unfold vecRemove
  rw [if_neg (by simp), List.eraseIdx_append_of_length_le (Nat.le_refl _), Nat.sub_self]; rfl

theorem Ok_after {l : Nat} {A : Segs} {s : Seg} {R : Segs} (ok : Ok l (A ++ s :: R)) :
    ∀ r ∈ R, s.1 + s.2.length < r.1 := by
  intro r hr
  obtain ⟨f, x⟩ := s
  have := Ok_mem (Ok_tail (Ok_append_right ok)) hr
  simp only; omega

theorem Ok_mid2 {l : Nat} {A : Segs} {s : Seg} {M : Segs} {u : Seg} {R : Segs}
    (ok : Ok l (A ++ s :: (M ++ u :: R))) :
    s.1 + s.2.length < u.1 ∧ (∀ m ∈ M, s.1 + s.2.length < m.1 ∧ m.1 + m.2.length < u.1) ∧
    ∀ r ∈ R, u.1 + u.2.length < r.1 := by
  obtain ⟨f, x⟩ := s
  have okT : Ok (f + x.length + 1) (M ++ u :: R) := Ok_tail (Ok_append_right ok)
  refine ⟨?_, fun m hm => ⟨?_, Ok_append_lt okT hm⟩, Ok_after okT⟩
  · have := Ok_mem okT (show u ∈ M ++ u :: R by simp); simp only; omega
  · have := Ok_mem okT (show m ∈ M ++ u :: R by simp [hm]); simp only; omega

theorem Ok_replace {l : Nat} {A : Segs} {f : Nat} {x : List UInt8} {R : Segs} (ok : Ok l (A ++ (f, x) :: R))
    {f' : Nat} {x' : List UInt8} (h1 : f ≤ f') (h2 : x' ≠ []) (h3 : f' + x'.length ≤ f + x.length) :
    Ok l (A ++ (f', x') :: R) := by
  induction A generalizing l with
  | nil =>
    obtain ⟨o1, o2, o3, o4⟩ := ok
    exact ⟨by omega, h2, by omega, Ok_mono (by omega) o4⟩
  | cons s A ih =>
    obtain ⟨g, y⟩ := s
    obtain ⟨o1, o2, o3, o4⟩ := ok
    exact ⟨o1, o2, o3, ih o4⟩

theorem Ok_above {l : Nat} {R : Segs} (ok : Ok l R) {t : Nat} (h : ∀ s ∈ R, t < s.1) : Ok (t + 1) R := by
  cases R with
  | nil => trivial
  | cons s r =>
    obtain ⟨f, x⟩ := s
    have := h (f, x) (List.mem_cons_self ..)
    exact ⟨by simp only at this; omega, ok.2⟩

theorem occSegs_le {l : Nat} {ps : Segs} (ok : Ok l ps) (a n : Nat) : occSegs ps a (a + n) ≤ n := by
  rw [occSegs_eq_occupied ok]; exact occupied_le _ _ _

end Trion.Map
