import TrionModel.Model.TriasPad
import TrionModel.Lemmas.TriasDict
import TrionModel.Lemmas.MapFind
import TrionModel.Lemmas.MapShape
import TrionModel.Lemmas.MapPut
/-!
The padding loop replayed on the `MemoryMap` model (`padMap`, Model/TriasPad.lean) computes exactly `padAll`,
without firing an `assert_eq!`, a `find` panic or the model's loop bound: `padMap_eq`.
-/
namespace Trion.Trias
open Trion.Uf2 Trion.Map

theorem ok_split {l : Nat} (pre : Segs) (c : Nat) (cd : List UInt8) (rest : Segs)
    (ok : Ok l (pre ++ (c, cd) :: rest)) :
    (∀ s ∈ pre, s.1 + s.2.length < c) ∧ cd ≠ [] ∧ c + cd.length ≤ 4294967296 ∧ Ok (c + cd.length + 1) rest :=
  ⟨fun _ hs => Ok_append_lt ok hs, (Ok_append_right ok).2⟩

theorem insertMerge_append (a : Nat) (z : List UInt8) (pre rest : List Seg)
    (h : ∀ s ∈ pre, s.1 + s.2.length < a) :
    insertMerge a z (pre ++ rest) = pre ++ insertMerge a z rest := by
  induction pre with
  | nil => rfl
  | cons s r ih =>
    obtain ⟨f, e⟩ := s
    have := h (f, e) (by simp)
    simp only at this
    rw [List.cons_append, insertMerge, if_pos this, ih (fun t ht => h t (by simp [ht])), List.cons_append]

/-- `find(prev + 1, Above)` in the loop is "the next list element" -/
theorem find_next (done : Segs) (c : Nat) (cd : List UInt8) (r : Segs) (ok : Ok 0 (done ++ (c, cd) :: r)) :
    Map.find (done ++ (c, cd) :: r) (c + cd.length) .above =
      match r with
      | [] => .ok none
      | (f, d) :: _ => .ok (some (f, f + d.length - 1)) := by
  obtain ⟨s1, _, _, s4⟩ := ok_split done c cd r ok
  have hloc := locate_above_shape (A := done ++ [(c, cd)]) (Q := r) (t := c + cd.length) ok (by simp)
    (fun s hs => by
      rcases List.mem_append.mp hs with h | h
      · have := s1 s h; omega
      · rw [List.mem_singleton.mp h]; exact Nat.le_refl _)
    (fun s hs => by have := Ok_mem_bounds s4 hs; omega)
  cases r with
  | nil => exact find_of_none hloc
  | cons t r' => exact find_of_idx (hloc.trans (if_pos (Nat.succ_pos _))) (by simp)

/-- a put of zeros into a free range returns `Ok(n)`, as the loop's `assert_eq!`s expect, and is `insertMerge` -/
theorem putAssert_free {ps : Segs} (inv : MInv ps) {a n : Nat} (hn : 0 < n) (hb : a + n ≤ 4294967296)
    (hfree : ∀ x, a ≤ x → x < a + n → lookup ps x = none) :
    putAssert ps a n = .ok (insertMerge a (zeros n) ps) ∧ MInv (insertMerge a (zeros n) ps) := by
  have hz : zeros n ≠ [] := fun h => by have := congrArg List.length h; simp at this; omega
  have hput := insertMerge_eq_put ps a (zeros n) inv hz (by rw [zeros_length]; exact hb)
    (by rw [zeros_length]; exact hfree)
  have hinv := (put_spec ps a (zeros n) inv (by rw [zeros_length]; exact hb)).2.1
  rw [hput] at hinv
  refine ⟨?_, hinv⟩
  unfold putAssert
  rw [hput]
  simp only [zeros_length, if_true]

/-- the gap fills of the loop are puts into free ranges -/
theorem putAssert_gap (done : Segs) (c : Nat) (cd : List UInt8) (f : Nat) (d : List UInt8) (r : Segs)
    (ok : Ok 0 (done ++ (c, cd) :: (f, d) :: r)) (a n : Nat) (hn : 0 < n) (ha : c + cd.length ≤ a) (hb : a + n ≤ f) :
    putAssert (done ++ (c, cd) :: (f, d) :: r) a n =
      .ok (done ++ insertMerge a (zeros n) ((c, cd) :: (f, d) :: r)) ∧
    Ok 0 (done ++ insertMerge a (zeros n) ((c, cd) :: (f, d) :: r)) := by
  obtain ⟨s1, s2, s3, s4⟩ := ok_split done c cd _ ok
  have h := putAssert_free (a := a) ok hn (by have := s4.2.2.1; omega) (fun x hx1 hx2 => by
    have := abs_none_of_gap (A := done ++ [(c, cd)]) (Q := (f, d) :: r) (k := x) (by simpa using ok)
      (fun s hs => by
        rcases List.mem_append.mp hs with h | h
        · have := s1 s h; omega
        · rw [List.mem_singleton.mp h]; exact Nat.le_trans ha hx1)
      (fun s hs => by cases hs; exact Nat.lt_of_lt_of_le hx2 hb)
    rw [lookup_eq_abs]; simpa using this)
  rwa [insertMerge_append a (zeros n) done _ (fun s hs => by have := s1 s hs; omega)] at h

theorem padLoop_sim (r : Segs) : ∀ (fuel : Nat) (done : Segs) (c : Nat) (cd : List UInt8), r.length < fuel →
    Ok 0 (done ++ (c, cd) :: r) →
    padLoop fuel (done ++ (c, cd) :: r) (c + cd.length - 1) = .ok (done ++ padGo (c, cd) r) := by
  induction r with
  | nil =>
    intro fuel done c cd hfuel ok
    obtain ⟨_, s2, _, _⟩ := ok_split done c cd _ ok
    have hcl : 0 < cd.length := List.length_pos_iff.mpr s2
    cases fuel with
    | zero => simp at hfuel
    | succ fuel =>
      simp only [padLoop, padGo]
      split
      · rw [show c + cd.length - 1 + 1 = c + cd.length by omega, find_next done c cd [] ok]
      · rfl
  | cons t r ih =>
    obtain ⟨f, d⟩ := t
    intro fuel done c cd hfuel ok
    obtain ⟨s1, s2, s3, s4⟩ := ok_split done c cd _ ok
    have hcl : 0 < cd.length := List.length_pos_iff.mpr s2
    have hdl : 0 < d.length := List.length_pos_iff.mpr s4.2.1
    have hf : c + cd.length + 1 ≤ f := s4.1
    have hfb : f + d.length ≤ 4294967296 := s4.2.2.1
    have hfm : f % 256 ≤ f := Nat.mod_le _ _
    cases fuel with
    | zero => simp at hfuel
    | succ fuel =>
      have hfuel' : r.length < fuel := by simp only [List.length_cons] at hfuel; omega
      -- continuing after the current segment has been finished
      have next_far : ∀ (g : Nat) (e : List UInt8), Ok 0 ((done ++ [(c, cd)]) ++ (g, e) :: r) →
          g + e.length - 1 = f + d.length - 1 →
          padLoop fuel (done ++ (c, cd) :: (g, e) :: r) (f + d.length - 1) =
            .ok (done ++ (c, cd) :: padGo (g, e) r) := by
        intro g e ok' hl
        have := ih fuel (done ++ [(c, cd)]) g e hfuel' ok'
        rw [hl] at this
        simpa [List.append_assoc] using this
      have next_merged : ∀ (e : List UInt8), Ok 0 (done ++ (c, e) :: r) → c + e.length - 1 = f + d.length - 1 →
          padLoop fuel (done ++ (c, e) :: r) (f + d.length - 1) = .ok (done ++ padGo (c, e) r) := by
        intro e ok' hl
        have := ih fuel done c e hfuel' ok'
        rwa [hl] at this
      rw [padLoop, if_pos (by unfold u32Max; omega), show c + cd.length - 1 + 1 = c + cd.length by omega,
        find_next done c cd _ ok]
      simp only [padGo]
      by_cases h0 : f % 256 = 0
      · rw [if_neg (by omega), if_pos h0]
        exact next_far f d (by rw [← List.append_cons]; exact ok) rfl
      · rw [if_pos (by omega), if_neg h0]
        by_cases h1 : c + cd.length - 1 ≥ f - f % 256
        · rw [if_pos h1, if_pos h1]
          obtain ⟨p1, p2⟩ := putAssert_gap done c cd f d r ok (c + cd.length) (f - (c + cd.length - 1) - 1)
            (by omega) (Nat.le_refl _) (by omega)
          have hm : insertMerge (c + cd.length) (zeros (f - (c + cd.length - 1) - 1)) ((c, cd) :: (f, d) :: r) =
              (c, cd ++ zeros (f - (c + cd.length - 1) - 1) ++ d) :: r := by
            rw [insertMerge, if_neg (by omega), if_pos rfl, insertMerge, if_neg (by omega), if_neg (by omega),
              if_pos (by simp only [List.length_append, zeros_length]; omega)]
          rw [hm] at p1 p2
          rw [p1]
          exact next_merged _ p2 (by simp only [List.length_append, zeros_length]; omega)
        · rw [if_neg h1, if_neg h1]
          obtain ⟨p1, p2⟩ := putAssert_gap done c cd f d r ok (f - f % 256) (f % 256) (by omega) (by omega) (by omega)
          by_cases h2 : f - f % 256 = c + cd.length - 1 + 1
          · rw [if_pos h2]
            have hm : insertMerge (f - f % 256) (zeros (f % 256)) ((c, cd) :: (f, d) :: r) =
                (c, cd ++ zeros (f % 256) ++ d) :: r := by
              rw [insertMerge, if_neg (by omega), if_pos (by omega), insertMerge, if_neg (by omega),
                if_neg (by omega), if_pos (by simp only [List.length_append, zeros_length]; omega)]
            rw [hm] at p1 p2
            rw [p1]
            exact next_merged _ p2 (by simp only [List.length_append, zeros_length]; omega)
          · rw [if_neg h2]
            have hm : insertMerge (f - f % 256) (zeros (f % 256)) ((c, cd) :: (f, d) :: r) =
                (c, cd) :: (f - f % 256, zeros (f % 256) ++ d) :: r := by
              rw [insertMerge, if_pos (by omega), insertMerge, if_neg (by omega), if_neg (by omega),
                if_pos (by rw [zeros_length]; omega)]
            rw [hm] at p1 p2
            rw [p1]
            exact next_far _ _ (by rw [← List.append_cons]; exact p2)
              (by simp only [List.length_append, zeros_length]; omega)

theorem padMap_eq (m : Segs) (inv : MInv m) : padMap m = .ok (padAll m) := by
  cases m with
  | nil => rfl
  | cons t r =>
    obtain ⟨f, d⟩ := t
    have ok : Ok 0 ([] ++ (f, d) :: r) := inv
    obtain ⟨_, s2, s3, s4⟩ := ok_split [] f d r ok
    have hdl : 0 < d.length := List.length_pos_iff.mpr s2
    have hfm : f % 256 ≤ f := Nat.mod_le _ _
    have hfind : Map.find ((f, d) :: r) 0 .above = .ok (some (f, f + d.length - 1)) :=
      find_of_idx ((locate_above_shape (A := []) ok rfl (fun _ h => by cases h)
        (fun s hs => by have := Ok_mem_bounds ok hs; omega)).trans (if_pos (Nat.succ_pos _))) rfl
    unfold padMap
    rw [hfind]
    simp only [padAll]
    by_cases h0 : f % 256 = 0
    · rw [if_neg (by omega)]
      have := padLoop_sim r (r.length + 1 + 1) [] f d (by omega) ok
      simp only [List.nil_append] at this
      rw [List.length_cons, this, h0]
      simp [zeros]
    · rw [if_pos (by omega)]
      -- the first page: `put(first - off, zeros off)` merges on the right
      obtain ⟨hpa, hinv⟩ := putAssert_free (a := f - f % 256) inv (show 0 < f % 256 by omega) (by omega)
        (fun x hx1 hx2 => by
          rw [lookup_cons, if_neg (by omega)]
          exact lookup_none_below s4.sep (by omega))
      have hm : insertMerge (f - f % 256) (zeros (f % 256)) ((f, d) :: r) = (f - f % 256, zeros (f % 256) ++ d) :: r := by
        rw [insertMerge, if_neg (by omega), if_neg (by omega), if_pos (by rw [zeros_length]; omega)]
      rw [hm] at hpa hinv
      rw [hpa]
      have := padLoop_sim r (r.length + 1 + 1) [] (f - f % 256) (zeros (f % 256) ++ d) (by omega) hinv
      simp only [List.nil_append, List.length_append, zeros_length] at this
      rw [show f - f % 256 + (f % 256 + d.length) - 1 = f + d.length - 1 by omega] at this
      simp only [List.length_cons]
      exact this

end Trion.Trias
