import TrionModel.Spec.C04
import TrionModel.Lemmas.SimpSound
import TrionModel.Lemmas.SimpE
import TrionModel.Lemmas.SimpArithFwd
import TrionModel.Lemmas.SimpClosed
/-!
# C04 closed: the concrete evaluator (`Simp.evaluate`) on the operand forms of the documented syntax

`EvalSimp eval lk`: `eval` IS `Simp.evaluate` over the table `lk` (with `Arm6M::is_register`), presented as the
`EvalOut` function `Front.assemble` takes.
-/
namespace Trion.C04
open Trion Trion.Front Trion.Simp

structure EvalSimp (eval : Arg → EvalOut) (lk : Bytes → Lookup) : Prop where
  ok : ∀ x ev a', evaluate lk isRegister x = .ok (ev, a') →
        (ev.cause = none → eval x = .complete a') ∧ (∀ c, ev.cause = some c → eval x = .deferred c a')
  nosuch : ∀ x n, evaluate lk isRegister x = .err (.noSuchVar n) → ∃ a'', eval x = .noSuchVariable n a''
  err : ∀ x e, evaluate lk isRegister x = .err (.simp e) → ∃ e' a'', eval x = .error e' a''

/-- `Show.EvalIsSimp` (what C19 assumes of the evaluator) is the part of `EvalSimp` about completed evaluations -/
theorem EvalSimp.isSimp {eval : Arg → EvalOut} {lk : Bytes → Lookup} (h : EvalSimp eval lk) : Show.EvalIsSimp eval lk :=
  fun x ch a' hT => (h.ok x ⟨ch, none⟩ a' (by rw [← (evaluateT_proj_both lk isRegister).1 x, hT]; rfl)).1 rfl

/-- the symbol table the specification reads: the values `lk` has found (`Simp.envOf`) -/
abbrev tab (lk : Bytes → Lookup) : SymTable := envOf lk

/-- an `EvalOut` function that presents the outcomes of `evaluateE` one by one is `evaluate` -/
theorem EvalSimp.of_evaluateE {eval : Arg → EvalOut} {lk : Bytes → Lookup}
    (h : ∀ x, match evaluateE lk isRegister x with
      | .ok ev a' => eval x = match ev.cause with | none => .complete a' | some c => .deferred c a'
      | .nosuch n a' => eval x = .noSuchVariable n a'
      | .err _ _ => ∃ e' a'', eval x = .error e' a''
      | .panic => True) : EvalSimp eval lk := by
  refine ⟨fun x ev a' hx => ?_, fun x n hx => ?_, fun x e hx => ?_⟩
  · have hh := h x
    rw [evaluate_ok_iff.1 hx] at hh
    exact ⟨fun hc => by rw [hh, hc], fun c hc => by rw [hh, hc]⟩
  · obtain ⟨a₁, hE⟩ := evaluate_nosuch_iff.1 hx
    have hh := h x
    rw [hE] at hh
    exact ⟨a₁, hh⟩
  · obtain ⟨a₁, hE⟩ := evaluate_simp_iff.1 hx
    have hh := h x
    rw [hE] at hh
    exact hh

theorem valued_lookup {lk : Bytes → Lookup} {s : Bytes} (h : valued (tab lk) (.ident s) = true) (hr : isRegister s = false) :
    ∃ v, lk s = .found v := by
  simp only [valued, hr, Bool.false_or, tab, envOf] at h
  cases hl : lk s with
  | found v => exact ⟨v, rfl⟩
  | notFound => simp [hl] at h
  | deferred => simp [hl] at h

theorem evaluateE_valued (lk : Bytes → Lookup) :
    (∀ a n a₁, evaluateE lk isRegister a = .nosuch n a₁ → valued (tab lk) a = false) ∧
    (∀ as n as₁, evaluateArgsE lk isRegister as = .nosuch n as₁ → valuedArgs (tab lk) as = false) := by
  apply evaluateE_nosuch_ind lk isRegister (R := fun a _ _ => valued (tab lk) a = false)
    (Rs := fun as _ _ => valuedArgs (tab lk) as = false)
  case ident => intro s hr hl; simp [valued, hr, tab, envOf, hl]
  case binL => intro op l r n l₁ _ h; simp [valued, h]
  case binR => intro op l r e1 l' n r₁ _ _ h; simp [valued, h]
  case neg | not | addr => intro v n v₁ h; simpa [valued] using h
  case seq => intro as n as₁ h; simpa [valued] using h
  case func => intro f as n as₁ h; simpa [valued] using h
  case consL => intro a as n a₁ h; simp [valuedArgs, h]
  case consR => intro a as e1 a' n as₁ _ _ h; simp [valuedArgs, h]

theorem eval_cases {eval : Arg → EvalOut} {lk : Bytes → Lookup} (hE : EvalSimp eval lk) (hn : NoDef lk)
    (a : Arg) (hv : valued (tab lk) a = true) :
    (∃ ev a', evaluate lk isRegister a = .ok (ev, a') ∧ eval a = .complete a') ∨ (∃ e a'', eval a = .error e a'') := by
  cases h : evaluate lk isRegister a with
  | ok p =>
    obtain ⟨ev, a'⟩ := p
    exact .inl ⟨ev, a', rfl, (hE.ok a ev a' h).1 (evaluate_cause_none hn h)⟩
  | err e =>
    cases e with
    | noSuchVar n =>
      obtain ⟨a₁, h₁⟩ := evaluate_nosuch_iff.1 h
      rw [(evaluateE_valued lk).1 a n a₁ h₁] at hv; cases hv
    | simp e => exact .inr (hE.err a e h)
  | panic => exact absurd h (evaluate_ne_panic lk isRegister a)

theorem consistent_env (lk : Bytes → Lookup) : consistent lk isRegister (env (tab lk)) := by
  intro s v hr hl
  simp [env, hr, tab, envOf, hl]

theorem litsOk_of_lits : ∀ a, lits a = true → litsOk a = true := by
  apply Arg.ind
  case const => intro v h; simpa [lits, litsOk] using h
  case ident => intro s _; rfl
  case str => intro s _; rfl
  case bin => intro op l r ihl ihr h; simp only [lits, Bool.and_eq_true] at h; simp [litsOk, ihl h.1, ihr h.2]
  case neg => intro a ih h; simp only [lits] at h; simp [litsOk, ih h]
  case not => intro a ih h; simp only [lits] at h; simp [litsOk, ih h]
  case addr => intro a _ _; rfl
  case seq => intro as _; rfl
  case func => intro n as _; rfl

theorem evaluate_value {lk : Bytes → Lookup} (hT : Simp.tableOk lk) {a : Arg} (hl : lits a = true) {ev : Ev} {w : Int}
    (h : evaluate lk isRegister a = .ok (ev, .const w)) : value (tab lk) a = some w :=
  evaluate_const_valC lk isRegister _ (consistent_env lk) hT a ev w (litsOk_of_lits a hl) h

theorem value_evaluate (lk : Bytes → Lookup) : ∀ (a : Arg) (v : Int), value (tab lk) a = some v →
    ∃ ev, evaluate lk isRegister a = .ok (ev, .const v) := by
  apply valC_ind (ρ := env (tab lk)) (R := fun a v => ∃ ev, evaluate lk isRegister a = .ok (ev, .const v))
  case const => intro w _; exact ⟨⟨false, none⟩, by simp [evaluate]⟩
  case ident =>
    intro s w h _
    simp only [env] at h
    by_cases hr : isRegister s = true
    · simp [hr] at h
    · simp only [hr, Bool.false_eq_true, if_false, tab, envOf] at h
      cases hl : lk s with
      | found w' =>
        simp only [hl, Option.some.injEq] at h
        subst h
        exact ⟨⟨true, none⟩, by simp [evaluate, hr, hl]⟩
      | notFound => simp [hl] at h
      | deferred => simp [hl] at h
  case bin =>
    intro op l r x y w ⟨e1, h1⟩ ⟨e2, h2⟩ hf
    rw [evaluate_bin, h1, h2]
    simp only [afterRaw, simplifyRaw_fold_consts, hf]
    exact ⟨_, rfl⟩
  case neg =>
    intro a x ⟨e1, h1⟩ hin
    have hx : x ≠ i64Min := by
      intro hx; subst hx; revert hin; decide
    simp only [evaluate, h1, afterRaw, simplifyRaw, hx, if_false]
    exact ⟨_, rfl⟩
  case not =>
    intro a x ⟨e1, h1⟩
    simp only [evaluate, h1, afterRaw, simplifyRaw]
    exact ⟨_, rfl⟩

theorem expr_arith : ∀ a, expr a = arith isRegister a := by
  apply Arg.ind
  case const => intro v; rfl
  case ident => intro s; rfl
  case str => intro s; rfl
  case bin => intro op l r ihl ihr; simp [expr, arith, ihl, ihr]
  case neg => intro a ih; simp [expr, arith, ih]
  case not => intro a ih; simp [expr, arith, ih]
  case addr => intro a _; rfl
  case seq => intro as; rfl
  case func => intro n as; rfl

theorem expr_const {lk : Bytes → Lookup} (hn : NoDef lk) {a : Arg} (he : expr a = true) {ev : Ev} {a' : Arg}
    (h : evaluate lk isRegister a = .ok (ev, a')) : ∃ v, a' = .const v :=
  arith_const lk isRegister hn a (by rw [← expr_arith]; exact he) ev a' (evaluate_ok_iff.1 h)

theorem value_expr (T : SymTable) : ∀ (a : Arg) (v : Int), value T a = some v → expr a = true := by
  apply valC_ind (ρ := env T) (R := fun a _ => expr a = true)
  case const => intro w _; rfl
  case ident =>
    intro s w h _
    simp only [env] at h
    by_cases hr : isRegister s = true
    · simp [hr] at h
    · simp [expr, hr]
  case bin => intro op l r _ _ _ hl hr _; simp [expr, hl, hr]
  case neg => intro a _ h _; simpa [expr] using h
  case not => intro a _ h; simpa [expr] using h

end Trion.C04
