import TrionModel.Model.Seg
import TrionModel.Lemmas.MapPut
import TrionModel.Lemmas.MapFind
/-!
# Output regions: image and invariant; closing, selecting and growing a region keep them

(`Model/Layout.lean` with `Lemmas/LayoutInv.lean` is a second model of the same Rust functions over a byte dictionary
instead of the `MemoryMap`, with the parallel vocabulary `Layout.ActiveOk`, `TaskOk` for `Placed`, `view` for `image`;
`Lemmas/AsmLayout.lean` relates the two.)
-/
namespace Trion.Seg
open Trion.Map Trion.Dict

/-- the bytes that will be output: the active buffer laid over the closed map -/
def image (s : State) : Dict := fun k =>
  match s.active with
  | some seg => if seg.base ≤ k ∧ k < seg.base + seg.buf.length then seg.buf[k - seg.base]? else abs s.map k
  | none => abs s.map k

/-- a placed statement, i.e. an entry `(address, length)` of `State.pending`, lives entirely in the closed map or
entirely in the active buffer -/
def Placed (s : State) (p : Nat × Nat) : Prop :=
  (∀ k, p.1 ≤ k → k < p.1 + p.2 → (abs s.map k).isSome = true) ∨
  (∃ seg, s.active = some seg ∧ seg.base ≤ p.1 ∧ p.1 + p.2 ≤ seg.base + seg.buf.length)

/-- the active region: buffer within capacity, capacity within the address space, and no closed byte inside
the capacity (`base + maxLen ≤` next occupied address) -/
def ActiveOk (m : Segs) (seg : Active) : Prop :=
  seg.buf.length ≤ seg.maxLen ∧ seg.base + seg.maxLen ≤ 4294967296 ∧ 0 < seg.maxLen ∧
  ∀ k, seg.base ≤ k → k < seg.base + seg.maxLen → abs m k = none

/-- what every well-formed operation keeps: the closed map satisfies the representation invariant of the `MemoryMap`
model (`MInv`, C15), the active region if there is one is `ActiveOk`, and every statement of `pending` is `Placed` -/
def Inv (s : State) : Prop :=
  MInv s.map ∧ (∀ seg, s.active = some seg → ActiveOk s.map seg) ∧ ∀ p ∈ s.pending, Placed s p

/-- the operations a program can issue in state `s`: addresses are `u32`, alignments positive, and a rewrite
only targets a statement that was placed (with the length it was placed with) -/
def Op.wf (s : State) : Op → Prop
  | .select a => a ≤ u32Max
  | .align n => 0 < n
  | .rewrite addr d => (addr, d.length) ∈ s.pending
  | _ => True

theorem fresh_all_none (D : Dict) (a n : Nat) (h : ∀ k, k < n → D (a + k) = none) : fresh D a n = n := by
  induction n with
  | zero => simp [fresh]
  | succ n ih =>
    rw [fresh_succ, ih (fun k hk => h k (by omega)), h n (by omega)]; simp

theorem fresh_all_some (D : Dict) (a n : Nat) (h : ∀ k, k < n → (D (a + k)).isSome = true) : fresh D a n = 0 := by
  induction n with
  | zero => simp [fresh]
  | succ n ih =>
    rw [fresh_succ, ih (fun k hk => h k (by omega)), h n (by omega)]; simp

theorem fresh_zero_imp (D : Dict) (a n : Nat) (h : fresh D a n = 0) : ∀ k, k < n → (D (a + k)).isSome = true := by
  induction n with
  | zero => intro k hk; omega
  | succ n ih =>
    rw [fresh_succ] at h
    intro k hk
    by_cases c : k = n
    · subst c
      by_cases hs : (D (a + k)).isSome = true
      · exact hs
      · rw [if_neg hs] at h; omega
    · exact ih (by omega) k (by omega)

theorem close_ok {s : State} {seg : Active} (inv : Inv s) (ha : s.active = some seg) :
    closeSegment s = ({ s with map := (Map.put s.map seg.base seg.buf).2, active := none }, .ok) ∧
    MInv (Map.put s.map seg.base seg.buf).2 ∧
    abs (Map.put s.map seg.base seg.buf).2 = Dict.put (abs s.map) seg.base seg.buf := by
  obtain ⟨i1, i2, _⟩ := inv
  obtain ⟨a1, a2, _, a3⟩ := i2 seg ha
  obtain ⟨p1, p2, p3⟩ := put_spec s.map seg.base seg.buf i1 (by omega)
  refine ⟨?_, p2, p3⟩
  unfold closeSegment
  rw [ha]
  have hf : fresh (abs s.map) seg.base seg.buf.length = seg.buf.length :=
    fresh_all_none _ _ _ (fun k hk => a3 _ (by omega) (by omega))
  rw [hf] at p1
  rcases hp : Map.put s.map seg.base seg.buf with ⟨r, m'⟩
  rw [hp] at p1
  simp only at p1
  subst p1
  simp only [hp]
  simp

theorem image_none {s : State} (h : s.active = none) : image s = abs s.map := by
  funext k; simp [image, h]

theorem close_spec {s : State} (inv : Inv s) :
    (closeSegment s).2 = .ok ∧ Inv (closeSegment s).1 ∧ (closeSegment s).1.active = none ∧
    abs (closeSegment s).1.map = image s ∧ (closeSegment s).1.pending = s.pending := by
  cases ha : s.active with
  | none =>
    have : closeSegment s = (s, .ok) := by unfold closeSegment; rw [ha]
    rw [this]
    exact ⟨rfl, inv, ha, (image_none ha).symm, rfl⟩
  | some seg =>
    obtain ⟨c1, c2, c3⟩ := close_ok inv ha
    rw [c1]
    refine ⟨rfl, ⟨c2, fun sg h => by simp at h, fun p hp => ?_⟩, rfl, ?_, rfl⟩
    · left
      intro k k1 k2
      show (abs (Map.put s.map seg.base seg.buf).2 k).isSome = true
      rw [c3, put_apply]
      rcases inv.2.2 p hp with h | ⟨sg, h1, h2, h3⟩
      · by_cases c : seg.base ≤ k ∧ k < seg.base + seg.buf.length
        · rw [if_pos c, List.getElem?_eq_getElem (by omega)]; rfl
        · rw [if_neg c]; exact h k k1 k2
      · rw [ha] at h1; cases h1
        rw [if_pos (by omega), List.getElem?_eq_getElem (by omega)]; rfl
    · show abs (Map.put s.map seg.base seg.buf).2 = image s
      rw [c3]; funext k; simp only [image, ha, put_apply]

theorem open_spec {s : State} (inv : Inv s) (a : Nat) (ha : a ≤ u32Max) :
    ((abs s.map a).isSome = true ∧ openSegment s a = (s, .diag (.occupied a))) ∨
    (abs s.map a = none ∧ ∃ n, openSegment s a = ({ s with active := some ⟨a, [], n⟩ }, .ok) ∧
      0 < n ∧ a + n ≤ 4294967296 ∧ ∀ k, a ≤ k → k < a + n → abs s.map k = none) := by
  unfold openSegment
  unfold u32Max at ha
  rcases find_spec inv.1 a .above with ⟨_, h1, h2⟩ | ⟨j, sg, h0, _, h1, h2⟩
  · right
    rw [h1]
    refine ⟨h2 a (Nat.le_refl _), u32Max - a + 1, rfl, by omega, by unfold u32Max; omega, fun k k1 _ => h2 k k1⟩
  · rw [h1]
    obtain ⟨a1, _, _, a4, a5⟩ := abs_of_idx inv.1 h0
    rcases h2 with ⟨h3, h4⟩ | ⟨h3, h4⟩
    · left
      simp only [h3, if_true, and_true]
      rw [a1 a h3 h4, List.getElem?_eq_getElem (by omega)]; rfl
    · right
      have hx : 0 < sg.2.length := List.length_pos_iff.mpr a4
      simp only [show ¬ (sg.1 ≤ a) by omega, if_false]
      refine ⟨h4 a (Nat.le_refl _) h3, sg.1 - a, rfl, by omega, by omega, fun k k1 k2 => h4 k k1 (by omega)⟩

/-- what a region selection does, stated for a state whose previous region is already closed -/
theorem open_full {s : State} (inv : Inv s) (hn : s.active = none) (a : Nat) (ha : a ≤ u32Max) :
    Inv (openSegment s a).1 ∧ image (openSegment s a).1 = image s ∧ (openSegment s a).1.pending = s.pending ∧
    (((image s a).isSome = true ∧ (openSegment s a).2 = .diag (.occupied a) ∧ (openSegment s a).1 = s) ∨
     (image s a = none ∧ (openSegment s a).2 = .ok ∧
        ∃ seg, (openSegment s a).1.active = some seg ∧ seg.base = a ∧ seg.buf = [])) := by
  rw [image_none hn]
  rcases open_spec inv a ha with ⟨h1, h2⟩ | ⟨h1, n, h2, h3, h4, h5⟩
  · rw [h2]; exact ⟨inv, image_none hn, rfl, Or.inl ⟨h1, rfl, rfl⟩⟩
  · rw [h2]
    refine ⟨⟨inv.1, fun sg hs => ?_, fun p hp => ?_⟩, ?_, rfl, Or.inr ⟨h1, rfl, _, rfl, rfl, rfl⟩⟩
    · simp only [Option.some.injEq] at hs; subst hs
      exact ⟨Nat.zero_le _, h4, h3, h5⟩
    · rcases inv.2.2 p hp with h | ⟨sg, hs, _⟩
      · exact Or.inl h
      · rw [hn] at hs; cases hs
    · funext k; simp [image]; omega

theorem select_spec {s : State} (inv : Inv s) (a : Nat) (ha : a ≤ u32Max) :
    Inv (changeSegment s a).1 ∧ image (changeSegment s a).1 = image s ∧
    (changeSegment s a).1.pending = s.pending ∧
    (((image s a).isSome = true ∧ (changeSegment s a).2 = .diag (.occupied a)) ∨
     (image s a = none ∧ (changeSegment s a).2 = .ok ∧
        ∃ seg, (changeSegment s a).1.active = some seg ∧ seg.base = a ∧ seg.buf = [])) := by
  cases hact : s.active with
  | none =>
    have : changeSegment s a = openSegment s a := by unfold changeSegment; rw [hact]
    rw [this]
    obtain ⟨o1, o2, o3, o4⟩ := open_full inv hact a ha
    refine ⟨o1, o2, o3, ?_⟩
    rcases o4 with ⟨h1, h2, _⟩ | h
    · exact Or.inl ⟨h1, h2⟩
    · exact Or.inr h
  | some seg =>
    by_cases c : a = seg.base ∧ seg.buf.isEmpty = true
    · have : changeSegment s a = (s, .ok) := by unfold changeSegment; rw [hact]; simp only [c, and_self, if_true]
      rw [this]
      obtain ⟨a1, a2, a3, a4⟩ := inv.2.1 seg hact
      have hb : seg.buf = [] := List.isEmpty_iff.mp c.2
      refine ⟨inv, rfl, rfl, Or.inr ⟨?_, rfl, seg, hact, c.1.symm, hb⟩⟩
      simp only [image, hact, hb, List.length_nil, Nat.add_zero]
      rw [if_neg (by omega)]
      exact a4 a (by omega) (by omega)
    · obtain ⟨c1, c2, c3, c4, c5⟩ := close_spec inv
      have : changeSegment s a = openSegment (closeSegment s).1 a := by
        unfold changeSegment; rw [hact]; simp only [c, if_false]
        rcases hcl : closeSegment s with ⟨s', o⟩
        rw [hcl] at c1; simp only at c1; subst c1; rfl
      rw [this]
      obtain ⟨o1, o2, o3, o4⟩ := open_full c2 c3 a ha
      rw [image_none c3, c4] at o2 o4
      refine ⟨o1, o2, o3.trans c5, ?_⟩
      rcases o4 with ⟨h1, h2, _⟩ | h
      · exact Or.inl ⟨h1, h2⟩
      · exact Or.inr h

theorem write_spec {m : Segs} {seg : Active} (ok : ActiveOk m seg) (d : List UInt8) :
    (seg.buf.length + d.length ≤ seg.maxLen ∧ seg.write d = ({ seg with buf := seg.buf ++ d }, .ok)) ∨
    (seg.buf.length + d.length > seg.maxLen ∧
      seg.write d = (seg, .diag (.overflow d.length (seg.maxLen - seg.buf.length)))) := by
  unfold Active.write Active.remaining
  rw [if_pos ok.1]
  by_cases c : d.length ≤ seg.maxLen - seg.buf.length
  · left; refine ⟨by have := ok.1; omega, ?_⟩; simp only [c, if_true]
  · right; refine ⟨by omega, ?_⟩; simp only [c, if_false]

theorem grow_spec {s : State} {seg : Active} (inv : Inv s) (ha : s.active = some seg) (d : List UInt8)
    (fits : seg.buf.length + d.length ≤ seg.maxLen) (extra : List (Nat × Nat))
    (hex : ∀ p ∈ extra, seg.base ≤ p.1 ∧ p.1 + p.2 ≤ seg.base + seg.buf.length + d.length) :
    let s' : State := { s with active := some { seg with buf := seg.buf ++ d }, pending := extra ++ s.pending }
    Inv s' ∧ (∀ k, (image s k).isSome = true → image s' k = image s k) ∧
    (∀ k, ¬ (seg.base + seg.buf.length ≤ k ∧ k < seg.base + seg.buf.length + d.length) → image s' k = image s k) ∧
    (∀ i, i < d.length → image s' (seg.base + seg.buf.length + i) = d[i]?) := by
  intro s'
  obtain ⟨a1, a2, a3, a4⟩ := inv.2.1 seg ha
  have himg : ∀ k, ¬ (seg.base + seg.buf.length ≤ k ∧ k < seg.base + seg.buf.length + d.length) →
      image s' k = image s k := by
    intro k hk
    simp only [image, s', ha, List.length_append]
    by_cases c : seg.base ≤ k ∧ k < seg.base + seg.buf.length
    · rw [if_pos (by omega), if_pos c, List.getElem?_append_left (by omega)]
    · rw [if_neg (by omega), if_neg c]
  refine ⟨⟨inv.1, fun sg hs => ?_, fun p hp => ?_⟩, fun k hk => himg k ?_, himg, fun i hi => ?_⟩
  · simp only [s', Option.some.injEq] at hs; subst hs
    exact ⟨by simp only [List.length_append]; omega, a2, a3, a4⟩
  · simp only [s', List.mem_append] at hp
    rcases hp with hp | hp
    · right; exact ⟨_, rfl, (hex p hp).1, by simp only [List.length_append]; have := (hex p hp).2; omega⟩
    · rcases inv.2.2 p hp with h | ⟨sg, hs, h1, h2⟩
      · exact Or.inl h
      · rw [ha] at hs; cases hs
        right; exact ⟨_, rfl, h1, by simp only [List.length_append]; omega⟩
  · intro hc
    simp only [image, ha] at hk
    rw [if_neg (by omega), a4 k (by omega) (by omega)] at hk
    simp at hk
  · simp only [image, s', List.length_append]
    rw [if_pos (by omega), List.getElem?_append_right (by omega)]
    congr 1; omega

theorem eta_active {s : State} {seg : Active} (h : s.active = some seg) : { s with active := some seg } = s := by
  cases s; simp_all

theorem cur_bounds (seg : Active) (hb : seg.base ≤ u32Max) : seg.base ≤ seg.cur ∧ seg.cur ≤ seg.base + seg.buf.length := by
  unfold Active.cur u32Max at *
  omega

theorem step_nonrewrite {s : State} (inv : Inv s) (op : Op) (wf : Op.wf s op)
    (hop : ∀ a d, op ≠ .rewrite a d) :
    (step s op).2 ≠ .panic ∧ Inv (step s op).1 ∧
    ∀ k, (image s k).isSome = true → image (step s op).1 k = image s k := by
  cases op with
  | rewrite a d => exact absurd rfl (hop a d)
  | select a =>
    obtain ⟨h1, h2, _, h4⟩ := select_spec inv a wf
    refine ⟨?_, h1, fun k _ => by rw [show step s (.select a) = changeSegment s a from rfl, h2]⟩
    show (changeSegment s a).2 ≠ .panic
    rcases h4 with ⟨_, h⟩ | ⟨_, h, _⟩ <;> rw [h] <;> simp
  | close =>
    obtain ⟨c1, c2, c3, c4, _⟩ := close_spec inv
    refine ⟨by show (closeSegment s).2 ≠ .panic; rw [c1]; simp, c2, fun k _ => ?_⟩
    show image (closeSegment s).1 k = image s k
    rw [image_none c3, c4]
  | append d =>
    cases ha : s.active with
    | none => simp only [step, ha]; exact ⟨by simp, inv, by intros; first | rfl | trivial⟩
    | some seg =>
      have ok := inv.2.1 seg ha
      simp only [step, ha]
      rcases write_spec ok d with ⟨f1, f2⟩ | ⟨f1, f2⟩
      · rw [f2]
        obtain ⟨g1, g2, _, _⟩ := grow_spec inv ha d f1 [] (fun p hp => by simp at hp)
        exact ⟨by simp, g1, g2⟩
      · rw [f2]; simp only [eta_active ha]
        exact ⟨by simp, inv, by intros; first | rfl | trivial⟩
  | place d =>
    cases ha : s.active with
    | none => simp only [step, ha]; exact ⟨by simp, inv, by intros; first | rfl | trivial⟩
    | some seg =>
      have ok := inv.2.1 seg ha
      simp only [step, ha]
      rcases write_spec ok d with ⟨f1, f2⟩ | ⟨f1, f2⟩
      · rw [f2]
        have hb : seg.base ≤ u32Max := by unfold u32Max; have := ok.2.1; have := ok.2.2.1; omega
        obtain ⟨g1, g2, _, _⟩ := grow_spec inv ha d f1 [(seg.cur, d.length)] (fun p hp => by
          simp only [List.mem_singleton] at hp; subst hp
          have := cur_bounds seg hb; simp only; omega)
        exact ⟨by simp, g1, g2⟩
      · rw [f2]; simp only [eta_active ha]
        exact ⟨by simp, inv, by intros; first | rfl | trivial⟩
  | align n =>
    cases ha : s.active with
    | none => simp only [step, ha]; exact ⟨by simp, inv, by intros; first | rfl | trivial⟩
    | some seg =>
      have ok := inv.2.1 seg ha
      simp only [step, ha]
      by_cases c0 : (seg.base + seg.buf.length) % n = 0
      · simp only [c0, if_true]; exact ⟨by simp, inv, by intros; first | rfl | trivial⟩
      · simp only [c0, if_false]
        have hr : seg.remaining = some (seg.maxLen - seg.buf.length) := by
          unfold Active.remaining; rw [if_pos ok.1]
        rw [hr]; simp only
        by_cases c1 : n - (seg.base + seg.buf.length) % n ≤ seg.maxLen - seg.buf.length
        · simp only [c1, if_true]
          rcases write_spec ok (List.replicate (n - (seg.base + seg.buf.length) % n) 0xBE) with ⟨f1, f2⟩ | ⟨f1, f2⟩
          · rw [f2]
            obtain ⟨g1, g2, _, _⟩ := grow_spec inv ha _ f1 [] (fun p hp => by simp at hp)
            exact ⟨by simp, g1, g2⟩
          · simp only [List.length_replicate] at f1; have := ok.1; omega
        · simp only [c1, if_false]; exact ⟨by simp, inv, by intros; first | rfl | trivial⟩

end Trion.Seg

namespace Trion.Show

theorem cur_of_length {base a m : Nat} {buf : List UInt8} (h : base + buf.length = a) (ha : a < 4294967296) :
    Seg.Active.cur ⟨base, buf, m⟩ = a := by
  simp only [Seg.Active.cur, Map.u32Max]; omega

theorem cur_empty (a m : Nat) (ha : a < 4294967296) : Seg.Active.cur ⟨a, [], m⟩ = a := cur_of_length rfl ha

end Trion.Show
