import TrionModel.Lemmas.AsmAdds
import TrionModel.Lemmas.AsmLadder
/-!
# `Trion.Asm`: the round counters of the two task loops never run out (`Stop.loop` is unreachable)

A task never queues a local task, and what it queues globally is a retry with `global = true`, which queues
nothing: the local loop of a file is one round (`localLoop_one_round`), the global loop is finished after two
(`globalLoop_nl`). Through statements, files and `.include` the fact climbs Lemmas/AsmLadder.lean (`nlFile`).
Last section: neither do the loops stop with `.fuel` (`localLoop_nf`, `finalize_nf`).
-/
namespace Trion.Asm
open Trion

theorem runTask_nl {enc : Encoder} {env : Env} {st : St} {t : Task} : runTask enc env st t ≠ .stop .loop :=
  fun h => nomatch runTask_stop h

/-- what running the task `t` does to the queues: the local one is as it was; the global one grows by retries rescheduled for
the includer (`isG`), and by nothing if `t` itself was one already -/
def TaskFrame (t : Task) (st st' : St) : Prop :=
  st'.localTasks = st.localTasks ∧
  ∃ new, st'.globalTasks = st.globalTasks ++ new ∧ (∀ x ∈ new, x.isG = true) ∧ (t.isG = true → new = [])

/-- the one queueing a task may do (`May.ofTask`): a file's own retry goes to the includer -/
theorem AddsK.frame {C : Cls} {f : Bytes} {l c : Nat} {t0 : Task} {e : Bool} {st st' : St}
    (h : AddsK (.ofTask t0) C f l c e st st') : TaskFrame t0 st st' := by
  refine ⟨h.ls_nil, ?_⟩
  obtain ⟨_, gs, _, a, _, hg, _⟩ := h
  refine ⟨gs, a.gt, fun x hx => (hg x hx).1.2.2.1, fun hq => ?_⟩
  cases gs with
  | nil => rfl
  | cons x _ => have := (hg x List.mem_cons_self).1.2.2.2; rw [hq] at this; cases this

theorem runTask_frame {enc : Encoder} {env : Env} {st : St} {t : Task} :
    ∀ st' r, runTask enc env st t = .ok (st', r) → TaskFrame t st st' :=
  fun _ _ h => (runTask_addsK _ _ h).frame

theorem localRound_nl {enc : Encoder} {env : Env} : ∀ (ts : List Task) (st : St) (res : Res),
    localRound enc env ts st res ≠ .stop .loop ∧
    ∀ st' r, localRound enc env ts st res = .ok (st', r) → st'.localTasks = st.localTasks := by
  intro ts st res
  fun_induction localRound enc env ts st res
  · exact ⟨by simp, fun st' r h => by cases h; rfl⟩
  · rename_i hr ih
    exact ⟨ih.1, fun st' r h => (ih.2 _ _ h).trans (runTask_frame _ _ hr).1⟩
  · rename_i hr _
    exact ⟨by simp, fun st' r h => by cases h; exact (runTask_frame _ _ hr).1⟩
  · rename_i hr _ ih
    exact ⟨ih.1, fun st' r h => (ih.2 _ _ h).trans (runTask_frame _ _ hr).1⟩
  · rename_i hr
    exact ⟨fun h => by cases h; exact runTask_nl hr, fun st' r h => by cases h⟩

/-- the task loop of a file is one round: the round leaves the (empty) queue as it is, so the second iteration finds
nothing to run -/
theorem localLoop_one_round {enc : Encoder} {env : Env} (n : Nat) (ts : List Task) (st : St) (res : Res)
    (hl : st.localTasks = some []) :
    localLoop enc env (n + 2) ts st res = if ts.isEmpty then .ok (st, res) else localRound enc env ts st res := by
  simp only [localLoop]
  split
  · rfl
  · cases hr : localRound enc env ts st res with
    | stop z => rfl
    | ok p =>
      obtain ⟨st1, res1⟩ := p
      have h1 := ((localRound_nl ts st res).2 _ _ hr).trans hl
      have e : ({ st1 with localTasks := some [] } : St) = st1 := by cases st1; simp only at h1; subst h1; rfl
      simp only [h1, e]
      split <;> simp


theorem globalRound_nl {enc : Encoder} {env : Env} : ∀ (ts : List Task) (st : St),
    globalRound enc env ts st ≠ .stop .loop ∧
    ∀ st' ab, globalRound enc env ts st = .ok (st', ab) →
      ∃ new, st'.globalTasks = st.globalTasks ++ new ∧ (∀ x ∈ new, x.isG = true) ∧
        ((∀ t ∈ ts, t.isG = true) → new = []) := by
  intro ts
  induction ts with
  | nil =>
    intro st
    exact ⟨by simp [globalRound], fun st' ab h => by
      simp only [globalRound] at h; cases h; exact ⟨[], (by simp), fun _ hx => (by cases hx), fun _ => rfl⟩⟩
  | cons t ts ih =>
    intro st
    simp only [globalRound]
    split
    · rename_i st1 r hr
      obtain ⟨_, n1, e1, g1, z1⟩ := runTask_frame _ _ hr
      split
      · exact ⟨by simp, fun st' ab h => by
          cases h
          exact ⟨n1, e1, g1, fun hall => z1 (hall t List.mem_cons_self)⟩⟩
      · refine ⟨(ih _).1, fun st' ab h => ?_⟩
        obtain ⟨n2, e2, g2, z2⟩ := (ih _).2 _ _ h
        refine ⟨n1 ++ n2, by rw [e2, e1, List.append_assoc], fun x hx => ?_, fun hall => ?_⟩
        · rcases List.mem_append.mp hx with hx | hx
          · exact g1 x hx
          · exact g2 x hx
        · rw [z1 (hall t List.mem_cons_self), z2 (fun x hx => hall x (List.mem_cons_of_mem _ hx))]; rfl
    · rename_i r hr
      exact ⟨fun h => by cases h; exact runTask_nl hr, fun st' ab h => by cases h⟩

theorem globalLoop_nl {enc : Encoder} {env : Env} (n : Nat) (ts : List Task) (st : St)
    (hg : st.globalTasks = []) : globalLoop enc env (n + 3) ts st ≠ .stop .loop := by
  simp only [globalLoop]
  split
  · simp
  · have r1 := globalRound_nl (enc := enc) (env := env) ts st
    split
    · rename_i st1 ab1 h1
      obtain ⟨n1, e1, g1, _⟩ := r1.2 _ _ h1
      rw [hg, List.nil_append] at e1
      split
      · simp
      · -- second round: only retries with `global = true`
        split
        · simp
        · have r2 := globalRound_nl (enc := enc) (env := env) st1.globalTasks { st1 with globalTasks := [] }
          split
          · rename_i st2 ab2 h2
            obtain ⟨n2, e2, _, z2⟩ := r2.2 _ _ h2
            have : n2 = [] := z2 (by rw [e1]; exact g1)
            rw [this] at e2
            simp only [List.append_nil] at e2
            split
            · simp
            · simp [e2]
          · rename_i r h2
            intro h; cases h; exact r2.1 h2
    · rename_i r h1
      intro h; cases h; exact r1.1 h1

theorem finalize_nl {enc : Encoder} {env : Env} {st : St} : finalize enc env st ≠ .stop .loop := by
  unfold finalize
  -- `rounds` = 5 + 3
  have := globalLoop_nl (enc := enc) (env := env) 5 st.globalTasks { st with globalTasks := [] } rfl
  split
  · simp
  · rename_i r hr
    intro h; cases h; exact this hr

/-- `Stop.loop` through statements, files and `.include` (Lemmas/AsmLadder.lean): no invariant, no relation -/
def nlFile (fs : Bytes → Option Bytes) (enc : Encoder) : FileLadder fs enc Unit Unit where
  I _ _ _ := True
  R _ _ _ _ := True
  B z := z = .loop
  refl _ := trivial
  trans _ _ := trivial
  weaken _ := trivial
  F _ _ _ _ := True
  Pre _ _ _ _ _ := True
  Post _ _ _ _ _ _ _ := True
  noFuel := nofun
  stmt _ _ _ hni _ := (statement_acts hni).mono (fun _ _ => ⟨trivial, trivial⟩) fun _ hz e => by subst hz; cases e
  pushInc _ _ _ _ _ := ⟨trivial, trivial⟩
  pushErr _ _ := ⟨trivial, trivial⟩
  loop _ _ := .of (fun _ _ => ⟨trivial, trivial⟩) fun z hz e => (by
    subst e
    unfold fileLoop at hz
    split at hz
    · cases hz
    · rw [show rounds = 6 + 2 from rfl, localLoop_one_round 6 _ _ _ rfl] at hz
      split at hz
      · cases hz
      · exact (localRound_nl _ _ _).1 hz)
  call _ _ := ⟨(), trivial, fun _ _ _ => ⟨trivial, trivial⟩⟩
  file _ _ := ⟨(), trivial, trivial, fun _ _ _ _ => trivial⟩

theorem runWith_no_loop (enc : Encoder) (fs : Bytes → Option Bytes) (main : Bytes) : runWith enc fs main ≠ .loop := by
  intro h
  obtain ⟨data, _, ha | ⟨st, res, _, ⟨_, hz⟩ | hf⟩⟩ := runWith_stop (z := .loop) h
  · exact ((nlFile fs enc).assembleFile_spec maxDepth () _ _ _ _ trivial).stop ha rfl
  · cases hz
  · exact finalize_nl hf

/-! ## statements other than `.include`, tasks, the task loops and `finalize` never stop with `.fuel`
(the include-depth bound of the model is consumed by `.include` only) -/

/-- the outcome is not `Stop.fuel` ("no fuel"; not the normal forms `NF` of the `Simp` lemmas) -/
def NF {α : Type} (r : Out α) : Prop := r ≠ .stop .fuel

macro "splitsAt" h:ident : tactic => `(tactic| repeat' (first | split at $h:ident | (simp only [] at $h:ident)))

theorem nf_ok {α : Type} (a : α) : NF (Out.ok a) := by simp [NF]
theorem nf_panic {α : Type} : NF (Out.stop .panic : Out α) := by simp [NF]
theorem nf_loop {α : Type} : NF (Out.stop .loop : Out α) := by simp [NF]

@[reducible] def nfRung : Rung Unit where
  I _ _ _ := True
  R _ _ _ _ := True
  B z := z = .fuel
  refl _ := trivial
  trans _ _ := trivial
  weaken _ := trivial

theorem localLoop_nf (enc : Encoder) (env : Env) (n : Nat) (ts : List Task) (st : St) (res : Res) :
    NF (localLoop enc env n ts st res) :=
  let L : LocalLadder enc Unit :=
    { toRung := nfRung, noLoop := nofun, unwrap := nofun, clear := fun _ => ⟨trivial, trivial⟩
      task := fun _ _ _ _ _ => runTask_acts.mono (fun _ _ => ⟨trivial, trivial⟩) fun _ hz e => by subst hz; cases e }
  fun h => (L.localLoop_spec (g := ()) n ts st res (.of_list _ trivial trivial) trivial).stop h rfl

theorem finalize_nf (enc : Encoder) (env : Env) (st : St) : NF (finalize enc env st) :=
  let L : GlobalLadder enc Unit :=
    { toRung := nfRung, noLoop := nofun, clear := fun _ => ⟨trivial, trivial⟩
      task := fun _ _ _ _ => runTask_acts.mono (fun _ _ => ⟨trivial, trivial⟩) fun _ hz e => by subst hz; cases e }
  fun h => (L.finalize_spec (g := ()) trivial).stop h rfl

end Trion.Asm
