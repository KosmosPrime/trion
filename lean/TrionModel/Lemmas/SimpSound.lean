import TrionModel.Lemmas.SimpChain
import TrionModel.Lemmas.SimpNF
/-!
# Soundness of the simplifier: `simplify_raw`, `simplify` and `evaluate` preserve the ideal value; a constant result
of `evaluate` is the checked value of the expression; the tree left behind on `NoSuchVariable` keeps the value
-/
namespace Trion.Simp
open Trion

theorem foldBin_opZ {op : BinOp} {a b w v : Int} (hf : foldBin op a b = .ok w) (ho : opZ op a b = some v) :
    w = v := by
  rw [(foldBin_ok hf).1, opZ_some ho]

theorem modCollapse_val (ρ : Env) {l r : Arg} (h : modCollapse l r = true) {v : Int}
    (hv : valZ ρ (.bin .mod l r) = some v) : valZ ρ l = some v := by
  unfold modCollapse at h
  cases hcr : cval r with
  | none => simp [hcr] at h
  | some z =>
    simp only [hcr] at h
    split at h
    · rename_i lx lr
      cases hcy : cval lr with
      | none => simp [hcy] at h
      | some y =>
        simp only [hcy, decide_eq_true_eq] at h
        obtain ⟨a, b, hl, hr, ho⟩ := valZ_bin hv
        have hb : b = z := valZ_of_cval hcr hr
        subst hb
        obtain ⟨x, y', hlx, hlr, ho2⟩ := valZ_bin hl
        have hy : y' = y := valZ_of_cval hcy hlr
        subst hy
        simp only [opZ] at ho ho2
        by_cases hy0 : y' = 0
        · simp [hy0] at ho2
        · by_cases hb0 : b = 0
          · simp [hb0] at ho
          · simp only [hy0, hb0, if_false, Option.some.injEq] at ho ho2
            subst ho2
            rw [hl, ← ho, tmod_tmod_of_natAbs_le hy0 h]
    · simp at h

theorem simplifyRaw_val (ρ : Env) (a : Arg) (c : Bool) (a' : Arg) (v : Int)
    (he : simplifyRaw a = .ok (c, a')) (hv : valZ ρ a = some v) : valZ ρ a' = some v := by
  cases a with
  | bin op l r =>
    obtain ⟨_, _, ⟨_, x, y, w, rfl, rfl, hf, rfl⟩ | ⟨hlr, ⟨_, rfl, hm, rfl⟩ | ⟨_, _, h⟩ | ⟨_, hmg, c1, s1, c2, s2, cc, c3, hL, hR, hc, hn⟩⟩⟩ :=
      simplifyRaw_bin_ok he
    · have ho : opZ op x y = some v := by simpa [valZ, liftBin] using hv
      simp [valZ, foldBin_opZ hf ho]
    · exact modCollapse_val ρ hm hv
    · exact neutralizeRaw_val ρ h hv
    · exact neutralize_val ρ _ c3 a' v hn (mergeTree_val ρ hlr hmg hv hL hR hc)
  | neg w =>
    obtain ⟨x, hx, rfl⟩ := valZ_neg hv
    obtain ⟨_, ⟨_, p, q, c', rfl, h⟩ | ⟨_, u, c', rfl, h⟩ | ⟨_, k, rfl, _, rfl⟩ | ⟨_, rfl, _⟩⟩ := simplifyRaw_neg_ok he
    · obtain ⟨a, b, hl, hr, ho⟩ := valZ_bin hx
      simp only [opZ, Option.some.injEq] at ho
      refine neutralizeRaw_val ρ h ?_
      rw [valZ_bin_mk hr hl]; simp only [opZ, Option.some.injEq]; omega
    · obtain ⟨y, hy, rfl⟩ := valZ_neg hx
      rw [Int.neg_neg]; exact neutralizeRaw_val ρ h hy
    · simp only [valZ, Option.some.injEq] at hx ⊢; omega
    · exact hv
  | not w =>
    obtain ⟨_, ⟨_, k, rfl, rfl⟩ | ⟨_, rfl, _⟩⟩ := simplifyRaw_not_ok he
    · simpa [valZ] using hv
    · exact hv
  | const w => cases he; exact hv
  | ident w => cases he; exact hv
  | _ => simp [valZ] at hv

/-- The environment `ρ` gives every name that is no register and has a value in the table `lk` that value; it may define more
names. -/
def consistent (lk : Bytes → Lookup) (isReg : Bytes → Bool) (ρ : Env) : Prop :=
  ∀ s v, isReg s = false → lk s = .found v → ρ s = some v

theorem evaluateE_val (lk : Bytes → Lookup) (isReg : Bytes → Bool) (ρ : Env) (hρ : consistent lk isReg ρ) :
    ∀ a ev a', evaluateE lk isReg a = .ok ev a' → ∀ v, valZ ρ a = some v → valZ ρ a' = some v :=
  evaluateE_ok_ind1 lk isReg (R := fun a _ a' => ∀ v, valZ ρ a = some v → valZ ρ a' = some v)
    (fun _ _ h => h) (fun _ _ h => h) (fun _ _ _ h => h) (fun _ _ _ _ h => h)
    (fun s w hr hl v h => by simp only [valZ] at h ⊢; rw [hρ s w hr hl] at h; exact h)
    (fun _ _ _ _ _ _ _ c a' _ _ ihl ihr hs v h => simplifyRaw_val ρ _ c a' v hs (valZ_bin_congr ihl ihr h))
    (fun _ _ _ c a' _ ih hs v h => simplifyRaw_val ρ _ c a' v hs (valZ_neg_congr ih h))
    (fun _ _ _ c a' _ ih hs v h => simplifyRaw_val ρ _ c a' v hs (valZ_not_congr ih h))
    (fun _ _ _ _ _ _ _ _ _ h => by simp [valZ] at h)
    (fun _ _ _ _ h => by simp [valZ] at h) (fun _ _ _ _ _ h => by simp [valZ] at h)

theorem evaluate_val (lk : Bytes → Lookup) (isReg : Bytes → Bool) (ρ : Env) (hρ : consistent lk isReg ρ)
    (a : Arg) (ev : Ev) (a' : Arg) (v : Int) (h : evaluate lk isReg a = .ok (ev, a')) :
    valZ ρ a = some v → valZ ρ a' = some v :=
  evaluateE_val lk isReg ρ hρ a ev a' (evaluate_ok_iff.1 h) v

theorem simplify_val (ρ : Env) (a : Arg) (c : Bool) (a' : Arg) (v : Int) (h : simplify a = .ok (c, a')) :
    valZ ρ a = some v → valZ ρ a' = some v := by
  obtain ⟨ev, he, _⟩ := (simplify_ok_iff (fun _ => false)).1 h
  exact evaluateE_val deferAll _ ρ (fun _ _ _ h => by cases h) a ev a' he v

/-- Every literal under the arithmetic nodes of the tree is an `i64`: in Rust `Number::Integer(i64)` makes it so, the model's
`.const` carries an `Int`. -/
def litsOk : Arg → Bool
  | .const v => inI64 v
  | .bin _ l r => litsOk l && litsOk r
  | .neg a => litsOk a
  | .not a => litsOk a
  | _ => true

/-- Every value of the table is an `i64` (Rust: `Lookup::Found(i64)`; the model's `.found` carries an `Int`). -/
def tableOk (lk : Bytes → Lookup) : Prop := ∀ s v, lk s = .found v → inI64 v = true

theorem evaluateE_const_valC (lk : Bytes → Lookup) (isReg : Bytes → Bool) (ρ : Env)
    (hρ : consistent lk isReg ρ) (hT : tableOk lk) :
    ∀ a ev a', evaluateE lk isReg a = .ok ev a' → ∀ w, litsOk a = true → a' = .const w → valC ρ a = some w :=
  have nfR := (evaluateE_NF_all lk isReg).1
  evaluateE_ok_ind1 lk isReg (R := fun a _ a' => ∀ w, litsOk a = true → a' = .const w → valC ρ a = some w)
    (fun v w hlit e => by cases e; simp [valC, checked, (show inI64 v = true from hlit)])
    (fun _ _ _ e => by cases e) (fun _ _ _ _ e => by cases e) (fun _ _ _ _ _ e => by cases e)
    (fun s x hr hl w _ e => by cases e; simp [valC, hρ s x hr hl, checked, hT s x hl])
    (fun op l r e1 l' e2 r' c a' h1 h2 ihl ihr hs w hlit e => by
      subst e
      simp only [litsOk, Bool.and_eq_true] at hlit
      obtain ⟨x, y, rfl, rfl, hf⟩ := (simplifyRaw_bin_NF_const (nfR _ _ _ h1) (nfR _ _ _ h2) hs).2 w rfl
      simp [valC, ihl x hlit.1 rfl, ihr y hlit.2 rfl, liftBin, opC, hf])
    (fun v e1 v' c a' h1 ih hs w hlit e => by
      subst e
      -- a `Negate` node becomes a constant only by negating a constant: `neutralize_raw` never delivers one
      obtain ⟨k, rfl, hk, rfl⟩ := (simplifyRaw_neg_NF_const (nfR _ _ _ h1) hs).2 w rfl
      have hx := ih k hlit rfl
      simp [valC, hx, checkedNeg, checked, neg_range (valC_range ρ v hx) hk])
    (fun v e1 v' c a' _ ih hs w hlit e => by
      subst e
      obtain ⟨_, ⟨_, k, rfl, hw⟩ | ⟨_, e, _⟩⟩ := simplifyRaw_not_ok hs
      · cases hw; simp [valC, ih k hlit rfl]
      · cases e)
    (fun v e1 v' c a' _ _ hs w _ e => by subst e; obtain ⟨_, _, e⟩ := simplifyRaw_addr_ok hs; cases e)
    (fun _ _ _ _ _ e => by cases e) (fun _ _ _ _ _ _ e => by cases e)

theorem evaluate_const_valC (lk : Bytes → Lookup) (isReg : Bytes → Bool) (ρ : Env)
    (hρ : consistent lk isReg ρ) (hT : tableOk lk) (a : Arg) (ev : Ev) (w : Int)
    (hlit : litsOk a = true) (h : evaluate lk isReg a = .ok (ev, .const w)) : valC ρ a = some w :=
  evaluateE_const_valC lk isReg ρ hρ hT a ev _ (evaluate_ok_iff.1 h) w hlit rfl

/-- The environment a table stands for: the names with a value, each with its value. -/
def envOf (lk : Bytes → Lookup) : Env := fun s => match lk s with | .found v => some v | _ => none

theorem consistent_of_sub {lk lk' : Bytes → Lookup} (isReg : Bytes → Bool)
    (h : ∀ s v, lk s = .found v → lk' s = .found v) : consistent lk isReg (envOf lk') := by
  intro s v _ hs
  simp [envOf, h s v hs]

theorem evaluateE_nosuch_val (lk : Bytes → Lookup) (isReg : Bytes → Bool) (ρ : Env) (hρ : consistent lk isReg ρ) :
    ∀ a n a', evaluateE lk isReg a = .nosuch n a' → ∀ v, valZ ρ a = some v → valZ ρ a' = some v :=
  have ok := evaluateE_val lk isReg ρ hρ
  (evaluateE_nosuch_ind lk isReg (R := fun a _ a' => ∀ v, valZ ρ a = some v → valZ ρ a' = some v)
    (Rs := fun _ _ _ => True)
    (fun _ _ _ _ h => h)
    (fun _ _ _ _ _ _ ih _ h => valZ_bin_congr ih (fun _ h => h) h)
    (fun _ _ _ _ _ _ _ h1 _ ih _ h => valZ_bin_congr (ok _ _ _ h1) ih h)
    (fun _ _ _ ih _ h => valZ_neg_congr ih h) (fun _ _ _ ih _ h => valZ_not_congr ih h)
    (fun _ _ _ _ _ h => by simp [valZ] at h) (fun _ _ _ _ _ h => by simp [valZ] at h)
    (fun _ _ _ _ _ _ h => by simp [valZ] at h) (fun _ _ _ _ _ => trivial) (fun _ _ _ _ _ _ _ _ _ => trivial)).1

/-! ## first attempts over a table with `Deferred` names

A name declared by `.global` (or imported while unvalued) is `Lookup::Deferred`: `evaluate` does not stop at it but leaves
the identifier in the tree and goes on, so the whole operand is simplified AROUND the name (constants are merged across it,
neutral elements removed, …) and the statement is deferred with the simplified tree.  A first attempt thus leaves a tree
`a₁` either by completing (`Ok`, possibly with a `Deferred` cause) or by stopping at an unknown name (`LeftBy`).
-/

/-- `a₁` is what a first `evaluate` over `lk₁` leaves in place of `a` (when the statement is kept for a later re-run) -/
def LeftBy (lk₁ : Bytes → Lookup) (isReg : Bytes → Bool) (a a₁ : Arg) : Prop :=
  (∃ ev, evaluateE lk₁ isReg a = .ok ev a₁) ∨ (∃ n, evaluateE lk₁ isReg a = .nosuch n a₁)

theorem leftBy_val {lk₁ : Bytes → Lookup} {isReg : Bytes → Bool} {ρ : Env} (hρ : consistent lk₁ isReg ρ) {a a₁ : Arg}
    (h : LeftBy lk₁ isReg a a₁) {w : Int} (hv : valZ ρ a = some w) : valZ ρ a₁ = some w := by
  rcases h with ⟨ev, h⟩ | ⟨n, h⟩
  · exact evaluateE_val lk₁ isReg ρ hρ a ev a₁ h w hv
  · exact evaluateE_nosuch_val lk₁ isReg ρ hρ a n a₁ h w hv

/-- both numbers are the value of the operand under the environment of `lk`, which every step preserves
(C08 `eval_commutes`, `simp_then_eval`, `retry_commutes` are instances) -/
theorem numbers_agree {lk₁ lk₂ lk : Bytes → Lookup} {isReg : Bytes → Bool}
    (h₁ : ∀ s v, lk₁ s = .found v → lk s = .found v) (h₂ : ∀ s v, lk₂ s = .found v → lk s = .found v) (hT : tableOk lk)
    {a a₁ : Arg} (hlit : litsOk a = true) (hl : LeftBy lk₁ isReg a a₁) {ev₂ ev : Ev} {v w : Int}
    (e₂ : evaluateE lk₂ isReg a₁ = .ok ev₂ (.const v)) (e : evaluateE lk isReg a = .ok ev (.const w)) : v = w := by
  have hc := evaluateE_const_valC lk isReg (envOf lk) (consistent_of_sub isReg fun _ _ h => h) hT a ev _ e w hlit rfl
  have hz := leftBy_val (consistent_of_sub isReg h₁) hl (valC_sub_valZ _ a hc)
  have hz2 := evaluateE_val lk₂ isReg (envOf lk) (consistent_of_sub isReg h₂) a₁ ev₂ _ e₂ w hz
  simpa [valZ] using hz2

theorem number_order_independent {lk₁ lk₂ : Bytes → Lookup} {isReg : Bytes → Bool}
    (h₁ : ∀ s v, lk₁ s = .found v → lk₂ s = .found v) (hT : tableOk lk₂) {a a₁ : Arg} (hlit : litsOk a = true)
    (hl : LeftBy lk₁ isReg a a₁) {ev₂ ev : Ev} {v w : Int}
    (e₂ : evaluateE lk₂ isReg a₁ = .ok ev₂ (.const v)) (e : evaluateE lk₂ isReg a = .ok ev (.const w)) : v = w :=
  numbers_agree h₁ (fun _ _ h => h) hT hlit hl e₂ e

end Trion.Simp
