import TrionModel.Lemmas.MapCount
import TrionModel.Spec.DictRuns
/-!
# Memory map: the representation is canonical, and the segment counts of `count` / `count_range` are the
numbers of maximal runs of the dictionary (`Dict.runs`, `Dict.runsIn`)
-/
namespace Trion.Map
open Trion.Dict

theorem abs_head {l f : Nat} {x : List UInt8} {r : Segs} (ok : Ok l ((f, x) :: r)) :
    (∀ k, k < f → abs ((f, x) :: r) k = none) ∧
    (∀ i, i < x.length → abs ((f, x) :: r) (f + i) = x[i]?) ∧
    abs ((f, x) :: r) (f + x.length) = none ∧ 0 < x.length := by
  obtain ⟨o1, o2, o3, o4⟩ := ok
  refine ⟨fun k hk => ?_, fun i hi => ?_, ?_, List.length_pos_iff.mpr o2⟩
  · rw [abs_cons, if_neg (by omega)]; exact abs_none_of_lt o4 (by omega)
  · rw [abs_cons, if_pos (by omega), Nat.add_sub_cancel_left]
  · rw [abs_cons, if_neg (by omega)]; exact abs_none_of_lt o4 (by omega)

theorem abs_head_some {l f : Nat} {x : List UInt8} {r : Segs} (ok : Ok l ((f, x) :: r)) :
    abs ((f, x) :: r) f ≠ none := by
  obtain ⟨_, p2, _, p4⟩ := abs_head ok
  have e := p2 0 p4
  rw [Nat.add_zero, List.getElem?_eq_getElem p4] at e
  rw [e]; simp

theorem ok_canonical {l : Nat} {ps qs : Segs} (hp : Ok l ps) (hq : Ok l qs)
    (h : ∀ k, abs ps k = abs qs k) : ps = qs := by
  induction ps generalizing l qs with
  | nil =>
    cases qs with
    | nil => rfl
    | cons t qt =>
      obtain ⟨g, y⟩ := t
      exact absurd (h g).symm (abs_head_some hq)
  | cons s r ih =>
    obtain ⟨f, x⟩ := s
    cases qs with
    | nil => exact absurd (h f) (abs_head_some hp)
    | cons t qt =>
      obtain ⟨g, y⟩ := t
      obtain ⟨p1, p2, p3, p4⟩ := abs_head hp
      obtain ⟨q1, q2, q3, q4⟩ := abs_head hq
      have hfg : f = g := by
        rcases Nat.lt_trichotomy f g with c | c | c
        · exact absurd ((h f).trans (q1 f c)) (abs_head_some hp)
        · exact c
        · exact absurd ((h g).symm.trans (p1 g c)) (abs_head_some hq)
      subst hfg
      have hlen : x.length = y.length := by
        rcases Nat.lt_trichotomy x.length y.length with c | c | c
        · exfalso
          have a1 := p3
          rw [h, q2 x.length c, List.getElem?_eq_getElem c] at a1
          simp at a1
        · exact c
        · exfalso
          have a1 := q3
          rw [← h, p2 y.length c, List.getElem?_eq_getElem c] at a1
          simp at a1
      have hxy : x = y := by
        apply List.ext_getElem?
        intro i
        by_cases c : i < x.length
        · rw [← p2 i c, ← q2 i (by omega), h]
        · rw [List.getElem?_eq_none (by omega), List.getElem?_eq_none (by omega)]
      subst hxy
      congr 1
      apply ih hp.2.2.2 hq.2.2.2
      intro k
      by_cases c : k < f + x.length + 1
      · rw [abs_none_of_lt hp.2.2.2 c, abs_none_of_lt hq.2.2.2 c]
      · have hk := h k
        rw [abs_cons, abs_cons, if_neg (by omega), if_neg (by omega)] at hk
        exact hk

example : MInv [(1, [1, 2, 3]), (7, [4])] := by
  refine ⟨by omega, by simp, by simp, by simp, by simp, by simp, trivial⟩

/-- number of segments meeting the half-open window `[lo, e)` -/
def meetSegs : Segs → Nat → Nat → Nat
  | [], _, _ => 0
  | (f, x) :: r, lo, e => (if f < e ∧ lo < f + x.length ∧ lo < e then 1 else 0) + meetSegs r lo e

theorem meetSegs_self (ps : Segs) (lo : Nat) : meetSegs ps lo lo = 0 := by
  induction ps with
  | nil => rfl
  | cons s r ih =>
    obtain ⟨f, x⟩ := s
    simp only [meetSegs]
    rw [ih, if_neg (by omega)]

theorem startsAt_of_none {D : Dict} {lo k : Nat} (h : D k = none) : startsAt D lo k = false := by
  simp [startsAt, h]

theorem startsAt_congr {D E : Dict} {lo k : Nat} (h1 : D k = E k) (h2 : k ≠ lo → D (k - 1) = E (k - 1)) :
    startsAt D lo k = startsAt E lo k := by
  unfold startsAt
  rw [h1]
  by_cases c : k = lo
  · simp [c]
  · rw [h2 c]

theorem meetSegs_succ {l : Nat} {ps : Segs} (ok : Ok l ps) (lo e : Nat) (h : lo ≤ e) :
    meetSegs ps lo (e + 1) = meetSegs ps lo e + (if startsAt (abs ps) lo e = true then 1 else 0) := by
  induction ps generalizing l with
  | nil => simp [meetSegs, startsAt, abs]
  | cons s r ih =>
    obtain ⟨f, x⟩ := s
    obtain ⟨o1, o2, o3, o4⟩ := ok
    have hx : 0 < x.length := List.length_pos_iff.mpr o2
    simp only [meetSegs]
    rw [ih o4]
    -- the two indicator terms of the head segment
    have Ap : (f < e + 1 ∧ lo < f + x.length ∧ lo < e + 1) →
        (if f < e + 1 ∧ lo < f + x.length ∧ lo < e + 1 then 1 else 0 : Nat) = 1 := fun h => if_pos h
    have An : ¬ (f < e + 1 ∧ lo < f + x.length ∧ lo < e + 1) →
        (if f < e + 1 ∧ lo < f + x.length ∧ lo < e + 1 then 1 else 0 : Nat) = 0 := fun h => if_neg h
    have Bp : (f < e ∧ lo < f + x.length ∧ lo < e) →
        (if f < e ∧ lo < f + x.length ∧ lo < e then 1 else 0 : Nat) = 1 := fun h => if_pos h
    have Bn : ¬ (f < e ∧ lo < f + x.length ∧ lo < e) →
        (if f < e ∧ lo < f + x.length ∧ lo < e then 1 else 0 : Nat) = 0 := fun h => if_neg h
    have T : (if (true : Bool) = true then 1 else 0 : Nat) = 1 := rfl
    have F : (if (false : Bool) = true then 1 else 0 : Nat) = 0 := rfl
    by_cases c1 : e < f
    · -- below the head segment: nothing changes
      have a1 : abs ((f, x) :: r) e = none := by
        rw [abs_cons, if_neg (by omega)]; exact abs_none_of_lt o4 (by omega)
      have a2 : abs r e = none := abs_none_of_lt o4 (by omega)
      rw [startsAt_of_none a1, startsAt_of_none a2, An (by omega), Bn (by omega)]; omega
    · by_cases c2 : e < f + x.length
      · -- inside the head segment
        have a2 : abs r e = none := abs_none_of_lt o4 (by omega)
        have a1 : (abs ((f, x) :: r) e).isSome = true := by
          rw [abs_cons, if_pos (by omega), List.getElem?_eq_getElem (by omega)]; rfl
        rw [startsAt_of_none a2, Ap (by omega), F]
        by_cases c3 : e = lo
        · have s1 : startsAt (abs ((f, x) :: r)) lo e = true := by
            unfold startsAt; rw [a1, c3]; simp
          rw [s1, Bn (by omega), T]; omega
        · by_cases c4 : f < e
          · have a3 : (abs ((f, x) :: r) (e - 1)).isNone = false := by
              rw [abs_cons, if_pos (by omega), List.getElem?_eq_getElem (by omega)]; rfl
            have s1 : startsAt (abs ((f, x) :: r)) lo e = false := by
              unfold startsAt; rw [a1, a3]; simp [c3]
            rw [s1, Bp (by omega), F]; omega
          · have a3 : (abs ((f, x) :: r) (e - 1)).isNone = true := by
              rw [abs_cons, if_neg (by omega), abs_none_of_lt o4 (by omega)]; rfl
            have s1 : startsAt (abs ((f, x) :: r)) lo e = true := by
              unfold startsAt; rw [a1, a3]; simp
            rw [s1, Bn (by omega), T]; omega
      · -- above the head segment: the head contributes the same, the tail decides
        have a1 : abs ((f, x) :: r) e = abs r e := by rw [abs_cons, if_neg (by omega)]
        have hs : startsAt (abs ((f, x) :: r)) lo e = startsAt (abs r) lo e := by
          by_cases c3 : e = f + x.length
          · have a2 : abs r e = none := abs_none_of_lt o4 (by omega)
            rw [startsAt_of_none (a1.trans a2), startsAt_of_none a2]
          · exact startsAt_congr a1 (fun _ => by rw [abs_cons, if_neg (by omega)])
        rw [hs]
        by_cases c3 : lo < f + x.length
        · rw [Ap (by omega), Bp (by omega)]; omega
        · rw [An (by omega), Bn (by omega)]; omega

theorem runsIn_succ (D : Dict) (lo n : Nat) :
    runsIn D lo (n + 1) = runsIn D lo n + (if startsAt D lo (lo + n) = true then 1 else 0) := by
  unfold runsIn
  rw [List.range_succ, List.filter_append, List.length_append]
  by_cases h : startsAt D lo (lo + n) = true <;> simp [h]

theorem meetSegs_eq_runsIn {l : Nat} {ps : Segs} (ok : Ok l ps) (lo n : Nat) :
    meetSegs ps lo (lo + n) = runsIn (abs ps) lo n := by
  induction n with
  | zero => rw [Nat.add_zero, meetSegs_self]; rfl
  | succ n ih => rw [← Nat.add_assoc, meetSegs_succ ok lo (lo + n) (by omega), ih, runsIn_succ]

theorem meetSegs_eq_filter {l : Nat} {ps : Segs} (ok : Ok l ps) (lo hi : Nat) (h : lo ≤ hi) :
    meetSegs ps lo (hi + 1) = (ps.filter (meets lo hi)).length := by
  induction ps generalizing l with
  | nil => rfl
  | cons s r ih =>
    obtain ⟨f, x⟩ := s
    obtain ⟨o1, o2, o3, o4⟩ := ok
    have hx : 0 < x.length := List.length_pos_iff.mpr o2
    have hsl : segLast (f, x) = f + x.length - 1 := rfl
    simp only [meetSegs]
    rw [ih o4]
    by_cases c : f ≤ hi ∧ lo < f + x.length
    · rw [filter_meets_pos r (by omega), if_pos (by omega), List.length_cons]; omega
    · rw [filter_meets_neg r (by omega), if_neg (by omega)]; omega

theorem meetSegs_all {l : Nat} {ps : Segs} (ok : Ok l ps) : meetSegs ps 0 4294967296 = ps.length := by
  induction ps generalizing l with
  | nil => rfl
  | cons s r ih =>
    obtain ⟨f, x⟩ := s
    obtain ⟨o1, o2, o3, o4⟩ := ok
    have hx : 0 < x.length := List.length_pos_iff.mpr o2
    simp only [meetSegs, List.length_cons]
    rw [ih o4, if_pos (by omega)]; omega

theorem meets_eq_runsIn {ps : Segs} (inv : MInv ps) (lo hi : Nat) (h : lo ≤ hi) :
    (ps.filter (meets lo hi)).length = runsIn (abs ps) lo (hi + 1 - lo) := by
  have ok : Ok 0 ps := inv
  rw [← meetSegs_eq_filter ok lo hi h, ← meetSegs_eq_runsIn ok lo (hi + 1 - lo),
    show lo + (hi + 1 - lo) = hi + 1 by omega]

theorem length_eq_runs {ps : Segs} (inv : MInv ps) : ps.length = runs (abs ps) := by
  have ok : Ok 0 ps := inv
  have h := meetSegs_eq_runsIn ok 0 4294967296
  rw [Nat.zero_add, meetSegs_all ok] at h
  exact h

example : runsIn (abs [(1, [1, 2, 3]), (7, [4])]) 2 6 = 2 := by decide
example : runsIn (abs [(1, [1, 2, 3]), (7, [4])]) 0 16 = 2 := by decide
example : runsIn (abs [(1, [1, 2, 3]), (7, [4])]) 4 3 = 0 := by decide
example : ([(1, [1, 2, 3]), (7, [4])] : Segs).filter (meets 2 7) = [(1, [1, 2, 3]), (7, [4])] := by decide
example : count [(1, [1, 2, 3]), (7, [4])] = .ok (4, 2) := by decide
example : countRange [(1, [1, 2, 3]), (7, [4])] 2 7 = .ok (3, 2) := by decide
example : startsAt (abs [(1, [1, 2, 3]), (7, [4])]) 0 7 = true ∧ IsRun (abs [(1, [1, 2, 3]), (7, [4])]) 7 7 := by
  refine ⟨by decide, by omega, fun k h1 h2 => ?_, fun k hk => ?_, by decide⟩
  · have : k = 7 := by omega
    subst this; decide
  · have : k = 6 := by omega
    subst this; decide

end Trion.Map
