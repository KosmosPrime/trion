import TrionModel.Spec.Front
import TrionModel.Model.Codec
import TrionModel.Model.Lex
/-! What the encoder's guards say about an instruction it accepts (C19; C04 completeness, Lemmas/C04Fin.lean): the range of
the integer literal in its text, the offset ranges, and that it is `Printable` as soon as its target is in the address
space. -/
namespace Trion.Show
open Trion.Front Trion.Codec Trion.Lex

macro "encsplit" h:ident : tactic => `(tactic| (
  simp only [encode, lo2, lo3, unrep, true_or, false_or, or_true, or_false, Bool.false_eq_true, Bool.true_eq_false,
    if_true, if_false, reduceCtorEq] at $h:ident
  (repeat' split at $h:ident) <;> (try cases $h:ident)))

/-- the integer literal the text of `i` contains, if any -/
def litOf : Instr → Option Int
  | .add _ _ _ (.imm v) | .sub _ _ _ (.imm v) | .cmp _ (.imm v) | .mov _ _ (.imm v) => some v
  | .asr _ _ (.imm v) | .lsl _ _ (.imm v) | .lsr _ _ (.imm v) => some v
  | .ldr _ _ (.imm v) | .ldrb _ _ (.imm v) | .ldrh _ _ (.imm v) => some v
  | .str _ _ (.imm v) | .strb _ _ (.imm v) | .strh _ _ (.imm v) => some v
  | .bkpt v | .svc v | .udf v | .udfw v => some v
  | _ => none

/-- the integer literal in the text of `i` is one the tokenizer reads back as that literal: not negative (`-5` is lexed as
a minus sign and `5` and parsed as `neg (const 5)`, not `const (-5)`) and at most `i64Max`, the tokenizer's range -/
def LitOk (i : Instr) : Prop := ∀ v, litOf i = some v → 0 ≤ v ∧ v ≤ i64Max

/-- every integer literal of an accepted instruction is an unsigned 16-bit value: the one walk through the
encoder's guards for the immediate forms -/
theorem encode_lit_bounds (i : Instr) (hws : List Nat) (he : encode i = .ok hws) (wf : i.wf) {v : Int}
    (hv : litOf i = some v) : 0 ≤ v ∧ v ≤ 65535 := by
  cases i
  case add _ _ _ r | sub _ _ _ r | cmp _ r | mov _ _ r | asr _ _ r | lsl _ _ r | lsr _ _ r | ldr _ _ r | ldrb _ _ r |
      ldrh _ _ r | str _ _ r | strb _ _ r | strh _ _ r =>
    cases r <;> simp only [litOf] at hv <;> cases hv <;> (encsplit he <;> omega)
  case bkpt | svc | udf | udfw => simp only [litOf] at hv; cases hv; simp only [Instr.wf] at wf; omega
  all_goals (simp only [litOf] at hv; cases hv)

theorem litOk_of_encode (i : Instr) (hws : List Nat) (he : encode i = .ok hws) (wf : i.wf) : LitOk i := fun v hv => by
  have := encode_lit_bounds i hws he wf hv
  simp only [i64Max]; omega

theorem litOf_of_memOf {i : Instr} {ad : Reg} {v : Int} (h : memOf i = some (ad, .imm v)) : litOf i = some v := by
  cases i
  case ldrb | ldrh | str | strb | strh => simp only [memOf] at h; cases h; rfl
  case ldr d ad' o =>
    cases o with
    | reg r => simp only [memOf] at h; cases h
    | imm off => simp only [memOf] at h; split at h <;> cases h; rfl
  all_goals (simp only [memOf] at h; cases h)

theorem memNonneg_of_encode (i : Instr) (hws : List Nat) (he : encode i = .ok hws) (wf : i.wf) : MemNonneg i :=
  fun _ _ hm => (encode_lit_bounds i hws he wf (litOf_of_memOf hm)).1

theorem encode_adr {d : Reg} {off : Int} {hws : List Nat} (he : encode (.adr d off) = .ok hws) :
    d.val < 8 ∧ off ≤ 1020 ∧ off % 4 = 0 ∧ hws.length = 1 := by
  simp only [encode, unrep] at he
  split at he
  · cases he
  · cases he; exact ⟨by omega, by omega, by omega, rfl⟩

theorem encode_b {c : Cond} {off : Int} {hws : List Nat} (he : encode (.b c off) = .ok hws) :
    bLo c ≤ off ∧ off ≤ bHi c ∧ off % 2 = 0 ∧ hws.length = 1 := by
  simp only [encode, unrep] at he
  unfold bLo bHi
  split at he <;> rename_i hc <;> split at he <;> cases he <;> simp only [hc, if_true, if_false] <;>
    exact ⟨by omega, by omega, by omega, rfl⟩

theorem encode_bl {off : Int} {hws : List Nat} (he : encode (.bl off) = .ok hws) :
    -16777216 ≤ off ∧ off ≤ 16777215 ∧ off % 2 = 0 ∧ hws.length = 2 := by
  simp only [encode, unrep] at he
  split at he
  · cases he
  · cases he; exact ⟨by omega, by omega, by omega, rfl⟩

theorem encode_ldr_lit {d ad : Reg} {off : Int} {hws : List Nat} (h15 : ad.val = 15)
    (he : encode (.ldr d ad (.imm off)) = .ok hws) :
    d.val < 8 ∧ 0 ≤ off ∧ off ≤ 1020 ∧ off % 4 = 0 ∧ hws.length = 1 := by
  simp only [encode, unrep, h15, if_true] at he
  split at he
  · cases he
  · cases he; exact ⟨by omega, by omega, by omega, by omega, rfl⟩

theorem printable_of_encode (i : Instr) (a : Nat) (hws : List Nat) (he : encode i = .ok hws) (wf : i.wf)
    (ht : targetInRange i a) : Printable i a := by
  have hlit : ∀ v, litOf i = some v → inI32 v := fun v hv => by
    have := encode_lit_bounds i hws he wf hv
    exact ⟨by omega, by omega⟩
  cases i
  case add _ _ _ r | sub _ _ _ r | cmp _ r | mov _ _ r | asr _ _ r | lsl _ _ r | lsr _ _ r | ldrb _ _ r |
      ldrh _ _ r | str _ _ r | strb _ _ r | strh _ _ r =>
    cases r with
    | imm v => exact hlit v rfl
    | reg _ => trivial
  case ldr d ad o =>
    cases o with
    | reg r => trivial
    | imm off =>
      simp only [Printable]
      split
      · rename_i h15
        obtain ⟨_, h0, h1, h4, _⟩ := encode_ldr_lit h15 he
        exact ⟨h0, h1, h4, ht h15⟩
      · exact hlit off rfl
  case adr d off =>
    obtain ⟨_, h1, h4, _⟩ := encode_adr he
    exact ⟨wf.1, h1, h4, ht⟩
  case b c off =>
    obtain ⟨h1, h2, h3, _⟩ := encode_b he
    exact ⟨h1, h2, h3, ht⟩
  case bl off =>
    obtain ⟨h1, h2, h3, _⟩ := encode_bl he
    exact ⟨h1, h2, h3, ht⟩
  case bkpt | svc | udf | udfw => exact wf
  all_goals trivial
end Trion.Show
