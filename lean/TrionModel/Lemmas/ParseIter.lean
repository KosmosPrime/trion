import TrionModel.Model.ParseIter
import TrionModel.Lemmas.ParseAll
/-!
# The call-by-call parser (`…S`, on the tokenizer state with look-ahead) computes what the batch
model computes on the token list `queue ++ src`
-/
namespace Trion.Parse

/-- the error the tokenizer has not yet handed out: the one sitting in `token_err`, else the one
`next_token()` will still produce -/
def TState.pendErr (s : TState) : Option LexErr :=
  match s.tokenErr with
  | some e => some e
  | none => s.srcErr

/-- the tokenizer state `s` stands for the remaining token list `ts` of the batch model over `lo` -/
structure Rel (lo : LexOut) (s : TState) (ts : List Token) : Prop where
  toks : s.queue ++ s.src = ts
  err : s.pendErr = lo.err
  /-- an error sits in the look-ahead slot only after every token was taken from the source … -/
  taken : s.tokenErr.isSome → s.src = []
  /-- … and it is the only one: the source yields its error once -/
  sole : s.tokenErr.isSome → s.srcErr = none
  line : s.endLine = lo.endLine
  col : s.endCol = lo.endCol

theorem rel_init (lo : LexOut) : Rel lo (TState.init lo) lo.toks :=
  ⟨rfl, rfl, by simp [TState.init], by simp [TState.init], rfl, rfl⟩

theorem rel_cons {lo : LexOut} {s : TState} {t : Token} {r : List Token} (h : Rel lo s (t :: r)) :
    (∃ s', s.peek = (some (.ok t), s') ∧ Rel lo s' (t :: r)) ∧ (∃ s', s.pop = (some (.ok t), s') ∧ Rel lo s' r) := by
  obtain ⟨q, te, src, se, el, ec⟩ := s
  obtain ⟨ht, he, hk, hso, hl, hc⟩ := h
  simp only at ht hk hso hl hc
  cases q with
  | cons t' q =>
    simp only [List.cons_append, List.cons.injEq] at ht
    obtain ⟨rfl, rfl⟩ := ht
    exact ⟨⟨_, rfl, ⟨rfl, he, hk, hso, hl, hc⟩⟩, ⟨_, rfl, ⟨rfl, he, hk, hso, hl, hc⟩⟩⟩
  | nil =>
    simp only [List.nil_append] at ht
    subst ht
    cases te with
    | some e => simp at hk
    | none => exact ⟨⟨_, rfl, ⟨rfl, he, by simp, by simp, hl, hc⟩⟩, ⟨_, rfl, ⟨rfl, he, by simp, by simp, hl, hc⟩⟩⟩

theorem pop_cons {lo : LexOut} {s : TState} {t : Token} {r : List Token} (h : Rel lo s (t :: r)) :
    ∃ s', s.pop = (some (.ok t), s') ∧ Rel lo s' r := (rel_cons h).2

theorem peek_cons {lo : LexOut} {s : TState} {t : Token} {r : List Token} (h : Rel lo s (t :: r)) :
    ∃ s', s.peek = (some (.ok t), s') ∧ Rel lo s' (t :: r) := (rel_cons h).1

theorem end_none {lo : LexOut} {s : TState} (h : Rel lo s []) (hn : lo.err = none) :
    (∃ s', s.peek = (none, s') ∧ Rel lo s' []) ∧ (∃ s', s.pop = (none, s') ∧ Rel lo s' []) := by
  obtain ⟨q, te, src, se, el, ec⟩ := s
  obtain ⟨ht, he, hk, hso, hl, hc⟩ := h
  simp only at ht hk hso hl hc
  obtain ⟨rfl, rfl⟩ := List.append_eq_nil_iff.1 ht
  rw [hn] at he
  cases te with
  | some e => simp [TState.pendErr] at he
  | none =>
    simp only [TState.pendErr] at he
    subst he
    exact ⟨⟨_, rfl, ⟨rfl, by rw [hn]; rfl, by simp, by simp, hl, hc⟩⟩, ⟨_, rfl, ⟨rfl, by rw [hn]; rfl, by simp, by simp, hl, hc⟩⟩⟩

/-- the `unwrap().unwrap_err()` sites: after a peeked tokenizer error the following `next` gives that error -/
theorem end_err {lo : LexOut} {s : TState} {e : LexErr} (h : Rel lo s []) (hn : lo.err = some e) :
    (∃ s', s.pop = (some (.error e), s')) ∧
    (∃ s', s.peek = (some (.error e), s') ∧ Rel lo s' [] ∧ ∃ s'', s'.pop = (some (.error e), s'')) := by
  obtain ⟨q, te, src, se, el, ec⟩ := s
  obtain ⟨ht, he, hk, hso, hl, hc⟩ := h
  simp only at ht hk hso hl hc
  obtain ⟨rfl, rfl⟩ := List.append_eq_nil_iff.1 ht
  rw [hn] at he
  cases te with
  | some e' =>
    simp only [TState.pendErr, Option.some.injEq] at he
    subst he
    exact ⟨⟨_, rfl⟩, ⟨_, rfl, ⟨rfl, by rw [hn]; rfl, by simp, hso, hl, hc⟩, _, rfl⟩⟩
  | none =>
    simp only [TState.pendErr] at he
    subst he
    exact ⟨⟨_, rfl⟩, ⟨_, rfl, ⟨rfl, by rw [hn]; rfl, by simp, by simp, hl, hc⟩, _, rfl⟩⟩

/-- The result `x` of a call-by-call function is the result `y` of the batch function: the same value with a state that
stands for the remaining tokens (`Rel`), the same error, panic or fuel. After an error the state is not constrained, so no
`Rel` is kept across it. -/
def Sim (lo : LexOut) {α : Type} (x : SRes α) (y : Res (α × List Token)) : Prop :=
  match y with
  | .ok p => ∃ s', x = .ok p.1 s' ∧ Rel lo s' p.2
  | .err e => ∃ s', x = .err e s'
  | .panic => x = .panic
  | .fuel => x = .fuel

theorem sim_bind {lo : LexOut} {α β : Type} {x : SRes α} {y : Res (α × List Token)}
    {f : α → TState → SRes β} {g : α × List Token → Res (β × List Token)}
    (h : Sim lo x y) (hf : ∀ a r s', Rel lo s' r → Sim lo (f a s') (g (a, r))) : Sim lo (x.bind f) (y.bind g) := by
  cases y with
  | ok p =>
    obtain ⟨s', hx, hr⟩ := h
    rw [hx]
    exact hf p.1 p.2 s' hr
  | err e => obtain ⟨s', hx⟩ := h; rw [hx]; exact ⟨s', rfl⟩
  | panic => have : x = .panic := h; rw [this]; rfl
  | fuel => have : x = .fuel := h; rw [this]; rfl

theorem sim_ok {lo : LexOut} {α : Type} {a : α} {s : TState} {r : List Token} (h : Rel lo s r) :
    Sim lo (SRes.ok a s) (Res.ok (a, r)) := ⟨s, rfl, h⟩

theorem sim_err {lo : LexOut} {α : Type} (e : ParseErr) (s : TState) :
    Sim lo (SRes.err e s : SRes α) (Res.err e) := ⟨s, rfl⟩

theorem eofErrS_eq {lo : LexOut} {s : TState} {ts : List Token} (h : Rel lo s ts) (e : String) :
    eofErrS s e = eofErr lo e := by
  simp [eofErrS, eofErr, h.line, h.col]

theorem nextInner_nil {lo : LexOut} {s : TState} (h : Rel lo s []) (e : String) :
    ∃ s', nextInnerS e s = .err (endErr lo e) s' := by
  cases hn : lo.err with
  | none =>
    obtain ⟨_, s', hp, hr⟩ := end_none h hn
    exact ⟨s', by simp only [nextInnerS, hp, endErr, hn, eofErrS_eq hr]⟩
  | some le =>
    obtain ⟨⟨s', hp⟩, _⟩ := end_err h hn
    exact ⟨s', by simp only [nextInnerS, hp, endErr, hn]⟩

theorem nextInner_cons {lo : LexOut} {s : TState} {t : Token} {r : List Token} (h : Rel lo s (t :: r)) (e : String) :
    ∃ s', nextInnerS e s = .ok t s' ∧ Rel lo s' r := by
  obtain ⟨s', hp, hr⟩ := pop_cons h
  exact ⟨s', by simp only [nextInnerS, hp], hr⟩

theorem close_sim {lo : LexOut} {α : Type} {s : TState} {ts : List Token} (h : Rel lo s ts) (e : String) (w : Tok) (x : α) :
    Sim lo ((closeS e w s).bind fun _ s5 => SRes.ok x s5) ((close lo e w ts).bind fun r3 => Res.ok (x, r3)) := by
  cases ts with
  | nil =>
    obtain ⟨s', hs⟩ := nextInner_nil h e
    simp only [closeS, hs, SRes.bind, close, Res.bind]
    exact ⟨s', rfl⟩
  | cons t r =>
    obtain ⟨s', hs, hr⟩ := nextInner_cons h e
    simp only [closeS, hs, SRes.bind, close]
    by_cases hw : t.val = w
    · simp only [if_pos hw, Res.bind]; exact ⟨s', rfl, hr⟩
    · simp only [if_neg hw, Res.bind]; exact ⟨s', rfl⟩

theorem exprStart_sim {lo : LexOut} {s : TState} {ts : List Token} (h : Rel lo s ts) :
    (exprStartS s).1 = exprStart lo ts ∧ Rel lo (exprStartS s).2 ts := by
  cases ts with
  | cons t r =>
    obtain ⟨s', hp, hr⟩ := peek_cons h
    simp only [exprStartS, hp, exprStart]
    exact ⟨trivial, hr⟩
  | nil =>
    cases hn : lo.err with
    | none =>
      obtain ⟨⟨s', hp, hr⟩, _⟩ := end_none h hn
      simp only [exprStartS, hp, exprStart, hr.line, hr.col]
      exact ⟨trivial, hr⟩
    | some e =>
      obtain ⟨_, s', hp, hr, _⟩ := end_err h hn
      simp only [exprStartS, hp, exprStart, hr.line, hr.col]
      exact ⟨trivial, hr⟩

/-- `takeErrS` after a peeked error never hits the `unwrap` panics -/
theorem takeErr_sim {lo : LexOut} {α : Type} {s' : TState} {e : LexErr} (k : LexErr → ParseErr)
    (h : ∃ s'', s'.pop = (some (.error e), s'')) : Sim lo (takeErrS s' k : SRes α) (Res.err (k e)) := by
  obtain ⟨s'', hp⟩ := h
  simp only [takeErrS, hp]
  exact ⟨s'', rfl⟩

structure RefAt (lo : LexOut) (n : Nat) : Prop where
  unary : ∀ s ts, Rel lo s ts → Sim lo (unaryS n s) (unaryF lo n ts)
  binary : ∀ g st s ts, Rel lo s ts → Sim lo (binaryS n g st s) (binaryF lo n g st ts)
  loop : ∀ g st lhs s ts, Rel lo s ts → Sim lo (binLoopS n g st lhs s) (binLoopF lo n g st lhs ts)
  args : ∀ s ts, Rel lo s ts → Sim lo (argsS n s) (argsF lo n ts)
  argsLoop : ∀ s ts, Rel lo s ts → Sim lo (argsLoopS n s) (argsLoopF lo n ts)

theorem operand_sim {lo : LexOut} {n : Nat} (ih : RefAt lo n) (g : BinOpGroup) (st : Nat × Nat) {s : TState}
    {ts : List Token} (h : Rel lo s ts) :
    Sim lo (match g.higher with
      | none => unaryS n s
      | some h => binaryS n h st s) (operandF lo n g st ts) := by
  unfold operandF
  cases g.higher with
  | none => exact ih.unary s ts h
  | some h' => exact ih.binary h' st s ts h

theorem refAt (lo : LexOut) : ∀ n, RefAt lo n := by
  intro n
  induction n with
  | zero =>
    constructor <;> intros <;> simp only [unaryS, binaryS, binLoopS, argsS, argsLoopS, unaryF, binaryF, binLoopF, argsF,
      argsLoopF] <;> rfl
  | succ n ih =>
    constructor
    · -- unary
      intro s ts h
      rw [unaryS]
      cases ts with
      | nil =>
        obtain ⟨s', hs⟩ := nextInner_nil h "<unary>"
        rw [hs, unaryF]
        exact ⟨s', rfl⟩
      | cons t r =>
        obtain ⟨s1, hs, hr⟩ := nextInner_cons h "<unary>"
        rw [hs, unaryF]
        simp only [SRes.bind]
        obtain ⟨l, c, v⟩ := t
        cases v with
        | minus => exact sim_bind (ih.unary s1 r hr) (fun a r' s' hr' => sim_ok hr')
        | not => exact sim_bind (ih.unary s1 r hr) (fun a r' s' hr' => sim_ok hr')
        | num v => exact sim_ok hr
        | str x => exact sim_ok hr
        | ident name =>
          -- function call or plain
          cases r with
          | nil =>
            cases hn : lo.err with
            | none =>
              obtain ⟨⟨s2, hp, hr2⟩, _⟩ := end_none hr hn
              simp only [hp]
              exact sim_ok hr2
            | some e =>
              obtain ⟨_, s2, hp, hr2, _⟩ := end_err hr hn
              simp only [hp]
              exact sim_ok hr2
          | cons t1 r1 =>
            obtain ⟨s2, hp, hr2⟩ := peek_cons hr
            obtain ⟨s3, hp3, hr3⟩ := pop_cons hr2
            obtain ⟨l1, c1, v1⟩ := t1
            simp only [hp]
            cases v1 with
            | lparen =>
              simp only []
              rw [hp3]
              exact sim_bind (ih.args s3 r1 hr3) (fun as r' s' hr' => close_sim hr' _ _ _)
            | _ => exact sim_ok hr2
        | lparen =>
          obtain ⟨he, hr2⟩ := exprStart_sim hr
          simp only []
          rw [he]
          exact sim_bind (ih.binary _ _ _ r hr2) (fun a r' s' hr' => close_sim hr' _ _ _)
        | lbrack =>
          obtain ⟨he, hr2⟩ := exprStart_sim hr
          simp only []
          rw [he]
          exact sim_bind (ih.binary _ _ _ r hr2) (fun a r' s' hr' => close_sim hr' _ _ _)
        | lbrace => exact sim_bind (ih.args s1 r hr) (fun as r' s' hr' => close_sim hr' _ _ _)
        | _ => exact sim_err _ _
    · -- binary
      intro g st s ts h
      rw [binaryS, binaryF_succ]
      exact sim_bind (operand_sim ih g st h) (fun a r' s' hr' => ih.loop g st a s' r' hr')
    · -- loop
      intro g st lhs s ts h
      rw [binLoopS]
      cases ts with
      | nil =>
        rw [binLoopF]
        cases hn : lo.err with
        | none =>
          obtain ⟨⟨s1, hp, hr⟩, _⟩ := end_none h hn
          simp only [hp]
          exact sim_ok hr
        | some e =>
          obtain ⟨_, s1, hp, _, hpop⟩ := end_err h hn
          simp only [hp]
          exact takeErr_sim _ hpop
      | cons t r =>
        obtain ⟨s1, hp, hr⟩ := peek_cons h
        obtain ⟨s2, hp2, hr2⟩ := pop_cons hr
        rw [binLoopF_cons]
        simp only [hp]
        by_cases hs : t.val.isStop = true
        · simp only [if_pos hs]; exact sim_ok hr
        · simp only [if_neg hs]
          cases hop : t.val.binOp with
          | none => simp only []; exact sim_err _ _
          | some op =>
            simp only []
            by_cases h1 : op.group.toNat < g.toNat
            · simp only [if_pos h1]; exact sim_ok hr
            · simp only [if_neg h1]
              by_cases h2 : g.toNat < op.group.toNat
              · simp only [if_pos h2]; rfl
              · simp only [if_neg h2, hp2]
                exact sim_bind (operand_sim ih g st hr2) (fun a r' s' hr' => ih.loop g st _ s' r' hr')
    · -- args
      intro s ts h
      rw [argsS]
      cases ts with
      | nil =>
        rw [argsF]
        cases hn : lo.err with
        | none =>
          obtain ⟨⟨s1, hp, hr⟩, _⟩ := end_none h hn
          simp only [hp]
          exact sim_ok hr
        | some e =>
          obtain ⟨_, s1, hp, _, hpop⟩ := end_err h hn
          simp only [hp]
          exact takeErr_sim _ hpop
      | cons t r =>
        obtain ⟨s1, hp, hr⟩ := peek_cons h
        rw [argsF]
        simp only [hp]
        by_cases he : t.val.isArgsEnd = true
        · simp only [if_pos he]; exact sim_ok hr
        · simp only [if_neg he]; exact ih.argsLoop s1 _ hr
    · -- argsLoop
      intro s ts h
      rw [argsLoopS, argsLoopF]
      obtain ⟨he, hr0⟩ := exprStart_sim h
      rw [he]
      refine sim_bind (ih.binary _ _ _ ts hr0) ?_
      intro a r s2 hr
      cases r with
      | nil =>
        cases hn : lo.err with
        | none =>
          obtain ⟨⟨s3, hp, hr3⟩, _⟩ := end_none hr hn
          simp only [hp, eofErrS_eq hr3]
          exact sim_err _ _
        | some e =>
          obtain ⟨_, s3, hp, _, hpop⟩ := end_err hr hn
          simp only [hp]
          exact takeErr_sim _ hpop
      | cons t r1 =>
        obtain ⟨s3, hp, hr3⟩ := peek_cons hr
        obtain ⟨s4, hp4, hr4⟩ := pop_cons hr3
        simp only [hp]
        by_cases hsep : t.val = .sep
        · simp only [if_pos hsep, hp4]
          exact sim_bind (ih.argsLoop s4 r1 hr4) (fun as r' s' hr' => sim_ok hr')
        · simp only [if_neg hsep]
          by_cases hend : t.val.isArgsEnd = true
          · simp only [if_pos hend]; exact sim_ok hr3
          · simp only [if_neg hend]; exact sim_err _ _

end Trion.Parse
