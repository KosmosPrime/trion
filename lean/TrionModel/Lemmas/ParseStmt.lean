import TrionModel.Lemmas.ParseRender
import TrionModel.Lemmas.ParseAll
/-!
# Statements: a rendered label / directive / instruction is read back by `element`
-/
namespace Trion.Parse

theorem pargs_head : (as : PArgs) → as ≠ .nil → ∃ v vs, Render.pargs as = v :: vs ∧ Tok.startsExpr v = true
  | .nil, h => absurd rfl h
  | .cons a .nil, _ => by
    obtain ⟨v, vs, h, hv⟩ := parg_head 0 a
    exact ⟨v, vs, by simp only [Render.pargs, h], hv⟩
  | .cons a (.cons b bs), _ => by
    obtain ⟨v, vs, h, hv⟩ := parg_head 0 a
    exact ⟨v, vs ++ .sep :: Render.pargs (.cons b bs), by simp only [Render.pargs, h, List.cons_append], hv⟩

theorem startsExpr_not_labelMark {v : Tok} (h : Tok.startsExpr v = true) : v ≠ .labelMark := by
  intro e; subst e; cases h

theorem label_ok (lo : LexOut) (name : Bytes) (first lm : Token) (more : List Token)
    (hf : first.val = .ident name) (hl : lm.val = .labelMark) :
    element lo first (lm :: more) = .ok (⟨first.line, first.col, .label name⟩, more) := by
  unfold element
  rw [hf]
  simp only [hl, if_true]

theorem directive_ok (lo : LexOut) (name : Bytes) (as : PArgs) (hwf : as.wf) (first tn tt : Token) (ta more : List Token)
    (hf : first.val = .dirMark) (hn : tn.val = .ident name) (hta : ta.map (·.val) = Render.pargs as)
    (htt : tt.val = .term) :
    element lo first (tn :: (ta ++ tt :: more)) = .ok (⟨first.line, first.col, .directive name as.erase⟩, more) := by
  unfold element
  rw [hf]
  simp only [hn]
  rw [(fits_pargs lo as hwf ta hta).args tt more (by rw [htt]; rfl)]
  rfl

theorem instruction_ok (lo : LexOut) (name : Bytes) (as : PArgs) (hwf : as.wf) (first tt : Token) (ta more : List Token)
    (hf : first.val = .ident name) (hta : ta.map (·.val) = Render.pargs as) (htt : tt.val = .term) :
    element lo first (ta ++ tt :: more) = .ok (⟨first.line, first.col, .instruction name as.erase⟩, more) := by
  have hargs := (fits_pargs lo as hwf ta hta).args tt more (by rw [htt]; rfl)
  -- the token after the name is not `:`
  have hne : ∃ t1 r1, ta ++ tt :: more = t1 :: r1 ∧ t1.val ≠ .labelMark := by
    by_cases hnil : as = .nil
    · subst hnil
      simp only [Render.pargs] at hta
      rw [List.map_eq_nil_iff.1 hta]
      exact ⟨tt, more, rfl, by rw [htt]; intro e; cases e⟩
    · obtain ⟨v, vs, hv, hs⟩ := pargs_head as hnil
      obtain ⟨t1, ta', rfl, ht1, _⟩ := exists_of_map_eq_cons (hta.trans hv)
      exact ⟨t1, ta' ++ tt :: more, rfl, by rw [ht1]; exact startsExpr_not_labelMark hs⟩
  obtain ⟨t1, r1, he, hlm⟩ := hne
  unfold element
  rw [hf]
  simp only []
  rw [he] at hargs ⊢
  simp only [if_neg hlm]
  rw [hargs]
  rfl

theorem element_render (lo : LexOut) (ev : ElemVal) (hwf : ev.wf) (first : Token) (body more : List Token)
    (hts : (first :: body).map (·.val) = Render.elemVal ev) :
    element lo first (body ++ more) = .ok (⟨first.line, first.col, ev⟩, more) := by
  cases ev with
  | label name =>
    simp only [Render.elemVal, List.map_cons] at hts
    obtain ⟨hf, hb⟩ := List.cons.inj hts
    obtain ⟨lm, b', rfl, hlm, hn⟩ := exists_of_map_eq_cons hb
    rw [List.map_eq_nil_iff.1 hn]
    exact label_ok lo name first lm more hf hlm
  | directive name as =>
    simp only [Render.elemVal, List.map_cons] at hts
    obtain ⟨hf, hb⟩ := List.cons.inj hts
    obtain ⟨tn, b1, rfl, hn, hb1⟩ := exists_of_map_eq_cons hb
    obtain ⟨ta, b2, rfl, hta, hb2⟩ := exists_of_map_eq_append hb1
    obtain ⟨tt, b3, rfl, htt, hnil⟩ := exists_of_map_eq_cons hb2
    rw [List.map_eq_nil_iff.1 hnil]
    have := directive_ok lo name (PArgs.ofArgs as) (wf_ofArgs as hwf.2) first tn tt ta more hf hn
      (by rw [pargs_ofArgs]; exact hta) htt
    rw [erase_ofArgs] at this
    simpa using this
  | instruction name as =>
    simp only [Render.elemVal, List.map_cons] at hts
    obtain ⟨hf, hb⟩ := List.cons.inj hts
    obtain ⟨ta, b2, rfl, hta, hb2⟩ := exists_of_map_eq_append hb
    obtain ⟨tt, b3, rfl, htt, hnil⟩ := exists_of_map_eq_cons hb2
    rw [List.map_eq_nil_iff.1 hnil]
    have := instruction_ok lo name (PArgs.ofArgs as) (wf_ofArgs as hwf.2) first tt ta more hf
      (by rw [pargs_ofArgs]; exact hta) htt
    rw [erase_ofArgs] at this
    simpa using this

/-- tokens of a program given as (statement, first token, remaining tokens) triples -/
def progToks (prog : List (ElemVal × Token × List Token)) : List Token :=
  prog.flatMap fun x => x.2.1 :: x.2.2

/-- the elements such a program denotes: each statement at the position of its first token -/
def progElems (prog : List (ElemVal × Token × List Token)) : List Element :=
  prog.map fun x => ⟨x.2.1.line, x.2.1.col, x.1⟩

theorem segs_prog (lo : LexOut) (prog : List (ElemVal × Token × List Token))
    (h : ∀ x ∈ prog, x.1.wf ∧ (x.2.1 :: x.2.2).map (·.val) = Render.elemVal x.1)
    {tail : List Token} {els : List Element} {left : List Token} (hs : Segs lo tail els left) :
    Segs lo (progToks prog ++ tail) (progElems prog ++ els) left := by
  induction prog with
  | nil => exact hs
  | cons x prog ih =>
    have hx := h x (List.mem_cons_self ..)
    have e : progToks (x :: prog) ++ tail = x.2.1 :: (x.2.2 ++ (progToks prog ++ tail)) := by simp [progToks]
    rw [e]
    exact .step (element_render lo x.1 hx.1 x.2.1 x.2.2 _ hx.2) (ih fun y hy => h y (List.mem_cons_of_mem _ hy))

theorem allLoop_render (lo : LexOut) (hlo : lo.err = none) (prog : List (ElemVal × Token × List Token))
    (h : ∀ x ∈ prog, x.1.wf ∧ (x.2.1 :: x.2.2).map (·.val) = Render.elemVal x.1) (n : Nat)
    (hn : (progToks prog).length < n) : allLoop lo n (progToks prog) = .done (progElems prog) none := by
  have hs := segs_prog lo prog h (.nil [])
  rw [List.append_nil, List.append_nil] at hs
  exact allLoop_of_segs hs (by rw [Stops, hlo]; rfl) n hn

/-! `program_roundtrip` (C09) takes the program as (statement, first token, remaining tokens) triples; here the token
list is arbitrary except that its values are the concatenated renderings of the statements — which is what the
tokenizer theorems (`Lex.tokens_pieces` + `Lex.lexed_vals`) provide.
-/

theorem elemVal_ne_nil (ev : ElemVal) : Render.elemVal ev ≠ [] := by
  cases ev <;> simp [Render.elemVal]

theorem prog_of_vals : ∀ (evs : List ElemVal) (ts : List Token),
    (∀ ev ∈ evs, ev.wf) → ts.map (·.val) = (evs.map Render.elemVal).flatten →
    ∃ prog : List (ElemVal × Token × List Token), progToks prog = ts ∧ prog.map (·.1) = evs ∧
      ∀ x ∈ prog, x.1.wf ∧ (x.2.1 :: x.2.2).map (·.val) = Render.elemVal x.1
  | [], ts, _, h => by
    have : ts = [] := by simpa using h
    subst this
    exact ⟨[], rfl, rfl, by simp⟩
  | ev :: evs, ts, hwf, h => by
    simp only [List.map_cons, List.flatten_cons] at h
    obtain ⟨ta, tb, rfl, ha, hb⟩ := exists_of_map_eq_append h
    obtain ⟨prog, hp1, hp2, hp3⟩ := prog_of_vals evs tb (fun e he => hwf e (by simp [he])) hb
    cases ta with
    | nil => exact absurd ha.symm (elemVal_ne_nil ev)
    | cons first body =>
      refine ⟨(ev, first, body) :: prog, ?_, by simp [hp2], ?_⟩
      · simp [progToks] at hp1 ⊢
        exact hp1
      · intro x hx
        simp at hx
        rcases hx with rfl | hx
        · exact ⟨hwf _ (by simp), ha⟩
        · exact hp3 x hx

theorem allLoop_of_vals (lo : LexOut) (evs : List ElemVal) (hwf : ∀ ev ∈ evs, ev.wf) (tp : List Token)
    (hp : tp.map (·.val) = (evs.map Render.elemVal).flatten) {tail left : List Token} {els' : List Element}
    {err : Option ParseErr} (hs : Segs lo tail els' left) (hst : Stops lo left err) (n : Nat) (hn : (tp ++ tail).length < n) :
    ∃ els, allLoop lo n (tp ++ tail) = .done (els ++ els') err ∧ els.map (·.val) = evs := by
  obtain ⟨prog, rfl, hp2, hp3⟩ := prog_of_vals evs tp hwf hp
  exact ⟨progElems prog, allLoop_of_segs (segs_prog lo prog hp3 hs) hst n hn, by rw [← hp2]; simp [progElems]⟩

theorem all_of_vals (evs : List ElemVal) (hwf : ∀ ev ∈ evs, ev.wf) (ts : List Token)
    (h : ts.map (·.val) = (evs.map Render.elemVal).flatten) (endLine endCol : Nat) :
    ∃ els, all ⟨ts, none, endLine, endCol⟩ = .done els none ∧ els.map (·.val) = evs := by
  simpa [all] using allLoop_of_vals ⟨ts, none, endLine, endCol⟩ evs hwf ts h (.nil []) rfl (ts.length + 1) (by simp)

/-- `all_of_vals` with the statements followed by ONE instruction statement whose operands `as : PArgs` are written with any redundant parentheses -/
theorem all_of_vals_then (evs : List ElemVal) (hwf : ∀ ev ∈ evs, ev.wf) (name : Bytes) (as : PArgs) (haswf : as.wf)
    (ts : List Token)
    (h : ts.map (·.val) = (evs.map Render.elemVal).flatten ++ (.ident name :: Render.pargs as ++ [.term]))
    (endLine endCol : Nat) :
    ∃ els last, all ⟨ts, none, endLine, endCol⟩ = .done (els ++ [last]) none ∧ els.map (·.val) = evs ∧
      last.val = .instruction name as.erase := by
  obtain ⟨tp, tl, rfl, hp, hl⟩ := exists_of_map_eq_append h
  obtain ⟨first, tl', rfl, hf, hl'⟩ := exists_of_map_eq_cons hl
  obtain ⟨ta, tb, rfl, hta, htb⟩ := exists_of_map_eq_append hl'
  obtain ⟨tt, tc, rfl, htt, hnil⟩ := exists_of_map_eq_cons htb
  cases List.map_eq_nil_iff.1 hnil
  obtain ⟨els, hall, hels⟩ := allLoop_of_vals ⟨tp ++ first :: (ta ++ [tt]), none, endLine, endCol⟩ evs hwf tp hp
    (.step (instruction_ok _ name as haswf first tt ta [] hf hta htt) (.nil [])) rfl _ (Nat.lt_succ_self _)
  exact ⟨els, _, hall, hels, rfl⟩

end Trion.Parse
