import TrionModel.Lemmas.ShowEval
import TrionModel.Lemmas.ShowEnc
import TrionModel.Lemmas.AsmDefer
/-!
# One printed instruction line in the main file

What `Asm.statement` and the end-of-file task do with the statement `Show.parts i a` in a state `stG` (main file, one
open region). The one-statement program with the label defined after the statement (`Lemmas/ShowProg.lean`) and the
statement loop over a listing (`Lemmas/TridasRun.lean`) are built from them.
-/
namespace Trion.Show
open Trion.Front Trion.Codec

/-- C19 (props/C19.json)  the placeholder has the length of the final encoding: the partly filled instruction of the first pass is
encodable, with as many halfwords -/
theorem encode_pre (i : Instr) (a t : Nat) (hws : List Nat) (he : encode i = .ok hws) (ht : targetOf i a = some t) :
    ∃ hws', encode (preInstr i) = .ok hws' ∧ hws'.length = hws.length := by
  rcases targetOf_cases ht with ⟨d, off, rfl, _⟩ | ⟨c, off, rfl, _⟩ | ⟨off, rfl, _⟩ | ⟨d, ad, off, rfl, h15, _⟩
  · obtain ⟨hd, _, _, hl⟩ := encode_adr he
    exact ⟨[0xA000 + d.val * 256 + 0], by simp [preInstr, encode, Nat.not_le.2 hd], hl.symm⟩
  · obtain ⟨_, _, _, hl⟩ := encode_b he
    rw [hl]
    by_cases hc : c.val = 14 <;> simp [preInstr, template, encode, hc]
  · obtain ⟨_, _, _, hl⟩ := encode_bl he
    rw [hl]
    simp [preInstr, template, encode]
  · obtain ⟨hd, _, _, _, hl⟩ := encode_ldr_lit h15 he
    rw [hl]
    simp [preInstr, encode, Nat.not_le.2 hd]

/-- the state inside the main file with one open region from `base` holding `buf` (room up to the end of the address space:
`Map.u32Max - base + 1`): `tbl` the file's table, `pending` the ghost list of placed statements `(address, length)` of
`Seg.State`, `q` the file's task queue; no global entry, no global task, no diagnostic -/
def stG (base : Nat) (buf : List UInt8) (tbl : Asm.Table) (pending : List (Nat × Nat)) (q : List Asm.Task) : Asm.St :=
  ⟨⟨[], some ⟨base, buf, Map.u32Max - base + 1⟩, pending⟩, [], some tbl, [], some q, []⟩

section line
variable (fs : Bytes → Option Bytes) (inc : Asm.Inc) (main : Bytes) (base : Nat) (tbl : Asm.Table) (pend : List (Nat × Nat))
  (l c : Nat) (i : Instr) (a : Nat) (hws : List Nat) (he : encode i = .ok hws) (hlen : hws.length = 1 ∨ hws.length = 2)
include he hlen

theorem line_now (buf : List UInt8) (q : List Asm.Task) (hp : Printable i a) (hev : EvalOK (Asm.frontEval tbl) i a)
    (hcur : base + buf.length = a) (hfit : a + 2 * hws.length ≤ 4294967296) :
    Asm.statement fs Asm.encoder inc ⟨[main], main⟩ (stG base buf tbl pend q)
        ⟨l, c, .instruction (parts i a).1 (Args.ofList (parts i a).2)⟩ =
      .ok (stG base (buf ++ (toBytes hws).map (·.toUInt8)) tbl ((a, 2 * hws.length) :: pend) q, .ok) := by
  have hc : Seg.Active.cur ⟨base, buf, Map.u32Max - base + 1⟩ = a := cur_of_length hcur (by omega)
  have hbl : ((toBytes hws).map (·.toUInt8)).length = 2 * hws.length := by simp [Asm.toBytes_length]
  have := Asm.instr_run fs Asm.encoder inc ⟨[main], main⟩ (stG base buf tbl pend q) tbl (by simp) rfl l c
    (parts i a).1 (Args.ofList (parts i a).2) [] ⟨base, buf, Map.u32Max - base + 1⟩ pend rfl i
    (by rw [hc, toList_ofList]; exact show_assembles_proof i a _ true hp hev)
    _ (Asm.encoder_run i hws he (by omega)) (by simp only [hbl, Map.u32Max]; omega)
  rw [this, hc, hbl]
  rfl

-- 0xBE: the placeholder byte of `ArmInstr::write_instr` (`tmp.fill(0xBE)`, src/arm6m/mod.rs)
theorem line_later (buf : List UInt8) (q : List Asm.Task) (t : Nat) (ht : targetOf i a = some t) (hnf : tbl.find (label t) = none)
    (hcur : base + buf.length = a) (hfit : a + 2 * hws.length ≤ 4294967296) :
    Asm.statement fs Asm.encoder inc ⟨[main], main⟩ (stG base buf tbl pend q)
        ⟨l, c, .instruction (parts i a).1 (Args.ofList (parts i a).2)⟩ =
      .ok (stG base (buf ++ List.replicate (2 * hws.length) 0xBE) tbl ((a, 2 * hws.length) :: pend)
        (q ++ [.instr ⟨main, l, c, deferSt i a, true⟩ false]), .ok) := by
  have hc : Seg.Active.cur ⟨base, buf, Map.u32Max - base + 1⟩ = a := cur_of_length hcur (by omega)
  obtain ⟨hwsP, heP, hlenP⟩ := encode_pre i a t hws he ht
  have hpl : ((toBytes hwsP).map (·.toUInt8)).length = 2 * hws.length := by simp [Asm.toBytes_length, hlenP]
  have := Asm.instr_deferred fs Asm.encoder inc ⟨[main], main⟩ (stG base buf tbl pend q) tbl q (by simp) rfl rfl l c
    (parts i a).1 (Args.ofList (parts i a).2) [] ⟨base, buf, Map.u32Max - base + 1⟩ pend rfl (template i)
    (mnemonic_parts i a) (deferSt i a) (label t)
    (by rw [hc, toList_ofList]; exact show_defers i a t ht _ (frontEval_notfound tbl t hnf))
    _ (by simpa [deferSt] using Asm.encoder_run (preInstr i) hwsP heP (by omega)) (by simp only [hpl, Map.u32Max]; omega)
  rw [this, hc, hpl]
  rfl

theorem line_task (pre post : List UInt8) (t : Nat) (ht : targetOf i a = some t) (hp : Printable i a)
    (hev : EvalOK (Asm.frontEval tbl) i a)
    (hpre : base + pre.length = a) (hfit : a + 2 * hws.length + post.length ≤ 4294967296) :
    Asm.runTask Asm.encoder ⟨[main], main⟩ (stG base (pre ++ List.replicate (2 * hws.length) 0xBE ++ post) tbl pend [])
        (.instr ⟨main, l, c, deferSt i a, true⟩ false) =
      .ok (stG base (pre ++ (toBytes hws).map (·.toUInt8) ++ post) tbl pend [], .ok) := by
  have hbl : ((toBytes hws).map (·.toUInt8)).length = 2 * hws.length := by simp [Asm.toBytes_length]
  obtain ⟨fs2, hretry, hfs2⟩ := show_retry i a t ht (Asm.frontEval tbl) false hp hev
  have hk : (deferSt i a).addr - base = pre.length := by simp only [deferSt]; omega
  have := Asm.instr_task_active Asm.encoder ⟨[main], main⟩
    (stG base (pre ++ List.replicate (2 * hws.length) 0xBE ++ post) tbl pend []) tbl (by simp) rfl main l c (deferSt i a) fs2 false []
    ⟨base, pre ++ List.replicate (2 * hws.length) 0xBE ++ post, Map.u32Max - base + 1⟩ pend rfl hretry _
    (by rw [hfs2]; exact Asm.encoder_run i hws he (by omega)) (find_nil _) (by simp only [deferSt]; omega) (by rw [hbl]; omega)
    (by simp only [deferSt, hbl, List.length_append, List.length_replicate]; omega)
    (by simp only [List.length_append, List.length_replicate]; omega)
  rw [this, hk, hbl]
  have t1 : (pre ++ List.replicate (2 * hws.length) (0xBE : UInt8) ++ post).take pre.length = pre := by
    rw [List.append_assoc]; exact List.take_left' rfl
  have t2 : (pre ++ List.replicate (2 * hws.length) (0xBE : UInt8) ++ post).drop (pre.length + 2 * hws.length) = post :=
    List.drop_left' (by simp)
  rw [t1, t2]
  rfl
end line

end Trion.Show
