import TrionModel.Lemmas.SimpVal
import TrionModel.Lemmas.SimpFound
/-!
# Value lemmas for `findC` / `setC` / `dropC`, and the value of the merged tree

By induction over the way `search` takes (`Found`):
* additive family (`+`, `-`, unary `-`): the chain value is `q + sgn s · c`
* the commutative-associative one-operator families (`*`, `&`, `|`, `^`): the chain value is `f q c`
* the left spine of `/`
-/
namespace Trion.Simp
open Trion

theorem sameFam_addsub {ty op : BinOp} (hty : isAddSub ty = true) : sameFam ty op = isAddSub op := by
  cases ty <;> cases op <;> simp_all [sameFam, isAddSub]

theorem opZ_addsub {op : BinOp} (h : isAddSub op = true) (a b : Int) :
    opZ op a b = some (a + sgn (op == .sub) * b) := by
  cases op <;> simp_all [isAddSub, opZ, sgn] <;> omega

theorem valZ_addsub {ρ : Env} {ty op : BinOp} (hty : isAddSub ty = true) (hsf : sameFam ty op = true) {l r : Arg}
    {v : Int} (hv : valZ ρ (.bin op l r) = some v) :
    ∃ x y, valZ ρ l = some x ∧ valZ ρ r = some y ∧ v = x + sgn (op == .sub) * y ∧
      ∀ {l' r' : Arg} {x' y' : Int}, valZ ρ l' = some x' → valZ ρ r' = some y' →
        valZ ρ (.bin op l' r') = some (x' + sgn (op == .sub) * y') := by
  have hop : isAddSub op = true := by rw [← sameFam_addsub hty]; exact hsf
  obtain ⟨x, y, hl, hr, ho⟩ := valZ_bin hv
  rw [opZ_addsub hop] at ho
  exact ⟨x, y, hl, hr, (Option.some.inj ho).symm, fun h1 h2 => by rw [valZ_bin_mk h1 h2, opZ_addsub hop]⟩

theorem addsub_chain (ρ : Env) {ty : BinOp} (hty : isAddSub ty = true) {a : Arg} {c : Int} {s : Bool}
    {set : Int → Arg} {drop : Arg} (h : Found ty a c s set drop) : ∀ {v : Int}, valZ ρ a = some v →
      ∃ q, v = q + sgn s * c ∧ (∀ n, valZ ρ (set n) = some (q + sgn s * n)) ∧ valZ ρ drop = some q := by
  have notDiv : ty ≠ .div := by rintro rfl; cases hty
  induction h with
  | @holdL op c r _ hsf _ =>
    intro v hv
    obtain ⟨x, y, hl, hr, rfl, mk⟩ := valZ_addsub hty hsf hv
    cases hl
    refine ⟨(0 + sgn (op == .sub) * y), ?_, fun n => ?_, ?_⟩
    · cases (op == BinOp.sub) <;> simp [sgn] <;> omega
    · rw [mk (l' := .const n) rfl hr]; cases (op == BinOp.sub) <;> simp [sgn] <;> omega
    · cases hb : (op == BinOp.sub)
      · simpa [sgn] using hr
      · simpa [sgn] using valZ_neg_mk hr
  | @holdR op l c _ hsf _ =>
    intro v hv
    obtain ⟨x, y, hl, hr, rfl, mk⟩ := valZ_addsub hty hsf hv
    cases hr
    exact ⟨x, rfl, fun n => mk (r' := .const n) hl rfl, hl⟩
  | @left op l r c s set drop _ hsf _ _ _ ih =>
    intro v hv
    obtain ⟨x, y, hl, hr, rfl, mk⟩ := valZ_addsub hty hsf hv
    obtain ⟨q, rfl, hset, hdrop⟩ := ih hl
    refine ⟨(q + sgn (op == .sub) * y), ?_, fun n => ?_, mk hdrop hr⟩
    · cases (op == BinOp.sub) <;> simp [sgn] <;> omega
    · rw [mk (hset n) hr]; cases (op == BinOp.sub) <;> simp [sgn] <;> omega
  | @right op l r c s set drop _ hsf _ _ _ _ ih =>
    intro v hv
    obtain ⟨x, y, hl, hr, rfl, mk⟩ := valZ_addsub hty hsf hv
    obtain ⟨q, rfl, hset, hdrop⟩ := ih hr
    refine ⟨(x + sgn (op == .sub) * q), ?_, fun n => ?_, mk hl hdrop⟩
    · cases (op == BinOp.sub) <;> cases s <;> simp [sgn] <;> omega
    · rw [mk hl (hset n)]; cases (op == BinOp.sub) <;> cases s <;> simp [sgn] <;> omega
  | @neg w c s set drop _ _ ih =>
    intro v hv
    obtain ⟨x, hx, rfl⟩ := valZ_neg hv
    obtain ⟨q, rfl, hset, hdrop⟩ := ih hx
    refine ⟨-q, ?_, fun n => ?_, valZ_neg_mk hdrop⟩
    · cases s <;> simp [sgn] <;> omega
    · rw [valZ_neg_mk (hset n)]; cases s <;> simp [sgn] <;> omega
  | divL h | divR h | divS h => exact absurd h notDiv


/-- what the chain lemma needs to know about the operator `ty`: its function `f` is commutative and associative on `D`, the
domain on which `opZ ty` is defined; `unit`, neutral for `f`, stands for the rest of the lhs when the lhs is itself the
constant (`mergeTree_val_ca`) -/
structure CAFam (ty : BinOp) (f : Int → Int → Int) (D : Int → Prop) (unit : Int) : Prop where
  chain : chainOp ty = true
  notAS : isAddSub ty = false
  opz : ∀ a b v, opZ ty a b = some v ↔ (D a ∧ D b ∧ v = f a b)
  closed : ∀ a b, D a → D b → D (f a b)
  comm : ∀ a b, f a b = f b a
  assoc : ∀ a b c, f (f a b) c = f a (f b c)
  dunit : D unit
  hunit : ∀ n, D n → f unit n = n

theorem CAFam.sameFam {ty : BinOp} {f D e} (F : CAFam ty f D e) {op : BinOp} (h : sameFam ty op = true) : op = ty := by
  have := F.notAS
  cases ty <;> cases op <;> simp_all [Trion.Simp.sameFam, isAddSub]

theorem CAFam.ne_sub {ty : BinOp} {f D e} (F : CAFam ty f D e) : (ty == BinOp.sub) = false := by
  have := F.notAS
  cases ty <;> simp_all [isAddSub]

theorem CAFam.ne_div {ty : BinOp} {f D e} (F : CAFam ty f D e) : ty ≠ .div := by
  have := F.chain
  rintro rfl; cases this

theorem CAFam.mk_val {ty : BinOp} {f D e} (F : CAFam ty f D e) {ρ : Env} {l r : Arg} {a b : Int}
    (hl : valZ ρ l = some a) (hr : valZ ρ r = some b) (ha : D a) (hb : D b) :
    valZ ρ (.bin ty l r) = some (f a b) := by
  rw [valZ_bin_mk hl hr]; exact (F.opz a b _).2 ⟨ha, hb, rfl⟩

theorem CAFam.val {ty : BinOp} {f D e} (F : CAFam ty f D e) {ρ : Env} {l r : Arg} {v : Int}
    (hv : valZ ρ (.bin ty l r) = some v) : ∃ x y, valZ ρ l = some x ∧ valZ ρ r = some y ∧ D x ∧ D y ∧ v = f x y := by
  obtain ⟨x, y, hl, hr, ho⟩ := valZ_bin hv
  obtain ⟨hx, hy, rfl⟩ := (F.opz x y v).1 ho
  exact ⟨x, y, hl, hr, hx, hy, rfl⟩

theorem ca_chain {ty : BinOp} {f D e} (F : CAFam ty f D e) (ρ : Env) {a : Arg} {c : Int} {s : Bool}
    {set : Int → Arg} {drop : Arg} (h : Found ty a c s set drop) : ∀ {v : Int}, valZ ρ a = some v →
      ∃ q, D q ∧ D c ∧ v = f q c ∧ (∀ n, D n → valZ ρ (set n) = some (f q n)) ∧ valZ ρ drop = some q := by
  induction h with
  | @holdL op c r _ hsf _ =>
    intro v hv
    cases F.sameFam hsf
    obtain ⟨x, y, hl, hr, hDx, hDy, rfl⟩ := F.val hv
    cases hl
    refine ⟨y, hDy, hDx, F.comm _ _, fun n hn => ?_, by simpa [F.ne_sub] using hr⟩
    rw [F.mk_val (l := .const n) rfl hr hn hDy, F.comm]
  | @holdR op l c _ hsf _ =>
    intro v hv
    cases F.sameFam hsf
    obtain ⟨x, y, hl, hr, hDx, hDy, rfl⟩ := F.val hv
    cases hr
    exact ⟨x, hDx, hDy, rfl, fun n hn => F.mk_val (r := .const n) hl rfl hDx hn, hl⟩
  | @left op l r c s set drop _ hsf _ _ _ ih =>
    intro v hv
    cases F.sameFam hsf
    obtain ⟨x, y, hl, hr, hDx, hDy, rfl⟩ := F.val hv
    obtain ⟨q, hDq, hDc, rfl, hset, hdrop⟩ := ih hl
    refine ⟨f q y, F.closed _ _ hDq hDy, hDc, ?_, fun n hn => ?_, F.mk_val hdrop hr hDq hDy⟩
    · rw [F.assoc, F.comm c y, ← F.assoc]
    · rw [F.mk_val (hset n hn) hr (F.closed _ _ hDq hn) hDy, F.assoc, F.comm n y, ← F.assoc]
  | @right op l r c s set drop _ hsf _ _ _ _ ih =>
    intro v hv
    cases F.sameFam hsf
    obtain ⟨x, y, hl, hr, hDx, hDy, rfl⟩ := F.val hv
    obtain ⟨q, hDq, hDc, rfl, hset, hdrop⟩ := ih hr
    refine ⟨f x q, F.closed _ _ hDx hDq, hDc, ?_, fun n hn => ?_, F.mk_val hl hdrop hDx hDq⟩
    · rw [F.assoc]
    · rw [F.mk_val hl (hset n hn) hDx (F.closed _ _ hDq hn), F.assoc]
  | neg h => rw [F.notAS] at h; cases h
  | divL h | divR h | divS h => exact absurd h F.ne_div

theorem valZ_div {ρ : Env} {l r : Arg} {v : Int} (hv : valZ ρ (.bin .div l r) = some v) :
    ∃ x y, valZ ρ l = some x ∧ valZ ρ r = some y ∧ y ≠ 0 ∧ v = x.tdiv y := by
  obtain ⟨x, y, hl, hr, ho⟩ := valZ_bin hv
  simp only [opZ] at ho
  by_cases hy0 : y = 0
  · simp [hy0] at ho
  · simp only [hy0, if_false, Option.some.injEq] at ho
    exact ⟨x, y, hl, hr, hy0, ho.symm⟩

theorem valZ_div_mk {ρ : Env} {l r : Arg} {a b : Int} (hl : valZ ρ l = some a) (hr : valZ ρ r = some b)
    (hb : b ≠ 0) : valZ ρ (.bin .div l r) = some (a.tdiv b) := by
  rw [valZ_bin_mk hl hr]; simp [opZ, hb]

theorem sameFam_div {op : BinOp} (h : sameFam .div op = true) : op = .div := by
  cases op <;> simp_all [sameFam, isAddSub]

theorem div_chain (ρ : Env) {a : Arg} {c : Int} {s : Bool} {set : Int → Arg} {drop : Arg}
    (h : Found .div a c s set drop) : ∀ {v : Int}, valZ ρ a = some v → ∀ b, b ≠ 0 →
      valZ ρ (set (if s then c * b else c.tdiv b)) = some (v.tdiv b) := by
  induction h with
  | holdL h1 h2 | holdR h1 h2 | left h1 h2 | right h1 h2 => cases sameFam_div h2; cases h1
  | neg h => cases h
  | @divL c r _ _ =>
    intro v hv b hb
    obtain ⟨x, y, hl, hr, hy0, rfl⟩ := valZ_div hv
    cases hl
    simp only [Bool.false_eq_true, if_false]
    rw [valZ_div_mk (l := .const (c.tdiv b)) rfl hr hy0, tdiv_comm]
  | @divR l c _ _ =>
    intro v hv b hb
    obtain ⟨x, y, hl, hr, hy0, rfl⟩ := valZ_div hv
    cases hr
    simp only [if_true]
    rw [valZ_div_mk (r := .const (c * b)) hl rfl (Int.mul_ne_zero hy0 hb), tdiv_tdiv]
  | divS _ _ _ _ ih =>
    intro v hv b hb
    obtain ⟨x, y, hl, hr, hy0, rfl⟩ := valZ_div hv
    rw [valZ_div_mk (ih hl b hb) hr hy0, tdiv_comm]

theorem famMul : CAFam .mul (· * ·) (fun _ => True) 1 where
  chain := rfl
  notAS := rfl
  opz := fun a b v => by simp [opZ, eq_comm]
  closed := fun _ _ _ _ => trivial
  comm := Int.mul_comm
  assoc := Int.mul_assoc
  dunit := trivial
  hunit := fun n _ => Int.one_mul n

/-- `opZ` on `& | ^`: defined on `i64` operands only -/
theorem opZ_bit_some {a b x v : Int} :
    (if inI64 a = true ∧ inI64 b = true then some x else none) = some v ↔ inI64 a = true ∧ inI64 b = true ∧ v = x := by
  by_cases h : inI64 a = true ∧ inI64 b = true
  · simp [h, eq_comm]
  · simp only [h, if_false]; constructor
    · intro h1; simp at h1
    · intro h1; exact (h ⟨h1.1, h1.2.1⟩).elim

theorem famAnd : CAFam .band band (fun v => inI64 v = true) (-1) where
  chain := rfl
  notAS := rfl
  opz := fun _ _ _ => opZ_bit_some
  closed := fun a b _ _ => band_range a b
  comm := band_comm
  assoc := band_assoc
  dunit := by decide
  hunit := fun n hn => by rw [band_comm]; exact band_neg_one hn

theorem famOr : CAFam .bor bor (fun v => inI64 v = true) 0 where
  chain := rfl
  notAS := rfl
  opz := fun _ _ _ => opZ_bit_some
  closed := fun a b _ _ => bor_range a b
  comm := bor_comm
  assoc := bor_assoc
  dunit := by decide
  hunit := fun n hn => by rw [bor_comm]; exact bor_zero hn

theorem famXor : CAFam .bxor bxor (fun v => inI64 v = true) 0 where
  chain := rfl
  notAS := rfl
  opz := fun _ _ _ => opZ_bit_some
  closed := fun a b _ _ => bxor_range a b
  comm := bxor_comm
  assoc := bxor_assoc
  dunit := by decide
  hunit := fun n hn => by rw [bxor_comm]; exact bxor_zero hn

/-- the lhs after `*lhs_val = n` -/
def lTree (op : BinOp) (l : Arg) (n : Int) : Arg :=
  match cval l with
  | some _ => .const n
  | none => setC op n l

theorem mergeTree_eq (op : BinOp) (l r : Arg) (c : Int) :
    mergeTree op l r c = match cval r with
      | some _ => lTree op l c
      | none => .bin op (lTree op l c) (dropC op r) := by
  unfold mergeTree lTree; rfl

theorem preInv_addsub {op : BinOp} (h : isAddSub op = true) : preInv op = (op == .sub) := by
  cases op <;> simp_all [isAddSub, preInv]

/-- what `combine` delivers, before the range check: `c1 ± c2` by the two inversion flags; for `/` the product when the
constant on the left is itself a divisor, else the quotient -/
def combineZ (op : BinOp) (s1 s2 : Bool) (a b : Int) : Int :=
  match op with
  | .add | .sub => a + sgn (s1 ^^ s2) * b
  | .mul => a * b
  | .div => if s1 then a * b else a.tdiv b
  | .band => band a b
  | .bor => bor a b
  | .bxor => bxor a b
  | _ => a

theorem combine_ok {op : BinOp} {s1 s2 : Bool} {a b c : Int} (h : combine op s1 s2 a b = .ok c) :
    c = combineZ op s1 s2 a b := by
  have addsub : (if (s1 ^^ s2) = true then (match checkedSub a b with | some v => Except.ok v | none => .error OvKind.sub)
      else (match checkedAdd a b with | some v => .ok v | none => .error .add)) = .ok c → c = a + sgn (s1 ^^ s2) * b := by
    intro h
    cases hx : (s1 ^^ s2) <;> simp only [hx, Bool.false_eq_true, if_false, if_true, checkedAdd, checkedSub] at h <;>
      obtain ⟨_, rfl⟩ := checked_ok.1 h <;> simp [sgn] <;> omega
  cases op <;> simp only [combine] at h
  case add => exact addsub h
  case sub => exact addsub h
  case mul => exact (checked_ok.1 h).2
  case div =>
    cases s1 <;> simp only [Bool.false_eq_true, if_false, if_true, checkedDiv, checkedMul] at h
    · by_cases hb : b = 0
      · simp [hb] at h
      · simp only [hb, if_false] at h; exact (checked_ok.1 h).2
    · exact (checked_ok.1 h).2
  all_goals cases h; rfl

theorem mergeTree_val_addsub (ρ : Env) {op : BinOp} (hop : isAddSub op = true) {l r : Arg} {v : Int}
    (hv : valZ ρ (.bin op l r) = some v) {c1 c2 cc : Int} {s1 s2 : Bool}
    (hL : mergeL op l = .found c1 s1) (hR : mergeR op r = .found c2 s2)
    (hcc : cc = c1 + sgn (s1 ^^ s2) * c2) : valZ ρ (mergeTree op l r cc) = some v := by
  obtain ⟨x, y, hl, hr, ho⟩ := valZ_bin hv
  rw [opZ_addsub hop] at ho
  have hv' : v = x + sgn (op == .sub) * y := (Option.some.inj ho).symm
  have hpre := preInv_addsub hop
  have hLt : ∃ ql, x = ql + sgn s1 * c1 ∧ ∀ n, valZ ρ (lTree op l n) = some (ql + sgn s1 * n) := by
    rcases mergeL_found hL with ⟨rfl, rfl⟩ | ⟨hcl, fl⟩
    · cases hl; exact ⟨0, by simp [sgn], fun n => by simp [lTree, cval_const, sgn, valZ]⟩
    · obtain ⟨q, hq, hset, _⟩ := addsub_chain ρ hop fl hl
      exact ⟨q, hq, by simpa only [lTree, hcl] using hset⟩
  obtain ⟨ql, hx, hset⟩ := hLt
  rw [mergeTree_eq]
  rcases mergeR_found hR with ⟨rfl, rfl⟩ | ⟨hcr, _, s0, rfl, fr⟩
  · cases hr
    simp only [cval_const]
    rw [hset cc, hv', hx, hcc, hpre]
    congr 1
    cases (op == BinOp.sub) <;> cases s1 <;> simp [sgn] <;> omega
  · obtain ⟨qr, hy, _, hdrop⟩ := addsub_chain ρ hop fr hr
    simp only [hcr]
    rw [valZ_bin_mk (hset cc) hdrop, opZ_addsub hop, hv', hx, hy, hcc, hpre]
    congr 1
    cases (op == BinOp.sub) <;> cases s1 <;> cases s0 <;> simp [sgn] <;> omega

theorem mergeTree_val_ca {ty : BinOp} {f D e} (F : CAFam ty f D e) (ρ : Env) {l r : Arg} {v : Int}
    (hv : valZ ρ (.bin ty l r) = some v) {c1 c2 cc : Int} {s1 s2 : Bool}
    (hL : mergeL ty l = .found c1 s1) (hR : mergeR ty r = .found c2 s2)
    (hcc : cc = f c1 c2) : valZ ρ (mergeTree ty l r cc) = some v := by
  obtain ⟨x, y, hl, hr, ho⟩ := valZ_bin hv
  obtain ⟨hDx, hDy, rfl⟩ := (F.opz x y v).1 ho
  have hLt : ∃ ql, D ql ∧ D c1 ∧ x = f ql c1 ∧ ∀ n, D n → valZ ρ (lTree ty l n) = some (f ql n) := by
    rcases mergeL_found hL with ⟨rfl, _⟩ | ⟨hcl, fl⟩
    · cases hl
      exact ⟨e, F.dunit, hDx, (F.hunit _ hDx).symm, fun n hn => by simp [lTree, cval_const, valZ, F.hunit n hn]⟩
    · obtain ⟨q, hDq, hDc, hq, hset, _⟩ := ca_chain F ρ fl hl
      exact ⟨q, hDq, hDc, hq, by simpa only [lTree, hcl] using hset⟩
  obtain ⟨ql, hDql, hDc1, hx, hset⟩ := hLt
  rw [mergeTree_eq]
  rcases mergeR_found hR with ⟨rfl, _⟩ | ⟨hcr, _, s0, _, fr⟩
  · cases hr
    simp only [cval_const]
    rw [hset cc (hcc ▸ F.closed _ _ hDc1 hDy), hcc, hx, F.assoc]
  · obtain ⟨qr, hDqr, hDc2, hy, _, hdrop⟩ := ca_chain F ρ fr hr
    have hDcc : D cc := hcc ▸ F.closed _ _ hDc1 hDc2
    simp only [hcr]
    rw [F.mk_val (hset cc hDcc) hdrop (F.closed _ _ hDql hDcc) hDqr, hcc, hx, hy]
    congr 1
    rw [F.assoc ql (f c1 c2) qr, F.assoc c1 c2 qr, F.comm c2 qr, ← F.assoc ql c1 (f qr c2)]

theorem isC_of_cval_ne {a : Arg} (h : isC a = false) : cval a = none := cval_none_iff.2 h

theorem mergeTree_val (ρ : Env) {op : BinOp} {l r : Arg} (hlr : ¬ (isC l = true ∧ isC r = true))
    (hmg : mergeable op = true) {v : Int} (hv : valZ ρ (.bin op l r) = some v) {c1 c2 cc : Int} {s1 s2 : Bool}
    (hL : mergeL op l = .found c1 s1) (hR : mergeR op r = .found c2 s2)
    (hc : combine op s1 s2 c1 c2 = .ok cc) : valZ ρ (mergeTree op l r cc) = some v := by
  have hcc := combine_ok hc
  cases op with
  | add => exact mergeTree_val_addsub ρ rfl hv hL hR hcc
  | sub => exact mergeTree_val_addsub ρ rfl hv hL hR hcc
  | mul => exact mergeTree_val_ca famMul ρ hv hL hR hcc
  | band => exact mergeTree_val_ca famAnd ρ hv hL hR hcc
  | bor => exact mergeTree_val_ca famOr ρ hv hL hR hcc
  | bxor => exact mergeTree_val_ca famXor ρ hv hL hR hcc
  | div =>
    obtain ⟨x, y, hl, hr, hy0, rfl⟩ := valZ_div hv
    -- the rhs of a division is only taken when it is a constant itself, so the lhs is none
    rcases mergeR_found hR with ⟨rfl, rfl⟩ | ⟨_, hd, _⟩
    · cases hr
      rcases mergeL_found hL with ⟨rfl, _⟩ | ⟨hcl, fl⟩
      · exact (hlr ⟨rfl, rfl⟩).elim
      · simp only [mergeTree, hcl, cval_const, hcc]
        exact div_chain ρ fl hl c2 hy0
    · exact absurd rfl hd
  | _ => cases hmg

end Trion.Simp
