import TrionModel.Model.Layout
/-!
# Layout: the byte image `Img` as a dictionary
-/
namespace Trion.Layout

theorem get_entries_append (bs : Bytes) (a : Nat) (m : Img) (k : Nat) :
    Img.get (entries a bs ++ m) k = if a ≤ k ∧ k < a + bs.length then bs[k - a]? else Img.get m k := by
  induction bs generalizing a with
  | nil =>
    have h : ¬ (a ≤ k ∧ k < a + 0) := by omega
    simp only [entries, List.nil_append, List.length_nil, if_neg h]
  | cons b bs ih =>
    simp only [entries, List.cons_append, Img.get, List.length_cons]
    by_cases h : a = k
    · subst h
      have h3 : a ≤ a ∧ a < a + (bs.length + 1) := by omega
      simp [h3]
    · rw [if_neg h, ih]
      by_cases h2 : a + 1 ≤ k ∧ k < a + 1 + bs.length
      · have h3 : a ≤ k ∧ k < a + (bs.length + 1) := by omega
        rw [if_pos h2, if_pos h3]
        have h4 : k - a = (k - (a + 1)) + 1 := by omega
        rw [h4, List.getElem?_cons_succ]
      · have h3 : ¬ (a ≤ k ∧ k < a + (bs.length + 1)) := by omega
        rw [if_neg h2, if_neg h3]

theorem get_put (m : Img) (a : Nat) (bs : Bytes) (k : Nat) :
    (m.put a bs).get k = if a ≤ k ∧ k < a + bs.length then bs[k - a]? else m.get k :=
  get_entries_append bs a m k

theorem get_put_inside (m : Img) (a : Nat) (bs : Bytes) (k : Nat) (h1 : a ≤ k) (h2 : k < a + bs.length) :
    (m.put a bs).get k = bs[k - a]? := by
  rw [get_put, if_pos ⟨h1, h2⟩]

theorem get_put_outside (m : Img) (a : Nat) (bs : Bytes) (k : Nat) (h : ¬ (a ≤ k ∧ k < a + bs.length)) :
    (m.put a bs).get k = m.get k := by
  rw [get_put, if_neg h]

theorem has_put (m : Img) (a : Nat) (bs : Bytes) (k : Nat) :
    (m.put a bs).has k = (decide (a ≤ k ∧ k < a + bs.length) || m.has k) := by
  unfold Img.has
  rw [get_put]
  by_cases h : a ≤ k ∧ k < a + bs.length
  · have h5 : k - a < bs.length := by omega
    simp [h, h5]
  · simp [h]

theorem has_put_mono (m : Img) (a : Nat) (bs : Bytes) (k : Nat) (h : m.has k = true) :
    (m.put a bs).has k = true := by
  rw [has_put, h, Bool.or_true]

theorem put_nil (m : Img) (a : Nat) : m.put a [] = m := rfl

/-- a Boolean test run over `[a, a+n)` by recursion on `n`, as `hasRange` and `freeRange` are -/
theorem range_iff (f : Nat → Bool) (g : Nat → Nat → Bool) (h0 : ∀ a, g a 0 = true)
    (hs : ∀ a n, g a (n + 1) = (f a && g (a + 1) n)) (a n : Nat) :
    g a n = true ↔ ∀ k, a ≤ k → k < a + n → f k = true := by
  induction n generalizing a with
  | zero => simp only [h0, true_iff]; intro k h1 h2; omega
  | succ n ih =>
    simp only [hs, Bool.and_eq_true, ih]
    constructor
    · rintro ⟨h1, h2⟩ k h3 h4
      by_cases h : k = a
      · subst h; exact h1
      · exact h2 k (by omega) (by omega)
    · intro h
      exact ⟨h a (by omega) (by omega), fun k h1 h2 => h k (by omega) (by omega)⟩

theorem freeRange_iff (m : Img) (a n : Nat) :
    m.freeRange a n = true ↔ ∀ k, a ≤ k → k < a + n → m.has k = false := by
  simpa only [Bool.not_eq_true'] using range_iff (fun k => !m.has k) m.freeRange (fun _ => rfl) (fun _ _ => rfl) a n

theorem hasRange_iff (m : Img) (a n : Nat) :
    m.hasRange a n = true ↔ ∀ k, a ≤ k → k < a + n → m.has k = true :=
  range_iff m.has m.hasRange (fun _ => rfl) (fun _ _ => rfl) a n

/-- the fold of `nextAbove` with an explicit accumulator -/
def nextAboveAcc (a : Nat) (acc : Option Nat) (m : Img) : Option Nat :=
  m.foldl (fun acc (k, _) => if a ≤ k then (match acc with | none => some k | some x => some (min x k)) else acc) acc

theorem nextAbove_eq (m : Img) (a : Nat) : m.nextAbove a = nextAboveAcc a none m := rfl

theorem has_cons (k : Nat) (v : UInt8) (r : Img) (x : Nat) :
    Img.has ((k, v) :: r) x = (decide (k = x) || Img.has r x) := by
  unfold Img.has
  simp only [Img.get]
  by_cases h : k = x <;> simp [h]

theorem nextAboveAcc_none (a : Nat) (m : Img) (acc : Option Nat) (h : nextAboveAcc a acc m = none) :
    acc = none ∧ ∀ k, a ≤ k → m.has k = false := by
  induction m generalizing acc with
  | nil =>
    simp only [nextAboveAcc, List.foldl_nil] at h
    exact ⟨h, fun k _ => rfl⟩
  | cons e r ih =>
    obtain ⟨k, v⟩ := e
    simp only [nextAboveAcc, List.foldl_cons] at h
    have h' := ih _ h
    by_cases hk : a ≤ k
    · rw [if_pos hk] at h'
      cases acc <;> simp at h'
    · rw [if_neg hk] at h'
      refine ⟨h'.1, fun x hx => ?_⟩
      rw [has_cons, h'.2 x hx]
      have : k ≠ x := by omega
      simp [this]

theorem nextAboveAcc_some (a : Nat) (m : Img) (acc : Option Nat) (n : Nat) (h : nextAboveAcc a acc m = some n) :
    (acc = some n ∨ (a ≤ n ∧ m.has n = true)) ∧ (∀ x, acc = some x → n ≤ x) ∧
    ∀ k, a ≤ k → k < n → m.has k = false := by
  induction m generalizing acc with
  | nil =>
    simp only [nextAboveAcc, List.foldl_nil] at h
    exact ⟨Or.inl h, fun x hx => (by rw [h] at hx; cases hx; omega), fun k _ _ => rfl⟩
  | cons e r ih =>
    obtain ⟨k, v⟩ := e
    simp only [nextAboveAcc, List.foldl_cons] at h
    have h' := ih _ h
    by_cases hk : a ≤ k
    · rw [if_pos hk] at h'
      obtain ⟨h1, h2, h3⟩ := h'
      cases acc with
      | none =>
        simp only at h1 h2
        have hn : n ≤ k := h2 k rfl
        refine ⟨Or.inr ?_, fun x hx => (by cases hx), fun x hx1 hx2 => ?_⟩
        · rcases h1 with h1 | h1
          · cases h1; exact ⟨hk, by rw [has_cons]; simp⟩
          · exact ⟨h1.1, by rw [has_cons, h1.2]; simp⟩
        · rw [has_cons, h3 x hx1 hx2]
          have : k ≠ x := by omega
          simp [this]
      | some y =>
        simp only at h1 h2
        have hn : n ≤ min y k := h2 _ rfl
        refine ⟨?_, fun x hx => (by cases hx; omega), fun x hx1 hx2 => ?_⟩
        · rcases h1 with h1 | h1
          · cases h1
            by_cases hyk : y ≤ k
            · left; congr 1; omega
            · right; refine ⟨by omega, ?_⟩
              have : min y k = k := by omega
              rw [this, has_cons]; simp
          · right; exact ⟨h1.1, by rw [has_cons, h1.2]; simp⟩
        · rw [has_cons, h3 x hx1 hx2]
          have : k ≠ x := by omega
          simp [this]
    · rw [if_neg hk] at h'
      obtain ⟨h1, h2, h3⟩ := h'
      refine ⟨?_, h2, fun x hx1 hx2 => ?_⟩
      · rcases h1 with h1 | h1
        · exact Or.inl h1
        · right; exact ⟨h1.1, by rw [has_cons, h1.2]; simp⟩
      · rw [has_cons, h3 x hx1 hx2]
        have : k ≠ x := by omega
        simp [this]

theorem nextAbove_none (m : Img) (a : Nat) (h : m.nextAbove a = none) : ∀ k, a ≤ k → m.has k = false :=
  (nextAboveAcc_none a m none h).2

theorem nextAbove_some (m : Img) (a n : Nat) (h : m.nextAbove a = some n) :
    a ≤ n ∧ m.has n = true ∧ ∀ k, a ≤ k → k < n → m.has k = false := by
  obtain ⟨h1, _, h3⟩ := nextAboveAcc_some a m none n h
  rcases h1 with h1 | h1
  · cases h1
  · exact ⟨h1.1, h1.2, h3⟩

theorem length_overwrite (buf : Bytes) (start : Nat) (bs : Bytes) (h : start + bs.length ≤ buf.length) :
    (overwrite buf start bs).length = buf.length := by
  simp only [overwrite, List.length_append, List.length_take, List.length_drop]
  omega

theorem getElem?_overwrite (buf : Bytes) (start : Nat) (bs : Bytes) (h : start + bs.length ≤ buf.length) (j : Nat) :
    (overwrite buf start bs)[j]? = if start ≤ j ∧ j < start + bs.length then bs[j - start]? else buf[j]? := by
  have hl : (buf.take start).length = start := by rw [List.length_take]; omega
  unfold overwrite
  rw [List.append_assoc]
  by_cases h1 : j < start
  · have hn : ¬ (start ≤ j ∧ j < start + bs.length) := by omega
    rw [if_neg hn, List.getElem?_append_left (by omega), List.getElem?_take_of_lt h1]
  · rw [List.getElem?_append_right (by omega), hl]
    by_cases h2 : j < start + bs.length
    · rw [if_pos ⟨by omega, h2⟩, List.getElem?_append_left (by omega)]
    · rw [if_neg (by omega), List.getElem?_append_right (by omega), List.getElem?_drop]
      congr 1; omega

theorem overwrite_nil (buf : Bytes) (start : Nat) : overwrite buf start [] = buf := by
  simp [overwrite]

end Trion.Layout
