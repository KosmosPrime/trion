import TrionModel.Model.Scope
/-! The vocabulary of the C14 statements (`Props/C14.lean`), over the scope model `Trion.Scope`: the stack of tables read
off the literal state, what statements may change (`Eff`), the invariants of reachable states (`Open`, `Inv`, `CInv`),
include trees (`Body`) and positions in a project (`Reach`), and the licence chains (`Up`, `Lic`).  Definitions only. -/
namespace Trion.Scope

/-- a valued entry is kept with its value -/
def Table.le (t t' : Table) : Prop := ∀ n v, t.find n = some (some v) → t'.find n = some (some v)

/-- the tables from the innermost scope outwards: the current file's, its includer's, …, the global table -/
def tables (s : State) : List Table :=
  s.locals.toList ++ s.globals :: s.frames.filterMap (·.constants)

/-- the task lists, in the same order -/
def taskStack (s : State) : List (List Task) :=
  s.localTasks.toList ++ s.globalTasks :: s.frames.filterMap (·.tasks)

/-- `Table.le` on the optional table `locals`: both absent, or both present and related -/
def optLe : Option Table → Option Table → Prop
  | none, none => True
  | some a, some b => a.le b
  | _, _ => False

/-- statements and tasks keep the frame stack, the depth and the mode, and only ever add entries or give a value
to an unvalued entry of the two visible tables -/
structure Eff (s s' : State) : Prop where
  depth : s'.depth = s.depth
  frames : s'.frames = s.frames
  mode : s'.mode = s.mode
  locals : optLe s.locals s'.locals
  globals : s.globals.le s'.globals
  ltasks : s'.localTasks.isSome = s.localTasks.isSome

/-- pointwise `Table.le` on two stacks of the same height -/
def stackLe : List Table → List Table → Prop
  | [], [] => True
  | a :: as, b :: bs => a.le b ∧ stackLe as bs
  | _, _ => False

/-- the live `PathFrame`s, innermost first: each saved a constant table exactly when it has an outer frame (the root
file's frame saved `None`: outside any file there is no local table) -/
def framesOk : List Saved → Prop
  | [] => True
  | f :: fs => (f.constants.isSome ↔ fs ≠ []) ∧ framesOk fs

/-- `locals.is_some()` iff an `assemble` call is active, and each saved table is `Some` iff there is an outer frame -/
structure Open (s : State) : Prop where
  locals : s.locals.isSome ↔ s.frames ≠ []
  frames : framesOk s.frames

/-- no key of the table is a register name (`insert_constant`/`defer_constant` refuse those) -/
def Table.keysOk (t : Table) : Prop := ∀ n, isReg n = true → t.find n = none

/-- the task is well formed: the name captured by a `.global` closure passed `defer_constant`, so it is not a register
name -/
def Task.ok : Task → Prop
  | .globalCopy n _ => isReg n = false
  | .use _ _ _ _ => True

/-- `isGU` = "is a global use": a `.du32` rescheduled for the includer / `finalize` (the only closure ever added with
`Realm::Global`) -/
def Task.isGU : Task → Prop
  | .use _ _ _ true => True
  | _ => False

/-- the invariant on the two visible tables and the two visible task lists (`Vis` for "visible part of the state";
`visible` below is something else, one table) -/
structure Vis (s : State) : Prop where
  kg : s.globals.keysOk
  kl : ∀ l, s.locals = some l → l.keysOk
  tg : ∀ t ∈ s.globalTasks, t.ok
  tl : ∀ l, s.localTasks = some l → ∀ t ∈ l, t.ok
  /-- in the root file and outside any file `global_tasks` is the real global list: only rescheduled `.du32`s -/
  bot : s.frames.length ≤ 1 → ∀ t ∈ s.globalTasks, t.isGU

/-- what a statement needs of the state: a file is open -/
structure InFile (s : State) : Prop where
  locals : s.locals.isSome
  ltasks : s.localTasks.isSome

/-- the live `PathFrame`s, innermost first (`framesOk` above, in `Open`, is the clause for the saved tables alone: `Open` is
what the lemmas about the stack of tables need, and it holds without the rest): frame number `k` (counted from the root file = 1) carries `count = k`, saved a
task list exactly when it has an outer frame, its saved table has no register key, its saved closures are well formed,
and the list saved by frame 2 — the real global list — holds only rescheduled `.du32`s -/
def framesInv : List Saved → Prop
  | [] => True
  | f :: fs => f.count = fs.length + 1 ∧ (f.tasks.isSome ↔ fs ≠ []) ∧ (∀ l, f.constants = some l → l.keysOk) ∧
      (∀ l, f.tasks = some l → ∀ t ∈ l, t.ok) ∧ (fs.length = 1 → ∀ l, f.tasks = some l → ∀ t ∈ l, t.isGU) ∧
      framesInv fs

/-- every guard of a panic site is implied by this -/
structure Inv (s : State) : Prop where
  opn : Open s
  lt : s.localTasks.isSome ↔ s.frames ≠ []
  depth : s.depth = s.frames.length
  fr : framesInv s.frames
  vis : Vis s

/-- the value a queued `.du32` has cached, if any, is outside `0 ..< 2^32` -/
def cokOpt (c : Option Int) : Prop := ∀ v, c = some v → ¬ (0 ≤ v ∧ v < 4294967296)

/-- `cok` = "cache ok": a cached value is one `u32::try_from` refused -/
def Task.cok : Task → Prop
  | .use _ c _ _ => cokOpt c
  | .globalCopy _ _ => True

/-- every queued `.du32` that carries a cached value caches one the writer (`u32::try_from`) refused -/
structure CInv (s : State) : Prop where
  gtasks : ∀ t ∈ s.globalTasks, t.cok
  ltasks : ∀ q, s.localTasks = some q → ∀ t ∈ q, t.cok
  saved : ∀ fr ∈ s.frames, ∀ q, fr.tasks = some q → ∀ t ∈ q, t.cok

/-- a statement of a file (everything but the three structural ops) -/
def Op.isStmt : Op → Bool
  | .enter _ => false
  | .exit => false
  | .finalize => false
  | _ => true

/-- the body of one file: a sequence of statements and complete `.include`s (with the included file's body) -/
inductive Body where
  | nil
  | stmt (o : Op) (rest : Body)
  | incl (tag : Nat) (inner rest : Body)
deriving Repr

/-- the op sequence the harness feeds to the model for a file body: well bracketed by construction -/
def Body.flatten : Body → List Op
  | .nil => []
  | .stmt o r => o :: r.flatten
  | .incl tag i r => .enter tag :: (i.flatten ++ .exit :: r.flatten)

/-- the leaves are statements: no stray `enter`/`exit`/`finalize` beside the brackets `Body.flatten` writes -/
def Body.wf : Body → Prop
  | .nil => True
  | .stmt o r => o.isStmt = true ∧ r.wf
  | .incl _ i r => i.wf ∧ r.wf

/-- the name a statement can send upwards -/
def Op.names : Op → List Bytes
  | .export n _ => [n]
  | .global n _ => [n]
  | _ => []

/-- the names the file itself (not the files it includes) exports or declares global -/
def Body.names : Body → List Bytes
  | .nil => []
  | .stmt o r => o.names ++ r.names
  | .incl _ _ r => r.names

/-- the statement defines `n` with value `v` (`.const n, v` or a label `n:` at address `v`) -/
def Op.defines (n : Bytes) (v : Int) : Op → Prop
  | .const m w _ => m = n ∧ w = v
  | .label m w _ => m = n ∧ w = v
  | _ => False

def Op.imports (n : Bytes) : Op → Prop
  | .import m _ => m = n
  | _ => False

/-- the file itself (not a file it includes) has an `.import n` statement -/
def Body.imports (n : Bytes) : Body → Prop
  | .nil => False
  | .stmt o r => o.imports n ∨ r.imports n
  | .incl _ _ r => r.imports n

/-- `Up n v b`: a chain of `.export n`/`.global n` edges leads from the file with body `b` down through included files
to a file whose own body defines `n` with value `v` (the chain has length 0 if `b` defines it itself) -/
inductive Up (n : Bytes) (v : Int) : Body → Prop
  | here {o : Op} {r : Body} : o.defines n v → Up n v (.stmt o r)
  | later {o : Op} {r : Body} : Up n v r → Up n v (.stmt o r)
  | child {tag : Nat} {c r : Body} : n ∈ c.names → Up n v c → Up n v (.incl tag c r)
  | after {tag : Nat} {c r : Body} : Up n v r → Up n v (.incl tag c r)

/-- the table the next `.include`d file would see as its includer's: the current file's, or the global table -/
def visible (s : State) : Table :=
  match s.locals with
  | some l => l
  | none => s.globals

/-- `Reach s0 ctx s`: from `s0` (outside any file) the files of `ctx` were entered one inside the other — innermost
first; each entry is the tag of the `.include` and the part of that file's body run so far, itself a sequence of
statements and complete includes — and `s` is the state now -/
def Reach (s0 : State) : List (Nat × Body) → State → Prop
  | [], s => s = s0
  | (tag, pre) :: outer, s =>
    ∃ so, Reach s0 outer so ∧ so.mode = .running ∧ run so (.enter tag :: pre.flatten) = .ok s

/-- `Lic n v G0 ctx`: the innermost file of `ctx` is entitled to `n = v`: an `Up` chain (`.export`/`.global` edges down
to a definition `n = v`) starts in the part of its body run so far, or it has an `.import n` and its includer was entitled
to `n = v` when the file was entered; outside any file: the global table `G0` had it at the start -/
def Lic (n : Bytes) (v : Int) (G0 : Table) : List (Nat × Body) → Prop
  | [] => G0.find n = some (some v)
  | (_, pre) :: outer => Up n v pre ∨ (pre.imports n ∧ Lic n v G0 outer)

/-- the list that receives what a file hands up: the includer's `local_tasks`, or the real global list -/
def outTasks (s : State) : List Task :=
  match s.localTasks with
  | some l => l
  | none => s.globalTasks

end Trion.Scope
