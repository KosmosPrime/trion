import TrionModel.Lemmas.ShowAsm
/-! # the concrete evaluator satisfies what C19 assumes of the evaluator (`EvalOK`) -/
namespace Trion.Show
open Trion.Front

theorem isRegister_label (t : Nat) : isRegister (label t) = false := by
  have : (label t).length = 10 := by simp [label, hex8, bytesOf]
  simp [isRegister, this]

theorem evalT_const (lk : Bytes → Simp.Lookup) (v : Int) :
    Simp.evaluateT lk isRegister (.const v) = .ok ⟨false, none⟩ (.const v) := by
  simp [Simp.evaluateT]

theorem evalT_reg (lk : Bytes → Simp.Lookup) (r : Reg) :
    Simp.evaluateT lk isRegister (.ident (regName r)) = .ok ⟨false, none⟩ (.ident (regName r)) := by
  simp [Simp.evaluateT, isRegister_regName]

theorem evalT_label (lk : Bytes → Simp.Lookup) (t : Nat) (h : lk (label t) = .found t) :
    Simp.evaluateT lk isRegister (.ident (label t)) = .ok ⟨true, none⟩ (.const t) := by
  simp [Simp.evaluateT, isRegister_label, h]

theorem evalT_mem_reg (lk : Bytes → Simp.Lookup) (ad r : Reg) :
    Simp.evaluateT lk isRegister (memA ad (rA r)) =
      .ok ⟨false, none⟩ (.addr (.bin .add (.ident (regName ad)) (.ident (regName r)))) := by
  apply Simp.evaluateT_of_evaluate
  have ha : C04.regIdent (rA ad) = true := isRegister_regName ad
  have hr : C04.regIdent (rA r) = true := isRegister_regName r
  rw [memA, Simp.evaluate_addr, Simp.evaluate_bin, C04.evaluate_regIdent lk ha, C04.evaluate_regIdent lk hr]
  simp only [rA, C04.afterRaw_regreg]
  rfl

theorem evalT_mem_imm (lk : Bytes → Simp.Lookup) (ad : Reg) (v : Int) (hv : 0 ≤ v) :
    Simp.evaluateT lk isRegister (memA ad (.const v)) =
      .ok ⟨false, none⟩ (.addr (if v = 0 then .ident (regName ad) else .bin .add (.ident (regName ad)) (.const v))) := by
  apply Simp.evaluateT_of_evaluate
  have ha : C04.regIdent (rA ad) = true := isRegister_regName ad
  have hc : Simp.evaluate lk isRegister (.const v) = .ok (⟨false, none⟩, .const v) := by simp [Simp.evaluate]
  rw [memA, Simp.evaluate_addr, Simp.evaluate_bin, C04.evaluate_regIdent lk ha, hc]
  by_cases h0 : v = 0
  · subst h0; simp only [rA, C04.afterRaw_regconst_zero]; rfl
  · simp only [rA, C04.afterRaw_regconst_pos _ _ _ (by omega : 0 < v), if_neg h0]; rfl

theorem evalOK_simp (eval : Arg → EvalOut) (lk : Bytes → Simp.Lookup) (hE : EvalIsSimp eval lk) (i : Instr) (a : Nat)
    (hl : ∀ t, targetOf i a = some t → lk (label t) = .found (t : Int)) (hm : MemNonneg i) : EvalOK eval i a := by
  refine ⟨fun v => hE _ _ _ (evalT_const lk v), fun r => hE _ _ _ (evalT_reg lk r),
    fun t ht => hE _ _ _ (evalT_label lk t (hl t ht)), ?_⟩
  intro ad o hmo
  cases o with
  | reg r =>
    refine ⟨_, hE _ _ _ (evalT_mem_reg lk ad r), fun idx => rfl⟩
  | imm v =>
    have hv := hm ad v hmo
    refine ⟨_, hE _ _ _ (evalT_mem_imm lk ad v hv), fun idx => ?_⟩
    by_cases h0 : v = 0
    · subst h0
      simp only [if_true, irA, rA, addrOff, narrowI32]
      cases regl (regName ad) <;> simp
    · simp only [h0, if_false, irA, rA]

end Trion.Show
