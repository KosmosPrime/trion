import TrionModel.Lemmas.AsmPrim
/-!
# `Trion.Asm`: the directives return and keep the invariant
-/
namespace Trion.Asm
open Trion

theorem getConstant_known {b : Bool} {st : St} (h : Good b st) {n : Bytes} {r : Realm} {lk : Simp.Lookup}
    (hg : getConstant st n r = .ok lk) (hk : lk ≠ .notFound) : Front.isRegister n = false := by
  cases r with
  | global =>
    simp only [getConstant, Out.ok.injEq] at hg
    subst hg
    unfold Table.get at hk
    split at hk
    · exact absurd rfl hk
    · rename_i hf; exact h.gtab _ _ hf
    · rename_i hf; exact h.gtab _ _ hf
  | loc =>
    simp only [getConstant] at hg
    split at hg
    · cases hg
    · rename_i l hl
      simp only [Out.ok.injEq] at hg
      subst hg
      unfold Table.get at hk
      split at hk
      · exact absurd rfl hk
      · rename_i hf; exact h.ltab l hl _ _ hf
      · rename_i hf; exact h.ltab l hl _ _ hf

/-- what `.import`, `.export` and the closure of `.global` do with the answer of `insert_constant` -/
theorem insert_result_ret {b : Bool} {st : St} (h : Good b st) (n : Bytes) (v : Int) (r : Realm) (hr : r = .loc → b = true)
    (hn : Front.isRegister n = false) (env : Env) (line col : Nat) (mk : Realm → Kind) (lv : Level) :
    (match insertConstant st n v r with
      | .ok (st', .ok _) => .ok (st', Res.ok)
      | .ok (st', .error (.duplicate r')) => .ok (st'.push env line col (mk r'), .err lv)
      | .ok (_, .error .reserved) => .stop .panic
      | .stop s => .stop s : Out (St × Res)).Ret fun x => Step b st x.1 := by
  obtain ⟨⟨st1, x⟩, hi, s1⟩ := (insertConstant_ret h n v r hr).get
  rw [hi]
  cases x with
  | ok _ => exact s1
  | error e =>
    cases e with
    | duplicate r' => exact s1.push ..
    | reserved => have := insertConstant_reserved hi; rw [hn] at this; cases this

theorem runGlobalCopy_ret {env : Env} {st : St} (h : Good true st) (name : Bytes) (line col : Nat)
    (hn : Front.isRegister name = false) : (runGlobalCopy name line col env st).Ret fun x => Step true st x.1 := by
  obtain ⟨l, hl, hg⟩ := getConstant_loc_eq (h.inFile rfl).1 name
  unfold runGlobalCopy
  rw [hg]
  cases hlk : l.get name with
  | notFound => exact (Step.refl h).push ..
  | deferred => exact (Step.refl h).push ..
  | found v => exact insert_result_ret h name v .global (fun e => nomatch e) hn ..

theorem globalDirective_ret {env : Env} {st : St} (h : Good true st) (g : GDir) (line col : Nat) (args : List Arg) :
    (globalDirective g env st line col args).Ret fun x => Step true st x.1 := by
  unfold globalDirective
  split
  · exact (Step.refl h).push ..
  · rename_i har
    obtain ⟨a, rfl⟩ := arity_one har
    cases a with
    | ident name =>
      simp only
      cases g with
      | global =>
        simp only
        obtain ⟨⟨st1, x⟩, hdc, s1⟩ := (deferConstant_ret h name .global (fun e => nomatch e)).get
        rw [hdc]
        cases x with
        | error e => cases e <;> exact s1.push ..
        | ok u =>
          -- announced to the includer: the entry is there, without a value
          obtain ⟨hreg, _, hst1⟩ := deferConstant_global_ok hdc
          obtain ⟨l, hl, hg⟩ := getConstant_loc_eq (s1.1.inFile rfl).1 name
          dsimp only at s1 hl hg
          have hfill : st1.globals.find name = some none := by rw [hst1]; simp [find_set]
          have queue : ∀ st2, Step true st st2 →
              (match addTask st2 (.globalCopy name line col) .loc with
                | .ok st3 => .ok (st3, Res.ok)
                | .stop r => .stop r : Out (St × Res)).Ret fun x => Step true st x.1 := by
            intro st2 s2
            obtain ⟨st3, hat3, s3⟩ := (addTask_ret s2.1 (.globalCopy name line col) .loc hreg (fun _ => rfl) (fun e => nomatch e)).get
            rw [hat3]
            exact s2.trans s3
          simp only [hg]
          cases hlk : l.get name with
          | found v =>
            simp only
            obtain ⟨_, hi, s2⟩ := (insertConstant_ret s1.1 name v .global (fun e => nomatch e)).get
            rw [insertConstant_global hreg, hfill] at hi ⊢
            cases hi
            exact s1.trans s2
          | notFound =>
            simp only
            obtain ⟨_, hd, s2⟩ := (deferConstant_ret s1.1 name .loc (fun _ => rfl)).get
            rw [deferConstant_loc hreg hl, get_notFound hlk] at hd ⊢
            cases hd
            exact queue _ (s1.trans s2)
          | deferred => simp only; exact queue _ s1
      | import_ =>
        simp only [show (GDir.import_ = GDir.export_) = False from by simp, if_false]
        cases hlk : st.globals.get name with
        | notFound => simp only [getConstant, hlk]; exact (Step.refl h).push ..
        | deferred =>
          simp only [getConstant, hlk, if_true]
          have hreg := getConstant_known h (r := .global) (n := name) (by simp [getConstant]; rfl) (by rw [hlk]; simp)
          obtain ⟨⟨st1, x⟩, hdc, s1⟩ := (deferConstant_ret h name .loc (fun _ => rfl)).get
          rw [hdc]
          cases x with
          | ok u => exact s1
          | error e =>
            cases e with
            | duplicate r => exact s1.push ..
            | reserved => have := deferConstant_reserved hdc; rw [hreg] at this; cases this
        | found v =>
          simp only [getConstant, hlk]
          have hreg := getConstant_known h (r := .global) (n := name) (by simp [getConstant]; rfl) (by rw [hlk]; simp)
          exact insert_result_ret h name v .loc (fun _ => rfl) hreg ..
      | export_ =>
        simp only [if_true]
        obtain ⟨l, hl, hg⟩ := getConstant_loc_eq (h.inFile rfl).1 name
        rw [hg]
        cases hlk : l.get name with
        | notFound => exact (Step.refl h).push ..
        | deferred =>
          simp only [show (GDir.export_ = GDir.import_) = False from by simp, if_false]
          exact (Step.refl h).push ..
        | found v =>
          have hreg := getConstant_known h hg (by rw [hlk]; simp)
          exact insert_result_ret h name v .global (fun e => nomatch e) hreg ..
    | _ => exact (Step.refl h).push ..

theorem evalStrict_ret {b : Bool} {env : Env} {st : St} (h : Good b st) (hb : env.paths.isEmpty = !b)
    (dir : String) (line col : Nat) (a : Arg) :
    (evalStrict dir env st line col a).Ret fun r => ∀ st' x, r = .error (st', x) → Step b st st' := by
  obtain ⟨ev, hev, -⟩ := (evalArg_ret h hb a).get
  unfold evalStrict
  rw [hev]
  cases ev with
  | complete a' => exact fun st' x e => nomatch e
  | deferred c a' => exact fun st' x e => by cases e; exact (Step.refl h).push ..
  | noSuch n a' => exact fun st' x e => by cases e; exact (Step.refl h).push ..
  | err e a' => exact fun st' x e => by cases e; exact (Step.refl h).push ..

theorem segResult_ret {b : Bool} {st : St} (h : Good b st) (env : Env) (line col : Nat) (op : Seg.Op)
    (wf : Seg.Op.wf st.seg op) (mk : Seg.Diag → Kind) :
    (segResult st env line col op mk).Ret fun x => Step b st x.1 := by
  obtain ⟨s', o, hs, _, h0, h1⟩ := segOp_safe h op wf
  unfold segResult
  rw [hs]
  cases o with
  | diag e => exact h1 ..
  | _ => exact h0 rfl

theorem addrDirective_ret {env : Env} {st : St} (h : Good true st) (hb : env.paths.isEmpty = false)
    (line col : Nat) (args : List Arg) : (addrDirective env st line col args).Ret fun x => Step true st x.1 := by
  unfold addrDirective
  split
  · exact (Step.refl h).push ..
  · rename_i har
    obtain ⟨a, rfl⟩ := arity_one har
    simp only
    obtain ⟨r, hr, hre⟩ := (evalStrict_ret h (by simpa using hb) "addr" line col a).get
    rw [hr]
    cases r with
    | error p => exact hre _ _ rfl
    | ok a' =>
      cases a' with
      | const v =>
        simp only
        split
        · exact segResult_ret h env line col (.select v.toNat)
            (by show v.toNat ≤ Map.u32Max; unfold Map.u32Max; omega) _
        · exact (Step.refl h).push ..
      | _ => exact (Step.refl h).push ..

theorem alignDirective_ret {env : Env} {st : St} (h : Good true st) (hb : env.paths.isEmpty = false)
    (line col : Nat) (args : List Arg) : (alignDirective env st line col args).Ret fun x => Step true st x.1 := by
  unfold alignDirective
  split
  · exact (Step.refl h).push ..
  · rename_i hact
    split
    · exact (Step.refl h).push ..
    · rename_i har
      obtain ⟨a, rfl⟩ := arity_one har
      simp only
      obtain ⟨r, hr, hre⟩ := (evalStrict_ret h (by simpa using hb) "align" line col a).get
      rw [hr]
      cases r with
      | error p => exact hre _ _ rfl
      | ok a' =>
        simp only
        cases hseg : st.seg.active with
        | none => simp [hseg] at hact
        | some seg =>
          simp only
          cases a' with
          | const v =>
            simp only
            split
            · split
              · exact .refl h
              · have hrem : seg.remaining = some (seg.maxLen - seg.buf.length) := by
                  unfold Seg.Active.remaining
                  rw [if_pos (h.inv.2.1 seg hseg).1]
                rw [hrem]
                simp only
                split
                · exact segResult_ret h env line col (.append _) trivial _
                · exact (Step.refl h).push ..
            · exact (Step.refl h).push ..
          | _ => exact (Step.refl h).push ..

theorem constDirective_ret {env : Env} {st : St} (h : Good true st) (hb : env.paths.isEmpty = false)
    (line col : Nat) (args : List Arg) : (constDirective env st line col args).Ret fun x => Step true st x.1 := by
  unfold constDirective
  split
  · exact (Step.refl h).push ..
  · rename_i har
    obtain ⟨a, b', rfl⟩ := arity_two har
    cases a with
    | ident name =>
      simp only
      obtain ⟨r, hr, hre⟩ := (evalStrict_ret h (by simpa using hb) "const" line col b').get
      rw [hr]
      cases r with
      | error p => exact hre _ _ rfl
      | ok a' =>
        cases a' with
        | const v =>
          obtain ⟨⟨st1, x⟩, hi, s1⟩ := (insertConstant_ret h name v .loc (fun _ => rfl)).get
          simp only [hi]
          cases x with
          | ok _ => exact s1
          | error e => cases e <;> exact s1.push ..
        | _ => exact (Step.refl h).push ..
    | _ => exact (Step.refl h).push ..

theorem appendData_ret {b : Bool} {st : St} (h : Good b st) (dir : String) (env : Env) (line col : Nat) (d : Bytes) :
    (appendData dir env st line col d).Ret fun x => Step b st x.1 := by
  unfold appendData
  exact segResult_ret h env line col (.append d) trivial _

theorem stringDirective_ret {env : Env} {st : St} (h : Good true st) (hb : env.paths.isEmpty = false)
    (fs : Bytes → Option Bytes) (dir : String) (line col : Nat) (args : List Arg) :
    (stringDirective fs dir env st line col args).Ret fun x => Step true st x.1 := by
  unfold stringDirective
  split
  · exact (Step.refl h).push ..
  · rename_i hact
    split
    · exact (Step.refl h).push ..
    · rename_i har
      obtain ⟨a, rfl⟩ := arity_one har
      cases a with
      | str s =>
        simp only
        split
        · split
          · exact (Step.refl h).push ..
          · exact (Step.refl h).push ..
          · exact appendData_ret h ..
        · split
          · exact appendData_ret h ..
          · cases hp : env.paths with
            | nil => simp [hp] at hb
            | cons curr rest =>
              simp only
              split
              · exact (Step.refl h).push ..
              · exact appendData_ret h ..
      | _ => exact (Step.refl h).push ..

end Trion.Asm
