import TrionModel.Lemmas.ArmAgree16
import TrionModel.Lemmas.ArmAgreeW
import TrionModel.Lemmas.CodecRtBase
/-! `Arm.decode` and the decoder model read every pattern alike. -/
namespace Trion.Codec
open Trion Trion.Arm

theorem width16 : ∀ rw ∈ table16, rw.n ≠ 32 := by decide

theorem width32 : ∀ rw ∈ table32, rw.n ≠ 16 := by decide

theorem widths : ∀ rw ∈ table, rw.n = 16 ∨ rw.n = 32 := by decide

theorem arm_decode_table16 (h : Nat) (hlt : h < 65536) : Arm.decode [h] = decodeIn table16 h 16 := by
  simp only [Arm.decode, List.all_cons, List.all_nil, Bool.and_true, decide_eq_true_eq, hlt, if_true, word, table,
    List.length_cons, List.length_nil, Nat.pow_zero, Nat.mul_one, Nat.add_zero, Nat.zero_add]
  exact decodeIn_append_right (NoFit_of_width width32)

theorem arm_decode_table32 (h0 h1 : Nat) (b0 : h0 < 65536) (b1 : h1 < 65536) :
    Arm.decode [h0, h1] = decodeIn table32 (h0 * 65536 + h1) 32 := by
  simp only [Arm.decode, List.all_cons, List.all_nil, Bool.and_true, Bool.and_eq_true, decide_eq_true_eq, b0, b1,
    and_self, if_true, word, table, List.length_cons, List.length_nil, Nat.pow_zero, Nat.pow_one, Nat.mul_one,
    Nat.add_zero, Nat.zero_add, Nat.reduceMul, Nat.reduceAdd]
  exact decodeIn_append_left (NoFit_of_width width16)

theorem arm_decode_narrow (h : Nat) (ht : h / 2048 < 29) : Arm.decode [h] = toOpt (decode16 h) := by
  rw [arm_decode_table16 h (by omega), agree_table16 h ht]

theorem arm_decode_lone_wide (h : Nat) (hlt : h < 65536) (ht : 29 ≤ h / 2048) : Arm.decode [h] = none := by
  rw [arm_decode_table16 h hlt, table16_group h hlt]
  rcases (by omega : h / 2048 = 29 ∨ h / 2048 = 30 ∨ h / 2048 = 31) with e | e | e <;> rw [e] <;> rfl

theorem arm_decode_pair (h0 h1 : Nat) (b0 : h0 < 65536) (b1 : h1 < 65536) :
    Arm.decode [h0, h1] = if 29 ≤ h0 / 2048 then toOpt (decode32 h0 h1) else none := by
  rw [arm_decode_table32 h0 h1 b0 b1]
  split
  · rename_i t; exact agree_table32 h0 h1 b0 b1 t
  · exact table32_low h0 h1 b0 b1 (by omega)

theorem arm_decode_length (hws : List Nat) (h1 : hws.length ≠ 1) (h2 : hws.length ≠ 2) : Arm.decode hws = none := by
  unfold Arm.decode
  split
  · apply decodeIn_nofit
    apply NoFit_of_width
    intro rw m
    rcases widths rw m with e | e <;> omega
  · rfl

theorem arm_decode_bound {hws : List Nat} {i : Instr} (h : Arm.decode hws = some i) : ∀ w ∈ hws, w < 65536 := by
  unfold Arm.decode at h
  split at h
  · rename_i a; simpa using a
  · cases h

theorem arm_decode_iff (hws : List Nat) (i : Instr) : Arm.decode hws = some i ↔ Reads hws i := by
  constructor
  · intro h
    have hb := arm_decode_bound h
    match hws, h, hb with
    | [], h, _ => rw [arm_decode_length [] (by simp) (by simp)] at h; cases h
    | [w], h, hb =>
      have hlt : w < 65536 := hb w (by simp)
      by_cases ht : w / 2048 < 29
      · rw [arm_decode_narrow w ht] at h
        obtain ⟨n, hd⟩ := toOpt_some h
        have o := decode16_out w ht
        rw [hd] at o
        cases o
        exact .inl ⟨w, rfl, hlt, ht, hd⟩
      · rw [arm_decode_lone_wide w hlt (by omega)] at h; cases h
    | [w0, w1], h, hb =>
      have b0 : w0 < 65536 := hb w0 (by simp)
      have b1 : w1 < 65536 := hb w1 (by simp)
      rw [arm_decode_pair w0 w1 b0 b1] at h
      split at h
      · rename_i t
        obtain ⟨n, hd⟩ := toOpt_some h
        have o := decode32_out w0 w1
        rw [hd] at o
        cases o
        exact .inr ⟨w0, w1, rfl, b0, b1, t, hd⟩
      · cases h
    | a :: b :: c :: rest, h, _ => rw [arm_decode_length _ (by simp) (by simp)] at h; cases h
  · rintro (⟨w, rfl, _, ht, hd⟩ | ⟨w0, w1, rfl, b0, b1, t, hd⟩)
    · rw [arm_decode_narrow w ht, hd]; rfl
    · rw [arm_decode_pair w0 w1 b0 b1, if_pos t, hd]; rfl

end Trion.Codec
