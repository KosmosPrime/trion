import TrionModel.Lemmas.SimpE
import TrionModel.Lemmas.SimpFound
/-!
# Normal forms: every complete result of `evaluate` is a fixed point of `evaluate`

`NF isReg a`: every node `N` of `a` is a LOCAL fixed point of `simplify_raw` (`simplify_raw N = Ok(false)` and `N` unchanged)
and every identifier leaf satisfies `isReg` — the parameter says which identifiers may remain as leaves: the register
predicate for complete results (every other name has been replaced by its value), `fun _ => true` for all
results.  An `NF` tree is a fixed point of `evaluate` over every table, and `simplify_raw` of a node with `NF` children
yields an `NF` tree (through the direct fold, the modulo collapse, `neutralize_raw`, and the merge: `setC` / `dropC`
followed by the deep `neutralize`), so a complete result of `evaluate` (no `Deferred` cause) is `NF`.
With `fun _ => true` for the leaves, EVERY result is hereditarily a local fixed point, hence `nb`, hence the operands of
every `simplify_raw` call are `nb` and `evaluate` / `simplify` never panic.

The step that carries this is the swap at the top of `neutralize_raw` (`-(l - r)` and `0 - (l - r)` become `r - l`; F30 in
DESIGN.md): without it `-(l - r)` would be a result of `neutralize_raw` and no fixed point of `simplify_raw`.
-/
namespace Trion.Simp
open Trion

section
variable (isReg : Bytes → Bool)

mutual
def NF : Arg → Prop
  | .const _ => True
  | .ident s => isReg s = true
  | .str _ => True
  | .bin op l r => NF l ∧ NF r ∧ simplifyRaw (.bin op l r) = .ok (false, .bin op l r)
  | .neg v => NF v ∧ simplifyRaw (.neg v) = .ok (false, .neg v)
  | .not v => NF v ∧ simplifyRaw (.not v) = .ok (false, .not v)
  | .addr v => NF v ∧ simplifyRaw (.addr v) = .ok (false, .addr v)
  | .seq as => NFs as
  | .func _ as => NFs as
def NFs : Args → Prop
  | .nil => True
  | .cons a as => NF a ∧ NFs as
end

end

/-- does the operand contribute a constant to an `op` chain -/
def fnd (op : BinOp) (t : Arg) : Bool := isC t || (findC op t false).isFound

theorem mergeL_isFound (op : BinOp) (l : Arg) : (mergeL op l).isFound = fnd op l := by
  unfold mergeL fnd
  cases hl : cval l with
  | some c => simp [isC, hl, Find.isFound]
  | none => simp [isC, hl]

theorem mergeR_isFound (op : BinOp) (r : Arg) (hd : op ≠ .div) : (mergeR op r).isFound = fnd op r := by
  unfold mergeR fnd
  cases hr : cval r with
  | some c => simp [isC, hr, Find.isFound]
  | none =>
    have : (op == BinOp.div) = false := by cases op <;> simp_all
    simp [isC, hr, this, findC_isFound_inv]

theorem mergeR_div_isFound (r : Arg) : (mergeR .div r).isFound = isC r := by
  unfold mergeR
  cases hr : cval r with
  | some c => simp [isC, hr, Find.isFound]
  | none => simp [isC, hr, Find.isFound]

theorem lfix_bin {op : BinOp} {l r : Arg} (h : simplifyRaw (.bin op l r) = .ok (false, .bin op l r)) :
    isBad l = false ∧ isBad r = false ∧ ¬ (isC l = true ∧ isC r = true) ∧
    neutralizeRaw (.bin op l r) = .ok (false, .bin op l r) ∧
    (mergeable op = true → bothFound op l r = false) ∧
    (op = .mod → modCollapse l r = false) := by
  obtain ⟨b1, b2, ⟨hc, _⟩ | ⟨hlr, ⟨hc, _⟩ | ⟨hb, hm, hn⟩ | ⟨hc, _⟩⟩⟩ := simplifyRaw_bin_ok h
  · cases hc
  · cases hc
  · exact ⟨b1, b2, hlr, hn, hb, hm⟩
  · cases hc

theorem lfix_bin_intro {op : BinOp} {l r : Arg} (h1 : isBad l = false) (h2 : isBad r = false)
    (hlr : ¬ (isC l = true ∧ isC r = true)) (hn : neutralizeRaw (.bin op l r) = .ok (false, .bin op l r))
    (hb : mergeable op = true → bothFound op l r = false) (hm : op = .mod → modCollapse l r = false)
    (hpl : mergeL op l ≠ .panic) (hpr : mergeR op r ≠ .panic) :
    simplifyRaw (.bin op l r) = .ok (false, .bin op l r) := by
  rw [simplifyRaw_bin_rest op l r hlr]
  simp only [h1, h2, Bool.false_eq_true, if_false]
  cases hmg : mergeable op with
  | true => rw [if_pos rfl, merge_of_not_both (hb hmg) hpl hpr]; exact hn
  | false =>
    have : ¬ (op = .mod ∧ modCollapse l r = true) := fun ⟨e, h⟩ => by rw [hm e] at h; cases h
    rw [if_neg (by simp), if_neg this]; exact hn

theorem lfix_neg {v : Arg} (h : simplifyRaw (.neg v) = .ok (false, .neg v)) :
    isBad v = false ∧ isC v = false ∧ (∀ x y, v ≠ .bin .sub x y) ∧ (∀ w, v ≠ .neg w) := by
  obtain ⟨b, ⟨hc, _⟩ | ⟨hc, _⟩ | ⟨hc, _⟩ | ⟨_, _, h1, h2, h3⟩⟩ := simplifyRaw_neg_ok h
  · cases hc
  · cases hc
  · cases hc
  · exact ⟨b, h1, h2, h3⟩

theorem lfix_neg_intro {v : Arg} (h1 : isBad v = false) (h2 : isC v = false) (h3 : ∀ x y, v ≠ .bin .sub x y)
    (h4 : ∀ w, v ≠ .neg w) : simplifyRaw (.neg v) = .ok (false, .neg v) := by
  cases v with
  | bin op x y =>
    cases op
    case sub => exact absurd rfl (h3 x y)
    all_goals rfl
  | const c => simp [isC, cval] at h2
  | ident s => rfl
  | neg s => exact absurd rfl (h4 s)
  | not s => rfl
  | func n s => rfl
  | _ => simp [isBad] at h1

section
variable {isReg : Bytes → Bool}

theorem NF_nb_both : (∀ a, NF isReg a → nb a = true) ∧ (∀ as, NFs isReg as → nbs as = true) := by
  apply Arg.ind2
  case const => intro v _; rfl
  case ident => intro v _; rfl
  case str => intro v _; rfl
  case bin =>
    intro op l r ihl ihr h
    simp only [NF] at h
    exact nb_bin.2 ⟨ihl h.1, ihr h.2.1, (lfix_bin h.2.2).2.2.1⟩
  case neg =>
    intro v ih h
    simp only [NF] at h
    exact nb_neg.2 ⟨ih h.1, (lfix_neg h.2).2.1⟩
  case not => intro v ih h; simp only [NF] at h; simpa [nb] using ih h.1
  case addr => intro v ih h; simp only [NF] at h; simpa [nb] using ih h.1
  case seq => intro as ih h; simp only [NF] at h; simpa [nb] using ih h
  case func => intro n as ih h; simp only [NF] at h; simpa [nb] using ih h
  case nil => intro _; rfl
  case cons => intro a as iha ihas h; simp only [NFs] at h; simp [nbs, iha h.1, ihas h.2]

theorem NF_nb {a : Arg} (h : NF isReg a) : nb a = true := NF_nb_both.1 a h

theorem NF_neutralize_both :
    (∀ a, NF isReg a → neutralize a = .ok (false, a)) ∧ (∀ as, NFs isReg as → neutralizeArgs as = .ok (false, as)) := by
  apply Arg.ind2
  case const => intro v _; rfl
  case ident => intro v _; rfl
  case str => intro v _; rfl
  case bin =>
    intro op l r ihl ihr h
    simp only [NF] at h
    simp only [neutralize, ihl h.1, ihr h.2.1, (lfix_bin h.2.2).2.2.2.1, Bool.or_self]
  case neg =>
    intro v ih h
    simp only [NF] at h
    have hv := (lfix_neg h.2).2.2
    have : neutralizeRaw (.neg v) = .ok (false, .neg v) := by
      rcases neutralizeRaw_neg_cases v with h0 | ⟨x, y, rfl, _⟩ | ⟨w, rfl, _⟩
      · exact h0
      · exact absurd rfl (hv.1 x y)
      · exact absurd rfl (hv.2 w)
    simp only [neutralize, ih h.1, this, Bool.or_self]
  case not => intro v ih h; simp only [NF] at h; simp only [neutralize, ih h.1]
  case addr => intro v ih h; simp only [NF] at h; simp only [neutralize, ih h.1]
  case seq => intro as ih h; simp only [NF] at h; simp only [neutralize, ih h]
  case func => intro n as ih h; simp only [NF] at h; simp only [neutralize, ih h]
  case nil => intro _; rfl
  case cons =>
    intro a as iha ihas h
    simp only [NFs] at h
    simp only [neutralizeArgs, iha h.1, ihas h.2, Bool.or_self]

theorem NF_neutralize {a : Arg} (h : NF isReg a) : neutralize a = .ok (false, a) := NF_neutralize_both.1 a h

theorem NF_stable_both (lk : Bytes → Lookup) :
    (∀ a, NF isReg a → evaluateE lk isReg a = .ok ⟨false, none⟩ a) ∧
    (∀ as, NFs isReg as → evaluateArgsE lk isReg as = .ok ⟨false, none⟩ as) := by
  apply Arg.ind2
  case const => intro v _; rfl
  case ident => intro s h; simp only [NF] at h; simp [evaluateE, h]
  case str => intro v _; rfl
  case bin =>
    intro op l r ihl ihr h
    simp only [NF] at h
    simp only [evaluateE, ihl h.1, ihr h.2.1, afterRawE, simplifyRawE_ok_iff.2 h.2.2]
    rfl
  case neg =>
    intro v ih h
    simp only [NF] at h
    simp only [evaluateE, ih h.1, afterRawE, simplifyRawE_ok_iff.2 h.2]
    rfl
  case not =>
    intro v ih h
    simp only [NF] at h
    simp only [evaluateE, ih h.1, afterRawE, simplifyRawE_ok_iff.2 h.2]
    rfl
  case addr =>
    intro v ih h
    simp only [NF] at h
    simp only [evaluateE, ih h.1, afterRawE, simplifyRawE_ok_iff.2 h.2]
    rfl
  case seq => intro as ih h; simp only [NF] at h; simp only [evaluateE, ih h]
  case func => intro n as ih h; simp only [NF] at h; simp only [evaluateE, ih h]
  case nil => intro _; rfl
  case cons =>
    intro a as iha ihas h
    simp only [NFs] at h
    simp only [evaluateArgsE, iha h.1, ihas h.2]
    rfl

theorem NF_stable {a : Arg} (h : NF isReg a) (lk : Bytes → Lookup) : evaluateE lk isReg a = .ok ⟨false, none⟩ a :=
  (NF_stable_both lk).1 a h

end

theorem findC_add_sub (t : Arg) (i : Bool) : findC .add t i = findC .sub t i := by
  induction t using Arg.ind generalizing i with
  | bin op l r ihl ihr =>
    simp only [findC]
    have : sameFam .add op = sameFam .sub op := by cases op <;> rfl
    rw [this]
    split
    · split
      · split
        · rfl
        · rfl
        · rfl
        · rw [ihl, ihr]
      · rfl
    · rfl
  | neg v ih => simp only [findC, isAddSub]; exact ih _
  | _ => rfl

theorem fnd_add_sub (t : Arg) : fnd .add t = fnd .sub t := by
  unfold fnd; rw [findC_add_sub]

def additive (op : BinOp) : Prop := op = .add ∨ op = .sub

theorem fnd_additive {op op' : BinOp} (h : additive op) (h' : additive op') (t : Arg) : fnd op t = fnd op' t := by
  rcases h with rfl | rfl <;> rcases h' with rfl | rfl <;> first | rfl | exact fnd_add_sub t | exact (fnd_add_sub t).symm

theorem fnd_neg {op : BinOp} (h : additive op) {n : Arg} (hn : isC n = false) : fnd op (.neg n) = fnd op n := by
  have hi : isAddSub op = true := by rcases h with rfl | rfl <;> rfl
  unfold fnd
  simp only [isC_neg, Bool.false_or, hn, findC, hi, if_true]
  rw [findC_isFound_inv]

theorem stripNeg_not_neg {r : Arg} (h : ∀ n, r ≠ .neg n) (b : Bool) : stripNeg b r = (b, r, false) := by
  cases r with
  | neg n => exact absurd rfl (h n)
  | _ => rfl

section
variable {isReg : Bytes → Bool}

theorem NF_neg_inv {n : Arg} (h : NF isReg (.neg n)) :
    NF isReg n ∧ isBad n = false ∧ isC n = false ∧ (∀ x y, n ≠ .bin .sub x y) ∧ (∀ w, n ≠ .neg w) := by
  simp only [NF] at h
  exact ⟨h.1, lfix_neg h.2⟩

theorem stripNeg_NF (r : Arg) (hr : NF isReg r) (b : Bool) :
    NF isReg (stripNeg b r).2.1 ∧ (∀ n, (stripNeg b r).2.1 ≠ .neg n) ∧ isC (stripNeg b r).2.1 = isC r ∧
    (∀ x y, (stripNeg b r).2.1 = .bin .sub x y → r = .bin .sub x y ∧ (stripNeg b r).1 = b) ∧
    (∀ op, additive op → fnd op (stripNeg b r).2.1 = fnd op r) := by
  induction r using Arg.ind generalizing b with
  | neg n ih =>
    obtain ⟨hn, _, hc, hs, hs2⟩ := NF_neg_inv hr
    clear hs2
    obtain ⟨i1, i2, i3, i4, i5⟩ := ih hn (!b)
    simp only [stripNeg]
    refine ⟨i1, i2, by rw [i3, hc]; rfl, fun x y hxy => ?_, fun op hop => (by rw [i5 op hop, fnd_neg hop hc])⟩
    exact absurd (i4 x y hxy).1 (hs x y)
  | _ => exact ⟨hr, fun n h => (by cases h), rfl, fun x y h => ⟨h, rfl⟩, fun _ _ => rfl⟩

theorem normAddSub_NF {s : Bool} {r : Arg} (hr : NF isReg r) {ch s' : Bool} {r' : Arg}
    (he : normAddSub s r = .ok (ch, s', r')) :
    NF isReg r' ∧ (∀ n, r' ≠ .neg n) ∧ (∀ v, cval r' = some v → ¬ v < 0) ∧ isC r' = isC r ∧
    (∀ x y, r' = .bin .sub x y → r = .bin .sub x y ∧ s' = s) ∧
    (∀ op, additive op → fnd op r' = fnd op r) := by
  unfold normAddSub at he
  obtain ⟨i1, i2, i3, i4, i5⟩ := stripNeg_NF r hr s
  cases hc : cval (stripNeg s r).2.1 with
  | none =>
    simp only [hc, Res.ok.injEq, Prod.mk.injEq] at he
    obtain ⟨_, rfl, rfl⟩ := he
    exact ⟨i1, i2, fun v hv => (by rw [hc] at hv; cases hv), i3, fun x y h => i4 x y h, i5⟩
  | some v =>
    simp only [hc] at he
    by_cases hv : v < 0
    · simp only [hv, if_true] at he
      cases hn : checkedNeg v with
      | none => simp [hn] at he
      | some nv =>
        simp only [hn, Res.ok.injEq, Prod.mk.injEq] at he
        obtain ⟨_, _, rfl⟩ := he
        have hnv : nv = -v := by
          unfold checkedNeg checked at hn
          split at hn <;> simp at hn; exact hn.symm
        have hcs : isC (stripNeg s r).2.1 = true := cval_some_isC hc
        refine ⟨trivial, fun n h => (by cases h), fun w hw => ?_, by rw [← i3, hcs]; rfl, fun x y h => (by cases h),
          fun op hop => ?_⟩
        · simp only [cval, Option.some.injEq] at hw; omega
        · rw [← i5 op hop]
          unfold fnd
          simp [hcs]
    · simp only [hv, if_false, Res.ok.injEq, Prod.mk.injEq] at he
      obtain ⟨_, rfl, rfl⟩ := he
      exact ⟨i1, i2, fun w hw => (by rw [hc] at hw; cases hw; exact hv), i3, fun x y h => i4 x y h, i5⟩

theorem normAddSub_fix {s : Bool} {r : Arg} (h1 : ∀ n, r ≠ .neg n) (h2 : ∀ v, cval r = some v → ¬ v < 0) :
    normAddSub s r = .ok (false, s, r) := by
  unfold normAddSub
  rw [stripNeg_not_neg h1]
  cases hc : cval r with
  | none => simp only [hc]
  | some v => simp only [hc, if_neg (h2 v hc)]

end

section
variable {isReg : Bytes → Bool}

theorem opOf_additive {op : BinOp} (h : additive op) : (if decide (op = .sub) = true then BinOp.sub else BinOp.add) = op := by
  rcases h with rfl | rfl <;> rfl

theorem NF_bin_intro {op : BinOp} {l r : Arg} (hl : NF isReg l) (hr : NF isReg r) (h1 : isBad l = false)
    (h2 : isBad r = false) (hlr : ¬ (isC l = true ∧ isC r = true))
    (hstr : additive op → (∀ n, r ≠ .neg n) ∧ (∀ v, cval r = some v → ¬ v < 0))
    (hmain : neutralMain op l r = .bin op l r)
    (hb : mergeable op = true → bothFound op l r = false) (hm : op = .mod → modCollapse l r = false) :
    NF isReg (.bin op l r) := by
  simp only [NF]
  refine ⟨hl, hr, lfix_bin_intro h1 h2 hlr ?_ hb hm (mergeL_ne_panic op l (NF_nb hl)) (mergeR_ne_panic op r (NF_nb hr))⟩
  have hbin : neutralizeRaw (.bin op l r) = neutralizeBin op l r := by
    rcases neutralizeRaw_bin_cases op l r with h0 | ⟨x, y, rfl, rfl, rfl, _⟩
    · exact h0
    · simp [neutralMain, cval, neutralL] at hmain
  rw [hbin]
  by_cases hop : op = .add ∨ op = .sub
  · obtain ⟨s1, s2⟩ := hstr hop
    simp only [neutralizeBin, hop, if_true, normAddSub_fix s1 s2, opOf_additive hop]
    rw [neutralTail_intro h1 h2, hmain]
  · simp only [neutralizeBin, hop, if_false]
    rw [neutralTail_intro h1 h2, hmain]

theorem bothFound_eq (op : BinOp) (l r : Arg) (hd : op ≠ .div) : bothFound op l r = (fnd op l && fnd op r) := by
  unfold bothFound
  rw [mergeL_isFound, mergeR_isFound op r hd]

theorem additive_mergeable {op : BinOp} (h : additive op) : mergeable op = true := by
  rcases h with rfl | rfl <;> rfl

theorem additive_ne_div {op : BinOp} (h : additive op) : op ≠ .div := by
  rcases h with rfl | rfl <;> intro h <;> cases h

theorem neutralizeBin_NF {op : BinOp} {l r : Arg} (hl : NF isReg l) (hr : NF isReg r)
    (hlr : ¬ (isC l = true ∧ isC r = true))
    (hb : mergeable op = true → bothFound op l r = false) (hm : op = .mod → modCollapse l r = false)
    (h0 : l = .const 0 → op = .sub → ∀ x y, r ≠ .bin .sub x y)
    {c : Bool} {a' : Arg} (he : neutralizeBin op l r = .ok (c, a')) :
    NF isReg a' ∧ isBad a' = false ∧ isC a' = false := by
  have key : ∃ op' r', NF isReg r' ∧ isBad l = false ∧ isBad r' = false ∧ a' = neutralMain op' l r' ∧ isC r' = isC r ∧
      (additive op' → (∀ n, r' ≠ .neg n) ∧ (∀ v, cval r' = some v → ¬ v < 0)) ∧
      (mergeable op' = true → bothFound op' l r' = false) ∧ (op' = .mod → modCollapse l r' = false) ∧
      (l = .const 0 → op' = .sub → ∀ x y, r' ≠ .bin .sub x y) := by
    obtain ⟨op', r', t1, t2, t4, ⟨hop, rfl, rfl⟩ | ⟨hop, s', hn, rfl⟩⟩ := neutralizeBin_ok he
    · exact ⟨_, _, hr, t1, t2, t4, rfl, fun h => absurd h hop, hb, hm, h0⟩
    · obtain ⟨n1, n2, n3, n4, n5, n6⟩ := normAddSub_NF hr hn
      have hop' : additive (if s' = true then BinOp.sub else BinOp.add) := by
        cases s' <;> simp [additive]
      refine ⟨_, r', n1, t1, t2, t4, n4, fun _ => ⟨n2, n3⟩, fun _ => ?_, fun hx => ?_, fun hl0 hs x y hxy => ?_⟩
      · have h1 := hb (additive_mergeable hop)
        rw [bothFound_eq _ _ _ (additive_ne_div hop)] at h1
        rw [bothFound_eq _ _ _ (additive_ne_div hop'), fnd_additive hop' hop l, n6 _ hop', fnd_additive hop' hop r]
        exact h1
      · cases s' <;> simp at hx
      · obtain ⟨g1, g2⟩ := n5 x y hxy
        have hs' : s' = true := by
          cases s'
          · simp at hs
          · rfl
        rw [hs'] at g2
        have : op = .sub := by simpa using g2.symm
        exact h0 hl0 this x y g1
  obtain ⟨op', r', hr', b1, b2, ha, hcr, hstr, hb', hm', h0'⟩ := key
  have hlr' : ¬ (isC l = true ∧ isC r' = true) := by rw [hcr]; exact hlr
  subst ha
  cases hcl : cval l with
  | some v =>
    have hlc := cval_some_eq hcl
    have hcr' : isC r' = false := by
      cases hx : isC r'
      · rfl
      · exact (hlr' ⟨cval_some_isC hcl, hx⟩).elim
    by_cases hn1 : some v = neutralL op'
    · have : neutralMain op' l r' = r' := by unfold neutralMain; simp only [hcl]; rw [if_pos hn1]
      rw [this]; exact ⟨hr', b2, hcr'⟩
    · by_cases hn2 : op' = .sub ∧ v = 0
      · have : neutralMain op' l r' = .neg r' := by unfold neutralMain; simp only [hcl]; rw [if_neg hn1, if_pos hn2]
        rw [this]
        refine ⟨?_, rfl, rfl⟩
        simp only [NF]
        exact ⟨hr', lfix_neg_intro b2 hcr' (h0' (by rw [hlc, hn2.2]) hn2.1) (hstr (.inr hn2.1)).1⟩
      · have hmain : neutralMain op' l r' = .bin op' l r' := by
          unfold neutralMain; simp only [hcl, hn1, if_false, hn2]
        rw [hmain]
        exact ⟨NF_bin_intro hl hr' b1 b2 hlr' hstr hmain hb' hm', rfl, rfl⟩
  | none =>
    cases hcr2 : cval r' with
    | some v =>
      by_cases hn1 : some v = neutralR op'
      · have : neutralMain op' l r' = l := by unfold neutralMain; simp only [hcl, hcr2]; rw [if_pos hn1]
        rw [this]; exact ⟨hl, b1, cval_none_iff.1 hcl⟩
      · have hmain : neutralMain op' l r' = .bin op' l r' := by
          unfold neutralMain; simp only [hcl, hcr2, hn1, if_false]
        rw [hmain]
        exact ⟨NF_bin_intro hl hr' b1 b2 hlr' hstr hmain hb' hm', rfl, rfl⟩
    | none =>
      have hmain : neutralMain op' l r' = .bin op' l r' := by
        unfold neutralMain; simp only [hcl, hcr2]
      rw [hmain]
      exact ⟨NF_bin_intro hl hr' b1 b2 hlr' hstr hmain hb' hm', rfl, rfl⟩

end

theorem fnd_bin_false {ty op : BinOp} {x y : Arg} (hch : chainOp op = true) (hsf : sameFam ty op = true)
    (hxy : ¬ (isC x = true ∧ isC y = true)) (hnx : nb x = true) (h : fnd ty (.bin op x y) = false) :
    fnd ty x = false ∧ fnd ty y = false := by
  unfold fnd at h ⊢
  simp only [isC_bin, Bool.false_or, findC, hch, hsf, if_true] at h
  cases hx : cval x with
  | some a =>
    cases hy : cval y with
    | some b => exact (hxy ⟨cval_some_isC hx, cval_some_isC hy⟩).elim
    | none => simp [hx, hy, Find.isFound] at h
  | none =>
    cases hy : cval y with
    | some b => simp [hx, hy, Find.isFound] at h
    | none =>
      simp only [hx, hy] at h
      have hx' : isC x = false := cval_none_iff.1 hx
      have hy' : isC y = false := cval_none_iff.1 hy
      simp only [hx', hy', Bool.false_or]
      cases hf : findC ty x false with
      | found c s => simp [hf, Find.isFound] at h
      | panic => exact absurd hf (findC_ne_panic ty x hnx false)
      | none =>
        simp only [hf] at h
        rw [findC_isFound_inv] at h
        exact ⟨by simp [Find.isFound], h⟩

theorem fnd_bin_intro {ty op : BinOp} {x y : Arg} (hx : fnd ty x = false) (hy : fnd ty y = false) :
    fnd ty (.bin op x y) = false := by
  unfold fnd at hx hy ⊢
  simp only [Bool.or_eq_false_iff] at hx hy
  have cx : cval x = none := cval_none_iff.2 hx.1
  have cy : cval y = none := cval_none_iff.2 hy.1
  have hx2 : findC ty x false = .none ∨ findC ty x false = .panic := by
    cases hf : findC ty x false with
    | found c s => rw [hf] at hx; simp [Find.isFound] at hx
    | none => exact .inl rfl
    | panic => exact .inr rfl
  simp only [isC_bin, Bool.false_or, findC, cx, cy]
  split
  · split
    · rcases hx2 with h | h
      · rw [h]; simp only; rw [findC_isFound_inv]; exact hy.2
      · rw [h]; rfl
    · rfl
  · split
    · split
      · exact hx.2
      · rfl
    · rfl

section
variable {isReg : Bytes → Bool}

theorem NF_bin_inv {op : BinOp} {l r : Arg} (h : NF isReg (.bin op l r)) :
    NF isReg l ∧ NF isReg r ∧ simplifyRaw (.bin op l r) = .ok (false, .bin op l r) := by
  simpa only [NF] using h

theorem ne_bin_self (op : BinOp) (x y : Arg) : x ≠ .bin op x y := by
  intro h
  have := congrArg sizeOf h
  simp at this
  omega

theorem NF_sub_rhs {x y : Arg} (h : NF isReg (.bin .sub x y)) : y ≠ .const 0 := by
  rintro rfl
  obtain ⟨hx, _, hf⟩ := NF_bin_inv h
  obtain ⟨b1, _, hlr, hn, _, _⟩ := lfix_bin hf
  have hcx : cval x = none := by
    cases hc : cval x with
    | none => rfl
    | some v => exact (hlr ⟨cval_some_isC hc, rfl⟩).elim
  have hbin : neutralizeRaw (.bin .sub x (.const 0)) = neutralizeBin .sub x (.const 0) := by
    rcases neutralizeRaw_bin_cases .sub x (.const 0) with h0 | ⟨_, _, _, _, hh, _⟩
    · exact h0
    · cases hh
  rw [hbin] at hn
  have e : neutralizeBin .sub x (.const 0) = .ok (false, x) := by
    have hnorm : normAddSub (decide True) (.const 0) = .ok (false, true, .const 0) := by
      show normAddSub true (.const 0) = _
      exact normAddSub_fix (fun n h => by cases h) (fun v hv => by simp only [cval, Option.some.injEq] at hv; omega)
    simp only [neutralizeBin, or_true, if_true, hnorm]
    rw [neutralTail_intro b1 (show isBad (Arg.const 0) = false from rfl)]
    unfold neutralMain
    simp only [hcx]
    simp [cval, neutralR]
  rw [e] at hn
  simp only [Res.ok.injEq, Prod.mk.injEq, true_and] at hn
  exact ne_bin_self _ _ _ hn

theorem bothFound_sub_comm {x y : Arg} : bothFound .sub y x = bothFound .sub x y := by
  rw [bothFound_eq _ _ _ (by intro h; cases h), bothFound_eq _ _ _ (by intro h; cases h), Bool.and_comm]

theorem neutralizeBin_swap_NF {x y : Arg} (h : NF isReg (.bin .sub x y)) {c : Bool} {a' : Arg}
    (he : neutralizeBin .sub y x = .ok (c, a')) : NF isReg a' ∧ isBad a' = false ∧ isC a' = false := by
  obtain ⟨hx, hy, hf⟩ := NF_bin_inv h
  obtain ⟨_, _, hlr, _, hb, _⟩ := lfix_bin hf
  refine neutralizeBin_NF hy hx (fun ⟨p, q⟩ => hlr ⟨q, p⟩) (fun _ => ?_) (fun hx => by cases hx) (fun hy0 _ => ?_) he
  · rw [bothFound_sub_comm]; exact hb rfl
  · exact absurd hy0 (NF_sub_rhs h)

theorem neutralizeRaw_bin_NF {op : BinOp} {l r : Arg} (hl : NF isReg l) (hr : NF isReg r)
    (hlr : ¬ (isC l = true ∧ isC r = true))
    (hb : mergeable op = true → bothFound op l r = false) (hm : op = .mod → modCollapse l r = false)
    {c : Bool} {a' : Arg} (he : neutralizeRaw (.bin op l r) = .ok (c, a')) :
    NF isReg a' ∧ isBad a' = false ∧ isC a' = false := by
  by_cases h2 : op = .sub ∧ l = .const 0 ∧ ∃ x y, r = .bin .sub x y
  · obtain ⟨rfl, rfl, x, y, rfl⟩ := h2
    rw [neutralizeRaw_zero_sub] at he
    obtain ⟨_, c', he'⟩ := swapped_ok he
    exact neutralizeBin_swap_NF hr he'
  · rcases neutralizeRaw_bin_cases op l r with h0 | ⟨x, y, h3, h4, h5, _⟩
    · rw [h0] at he
      exact neutralizeBin_NF hl hr hlr hb hm (fun e1 e2 x y e3 => h2 ⟨e2, e1, x, y, e3⟩) he
    · exact absurd ⟨h3, h4, x, y, h5⟩ h2

theorem NF_neutralizeRaw {a : Arg} (h : NF isReg a) : neutralizeRaw a = .ok (false, a) := by
  cases a with
  | bin op l r => exact (lfix_bin (NF_bin_inv h).2.2).2.2.2.1
  | neg v =>
    obtain ⟨_, _, _, h3, h4⟩ := NF_neg_inv h
    rcases neutralizeRaw_neg_cases v with h0 | ⟨x, y, rfl, _⟩ | ⟨w, rfl, _⟩
    · exact h0
    · exact absurd rfl (h3 x y)
    · exact absurd rfl (h4 w)
  | _ => rfl

theorem neutralizeRaw_neg_NF {v : Arg} (hv : NF isReg v) (hc : isC v = false) (hbad : isBad v = false)
    {c : Bool} {a' : Arg} (he : neutralizeRaw (.neg v) = .ok (c, a')) :
    NF isReg a' ∧ isBad a' = false ∧ isC a' = false := by
  by_cases h2 : ∃ x y, v = .bin .sub x y
  · obtain ⟨x, y, rfl⟩ := h2
    rw [neutralizeRaw_neg_sub] at he
    obtain ⟨_, c', he'⟩ := swapped_ok he
    exact neutralizeBin_swap_NF hv he'
  · by_cases h4 : ∃ w, v = .neg w
    · obtain ⟨w, rfl⟩ := h4
      obtain ⟨hw, hbw, hcw, _, _⟩ := NF_neg_inv hv
      rw [neutralizeRaw_neg_neg, NF_neutralizeRaw hw] at he
      simp only [swapped, Res.ok.injEq, Prod.mk.injEq] at he
      obtain ⟨_, rfl⟩ := he
      exact ⟨hw, hbw, hcw⟩
    · rcases neutralizeRaw_neg_cases v with h0 | ⟨x, y, h3, _⟩ | ⟨w, h3, _⟩
      · rw [h0] at he
        simp only [Res.ok.injEq, Prod.mk.injEq] at he
        obtain ⟨_, rfl⟩ := he
        refine ⟨?_, rfl, rfl⟩
        simp only [NF]
        exact ⟨hv, lfix_neg_intro hbad hc (fun x y e => h2 ⟨x, y, e⟩) (fun w e => h4 ⟨w, e⟩)⟩
      · exact absurd ⟨x, y, h3⟩ h2
      · exact absurd ⟨w, h3⟩ h4

end

theorem fnd_isC {ty : BinOp} {t : Arg} (h : fnd ty t = false) : isC t = false := by
  unfold fnd at h
  simp only [Bool.or_eq_false_iff] at h
  exact h.1

theorem sameFam_cases {ty op : BinOp} (h : sameFam ty op = true) : ty = op ∨ (additive ty ∧ additive op) := by
  cases ty <;> cases op <;> simp [sameFam, isAddSub, additive] at h ⊢

theorem findC_sameFam {ty op : BinOp} (h : sameFam ty op = true) (t : Arg) (i : Bool) : findC ty t i = findC op t i := by
  rcases sameFam_cases h with rfl | ⟨h1, h2⟩
  · rfl
  · rcases h1 with rfl | rfl <;> rcases h2 with rfl | rfl <;>
      first | rfl | exact findC_add_sub t i | exact (findC_add_sub t i).symm

theorem fnd_sameFam {ty op : BinOp} (h : sameFam ty op = true) (t : Arg) : fnd ty t = fnd op t := by
  unfold fnd; rw [findC_sameFam h]

section
variable {isReg : Bytes → Bool}

theorem neutralizeBin_fnd {ty op : BinOp} {l r : Arg} (hr : NF isReg r) (hty : additive op → additive ty)
    (hfl : fnd ty l = false) (hfr : fnd ty r = false) {c : Bool} {a' : Arg}
    (he : neutralizeBin op l r = .ok (c, a')) : fnd ty a' = false := by
  have hcl : cval l = none := cval_none_iff.2 (fnd_isC hfl)
  have key : ∃ op' r', a' = neutralMain op' l r' ∧ isC r' = false ∧ fnd ty r' = false := by
    obtain ⟨op', r', _, _, t4, ⟨_, rfl, rfl⟩ | ⟨hop, s', hn, _⟩⟩ := neutralizeBin_ok he
    · exact ⟨_, _, t4, fnd_isC hfr, hfr⟩
    · obtain ⟨_, _, _, n4, _, n6⟩ := normAddSub_NF hr hn
      exact ⟨_, r', t4, by rw [n4]; exact fnd_isC hfr, by rw [n6 ty (hty hop)]; exact hfr⟩
  obtain ⟨op', r', rfl, hcr, hfr'⟩ := key
  have : neutralMain op' l r' = .bin op' l r' := by
    unfold neutralMain; simp only [hcl, cval_none_iff.2 hcr]
  rw [this]
  exact fnd_bin_intro hfl hfr'

theorem neutralizeRaw_bin_fnd {ty op : BinOp} {l r : Arg} (hr : NF isReg r) (hty : additive op → additive ty)
    (hfl : fnd ty l = false) (hfr : fnd ty r = false) {c : Bool} {a' : Arg}
    (he : neutralizeRaw (.bin op l r) = .ok (c, a')) : fnd ty a' = false := by
  rcases neutralizeRaw_bin_cases op l r with h0 | ⟨x, y, _, hl0, _, _⟩
  · rw [h0] at he; exact neutralizeBin_fnd hr hty hfl hfr he
  · rw [hl0] at hfl; simp [fnd] at hfl

theorem neutralizeRaw_neg_fnd {ty : BinOp} {v : Arg} (hv : NF isReg v) (hty : additive ty)
    (hfv : fnd ty v = false) {c : Bool} {a' : Arg} (he : neutralizeRaw (.neg v) = .ok (c, a')) :
    fnd ty a' = false := by
  rcases neutralizeRaw_neg_cases v with h0 | ⟨x, y, rfl, h0⟩ | ⟨w, rfl, h0⟩
  · rw [h0] at he
    simp only [Res.ok.injEq, Prod.mk.injEq] at he
    obtain ⟨_, rfl⟩ := he
    rw [fnd_neg hty (fnd_isC hfv)]; exact hfv
  · rw [h0] at he
    obtain ⟨_, c', he'⟩ := swapped_ok he
    obtain ⟨hx, hy, hf⟩ := NF_bin_inv hv
    have hsf : sameFam ty .sub = true := by rcases hty with rfl | rfl <;> rfl
    obtain ⟨fx, fy⟩ := fnd_bin_false (by rfl) hsf (lfix_bin hf).2.2.1 (NF_nb hx) hfv
    exact neutralizeBin_fnd hx (fun _ => hty) fy fx he'
  · obtain ⟨hw, _, hcw, _, _⟩ := NF_neg_inv hv
    rw [h0, NF_neutralizeRaw hw] at he
    simp only [swapped, Res.ok.injEq, Prod.mk.injEq] at he
    obtain ⟨_, rfl⟩ := he
    rw [← fnd_neg hty hcw]; exact hfv

end

/-! ## the merge: `setC` / `dropC`, then the deep `neutralize` -/

theorem chainOp_mergeable {op : BinOp} (h : chainOp op = true) : mergeable op = true := by
  cases op <;> simp [chainOp] at h <;> rfl

theorem chainOp_ne_div {op : BinOp} (h : chainOp op = true) : op ≠ .div := by
  intro e; subst e; simp [chainOp] at h

theorem mergeable_ne_mod {op : BinOp} (h : mergeable op = true) : op ≠ .mod := by
  intro e; subst e; simp [mergeable] at h

theorem sameFam_additive {ty op : BinOp} (h : sameFam ty op = true) : additive op → additive ty := by
  intro ha
  rcases sameFam_cases h with rfl | ⟨h1, _⟩
  · exact ha
  · exact h1

section
variable {isReg : Bytes → Bool}

theorem neutralize_NF_eq {a : Arg} (h : NF isReg a) {k : Bool} {t : Arg} (he : neutralize a = .ok (k, t)) : t = a := by
  rw [NF_neutralize h] at he; cases he; rfl

/-- `neutralize` of a node of an operator chain one of whose operands contributes no constant -/
theorem neutralize_chain_NF {op : BinOp} {X Y x y : Arg} {k : Bool} {t : Arg}
    (he : neutralize (.bin op X Y) = .ok (k, t))
    (hX : ∀ k x', neutralize X = .ok (k, x') → x' = x) (hY : ∀ k y', neutralize Y = .ok (k, y') → y' = y)
    (hx : NF isReg x) (hy : NF isReg y) (hm : mergeable op = true)
    (hf : (isC x = false ∧ (mergeL op x).isFound = false) ∨ (isC y = false ∧ (mergeR op y).isFound = false)) :
    ∃ c3, neutralizeRaw (.bin op x y) = .ok (c3, t) ∧ NF isReg t ∧ isBad t = false ∧ isC t = false := by
  obtain ⟨c1, x', c2, y', c3, e1, e2, e3⟩ := neutralize_bin_ok he
  cases hX _ _ e1
  cases hY _ _ e2
  refine ⟨c3, e3, neutralizeRaw_bin_NF hx hy ?_ (fun _ => ?_) (fun e => absurd e (mergeable_ne_mod hm)) e3⟩
  · rcases hf with ⟨h, _⟩ | ⟨h, _⟩ <;> simp [h]
  · unfold bothFound; rcases hf with ⟨_, h⟩ | ⟨_, h⟩ <;> simp [h]


theorem NF_chain_inv {op : BinOp} {l r : Arg} (h : NF isReg (.bin op l r)) (hm : mergeable op = true) :
    NF isReg l ∧ NF isReg r ∧ isBad l = false ∧ isBad r = false ∧ bothFound op l r = false := by
  obtain ⟨hl, hr, hfix⟩ := NF_bin_inv h
  obtain ⟨b1, b2, _, _, hb, _⟩ := lfix_bin hfix
  exact ⟨hl, hr, b1, b2, hb hm⟩

theorem mergeR_const (op : BinOp) (n : Int) : (mergeR op (.const n)).isFound = true := rfl

theorem Found.fnd {ty op : BinOp} (hsf : sameFam ty op = true) {a : Arg} {c : Int} {s : Bool} {set : Int → Arg} {drop : Arg}
    (h : Found ty a c s set drop) : fnd op a = true := by
  unfold Simp.fnd; rw [← findC_sameFam hsf, h.findC]; simp [Find.isFound]

/-- after `*lhs_val = n` (`set n`) or the splice (`drop`), the deep `neutralize` of a tree that was in normal form delivers
a normal form again: off the way nothing changes, and each node on the way is rebuilt from a normal-form operand
and one that contributes no constant (the original node was no merge candidate) -/
theorem found_neutralize_NF {ty : BinOp} {a : Arg} {c : Int} {s : Bool} {set : Int → Arg} {drop : Arg}
    (h : Found ty a c s set drop) : NF isReg a →
    (∀ n k t, neutralize (set n) = .ok (k, t) → NF isReg t ∧ isBad t = false ∧ isC t = false) ∧
    (ty ≠ .div → ∀ k t, neutralize drop = .ok (k, t) →
      NF isReg t ∧ isBad t = false ∧ isC t = false ∧ fnd ty t = false) := by
  induction h with
  | @holdL op c r hch hsf hcr =>
    intro ha
    have hmg := chainOp_mergeable hch
    have hd := chainOp_ne_div hch
    obtain ⟨_, hr, _, b2, hb⟩ := NF_chain_inv ha hmg
    have hfr : fnd op r = false := by rw [bothFound_eq _ _ _ hd] at hb; simpa [fnd] using hb
    refine ⟨fun n k t he => ?_, fun _ k t he => ?_⟩
    · obtain ⟨_, _, h⟩ := neutralize_chain_NF (isReg := isReg) (x := .const n) he (fun _ _ e => by cases e; rfl)
        (fun _ _ e => neutralize_NF_eq hr e) trivial hr hmg (.inr ⟨hcr, by rw [mergeR_isFound _ _ hd]; exact hfr⟩)
      exact h
    · have hfr' : fnd ty r = false := by rw [fnd_sameFam hsf]; exact hfr
      by_cases hs : op = .sub
      · subst hs
        simp only [beq_self_eq_true, if_true] at he
        obtain ⟨c1, v₂, c3, e1, e3⟩ := neutralize_neg_ok he
        cases neutralize_NF_eq hr e1
        have hnr := neutralizeRaw_neg_NF hr hcr b2 e3
        exact ⟨hnr.1, hnr.2.1, hnr.2.2, neutralizeRaw_neg_fnd hr (sameFam_additive hsf (.inr rfl)) hfr' e3⟩
      · rw [if_neg (by simpa using hs)] at he
        cases neutralize_NF_eq hr he
        exact ⟨hr, b2, hcr, hfr'⟩
  | @holdR op l c hch hsf hcl =>
    intro ha
    have hmg := chainOp_mergeable hch
    have hd := chainOp_ne_div hch
    obtain ⟨hl, _, b1, _, hb⟩ := NF_chain_inv ha hmg
    have hfl : fnd op l = false := by rw [bothFound_eq _ _ _ hd] at hb; simpa [fnd] using hb
    refine ⟨fun n k t he => ?_, fun _ k t he => ?_⟩
    · obtain ⟨_, _, h⟩ := neutralize_chain_NF (isReg := isReg) (y := .const n) he (fun _ _ e => neutralize_NF_eq hl e)
        (fun _ _ e => by cases e; rfl) hl trivial hmg (.inl ⟨hcl, by rw [mergeL_isFound]; exact hfl⟩)
      exact h
    · cases neutralize_NF_eq hl he
      exact ⟨hl, b1, hcl, by rw [fnd_sameFam hsf]; exact hfl⟩
  | @left op l r c s set drop hch hsf hcl hcr hf ih =>
    intro ha
    have hmg := chainOp_mergeable hch
    have hd := chainOp_ne_div hch
    obtain ⟨hl, hr, _, _, hb⟩ := NF_chain_inv ha hmg
    have hfr : fnd op r = false := by rw [bothFound_eq _ _ _ hd, hf.fnd hsf] at hb; simpa using hb
    have hR : isC r = false ∧ (mergeR op r).isFound = false := ⟨hcr, by rw [mergeR_isFound _ _ hd]; exact hfr⟩
    obtain ⟨ihs, ihd⟩ := ih hl
    refine ⟨fun n k t he => ?_, fun hty k t he => ?_⟩
    · obtain ⟨c1, x', c2, y', c3, e1, e2, e3⟩ := neutralize_bin_ok he
      obtain ⟨i1, _, i3⟩ := ihs n _ _ e1
      obtain ⟨_, _, h⟩ := neutralize_chain_NF he (fun _ _ e => by rw [e1] at e; cases e; rfl)
        (fun _ _ e => neutralize_NF_eq hr e) i1 hr hmg (.inr hR)
      exact h
    · obtain ⟨c1, x', c2, y', c3, e1, e2, e3⟩ := neutralize_bin_ok he
      obtain ⟨i1, _, i3, i4⟩ := ihd hty _ _ e1
      obtain ⟨_, e3', h⟩ := neutralize_chain_NF he (fun _ _ e => by rw [e1] at e; cases e; rfl)
        (fun _ _ e => neutralize_NF_eq hr e) i1 hr hmg (.inr hR)
      exact ⟨h.1, h.2.1, h.2.2, neutralizeRaw_bin_fnd hr (sameFam_additive hsf) i4 (by rw [fnd_sameFam hsf]; exact hfr) e3'⟩
  | @right op l r c s set drop hch hsf hcl hcr hn hf ih =>
    intro ha
    have hmg := chainOp_mergeable hch
    have hd := chainOp_ne_div hch
    obtain ⟨hl, hr, _, _, _⟩ := NF_chain_inv ha hmg
    have hfl : fnd ty l = false := by simp [fnd, hcl, hn, Find.isFound]
    have hL : isC l = false ∧ (mergeL op l).isFound = false :=
      ⟨hcl, by rw [mergeL_isFound, ← fnd_sameFam hsf]; exact hfl⟩
    obtain ⟨ihs, ihd⟩ := ih hr
    refine ⟨fun n k t he => ?_, fun hty k t he => ?_⟩
    · obtain ⟨c1, x', c2, y', c3, e1, e2, e3⟩ := neutralize_bin_ok he
      obtain ⟨i1, _, i3⟩ := ihs n _ _ e2
      obtain ⟨_, _, h⟩ := neutralize_chain_NF he (fun _ _ e => neutralize_NF_eq hl e)
        (fun _ _ e => by rw [e2] at e; cases e; rfl) hl i1 hmg (.inl hL)
      exact h
    · obtain ⟨c1, x', c2, y', c3, e1, e2, e3⟩ := neutralize_bin_ok he
      obtain ⟨i1, _, i3, i4⟩ := ihd hty _ _ e2
      obtain ⟨_, e3', h⟩ := neutralize_chain_NF he (fun _ _ e => neutralize_NF_eq hl e)
        (fun _ _ e => by rw [e2] at e; cases e; rfl) hl i1 hmg (.inl hL)
      exact ⟨h.1, h.2.1, h.2.2, neutralizeRaw_bin_fnd i1 (sameFam_additive hsf) hfl i4 e3'⟩
  | @neg v c s set drop hty hf ih =>
    intro ha
    obtain ⟨hv, _, _, _⟩ := NF_neg_inv ha
    obtain ⟨ihs, ihd⟩ := ih hv
    have hadd : additive ty := by cases ty <;> simp [isAddSub, additive] at hty ⊢
    refine ⟨fun n k t he => ?_, fun hd k t he => ?_⟩
    · obtain ⟨c1, v₂, c3, e1, e3⟩ := neutralize_neg_ok he
      obtain ⟨i1, i2, i3⟩ := ihs n _ _ e1
      exact neutralizeRaw_neg_NF i1 i3 i2 e3
    · obtain ⟨c1, v₂, c3, e1, e3⟩ := neutralize_neg_ok he
      obtain ⟨i1, i2, i3, i4⟩ := ihd hd _ _ e1
      have hnr := neutralizeRaw_neg_NF i1 i3 i2 e3
      exact ⟨hnr.1, hnr.2.1, hnr.2.2, neutralizeRaw_neg_fnd i1 hadd i4 e3⟩
  | @divL c r hty hcr =>
    intro ha
    obtain ⟨_, hr, _, _, _⟩ := NF_chain_inv ha rfl
    refine ⟨fun n k t he => ?_, fun h => absurd hty h⟩
    obtain ⟨_, _, h⟩ := neutralize_chain_NF (isReg := isReg) (x := .const n) he (fun _ _ e => by cases e; rfl)
      (fun _ _ e => neutralize_NF_eq hr e) trivial hr rfl (.inr ⟨hcr, by rw [mergeR_div_isFound]; exact hcr⟩)
    exact h
  | @divR l c hty hcl =>
    intro ha
    obtain ⟨hl, _, _, _, hb⟩ := NF_chain_inv ha rfl
    refine ⟨fun n k t he => ?_, fun h => absurd hty h⟩
    obtain ⟨_, _, h⟩ := neutralize_chain_NF (isReg := isReg) (y := .const n) he (fun _ _ e => neutralize_NF_eq hl e)
      (fun _ _ e => by cases e; rfl) hl trivial rfl (.inl ⟨hcl, by simpa [bothFound, mergeR_const] using hb⟩)
    exact h
  | @divS l r c s set drop hty hcl hcr hf ih =>
    intro ha
    obtain ⟨hl, hr, _, _, _⟩ := NF_chain_inv ha rfl
    refine ⟨fun n k t he => ?_, fun h => absurd hty h⟩
    obtain ⟨c1, x', c2, y', c3, e1, e2, e3⟩ := neutralize_bin_ok he
    obtain ⟨i1, _, i3⟩ := (ih hl).1 n _ _ e1
    obtain ⟨_, _, h⟩ := neutralize_chain_NF he (fun _ _ e => by rw [e1] at e; cases e; rfl)
      (fun _ _ e => neutralize_NF_eq hr e) i1 hr rfl (.inr ⟨hcr, by rw [mergeR_div_isFound]; exact hcr⟩)
    exact h


theorem mergeTree_neutralize_NF {op : BinOp} {l r : Arg} (hl : NF isReg l) (hr : NF isReg r)
    (hlr : ¬ (isC l = true ∧ isC r = true)) (hop : mergeable op = true) {c1 c2 cc : Int} {s1 s2 c3 : Bool} {a' : Arg}
    (hL : mergeL op l = .found c1 s1) (hR : mergeR op r = .found c2 s2)
    (hn : neutralize (mergeTree op l r cc) = .ok (c3, a')) : NF isReg a' ∧ isC a' = false := by
  unfold mergeTree at hn
  -- the lhs after `*lhs_val = cc`
  have hl₂ : ∀ k l₂, neutralize (match cval l with | some _ => Arg.const cc | none => setC op cc l) = .ok (k, l₂) →
      NF isReg l₂ ∧ (cval l = none → isC l₂ = false) := by
    intro k l₂ e
    rcases mergeL_found hL with ⟨rfl, _⟩ | ⟨hcl, fl⟩
    · cases e; exact ⟨trivial, fun h => by cases h⟩
    · simp only [hcl] at e
      have := (found_neutralize_NF fl hl).1 cc k l₂ e
      exact ⟨this.1, fun _ => this.2.2⟩
  rcases mergeR_found hR with ⟨rfl, _⟩ | ⟨hcr, hdiv, _, _, fr⟩
  · simp only [cval_const] at hn
    have hcl : cval l = none := cval_none_iff.2 (by cases h : isC l <;> simp_all)
    exact ⟨(hl₂ _ _ hn).1, (hl₂ _ _ hn).2 hcl⟩
  · simp only [hcr] at hn
    obtain ⟨c1', l₂, c2', r₂, c3', e1, e2, e3⟩ := neutralize_bin_ok hn
    obtain ⟨r1, _, r3, r4⟩ := (found_neutralize_NF fr hr).2 hdiv _ _ e2
    have := neutralizeRaw_bin_NF (hl₂ _ _ e1).1 r1 (fun ⟨_, q⟩ => by rw [r3] at q; cases q)
      (fun _ => by rw [bothFound_eq _ _ _ hdiv, r4]; simp) (fun e => absurd e (mergeable_ne_mod hop)) e3
    exact ⟨this.1, this.2.2⟩

theorem simplifyRaw_bin_NF_const {op : BinOp} {l r : Arg} (hl : NF isReg l) (hr : NF isReg r) {c : Bool} {a' : Arg}
    (he : simplifyRaw (.bin op l r) = .ok (c, a')) :
    NF isReg a' ∧ ∀ w, a' = .const w → ∃ x y, l = .const x ∧ r = .const y ∧ foldBin op x y = .ok w := by
  obtain ⟨_, _, ⟨_, x, y, v, rfl, rfl, hf, rfl⟩ | ⟨hlr, ⟨_, _, hm, rfl⟩ | ⟨hb, hm, h⟩ |
    ⟨_, hop, c1, s1, c2, s2, cc, c3, hL, hR, _, hn⟩⟩⟩ := simplifyRaw_bin_ok he
  · exact ⟨trivial, fun w e => by cases e; exact ⟨x, y, rfl, rfl, hf⟩⟩
  · refine ⟨hl, fun w e => ?_⟩
    subst e
    unfold modCollapse at hm
    cases hcr : cval r <;> simp [hcr] at hm
  · have := neutralizeRaw_bin_NF hl hr hlr hb hm h
    exact ⟨this.1, fun w e => by rw [e] at this; cases this.2.2⟩
  · obtain ⟨h1, h2⟩ := mergeTree_neutralize_NF hl hr hlr hop hL hR hn
    exact ⟨h1, fun w e => by rw [e] at h2; cases h2⟩

theorem simplifyRaw_bin_NF {op : BinOp} {l r : Arg} (hl : NF isReg l) (hr : NF isReg r) {c : Bool} {a' : Arg}
    (he : simplifyRaw (.bin op l r) = .ok (c, a')) : NF isReg a' := (simplifyRaw_bin_NF_const hl hr he).1

theorem simplifyRaw_neg_NF_const {v : Arg} (hv : NF isReg v) {c : Bool} {a' : Arg}
    (he : simplifyRaw (.neg v) = .ok (c, a')) :
    NF isReg a' ∧ ∀ w, a' = .const w → ∃ k, v = .const k ∧ k ≠ i64Min ∧ w = -k := by
  obtain ⟨_, ⟨_, x, y, c', rfl, h⟩ | ⟨_, w, c', rfl, h⟩ | ⟨_, k, rfl, hk, rfl⟩ | ⟨rfl, rfl, _⟩⟩ := simplifyRaw_neg_ok he
  · obtain ⟨hx, hy, hf⟩ := NF_bin_inv hv
    obtain ⟨_, _, hlr, _, hb, _⟩ := lfix_bin hf
    have := neutralizeRaw_bin_NF hy hx (fun ⟨p, q⟩ => hlr ⟨q, p⟩)
      (fun _ => by rw [bothFound_sub_comm]; exact hb rfl) (fun e => by cases e) h
    exact ⟨this.1, fun w e => by rw [e] at this; cases this.2.2⟩
  · obtain ⟨hw, _, hcw, _⟩ := NF_neg_inv hv
    rw [NF_neutralizeRaw hw] at h
    cases h; exact ⟨hw, fun w e => by rw [e] at hcw; cases hcw⟩
  · exact ⟨trivial, fun w e => by cases e; exact ⟨k, rfl, hk, rfl⟩⟩
  · exact ⟨⟨hv, he⟩, fun w e => by cases e⟩

theorem simplifyRaw_neg_NF {v : Arg} (hv : NF isReg v) {c : Bool} {a' : Arg}
    (he : simplifyRaw (.neg v) = .ok (c, a')) : NF isReg a' := (simplifyRaw_neg_NF_const hv he).1

theorem simplifyRaw_not_NF {v : Arg} (hv : NF isReg v) {c : Bool} {a' : Arg}
    (he : simplifyRaw (.not v) = .ok (c, a')) : NF isReg a' := by
  obtain ⟨_, ⟨_, k, rfl, rfl⟩ | ⟨rfl, rfl, _⟩⟩ := simplifyRaw_not_ok he
  · trivial
  · exact ⟨hv, he⟩

theorem simplifyRaw_addr_NF {v : Arg} (hv : NF isReg v) {c : Bool} {a' : Arg}
    (he : simplifyRaw (.addr v) = .ok (c, a')) : NF isReg a' := by
  obtain ⟨_, rfl, rfl⟩ := simplifyRaw_addr_ok he
  exact ⟨hv, he⟩

theorem evaluateE_NF_both (lk : Bytes → Lookup) :
    (∀ a ev a', evaluateE lk isReg a = .ok ev a' → ev.cause = none → NF isReg a') ∧
    (∀ as ev as', evaluateArgsE lk isReg as = .ok ev as' → ev.cause = none → NFs isReg as') :=
  evaluateE_complete_ind lk isReg (R := fun _ _ a' => NF isReg a') (Rs := fun _ _ as' => NFs isReg as')
    (fun _ => trivial) (fun _ => trivial) (fun _ hr => hr) (fun _ _ _ _ => trivial)
    (fun _ _ _ _ _ _ _ _ _ _ _ hl hr hs => simplifyRaw_bin_NF hl hr hs)
    (fun _ _ _ _ _ _ hv hs => simplifyRaw_neg_NF hv hs) (fun _ _ _ _ _ _ hv hs => simplifyRaw_not_NF hv hs)
    (fun _ _ _ _ _ _ hv hs => simplifyRaw_addr_NF hv hs)
    (fun _ _ _ h => by simp only [NF]; exact h) (fun _ _ _ _ h => by simp only [NF]; exact h) trivial
    (fun _ _ _ _ _ _ h1 h2 => ⟨h1, h2⟩)

theorem evaluateE_NF {lk : Bytes → Lookup} {a : Arg} {ev : Ev} {a' : Arg} (h : evaluateE lk isReg a = .ok ev a')
    (hc : ev.cause = none) : NF isReg a' := (evaluateE_NF_both lk).1 a ev a' h hc

theorem evaluateE_idempotent {lk : Bytes → Lookup} {a : Arg} {ev : Ev} {a' : Arg}
    (h : evaluateE lk isReg a = .ok ev a') (hc : ev.cause = none) (lk' : Bytes → Lookup) :
    evaluateE lk' isReg a' = .ok ⟨false, none⟩ a' := NF_stable (evaluateE_NF h hc) lk'

end

section
variable (lk : Bytes → Lookup) (isReg : Bytes → Bool)

theorem evaluateE_NF_all :
    (∀ a ev a', evaluateE lk isReg a = .ok ev a' → NF (fun _ => true) a') ∧
    (∀ as ev as', evaluateArgsE lk isReg as = .ok ev as' → NFs (fun _ => true) as') :=
  evaluateE_ok_ind lk isReg (R := fun _ _ a' => NF (fun _ => true) a') (Rs := fun _ _ as' => NFs (fun _ => true) as')
    (fun _ => trivial) (fun _ => trivial) (fun _ _ => rfl) (fun _ _ _ => rfl) (fun _ _ _ _ => trivial)
    (fun _ _ _ _ _ _ _ _ _ _ _ hl hr hs => simplifyRaw_bin_NF hl hr hs)
    (fun _ _ _ _ _ _ hv hs => simplifyRaw_neg_NF hv hs) (fun _ _ _ _ _ _ hv hs => simplifyRaw_not_NF hv hs)
    (fun _ _ _ _ _ _ hv hs => simplifyRaw_addr_NF hv hs)
    (fun _ _ _ h => by simp only [NF]; exact h) (fun _ _ _ _ h => by simp only [NF]; exact h) trivial
    (fun _ _ _ _ _ _ h1 h2 => ⟨h1, h2⟩)

theorem evaluateE_nb_both :
    (∀ a ev a', evaluateE lk isReg a = .ok ev a' → nb a' = true) ∧
    (∀ as ev as', evaluateArgsE lk isReg as = .ok ev as' → nbs as' = true) :=
  ⟨fun a ev a' h => NF_nb ((evaluateE_NF_all lk isReg).1 a ev a' h),
   fun as ev as' h => NF_nb_both.2 as' ((evaluateE_NF_all lk isReg).2 as ev as' h)⟩

theorem afterRawE_ne_panic {ev : Ev} {x : Arg} (h : simplifyRaw x ≠ .panic) : afterRawE ev x ≠ .panic := by
  unfold afterRawE
  cases hs : simplifyRawE x with
  | panic => exact absurd (by rw [← simplifyRawE_proj, hs]; rfl) h
  | _ => simp

/-- the operands of every `simplify_raw` call are results, hence `nb`, and on those `search` cannot hit its `assert!` -/
theorem evaluateE_ne_panic_both :
    (∀ a, evaluateE lk isReg a ≠ .panic) ∧ (∀ as, evaluateArgsE lk isReg as ≠ .panic) := by
  have nbR := (evaluateE_nb_both lk isReg).1
  apply Arg.ind2
  case const => intro v h; cases h
  case str => intro v h; cases h
  case ident =>
    intro s
    simp only [evaluateE]
    split
    · simp
    · cases lk s <;> simp
  case bin =>
    intro op l r ihl ihr
    simp only [evaluateE]
    cases h1 : evaluateE lk isReg l with
    | panic => exact absurd h1 ihl
    | ok e1 l' =>
      cases h2 : evaluateE lk isReg r with
      | panic => exact absurd h2 ihr
      | ok e2 r' => exact afterRawE_ne_panic (simplifyRaw_bin_ne_panic op l' r' (nbR _ _ _ h1) (nbR _ _ _ h2))
      | _ => simp
    | _ => simp
  case neg =>
    intro v ih
    simp only [evaluateE]
    cases h1 : evaluateE lk isReg v with
    | panic => exact absurd h1 ih
    | ok e1 v' => exact afterRawE_ne_panic (simplifyRaw_neg_ne_panic v')
    | _ => simp
  case not =>
    intro v ih
    simp only [evaluateE]
    cases h1 : evaluateE lk isReg v with
    | panic => exact absurd h1 ih
    | ok e1 v' => exact afterRawE_ne_panic (simplifyRaw_not_ne_panic v')
    | _ => simp
  case addr =>
    intro v ih
    simp only [evaluateE]
    cases h1 : evaluateE lk isReg v with
    | panic => exact absurd h1 ih
    | ok e1 v' => exact afterRawE_ne_panic (simplifyRaw_addr_ne_panic v')
    | _ => simp
  case seq =>
    intro as ih
    simp only [evaluateE]
    cases h1 : evaluateArgsE lk isReg as with
    | panic => exact absurd h1 ih
    | _ => simp
  case func =>
    intro f as ih
    simp only [evaluateE]
    cases h1 : evaluateArgsE lk isReg as with
    | panic => exact absurd h1 ih
    | _ => simp
  case nil => intro h; cases h
  case cons =>
    intro a as iha ihas
    simp only [evaluateArgsE]
    cases h1 : evaluateE lk isReg a with
    | panic => exact absurd h1 iha
    | ok e1 a' =>
      cases h2 : evaluateArgsE lk isReg as with
      | panic => exact absurd h2 ihas
      | _ => simp
    | _ => simp

theorem evaluate_ne_panic (a : Arg) : evaluate lk isReg a ≠ .panic := fun h =>
  (evaluateE_ne_panic_both lk isReg).1 a (evaluate_panic_iff.1 h)

end

end Trion.Simp
