import TrionModel.Lemmas.AsmScopeSim
import TrionModel.Lemmas.AsmNoLoop
import TrionModel.Lemmas.AsmLadder
/-!
# `Trion.Asm`: what a file does to its own table and to its includer's (C14 on the whole-pipeline model)

`Rel N st st'` — inside a file, between two of its states: the file's own table (`locals`) only grew
(`Table.le`: valued entries keep their value), the includer's table (`globals`) changed only at the names `N`, where an
absent or unvalued entry received the file's own value (`Upd`), every closure of `.global` that is new in the file's
queue captured a name of `N`, and nothing but retries of statements is new in the includer's queue.

For a statement, `N` is the name the statement itself exports or declares global (`statement_rel`, from the scope
machine's `stmt_upd` through `statement_scope`); for `.include` — by induction on the include depth — `N = []` for the
includer, whose `globals` is literally restored.
-/
namespace Trion.Asm
open Trion

/-- a closure of `.global` captured a name of `N`; a retry: no condition -/
def Task.fromN (N : List Bytes) : Task → Prop
  | .globalCopy n _ _ => n ∈ N
  | _ => True

/-- the name a `.global` / `.export` statement with these arguments sends upwards -/
def argName : List Arg → List Bytes
  | [.ident n] => [n]
  | _ => []

/-- the name `el` sends upwards, if it is a `.global` / `.export` statement -/
def upNames (el : Element) : List Bytes :=
  match el.val with
  | .directive name args =>
    if name = bytesOf "global" ∨ name = bytesOf "export" then argName args.toList else []
  | _ => []

theorem Task.fromN_of_notCopy {t : Task} (N : List Bytes) (h : t.notCopy = true) : t.fromN N := by
  cases t <;> simp_all [Task.notCopy, Task.fromN]

theorem Task.fromN_mono {t : Task} {N N' : List Bytes} (h : t.fromN N) (hn : ∀ m ∈ N, m ∈ N') : t.fromN N' := by
  cases t with
  | globalCopy n l c => exact hn n h
  | data => trivial
  | instr => trivial

structure Rel (N : List Bytes) (st st' : St) : Prop where
  tabs : ∃ C C', st.locals = some C ∧ st'.locals = some C' ∧ C.le C' ∧ Upd N st.globals st'.globals C'
  lt : ∀ q', st'.localTasks = some q' → ∀ t ∈ q', (∃ q, st.localTasks = some q ∧ t ∈ q) ∨ t.fromN N
  gt : ∀ t ∈ st'.globalTasks, t ∈ st.globalTasks ∨ t.notCopy = true

theorem Rel.refl (N : List Bytes) {st : St} {C : Table} (h : st.locals = some C) : Rel N st st :=
  ⟨⟨C, C, h, h, Table.le_refl _, Upd.refl _ _ _⟩, fun q hq _ ht => .inl ⟨q, hq, ht⟩, fun _ h => .inl h⟩

theorem Rel.trans {N : List Bytes} {a b c : St} (h1 : Rel N a b) (h2 : Rel N b c) : Rel N a c := by
  obtain ⟨C, C1, hC, hC1, le1, u1⟩ := h1.tabs
  obtain ⟨C1', C2, hC1', hC2, le2, u2⟩ := h2.tabs
  rw [hC1] at hC1'; cases hC1'
  refine ⟨⟨C, C2, hC, hC2, Table.le_trans le1 le2, u1.trans u2 le2⟩, fun q hq t ht => ?_, fun t ht => ?_⟩
  · rcases h2.lt q hq t ht with ⟨q1, hq1, ht1⟩ | h
    · exact h1.lt q1 hq1 t ht1
    · exact .inr h
  · rcases h2.gt t ht with h | h
    · exact h1.gt t h
    · exact .inr h

theorem Rel.mono {N N' : List Bytes} {a b : St} (h : Rel N a b) (hn : ∀ m ∈ N, m ∈ N') : Rel N' a b := by
  obtain ⟨C, C', hC, hC', le, u⟩ := h.tabs
  refine ⟨⟨C, C', hC, hC', le, u.mono hn (Table.le_refl _)⟩, fun q hq t ht => ?_, h.gt⟩
  rcases h.lt q hq t ht with h1 | h1
  · exact .inl h1
  · exact .inr (Task.fromN_mono h1 hn)

theorem Rel.of_quiet (N : List Bytes) {st st' : St} {C : Table} (hC : st.locals = some C) (h : Quiet st st') :
    Rel N st st' := by
  refine ⟨⟨C, C, hC, h.locals.trans hC, Table.le_refl _, ?_⟩, fun q hq t ht => ?_, h.gt⟩
  · rw [h.globals]; exact Upd.refl _ _ _
  · rcases h.lt q hq t ht with h1 | h1
    · exact .inl h1
    · exact .inr (Task.fromN_of_notCopy N h1)

theorem Rel.locals_some {N : List Bytes} {a b : St} (h : Rel N a b) : ∃ C', b.locals = some C' := by
  obtain ⟨_, C', _, hC', _⟩ := h.tabs
  exact ⟨C', hC'⟩

theorem Rel.then_quiet {N : List Bytes} {a b c : St} (h1 : Rel N a b) (h2 : Quiet b c) : Rel N a c := by
  obtain ⟨C', hC'⟩ := h1.locals_some
  exact h1.trans (.of_quiet N hC' h2)

/-- what the induction on the include depth provides of the recursive call `inc`, seen from the includer: `Rel []`, and
its `globals` literally restored -/
def IncRel (inc : Inc) : Prop :=
  ∀ env st data path st' r C, st.locals = some C → inc env st data path = .ok (st', r) →
    Rel [] st st' ∧ st'.globals = st.globals

theorem includeDirective_rel {fs : Bytes → Option Bytes} {inc : Inc} (hinc : IncRel inc) {env : Env} {st : St} {C : Table}
    {line col : Nat} {args : List Arg} (hC : st.locals = some C) :
    ∀ st' r, includeDirective fs inc env st line col args = .ok (st', r) → Rel [] st st' ∧ st'.globals = st.globals := by
  intro st' r h
  rcases includeDirective_shape h with ⟨k, rfl, _⟩ | ⟨data, path, st1, r1, _, hi, ⟨rfl, _⟩ | ⟨k, rfl, _⟩⟩
  · exact ⟨.of_quiet _ hC (quiet_push ..), rfl⟩
  · exact hinc _ _ _ _ _ _ _ hC hi
  · have w := hinc _ _ _ _ _ _ _ hC hi
    exact ⟨w.1.then_quiet (quiet_push ..), w.2⟩

/-- the names a file itself — not the files it includes — exports or declares global -/
def fileNames (els : List Element) : List Bytes := els.flatMap upNames

theorem fromN_taskOf {N : List Bytes} {t : Task} (h : (taskOf t).fromNames N) : t.fromN N := by
  cases t <;> first | exact h | trivial

/-- A statement of the scope machine on the projection is `Rel`: the tables by `Scope.stmt_upd`; the queues by
`Scope.stmt_tasks`, which speaks of the images under `taskOf`, next to the literal appends `Adds`, which say that
the images of the new tasks are the scope machine's new tasks. -/
theorem rel_of_stmt {env : Env} {st st' : St} {C : Table} {op : Scope.Op} {x : Option Scope.Level} {ds : List Diag}
    {gs ls : List Task} (hC : st.locals = some C) (hs : Scope.stmt (scopeOf st env) op = .ok (scopeOf st' env, x))
    (ha : Adds st st' ds gs ls) : Rel op.names st st' := by
  obtain ⟨C', hC', le, u⟩ := Scope.stmt_upd (s := scopeOf st env) hC hs
  obtain ⟨hg, add, hadd, hfa⟩ := Scope.stmt_tasks hs
  refine ⟨⟨C, C', hC, hC', (le_eq _ _).1 le, (upd_eq ..).1 u⟩, fun q' hq' t ht => ?_, fun t ht => .inl ?_⟩
  · rw [ha.lt] at hq'
    cases hq : st.localTasks with
    | none => rw [hq] at hq'; cases hq'
    | some q =>
      rw [hq] at hq'; cases hq'
      rcases List.mem_append.1 ht with ht | ht
      · exact .inl ⟨q, rfl, ht⟩
      · have : ls.map taskOf = add := by simpa [scopeOf, ha.lt, hq] using hadd
        exact .inr (fromN_taskOf (hfa _ (this ▸ List.mem_map_of_mem ht)))
  · have : gs = [] := by simpa [scopeOf, ha.gt] using congrArg List.length hg
    rw [ha.gt, this, List.append_nil] at ht
    exact ht

theorem elOp_names {el : Element} {op : Scope.Op} (h : elOp el op) : ∀ m ∈ op.names, m ∈ upNames el := by
  cases op with
  | global n t => obtain ⟨args, hv, ha⟩ := h; simp [Scope.Op.names, upNames, hv, ha, argName]
  | «export» n t => obtain ⟨args, hv, ha⟩ := h; simp [Scope.Op.names, upNames, hv, ha, argName]
  | _ => intro m hm; cases hm

theorem statement_rel {fs : Bytes → Option Bytes} {enc : Encoder} {inc : Inc} (hinc : IncRel inc) {env : Env} {st : St}
    {C : Table} {el : Element} (hC : st.locals = some C) :
    ∀ st' r, statement fs enc inc env st el = .ok (st', r) → Rel (upNames el) st st' := by
  intro st' r h
  rcases statement_scope h with ⟨args, ha⟩ | q | ⟨op, ho, hs, _, _, _, a⟩
  · -- by the induction on the include depth: the includer's tables are restored
    simp only [statement, ha, directive_include] at h
    exact (includeDirective_rel hinc hC _ _ h).1.mono (fun _ hm => nomatch hm)
  · exact .of_quiet _ hC q
  · exact (rel_of_stmt hC hs a).mono (elOp_names ho)

theorem upNames_sub {el : Element} {els : List Element} (h : el ∈ els) : ∀ m ∈ upNames el, m ∈ fileNames els :=
  fun _ hm => List.mem_flatMap.mpr ⟨el, h, hm⟩

theorem runTask_rel {enc : Encoder} {env : Env} {st : St} {C : Table} {N : List Bytes} {t : Task} (hC : st.locals = some C)
    (ht : t.fromN N) : ∀ st' r, runTask enc env st t = .ok (st', r) → Rel N st st' := by
  intro st' r h
  rcases runTask_scope h with q | ⟨n, l, c, rfl, hs⟩
  · exact .of_quiet _ hC q
  · have x := Scope.xrel_runTask (s := scopeOf st env) (names := N) (t := .globalCopy n 0) hC ht hs
    obtain ⟨hl, new, hg, _, hn⟩ := runTask_frame _ _ h
    rw [hn rfl, List.append_nil] at hg
    exact ⟨⟨C, C, hC, x.locals.trans hC, Table.le_refl _, (upd_eq ..).1 x.upd⟩,
      fun q hq' t ht => .inl ⟨q, hl ▸ hq', ht⟩, fun t ht => .inl (hg ▸ ht)⟩

/-- `Rel` in the terms of Lemmas/AsmLadder.lean. Index: the names `N` and the state `s0` from which the relation is
counted; `q`: `s0` had an empty local queue (a file's first state), so that whatever is queued later is `fromN N`. -/
@[reducible] def relRung (q : Bool) : Rung (List Bytes × St) where
  I g _ st := Rel g.1 g.2 st ∧ (q = true → g.2.localTasks = some [])
  R g _ a b := Rel g.1 a b
  B _ := False
  refl h := h.1.locals_some.elim fun _ hC => .refl _ hC
  trans := .trans
  weaken := id

theorem Rel.step {q : Bool} {g : List Bytes × St} {env : Env} {st st' : St} {e : Bool} (h : (relRung q).I g env st)
    (w : Rel g.1 st st') : (relRung q).I g env st' ∧ (relRung q).R g e st st' :=
  ⟨⟨h.1.trans w, h.2⟩, w⟩

theorem statement_relRung {fs : Bytes → Option Bytes} {enc : Encoder} {inc : Inc} (hinc : IncRel inc) {q : Bool} {env : Env}
    {els₀ : List Element} {s0 : St} : ∀ el ∈ els₀, ∀ st, (relRung q).I (fileNames els₀, s0) env st →
      (relRung q).Spec (fileNames els₀, s0) env st Res.isErr (statement fs enc inc env st el) :=
  fun _ hel _ h1 => .of (fun _ hs => h1.1.locals_some.elim fun _ hC1 =>
    Rel.step h1 ((statement_rel hinc hC1 _ _ hs).mono (upNames_sub hel))) fun _ _ => id

theorem doAssemble_rel {fs : Bytes → Option Bytes} {enc : Encoder} {inc : Inc} (hinc : IncRel inc) {env : Env}
    (err : Option ParseErr) (els : List Element) (st : St) (C : Table) (hC : st.locals = some C) (st' : St) (r : Res)
    (h : doAssemble fs enc inc env els err st = .ok (st', r)) : Rel (fileNames els) st st' :=
  (((relRung false).doAssemble_spec (g := (fileNames els, st)) (els₀ := els) (statement_relRung hinc)
    (fun _ _ _ h1 => h1.1.locals_some.elim fun _ hC1 => Rel.step h1 (.of_quiet _ hC1 (quiet_push ..)))
    els st (fun _ m => m) ⟨.refl _ hC, nofun⟩).ok h).2

@[reducible] def relLocal (enc : Encoder) : LocalLadder enc (List Bytes × St) where
  toRung := relRung true
  noLoop := id
  unwrap := nofun
  task {g _ _ q t _} i0 hq hm _ h := .of (fun _ hr => by
    have ht : t.fromN g.1 := by
      rcases i0.1.lt q hq t hm with ⟨q0, hq0, hm0⟩ | hf
      · rw [i0.2 rfl] at hq0; cases hq0; cases hm0
      · exact hf
    obtain ⟨C, hC⟩ := h.1.locals_some
    exact Rel.step h (runTask_rel hC ht _ _ hr)) fun _ _ => id
  clear {g _ st} h := h.1.locals_some.elim fun C hC => Rel.step h
    ⟨⟨C, C, hC, hC, Table.le_refl _, Upd.refl _ _ _⟩, (fun q hq t ht => by cases hq; cases ht), fun _ h => .inl h⟩

/-- the task loop at the end of a file that was entered with an empty queue: what it runs are retries and the closures
of the file's own `.global`s -/
theorem fileLoop_rel {enc : Encoder} {env : Env} {els : List Element} {st st3 st' : St} {tasks : List Task} {res r : Res}
    {n : Nat} (hq : st.localTasks = some []) (w1 : Rel (fileNames els) st st3) (ht : st3.localTasks = some tasks)
    (h : localLoop enc env n tasks { st3 with localTasks := some [] } res = .ok (st', r)) :
    Rel (fileNames els) st3 st' := by
  have i3 : (relLocal enc).I (fileNames els, st) env st3 := ⟨w1, fun _ => hq⟩
  have c3 := (relLocal enc).clear i3
  obtain ⟨_, _, w, _⟩ := ((relLocal enc).localLoop_spec n tasks _ res ⟨st3, tasks, i3, ht, fun _ m => m, c3.2⟩ c3.1).ok h
  exact Rel.trans c3.2 w

theorem fileBody_rel {fs : Bytes → Option Bytes} {enc : Encoder} {inc : Inc} (hinc : IncRel inc) {env : Env} {data : Bytes}
    {st : St} {C : Table} (hC : st.locals = some C) (hq : st.localTasks = some []) :
    ∀ st' r, fileBody fs enc inc env data st = .ok (st', r) →
      ∃ els perr, parseFile data = .ok (els, perr) ∧ Rel (fileNames els) st st' := by
  intro st' r h
  obtain ⟨els, perr, st3, res, hp, hd, hrest⟩ := fileBody_ok h
  have w1 := doAssemble_rel hinc perr els st C hC _ _ hd
  rcases hrest with ⟨_, rfl, _⟩ | ⟨_, tasks, ht, hl⟩
  · exact ⟨els, perr, hp, w1⟩
  · exact ⟨els, perr, hp, w1.trans (fileLoop_rel hq w1 ht hl)⟩

/-- `Context::assemble` called from inside a file (`.include`): `st2` is the child's first state, `st4` its last -/
theorem assembleFile_inside {fs : Bytes → Option Bytes} {enc : Encoder} {fuel : Nat} (hinc : IncRel (assembleFile fs enc fuel))
    {env : Env} {st st' : St} {data path : Bytes} {r : Res} {L : Table} (hL : st.locals = some L)
    (h : assembleFile fs enc (fuel + 1) env st data path = .ok (st', r)) :
    ∃ st2 st4 els perr C, st2.locals = some [] ∧ st2.globals = L ∧ st2.localTasks = some [] ∧
      fileBody fs enc (assembleFile fs enc fuel) ⟨path :: env.paths, path⟩ data st2 = .ok (st4, r) ∧
      parseFile data = .ok (els, perr) ∧ Rel (fileNames els) st2 st4 ∧ st4.locals = some C ∧
      st'.locals = some st4.globals ∧ Upd (fileNames els) L st4.globals C ∧ st'.globals = st.globals ∧
      Rel [] st st' := by
  obtain ⟨st4, hf, rfl⟩ := assembleFile_ok h
  -- the two shapes of `enterFile`
  cases hlt : st.localTasks with
  | none =>
    have he : enterFile st = (some st.globals, none, { st with locals := some [], globals := L, localTasks := some [] }) := by
      simp [enterFile, hL, hlt]
    rw [he] at hf ⊢
    obtain ⟨els, perr, hp, w⟩ := fileBody_rel hinc (C := []) rfl rfl _ _ hf
    obtain ⟨C0, C, hC0, hC, _, u⟩ := w.tabs
    refine ⟨_, st4, els, perr, C, rfl, rfl, rfl, hf, hp, w, hC, rfl, u, rfl, ?_⟩
    refine ⟨⟨L, st4.globals, hL, rfl, u.le, Upd.refl _ _ _⟩, (fun q hq => by cases hq), fun t ht => ?_⟩
    exact w.gt t ht
  | some q0 =>
    have he : enterFile st = (some st.globals, some st.globalTasks,
        { st with locals := some [], globals := L, localTasks := some [], globalTasks := q0 }) := by
      simp [enterFile, hL, hlt]
    rw [he] at hf ⊢
    obtain ⟨els, perr, hp, w⟩ := fileBody_rel hinc (C := []) rfl rfl _ _ hf
    obtain ⟨C0, C, hC0, hC, _, u⟩ := w.tabs
    refine ⟨_, st4, els, perr, C, rfl, rfl, rfl, hf, hp, w, hC, rfl, u, rfl, ?_⟩
    refine ⟨⟨L, st4.globals, hL, rfl, u.le, Upd.refl _ _ _⟩, fun q hq t ht => ?_, fun t ht => .inl ht⟩
    cases hq
    rcases w.gt t ht with hm | hn
    · exact .inl ⟨q0, hlt, hm⟩
    · exact .inr (Task.fromN_of_notCopy _ hn)

theorem assembleFile_rel (fs : Bytes → Option Bytes) (enc : Encoder) : ∀ fuel, IncRel (assembleFile fs enc fuel) := by
  intro fuel
  induction fuel with
  | zero => intro env st data path st' r C _ h; simp [assembleFile] at h
  | succ fuel ih =>
    intro env st data path st' r C hC h
    obtain ⟨_, _, _, _, _, _, _, _, _, _, _, _, _, _, hg, w⟩ := assembleFile_inside ih hC h
    exact ⟨w, hg⟩


/-- `Context::assemble` of the main file: the child's `globals` is the real global table -/
theorem assembleFile_outside {fs : Bytes → Option Bytes} {enc : Encoder} {fuel : Nat} {env : Env} {st st' : St}
    {data path : Bytes} {r : Res} (hl : st.locals = none) (hlt : st.localTasks = none)
    (h : assembleFile fs enc (fuel + 1) env st data path = .ok (st', r)) :
    ∃ st4 els perr C,
      fileBody fs enc (assembleFile fs enc fuel) ⟨path :: env.paths, path⟩ data
        { st with locals := some [], localTasks := some [] } = .ok (st4, r) ∧
      parseFile data = .ok (els, perr) ∧ Rel (fileNames els) { st with locals := some [], localTasks := some [] } st4 ∧
      st4.locals = some C ∧ st'.locals = none ∧ st'.localTasks = none ∧ st'.globals = st4.globals ∧
      Upd (fileNames els) st.globals st'.globals C ∧
      (∀ t ∈ st'.globalTasks, t ∈ st.globalTasks ∨ t.notCopy = true) := by
  obtain ⟨st4, hf, rfl⟩ := assembleFile_ok h
  have he : enterFile st = (none, none, { st with locals := some [], localTasks := some [] }) := by
    simp [enterFile, hl, hlt]
  rw [he] at hf ⊢
  obtain ⟨els, perr, hp, w⟩ := fileBody_rel (assembleFile_rel fs enc fuel) (C := []) rfl rfl _ _ hf
  obtain ⟨C0, C, hC0, hC, _, u⟩ := w.tabs
  exact ⟨st4, els, perr, C, hf, hp, w, hC, rfl, rfl, rfl, u, w.gt⟩

/-- `finalize` of a queue without `.global` closures (the queue at the end of a run: `Good false`) leaves both tables alone -/
theorem globalLoop_quiet {enc : Encoder} {env : Env} (n : Nat) (ts : List Task) (st : St)
    (hts : ∀ t ∈ ts, t.notCopy = true) (hg : ∀ t ∈ st.globalTasks, t.notCopy = true) (st' : St) (ab : Bool)
    (h : globalLoop enc env n ts st = .ok (st', ab)) : st'.globals = st.globals ∧ st'.locals = st.locals :=
  let L : GlobalLadder enc Unit :=
    { I := fun _ _ st => ∀ t ∈ st.globalTasks, t.notCopy = true
      R := fun _ _ a b => b.globals = a.globals ∧ b.locals = a.locals, B := fun _ => False
      refl := fun _ => ⟨rfl, rfl⟩, trans := fun h1 h2 => ⟨h2.1.trans h1.1, h2.2.trans h1.2⟩, weaken := id
      noLoop := id, clear := fun _ => ⟨fun _ m => (nomatch m), rfl, rfl⟩
      task := fun {_ _ _ t st0} i0 hm _ hi => .of (fun x hr => by
        have q : Quiet st0 x.1 := by
          cases t with
          | data d g => exact runDataTask_quiet _ _ hr
          | instr i g => exact runInstrTask_quiet _ _ hr
          | globalCopy n l c => exact absurd (i0 _ hm) (by simp [Task.notCopy])
        exact ⟨fun t' m => (q.gt t' m).elim (hi t') id, q.globals, q.locals⟩) fun _ _ => id }
  ((L.globalLoop_spec (g := ()) n ts st ⟨{ st with globalTasks := ts ++ st.globalTasks },
    fun t m => (List.mem_append.mp m).elim (hts t) (hg t), fun _ m => List.mem_append_left _ m, rfl, rfl⟩ hg).ok h).2

end Trion.Asm
