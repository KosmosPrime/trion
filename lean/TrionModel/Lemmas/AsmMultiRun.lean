import TrionModel.Lemmas.AsmAbs
import TrionModel.Lemmas.AsmMultiLayout
/-!
# Stage 1 of the C05 pipeline clause (`.include`, file-local names): the flattening `FlatEls`; the reference side of a run

`FlatEls … id path t nxt c els p nxt'`: `p` is the program of the layout core obtained from the statements `els` of the
file instance `id` (path `path`, abstracted over the table `t`, reference cursor `c` in front) by splicing, in place of
every `.include` statement, the program of the included file (a new instance, numbered in preorder from `nxt`;
abstracted over a table `t'` of its own; the cursor carries across the boundary in both directions).  Names are numbered
per instance (`num id name`), so the flattened program lives in one flat symbol space although every file has its own
scope.  `E` is the final symbol table of the whole flattened program: every instance's table is `E` at that instance.

The simulation is the one of Lemmas/AsmXferRun.lean, at the family of Lemmas/AsmFlatEls.lean.
-/
namespace Trion.Asm.Multi
open Trion Trion.SegLayout Trion.Asm
open Trion.Layout (MRun withTasks)

def isInclude (el : Element) : Bool :=
  match el.val with
  | .directive name _ => name = bytesOf "include"
  | _ => false

/-- not `.global/.import/.export` (`.include` admitted): the statements of stage 1 -/
def okInc (el : Element) : Bool :=
  match el.val with
  | .directive name _ => !(name = bytesOf "global" || name = bytesOf "import" || name = bytesOf "export")
  | _ => true

def incTarget (fs : Bytes → Option Bytes) (path : Bytes) (el : Element) : Option (Bytes × Bytes) :=
  match el.val with
  | .directive name args =>
    if name = bytesOf "include" then
      match args.toList with
      | [.str p] =>
        match fs (sibling path p) with
        | some data => some (sibling path p, data)
        | none => none
      | _ => none
    else none
  | _ => none

theorem include_inv {fs : Bytes → Option Bytes} {enc : Encoder} {inc : Inc} {env : Env} {path : Bytes}
    {rest : List Bytes} (henv : env.paths = path :: rest) {st st' : St} {el : Element} (hi : isInclude el = true)
    (h : statement fs enc inc env st el = .ok (st', .ok)) :
    ∃ p' d', incTarget fs path el = some (p', d') ∧ inc env st d' p' = .ok (st', .ok) := by
  obtain ⟨line, col, val⟩ := el
  cases val with
  | label n => simp [isInclude] at hi
  | instruction n a => simp [isInclude] at hi
  | directive name args =>
    simp only [isInclude, decide_eq_true_eq] at hi
    subst hi
    simp only [statement, directive_include] at h
    obtain ⟨p, data, hargs, hfs, hinc⟩ := includeDirective_ok h
    rw [henv] at hfs hinc
    exact ⟨_, data, by simp only [incTarget, if_true, hargs]; rw [show sibling path p = sibling ((path :: rest).headD []) p from rfl, hfs], hinc⟩

inductive FlatEls (num : Nat → Bytes → Nat) (fs : Bytes → Option Bytes) (enc : Encoder) (E : Layout.Env) :
    Nat → Bytes → Table → Nat → Option Nat → List Element → List Layout.Stmt → Nat → Prop
  | nil (id : Nat) (path : Bytes) (t : Table) (nxt : Nat) (c : Option Nat) : FlatEls num fs enc E id path t nxt c [] [] nxt
  | stmt {id : Nat} {path : Bytes} {t : Table} {nxt : Nat} {c : Option Nat} {el : Element} {els : List Element}
      {p : List Layout.Stmt} {nxt' : Nat} : isInclude el = false →
      FlatEls num fs enc E id path t nxt (Layout.Ref.next c (absStmt (num id) fs enc path t c el)) els p nxt' →
      FlatEls num fs enc E id path t nxt c (el :: els) (absStmt (num id) fs enc path t c el :: p) nxt'
  | inc {id : Nat} {path : Bytes} {t : Table} {nxt : Nat} {c : Option Nat} {el : Element} {els : List Element}
      {p : List Layout.Stmt} {nxt' : Nat} {path' data' : Bytes} {els' : List Element} {perr' : Option ParseErr}
      {t' : Table} {pc : List Layout.Stmt} {nxt1 : Nat} :
      incTarget fs path el = some (path', data') → parseFile data' = .ok (els', perr') →
      EnvRel (num nxt) t' E →
      FlatEls num fs enc E nxt path' t' (nxt + 1) c els' pc nxt1 →
      FlatEls num fs enc E id path t nxt1 (Layout.Ref.cursorAfter c pc) els p nxt' →
      FlatEls num fs enc E id path t nxt c (el :: els) (pc ++ p) nxt'

theorem FlatEls.source {num : Nat → Bytes → Nat} {fs : Bytes → Option Bytes} {enc : Encoder} {E : Layout.Env} {id : Nat}
    {path : Bytes} {t : Table} {nxt : Nat} {c : Option Nat} {els : List Element} {p : List Layout.Stmt} {nxt' : Nat}
    (h : FlatEls num fs enc E id path t nxt c els p nxt') (ht : EnvRel (num id) t E) :
    ∀ s ∈ p, ∃ id' path' t' c' el, EnvRel (num id') t' E ∧ isInclude el = false ∧
      s = absStmt (num id') fs enc path' t' c' el := by
  induction h with
  | nil => intro s hs; cases hs
  | stmt hi _ ih =>
    intro s hs
    rcases List.mem_cons.mp hs with rfl | hs
    · exact ⟨_, _, _, _, _, ht, hi, rfl⟩
    · exact ih ht s hs
  | inc _ _ er _ _ ih1 ih2 =>
    intro s hs
    rcases List.mem_append.mp hs with hs | hs
    · exact ih1 er s hs
    · exact ih2 ht s hs

def NumInj (num : Nat → Bytes → Nat) : Prop := ∀ i j a b, num i a = num j b → i = j ∧ a = b

theorem NumInj.inj {num : Nat → Bytes → Nat} (h : NumInj num) (i : Nat) : Function.Injective (num i) :=
  fun a b e => (h i i a b e).2

theorem defines_absStmt (num : Bytes → Nat) {enc : Encoder} (fs : Bytes → Option Bytes) (path : Bytes) (t : Table)
    (c : Option Nat) (el : Element) (k : Nat) (h : Layout.defines (absStmt num fs enc path t c el) = some k) :
    ∃ n, k = num n := by
  unfold absStmt at h
  repeat' split at h
  all_goals first
    | (simp only [Layout.defines, Option.some.injEq] at h; exact ⟨_, h.symm⟩)
    | (simp only [junk, Layout.defines] at h; cases h)
    | (unfold valueStmt at h; split at h <;> simp [Layout.defines] at h)

theorem image_ref {seg s' : Seg.State} {la : Layout.State} {prog : List Layout.Stmt} (hrun : MRun {} prog la)
    (htk : la.tasks = []) (hwf : ∀ s ∈ prog, s.wf = true) (inv : Seg.Inv seg) (r : R seg la)
    (hcl : Seg.closeSegment seg = (s', .ok)) :
    ∃ im', Layout.Ref.pass2 none [] prog = some im' ∧ (∀ a, Map.abs s'.map a = im'.get a) ∧
      (∀ q s r, prog = q ++ s :: r → s.emits = true →
        ∃ x, Layout.Ref.cursorAfter none q = some x ∧
          ∀ i, i < (Layout.Ref.bytes x s).length → im'.get (x + i) = (Layout.Ref.bytes x s)[i]?) ∧
      (Layout.NoLabelAtTop prog → Layout.Ref.pass1 none [] prog = some la.env) := by
  have rel0 : Layout.Rel ({} : Layout.State) ([] ++ ({} : Layout.State).tasks) none [] := Layout.rel_init
  obtain ⟨im', p2, rel, p1, _, hpl⟩ := Layout.mrun_ref hrun [] none [] rel0 hwf
  obtain ⟨l5, c1, c2, _, _⟩ := close_sim inv r
  rw [hcl] at c2
  simp only at c2
  obtain ⟨l5', c1', _, _, _, _, hg, _⟩ := Layout.closeSeg_spec la rel.core
  rw [c1] at c1'; cases c1'
  refine ⟨im', ?_, fun a => ?_, hpl, fun hl => ?_⟩
  · have := p2 []
    simp only [List.append_nil, Layout.Ref.pass2] at this
    exact this
  · rw [c2.1 a, hg a]
    exact rel.agree a (fun _ ht => by rw [htk] at ht; cases ht)
  · have := p1 hl []
    simp only [List.append_nil, Layout.Ref.pass1] at this
    exact this

/-- every file of the include tree below (`path`, `data`), to depth `fuel`, is free of `.global / .import / .export`
(no condition on the operand trees: `evaluate` is idempotent, Lemmas/SimpNF.lean) -/
def LocalProject (fs : Bytes → Option Bytes) : Nat → Bytes → Bytes → Prop
  | 0, _, _ => True
  | fuel + 1, path, data => ∀ els perr, parseFile data = .ok (els, perr) → ∀ el ∈ els,
      okInc el = true ∧ ∀ p' d', incTarget fs path el = some (p', d') → LocalProject fs fuel p' d'

end Trion.Asm.Multi
