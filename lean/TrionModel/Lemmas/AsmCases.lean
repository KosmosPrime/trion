import TrionModel.Model.Asm
import TrionModel.Lemmas.AsmEq
/-!
# `Trion.Asm`: the functions of the model read backwards

`X_cases`/`X_ok`: from `X … = .ok (st', r)`, what `X` returned, as explicit shapes of the new state (for the functions
whose exact course the simulations need; what the others do is in Lemmas/AsmActs.lean); `X_stop` for the primitives: from
`X … = .stop z`, which `z`.
-/
namespace Trion.Asm
open Trion

/-- split every `match`/`if` of the goal, reducing `let`s on the way -/
macro "splits" : tactic => `(tactic| repeat' (first | split | (simp only)))

/-! ## `DirectiveList::process` as a lookup in a table of thirteen names

What a new directive must be fed to: DESIGN.md §16, at `AsmCases`.  The premises of `directive_cases` have names; a use
that gives them by name (`directive_acts`, `directive_ret`, `diag_pos_partial`) does not depend on their order, one that
gives them in order (`statement_scope`, `Multi.statement_sim_fate`) does. -/

def dispatch {α : Type} (d : α) (name : Bytes) : List (Bytes × α) → α
  | [] => d
  | (k, v) :: t => if name = k then v else dispatch d name t

theorem dispatch_not_mem {α : Type} {d : α} {k : Bytes} :
    ∀ {tbl : List (Bytes × α)}, k ∉ tbl.map Prod.fst → dispatch d k tbl = d
  | [], _ => rfl
  | (k', v') :: t, h => by
    simp only [List.map_cons, List.mem_cons, not_or] at h
    simp only [dispatch, if_neg h.1]
    exact dispatch_not_mem h.2

theorem dispatch_cases {α : Type} {P : α → Prop} {d : α} {k : Bytes} :
    ∀ {tbl : List (Bytes × α)}, (∀ v, (k, v) ∈ tbl → P v) → P d → P (dispatch d k tbl)
  | [], _, hd => hd
  | (k', v') :: t, h, hd => by
    simp only [dispatch]
    split
    · rename_i e; exact h v' (e ▸ List.mem_cons_self)
    · exact dispatch_cases (fun v hv => h v (List.mem_cons_of_mem _ hv)) hd

def dirImpl (fs : Bytes → Option Bytes) (inc : Inc) (env : Env) (st : St) (l c : Nat) (args : List Arg) :
    List (Bytes × Out (St × Res)) :=
  [(bytesOf "addr", addrDirective env st l c args),
   (bytesOf "align", alignDirective env st l c args),
   (bytesOf "const", constDirective env st l c args),
   (bytesOf "du8", duDirective .u8 env st l c args),
   (bytesOf "du16", duDirective .u16 env st l c args),
   (bytesOf "du32", duDirective .u32 env st l c args),
   (bytesOf "dhex", stringDirective fs "dhex" env st l c args),
   (bytesOf "dstr", stringDirective fs "dstr" env st l c args),
   (bytesOf "dfile", stringDirective fs "dfile" env st l c args),
   (bytesOf "global", globalDirective .global env st l c args),
   (bytesOf "import", globalDirective .import_ env st l c args),
   (bytesOf "export", globalDirective .export_ env st l c args),
   (bytesOf "include", includeDirective fs inc env st l c args)]

theorem directive_eq (fs : Bytes → Option Bytes) (inc : Inc) (env : Env) (st : St) (l c : Nat) (name : Bytes)
    (args : List Arg) :
    directive fs inc env st l c name args =
      dispatch (.ok (st.push env l c (.dirNotFound name), .err .fatal)) name (dirImpl fs inc env st l c args) := rfl

theorem directive_cases {P : Out (St × Res) → Prop} {fs : Bytes → Option Bytes} {inc : Inc} {env : Env} {st : St}
    {l c : Nat} {name : Bytes} {args : List Arg}
    (addr : name = bytesOf "addr" → P (addrDirective env st l c args))
    (align : name = bytesOf "align" → P (alignDirective env st l c args))
    (const : name = bytesOf "const" → P (constDirective env st l c args))
    (du : ∀ du : DU, name = bytesOf du.name → P (duDirective du env st l c args))
    (str : ∀ dir : String, dir = "dhex" ∨ dir = "dstr" ∨ dir = "dfile" → name = bytesOf dir →
      P (stringDirective fs dir env st l c args))
    (glob : ∀ g : GDir, name = bytesOf g.name → P (globalDirective g env st l c args))
    (incl : name = bytesOf "include" → P (includeDirective fs inc env st l c args))
    (unk : P (.ok (st.push env l c (.dirNotFound name), .err .fatal))) :
    P (directive fs inc env st l c name args) := by
  rw [directive_eq]
  refine dispatch_cases (fun v hv => ?_) unk
  simp only [dirImpl, List.mem_cons, Prod.mk.injEq, List.not_mem_nil, or_false] at hv
  rcases hv with ⟨rfl, rfl⟩ | ⟨rfl, rfl⟩ | ⟨rfl, rfl⟩ | ⟨rfl, rfl⟩ | ⟨rfl, rfl⟩ | ⟨rfl, rfl⟩ | ⟨rfl, rfl⟩ | ⟨rfl, rfl⟩ |
    ⟨rfl, rfl⟩ | ⟨rfl, rfl⟩ | ⟨rfl, rfl⟩ | ⟨rfl, rfl⟩ | ⟨rfl, rfl⟩
  · exact addr rfl
  · exact align rfl
  · exact const rfl
  · exact du .u8 rfl
  · exact du .u16 rfl
  · exact du .u32 rfl
  · exact str "dhex" (.inl rfl) rfl
  · exact str "dstr" (.inr (.inl rfl)) rfl
  · exact str "dfile" (.inr (.inr rfl)) rfl
  · exact glob .global rfl
  · exact glob .import_ rfl
  · exact glob .export_ rfl
  · exact incl rfl

theorem runWith_done {enc : Encoder} {fs : Bytes → Option Bytes} {main : Bytes} {o : Outcome}
    (h : runWith enc fs main = .done o) :
    ∃ data st res, fs main = some data ∧
      assembleFile fs enc maxDepth Env.init St.init data main = .ok (st, res) ∧
      ((∃ e, (Seg.closeSegment st.seg).2 = .diag e ∧
          o = ⟨res = .ok, some e, false, st.errors.reverse, (Seg.closeSegment st.seg).1.map⟩) ∨
       ((∀ e, (Seg.closeSegment st.seg).2 ≠ .diag e) ∧ (Seg.closeSegment st.seg).2 ≠ .panic ∧
        ∃ st' fin, finalize enc Env.init { st with seg := (Seg.closeSegment st.seg).1 } = .ok (st', fin) ∧
          o = ⟨res = .ok, none, fin, st'.errors.reverse, st'.seg.map⟩)) := by
  unfold runWith at h
  split at h
  · cases h
  · rename_i data hdata
    split at h
    · rename_i st res ha
      refine ⟨data, st, res, hdata, ha, ?_⟩
      cases hc : Seg.closeSegment st.seg with
      | mk s' out =>
        rw [hc] at h
        cases out with
        | diag e => cases h; exact .inl ⟨e, rfl, rfl⟩
        | panic => cases h
        | _ =>
          simp only at h
          split at h
          · rename_i st' fin hf
            cases h
            exact .inr ⟨fun _ he => (nomatch he), fun he => (nomatch he), st', fin, hf, rfl⟩
          all_goals cases h
    all_goals cases h

theorem runWith_noMain {enc : Encoder} {fs : Bytes → Option Bytes} {main : Bytes} (h : runWith enc fs main = .noMain) :
    fs main = none := by
  unfold runWith at h
  split at h
  · assumption
  · repeat' split at h
    all_goals cases h

/-- what `fileBody` does after the statements: `local_tasks.replace(Vec::new()).unwrap()`, then the task loop -/
def fileLoop (enc : Encoder) (env : Env) (st : St) (res : Res) : Out (St × Res) :=
  match st.localTasks with
  | none => .stop .panic
  | some tasks => localLoop enc env rounds tasks { st with localTasks := some [] } res

/-- what `fileBody` does with what `do_assemble` returned: after a fatal result nothing -/
def bodyLoop (enc : Encoder) (env : Env) (st3 : St) (res : Res) : Out (St × Res) :=
  if res = .err .fatal then .ok (st3, res) else fileLoop enc env st3 res

theorem fileBody_of_parse (fs : Bytes → Option Bytes) (enc : Encoder) (inc : Inc) (env : Env) (data : Bytes)
    (st : St) (els : List Element) (perr : Option ParseErr) (hp : parseFile data = .ok (els, perr)) :
    fileBody fs enc inc env data st =
      match doAssemble fs enc inc env els perr st with
      | .ok (st3, res) => bodyLoop enc env st3 res
      | .stop r => .stop r := by
  simp only [fileBody, hp] <;> rfl

theorem bodyLoop_ok {enc : Encoder} {env : Env} {st3 st' : St} {res r : Res} (h : bodyLoop enc env st3 res = .ok (st', r)) :
    (res = .err .fatal ∧ st' = st3 ∧ r = res) ∨
    (res ≠ .err .fatal ∧ ∃ tasks, st3.localTasks = some tasks ∧
      localLoop enc env rounds tasks { st3 with localTasks := some [] } res = .ok (st', r)) := by
  unfold bodyLoop at h
  split at h
  · rename_i hres; cases h; exact .inl ⟨hres, rfl, rfl⟩
  · rename_i hres
    unfold fileLoop at h
    split at h
    · cases h
    · rename_i tasks ht; exact .inr ⟨hres, tasks, ht, h⟩

theorem fileBody_ok {fs : Bytes → Option Bytes} {enc : Encoder} {inc : Inc} {env : Env} {data : Bytes} {st st' : St}
    {r : Res} (h : fileBody fs enc inc env data st = .ok (st', r)) :
    ∃ els perr st3 res, parseFile data = .ok (els, perr) ∧ doAssemble fs enc inc env els perr st = .ok (st3, res) ∧
      ((res = .err .fatal ∧ st' = st3 ∧ r = res) ∨
       (res ≠ .err .fatal ∧ ∃ tasks, st3.localTasks = some tasks ∧
          localLoop enc env rounds tasks { st3 with localTasks := some [] } res = .ok (st', r))) := by
  cases hp : parseFile data with
  | stop z => simp only [fileBody, hp] at h; cases h
  | ok p =>
    obtain ⟨els, perr⟩ := p
    rw [fileBody_of_parse fs enc inc env data st els perr hp] at h
    cases hd : doAssemble fs enc inc env els perr st with
    | stop z => rw [hd] at h; cases h
    | ok q => obtain ⟨st3, res⟩ := q; rw [hd] at h; exact ⟨els, perr, st3, res, rfl, hd, bodyLoop_ok h⟩

theorem assembleFile_ok {fs : Bytes → Option Bytes} {enc : Encoder} {fuel : Nat} {env : Env} {st st' : St}
    {data path : Bytes} {r : Res} (h : assembleFile fs enc (fuel + 1) env st data path = .ok (st', r)) :
    ∃ st4, fileBody fs enc (assembleFile fs enc fuel) ⟨path :: env.paths, path⟩ data (enterFile st).2.2 = .ok (st4, r) ∧
      st' = leaveFile (enterFile st).1 (enterFile st).2.1 st4 := by
  rw [assembleFile_succ] at h
  split at h
  · rename_i st4 res hf
    cases h
    exact ⟨st4, hf, rfl⟩
  · cases h

theorem finalize_ok {enc : Encoder} {env : Env} {st st' : St} {fin : Bool} (h : finalize enc env st = .ok (st', fin)) :
    ∃ abort, globalLoop enc env rounds st.globalTasks { st with globalTasks := [] } = .ok (st', abort) ∧
      fin = !(abort || st'.hasErrored) := by
  unfold finalize at h
  split at h
  · rename_i st2 abort hl
    cases h
    exact ⟨abort, hl, rfl⟩
  · cases h


def Res.isErr : Res → Bool
  | .ok => false
  | .err _ => true

def Op.isErr : Op → Bool
  | .err _ => true
  | _ => false

@[simp] theorem Res.isErr_ok : Res.isErr .ok = false := rfl
@[simp] theorem Res.isErr_err (l : Level) : Res.isErr (.err l) = true := rfl
@[simp] theorem join_isErr (r : Res) (l : Level) : (r.join l).isErr = true := by cases r <;> rfl
@[simp] theorem Op.isErr_completed : Op.isErr .completed = false := rfl
@[simp] theorem Op.isErr_deferred (c : Bytes) : Op.isErr (.deferred c) = false := rfl
@[simp] theorem Op.isErr_err (l : Level) : Op.isErr (.err l) = true := rfl


/-- the diagnostic kinds a directive named `s` reports about itself -/
def Kind.ofDir (s : String) : Kind → Prop
  | .dirTooMany s' _ _ => s' = s
  | .dirNotEnough s' _ _ => s' = s
  | .dirArgType s' _ _ _ => s' = s
  | .dirApply s' _ => s' = s
  | _ => False

theorem arity_ofDir {dir : String} {need n : Nat} {k : Kind} (h : arity dir need n = some k) : k.ofDir dir := by
  unfold arity at h
  split at h
  · cases h
  · split at h <;> (cases h; rfl)

/-- `apply` over the table `t` it evaluates in: the operand is a constant in range and was written; or it stopped at an
unknown name in a first attempt, or at a deferred one, and nothing happened; or a diagnostic was recorded -/
theorem apply_eval {d d' : DataExpr} {env : Env} {st st' : St} {loc : Bool} {op : Op} {t : Table}
    (ht : evalTable env st = .ok t) (h : d.apply env st loc = .ok (d', st', op)) :
    (∃ v, evalIn t d.arg = .ok (.complete (.const v)) ∧ (0 ≤ v ∧ v ≤ d.du.max) ∧ op = .completed ∧
        ({ d with arg := .const v } : DataExpr).writeData st (leBytes d.du.size v.toNat) = .ok (d', st', .ok)) ∨
    (∃ n x, evalIn t d.arg = .ok (.noSuch n x) ∧ loc = true ∧ d' = { d with arg := x } ∧ st' = st ∧ op = .deferred n) ∨
    (∃ c x, evalIn t d.arg = .ok (.deferred c x) ∧ op = .deferred c) ∨ ∃ l, op = .err l := by
  unfold DataExpr.apply at h
  simp only [evalArg, ht] at h
  split at h
  · rename_i a he
    split at h
    · rename_i hw
      cases h
      unfold DataExpr.writer at hw
      split at hw
      · rename_i v hv0
        simp only at hv0
        subst hv0
        split at hw
        · rename_i hv; exact .inl ⟨v, he, hv, rfl, hw⟩
        · cases hw
      · cases hw
    · cases h; exact .inr (.inr (.inr ⟨_, rfl⟩))
    · cases h
  · rename_i he; cases h; exact .inr (.inr (.inl ⟨_, _, he, rfl⟩))
  · rename_i he
    split at h
    · rename_i hl; cases h; exact .inr (.inl ⟨_, _, he, hl, rfl, rfl, rfl⟩)
    · cases h; exact .inr (.inr (.inr ⟨_, rfl⟩))
  · cases h; exact .inr (.inr (.inr ⟨_, rfl⟩))
  · cases h

/-- what `.du*` reports about an operand that evaluated to `a`, no constant in range -/
def duKindOf (du : DU) : Arg → Kind
  | .const v => .dirApply du.name (.dataRange 0 du.max v)
  | a => .dirArgType du.name 0 .const a.ty

theorem apply_bad (d : DataExpr) (env : Env) (st : St) (loc : Bool) (a' : Arg)
    (hev : evalArg env st d.arg = .ok (.complete a')) (hbad : ∀ v, a' = .const v → ¬ (0 ≤ v ∧ v ≤ d.du.max)) :
    d.apply env st loc = .ok ({ d with arg := a' }, st.pushIn d.file d.line d.col (duKindOf d.du a'), .err .trivial) := by
  cases a' with
  | const v => simp [DataExpr.apply, hev, DataExpr.writer, hbad v rfl, DataExpr.kindApply, duKindOf]
  | _ => simp [DataExpr.apply, hev, DataExpr.writer, duKindOf]

theorem apply_evalErr (d : DataExpr) (env : Env) (st : St) (loc : Bool) {e : EvalE} {a' : Arg}
    (hev : evalArg env st d.arg = .ok (.err e a')) :
    d.apply env st loc = .ok ({ d with arg := a' }, st.pushIn d.file d.line d.col (d.kindApply (.eval e)), .err .trivial) := by
  simp [DataExpr.apply, hev]

/-- a first attempt that ended with a trivial error: the evaluation failed, or what it delivered is no constant in range
(`apply_evalErr`, `apply_bad` then say what `apply` returned); a refused write is fatal -/
theorem apply_trivial {d d' : DataExpr} {env : Env} {st st' : St} (h : d.apply env st true = .ok (d', st', .err .trivial)) :
    (∃ e a', evalArg env st d.arg = .ok (.err e a')) ∨
    ∃ a', evalArg env st d.arg = .ok (.complete a') ∧ ∀ v, a' = .const v → ¬ (0 ≤ v ∧ v ≤ d.du.max) := by
  unfold DataExpr.apply at h
  cases hev : evalArg env st d.arg with
  | stop r => rw [hev] at h; cases h
  | ok ev =>
    rw [hev] at h
    cases ev with
    | deferred c a => cases h
    | noSuch n a => simp only [if_true] at h; cases h
    | err e a => exact .inl ⟨e, a, rfl⟩
    | complete a =>
      refine .inr ⟨a, rfl, fun v hv hr => ?_⟩
      subst hv
      simp only [DataExpr.writer, hr, and_self, if_true, DataExpr.writeData] at h
      cases hw : writeStmt st.seg d.placed d.addr (leBytes d.du.size v.toNat) with
      | stop r => rw [hw] at h; cases h
      | ok p =>
        obtain ⟨s', pl, oe⟩ := p
        rw [hw] at h
        cases oe <;> simp at h

/-- the counterpart of `apply_eval` for an instruction: `ArmInstr.assemble` that returned, by what `Front.assemble` made of the
statement over the table `T` it read -/
theorem assembleI_ok {i i1 : ArmInstr} {env : Env} {st st1 : St} {loc : Bool} {op : Op} {T : Table}
    (ht : evalTable env st = .ok T) (h : i.assemble env st loc = .ok (i1, st1, op)) :
    ∃ fs r, Front.assemble i.st (frontEval T) loc = (fs, r) ∧ i1 = { i with st := fs } ∧
      (r = .completed ∧ op = .completed ∧ st1 = st ∨ (∃ c, r = .deferred c ∧ op = .deferred c ∧ st1 = st) ∨
        ∃ d, r = .error d ∧ op = .err .trivial ∧ st1 = st.pushIn i.file i.line i.col (frontKind d)) := by
  simp only [ArmInstr.assemble, ht] at h
  split at h
  · cases h
  cases hfa : Front.assemble i.st (frontEval T) loc with
  | mk fs r =>
    rw [hfa] at h
    cases r with
    | panic => cases h
    | completed => cases h; exact ⟨fs, _, rfl, rfl, .inl ⟨rfl, rfl, rfl⟩⟩
    | deferred c => cases h; exact ⟨fs, _, rfl, rfl, .inr (.inl ⟨c, rfl, rfl, rfl⟩)⟩
    | error d => cases h; exact ⟨fs, _, rfl, rfl, .inr (.inr ⟨d, rfl, rfl, rfl⟩)⟩

/-- the diagnostic kinds an instruction statement reports -/
def Kind.ofInstr : Kind → Prop
  | .inactive | .instrNotFound _ | .instrTooMany .. | .instrNotEnough .. | .instrArgType .. | .instrAssemble _ => True
  | _ => False

theorem frontKind_ofInstr (d : Front.Diag) : (frontKind d).ofInstr := by
  cases d <;> first | trivial | (rename_i e; cases e <;> trivial)

theorem includeDirective_shape {fs : Bytes → Option Bytes} {inc : Inc} {env : Env} {st st' : St} {line col : Nat}
    {args : List Arg} {r : Res} (h : includeDirective fs inc env st line col args = .ok (st', r)) :
    (∃ k, st' = st.push env line col k ∧ k.ofDir "include") ∨
    ∃ data path st1 r1, fs path = some data ∧ inc env st data path = .ok (st1, r1) ∧
      ((st' = st1 ∧ r = r1) ∨ ∃ k, st' = st1.push env line col k ∧ k.ofDir "include") := by
  unfold includeDirective at h
  split at h
  · rename_i hk; cases h; exact .inl ⟨_, rfl, arity_ofDir hk⟩
  · split at h
    · simp only at h
      split at h
      · cases h; exact .inl ⟨_, rfl, rfl⟩
      · rename_i hfs
        split at h
        · rename_i hi; cases h; exact .inr ⟨_, _, _, _, hfs, hi, .inl ⟨rfl, rfl⟩⟩
        · rename_i hi; cases h; exact .inr ⟨_, _, _, _, hfs, hi, .inr ⟨_, rfl, rfl⟩⟩
        · cases h
    · cases h; exact .inl ⟨_, rfl, rfl⟩
    · cases h

/-! ## how the primitives stop

`Stop.fuel` and `Stop.loop` are produced by `assembleFile` and the two task loops only: every function below them stops
with a literal `panic` or with the stop of a callee (for the functions above the primitives this is the other half of the
walk in Lemmas/AsmActs.lean). -/

theorem segStep_stop {s : Seg.State} {op : Seg.Op} {z : Stop} (h : segStep s op = .stop z) : z = .panic := by
  revert h
  unfold segStep
  splits
  all_goals intro h
  all_goals first | (cases h; done) | (cases h; rfl)

theorem writeStmt_stop {s : Seg.State} {p : Bool} {a : Nat} {d : Bytes} {z : Stop} (h : writeStmt s p a d = .stop z) : z = .panic := by
  revert h
  unfold writeStmt
  splits
  all_goals intro h
  all_goals first | (cases h; done) | (cases h; rfl) | (cases h; exact segStep_stop ‹_›) | exact segStep_stop h

theorem getConstant_stop {st : St} {n : Bytes} {r : Realm} {z : Stop} (h : getConstant st n r = .stop z) : z = .panic := by
  revert h
  unfold getConstant
  splits
  all_goals intro h
  all_goals first | (cases h; done) | (cases h; rfl)

theorem insertConstant_stop {st : St} {n : Bytes} {v : Int} {r : Realm} {z : Stop} (h : insertConstant st n v r = .stop z) : z = .panic := by
  revert h
  unfold insertConstant
  splits
  all_goals intro h
  all_goals first | (cases h; done) | (cases h; rfl)

theorem deferConstant_stop {st : St} {n : Bytes} {r : Realm} {z : Stop} (h : deferConstant st n r = .stop z) : z = .panic := by
  revert h
  unfold deferConstant
  splits
  all_goals intro h
  all_goals first | (cases h; done) | (cases h; rfl)

theorem addTask_stop {st : St} {t : Task} {r : Realm} {z : Stop} (h : addTask st t r = .stop z) : z = .panic := by
  revert h
  unfold addTask
  splits
  all_goals intro h
  all_goals first | (cases h; done) | (cases h; rfl)

theorem evalTable_stop {env : Env} {st : St} {z : Stop} (h : evalTable env st = .stop z) : z = .panic := by
  revert h
  unfold evalTable
  splits
  all_goals intro h
  all_goals first | (cases h; done) | (cases h; rfl)

theorem evalIn_stop {t : Table} {a : Arg} {z : Stop} (h : evalIn t a = .stop z) : z = .panic := by
  revert h
  unfold evalIn
  splits
  all_goals intro h
  all_goals first | (cases h; done) | (cases h; rfl)

theorem evalArg_stop {env : Env} {st : St} {a : Arg} {z : Stop} (h : evalArg env st a = .stop z) : z = .panic := by
  revert h
  unfold evalArg
  splits
  all_goals intro h
  all_goals first | (cases h; done) | (cases h; rfl) | (cases h; exact evalTable_stop ‹_›) | (cases h; exact evalIn_stop ‹_›) | exact evalTable_stop h | exact evalIn_stop h

/-- the `panic` arm of `includeDirective` is dead code (`arity_one`): a stop of `.include` is a stop of the file it reads -/
theorem includeDirective_stop {fs : Bytes → Option Bytes} {inc : Inc} {env : Env} {st : St} {l c : Nat} {args : List Arg}
    {z : Stop} (h : includeDirective fs inc env st l c args = .stop z) :
    ∃ data path, fs path = some data ∧ inc env st data path = .stop z := by
  unfold includeDirective at h
  split at h
  · cases h
  · rename_i har
    obtain ⟨a, rfl⟩ := arity_one har
    cases a with
    | str p =>
      simp only at h
      split at h
      · cases h
      · rename_i data hfs
        split at h
        · cases h
        · cases h
        · cases h; exact ⟨_, _, hfs, ‹_›⟩
    | _ => cases h

end Trion.Asm
