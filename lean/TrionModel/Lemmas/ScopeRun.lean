import TrionModel.Lemmas.ScopePanic
import TrionModel.Lemmas.ScopeFrame
/-! Whole `enter … exit` runs over include trees: what a file body and a complete `.include` do to the tables and task
lists of the file and of its includer, and where a valued entry of a table can come from. -/
namespace Trion.Scope

theorem run_append : ∀ (a b : List Op) {s s' : State},
    run s (a ++ b) = .ok s' ↔ ∃ m, run s a = .ok m ∧ run m b = .ok s'
  | [], b, s, s' => by simp [run]
  | op :: a, b, s, s' => by
    simp only [List.cons_append, run]
    cases h : step s op with
    | error p => simp
    | ok s1 => simp only; exact run_append a b

theorem run_single {s s' : State} {op : Op} : run s [op] = .ok s' ↔ step s op = .ok s' := by
  simp only [run]
  cases h : step s op <;> simp

theorem run_enter {s : State} (hm : s.mode = .running) (tag : Nat) (ops : List Op) :
    run s (.enter tag :: ops) = run (enterFile s tag) ops := by
  simp only [run, step, hm]

theorem mode_eta (s : State) {m : Mode} (h : s.mode = m) : { s with mode := m } = s := by
  cases s; simp_all

theorem skip_body : ∀ (b : Body), b.wf → ∀ {s : State} {l : Level} {k : Nat}, s.mode = .stopped l k →
    run s b.flatten = .ok s
  | .nil, _, s, l, k, _ => rfl
  | .stmt o r, hw, s, l, k, hm => by
    have h1 : step s o = .ok s := by
      have := hw.1
      cases o <;> cases k <;> simp_all [step, Op.isStmt]
    simp only [Body.flatten, run, h1]
    exact skip_body r hw.2 hm
  | .incl tag i r, hw, s, l, k, hm => by
    simp only [Body.flatten]
    have h1 : step s (.enter tag) = .ok { s with mode := .stopped l (k + 1) } := by simp [step, hm]
    have h2 := skip_body i hw.1 (s := { s with mode := .stopped l (k + 1) }) rfl
    have h3 : step { s with mode := .stopped l (k + 1) } .exit = .ok s := by
      simp only [step]
      rw [mode_eta s hm]
    have h4 := skip_body r hw.2 hm
    simp only [run, h1]
    rw [run_append]
    refine ⟨_, h2, ?_⟩
    simp only [run, h3]
    exact h4

/-- `G'` is `G` plus entries at `names`: each changed entry was absent or unvalued in `G` and now carries the value
the entry has in `C'` (the included file's own table) — or it was absent and is now "announced" (a `.global` whose value
never arrived) -/
def Upd (names : List Bytes) (G G' C' : Table) : Prop :=
  ∀ m, G'.find m = G.find m ∨ (m ∈ names ∧ (∀ w, G.find m ≠ some (some w)) ∧
    ((∃ v, C'.find m = some (some v) ∧ G'.find m = some (some v)) ∨ (G.find m = none ∧ G'.find m = some none)))

theorem Upd.refl (names : List Bytes) (G C : Table) : Upd names G G C := fun _ => .inl rfl

theorem Upd.mono {n n' : List Bytes} {G G' C C' : Table} (h : Upd n G G' C) (hn : ∀ m ∈ n, m ∈ n')
    (hc : C.le C') : Upd n' G G' C' := by
  intro m
  rcases h m with h | ⟨h1, h2, h3⟩
  · exact .inl h
  · refine .inr ⟨hn m h1, h2, ?_⟩
    rcases h3 with ⟨v, h4, h5⟩ | h3
    · exact .inl ⟨v, hc m v h4, h5⟩
    · exact .inr h3

theorem Upd.trans {n : List Bytes} {G G1 G' C1 C' : Table} (h1 : Upd n G G1 C1) (h2 : Upd n G1 G' C')
    (hc : C1.le C') : Upd n G G' C' := by
  intro m
  rcases h2 m with e2 | ⟨m2, u2, c2⟩
  · rw [e2]
    exact (h1.mono (fun _ h => h) hc) m
  · rcases h1 m with e1 | ⟨m1, u1, c1⟩
    · rw [e1] at u2 c2
      exact .inr ⟨m2, u2, c2⟩
    · refine .inr ⟨m2, u1, ?_⟩
      rcases c2 with ⟨v, h4, h5⟩ | ⟨h4, h5⟩
      · exact .inl ⟨v, h4, h5⟩
      · rcases c1 with ⟨v, _, h7⟩ | ⟨h6, _⟩
        · rw [h7] at h4; cases h4
        · exact .inr ⟨h6, h5⟩

theorem Upd.le {n : List Bytes} {G G' C : Table} (h : Upd n G G' C) : G.le G' := by
  intro m v hv
  rcases h m with e | ⟨_, u, _⟩
  · rw [e]; exact hv
  · exact absurd hv (u v)

theorem stmt_tasks {s s' : State} {op : Op} {r : Option Level} (h : stmt s op = .ok (s', r)) :
    s'.globalTasks = s.globalTasks ∧
    ∃ add, s'.localTasks = s.localTasks.map (· ++ add) ∧ ∀ x ∈ add, x.fromNames op.names := by
  refine (stmt_acts h).pres (P := fun (x : State) => x.globalTasks = s.globalTasks ∧
      ∃ add : List Task, x.localTasks = s.localTasks.map (· ++ add) ∧ ∀ y ∈ add, Task.fromNames op.names y)
    (fun _ _ _ p => p) (fun _ _ _ _ p => p) (fun _ p => p) ?_ ⟨rfl, [], by cases s.localTasks <;> simp, by simp⟩
  intro a b r t hq ha ⟨hg, add, hadd, hfa⟩
  obtain ⟨rfl, _, _, hfn⟩ := Op.queues_spec hq
  obtain ⟨lt, hlt, rfl⟩ := addTask_loc.1 ha
  refine ⟨hg, add ++ [t], ?_, fun x hx => ?_⟩
  · show some (lt ++ [t]) = _
    rw [hlt] at hadd
    cases hs : s.localTasks with
    | none => rw [hs] at hadd; cases hadd
    | some l0 => rw [hs] at hadd; cases hadd; simp
  · rcases List.mem_append.1 hx with hx | hx
    · exact hfa x hx
    · cases List.mem_singleton.1 hx; exact hfn

/-- the two visible tables across one statement, by the statement's kind: the one place where the exact effects of
`Lemmas/ScopeFrame.lean` are put together over all statements -/
theorem stmt_tables {s s' : State} {op : Op} {r : Option Level} {l : Table} (hl : s.locals = some l)
    (h : stmt s op = .ok (s', r)) :
    ∃ l', s'.locals = some l' ∧ l.le l' ∧ Upd op.names s.globals s'.globals l' ∧ ∀ m, l'.find m = l.find m ∨
      (∃ v, op.defines m v ∧ l'.find m = some (some v)) ∨
      (op.imports m ∧ l'.find m = s.globals.find m) ∨
      (∃ tag, op = .global m tag ∧ l.find m = none ∧ l'.find m = some none) := by
  suffices key : ∃ l', s'.locals = some l' ∧ (l.le l' → Upd op.names s.globals s'.globals l') ∧
      ∀ m, l'.find m = l.find m ∨ (∃ v, op.defines m v ∧ l'.find m = some (some v)) ∨
        (op.imports m ∧ l'.find m = s.globals.find m) ∨
        (∃ tag, op = .global m tag ∧ l.find m = none ∧ l'.find m = some none) by
    obtain ⟨l', hl', hu, hx⟩ := key
    have hle : l.le l' := by have := (eff_stmt h).locals; rwa [hl, hl'] at this
    exact ⟨l', hl', hle, hu hle, hx⟩
  have same : ∀ {l'}, s'.globals = s.globals → Upd op.names s.globals s'.globals l' :=
    fun hg => hg ▸ Upd.refl _ _ _
  cases op with
  | enter tag => simp only [stmt] at h; cases h; exact ⟨l, hl, fun _ => same rfl, fun m => .inl rfl⟩
  | exit => simp only [stmt] at h; cases h; exact ⟨l, hl, fun _ => same rfl, fun m => .inl rfl⟩
  | finalize => simp only [stmt] at h; cases h; exact ⟨l, hl, fun _ => same rfl, fun m => .inl rfl⟩
  | use n tag =>
    obtain ⟨e1, e2⟩ := use_tables (.inr h)
    exact ⟨l, e1.trans hl, fun _ => same e2, fun m => .inl rfl⟩
  | «export» n tag =>
    obtain ⟨e1, hx⟩ := copyUp_frame hl (.inl h)
    refine ⟨l, e1.trans hl, fun _ m => ?_, fun m => .inl rfl⟩
    rcases hx m with hx | ⟨rfl, hu, v, hv, hg⟩
    · exact .inl hx
    · exact .inr ⟨by simp [Op.names], hu, .inl ⟨v, hv, hg⟩⟩
  | global n tag =>
    obtain ⟨⟨l', hl', hx⟩, hy⟩ := doGlobal_frame hl h
    refine ⟨l', hl', fun hle m => ?_, fun m => (hx m).imp id ?_⟩
    · rcases hy m with hy | ⟨rfl, hn, hg⟩
      · exact .inl hy
      · refine .inr ⟨by simp [Op.names], by simp [hn], ?_⟩
        rcases hg with hg | ⟨v, hv, hg⟩
        · exact .inr ⟨hn, hg⟩
        · exact .inl ⟨v, hle _ _ hv, hg⟩
    · rintro ⟨rfl, h1, h2⟩
      exact .inr (.inr ⟨tag, rfl, h1, h2⟩)
  | «import» n tag =>
    obtain ⟨hg, l', hl', hx⟩ := doImport_frame hl h
    refine ⟨l', hl', fun _ => same hg, fun m => (hx m).imp id ?_⟩
    rintro ⟨rfl, h1⟩
    exact .inr (.inl ⟨rfl, h1⟩)
  | const n w tag =>
    obtain ⟨hg, l', hl', hx⟩ := define_frame hl (.inl h)
    refine ⟨l', hl', fun _ => same hg, fun m => (hx m).imp id ?_⟩
    rintro ⟨rfl, h1⟩
    exact .inl ⟨w, ⟨rfl, rfl⟩, h1⟩
  | label n w tag =>
    obtain ⟨hg, l', hl', hx⟩ := define_frame hl (.inr h)
    refine ⟨l', hl', fun _ => same hg, fun m => (hx m).imp id ?_⟩
    rintro ⟨rfl, h1⟩
    exact .inl ⟨w, ⟨rfl, rfl⟩, h1⟩

theorem stmt_upd {s s' : State} {op : Op} {r : Option Level} {C : Table} (hl : s.locals = some C)
    (h : stmt s op = .ok (s', r)) :
    ∃ C', s'.locals = some C' ∧ C.le C' ∧ Upd op.names s.globals s'.globals C' :=
  let ⟨C', h1, h2, h3, _⟩ := stmt_tables hl h
  ⟨C', h1, h2, h3⟩

theorem stmt_local {s s' : State} {op : Op} {r : Option Level} {l : Table} (hl : s.locals = some l)
    (h : stmt s op = .ok (s', r)) :
    ∃ l', s'.locals = some l' ∧ ∀ m, l'.find m = l.find m ∨
      (∃ v, op.defines m v ∧ l'.find m = some (some v)) ∨
      (op.imports m ∧ l'.find m = s.globals.find m) ∨
      (∃ tag, op = .global m tag ∧ l.find m = none ∧ l'.find m = some none) :=
  let ⟨l', h1, _, _, h4⟩ := stmt_tables hl h
  ⟨l', h1, h4⟩

/-- what running (part of) the body of the current file — statements and complete includes — does to the state.
`names` bounds what the part may send up: the table above (`globals`) changes only at these names (`Upd`), and the
`.global` closures queued are for these names (`Task.fromNames`); the callers put `Body.names` of the part there. -/
structure BodyRel (names : List Bytes) (t t' : State) : Prop where
  frames : t'.frames = t.frames
  depth : t'.depth = t.depth
  gtasks : t'.globalTasks = t.globalTasks
  mode : t'.mode = .running ∨ ∃ l, t'.mode = .stopped l 0
  tabs : ∃ C C', t.locals = some C ∧ t'.locals = some C' ∧ C.le C' ∧ Upd names t.globals t'.globals C'
  ltasks : ∃ lt add, t.localTasks = some lt ∧ t'.localTasks = some (lt ++ add) ∧ ∀ x ∈ add, x.fromNames names

theorem BodyRel.refl (names : List Bytes) {t : State} (hin : InFile t)
    (hm : t.mode = .running ∨ ∃ l, t.mode = .stopped l 0) : BodyRel names t t := by
  obtain ⟨C, hC⟩ := Option.isSome_iff_exists.1 hin.locals
  obtain ⟨lt, hlt⟩ := Option.isSome_iff_exists.1 hin.ltasks
  exact ⟨rfl, rfl, rfl, hm, ⟨C, C, hC, hC, Table.le_refl _, Upd.refl _ _ _⟩, ⟨lt, [], hlt, by simp [hlt], by simp⟩⟩

theorem BodyRel.trans {n1 n2 : List Bytes} {a b c : State} (h1 : BodyRel n1 a b) (h2 : BodyRel n2 b c) :
    BodyRel (n1 ++ n2) a c := by
  obtain ⟨f1, d1, g1, _, ⟨C, C1, hC, hC1, le1, u1⟩, ⟨lt, add1, hlt, hlt1, fa1⟩⟩ := h1
  obtain ⟨f2, d2, g2, m2, ⟨C1', C2, hC1', hC2, le2, u2⟩, ⟨lt1, add2, hlt1', hlt2, fa2⟩⟩ := h2
  rw [hC1] at hC1'; cases hC1'
  rw [hlt1] at hlt1'; cases hlt1'
  refine ⟨f2.trans f1, d2.trans d1, g2.trans g1, m2, ⟨C, C2, hC, hC2, Table.le_trans le1 le2, ?_⟩,
    ⟨lt, add1 ++ add2, hlt, by rw [hlt2, List.append_assoc], ?_⟩⟩
  · exact (u1.mono (fun m h => List.mem_append.2 (.inl h)) (Table.le_refl _)).trans
      (u2.mono (fun m h => List.mem_append.2 (.inr h)) (Table.le_refl _)) le2
  · intro x hx
    rcases List.mem_append.1 hx with hx | hx
    · exact Task.fromNames_mono (fa1 x hx) (fun m h => List.mem_append.2 (.inl h))
    · exact Task.fromNames_mono (fa2 x hx) (fun m h => List.mem_append.2 (.inr h))

theorem BodyRel.mono {n n' : List Bytes} {a b : State} (h : BodyRel n a b) (hn : ∀ m ∈ n, m ∈ n') :
    BodyRel n' a b := by
  obtain ⟨f1, d1, g1, m1, ⟨C, C1, hC, hC1, le1, u1⟩, ⟨lt, add1, hlt, hlt1, fa1⟩⟩ := h
  exact ⟨f1, d1, g1, m1, ⟨C, C1, hC, hC1, le1, u1.mono hn (Table.le_refl _)⟩,
    ⟨lt, add1, hlt, hlt1, fun x hx => Task.fromNames_mono (fa1 x hx) hn⟩⟩

theorem step_stmt_rel {t t' : State} {o : Op} (hin : InFile t) (hf : t.frames ≠ []) (hm : t.mode = .running)
    (ho : o.isStmt = true) (h : step t o = .ok t') : BodyRel o.names t t' := by
  obtain ⟨C, hC⟩ := Option.isSome_iff_exists.1 hin.locals
  obtain ⟨lt, hlt⟩ := Option.isSome_iff_exists.1 hin.ltasks
  obtain ⟨s1, r, hs, hs'⟩ := step_stmt_cases hm ho hf h
  have e := eff_stmt hs
  obtain ⟨hg, add, hadd, hfa⟩ := stmt_tasks hs
  obtain ⟨C', hC', hle, hu⟩ := stmt_upd hC hs
  have main : ∀ {m : Mode}, (m = .running ∨ ∃ l, m = .stopped l 0) → BodyRel o.names t { s1 with mode := m } :=
    fun hmode => ⟨e.frames, e.depth, hg, hmode, ⟨C, C', hC, hC', hle, hu⟩, ⟨lt, add, hlt, by rw [hadd, hlt]; rfl, hfa⟩⟩
  rcases hs' with ⟨_, rfl⟩ | ⟨l, _, rfl⟩
  · have := main (m := .running) (.inl rfl)
    rwa [mode_eta _ (e.mode.trans hm)] at this
  · exact main (.inr ⟨_, rfl⟩)

/-- what the tasks of a file (its own table: `C`) do when the file is left (`X` for exit) -/
structure XRel (names : List Bytes) (C : Table) (s s' : State) : Prop where
  frames : s'.frames = s.frames
  depth : s'.depth = s.depth
  locals : s'.locals = s.locals
  upd : Upd names s.globals s'.globals C
  gt : ∃ add, s'.globalTasks = s.globalTasks ++ add ∧ ∀ x ∈ add, x.isGU

theorem XRel.refl (names : List Bytes) (C : Table) (s : State) : XRel names C s s :=
  ⟨rfl, rfl, rfl, Upd.refl _ _ _, [], by simp, by simp⟩

theorem XRel.trans {names : List Bytes} {C : Table} {a b c : State} (h1 : XRel names C a b)
    (h2 : XRel names C b c) : XRel names C a c := by
  obtain ⟨add1, ha1, hg1⟩ := h1.gt
  obtain ⟨add2, ha2, hg2⟩ := h2.gt
  refine ⟨h2.frames.trans h1.frames, h2.depth.trans h1.depth, h2.locals.trans h1.locals,
    h1.upd.trans h2.upd (Table.le_refl _), add1 ++ add2, by rw [ha2, ha1, List.append_assoc], ?_⟩
  intro x hx
  rcases List.mem_append.1 hx with hx | hx
  · exact hg1 x hx
  · exact hg2 x hx

theorem xrel_runTask {names : List Bytes} {C : Table} {s s' : State} {t : Task} {r : Option Level}
    (hl : s.locals = some C) (hfn : t.fromNames names) (h : runTask s t = .ok (s', r)) : XRel names C s s' := by
  obtain ⟨e1, _, e3, e4⟩ := runTask_keeps h
  refine ⟨e4, e3, e1, ?_, (runTask_gtasks h).1⟩
  cases t with
  | globalCopy n tag =>
    intro m
    rcases (copyUp_frame hl (.inr h)).2 m with hx | ⟨rfl, hu, v, hv', hg⟩
    · exact .inl hx
    · exact .inr ⟨hfn, hu, .inl ⟨v, hv', hg⟩⟩
  | use n c tag g => rw [(use_tables (.inl ⟨c, g, h⟩)).2]; exact Upd.refl _ _ _

/-- `assemble` after `do_assemble` returned: the file's tasks run (`XRel`), then `into_inner` pops the frame, then the
`.include` statement of the includer looks at the result -/
theorem xrel_exitFile {names : List Bytes} {C : Table} {t s' : State} {r : Option Level} {f : Saved}
    {fs : List Saved} (hf : t.frames = f :: fs) (hl : t.locals = some C)
    (htn : ∀ lt, t.localTasks = some lt → ∀ x ∈ lt, x.fromNames names) (h : exitFile t r = .ok s') :
    ∃ mid s2, XRel names C t mid ∧ intoInner mid f fs = .ok s2 ∧
      ((fs ≠ [] ∧ s' = { (s2.err f.tag .asmFailed) with mode := .stopped .fatal 0 }) ∨
        s' = { s2 with mode := .running }) :=
  exitFile_tasks (P := XRel names C t) hf h (XRel.refl _ _ _) (fun _ x => ⟨x.frames, x.depth, x.locals, x.upd, x.gt⟩)
    (fun ts hts u hu _ _ _ hr x => x.trans (xrel_runTask (x.locals.trans hl) (htn ts hts u hu) hr))

/-- one complete `.include` from a running state, up to `into_inner`: `C` is the included file's table when it is left,
`x` the state after its tasks -/
theorem include_core (b : Body)
    (IH : ∀ {t t' : State}, Inv t → t.frames ≠ [] → (t.mode = .running ∨ ∃ l, t.mode = .stopped l 0) →
      run t b.flatten = .ok t' → BodyRel b.names t t')
    {s mid s' : State} {tag : Nat} {f0 : Saved} (hi : Inv s) (hm : s.mode = .running)
    (hf0 : (enterFile s tag).frames = f0 :: s.frames)
    (h1 : run s (.enter tag :: b.flatten) = .ok mid) (h2 : step mid .exit = .ok s') :
    ∃ C x s2, mid.locals = some C ∧ x.depth = s.depth + 1 ∧
      Upd b.names (enterFile s tag).globals x.globals C ∧
      (∃ add, x.globalTasks = (enterFile s tag).globalTasks ++ add ∧ ∀ y ∈ add, y.isGU) ∧
      intoInner x f0 s.frames = .ok s2 ∧
      ((s.frames ≠ [] ∧ s' = { (s2.err f0.tag .asmFailed) with mode := .stopped .fatal 0 }) ∨
        s' = { s2 with mode := .running }) := by
  rw [run_enter hm] at h1
  have hfne : (enterFile s tag).frames ≠ [] := by rw [hf0]; simp
  have br := IH (inv_enterFile hi tag) hfne (.inl hm) h1
  obtain ⟨C0, C, hC0, hC, _, hu1⟩ := br.tabs
  obtain ⟨lt, add, hlt, hadd, hfa⟩ := br.ltasks
  cases (show some lt = some [] from hlt.symm)
  have htn : ∀ l, mid.localTasks = some l → ∀ x ∈ l, x.fromNames b.names := by
    intro l hl x hx
    rw [hadd] at hl; cases hl
    exact hfa x (by simpa using hx)
  obtain ⟨r, hex⟩ := step_exit br.mode h2
  obtain ⟨x, s2, hx, hin, hs'⟩ := xrel_exitFile (br.frames.trans hf0) hC htn hex
  obtain ⟨add', hadd', hgu⟩ := hx.gt
  exact ⟨C, x, s2, hC, by rw [hx.depth, br.depth]; rfl, hu1.trans hx.upd (Table.le_refl _),
    ⟨add', by rw [hadd', br.gtasks], hgu⟩, hin, hs'⟩

/-- what a complete `.include` does, seen from the including file: `C` is the included file's own table when it is
left (as in `include_core`), `names` the names that file itself exports or declares global -/
structure IncRel (names : List Bytes) (C : Table) (s s' : State) : Prop where
  frames : s'.frames = s.frames
  depth : s'.depth = s.depth
  globals : s'.globals = s.globals
  gtasks : s'.globalTasks = s.globalTasks
  mode : s'.mode = .running ∨ s'.mode = .stopped .fatal 0
  tabs : ∃ L L', s.locals = some L ∧ s'.locals = some L' ∧ Upd names L L' C
  ltasks : ∃ lt add, s.localTasks = some lt ∧ s'.localTasks = some (lt ++ add) ∧ ∀ x ∈ add, x.isGU

theorem include_nested (b : Body)
    (IH : ∀ {t t' : State}, Inv t → t.frames ≠ [] → (t.mode = .running ∨ ∃ l, t.mode = .stopped l 0) →
      run t b.flatten = .ok t' → BodyRel b.names t t')
    {s mid s' : State} {tag : Nat} (hi : Inv s) (hf : s.frames ≠ []) (hm : s.mode = .running)
    (h1 : run s (.enter tag :: b.flatten) = .ok mid) (h2 : step mid .exit = .ok s') :
    ∃ C, mid.locals = some C ∧ IncRel b.names C s s' := by
  have hin := hi.inFile hf
  obtain ⟨L, hL⟩ := Option.isSome_iff_exists.1 hin.locals
  obtain ⟨lt, hlt⟩ := Option.isSome_iff_exists.1 hin.ltasks
  obtain ⟨C, x, s2, hC, hd, hu, ⟨add, hadd, hgu⟩, hinner, hs'⟩ := include_core b IH hi hm rfl h1 h2
  refine ⟨C, hC, ?_⟩
  have hs2 : s2 =
      { x with
        depth := s.depth, globals := s.globals, locals := some x.globals
        globalTasks := s.globalTasks, localTasks := some x.globalTasks, frames := s.frames } := by
    obtain ⟨d, hd', _, e⟩ := intoInner_eq hinner
    cases Nat.succ.inj (hd'.symm.trans hd)
    simpa only [hL, hlt, Option.getD_some, Option.map_some] using e
  -- while the included file is open the includer's table and task list sit in `globals` / `global_tasks`
  rw [show (enterFile s tag).globals = L by simp [enterFile, hL]] at hu
  rw [show (enterFile s tag).globalTasks = lt by simp [enterFile, hlt]] at hadd
  have core : IncRel b.names C s { s2 with mode := .running } := by
    subst hs2
    exact ⟨rfl, rfl, rfl, rfl, .inl rfl, ⟨L, x.globals, hL, rfl, hu⟩, ⟨lt, add, hlt, by simp [hadd], hgu⟩⟩
  rcases hs' with ⟨_, hs'⟩ | hs'
  · subst hs'
    exact ⟨core.frames, core.depth, core.globals, core.gtasks, .inr rfl, core.tabs, core.ltasks⟩
  · subst hs'; exact core


theorem IncRel.toBody {names : List Bytes} {C : Table} {s s' : State} (h : IncRel names C s s') :
    BodyRel [] s s' := by
  obtain ⟨L, L', hL, hL', hu⟩ := h.tabs
  obtain ⟨lt, add, hlt, hadd, hgu⟩ := h.ltasks
  refine ⟨h.frames, h.depth, h.gtasks, ?_, ⟨L, L', hL, hL', hu.le, by rw [h.globals]; exact Upd.refl _ _ _⟩,
    ⟨lt, add, hlt, hadd, fun x hx => Task.fromNames_of_isGU _ (hgu x hx)⟩⟩
  rcases h.mode with hm | hm
  · exact .inl hm
  · exact .inr ⟨_, hm⟩

/-- the skeleton of every induction over a file body run at that file's level: nothing runs (the body is empty, or the
file has stopped and the body is skipped); a statement, then the rest; a complete `.include`, then the rest.  `BodyRel`
comes along because the induction needs it to go on behind a statement or an include. -/
theorem body_ind {Q : Body → State → State → Prop} (hrefl : ∀ (b : Body) (t : State), Q b t t)
    (hstmt : ∀ {o : Op} {r : Body} {t t1 t' : State}, t.frames ≠ [] → t.mode = .running → o.isStmt = true →
      step t o = .ok t1 → BodyRel o.names t t1 → Q r t1 t' → Q (.stmt o r) t t')
    (hincl : ∀ {tag : Nat} {c r : Body} {t mid t1 t' : State} {C : Table}, mid.locals = some C →
      IncRel c.names C t t1 → Q c (enterFile t tag) mid → Q r t1 t' → Q (.incl tag c r) t t') :
    ∀ (b : Body), b.wf → ∀ {t t' : State}, Inv t → t.frames ≠ [] →
      (t.mode = .running ∨ ∃ l, t.mode = .stopped l 0) → run t b.flatten = .ok t' → BodyRel b.names t t' ∧ Q b t t'
  | .nil, _, t, t', hi, hf, hm, h => by
    simp only [Body.flatten, run] at h; cases h
    exact ⟨BodyRel.refl _ (hi.inFile hf) hm, hrefl _ _⟩
  | .stmt o r, hw, t, t', hi, hf, hm, h => by
    rcases hm with hm | ⟨l, hm⟩
    · simp only [Body.flatten, run] at h
      split at h
      · cases h
      · rename_i t1 h1
        have r1 := step_stmt_rel (hi.inFile hf) hf hm hw.1 h1
        obtain ⟨r2, q2⟩ := body_ind hrefl hstmt hincl r hw.2 (inv_step hi h1) (by rw [r1.frames]; exact hf) r1.mode h
        exact ⟨r1.trans r2, hstmt hf hm hw.1 h1 r1 q2⟩
    · rw [skip_body (.stmt o r) hw hm] at h; cases h
      exact ⟨BodyRel.refl _ (hi.inFile hf) (.inr ⟨l, hm⟩), hrefl _ _⟩
  | .incl tag c r, hw, t, t', hi, hf, hm, h => by
    rcases hm with hm | ⟨l, hm⟩
    · have hfl : (Body.incl tag c r).flatten = (.enter tag :: c.flatten) ++ (.exit :: r.flatten) := by
        simp [Body.flatten]
      rw [hfl, run_append] at h
      obtain ⟨mid, h1, h2⟩ := h
      simp only [run] at h2
      split at h2
      · cases h2
      · rename_i t1 hx
        have ihc : ∀ {u u' : State}, Inv u → u.frames ≠ [] → (u.mode = .running ∨ ∃ l, u.mode = .stopped l 0) →
            run u c.flatten = .ok u' → BodyRel c.names u u' ∧ Q c u u' :=
          fun i' f' m' h' => body_ind hrefl hstmt hincl c hw.1 i' f' m' h'
        obtain ⟨C, hC, ir⟩ := include_nested c (fun i' f' m' h' => (ihc i' f' m' h').1) hi hf hm h1 hx
        have qc := (ihc (inv_enterFile hi tag) (by simp [enterFile]) (.inl hm)
          (run_enter hm tag _ ▸ h1)).2
        have r1 := ir.toBody
        obtain ⟨r2, q2⟩ := body_ind hrefl hstmt hincl r hw.2 (inv_step (inv_run hi h1) hx)
          (by rw [r1.frames]; exact hf) r1.mode h2
        exact ⟨r1.trans r2, hincl hC ir qc q2⟩
    · rw [skip_body (.incl tag c r) hw hm] at h; cases h
      exact ⟨BodyRel.refl _ (hi.inFile hf) (.inr ⟨l, hm⟩), hrefl _ _⟩

theorem body_rel (b : Body) (hw : b.wf) {t t' : State} (hi : Inv t) (hf : t.frames ≠ [])
    (hm : t.mode = .running ∨ ∃ l, t.mode = .stopped l 0) (h : run t b.flatten = .ok t') : BodyRel b.names t t' :=
  (body_ind (Q := fun _ _ _ => True) (fun _ _ => trivial) (fun _ _ _ _ _ _ => trivial) (fun _ _ _ _ => trivial)
    b hw hi hf hm h).1

/-- the root file: the "includer's table" is the global table -/
theorem include_root (b : Body) (hw : b.wf) {s mid s' : State} {tag : Nat} (hi : Inv s) (hf : s.frames = [])
    (hm : s.mode = .running) (h1 : run s (.enter tag :: b.flatten) = .ok mid) (h2 : step mid .exit = .ok s') :
    ∃ C, mid.locals = some C ∧ s'.frames = [] ∧ s'.depth = s.depth ∧ s'.locals = none ∧ s'.mode = .running ∧
      Upd b.names s.globals s'.globals C ∧
      ∃ add, s'.globalTasks = s.globalTasks ++ add ∧ ∀ x ∈ add, x.isGU := by
  have hL : s.locals = none := hi.locals_none hf
  have hlt : s.localTasks = none := by
    cases hl : s.localTasks with
    | none => rfl
    | some l => have := hi.lt.1 (by simp [hl]); exact absurd hf this
  obtain ⟨C, x, s2, hC, hd, hu, ⟨add, hadd, hgu⟩, hinner, hs'⟩ :=
    include_core b (fun i' f' m' h' => body_rel b hw i' f' m' h') hi hm rfl h1 h2
  refine ⟨C, hC, ?_⟩
  have hs2 : s2 = { x with depth := s.depth, locals := none, localTasks := none, frames := [] } := by
    obtain ⟨d, hd', _, e⟩ := intoInner_eq hinner
    cases Nat.succ.inj (hd'.symm.trans hd)
    simpa only [hL, hlt, hf, Option.getD_none, Option.map_none] using e
  rw [show (enterFile s tag).globals = s.globals by simp [enterFile, hL]] at hu
  rw [show (enterFile s tag).globalTasks = s.globalTasks by simp [enterFile, hlt]] at hadd
  have hs'' : s' = { s2 with mode := .running } := by
    rcases hs' with ⟨hne, _⟩ | hs'
    · exact absurd hf hne      -- the root file has no includer: the `.include` branch is not taken
    · exact hs'
  subst hs'' hs2
  exact ⟨rfl, rfl, rfl, rfl, hu, add, hadd, hgu⟩


/-- `_prov` = provenance: where a valued entry of the file's table after the statement (`body_prov`: after part of the
body, `file_prov`: after a body run from the file's entry, where the table is empty) can come from -/
theorem stmt_prov {s s' : State} {op : Op} {r : Option Level} {C C' : Table} (hl : s.locals = some C)
    (hl' : s'.locals = some C') (h : stmt s op = .ok (s', r)) (m : Bytes) (v : Int)
    (hv : C'.find m = some (some v)) :
    C.find m = some (some v) ∨ (op.imports m ∧ s.globals.find m = some (some v)) ∨ op.defines m v := by
  obtain ⟨l', e, hx⟩ := stmt_local hl h
  rw [hl'] at e; cases e
  rcases hx m with h1 | ⟨w, hd, h1⟩ | ⟨hi, h1⟩ | ⟨tag, _, _, h1⟩ <;> rw [h1] at hv
  · exact .inl hv
  · cases hv; exact .inr (.inr hd)
  · exact .inr (.inl ⟨hi, hv⟩)
  · cases hv

theorem body_prov (b : Body) (hw : b.wf) {t t' : State} (hi : Inv t) (hf : t.frames ≠ [])
    (hm : t.mode = .running ∨ ∃ l, t.mode = .stopped l 0) (h : run t b.flatten = .ok t')
    {C C' : Table} (hC : t.locals = some C) (hC' : t'.locals = some C') (m : Bytes) (v : Int)
    (hv : C'.find m = some (some v)) :
    C.find m = some (some v) ∨ (b.imports m ∧ t.globals.find m = some (some v)) ∨ Up m v b := by
  refine (body_ind (Q := fun b t t' => ∀ C C', t.locals = some C → t'.locals = some C' →
      C'.find m = some (some v) →
      C.find m = some (some v) ∨ (b.imports m ∧ t.globals.find m = some (some v)) ∨ Up m v b)
    ?_ ?_ ?_ b hw hi hf hm h).2 C C' hC hC' hv
  · intro b t C C' hC hC' hv
    rw [hC] at hC'; cases hC'; exact .inl hv
  · intro o r t t1 t' hf hm ho h1 r1 ih C C' hC hC' hv
    obtain ⟨C0, C1, hC0, hC1, _, hu⟩ := r1.tabs
    rw [hC] at hC0; cases hC0
    -- through the statement itself
    have one : C1.find m = some (some v) →
        C.find m = some (some v) ∨ ((Body.stmt o r).imports m ∧ t.globals.find m = some (some v)) ∨
          Up m v (.stmt o r) := by
      intro hv1
      obtain ⟨s1, rr, hs1, hs'⟩ := step_stmt_cases hm ho hf h1
      have hl1 : s1.locals = t1.locals := by rcases hs' with ⟨_, rfl⟩ | ⟨_, _, rfl⟩ <;> rfl
      rcases stmt_prov hC (hl1.trans hC1) hs1 m v hv1 with h' | ⟨hi', hg'⟩ | h'
      · exact .inl h'
      · exact .inr (.inl ⟨.inl hi', hg'⟩)
      · exact .inr (.inr (.here h'))
    rcases ih C1 C' hC1 hC' hv with h' | ⟨hi', hg'⟩ | h'
    · exact one h'
    · rcases hu m with e | ⟨_, _, hc⟩
      · rw [e] at hg'; exact .inr (.inl ⟨.inr hi', hg'⟩)
      · rcases hc with ⟨v', hc1, hc2⟩ | ⟨_, hc2⟩
        · rw [hc2] at hg'; cases hg'; exact one hc1
        · rw [hc2] at hg'; cases hg'
    · exact .inr (.inr (.later h'))
  · intro tag c r t mid t1 t' Cc hCc ir ihc ih C C' hC hC' hv
    obtain ⟨L, L', hL, hL', hu⟩ := ir.tabs
    rw [hC] at hL; cases hL
    have hg0 : (enterFile t tag).globals = C := by simp [enterFile, hC]
    -- through the included file, which starts from the empty table
    have one : L'.find m = some (some v) →
        C.find m = some (some v) ∨ ((Body.incl tag c r).imports m ∧ t.globals.find m = some (some v)) ∨
          Up m v (.incl tag c r) := by
      intro hv1
      rcases hu m with e | ⟨hn, hun, hc⟩
      · rw [e] at hv1; exact .inl hv1
      · rcases hc with ⟨v', hc1, hc2⟩ | ⟨_, hc2⟩
        · rw [hc2] at hv1; cases hv1
          rcases ihc [] Cc rfl hCc hc1 with h' | ⟨_, hg'⟩ | h'
          · simp [Table.find] at h'
          · rw [hg0] at hg'; exact absurd hg' (hun v)
          · exact .inr (.inr (.child hn h'))
        · rw [hc2] at hv1; cases hv1
    rcases ih L' C' hL' hC' hv with h' | ⟨hi', hg'⟩ | h'
    · exact one h'
    · rw [ir.globals] at hg'; exact .inr (.inl ⟨hi', hg'⟩)
    · exact .inr (.inr (.after h'))

theorem enterFile_globals (s : State) (tag : Nat) : (enterFile s tag).globals = visible s := by
  unfold enterFile visible
  cases s.locals <;> cases s.localTasks <;> rfl

theorem file_prov (b : Body) (hw : b.wf) {s mid : State} {tag : Nat} {C : Table} (hi : Inv s)
    (hm : s.mode = .running) (h1 : run s (.enter tag :: b.flatten) = .ok mid) (hC : mid.locals = some C)
    (m : Bytes) (v : Int) (hv : C.find m = some (some v)) :
    (b.imports m ∧ (visible s).find m = some (some v)) ∨ Up m v b := by
  have h1' : run (enterFile s tag) b.flatten = .ok mid := run_enter hm tag _ ▸ h1
  rcases body_prov b hw (inv_enterFile hi tag) (by simp [enterFile]) (.inl hm) h1' (C := []) rfl hC m v hv
    with h' | ⟨hi', hg'⟩ | h'
  · simp [Table.find] at h'
  · rw [enterFile_globals] at hg'; exact .inl ⟨hi', hg'⟩
  · exact .inr h'

/-- values travel upwards only along `Up` chains -/
theorem upd_prov (b : Body) (hw : b.wf) {s mid : State} {tag : Nat} {C G G' : Table} (hi : Inv s)
    (hm : s.mode = .running) (h1 : run s (.enter tag :: b.flatten) = .ok mid) (hC : mid.locals = some C)
    (hG : visible s = G) (hu : Upd b.names G G' C) (m : Bytes) (v : Int) (hv : G'.find m = some (some v)) :
    G.find m = some (some v) ∨ (m ∈ b.names ∧ Up m v b) := by
  rcases hu m with e | ⟨hn, hun, hc⟩
  · rw [e] at hv; exact .inl hv
  · rcases hc with ⟨v', hc1, hc2⟩ | ⟨_, hc2⟩
    · rw [hc2] at hv; cases hv
      rcases file_prov b hw hi hm h1 hC m v hc1 with ⟨_, hg⟩ | hup
      · rw [hG] at hg; exact absurd hg (hun v)
      · exact .inr ⟨hn, hup⟩
    · rw [hc2] at hv; cases hv

theorem inv_reach {s0 : State} (h0 : Inv s0) : ∀ (ctx : List (Nat × Body)) {s : State}, Reach s0 ctx s → Inv s :=
  reach_pres (fun h i => inv_run i h) h0

/-- At a position `ctx` reached from `s0` (outside any file) a valued entry `n = v` of the visible table is licensed:
`Lic` with the global table of `s0`.  The first conjunct — inside a file there is a live frame — is proved along the same
recursion and depends on neither `n` nor `v`. -/
theorem reach_lic {s0 : State} (h0 : Inv s0) (hf0 : s0.frames = []) (n : Bytes) (v : Int) :
    ∀ (ctx : List (Nat × Body)), (∀ p ∈ ctx, p.2.wf) → ∀ {s : State}, Reach s0 ctx s →
    (ctx = [] ∨ s.frames ≠ []) ∧ ((visible s).find n = some (some v) → Lic n v s0.globals ctx)
  | [], _, s, h => by
    cases h
    refine ⟨.inl rfl, ?_⟩
    have hl : s0.locals = none := h0.locals_none hf0
    simp [visible, hl, Lic]
  | (tag, pre) :: outer, hw, s, ⟨so, hr, hm, hrun⟩ => by
    have io := inv_reach h0 outer hr
    have ih := reach_lic h0 hf0 n v outer (fun p hp => hw p (by simp [hp])) hr
    have hwp : pre.wf := hw (tag, pre) (by simp)
    have hrun' : run (enterFile so tag) pre.flatten = .ok s := run_enter hm tag _ ▸ hrun
    have br := body_rel pre hwp (inv_enterFile io tag) (by simp [enterFile]) (.inl hm) hrun'
    have hfs : s.frames ≠ [] := by rw [br.frames]; simp [enterFile]
    refine ⟨.inr hfs, ?_⟩
    intro hv
    obtain ⟨_, C, _, hC, _, _⟩ := br.tabs
    have hvis : visible s = C := by simp [visible, hC]
    rw [hvis] at hv
    rcases file_prov pre hwp io hm hrun hC n v hv with ⟨hi', hg'⟩ | h'
    · exact .inr ⟨hi', ih.2 hg'⟩
    · exact .inl h'


theorem reach_inside {s : State} {ctx : List (Nat × Body)} (hw : ∀ p ∈ ctx, p.2.wf) (hne : ctx ≠ [])
    (hr : Reach init ctx s) :
    Inv s ∧ s.frames ≠ [] ∧ s.depth ≠ 0 ∧ ∃ l ts, s.locals = some l ∧ s.localTasks = some ts ∧ visible s = l := by
  have hi := inv_reach inv_init ctx hr
  -- only the first conjunct of `reach_lic` is wanted; it ignores the name and value, so `[]` and `0` stand in
  have hf : s.frames ≠ [] := ((reach_lic inv_init rfl [] 0 ctx hw hr).1).resolve_left hne
  have hd : s.depth ≠ 0 := by
    rw [hi.depth]; intro h0; exact hf (List.eq_nil_of_length_eq_zero h0)
  obtain ⟨l, hl⟩ := Option.isSome_iff_exists.1 (hi.inFile hf).locals
  obtain ⟨ts, hts⟩ := Option.isSome_iff_exists.1 (hi.inFile hf).ltasks
  exact ⟨hi, hf, hd, l, ts, hl, hts, by simp [visible, hl]⟩

theorem use_resolves {s s' : State} {l : Table} {n : Bytes} {tag : Nat} {r : Option Level}
    (hd : s.depth ≠ 0) (hl : s.locals = some l) (h : stmt s (.use n tag) = .ok (s', r)) :
    s'.log = s.log ∨ (∃ k, s'.log = .diag tag k :: s.log) ∨
      (∃ v, l.find n = some (some v) ∧ s'.log = .value tag v 0 :: s.log) := by
  obtain ⟨s1, res, c, ha, hs⟩ := (doUse_spec _ _ _).ok h
  have hlog : s'.log = s1.log := by
    rcases hs with ⟨_, rfl⟩ | ⟨_, hadd⟩
    · rfl
    · obtain ⟨lt, _, rfl⟩ := addTask_loc.1 hadd; rfl
  rw [hlog]
  rcases applyUse_log (evalTab_inFile hd hl) ha with e | e | ⟨v, e, ⟨hc, _⟩ | ⟨_, hf⟩⟩
  · exact .inl e
  · exact .inr (.inl e)
  · cases hc
  · exact .inr (.inr ⟨v, hf, e⟩)

end Trion.Scope
