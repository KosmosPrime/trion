import TrionModel.Lemmas.AsmDir
import TrionModel.Lemmas.AsmStmt
import TrionModel.Lemmas.AsmLadder
/-!
# `Trion.Asm`: statements, task loops, files and `finalize` keep the invariant and do not panic
-/
namespace Trion.Asm
open Trion

/-- what `.include` calls keeps `Good` and does not panic (as `IncIn` of `safeFile`: `IncOk.in`) -/
def IncOk (inc : Inc) : Prop := ∀ env st data path, Good true st → Safe true st (inc env st data path)

theorem directive_ret {inc : Inc} {env : Env} {st : St} (h : Good true st)
    (hb : env.paths.isEmpty = false) (fs : Bytes → Option Bytes) (line col : Nat) {name : Bytes}
    (hne : name ≠ bytesOf "include") (args : List Arg) :
    (directive fs inc env st line col name args).Ret fun x => Step true st x.1 := by
  exact directive_cases (P := fun o => o.Ret fun x => Step true st x.1)
    (addr := fun _ => addrDirective_ret h hb ..)
    (align := fun _ => alignDirective_ret h hb ..)
    (const := fun _ => constDirective_ret h hb ..)
    (du := fun _ _ => duDirective_ret h hb ..)
    (str := fun _ _ _ => stringDirective_ret h hb ..)
    (glob := fun _ _ => globalDirective_ret h ..)
    (incl := fun e => absurd e hne)
    (unk := (Step.refl h).push ..)

theorem statement_ret {enc : Encoder} (henc : EncLen enc) {inc : Inc} {env : Env} {st : St}
    (h : Good true st) (hb : env.paths.isEmpty = false) (fs : Bytes → Option Bytes) {el : Element}
    (hni : ∀ as, el.val ≠ .directive (bytesOf "include") as) :
    (statement fs enc inc env st el).Ret fun x => Step true st x.1 := by
  unfold statement
  split
  · rename_i name args hv
    exact directive_ret h hb fs _ _ (fun e => hni args (e ▸ hv)) _
  · split
    · exact (Step.refl h).push ..
    · rename_i name _ _ a _
      obtain ⟨⟨st1, x⟩, hi, s1⟩ := (insertConstant_ret h name (a : Int) .loc (fun _ => rfl)).get
      rw [hi]
      cases x with
      | ok _ => exact s1
      | error e => exact s1.push ..
  · split
    · exact (Step.refl h).push ..
    · rename_i hact
      exact instruction_ret henc h hb (by
        cases ha : st.seg.active with
        | none => simp [ha] at hact
        | some _ => rfl) ..

theorem runTask_ret {enc : Encoder} (henc : EncLen enc) {b : Bool} {env : Env} {st : St} (h : Good b st)
    (hb : env.paths.isEmpty = !b) (t : Task) (ht : TaskOk st.seg.pending t) (hc : b = false → t.notCopy = true) :
    (runTask enc env st t).Ret fun x => Step b st x.1 := by
  cases t with
  | data d g => exact runDataTask_ret h hb d g ht
  | instr i g => exact runInstrTask_ret henc h hb i g ht
  | globalCopy n l c =>
    cases b with
    | false => have := hc rfl; simp [Task.notCopy] at this
    | true => exact runGlobalCopy_ret h n l c ht

theorem good_clearLocal {st : St} (h : Good true st) : Good true { st with localTasks := some [] } ∧
    Ext st { st with localTasks := some [] } :=
  ⟨⟨h.inv, h.gt, fun l e t m => (by cases e; simp at m), h.gtab, h.ltab,
    fun _ => ⟨(h.inFile rfl).1, rfl⟩, fun e => by cases e⟩, Ext.refl _⟩

theorem good_clearGlobal {st : St} (h : Good false st) : Good false { st with globalTasks := [] } ∧
    Ext st { st with globalTasks := [] } :=
  ⟨⟨h.inv, fun t m => (by simp at m), h.lt, h.gtab, h.ltab, fun e => (by cases e),
    fun _ => ⟨(h.top rfl).1, (h.top rfl).2.1, fun t m => by simp at m⟩⟩, fun _ x => x, fun t m => (by simp at m), Traced.refl st⟩

theorem enterFile_true {st : St} (h : Good true st) :
    ∃ c t, st.locals = some c ∧ st.localTasks = some t ∧
      enterFile st = (some st.globals, some st.globalTasks,
        { st with locals := some [], globals := c, localTasks := some [], globalTasks := t }) := by
  obtain ⟨c, hc⟩ := Option.isSome_iff_exists.mp (h.inFile rfl).1
  obtain ⟨t, ht⟩ := Option.isSome_iff_exists.mp (h.inFile rfl).2
  exact ⟨c, t, hc, ht, by simp [enterFile_eq, hc, ht]⟩

theorem enterFile_false {st : St} (h : Good false st) :
    enterFile st = (none, none, { st with locals := some [], localTasks := some [] }) := by
  simp [enterFile_eq, (h.top rfl).1, (h.top rfl).2.1]

/-- `assemble` called from a file: what was local to the includer is global to the file it reads -/
theorem good_enter {st : St} (h : Good true st) {c : Table} {t : List Task} (hc : st.locals = some c)
    (ht : st.localTasks = some t) :
    Good true { st with locals := some [], globals := c, localTasks := some [], globalTasks := t } :=
  ⟨h.inv, fun t' m => h.lt t ht t' m, fun l e t' m => (by cases e; simp at m), h.ltab c hc,
    fun l e => (by cases e; exact tableOk_nil), fun _ => ⟨rfl, rfl⟩, fun e => by cases e⟩

/-- the includer's global queue waited outside while the file was read: its tasks still refer to placed statements because
placed statements stay placed (`Ext`) -/
theorem step_leave {st st4 : St} {c : Table} {t : List Task} (h : Good true st) (g4 : Good true st4)
    (e4 : Ext { st with locals := some [], globals := c, localTasks := some [], globalTasks := t } st4) :
    Step true st (leaveFile (some st.globals) (some st.globalTasks) st4) :=
  ⟨⟨g4.inv, fun t' m => (h.gt t' m).mono e4.1, fun l e t' m => (by cases e; exact g4.gt t' m),
    h.gtab, fun l e => (by cases e; exact g4.gtab), fun _ => ⟨rfl, rfl⟩, fun e => by cases e⟩, e4.1, fun t' m => .inl m, e4.2.2⟩

theorem good_enter_top {st : St} (h : Good false st) : Good true { st with locals := some [], localTasks := some [] } :=
  ⟨h.inv, h.gt, fun l e t' m => (by cases e; simp at m), h.gtab,
    fun l e => (by cases e; exact tableOk_nil), fun _ => ⟨rfl, rfl⟩, fun e => by cases e⟩

/-- the main file hands back a global queue to which only retries were added (`Ext`) -/
theorem step_leave_top {st st4 : St} (h : Good false st) (g4 : Good true st4)
    (e4 : Ext { st with locals := some [], localTasks := some [] } st4) : Step false st (leaveFile none none st4) :=
  ⟨⟨g4.inv, g4.gt, fun l e => (by cases e), g4.gtab, fun l e => (by cases e), fun e => (by cases e),
    fun _ => ⟨rfl, rfl, fun t' m => (e4.2.1 t' m).elim ((h.top rfl).2.2 t') id⟩⟩, e4.1, e4.2.1, e4.2.2⟩

/-- `Safe` in the terms of Lemmas/AsmLadder.lean: inside a file (`b = true`, the path stack is not empty) or in
`finalize` (`b = false`) -/
@[reducible] def safeRung (b : Bool) : Rung Unit where
  I _ env st := Good b st ∧ env.paths.isEmpty = !b
  R _ _ := Ext
  B z := z = .panic
  refl _ := Ext.refl _
  trans := Ext.trans
  weaken := id

theorem safe_spec_iff {X : Type} {b : Bool} {env : Env} {st : St} {o : Out (St × X)} {err : X → Bool}
    (hb : env.paths.isEmpty = !b) : (safeRung b).Spec () env st err o ↔ Safe b st o :=
  ⟨fun h => safe_iff.mpr (h.mono (fun _ hx => ⟨hx.1.1, hx.2⟩) fun _ => id),
   fun h => (safe_iff.mp h).mono (fun _ hx => ⟨⟨hx.1, hb⟩, hx.2⟩) fun _ => id⟩

@[reducible] def safeLocal {enc : Encoder} (henc : EncLen enc) : LocalLadder enc Unit where
  toRung := safeRung true
  noLoop := nofun
  unwrap _ h hn := by have := (h.1.inFile rfl).2; simp [hn] at this
  task i0 hq hm r0 h :=
    (runTask_ret henc h.1 h.2 _ ((i0.1.lt _ hq _ hm).mono r0.1) (fun e => by cases e)).mono
      (fun _ hx => ⟨⟨hx.1, h.2⟩, hx.2⟩) nofun
  clear h := ⟨⟨(good_clearLocal h.1).1, h.2⟩, (good_clearLocal h.1).2⟩

/-- callers of `assemble`: a file (`true`) or `runWith` (`false`) -/
@[reducible] def safeFile (fs : Bytes → Option Bytes) {enc : Encoder} (henc : EncLen enc) : FileLadder fs enc Unit Bool where
  toRung := safeRung true
  F _ _ _ _ := True
  Pre b _ st _ _ := Good b st
  Post b _ st _ _ st' _ := Good b st' ∧ Ext st st'
  noFuel := nofun
  loop := (safeLocal henc).fileLoop_spec
  stmt _ _ _ hni h := (statement_ret henc h.1 h.2 fs hni).mono (fun _ hx => ⟨⟨hx.1, h.2⟩, hx.2⟩) nofun
  pushInc _ _ _ _ h := ⟨⟨good_push h.1 .., h.2⟩, ext_push ..⟩
  pushErr _ h := ⟨⟨good_push h.1 .., h.2⟩, ext_push ..⟩
  call h _ := ⟨true, h.1, fun _ _ hp => ⟨⟨hp.1, h.2⟩, hp.2⟩⟩
  file {b _ st _ _ _ _} h _ := by
    refine ⟨(), trivial, ?_⟩
    cases b with
    | true =>
      obtain ⟨c, t, hc, ht, he⟩ := enterFile_true h
      rw [he]
      exact ⟨⟨good_enter h hc ht, rfl⟩, fun st4 _ g4 e4 => step_leave h g4.1 e4⟩
    | false =>
      rw [enterFile_false h]
      exact ⟨⟨good_enter_top h, rfl⟩, fun st4 _ g4 e4 => step_leave_top h g4.1 e4⟩

@[reducible] def safeGlobal {enc : Encoder} (henc : EncLen enc) : GlobalLadder enc Unit where
  toRung := safeRung false
  noLoop := nofun
  task i0 hm r0 h :=
    (runTask_ret henc h.1 h.2 _ ((i0.1.gt _ hm).mono r0.1) (fun _ => (i0.1.top rfl).2.2 _ hm)).mono
      (fun _ hx => ⟨⟨hx.1, h.2⟩, hx.2⟩) nofun
  clear h := ⟨⟨(good_clearGlobal h.1).1, h.2⟩, (good_clearGlobal h.1).2⟩

theorem IncOk.in {fs : Bytes → Option Bytes} {enc : Encoder} (henc : EncLen enc) {inc : Inc} (h : IncOk inc) :
    (safeFile fs henc).IncIn inc :=
  fun hi _ => (safe_spec_iff hi.2).mpr (h _ _ _ _ hi.1)

theorem statement_safe {enc : Encoder} (henc : EncLen enc) {inc : Inc} (hinc : IncOk inc) {env : Env} {st : St}
    (h : Good true st) (hb : env.paths.isEmpty = false) (fs : Bytes → Option Bytes) (el : Element) :
    Safe true st (statement fs enc inc env st el) :=
  (safe_spec_iff hb).mp ((safeFile fs henc).statement_spec (hinc.in henc) (els := [el]) (perr := none) trivial List.mem_cons_self ⟨h, hb⟩)

theorem fileBody_safe {enc : Encoder} (henc : EncLen enc) {inc : Inc} (hinc : IncOk inc) {env : Env}
    (hb : env.paths.isEmpty = false) (fs : Bytes → Option Bytes) (data : Bytes) {st : St} (h : Good true st) :
    Safe true st (fileBody fs enc inc env data st) :=
  (safe_spec_iff hb).mp ((safeFile fs henc).fileBody_spec (hinc.in henc) (fun _ _ _ => trivial) ⟨h, hb⟩)

theorem assembleFile_safe {enc : Encoder} (henc : EncLen enc) (fs : Bytes → Option Bytes)
    (fuel : Nat) (b : Bool) (env : Env) (st : St) (data path : Bytes) (h : Good b st) :
    Safe b st (assembleFile fs enc fuel env st data path) :=
  safe_iff.mpr ((safeFile fs henc).assembleFile_spec fuel b env st data path h)

theorem good_close {st : St} (g : Good false st) :
    (Seg.closeSegment st.seg).2 = .ok ∧ Good false { st with seg := (Seg.closeSegment st.seg).1 } :=
  have ⟨ho, hi, _, _, hp⟩ := Seg.close_spec g.inv
  ⟨ho, good_setSeg g hi (by rw [hp]; exact fun _ x => x)⟩

/-- the whole run under `Good` (`runWith_spec` of Lemmas/AsmLadder.lean at the two ladders above): no panic, and in a
finished run `close_segment` did not fail -/
theorem runWith_safe {enc : Encoder} (henc : EncLen enc) (fs : Bytes → Option Bytes) (main : Bytes) :
    runWith enc fs main ≠ .panic ∧
    ∀ o, runWith enc fs main = .done o → ∃ data st res st' fin, fs main = some data ∧
      assembleFile fs enc maxDepth Env.init St.init data main = .ok (st, res) ∧ Good false st ∧ Ext St.init st ∧
      (Seg.closeSegment st.seg).2 = .ok ∧
      finalize enc Env.init { st with seg := (Seg.closeSegment st.seg).1 } = .ok (st', fin) ∧
      Good false st' ∧ Ext { st with seg := (Seg.closeSegment st.seg).1 } st' ∧
      o = ⟨res = .ok, none, fin, st'.errors.reverse, st'.seg.map⟩ := by
  have w := runWith_spec (safeFile fs henc) (safeGlobal henc) (fun _ => id) (d := false) (g := ()) (main := main)
    (fun _ _ => good_init)
    (fun hp => ⟨fun _ e => (by rw [(good_close hp.1).1] at e; cases e), (good_close hp.1).2, rfl⟩)
  refine ⟨fun h => w.1 .panic h rfl, fun o ho => ?_⟩
  obtain ⟨data, st, res, hdata, ha, hpost, hrest⟩ := w.2 o ho
  have hc := (good_close hpost.1).1
  rcases hrest with ⟨e, he, _⟩ | ⟨_, _, st', fin, ab, hf, i', r', _, rfl⟩
  · rw [hc] at he; cases he
  · exact ⟨data, st, res, st', fin, hdata, ha, hpost.1, hpost.2, hc, hf, i'.1, r', rfl⟩

theorem parseFile_ne_panic (data : Bytes) : parseFile data ≠ .stop .panic := by
  obtain ⟨els, err, h⟩ := parseFile_cases data
  simp [h]

end Trion.Asm

namespace Trion.C04

/-- the state in which the body of the main file starts: `(enterFile St.init).2.2` (`enterFile_eq`) -/
def init2 : Asm.St := ⟨Seg.init, [], some [], [], some [], []⟩

end Trion.C04

namespace Trion.Asm

theorem good_init2 : Good true C04.init2 :=
  ⟨Seg.inv_init, fun _ h => (nomatch h), fun l e t m => (by cases e; cases m), fun _ _ h => (by simp [C04.init2, Table.find] at h),
   fun l e => (by cases e; exact tableOk_nil), fun _ => ⟨rfl, rfl⟩, fun e => by cases e⟩

end Trion.Asm
