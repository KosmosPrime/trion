import TrionModel.Lemmas.AsmActs
import TrionModel.Props.C13  -- for `Seg.inv_init`
/-!
# The whole-state invariant of `Trion.Asm`, and what a step returns

`Good b st`: region invariant (C13: `Seg.Inv`, under which the active region holds at most 2^32 bytes,
`Seg.small_invariant`) ∧ every queued task refers to a statement that was placed with the length it will be rewritten with
(`TaskOk`) ∧ no register name is a table key (`TableOk`) ∧
(`b = true`: inside a file, `locals`/`local_tasks` are `Some`; `b = false`: outside, `locals = None` and the
global queue holds no `.global` closure).

`Ext st st'`: what a step may do to the parts other steps rely on. Its last conjunct `Traced` (through `Path`: a history of
legal region operations, refusals accounted for by diagnostics) is there for C13 on the whole pipeline (Props/C13Run.lean:
the region history of a run); `Good` itself does not need it. `Step b st st'` = `Good b st'` ∧ `Ext st st'` is what every
function below `.include` returns (`X_ret`, Lemmas/AsmPrim.lean … AsmFile.lean); `Safe` says the same of an outcome that
may also stop, but not panic (`safe_iff`).
-/
namespace Trion.Asm
open Trion

/-- the length in bytes of the encoding of an instruction, read off its constructor (`encoder_len`, Lemmas/AsmEnc.lean;
`Front.assemble` keeps it: `Front.assemble_keeps`, Lemmas/AsmFront.lean) -/
def ilen : Instr → Nat
  | .bl _ | .dmb | .dsb | .isb | .mrs .. | .msr .. | .udfw _ => 4
  | _ => 2

/-- what the theorems need from the encoder: the length of an encoding depends on the constructor only -/
def EncLen (enc : Encoder) : Prop := ∀ i bs, enc i = .ok bs → bs.length = ilen i

/-- a queued task is fit to run: the statement of a retry was placed and is recorded in `pend` (the `pending` list of the
regions) with the length it will be rewritten with; the name a `.global` closure copies is no register -/
def TaskOk (pend : List (Nat × Nat)) : Task → Prop
  | .data d _ => d.placed = true ∧ (d.addr, d.du.size) ∈ pend
  | .instr i _ => i.placed = true ∧ (i.st.addr, ilen i.st.instr) ∈ pend
  | .globalCopy n _ _ => Front.isRegister n = false

/-- no register name is a key: `insert_constant` / `defer_constant` of a name read from the table do not answer `Reserved`
(the `unreachable!` arms of `global.rs`) -/
def TableOk (t : Table) : Prop := ∀ n v, t.find n = some v → Front.isRegister n = false

structure Good (b : Bool) (st : St) : Prop where
  inv : Seg.Inv st.seg
  gt : ∀ t ∈ st.globalTasks, TaskOk st.seg.pending t
  lt : ∀ l, st.localTasks = some l → ∀ t ∈ l, TaskOk st.seg.pending t
  gtab : TableOk st.globals
  ltab : ∀ l, st.locals = some l → TableOk l
  inFile : b = true → st.locals.isSome = true ∧ st.localTasks.isSome = true
  top : b = false → st.locals = none ∧ st.localTasks = none ∧ ∀ t ∈ st.globalTasks, t.notCopy = true

/-- a history of region operations: every operation was legal in a state satisfying the region invariant and
did not panic; the outcome (`ok`, `placed`, or a diagnostic) is recorded -/
inductive Path : Seg.State → List (Seg.Op × Seg.Out) → Seg.State → Prop
  | nil (s : Seg.State) : Path s [] s
  | cons {s s1 s' : Seg.State} {op : Seg.Op} {o : Seg.Out} {tr : List (Seg.Op × Seg.Out)} :
      Seg.Inv s → Seg.Op.wf s op → Seg.step s op = (s1, o) → o ≠ .panic → Path s1 tr s' → Path s ((op, o) :: tr) s'

def isDiag : Seg.Out → Bool
  | .diag _ => true
  | _ => false

/-- the NUMBER of operations of a history that were refused (ended in a diagnostic) -/
def diags (tr : List (Seg.Op × Seg.Out)) : Nat := (tr.filter fun p => isDiag p.2).length

theorem diags_append (a b : List (Seg.Op × Seg.Out)) : diags (a ++ b) = diags a + diags b := by
  simp [diags, List.filter_append]

theorem Path.append {a b c : Seg.State} {t1 t2 : List (Seg.Op × Seg.Out)} (h1 : Path a t1 b) (h2 : Path b t2 c) :
    Path a (t1 ++ t2) c := by
  induction h1 with
  | nil s => exact h2
  | cons i w e n _ ih => exact .cons i w e n (ih h2)

/-- the regions of `st'` are reached from those of `st` by a history of region operations, and every operation
that ended in a diagnostic is accounted for by a new entry of `errors` -/
def Traced (st st' : St) : Prop :=
  ∃ tr, Path st.seg tr st'.seg ∧ st.errors.length + diags tr ≤ st'.errors.length

theorem Traced.refl (st : St) : Traced st st := ⟨[], .nil _, by simp [diags]⟩

theorem Traced.trans {a b c : St} (h1 : Traced a b) (h2 : Traced b c) : Traced a c := by
  obtain ⟨t1, p1, e1⟩ := h1
  obtain ⟨t2, p2, e2⟩ := h2
  exact ⟨t1 ++ t2, p1.append p2, by rw [diags_append]; omega⟩

/-- what a step may do to the parts other steps rely on: placed statements stay placed, a task that is new in
the global queue is not a `.global` closure, and the regions change only through legal region operations -/
def Ext (st st' : St) : Prop :=
  st.seg.pending ⊆ st'.seg.pending ∧ (∀ t ∈ st'.globalTasks, t ∈ st.globalTasks ∨ t.notCopy = true) ∧ Traced st st'

def Step (b : Bool) (st st' : St) : Prop := Good b st' ∧ Ext st st'

def Safe {X : Type} (b : Bool) (st : St) (r : Out (St × X)) : Prop :=
  r ≠ .stop .panic ∧ ∀ st' x, r = .ok (st', x) → Good b st' ∧ Ext st st'

theorem safe_iff {X : Type} {b : Bool} {st : St} {r : Out (St × X)} :
    Safe b st r ↔ r.Post (fun x => Step b st x.1) (· ≠ .panic) := by
  cases r with
  | ok a => exact ⟨fun h => h.2 _ _ rfl, fun h => ⟨nofun, fun _ _ e => by cases e; exact h⟩⟩
  | stop z => exact ⟨fun h e => h.1 (e ▸ rfl), fun h => ⟨fun e => h (by cases e; rfl), nofun⟩⟩

theorem Ext.refl (st : St) : Ext st st := ⟨fun _ h => h, fun _ h => .inl h, Traced.refl st⟩

theorem Ext.trans {a b c : St} (h1 : Ext a b) (h2 : Ext b c) : Ext a c :=
  ⟨fun _ h => h2.1 (h1.1 h), fun t h => by
    rcases h2.2.1 t h with h | h
    · exact h1.2.1 t h
    · exact .inr h, h1.2.2.trans h2.2.2⟩

theorem ext_of_path {st st'' : St} {tr : List (Seg.Op × Seg.Out)} (hp : st.seg.pending ⊆ st''.seg.pending)
    (hg : st''.globalTasks = st.globalTasks) (hpath : Path st.seg tr st''.seg)
    (he : st.errors.length + diags tr ≤ st''.errors.length) : Ext st st'' :=
  ⟨hp, fun _ m => .inl (hg ▸ m), tr, hpath, he⟩

theorem TaskOk.mono {p q : List (Nat × Nat)} (h : p ⊆ q) {t : Task} (ht : TaskOk p t) : TaskOk q t := by
  cases t with
  | data d g => exact ⟨ht.1, h ht.2⟩
  | instr i g => exact ⟨ht.1, h ht.2⟩
  | globalCopy n l c => exact ht

theorem good_init : Good false St.init :=
  ⟨Seg.inv_init, fun _ h => (by simp [St.init] at h), fun _ h => (by simp [St.init] at h),
   fun _ _ h => (by simp [St.init, Table.find] at h), fun _ h => (by simp [St.init] at h),
   fun h => (by cases h), fun _ => ⟨rfl, rfl, fun _ h => (by simp [St.init] at h)⟩⟩

theorem good_pushIn {b : Bool} {st : St} (h : Good b st) (f : Bytes) (l c : Nat) (k : Kind) : Good b (st.pushIn f l c k) :=
  ⟨h.inv, h.gt, h.lt, h.gtab, h.ltab, h.inFile, h.top⟩

theorem good_push {b : Bool} {st : St} (h : Good b st) (env : Env) (l c : Nat) (k : Kind) : Good b (st.push env l c k) :=
  good_pushIn h _ _ _ _

theorem ext_pushIn (st : St) (f : Bytes) (l c : Nat) (k : Kind) : Ext st (st.pushIn f l c k) :=
  ⟨fun _ h => h, fun _ h => .inl h, [], .nil _, by simp [diags, St.pushIn]⟩

theorem ext_push (st : St) (env : Env) (l c : Nat) (k : Kind) : Ext st (st.push env l c k) := ext_pushIn ..

theorem safe_pushIn {X : Type} {b : Bool} {st : St} (h : Good b st) (f : Bytes) (l c : Nat) (k : Kind) (x : X) :
    Safe b st (.ok (st.pushIn f l c k, x)) :=
  ⟨by simp, fun _ _ eq => by cases eq; exact ⟨good_pushIn h .., ext_pushIn ..⟩⟩

/-! Below `.include` a stop is a panic, so "does not panic" is "returns": the lemmas about those functions say what they
return (`Out.Ret`), and a proof that knows what a callee returned rewrites with it. -/

theorem Step.refl {b : Bool} {st : St} (h : Good b st) : Step b st st := ⟨h, Ext.refl _⟩

theorem Step.trans {b : Bool} {a c d : St} (h1 : Step b a c) (h2 : Step b c d) : Step b a d := ⟨h2.1, h1.2.trans h2.2⟩

theorem Step.pushIn {b : Bool} {a c : St} (h : Step b a c) (f : Bytes) (l k : Nat) (x : Kind) : Step b a (c.pushIn f l k x) :=
  ⟨good_pushIn h.1 .., h.2.trans (ext_pushIn ..)⟩

theorem Step.push {b : Bool} {a c : St} (h : Step b a c) (env : Env) (l k : Nat) (x : Kind) : Step b a (c.push env l k x) :=
  h.pushIn ..

theorem get_found {t : Table} {n : Bytes} {v : Int} (h : t.get n = .found v) : t.find n = some (some v) := by
  unfold Table.get at h
  split at h <;> simp_all

theorem get_deferred {t : Table} {n : Bytes} (h : t.get n = .deferred) : t.find n = some none := by
  unfold Table.get at h
  split at h <;> simp_all

theorem get_notFound {t : Table} {n : Bytes} (h : t.get n = .notFound) : t.find n = none := by
  unfold Table.get at h
  split at h <;> simp_all

theorem find_set (t : Table) (n m : Bytes) (v : Option Int) :
    (t.set n v).find m = if n = m then some v else t.find m := by
  induction t with
  | nil => simp [Table.set, Table.find]
  | cons p t ih =>
    obtain ⟨k, w⟩ := p
    simp only [Table.set]
    by_cases hk : k = n
    · subst hk
      simp only [if_true, Table.find]
      by_cases hm : k = m <;> simp [hm]
    · simp only [hk, if_false, Table.find, ih]
      by_cases hm : k = m
      · subst hm; simp [Ne.symm hk]
      · simp [hm]

theorem tableOk_set {t : Table} (h : TableOk t) {n : Bytes} (hn : Front.isRegister n = false) (v : Option Int) :
    TableOk (t.set n v) := by
  intro m w hm
  rw [find_set] at hm
  by_cases e : n = m
  · subst e; exact hn
  · rw [if_neg e] at hm; exact h m w hm

theorem tableOk_nil : TableOk [] := fun _ _ h => by simp [Table.find] at h

end Trion.Asm
