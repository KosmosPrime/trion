import TrionModel.Lemmas.SimpInv
/-!
# The way `search` takes to the constant it reports

`Found ty a c s set drop`: `search(ty, a, false)` stops at a node of `a` that holds the constant `c`, with inversion flag
`s`; `set n` is `a` with that constant overwritten by `n` (`setC`), `drop` is `a` with it spliced out (`dropC`).  One
constructor per way `search` can go: stop at a node with a constant child, descend into the side that has one, pass a
`Negate`, follow the left spine of `/`.  `findC_found` walks `findC` / `setC` / `dropC` once; what the merge does to
values, to the leaves and to normal forms is then an induction over `Found`.
-/
namespace Trion.Simp
open Trion

inductive Found (ty : BinOp) : Arg → Int → Bool → (Int → Arg) → Arg → Prop
  | holdL {op : BinOp} {c : Int} {r : Arg} : chainOp op = true → sameFam ty op = true → isC r = false →
      Found ty (.bin op (.const c) r) c false (fun n => .bin op (.const n) r) (if op == .sub then .neg r else r)
  | holdR {op : BinOp} {l : Arg} {c : Int} : chainOp op = true → sameFam ty op = true → isC l = false →
      Found ty (.bin op l (.const c)) c (op == .sub) (fun n => .bin op l (.const n)) l
  | left {op : BinOp} {l r : Arg} {c : Int} {s : Bool} {set : Int → Arg} {drop : Arg} :
      chainOp op = true → sameFam ty op = true → isC l = false → isC r = false → Found ty l c s set drop →
      Found ty (.bin op l r) c s (fun n => .bin op (set n) r) (.bin op drop r)
  | right {op : BinOp} {l r : Arg} {c : Int} {s : Bool} {set : Int → Arg} {drop : Arg} :
      chainOp op = true → sameFam ty op = true → isC l = false → isC r = false → findC ty l false = .none →
      Found ty r c s set drop →
      Found ty (.bin op l r) c (s ^^ (op == .sub)) (fun n => .bin op l (set n)) (.bin op l drop)
  | neg {v : Arg} {c : Int} {s : Bool} {set : Int → Arg} {drop : Arg} : isAddSub ty = true → Found ty v c s set drop →
      Found ty (.neg v) c (!s) (fun n => .neg (set n)) (.neg drop)
  -- the left spine of `/`.  `drop` is what `dropC` returns there, the node itself: a `Divide` node is inert for `dropC`,
  -- since the merge never splices a constant out of a division (its rhs is not searched); clients that speak of `drop`
  -- assume `ty ≠ .div`
  | divL {c : Int} {r : Arg} : ty = .div → isC r = false →
      Found ty (.bin .div (.const c) r) c false (fun n => .bin .div (.const n) r) (.bin .div (.const c) r)
  | divR {l : Arg} {c : Int} : ty = .div → isC l = false →
      Found ty (.bin .div l (.const c)) c true (fun n => .bin .div l (.const n)) (.bin .div l (.const c))
  | divS {l r : Arg} {c : Int} {s : Bool} {set : Int → Arg} {drop : Arg} : ty = .div → isC l = false → isC r = false →
      Found ty l c s set drop → Found ty (.bin .div l r) c s (fun n => .bin .div (set n) r) (.bin .div l r)

theorem findC_found_inv {ty : BinOp} {a : Arg} {i : Bool} {c : Int} {s : Bool}
    (h : findC ty a i = .found c s) : ∃ s0, findC ty a false = .found c s0 ∧ s = (s0 ^^ i) := by
  rw [findC_inv] at h
  cases hf : findC ty a false with
  | found c0 s0 =>
    simp only [hf, Find.flip, Find.found.injEq] at h
    exact ⟨s0, by rw [h.1], h.2.symm⟩
  | _ => simp [hf, Find.flip] at h

theorem findC_found {ty : BinOp} {a : Arg} : ∀ {c : Int} {s : Bool}, findC ty a false = .found c s →
    Found ty a c s (fun n => setC ty n a) (dropC ty a) := by
  induction a using Arg.ind with
  | bin op l r ihl ihr =>
    intro c s h
    by_cases hch : chainOp op = true
    · by_cases hsf : sameFam ty op = true
      · simp only [findC, hch, hsf, if_true] at h
        simp only [setC, dropC, hch, hsf, if_true]
        cases hcl : cval l with
        | some cl =>
          cases hcr : cval r with
          | some cr => simp [hcl, hcr] at h
          | none =>
            simp only [hcl, hcr, Find.found.injEq] at h
            obtain ⟨rfl, rfl⟩ := h
            cases cval_some_eq hcl
            exact .holdL hch hsf (cval_none_iff.1 hcr)
        | none =>
          cases hcr : cval r with
          | some cr =>
            simp only [hcl, hcr, Find.found.injEq, Bool.false_xor] at h
            obtain ⟨rfl, rfl⟩ := h
            cases cval_some_eq hcr
            exact .holdR hch hsf (cval_none_iff.1 hcl)
          | none =>
            simp only [hcl, hcr] at h
            simp only
            cases hfl : findC ty l false with
            | found c1 s1 =>
              simp only [hfl, Find.found.injEq] at h
              obtain ⟨rfl, rfl⟩ := h
              simp only [Find.isFound, if_true]
              exact .left hch hsf (cval_none_iff.1 hcl) (cval_none_iff.1 hcr) (ihl hfl)
            | panic => simp [hfl] at h
            | none =>
              simp only [hfl] at h
              obtain ⟨s0, hf0, rfl⟩ := findC_found_inv h
              simp only [Find.isFound, Bool.false_eq_true, if_false, Bool.false_xor]
              exact .right hch hsf (cval_none_iff.1 hcl) (cval_none_iff.1 hcr) hfl (ihr hf0)
      · simp [findC, hch, hsf] at h
    · by_cases hdv : (op == .div) = true
      · have hop : op = .div := by simpa using hdv
        subst hop
        by_cases hty : (ty == .div) = true
        · have hty' : ty = .div := by simpa using hty
          simp only [findC, hch, Bool.false_eq_true, if_false, hdv, hty, if_true] at h
          simp only [setC, dropC, hch, Bool.false_eq_true, if_false, hdv, hty, if_true]
          cases hcl : cval l with
          | some cl =>
            cases hcr : cval r with
            | some cr => simp [hcl, hcr] at h
            | none =>
              simp only [hcl, hcr, Find.found.injEq] at h
              obtain ⟨rfl, rfl⟩ := h
              cases cval_some_eq hcl
              exact .divL hty' (cval_none_iff.1 hcr)
          | none =>
            cases hcr : cval r with
            | some cr =>
              simp only [hcl, hcr, Find.found.injEq, Bool.not_false] at h
              obtain ⟨rfl, rfl⟩ := h
              cases cval_some_eq hcr
              exact .divR hty' (cval_none_iff.1 hcl)
            | none =>
              simp only [hcl, hcr] at h
              exact .divS hty' (cval_none_iff.1 hcl) (cval_none_iff.1 hcr) (ihl h)
        · simp [findC, hch, hty] at h
      · simp [findC, hch, hdv] at h
  | neg v ih =>
    intro c s h
    by_cases hty : isAddSub ty = true
    · simp only [findC, hty, if_true] at h
      obtain ⟨s0, hf0, rfl⟩ := findC_found_inv h
      simp only [setC, dropC, hty, if_true, Bool.not_false, Bool.xor_true]
      exact .neg hty (ih hf0)
    · simp [findC, hty] at h
  | _ => intro c s h; simp [findC] at h

theorem Found.findC {ty : BinOp} {a : Arg} {c : Int} {s : Bool} {set : Int → Arg} {drop : Arg}
    (h : Found ty a c s set drop) : findC ty a false = .found c s := by
  induction h with
  | holdL hch hsf hr => simp [Simp.findC, hch, hsf, cval_const, cval_none_iff.2 hr]
  | holdR hch hsf hl => simp [Simp.findC, hch, hsf, cval_const, cval_none_iff.2 hl]
  | left hch hsf hl hr _ ih => simp [Simp.findC, hch, hsf, cval_none_iff.2 hl, cval_none_iff.2 hr, ih]
  | right hch hsf hl hr hn _ ih =>
    simp only [Simp.findC, hch, hsf, cval_none_iff.2 hl, cval_none_iff.2 hr, hn, if_true]
    rw [findC_inv, ih]; simp [Find.flip]
  | neg hty _ ih => simp only [Simp.findC, hty, if_true]; rw [findC_inv, ih]; simp [Find.flip]
  | divL hty hr => subst hty; simp [Simp.findC, chainOp, cval_const, cval_none_iff.2 hr]
  | divR hty hl => subst hty; simp [Simp.findC, chainOp, cval_const, cval_none_iff.2 hl]
  | divS hty hl hr _ ih => subst hty; simp [Simp.findC, chainOp, cval_none_iff.2 hl, cval_none_iff.2 hr, ih]

theorem mergeL_found {op : BinOp} {l : Arg} {c : Int} {s : Bool} (h : mergeL op l = .found c s) :
    (l = .const c ∧ s = false) ∨ (cval l = none ∧ Found op l c s (fun n => setC op n l) (dropC op l)) := by
  unfold mergeL at h
  cases hcl : cval l with
  | some cl =>
    simp only [hcl, Find.found.injEq] at h
    exact .inl ⟨h.1 ▸ cval_some_eq hcl, h.2.symm⟩
  | none => simp only [hcl] at h; exact .inr ⟨rfl, findC_found h⟩

/-- the rhs starts inverted under `-` and `/` (`preInv`); the rhs of a division is not searched -/
theorem mergeR_found {op : BinOp} {r : Arg} {c : Int} {s : Bool} (h : mergeR op r = .found c s) :
    (r = .const c ∧ s = preInv op) ∨
    (cval r = none ∧ op ≠ .div ∧ ∃ s0, s = (s0 ^^ preInv op) ∧ Found op r c s0 (fun n => setC op n r) (dropC op r)) := by
  unfold mergeR at h
  cases hcr : cval r with
  | some cr =>
    simp only [hcr, Find.found.injEq] at h
    exact .inl ⟨h.1 ▸ cval_some_eq hcr, h.2.symm⟩
  | none =>
    simp only [hcr] at h
    split at h
    · cases h
    · rename_i hd
      obtain ⟨s0, hf0, hs⟩ := findC_found_inv h
      exact .inr ⟨rfl, by simpa using hd, s0, hs, findC_found hf0⟩

end Trion.Simp
