import TrionModel.Lemmas.Trias
import TrionModel.Lemmas.Map
/-!
The list helpers of `Model/Trias.lean` are the memory map of C15 on normalised lists, and what page padding does.

* `lookup` is the map's `abs`, `Norm` its invariant `MInv`; the lemmas below speak `Map.Sep` (the invariant without the
  bound 2^32), which `Norm` gives once (`Norm.sep`). `insertMerge a d` into a free range is the merge walk of
  `MemoryMap::put` (`putGo_free`), hence `Map.put` itself, returning `Ok(d.len())` as the `assert_eq!`s of the padding
  loop expect.
* Padding yields an `Ext` of the original (the same plus zero bytes in pages already touched) that is `PNorm`
  (page-aligned starts, consecutive segments in different pages). The loader image `segsImage` of a `PNorm` list is its
  bytes, zero in the rest of every touched page, nothing elsewhere; its blocks are ascending and a page apart.
-/
namespace Trion.Trias
open Trion.Uf2

/-- `Norm` is the memory map's invariant, written with the bound 2^32 on the last segment only -/
theorem norm_iff_minv : ∀ (m : List Seg), Norm m ↔ Trion.Map.MInv m
  | [] => ⟨fun _ => trivial, fun _ => trivial⟩
  | [(f, d)] => ⟨fun h => ⟨Nat.zero_le _, h.1, h.2, trivial⟩, fun h => ⟨h.2.1, h.2.2.1⟩⟩
  | (f, d) :: (g, e) :: r => by
    have ih := norm_iff_minv ((g, e) :: r)
    constructor
    · intro h
      have okr : Trion.Map.Ok 0 ((g, e) :: r) := ih.mp h.2.2
      exact ⟨Nat.zero_le _, h.1, by have := okr.2.2.1; have := h.2.1; omega, by have := h.2.1; omega, okr.2⟩
    · intro h
      exact ⟨h.2.1, by have := h.2.2.2.1; omega, ih.mpr (Trion.Map.Ok_mono (Nat.zero_le _) h.2.2.2)⟩

theorem Norm.sep (m : List Seg) (h : Norm m) : Map.Sep 0 m := ((norm_iff_minv m).mp h).sep

theorem Norm.addr32 (m : List Seg) (h : Norm m) : Addr32 m := fun s hs => by
  have := Trion.Map.Ok_mem_bounds ((norm_iff_minv m).mp h) hs
  omega

theorem lookup_cons (f : Nat) (d : List UInt8) (r : List Seg) (a : Nat) :
    lookup ((f, d) :: r) a = if f ≤ a ∧ a < f + d.length then d[a - f]? else lookup r a := rfl

theorem lookup_eq_abs (m : List Seg) : lookup m = Trion.Map.abs m := by
  induction m with
  | nil => rfl
  | cons s r ih =>
    obtain ⟨f, d⟩ := s
    funext a
    rw [lookup_cons, Trion.Map.abs_cons, ih]

theorem lookup_none_below {lo : Nat} {m : List Seg} (h : Map.Sep lo m) {a : Nat} (ha : a < lo) :
    lookup m a = none := by
  rw [lookup_eq_abs]; exact h.abs_none_of_lt ha

theorem lookup_in (f : Nat) (d : List UInt8) (r : List Seg) (a : Nat) (h : f ≤ a ∧ a < f + d.length) :
    lookup ((f, d) :: r) a = some (d[a - f]'(by omega)) := by
  rw [lookup_cons, if_pos h, List.getElem?_eq_getElem]

theorem lookup_in_isSome (f : Nat) (d : List UInt8) (r : List Seg) (a : Nat) (h : f ≤ a ∧ a < f + d.length) :
    (lookup ((f, d) :: r) a).isSome = true := by
  rw [lookup_in f d r a h]; rfl

theorem lookup_cons_isSome (f : Nat) (d : List UInt8) {r : List Seg} {a : Nat} (h : (lookup r a).isSome = true) :
    (lookup ((f, d) :: r) a).isSome = true := by
  rw [lookup_cons]
  by_cases hxa : f ≤ a ∧ a < f + d.length
  · rw [if_pos hxa, List.getElem?_eq_getElem (by omega)]; rfl
  · rw [if_neg hxa]; exact h

theorem lookup_merge (c : Nat) (cd e : List UInt8) (r : List Seg) (x : Nat) :
    lookup ((c, cd ++ e) :: r) x = lookup ((c, cd) :: (c + cd.length, e) :: r) x := by
  simp only [lookup_cons, List.length_append]
  by_cases h1 : c ≤ x ∧ x < c + cd.length
  · rw [if_pos h1, if_pos (by omega), List.getElem?_append_left (by omega)]
  · rw [if_neg h1]
    by_cases h2 : c + cd.length ≤ x ∧ x < c + cd.length + e.length
    · rw [if_pos h2, if_pos (by omega), List.getElem?_append_right (by omega)]
      congr 1; omega
    · rw [if_neg h2, if_neg (by omega)]

theorem putGo_free (m : List Seg) : ∀ (lo a : Nat) (d : List UInt8), Map.Sep lo m → d ≠ [] →
    (∀ x, a ≤ x → x < a + d.length → lookup m x = none) →
    Trion.Map.putGo m a d = (0, insertMerge a d m) := by
  induction m with
  | nil => intro _ _ _ _ _ _; rfl
  | cons s r ih =>
    obtain ⟨f, e⟩ := s
    intro lo a d hn hd hfree
    have he : 0 < e.length := List.length_pos_iff.mpr hn.2.1
    have hdl : 0 < d.length := List.length_pos_iff.mpr hd
    simp only [Trion.Map.putGo, insertMerge]
    by_cases h1 : f + e.length < a
    · have hfr : ∀ x, a ≤ x → x < a + d.length → lookup r x = none := by
        intro x hx1 hx2
        have := hfree x hx1 hx2
        rwa [lookup_cons, if_neg (by omega)] at this
      rw [if_pos h1, if_pos h1, ih _ a d hn.2.2 hd hfr]
    · rw [if_neg h1, if_neg h1]
      have hfa : a + d.length ≤ f ∨ f + e.length = a := by
        by_cases hc : f < a
        · by_cases hc3 : f + e.length = a
          · exact Or.inr hc3
          · have := hfree a (Nat.le_refl _) (by omega)
            rw [lookup_in f e r a (by omega)] at this
            cases this
        · by_cases hc2 : f < a + d.length
          · have := hfree f (by omega) hc2
            rw [lookup_in f e r f (by omega)] at this
            cases this
          · exact Or.inl (by omega)
      by_cases h2 : f + e.length = a
      · rw [if_pos h2, if_neg (by omega)]
        have hfr : ∀ x, f ≤ x → x < f + (e ++ d).length → lookup r x = none := by
          intro x hx1 hx2
          rw [List.length_append] at hx2
          by_cases hx : x < f + e.length + 1
          · exact lookup_none_below hn.2.2 hx
          · have := hfree x (by omega) (by omega)
            rwa [lookup_cons, if_neg (by omega)] at this
        have hpre : List.take (a - f) e = e := List.take_of_length_le (by omega)
        have hpost : List.drop (a + d.length - f) e = [] := List.drop_eq_nil_of_le (by omega)
        rw [hpre, hpost, List.append_nil, Nat.min_eq_right (by omega : f ≤ a),
          ih _ f (e ++ d) hn.2.2 (by simp [hd]) hfr]
        simp
      · rw [if_neg h2]
        have hle : a + d.length ≤ f := by rcases hfa with h | h; exact h; exact absurd h h2
        by_cases h3 : a + d.length = f
        · rw [if_pos h3, if_neg (by omega)]
          have hpre : List.take (a - f) e = [] := by
            rw [show a - f = 0 by omega]; rfl
          have hpost : List.drop (a + d.length - f) e = e := by
            rw [show a + d.length - f = 0 by omega]; rfl
          rw [hpre, hpost, List.nil_append, Nat.min_eq_left (by omega : a ≤ f)]
          -- the rest of the list lies strictly above the merged segment
          cases r with
          | nil => simp [Trion.Map.putGo]
          | cons t q =>
            obtain ⟨g, y⟩ := t
            have hg := hn.2.2.1
            simp only [Trion.Map.putGo, List.length_append]
            rw [if_neg (by omega), if_pos (by omega)]
            simp
        · rw [if_neg h3, if_pos (by omega)]

theorem insertMerge_spec (m : List Seg) (lo a : Nat) (d : List UInt8) (hn : Map.Sep lo m) (hd : d ≠ [])
    (hfree : ∀ x, a ≤ x → x < a + d.length → lookup m x = none) :
    Map.Sep (min lo a) (insertMerge a d m) ∧
    ∀ x, lookup (insertMerge a d m) x = if a ≤ x ∧ x < a + d.length then d[x - a]? else lookup m x := by
  have h := Trion.Map.putGo_sep m (min lo a) a d (hn.mono (Nat.min_le_left _ _)) (Nat.min_le_right _ _) hd
  rw [putGo_free m lo a d hn hd hfree] at h
  exact ⟨h.1, fun x => by rw [lookup_eq_abs, h.2 x, Trion.Map.put_apply, ← lookup_eq_abs]⟩

theorem insertMerge_eq_put (m : List Seg) (a : Nat) (d : List UInt8) (inv : Trion.Map.MInv m) (hd : d ≠ [])
    (hb : a + d.length ≤ 4294967296) (hfree : ∀ x, a ≤ x → x < a + d.length → lookup m x = none) :
    Trion.Map.put m a d = (.ok d.length, insertMerge a d m) := by
  have hemp : d.isEmpty = false := by simpa using hd
  have hdl : 0 < d.length := List.length_pos_iff.mpr hd
  unfold Trion.Map.put
  rw [hemp]
  simp only [Bool.false_eq_true, if_false]
  rw [if_neg (by unfold Trion.Map.u32Max; omega), putGo_free m 0 a d inv.sep hd hfree]
  rfl

/-- some address of `x`'s 256-byte page is occupied; stated on a lookup function `g` (`lookup m`, `withCrc m`), not on
a segment list: the F -/
def TouchedF (g : Nat → Option UInt8) (x : Nat) : Prop := ∃ a, (g a).isSome = true ∧ a / 256 = x / 256

/-- `h` is `g` with additional zero bytes, all of them inside pages that `g` touches -/
def Ext (g h : Nat → Option UInt8) : Prop :=
  ∀ x, h x = g x ∨ (g x = none ∧ h x = some 0 ∧ TouchedF g x)

theorem Ext.refl (g : Nat → Option UInt8) : Ext g g := fun _ => Or.inl rfl

theorem Ext.of_eq {g h : Nat → Option UInt8} (e : ∀ x, h x = g x) : Ext g h := fun x => Or.inl (e x)

theorem Ext.touched_mp {g h : Nat → Option UInt8} (e : Ext g h) {x : Nat} (t : TouchedF h x) : TouchedF g x := by
  obtain ⟨a, ha, hp⟩ := t
  rcases e a with h1 | ⟨_, _, b, hb, hq⟩
  · exact ⟨a, by rw [← h1]; exact ha, hp⟩
  · exact ⟨b, hb, by omega⟩

theorem Ext.touched_mpr {g h : Nat → Option UInt8} (e : Ext g h) {x : Nat} (t : TouchedF g x) : TouchedF h x := by
  obtain ⟨a, ha, hp⟩ := t
  rcases e a with h1 | ⟨h1, _, _⟩
  · exact ⟨a, by rw [h1]; exact ha, hp⟩
  · rw [h1] at ha; cases ha

theorem Ext.touched {g h : Nat → Option UInt8} (e : Ext g h) (x : Nat) : TouchedF h x ↔ TouchedF g x :=
  ⟨e.touched_mp, e.touched_mpr⟩

theorem Ext.getD {g h : Nat → Option UInt8} (e : Ext g h) (x : Nat) : (h x).getD 0 = (g x).getD 0 := by
  rcases e x with h1 | ⟨h1, h2, _⟩
  · rw [h1]
  · rw [h1, h2]; rfl

theorem Ext.trans {g h k : Nat → Option UInt8} (e1 : Ext g h) (e2 : Ext h k) : Ext g k := by
  intro x
  rcases e2 x with h2 | ⟨h2, h3, t⟩
  · rcases e1 x with h1 | h1
    · exact Or.inl (h2.trans h1)
    · exact Or.inr ⟨h1.1, h2.trans h1.2.1, h1.2.2⟩
  · rcases e1 x with h1 | ⟨_, h1, _⟩
    · exact Or.inr ⟨h1 ▸ h2, h3, e1.touched_mp t⟩
    · rw [h1] at h2; cases h2

theorem Ext.cons {A B : List Seg} (e : Ext (lookup A) (lookup B)) (s : Seg) :
    Ext (lookup (s :: A)) (lookup (s :: B)) := by
  obtain ⟨f, d⟩ := s
  intro x
  rw [lookup_cons, lookup_cons]
  by_cases hx : f ≤ x ∧ x < f + d.length
  · rw [if_pos hx, if_pos hx]; exact Or.inl rfl
  · rw [if_neg hx, if_neg hx]
    rcases e x with h1 | ⟨h1, h2, a, ha, hp⟩
    · exact Or.inl h1
    · exact Or.inr ⟨h1, h2, a, lookup_cons_isSome f d ha, hp⟩

theorem Ext.fill (f : Nat) (d : List UInt8) (r : List Seg) (g : Nat) (hg : g ≤ f % 256) (hd : d ≠ [])
    (hn : Map.Sep (f + d.length + 1) r) :
    Ext (lookup ((f, d) :: r)) (lookup ((f - g, zeros g ++ d) :: r)) := by
  have hdl : 0 < d.length := List.length_pos_iff.mpr hd
  have hfm : f % 256 ≤ f := Nat.mod_le _ _
  intro x
  rw [lookup_cons, lookup_cons, List.length_append, zeros_length]
  by_cases hx : f ≤ x ∧ x < f + d.length
  · left
    rw [if_pos hx, if_pos (by omega), List.getElem?_append_right (by rw [zeros_length]; omega), zeros_length]
    congr 1; omega
  · rw [if_neg hx]
    by_cases hx2 : f - g ≤ x ∧ x < f
    · right
      rw [if_pos (by omega), List.getElem?_append_left (by rw [zeros_length]; omega)]
      refine ⟨lookup_none_below hn (by omega), ?_, f, ?_, by omega⟩
      · unfold zeros
        rw [List.getElem?_replicate, if_pos (by omega)]
      · rw [lookup_cons, if_pos (by omega), List.getElem?_eq_getElem (by omega)]; rfl
    · left
      rw [if_neg (by omega)]

/-- page-normal: every segment starts on a page boundary, is non-empty, and the next one starts at or after
the end of this one's last page -/
def PNorm (lo : Nat) : List Seg → Prop
  | [] => True
  | (f, d) :: r => lo ≤ f ∧ f % 256 = 0 ∧ d ≠ [] ∧ PNorm (roundUp (f + d.length) 256) r

theorem PNorm.mono {lo lo' : Nat} {m : List Seg} (h : PNorm lo m) (hl : lo' ≤ lo) : PNorm lo' m := by
  cases m with
  | nil => trivial
  | cons s r =>
    obtain ⟨f, d⟩ := s
    exact ⟨Nat.le_trans hl h.1, h.2⟩

theorem padGo_spec (r : List Seg) : ∀ (c : Nat) (cd : List UInt8), c % 256 = 0 → cd ≠ [] →
    Map.Sep (c + cd.length + 1) r →
    PNorm c (padGo (c, cd) r) ∧ Ext (lookup ((c, cd) :: r)) (lookup (padGo (c, cd) r)) := by
  induction r with
  | nil =>
    intro c cd hc hcd _
    exact ⟨⟨Nat.le_refl _, hc, hcd, trivial⟩, Ext.refl _⟩
  | cons s r ih =>
    obtain ⟨f, d⟩ := s
    intro c cd hc hcd hn
    have hcl : 0 < cd.length := List.length_pos_iff.mpr hcd
    have hdl : 0 < d.length := List.length_pos_iff.mpr hn.2.1
    have hf := hn.1
    have hfm : f % 256 ≤ f := Nat.mod_le _ _
    -- merged form, used by the two "same page"/"touching" branches
    have merged : ∀ g, g ≤ f % 256 → c + cd.length = f - g →
        PNorm c (padGo (c, cd ++ zeros g ++ d) r) ∧
          Ext (lookup ((c, cd) :: (f, d) :: r)) (lookup (padGo (c, cd ++ zeros g ++ d) r)) := by
      intro g hg hcg
      have hne : cd ++ zeros g ++ d ≠ [] := by simp [hcd]
      have hlen : (cd ++ zeros g ++ d).length = cd.length + g + d.length := by
        simp only [List.length_append, zeros_length]
      obtain ⟨i1, i2⟩ := ih c (cd ++ zeros g ++ d) hc hne (by rw [hlen]; exact hn.2.2.mono (by omega))
      refine ⟨i1, Ext.trans ?_ i2⟩
      have e1 := (Ext.fill f d r g hg hn.2.1 hn.2.2).cons (c, cd)
      refine e1.trans (Ext.of_eq ?_)
      intro x
      rw [List.append_assoc, lookup_merge, hcg]
    simp only [padGo]
    split
    · -- already page aligned
      rename_i h0
      obtain ⟨i1, i2⟩ := ih f d h0 hn.2.1 hn.2.2
      exact ⟨⟨Nat.le_refl _, hc, hcd, i1.mono (Uf2.roundUp_le_of_dvd _ 256 _ (by decide) h0 (by omega))⟩, i2.cons (c, cd)⟩
    · rename_i h0
      split
      · rename_i h1
        have := merged (f - (c + cd.length - 1) - 1) (by omega) (by omega)
        exact this
      · rename_i h1
        split
        · rename_i h2
          exact merged (f % 256) (Nat.le_refl _) (by omega)
        · rename_i h2
          have hne : zeros (f % 256) ++ d ≠ [] := by simp [hn.2.1]
          have hlen : (zeros (f % 256) ++ d).length = f % 256 + d.length := by simp [List.length_append]
          obtain ⟨i1, i2⟩ := ih (f - f % 256) (zeros (f % 256) ++ d) (by omega) hne
            (by rw [hlen]; exact hn.2.2.mono (by omega))
          refine ⟨⟨Nat.le_refl _, hc, hcd, i1.mono (Uf2.roundUp_le_of_dvd _ 256 _ (by decide) (by omega) (by omega))⟩, ?_⟩
          exact ((Ext.fill f d r (f % 256) (Nat.le_refl _) hn.2.1 hn.2.2).trans i2).cons (c, cd)

theorem padAll_spec (m : List Seg) (hn : Map.Sep 0 m) :
    PNorm 0 (padAll m) ∧ Ext (lookup m) (lookup (padAll m)) := by
  cases m with
  | nil => exact ⟨trivial, Ext.refl _⟩
  | cons s r =>
    obtain ⟨f, d⟩ := s
    have hfm : f % 256 ≤ f := Nat.mod_le _ _
    have hne : zeros (f % 256) ++ d ≠ [] := by simp [hn.2.1]
    have hlen : (zeros (f % 256) ++ d).length = f % 256 + d.length := by simp [List.length_append]
    obtain ⟨i1, i2⟩ := padGo_spec r (f - f % 256) (zeros (f % 256) ++ d) (by omega) hne
      (by rw [hlen]; exact hn.2.2.mono (by omega))
    exact ⟨i1.mono (Nat.zero_le _), (Ext.fill f d r (f % 256) (Nat.le_refl _) hn.2.1 hn.2.2).trans i2⟩

theorem segsImage_none_below {lo : Nat} {m : List Seg} (h : PNorm lo m) {x : Nat} (hx : x < lo) :
    segsImage m x = none := by
  induction m generalizing lo with
  | nil => rfl
  | cons s r ih =>
    obtain ⟨f, d⟩ := s
    have hge := (roundUp_ge (f + d.length) 256 (by decide)).1
    simp only [segsImage]
    rw [ih h.2.2.2 (by have := h.1; omega)]
    simp only [expectImage]
    rw [if_neg (by have := h.1; omega)]

theorem lookup_none_below_pnorm {lo : Nat} {m : List Seg} (h : PNorm lo m) {a : Nat} (ha : a < lo) :
    lookup m a = none := by
  induction m generalizing lo with
  | nil => rfl
  | cons s r ih =>
    obtain ⟨f, d⟩ := s
    have hge := (roundUp_ge (f + d.length) 256 (by decide)).1
    rw [lookup_cons, if_neg (by have := h.1; omega)]
    exact ih h.2.2.2 (by have := h.1; omega)

theorem touched_none_below {lo : Nat} {m : List Seg} (h : PNorm lo m) (hlo : lo % 256 = 0) {x : Nat} (hx : x < lo) :
    ¬ TouchedF (lookup m) x := by
  rintro ⟨a, ha, hp⟩
  rw [lookup_none_below_pnorm h (by omega)] at ha
  cases ha

theorem segsImage_pnorm {lo : Nat} {m : List Seg} (h : PNorm lo m) (x : Nat) :
    (TouchedF (lookup m) x → segsImage m x = some ((lookup m x).getD 0)) ∧
    (¬ TouchedF (lookup m) x → segsImage m x = none) := by
  induction m generalizing lo with
  | nil =>
    refine ⟨?_, fun _ => rfl⟩
    rintro ⟨a, ha, _⟩; cases ha
  | cons s r ih =>
    obtain ⟨f, d⟩ := s
    have hdl : 0 < d.length := List.length_pos_iff.mpr h.2.2.1
    have hf0 := h.2.1
    obtain ⟨hge, hlt⟩ := roundUp_ge (f + d.length) 256 (by decide)
    have hru : roundUp (f + d.length) 256 % 256 = 0 := by unfold roundUp; split <;> omega
    have hradd : roundUp (f + d.length) 256 = f + roundUp d.length 256 := roundUp_add f d.length 256 hf0
    have hdle : d.length ≤ roundUp d.length 256 := (roundUp_ge d.length 256 (by decide)).1
    simp only [segsImage]
    by_cases hx : x < roundUp (f + d.length) 256
    · rw [segsImage_none_below h.2.2.2 hx]
      simp only
      rw [expectImage_val _ _ _ _ hdle]
      by_cases hxf : f ≤ x
      · rw [if_pos (by omega)]
        have hw : TouchedF (lookup ((f, d) :: r)) x := by
          by_cases hxd : x - f < d.length
          · exact ⟨x, lookup_in_isSome f d r x (by omega), rfl⟩
          · exact ⟨f + d.length - 1, lookup_in_isSome f d r _ (by omega), by omega⟩
        refine ⟨fun _ => ?_, fun hnt => absurd hw hnt⟩
        rw [lookup_cons]
        by_cases hxd : x - f < d.length
        · rw [if_pos hxd, if_pos (by omega), List.getElem?_eq_getElem hxd]; rfl
        · rw [if_neg hxd, if_neg (by omega), lookup_none_below_pnorm h.2.2.2 hx]
          rfl
      · rw [if_neg (by omega)]
        refine ⟨?_, fun _ => rfl⟩
        rintro ⟨a, ha, hp⟩
        rw [lookup_cons] at ha
        by_cases hxa : f ≤ a ∧ a < f + d.length
        · omega
        · rw [if_neg hxa] at ha
          exact absurd ⟨a, ha, hp⟩ (touched_none_below h.2.2.2 hru (x := x) (by omega))
    · -- at or above the end of this segment's last page: the rest of the list decides
      have hexp : expectImage f d (roundUp d.length 256) x = none := by
        rw [expectImage_val _ _ _ _ hdle, if_neg (by omega)]
      have htouch : TouchedF (lookup ((f, d) :: r)) x ↔ TouchedF (lookup r) x := by
        constructor
        · rintro ⟨a, ha, hp⟩
          rw [lookup_cons] at ha
          by_cases hxa : f ≤ a ∧ a < f + d.length
          · omega
          · rw [if_neg hxa] at ha; exact ⟨a, ha, hp⟩
        · rintro ⟨a, ha, hp⟩
          exact ⟨a, lookup_cons_isSome f d ha, hp⟩
      have hl : lookup ((f, d) :: r) x = lookup r x := by rw [lookup_cons, if_neg (by omega)]
      obtain ⟨i1, i2⟩ := ih h.2.2.2
      rw [hexp, hl, htouch]
      constructor
      · intro ht; rw [i1 ht]
      · intro ht; rw [i2 ht]

theorem blksFrom_sorted (cfg : Cfg) (hv : cfg.valid) (hps : cfg.ps = 256) (hal : cfg.al = 256) (segs : List Seg) :
    ∀ (lo no : Nat), PNorm lo segs →
      List.Pairwise (fun b c : Blk => b.addr + 256 ≤ c.addr) (blksFrom cfg no segs) ∧
      ∀ b ∈ blksFrom cfg no segs, lo ≤ b.addr := by
  induction segs with
  | nil => intro lo no _; exact ⟨List.Pairwise.nil, fun b hb => by cases hb⟩
  | cons fd r ih =>
    intro lo no hp
    obtain ⟨f, d⟩ := fd
    have hge := (roundUp_ge (f + d.length) 256 (by decide)).1
    have hrest := ih (roundUp (f + d.length) 256) (no + (allBlks cfg false d.length d f no).length) hp.2.2.2
    have hhead : ∀ b ∈ allBlks cfg false d.length d f no,
        f ≤ b.addr ∧ b.addr < f + d.length ∧ b.blen = 256 ∧ b.addr % 256 = 0 :=
      fun b hb => ⟨allBlks_addr_ge _ _ _ _ _ _ b hb, allBlks_addr_lt _ _ _ _ _ _ b hb,
        (allBlks_256 cfg hps hal false _ d f no hp.2.1 b hb).1, (allBlks_256 cfg hps hal false _ d f no hp.2.1 b hb).2.1⟩
    refine ⟨List.pairwise_append.mpr ⟨?_, hrest.1, ?_⟩, ?_⟩
    · refine List.Pairwise.imp_of_mem ?_ (allBlks_disjoint cfg hv false d.length d f no)
      intro b c hb _ hbc
      have := (hhead b hb).2.2.1
      omega
    · intro b hb c hc
      have h1 := hhead b hb
      have h2 := hrest.2 c hc
      have h4 : roundUp (f + d.length) 256 % 256 = 0 := by unfold roundUp; split <;> omega
      omega
    · intro b hb
      rcases List.mem_append.mp hb with h | h
      · have := (hhead b h).1; have := hp.1; omega
      · have := hrest.2 b h; have := hp.1; omega

end Trion.Trias
