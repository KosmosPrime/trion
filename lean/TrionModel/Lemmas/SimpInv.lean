import TrionModel.Model.SimpE
/-!
# Inversion lemmas for the simplifier's functions, and the "no missed simplification" invariant `nb`

Two things every later file uses: how each function can succeed (`neutralizeBin_ok`, `merge_ok`, `simplifyRaw_bin_ok`,
`simplifyRaw_neg_ok`, …, `neutralize_ok_ind`), and the invariant that kills the `assert!`s of `search`.

`nb a`: no binary node of `a` has two constant children and no `Negate` node has a constant child.  On an `nb` tree
`search` never meets a node with two constant children — which is all its `assert!` tests (`findC_ne_panic`) —, so nothing
panics on `nb` operands.  That every result of `evaluate` / `simplify` is `nb` follows from the normal-form theorem
(Lemmas/SimpNF.lean).

Every walk over a tree goes by the induction principles for the mutual `Arg` / `Args`: with a motive for the lists
(`Arg.ind2`) and without (`Arg.ind`).
-/
namespace Trion

theorem Arg.ind2 {P : Arg → Prop} {Q : Args → Prop}
    (const : ∀ v, P (.const v)) (ident : ∀ s, P (.ident s)) (str : ∀ s, P (.str s))
    (bin : ∀ op l r, P l → P r → P (.bin op l r))
    (neg : ∀ a, P a → P (.neg a)) (not : ∀ a, P a → P (.not a)) (addr : ∀ a, P a → P (.addr a))
    (seq : ∀ as, Q as → P (.seq as)) (func : ∀ n as, Q as → P (.func n as))
    (nil : Q .nil) (cons : ∀ a as, P a → Q as → Q (.cons a as)) :
    (∀ a, P a) ∧ (∀ as, Q as) :=
  ⟨fun a => Arg.rec (motive_1 := P) (motive_2 := Q) const ident str bin neg not addr seq func nil cons a,
   fun as => Args.rec (motive_1 := P) (motive_2 := Q) const ident str bin neg not addr seq func nil cons as⟩

theorem Arg.ind {P : Arg → Prop}
    (const : ∀ v, P (.const v)) (ident : ∀ s, P (.ident s)) (str : ∀ s, P (.str s))
    (bin : ∀ op l r, P l → P r → P (.bin op l r))
    (neg : ∀ a, P a → P (.neg a)) (not : ∀ a, P a → P (.not a)) (addr : ∀ a, P a → P (.addr a))
    (seq : ∀ as, P (.seq as)) (func : ∀ n as, P (.func n as)) : ∀ a, P a :=
  (Arg.ind2 (Q := fun _ => True) const ident str bin neg not addr (fun as _ => seq as) (fun n as _ => func n as)
    trivial (fun _ _ _ _ => trivial)).1

end Trion

namespace Trion.Simp
open Trion

/-- is the node `Argument::Constant`.  Lemma statements say `isC a = true/false`; `cval a = some v` is written only where the
value `v` is named, or where the hypothesis feeds the unfolding of a model function that matches on `cval`
(bridges: `cval_none_iff`, `cval_some_isC`, `isC_eq_const`, `cval_some_eq`) -/
def isC (a : Arg) : Bool := (cval a).isSome

@[simp] theorem isC_const (v : Int) : isC (.const v) = true := rfl
@[simp] theorem isC_bin (op : BinOp) (l r : Arg) : isC (.bin op l r) = false := rfl
@[simp] theorem isC_neg (a : Arg) : isC (.neg a) = false := rfl
@[simp] theorem isC_not (a : Arg) : isC (.not a) = false := rfl
@[simp] theorem isC_ident (a : Bytes) : isC (.ident a) = false := rfl

theorem cval_const (c : Int) : cval (.const c) = some c := rfl
theorem cval_none_iff {a : Arg} : cval a = none ↔ isC a = false := by
  cases a <;> simp [cval, isC]
theorem cval_some_isC {a : Arg} {c : Int} (h : cval a = some c) : isC a = true := by
  simp [isC, h]
theorem cval_some_eq {a : Arg} {c : Int} (h : cval a = some c) : a = .const c := by
  cases a <;> simp_all [cval]

mutual
/-- "no both": no binary node has two constant children, and no `Negate` node a constant child — what one more
`simplify_raw` step at that node would have folded -/
def nb : Arg → Bool
  | .bin _ l r => nb l && nb r && !(isC l && isC r)
  | .neg a => nb a && !isC a
  | .not a => nb a
  | .addr a => nb a
  | .seq as => nbs as
  | .func _ as => nbs as
  | _ => true
def nbs : Args → Bool
  | .nil => true
  | .cons a as => nb a && nbs as
end

theorem nb_bin {op : BinOp} {l r : Arg} :
    nb (.bin op l r) = true ↔ (nb l = true ∧ nb r = true ∧ ¬ (isC l = true ∧ isC r = true)) := by
  simp only [nb, Bool.and_eq_true, Bool.not_eq_true', Bool.and_eq_false_iff, and_assoc]
  cases isC l <;> cases isC r <;> simp
theorem nb_neg {a : Arg} : nb (.neg a) = true ↔ (nb a = true ∧ isC a = false) := by
  simp [nb]

/-! ### the inversion flag only flips the sign that `search` reports -/

def Find.flip (i : Bool) : Find → Find
  | .found c s => .found c (s ^^ i)
  | f => f

@[simp] theorem Find.flip_false (f : Find) : f.flip false = f := by cases f <;> simp [Find.flip]

theorem findC_inv (ty : BinOp) (a : Arg) (i : Bool) : findC ty a i = (findC ty a false).flip i := by
  induction a using Arg.ind generalizing i with
  | bin op l r ihl ihr =>
    simp only [findC]
    by_cases h1 : chainOp op = true
    · by_cases h2 : sameFam ty op = true
      · simp only [h1, h2, if_true]
        cases hl : cval l with
        | some cl => cases hr : cval r <;> simp [Find.flip]
        | none =>
          cases hr : cval r with
          | some cr => simp [Find.flip, Bool.xor_comm]
          | none =>
            simp only
            rw [ihl i]
            cases hfl : findC ty l false with
            | found c s => simp [Find.flip]
            | panic => simp [Find.flip]
            | none =>
              simp only [Find.flip]
              rw [ihr (i ^^ (op == .sub)), ihr (false ^^ (op == .sub))]
              cases hfr : findC ty r false with
              | found c s =>
                simp only [Find.flip, Bool.false_xor]
                generalize (op == BinOp.sub) = b
                cases b <;> cases i <;> cases s <;> rfl
              | panic => simp [Find.flip]
              | none => simp [Find.flip]
      · simp [h1, h2, Find.flip]
    · by_cases h3 : (op == .div) = true
      · by_cases h4 : (ty == .div) = true
        · simp only [h1, h3, h4, if_true]
          cases hl : cval l with
          | some cl => cases hr : cval r <;> simp [Find.flip]
          | none =>
            cases hr : cval r with
            | some cr => simp [Find.flip]
            | none => exact ihl i
        · simp [h1, h3, h4, Find.flip]
      · simp [h1, h3, Find.flip]
  | neg v ih =>
    simp only [findC]
    by_cases h : isAddSub ty = true
    · simp only [h, if_true]
      rw [ih (!i), ih (!false)]
      cases findC ty v false <;> simp [Find.flip]
    · simp [h, Find.flip]
  | _ => simp [findC, Find.flip]

theorem findC_isFound_inv (ty : BinOp) (a : Arg) (i : Bool) :
    (findC ty a i).isFound = (findC ty a false).isFound := by
  rw [findC_inv]; cases findC ty a false <;> simp [Find.flip, Find.isFound]

theorem findC_panic_inv (ty : BinOp) (a : Arg) (i : Bool) :
    findC ty a i = .panic ↔ findC ty a false = .panic := by
  rw [findC_inv]; cases findC ty a false <;> simp [Find.flip]

theorem findC_ne_panic (ty : BinOp) (a : Arg) (h : nb a = true) (i : Bool) : findC ty a i ≠ .panic := by
  induction a using Arg.ind generalizing i with
  | bin op l r ihl ihr =>
    obtain ⟨hl, hr, hlr⟩ := nb_bin.1 h
    simp only [findC]
    have hnot : ∀ cl cr, cval l = some cl → cval r = some cr → False :=
      fun cl cr h1 h2 => hlr ⟨cval_some_isC h1, cval_some_isC h2⟩
    split
    · split
      · cases hcl : cval l with
        | some cl =>
          cases hcr : cval r with
          | some cr => exact (hnot cl cr hcl hcr).elim
          | none => simp
        | none =>
          cases hcr : cval r with
          | some cr => simp
          | none =>
            simp only
            have h1 := ihl hl i
            cases hfl : findC ty l i with
            | found c s => simp
            | panic => exact (h1 hfl).elim
            | none => exact ihr hr _
      · simp
    · split
      · split
        · cases hcl : cval l with
          | some cl =>
            cases hcr : cval r with
            | some cr => exact (hnot cl cr hcl hcr).elim
            | none => simp
          | none =>
            cases hcr : cval r with
            | some cr => simp
            | none => exact ihl hl i
        · simp
      · simp
  | neg v ih =>
    simp only [findC]
    split
    · exact ih (nb_neg.1 h).1 _
    · simp
  | _ => simp [findC]

theorem neutralTail_ok {ch : Bool} {op : BinOp} {l r : Arg} {c : Bool} {a' : Arg}
    (he : neutralTail ch op l r = .ok (c, a')) :
    isBad l = false ∧ isBad r = false ∧ c = ch ∧ a' = neutralMain op l r := by
  unfold neutralTail at he
  cases h1 : isBad l with
  | true => simp [h1] at he
  | false =>
    cases h2 : isBad r with
    | true => simp [h1, h2] at he
    | false =>
      simp only [h1, h2, Bool.false_eq_true, if_false, Res.ok.injEq, Prod.mk.injEq] at he
      exact ⟨rfl, rfl, he.1.symm, he.2.symm⟩

theorem neutralTail_intro {ch : Bool} {op : BinOp} {l r : Arg} (h1 : isBad l = false) (h2 : isBad r = false) :
    neutralTail ch op l r = .ok (ch, neutralMain op l r) := by
  unfold neutralTail
  simp [h1, h2]

/-- `neutralize_raw`'s passes on a binary node: the rhs normalised (for `+`/`-`, with the operator that results), the
operand types accepted, then the neutral elements -/
theorem neutralizeBin_ok {op : BinOp} {l r : Arg} {c : Bool} {a' : Arg} (he : neutralizeBin op l r = .ok (c, a')) :
    ∃ op' r', isBad l = false ∧ isBad r' = false ∧ a' = neutralMain op' l r' ∧
      ((¬ (op = .add ∨ op = .sub) ∧ op' = op ∧ r' = r) ∨
       ((op = .add ∨ op = .sub) ∧ ∃ s', normAddSub (decide (op = .sub)) r = .ok (c, s', r') ∧
          op' = if s' then .sub else .add)) := by
  by_cases hop : op = .add ∨ op = .sub
  · simp only [neutralizeBin, hop, if_true] at he
    cases hn : normAddSub (decide (op = .sub)) r with
    | ok p =>
      obtain ⟨ch, s', r'⟩ := p
      simp only [hn] at he
      obtain ⟨t1, t2, rfl, t4⟩ := neutralTail_ok he
      exact ⟨_, r', t1, t2, t4, .inr ⟨hop, s', rfl, rfl⟩⟩
    | _ => simp [hn] at he
  · simp only [neutralizeBin, hop, if_false] at he
    obtain ⟨t1, t2, _, t4⟩ := neutralTail_ok he
    exact ⟨op, r, t1, t2, t4, .inl ⟨hop, rfl, rfl⟩⟩

/-! ### the swap at the top of `neutralize_raw`: `-(l - r)` and `0 - (l - r)` become `r - l` (F30 in DESIGN.md) -/

theorem swapped_ok {x : Res (Bool × Arg)} {c : Bool} {a : Arg} (h : swapped x = .ok (c, a)) :
    c = true ∧ ∃ c', x = .ok (c', a) := by
  cases x with
  | ok p => obtain ⟨c', y⟩ := p; simp only [swapped, Res.ok.injEq, Prod.mk.injEq] at h; exact ⟨h.1.symm, c', by rw [h.2]⟩
  | _ => cases h

theorem swapped_err {x : Res (Bool × Arg)} {e : SimpErr} (h : swapped x = .err e) : x = .err e := by
  cases x with
  | err e' => simpa [swapped] using h
  | _ => cases h

theorem swapped_panic {x : Res (Bool × Arg)} (h : swapped x = .panic) : x = .panic := by
  cases x with
  | panic => rfl
  | _ => cases h

theorem neutralizeRaw_neg_sub (l r : Arg) : neutralizeRaw (.neg (.bin .sub l r)) = swapped (neutralizeBin .sub r l) := by
  simp only [neutralizeRaw]

theorem neutralizeRaw_zero_sub (x y : Arg) :
    neutralizeRaw (.bin .sub (.const 0) (.bin .sub x y)) = swapped (neutralizeBin .sub y x) := by
  simp only [neutralizeRaw, if_true]

theorem neutralizeRawE_zero_sub (x y : Arg) :
    neutralizeRawE (.bin .sub (.const 0) (.bin .sub x y)) = swappedE (neutralizeBinE .sub y x) := by
  simp only [neutralizeRawE, if_true]

/-- a binary node is `0 - (x - y)`, which `neutralize_raw` swaps first, or goes straight to the passes — for the function
and for its form with the error tree alike -/
theorem neutralizeRaw_bin_split (op : BinOp) (l r : Arg) :
    (neutralizeRaw (.bin op l r) = neutralizeBin op l r ∧ neutralizeRawE (.bin op l r) = neutralizeBinE op l r) ∨
    ∃ x y, op = .sub ∧ l = .const 0 ∧ r = .bin .sub x y := by
  by_cases h : ∃ x y, op = .sub ∧ l = .const 0 ∧ r = .bin .sub x y
  · exact .inr h
  · left
    cases op <;> try exact ⟨rfl, rfl⟩
    cases l <;> try exact ⟨rfl, rfl⟩
    cases r <;> try exact ⟨rfl, rfl⟩
    rename_i c op2 x y
    cases op2 <;> try exact ⟨rfl, rfl⟩
    by_cases hc : c = 0
    · subst hc; exact absurd ⟨x, y, rfl, rfl, rfl⟩ h
    · exact ⟨by simp only [neutralizeRaw, if_neg hc], by simp only [neutralizeRawE, if_neg hc]⟩

theorem neutralizeRaw_bin_cases (op : BinOp) (l r : Arg) :
    neutralizeRaw (.bin op l r) = neutralizeBin op l r ∨
    ∃ x y, op = .sub ∧ l = .const 0 ∧ r = .bin .sub x y ∧
      neutralizeRaw (.bin op l r) = swapped (neutralizeBin .sub y x) :=
  (neutralizeRaw_bin_split op l r).imp And.left fun ⟨x, y, h1, h2, h3⟩ =>
    ⟨x, y, h1, h2, h3, by subst h1 h2 h3; exact neutralizeRaw_zero_sub x y⟩

theorem neutralizeRawE_bin_cases (op : BinOp) (l r : Arg) :
    neutralizeRawE (.bin op l r) = neutralizeBinE op l r ∨
    ∃ x y, op = .sub ∧ l = .const 0 ∧ r = .bin .sub x y ∧
      neutralizeRawE (.bin op l r) = swappedE (neutralizeBinE .sub y x) :=
  (neutralizeRaw_bin_split op l r).imp And.right fun ⟨x, y, h1, h2, h3⟩ =>
    ⟨x, y, h1, h2, h3, by subst h1 h2 h3; exact neutralizeRawE_zero_sub x y⟩

theorem neutralizeRaw_neg_neg (v : Arg) : neutralizeRaw (.neg (.neg v)) = swapped (neutralizeRaw v) := by
  simp only [neutralizeRaw]

/-- induction over the double-negation loop of `neutralize_raw` -/
theorem Arg.negNegInd {P : Arg → Prop} (base : ∀ a, (∀ v, a ≠ .neg (.neg v)) → P a) (step : ∀ v, P v → P (.neg (.neg v))) :
    ∀ a, P a := by
  have key : ∀ a, P a ∧ P (.neg a) := by
    intro a
    induction a using Arg.ind with
    | neg v ih => exact ⟨ih.2, step v ih.1⟩
    | _ => exact ⟨base _ (fun _ h => by cases h), base _ (fun _ h => by cases h)⟩
  exact fun a => (key a).1

theorem neutralizeRaw_neg_cases (v : Arg) :
    neutralizeRaw (.neg v) = .ok (false, .neg v) ∨
    (∃ x y, v = .bin .sub x y ∧ neutralizeRaw (.neg v) = swapped (neutralizeBin .sub y x)) ∨
    (∃ w, v = .neg w ∧ neutralizeRaw (.neg v) = swapped (neutralizeRaw w)) := by
  by_cases h : ∃ x y, v = .bin .sub x y
  · obtain ⟨x, y, rfl⟩ := h
    exact .inr (.inl ⟨x, y, rfl, neutralizeRaw_neg_sub x y⟩)
  · by_cases h' : ∃ w, v = .neg w
    · obtain ⟨w, rfl⟩ := h'
      exact .inr (.inr ⟨w, rfl, neutralizeRaw_neg_neg w⟩)
    · left
      cases v with
      | bin op x y =>
        cases op <;> try rfl
        exact absurd ⟨_, _, rfl⟩ h
      | neg w => exact absurd ⟨w, rfl⟩ h'
      | _ => rfl

theorem neutralizeRaw_other {a : Arg} (h1 : ∀ op l r, a ≠ .bin op l r) (h2 : ∀ v, a ≠ .neg v) :
    neutralizeRaw a = .ok (false, a) := by
  cases a with
  | bin op l r => exact absurd rfl (h1 op l r)
  | neg v => exact absurd rfl (h2 v)
  | _ => rfl

theorem normAddSub_ne_panic (s : Bool) (r : Arg) : normAddSub s r ≠ .panic := by
  unfold normAddSub
  cases hc : cval (stripNeg s r).2.1 with
  | none => simp [hc]
  | some v =>
    simp only [hc]
    by_cases hv : v < 0
    · simp only [hv, if_true]
      cases checkedNeg v <;> simp
    · simp [hv]

theorem neutralTail_ne_panic (ch : Bool) (op : BinOp) (l r : Arg) : neutralTail ch op l r ≠ .panic := by
  unfold neutralTail; split
  · simp
  · split <;> simp

theorem neutralizeBin_ne_panic (op : BinOp) (l r : Arg) : neutralizeBin op l r ≠ .panic := by
  simp only [neutralizeBin]
  split
  · cases hn : normAddSub (decide (op = .sub)) r with
    | ok p => exact neutralTail_ne_panic _ _ _ _
    | err e => simp
    | panic => exact (normAddSub_ne_panic _ _ hn).elim
  · exact neutralTail_ne_panic _ _ _ _

theorem neutralizeRaw_ne_panic : ∀ a : Arg, neutralizeRaw a ≠ .panic := by
  apply Arg.negNegInd
  · intro a hnn
    cases a with
    | bin op l r =>
      rcases neutralizeRaw_bin_cases op l r with h0 | ⟨x, y, _, _, _, h0⟩
      · rw [h0]; exact neutralizeBin_ne_panic _ _ _
      · rw [h0]; exact fun h => neutralizeBin_ne_panic _ _ _ (swapped_panic h)
    | neg v =>
      rcases neutralizeRaw_neg_cases v with h0 | ⟨x, y, _, h0⟩ | ⟨w, rfl, _⟩
      · rw [h0]; simp
      · rw [h0]; exact fun h => neutralizeBin_ne_panic _ _ _ (swapped_panic h)
      · exact absurd rfl (hnn w)
    | _ => simp [neutralizeRaw]
  · intro v ih
    rw [neutralizeRaw_neg_neg]
    exact fun h => ih (swapped_panic h)

theorem neutralize_ne_panic_both :
    (∀ a, neutralize a ≠ .panic) ∧ (∀ as, neutralizeArgs as ≠ .panic) := by
  apply Arg.ind2
  case const => intro v; simp [neutralize]
  case ident => intro v; simp [neutralize]
  case str => intro v; simp [neutralize]
  case bin =>
    intro op l r ihl ihr
    simp only [neutralize]
    cases h1 : neutralize l with
    | panic => exact (ihl h1).elim
    | err e => simp
    | ok p =>
      cases h2 : neutralize r with
      | panic => exact (ihr h2).elim
      | err e => simp
      | ok q =>
        simp only
        cases h3 : neutralizeRaw (.bin op p.2 q.2) with
        | panic => exact (neutralizeRaw_ne_panic _ h3).elim
        | _ => simp
  case neg =>
    intro a ih
    simp only [neutralize]
    cases h1 : neutralize a with
    | panic => exact (ih h1).elim
    | err e => simp
    | ok p =>
      simp only
      cases h3 : neutralizeRaw (.neg p.2) with
      | panic => exact (neutralizeRaw_ne_panic _ h3).elim
      | _ => simp
  case not => intro a ih; simp only [neutralize]; cases h1 : neutralize a <;> first | exact (ih h1).elim | simp
  case addr => intro a ih; simp only [neutralize]; cases h1 : neutralize a <;> first | exact (ih h1).elim | simp
  case seq => intro as ih; simp only [neutralize]; cases h1 : neutralizeArgs as <;> first | exact (ih h1).elim | simp
  case func => intro n as ih; simp only [neutralize]; cases h1 : neutralizeArgs as <;> first | exact (ih h1).elim | simp
  case nil => simp [neutralizeArgs]
  case cons =>
    intro a as iha ihas
    simp only [neutralizeArgs]
    cases h1 : neutralize a with
    | panic => exact (iha h1).elim
    | err e => simp
    | ok p => cases h2 : neutralizeArgs as <;> first | exact (ihas h2).elim | simp

theorem neutralize_ne_panic (a : Arg) : neutralize a ≠ .panic := neutralize_ne_panic_both.1 a

theorem neutralize_bin_ok {op : BinOp} {x y : Arg} {c : Bool} {t : Arg} (h : neutralize (.bin op x y) = .ok (c, t)) :
    ∃ c1 x' c2 y' c3, neutralize x = .ok (c1, x') ∧ neutralize y = .ok (c2, y') ∧
      neutralizeRaw (.bin op x' y') = .ok (c3, t) := by
  simp only [neutralize] at h
  cases h1 : neutralize x with
  | ok p =>
    obtain ⟨c1, x'⟩ := p
    cases h2 : neutralize y with
    | panic => simp [h1, h2] at h
    | err e => simp [h1, h2] at h
    | ok q =>
      obtain ⟨c2, y'⟩ := q
      simp only [h1, h2] at h
      cases h3 : neutralizeRaw (.bin op x' y') with
      | panic => simp [h3] at h
      | err e => simp [h3] at h
      | ok w =>
        obtain ⟨c3, a3⟩ := w
        simp only [h3, Res.ok.injEq, Prod.mk.injEq] at h
        obtain ⟨_, rfl⟩ := h
        exact ⟨c1, x', c2, y', c3, rfl, rfl, h3⟩
  | _ => simp [h1] at h

theorem neutralize_neg_ok {v : Arg} {c : Bool} {t : Arg} (h : neutralize (.neg v) = .ok (c, t)) :
    ∃ c1 v' c3, neutralize v = .ok (c1, v') ∧ neutralizeRaw (.neg v') = .ok (c3, t) := by
  simp only [neutralize] at h
  cases h1 : neutralize v with
  | ok p =>
    obtain ⟨c1, v'⟩ := p
    simp only [h1] at h
    cases h3 : neutralizeRaw (.neg v') with
    | panic => simp [h3] at h
    | err e => simp [h3] at h
    | ok w =>
      obtain ⟨c3, a3⟩ := w
      simp only [h3, Res.ok.injEq, Prod.mk.injEq] at h
      obtain ⟨_, rfl⟩ := h
      exact ⟨c1, v', c3, rfl, h3⟩
  | _ => simp [h1] at h

/-- induction over a successful run of `neutralize`: the children first, then one `neutralize_raw` step at a binary or
`Negate` node; below `Address`, sequences and calls nothing is claimed -/
theorem neutralize_ok_ind {R : Arg → Arg → Prop}
    (const : ∀ v, R (.const v) (.const v)) (ident : ∀ s, R (.ident s) (.ident s)) (str : ∀ s, R (.str s) (.str s))
    (bin : ∀ op l r l' r' c a', R l l' → R r r' → neutralizeRaw (.bin op l' r') = .ok (c, a') → R (.bin op l r) a')
    (neg : ∀ v v' c a', R v v' → neutralizeRaw (.neg v') = .ok (c, a') → R (.neg v) a')
    (not : ∀ v v', R v v' → R (.not v) (.not v')) (addr : ∀ v v', R (.addr v) (.addr v'))
    (seq : ∀ as as', R (.seq as) (.seq as')) (func : ∀ f as as', R (.func f as) (.func f as')) :
    ∀ a c a', neutralize a = .ok (c, a') → R a a' := by
  intro a
  induction a using Arg.ind with
  | const v => intro c a' h; cases h; exact const v
  | ident v => intro c a' h; cases h; exact ident v
  | str v => intro c a' h; cases h; exact str v
  | bin op l r ihl ihr =>
    intro c a' h
    obtain ⟨c1, l', c2, r', c3, e1, e2, e3⟩ := neutralize_bin_ok h
    exact bin op l r l' r' c3 a' (ihl _ _ e1) (ihr _ _ e2) e3
  | neg v ih =>
    intro c a' h
    obtain ⟨c1, v', c3, e1, e3⟩ := neutralize_neg_ok h
    exact neg v v' c3 a' (ih _ _ e1) e3
  | not v ih =>
    intro c a' h
    simp only [neutralize] at h
    cases h1 : neutralize v with
    | ok p => rw [h1] at h; cases h; exact not v p.2 (ih _ _ h1)
    | _ => rw [h1] at h; cases h
  | addr v _ =>
    intro c a' h
    simp only [neutralize] at h
    cases h1 : neutralize v with
    | ok p => rw [h1] at h; cases h; exact addr v p.2
    | _ => rw [h1] at h; cases h
  | seq as =>
    intro c a' h
    simp only [neutralize] at h
    cases h1 : neutralizeArgs as with
    | ok p => rw [h1] at h; cases h; exact seq as p.2
    | _ => rw [h1] at h; cases h
  | func f as =>
    intro c a' h
    simp only [neutralize] at h
    cases h1 : neutralizeArgs as with
    | ok p => rw [h1] at h; cases h; exact func f as p.2
    | _ => rw [h1] at h; cases h

theorem mergeL_ne_panic (op : BinOp) (l : Arg) (h : nb l = true) : mergeL op l ≠ .panic := by
  unfold mergeL
  cases cval l with
  | some c => simp
  | none => exact findC_ne_panic op l h false

theorem mergeR_ne_panic (op : BinOp) (r : Arg) (h : nb r = true) : mergeR op r ≠ .panic := by
  unfold mergeR
  cases cval r with
  | some c => simp
  | none =>
    simp only
    split
    · simp
    · exact findC_ne_panic op r h _

/-- The operators for which `simplify_raw` calls `merge` on operands that are not both constants: `chainOp` and `.div`. -/
def mergeable : BinOp → Bool
  | .mod | .shl | .shr => false
  | _ => true

/-- Both sides hold a constant to merge; otherwise `merge` is `neutralize_raw` (`merge_of_not_both`). -/
def bothFound (op : BinOp) (l r : Arg) : Bool := (mergeL op l).isFound && (mergeR op r).isFound

theorem merge_of_not_both {op : BinOp} {l r : Arg} (h : bothFound op l r = false)
    (hl : mergeL op l ≠ .panic) (hr : mergeR op r ≠ .panic) : merge op l r = neutralizeRaw (.bin op l r) := by
  unfold merge
  unfold bothFound at h
  cases hL : mergeL op l with
  | panic => exact absurd hL hl
  | none => cases hR : mergeR op r <;> first | rfl | exact absurd hR hr
  | found c1 s1 =>
    cases hR : mergeR op r with
    | panic => exact absurd hR hr
    | none => rfl
    | found c2 s2 => simp [hL, hR, Find.isFound] at h

theorem merge_ok {op : BinOp} {l r : Arg} {c : Bool} {a' : Arg} (h : merge op l r = .ok (c, a')) :
    (bothFound op l r = false ∧ neutralizeRaw (.bin op l r) = .ok (c, a')) ∨
    (c = true ∧ ∃ c1 s1 c2 s2 cc c3, mergeL op l = .found c1 s1 ∧ mergeR op r = .found c2 s2 ∧
      combine op s1 s2 c1 c2 = .ok cc ∧ neutralize (mergeTree op l r cc) = .ok (c3, a')) := by
  unfold merge at h
  unfold bothFound
  cases hL : mergeL op l with
  | panic => simp [hL] at h
  | none =>
    cases hR : mergeR op r with
    | panic => simp [hL, hR] at h
    | none => simp only [hL, hR] at h; exact .inl ⟨rfl, h⟩
    | found c2 s2 => simp only [hL, hR] at h; exact .inl ⟨rfl, h⟩
  | found c1 s1 =>
    cases hR : mergeR op r with
    | panic => simp [hL, hR] at h
    | none => simp only [hL, hR] at h; exact .inl ⟨by simp [Find.isFound], h⟩
    | found c2 s2 =>
      simp only [hL, hR] at h
      cases hc : combine op s1 s2 c1 c2 with
      | error k => simp [hc] at h
      | ok cc =>
        simp only [hc] at h
        cases hn : neutralize (mergeTree op l r cc) with
        | panic => simp [hn] at h
        | err e => simp [hn] at h
        | ok p =>
          obtain ⟨c3, a3⟩ := p
          simp only [hn, Res.ok.injEq, Prod.mk.injEq] at h
          obtain ⟨rfl, rfl⟩ := h
          exact .inr ⟨rfl, c1, s1, c2, s2, cc, c3, rfl, rfl, hc, hn⟩

theorem merge_ne_panic (op : BinOp) (l r : Arg) (hl : nb l = true) (hr : nb r = true) :
    merge op l r ≠ .panic := by
  have h1 := mergeL_ne_panic op l hl
  have h2 := mergeR_ne_panic op r hr
  by_cases hb : bothFound op l r = false
  · rw [merge_of_not_both hb h1 h2]; exact neutralizeRaw_ne_panic _
  · unfold merge
    cases hL : mergeL op l with
    | panic => exact absurd hL h1
    | none => cases hR : mergeR op r <;> first | exact neutralizeRaw_ne_panic _ | exact absurd hR h2
    | found c1 s1 =>
      cases hR : mergeR op r with
      | panic => exact absurd hR h2
      | none => exact neutralizeRaw_ne_panic _
      | found c2 s2 =>
        simp only
        cases combine op s1 s2 c1 c2 with
        | error k => simp
        | ok c =>
          simp only
          cases hn : neutralize (mergeTree op l r c) with
          | panic => exact absurd hn (neutralize_ne_panic _)
          | err e => simp
          | ok p => simp

theorem isC_eq_const {a : Arg} (h : isC a = true) : ∃ x, a = .const x := by
  cases a <;> simp [isC, cval] at h
  exact ⟨_, rfl⟩

theorem simplifyRaw_fold_consts (op : BinOp) (a b : Int) :
    simplifyRaw (.bin op (.const a) (.const b)) =
      match foldBin op a b with
      | .ok v => .ok (true, .const v)
      | .error k => .err (.overflow k) := by
  simp only [simplifyRaw, isBad, cval]
  cases foldBin op a b <;> simp

theorem simplifyRaw_bin_rest (op : BinOp) (l r : Arg) (hlr : ¬ (isC l = true ∧ isC r = true)) :
    simplifyRaw (.bin op l r) =
      if isBad l then .err (.badType l.ty op.argTy)
      else if isBad r then .err (.badType r.ty op.argTy)
      else if mergeable op then merge op l r
      else if op = .mod ∧ modCollapse l r = true then .ok (true, l)
      else neutralizeRaw (.bin op l r) := by
  simp only [simplifyRaw]
  split
  · rfl
  · split
    · rfl
    · split
      · rename_i a b h1 h2
        exact (hlr ⟨cval_some_isC h1, cval_some_isC h2⟩).elim
      · cases op <;> simp [mergeable]

theorem simplifyRaw_bin_ok {op : BinOp} {l r : Arg} {c : Bool} {a' : Arg} (h : simplifyRaw (.bin op l r) = .ok (c, a')) :
    isBad l = false ∧ isBad r = false ∧
    ((c = true ∧ ∃ x y v, l = .const x ∧ r = .const y ∧ foldBin op x y = .ok v ∧ a' = .const v) ∨
     (¬ (isC l = true ∧ isC r = true) ∧
      ((c = true ∧ op = .mod ∧ modCollapse l r = true ∧ a' = l) ∨
       ((mergeable op = true → bothFound op l r = false) ∧ (op = .mod → modCollapse l r = false) ∧
         neutralizeRaw (.bin op l r) = .ok (c, a')) ∨
       (c = true ∧ mergeable op = true ∧ ∃ c1 s1 c2 s2 cc c3, mergeL op l = .found c1 s1 ∧
         mergeR op r = .found c2 s2 ∧ combine op s1 s2 c1 c2 = .ok cc ∧
         neutralize (mergeTree op l r cc) = .ok (c3, a'))))) := by
  by_cases hlr : isC l = true ∧ isC r = true
  · obtain ⟨x, rfl⟩ := isC_eq_const hlr.1
    obtain ⟨y, rfl⟩ := isC_eq_const hlr.2
    rw [simplifyRaw_fold_consts] at h
    cases hf : foldBin op x y with
    | error k => rw [hf] at h; cases h
    | ok v => rw [hf] at h; cases h; exact ⟨rfl, rfl, .inl ⟨rfl, x, y, v, rfl, rfl, hf, rfl⟩⟩
  · rw [simplifyRaw_bin_rest op l r hlr] at h
    cases h1 : isBad l with
    | true => simp [h1] at h
    | false =>
      cases h2 : isBad r with
      | true => simp [h1, h2] at h
      | false =>
        simp only [h1, h2, Bool.false_eq_true, if_false] at h
        refine ⟨rfl, rfl, .inr ⟨hlr, ?_⟩⟩
        cases hm : mergeable op with
        | true =>
          simp only [hm, if_true] at h
          have hmod : op = .mod → modCollapse l r = false := fun e => by subst e; cases hm
          rcases merge_ok h with ⟨hb, h'⟩ | ⟨hc, w⟩
          · exact .inr (.inl ⟨fun _ => hb, hmod, h'⟩)
          · exact .inr (.inr ⟨hc, rfl, w⟩)
        | false =>
          simp only [hm, Bool.false_eq_true, if_false] at h
          by_cases hc : op = .mod ∧ modCollapse l r = true
          · simp only [hc, and_self, if_true, Res.ok.injEq, Prod.mk.injEq] at h
            exact .inl ⟨h.1.symm, hc.1, hc.2, h.2.symm⟩
          · simp only [hc, if_false] at h
            exact .inr (.inl ⟨fun e => (by cases e), fun e => (by simpa [e] using hc), h⟩)

theorem simplifyRaw_bin_ne_panic (op : BinOp) (l r : Arg) (hl : nb l = true) (hr : nb r = true) :
    simplifyRaw (.bin op l r) ≠ .panic := by
  by_cases hlr : isC l = true ∧ isC r = true
  · obtain ⟨x, rfl⟩ := isC_eq_const hlr.1
    obtain ⟨y, rfl⟩ := isC_eq_const hlr.2
    rw [simplifyRaw_fold_consts]
    cases foldBin op x y <;> simp
  · rw [simplifyRaw_bin_rest op l r hlr]
    split
    · simp
    · split
      · simp
      · split
        · exact merge_ne_panic op l r hl hr
        · split
          · simp
          · exact neutralizeRaw_ne_panic _

/-- the `Negate`-of-`Subtract` arm: swap, then `neutralize_raw` on the swapped node (F29 in DESIGN.md) -/
theorem simplifyRaw_neg_sub (l r : Arg) :
    simplifyRaw (.neg (.bin .sub l r)) =
      match neutralizeRaw (.bin .sub r l) with
      | .ok (_, a) => .ok (true, a)
      | .err e => .err e
      | .panic => .panic := by
  simp only [simplifyRaw]
  cases neutralizeRaw (.bin .sub r l) <;> rfl

/-- the `Negate`-of-`Negate` arm: `neutralize_raw` removes the double negation (F31 in DESIGN.md) -/
theorem simplifyRaw_neg_neg (w : Arg) :
    simplifyRaw (.neg (.neg w)) =
      match neutralizeRaw (.neg (.neg w)) with
      | .ok (_, a) => .ok (true, a)
      | .err e => .err e
      | .panic => .panic := by
  simp only [simplifyRaw]
  cases neutralizeRaw (.neg (.neg w)) <;> rfl

theorem simplifyRaw_neg_ok {v : Arg} {c : Bool} {a' : Arg} (h : simplifyRaw (.neg v) = .ok (c, a')) :
    isBad v = false ∧
    ((c = true ∧ ∃ x y c', v = .bin .sub x y ∧ neutralizeRaw (.bin .sub y x) = .ok (c', a')) ∨
     (c = true ∧ ∃ w c', v = .neg w ∧ neutralizeRaw w = .ok (c', a')) ∨
     (c = true ∧ ∃ k, v = .const k ∧ k ≠ i64Min ∧ a' = .const (-k)) ∨
     (c = false ∧ a' = .neg v ∧ isC v = false ∧ (∀ x y, v ≠ .bin .sub x y) ∧ ∀ w, v ≠ .neg w)) := by
  have plain : ∀ {u : Arg}, simplifyRaw (.neg u) = .ok (false, .neg u) → simplifyRaw (.neg u) = .ok (c, a') →
      c = false ∧ a' = .neg u := fun e h => by rw [e] at h; cases h; exact ⟨rfl, rfl⟩
  cases v with
  | bin op x y =>
    by_cases hop : op = .sub
    · subst hop
      rw [simplifyRaw_neg_sub] at h
      cases hn : neutralizeRaw (.bin .sub y x) with
      | ok p =>
        obtain ⟨c1, z⟩ := p
        simp only [hn, Res.ok.injEq, Prod.mk.injEq] at h
        obtain ⟨rfl, rfl⟩ := h
        exact ⟨rfl, .inl ⟨rfl, x, y, c1, rfl, hn⟩⟩
      | _ => simp [hn] at h
    · have e : simplifyRaw (.neg (.bin op x y)) = .ok (false, .neg (.bin op x y)) := by
        cases op <;> first | rfl | exact absurd rfl hop
      obtain ⟨rfl, rfl⟩ := plain e h
      exact ⟨rfl, .inr (.inr (.inr ⟨rfl, rfl, rfl, fun _ _ e => (by cases e; exact hop rfl), fun _ e => (by cases e)⟩))⟩
  | neg w =>
    rw [simplifyRaw_neg_neg, neutralizeRaw_neg_neg] at h
    cases hn : neutralizeRaw w with
    | ok p =>
      obtain ⟨c1, z⟩ := p
      simp only [hn, swapped, Res.ok.injEq, Prod.mk.injEq] at h
      obtain ⟨rfl, rfl⟩ := h
      exact ⟨rfl, .inr (.inl ⟨rfl, w, c1, rfl, hn⟩)⟩
    | _ => simp [hn, swapped] at h
  | const k =>
    simp only [simplifyRaw] at h
    split at h
    · cases h
    · rename_i hk
      simp only [Res.ok.injEq, Prod.mk.injEq] at h
      obtain ⟨rfl, rfl⟩ := h
      exact ⟨rfl, .inr (.inr (.inl ⟨rfl, k, rfl, hk, rfl⟩))⟩
  | str s | addr s | seq s => simp [simplifyRaw] at h
  | _ =>
    obtain ⟨rfl, rfl⟩ := plain rfl h
    exact ⟨rfl, .inr (.inr (.inr ⟨rfl, rfl, rfl, fun _ _ e => (by cases e), fun _ e => (by cases e)⟩))⟩

theorem simplifyRaw_neg_ne_panic (v : Arg) : simplifyRaw (.neg v) ≠ .panic := by
  cases v with
  | bin op l r =>
    cases op
    case sub =>
      rw [simplifyRaw_neg_sub]
      cases h : neutralizeRaw (.bin .sub r l) with
      | ok p => simp
      | err e => simp
      | panic => exact absurd h (neutralizeRaw_ne_panic _)
    all_goals simp [simplifyRaw]
  | neg w =>
    rw [simplifyRaw_neg_neg]
    cases h : neutralizeRaw (.neg (.neg w)) with
    | ok p => simp
    | err e => simp
    | panic => exact absurd h (neutralizeRaw_ne_panic _)
  | const c => simp only [simplifyRaw]; split <;> simp
  | _ => simp [simplifyRaw]

theorem simplifyRaw_not_ne_panic (v : Arg) : simplifyRaw (.not v) ≠ .panic := by
  simp only [simplifyRaw]
  split <;> simp

theorem simplifyRaw_not_ok {v : Arg} {c : Bool} {a' : Arg} (h : simplifyRaw (.not v) = .ok (c, a')) :
    isBad v = false ∧ ((c = true ∧ ∃ k, v = .const k ∧ a' = .const (bnot k)) ∨ (c = false ∧ a' = .not v ∧ isC v = false)) := by
  cases v <;> simp only [simplifyRaw, Res.ok.injEq, Prod.mk.injEq, reduceCtorEq] at h <;> obtain ⟨rfl, rfl⟩ := h
  case const k => exact ⟨rfl, .inl ⟨rfl, k, rfl, rfl⟩⟩
  all_goals exact ⟨rfl, .inr ⟨rfl, rfl, rfl⟩⟩

theorem simplifyRaw_addr_ne_panic (v : Arg) : simplifyRaw (.addr v) ≠ .panic := by
  simp only [simplifyRaw]
  split <;> simp

theorem simplifyRaw_addr_ok {v : Arg} {c : Bool} {a' : Arg} (h : simplifyRaw (.addr v) = .ok (c, a')) :
    isBad v = false ∧ c = false ∧ a' = .addr v := by
  simp only [simplifyRaw] at h
  split at h
  · cases h
  · rename_i hb
    simp only [Res.ok.injEq, Prod.mk.injEq] at h
    exact ⟨by simpa using hb, h.1.symm, h.2.symm⟩

end Trion.Simp
