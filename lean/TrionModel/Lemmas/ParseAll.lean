import TrionModel.Lemmas.ParseMono
/-!
# Statement level: `element` by cases, and the statement loop `allLoop` against its specification

A run of the loop is a segmentation `Segs` of the tokens into statements followed by the reason `Stops` why nothing
more is read. `allLoop_spec` is the only induction on the loop's fuel; every other fact about runs, the converse
`allLoop_of_segs` among them, is an induction on `Segs`.
-/
namespace Trion.Parse

/-- `parse_args()?; next_inner("';'")?; Ok(mk args)`: how a directive or instruction statement ends -/
def stmtTail (lo : LexOut) (ts : List Token) (mk : Args → Element) : Res (Element × List Token) :=
  (args lo ts).bind fun p => (nextInner lo "';'" p.2).bind fun r3 => .ok (mk p.1, r3)

theorem nextInner_ne_panic (lo : LexOut) (e : String) (ts : List Token) : nextInner lo e ts ≠ .panic := by
  cases ts <;> simp [nextInner]
theorem nextInner_ne_fuel (lo : LexOut) (e : String) (ts : List Token) : nextInner lo e ts ≠ .fuel := by
  cases ts <;> simp [nextInner]
theorem nextInner_ok {lo : LexOut} {e : String} {ts r : List Token} (h : nextInner lo e ts = .ok r) :
    ∃ x, ts = x :: r := by
  cases ts with
  | nil => simp [nextInner] at h
  | cons t r' => simp only [nextInner] at h; cases h; exact ⟨t, rfl⟩

theorem stmtTail_ne_panic (lo : LexOut) (ts : List Token) (mk : Args → Element) : stmtTail lo ts mk ≠ .panic := by
  unfold stmtTail
  rw [bind_ne_panic]
  refine ⟨args_ne_panic lo ts, fun p _ => ?_⟩
  rw [bind_ne_panic]
  exact ⟨nextInner_ne_panic _ _ _, by intros; simp⟩

theorem stmtTail_ne_fuel (lo : LexOut) (ts : List Token) (mk : Args → Element) : stmtTail lo ts mk ≠ .fuel := by
  unfold stmtTail
  rw [bind_ne_fuel]
  refine ⟨args_ne_fuel lo ts, fun p _ => ?_⟩
  rw [bind_ne_fuel]
  exact ⟨nextInner_ne_fuel _ _ _, by intros; simp⟩

theorem stmtTail_ok {lo : LexOut} {ts : List Token} {mk : Args → Element} {el : Element} {r' : List Token}
    (h : stmtTail lo ts mk = .ok (el, r')) : ∃ as x, el = mk as ∧ x :: r' <:+ ts := by
  obtain ⟨p, hp, h⟩ := bind_eq_ok.1 h
  obtain ⟨r3, hn, h⟩ := bind_eq_ok.1 h
  cases h
  obtain ⟨x, hx⟩ := nextInner_ok hn
  exact ⟨p.1, x, rfl, hx ▸ args_suffix hp⟩

theorem element_cases (lo : LexOut) (t : Token) (r : List Token) :
    (∃ e, element lo t r = .err e) ∨
    (∃ name lm r1, t.val = .ident name ∧ r = lm :: r1 ∧ lm.val = .labelMark ∧
      element lo t r = .ok (⟨t.line, t.col, .label name⟩, r1)) ∨
    (∃ name tn r1, t.val = .dirMark ∧ r = tn :: r1 ∧ tn.val = .ident name ∧
      element lo t r = stmtTail lo r1 fun as => ⟨t.line, t.col, .directive name as⟩) ∨
    (∃ name t1 r1, t.val = .ident name ∧ r = t1 :: r1 ∧ t1.val ≠ .labelMark ∧
      element lo t r = stmtTail lo r fun as => ⟨t.line, t.col, .instruction name as⟩) := by
  unfold element
  split
  · rename_i hv
    split
    · exact .inl ⟨_, rfl⟩
    · rename_i tn r1
      split
      · rename_i name hn
        exact .inr (.inr (.inl ⟨name, tn, r1, hv, rfl, hn, rfl⟩))
      · exact .inl ⟨_, rfl⟩
  · rename_i name hv
    split
    · split <;> exact .inl ⟨_, rfl⟩
    · rename_i t1 r1
      split
      · rename_i hlm
        exact .inr (.inl ⟨name, t1, r1, hv, rfl, hlm, rfl⟩)
      · rename_i hlm
        exact .inr (.inr (.inr ⟨name, t1, r1, hv, rfl, hlm, rfl⟩))
  · exact .inl ⟨_, rfl⟩

theorem element_ne_panic (lo : LexOut) (t : Token) (r : List Token) : element lo t r ≠ .panic := by
  rcases element_cases lo t r with ⟨_, h⟩ | ⟨_, _, _, _, _, _, h⟩ | ⟨_, _, _, _, _, _, h⟩ | ⟨_, _, _, _, _, _, h⟩ <;> rw [h]
  · simp
  · simp
  · exact stmtTail_ne_panic _ _ _
  · exact stmtTail_ne_panic _ _ _

theorem element_ne_fuel (lo : LexOut) (t : Token) (r : List Token) : element lo t r ≠ .fuel := by
  rcases element_cases lo t r with ⟨_, h⟩ | ⟨_, _, _, _, _, _, h⟩ | ⟨_, _, _, _, _, _, h⟩ | ⟨_, _, _, _, _, _, h⟩ <;> rw [h]
  · simp
  · simp
  · exact stmtTail_ne_fuel _ _ _
  · exact stmtTail_ne_fuel _ _ _

theorem element_ok {lo : LexOut} {t : Token} {r : List Token} {el : Element} {r' : List Token}
    (h : element lo t r = .ok (el, r')) :
    r' <:+ r ∧ el.line = t.line ∧ el.col = t.col ∧ (t.val = .dirMark ∨ ∃ s, t.val = .ident s) := by
  rcases element_cases lo t r with ⟨_, h'⟩ | ⟨n, _, _, hv, rfl, _, h'⟩ | ⟨n, _, _, hv, rfl, _, h'⟩ | ⟨n, _, _, hv, rfl, _, h'⟩ <;>
    rw [h'] at h
  · cases h
  · cases h; exact ⟨List.suffix_cons _ _, rfl, rfl, .inr ⟨n, hv⟩⟩
  · obtain ⟨as, x, rfl, hs⟩ := stmtTail_ok h
    exact ⟨((List.suffix_cons _ _).trans hs).trans (List.suffix_cons _ _), rfl, rfl, .inl hv⟩
  · obtain ⟨as, x, rfl, hs⟩ := stmtTail_ok h
    exact ⟨(List.suffix_cons _ _).trans hs, rfl, rfl, .inr ⟨n, hv⟩⟩

/-- `Segs lo ts els left`: the parser run cuts the token list `ts` into consecutive segments `t :: seg`, one per
element, followed by the leftover `left` (empty when the run ends without error); element `i` is what `do_next` reads
from segment `i` (so it carries the position of the segment's first token, a `.` or an identifier: `element_ok`) -/
inductive Segs (lo : LexOut) : List Token → List Element → List Token → Prop where
  | nil (ts : List Token) : Segs lo ts [] ts
  | cons (t : Token) (seg r' : List Token) (el : Element) (els : List Element) (left : List Token) :
      element lo t (seg ++ r') = .ok (el, r') → Segs lo r' els left → Segs lo (t :: (seg ++ r')) (el :: els) left

theorem Segs.step {lo : LexOut} {t : Token} {r r' : List Token} {el : Element} {els : List Element} {left : List Token}
    (he : element lo t r = .ok (el, r')) (hs : Segs lo r' els left) : Segs lo (t :: r) (el :: els) left := by
  obtain ⟨seg, rfl⟩ := (element_ok he).1
  exact .cons t seg r' el els left he hs

/-- why the run reads nothing after `left`: the tokens are used up (and the tokenizer's error, if any, is
reported), or `do_next` fails on what is left -/
def Stops (lo : LexOut) : List Token → Option ParseErr → Prop
  | [], err => err = lo.err.map tokErr
  | t :: r, err => ∃ e, element lo t r = .err e ∧ err = some e

theorem reads_or_stops (lo : LexOut) (ts : List Token) :
    (∃ t r el r', ts = t :: r ∧ element lo t r = .ok (el, r')) ∨ ∃ err, Stops lo ts err := by
  cases ts with
  | nil => exact .inr ⟨_, rfl⟩
  | cons t r =>
    cases he : element lo t r with
    | ok p => exact .inl ⟨t, r, p.1, p.2, rfl, he⟩
    | err e => exact .inr ⟨some e, e, he, rfl⟩
    | panic => exact absurd he (element_ne_panic lo t r)
    | fuel => exact absurd he (element_ne_fuel lo t r)

theorem allLoop_stops {lo : LexOut} {ts : List Token} {err : Option ParseErr} (h : Stops lo ts err) (n : Nat) :
    allLoop lo (n + 1) ts = .done [] err := by
  cases ts with
  | nil => cases h; simp only [allLoop]; cases lo.err <;> rfl
  | cons t r => obtain ⟨e, he, rfl⟩ := h; simp only [allLoop, he]

theorem allLoop_spec (lo : LexOut) : ∀ n ts, (allLoop lo n ts = .fuel ∧ n ≤ ts.length) ∨
    ∃ els err left, allLoop lo n ts = .done els err ∧ Segs lo ts els left ∧ Stops lo left err := by
  intro n
  induction n with
  | zero => intro ts; exact .inl ⟨rfl, Nat.zero_le _⟩
  | succ n ih =>
    intro ts
    rcases reads_or_stops lo ts with ⟨t, r, el, r', rfl, he⟩ | ⟨err, hst⟩
    · have hlen := (element_ok he).1.length_le
      rcases ih r' with ⟨hf, hn⟩ | ⟨els, err, left, hd, hs, hst⟩
      · exact .inl ⟨by simp only [allLoop, he, hf], by simp only [List.length_cons]; omega⟩
      · exact .inr ⟨el :: els, err, left, by simp only [allLoop, he, hd], .step he hs, hst⟩
    · exact .inr ⟨[], err, ts, allLoop_stops hst n, .nil _, hst⟩

theorem allLoop_segs {lo : LexOut} {n : Nat} {ts : List Token} {els : List Element} {err : Option ParseErr}
    (h : allLoop lo n ts = .done els err) : ∃ left, Segs lo ts els left ∧ Stops lo left err := by
  rcases allLoop_spec lo n ts with ⟨hf, _⟩ | ⟨els', err', left, hd, hs, hst⟩
  · rw [hf] at h; cases h
  · rw [hd] at h; cases h; exact ⟨left, hs, hst⟩

theorem allLoop_of_segs {lo : LexOut} {ts : List Token} {els : List Element} {left : List Token} {err : Option ParseErr}
    (hs : Segs lo ts els left) (hst : Stops lo left err) : ∀ n, ts.length < n → allLoop lo n ts = .done els err := by
  induction hs with
  | nil ts => intro n hn; cases n with
    | zero => omega
    | succ n => exact allLoop_stops hst n
  | cons t seg r' el els left he _ ih =>
    intro n hn
    cases n with
    | zero => omega
    | succ n =>
      simp only [allLoop, he, ih hst n (by simp only [List.length_cons, List.length_append] at hn; omega)]

theorem stops_none {lo : LexOut} {left : List Token} (h : Stops lo left none) : left = [] ∧ lo.err = none := by
  cases left with
  | nil => exact ⟨rfl, by cases hl : lo.err <;> simp_all [Stops]⟩
  | cons t r => obtain ⟨_, _, h⟩ := h; cases h

theorem allLoop_first (lo : LexOut) (n : Nat) (ts : List Token) (el : Element) (els : List Element) (err : Option ParseErr)
    (h : allLoop lo n ts = .done (el :: els) err) :
    ∃ t r, ts = t :: r ∧ el.line = t.line ∧ el.col = t.col := by
  obtain ⟨_, hs, _⟩ := allLoop_segs h
  cases hs with
  | cons t seg r' _ _ _ he => exact ⟨t, _, rfl, (element_ok he).2.1, (element_ok he).2.2.1⟩

theorem segs_cons_inv {lo : LexOut} {ts : List Token} {els0 : List Element} {left : List Token}
    (h : Segs lo ts els0 left) : ∀ el els, els0 = el :: els →
      ∃ t seg r', ts = t :: (seg ++ r') ∧ element lo t (seg ++ r') = .ok (el, r') ∧ Segs lo r' els left := by
  cases h with
  | nil => intro el els heq; cases heq
  | cons t seg r' el' els' left he hs =>
    intro el els heq
    cases heq
    exact ⟨t, seg, r', rfl, he, hs⟩

theorem segs_det {lo : LexOut} {ts : List Token} {els els' : List Element} {left left' : List Token}
    (h : Segs lo ts els left) (h' : Segs lo ts els' left') (hlen : els.length = els'.length) : els = els' := by
  induction h generalizing els' left' with
  | nil ts =>
    cases els' with
    | nil => rfl
    | cons _ _ => simp at hlen
  | cons t seg r' el els left he _ ih =>
    cases els' with
    | nil => simp at hlen
    | cons el2 els2 =>
      obtain ⟨t2, seg2, r2, heq, he2, hs2⟩ := segs_cons_inv h' el2 els2 rfl
      simp only [List.cons.injEq] at heq
      obtain ⟨rfl, heq⟩ := heq
      rw [heq, he2] at he
      simp only [Res.ok.injEq, Prod.mk.injEq] at he
      obtain ⟨rfl, rfl⟩ := he
      rw [ih hs2 (by simpa using hlen)]

theorem Segs.pos {lo : LexOut} {ts : List Token} {els : List Element} {left : List Token} (h : Segs lo ts els left) :
    ∃ firsts : List Token, firsts.Sublist ts ∧
      els.map (fun e => (e.line, e.col)) = firsts.map (fun t => (t.line, t.col)) ∧
      (∀ t ∈ firsts, t.val = .dirMark ∨ ∃ s, t.val = .ident s) ∧
      (els ≠ [] → firsts.head? = ts.head?) := by
  induction h with
  | nil ts => exact ⟨[], by simp⟩
  | cons t seg r' el els left he _ ih =>
    obtain ⟨_, hl, hc, hk⟩ := element_ok he
    obtain ⟨firsts, hsub, hmap, hkind, _⟩ := ih
    refine ⟨t :: firsts, List.Sublist.cons_cons t (hsub.trans (List.sublist_append_right _ _)),
      by simp only [List.map_cons, hl, hc, hmap], ?_, fun _ => rfl⟩
    intro x hx
    rcases List.mem_cons.1 hx with rfl | hx
    · exact hk
    · exact hkind x hx

/-- `Stmts lo ts els`: the elements `els` are what `do_next` reads, one after the other, starting at the
first token of `ts`, each beginning where the previous one ended, and each carrying the position of the
token it begins with -/
inductive Stmts (lo : LexOut) : List Token → List Element → Prop where
  | nil (ts : List Token) : Stmts lo ts []
  | cons (t : Token) (r r' : List Token) (el : Element) (els : List Element) :
      element lo t r = .ok (el, r') → el.line = t.line → el.col = t.col → r' <:+ r →
      Stmts lo r' els → Stmts lo (t :: r) (el :: els)

theorem Segs.stmts {lo : LexOut} {ts : List Token} {els : List Element} {left : List Token} (h : Segs lo ts els left) :
    Stmts lo ts els := by
  induction h with
  | nil ts => exact .nil ts
  | cons t seg r' el els left he _ ih =>
    exact .cons t _ r' el els he (element_ok he).2.1 (element_ok he).2.2.1 (List.suffix_append _ _) ih

end Trion.Parse
