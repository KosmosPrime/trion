import TrionModel.Lemmas.MapLocate
/-!
# Memory map: a well-formed map around a window of addresses

Every operation that takes a range (`put`, `remove_range`, `count_range`, `iter_range`) sees the sorted list as
`A ++ B ++ R`: `A` ends below the window, `B` meets it, `R` starts above it (`Shape`). The two binary searches of
the Rust code compute `A.length` (`Above` at the window's start) and `A.length + B.length - 1` (`Below` at its end).
-/
namespace Trion.Map

/-- the segment has an address in the closed window `[lo, hi]`: it starts at or below `hi` and its last address
(`segLast`) is at or above `lo` -/
def meets (lo hi : Nat) (s : Seg) : Bool := decide (s.1 ≤ hi ∧ lo ≤ segLast s)

theorem filter_meets_pos {lo hi f : Nat} {x : List UInt8} (r : Segs) (h : f ≤ hi ∧ lo ≤ f + x.length - 1) :
    ((f, x) :: r).filter (meets lo hi) = (f, x) :: r.filter (meets lo hi) :=
  List.filter_cons_of_pos (decide_eq_true h)

theorem filter_meets_neg {lo hi f : Nat} {x : List UInt8} (r : Segs) (h : ¬ (f ≤ hi ∧ lo ≤ f + x.length - 1)) :
    ((f, x) :: r).filter (meets lo hi) = r.filter (meets lo hi) :=
  List.filter_cons_of_neg (fun c => h (of_decide_eq_true c))

/-- `ps = A ++ B ++ R`, every segment non-empty: `A` ends at or below `t1`, `B` ends above `t1` and starts at or below
`t2`, `R` starts above `t2` (ends: the first address after the segment, `s.1 + s.2.length`) -/
structure Shape (ps : Segs) (t1 t2 : Nat) (A B R : Segs) : Prop where
  eq : ps = A ++ (B ++ R)
  hA : ∀ s ∈ A, 0 < s.2.length ∧ s.1 + s.2.length ≤ t1
  hB : ∀ s ∈ B, 0 < s.2.length ∧ t1 < s.1 + s.2.length ∧ s.1 ≤ t2
  hR : ∀ s ∈ R, 0 < s.2.length ∧ t1 < s.1 + s.2.length ∧ t2 < s.1

theorem shape_exists {l : Nat} {ps : Segs} (ok : Ok l ps) (t1 t2 : Nat) :
    ∃ A B R, Shape ps t1 t2 A B R := by
  induction ps generalizing l with
  | nil => exact ⟨[], [], [], rfl, by simp, by simp, by simp⟩
  | cons s r ih =>
    obtain ⟨f, x⟩ := s
    obtain ⟨o1, o2, o3, o4⟩ := ok
    have hx : 0 < x.length := List.length_pos_iff.mpr o2
    obtain ⟨A, B, R, e, hA, hB, hR⟩ := ih o4
    by_cases c : f + x.length ≤ t1
    · refine ⟨(f, x) :: A, B, R, by rw [e]; rfl, ?_, hB, hR⟩
      intro s hs
      rcases List.mem_cons.mp hs with rfl | hs
      · exact ⟨hx, c⟩
      · exact hA s hs
    · -- everything in `r` ends above `t1`
      have hr : ∀ s ∈ r, 0 < s.2.length ∧ t1 < s.1 + s.2.length ∧ f + x.length < s.1 := by
        intro s hs
        have := Ok_mem_bounds o4 hs
        omega
      have hAnil : A = [] := by
        cases A with
        | nil => rfl
        | cons u A' =>
          have h1 := hA u (List.mem_cons_self ..)
          have h2 := (hr u (by rw [e]; simp)).2.1
          omega
      subst hAnil
      by_cases c2 : f ≤ t2
      · refine ⟨[], (f, x) :: B, R, by rw [e]; rfl, by simp, ?_, hR⟩
        intro s hs
        rcases List.mem_cons.mp hs with rfl | hs
        · exact ⟨hx, by simp only; omega, c2⟩
        · exact hB s hs
      · refine ⟨[], [], (f, x) :: r, rfl, by simp, by simp, ?_⟩
        intro s hs
        rcases List.mem_cons.mp hs with rfl | hs
        · exact ⟨hx, by simp only; omega, by simp only; omega⟩
        · have := hr s hs; exact ⟨this.1, this.2.1, by omega⟩

theorem Shape.filter {ps A B R : Segs} {t1 t2 : Nat} (sh : Shape ps t1 t2 A B R) :
    ps.filter (meets t1 t2) = B := by
  have hA : A.filter (meets t1 t2) = [] := List.filter_eq_nil_iff.mpr fun s hs c => by
    have := sh.hA s hs; have := (of_decide_eq_true c).2; unfold segLast at this; omega
  have hB : B.filter (meets t1 t2) = B := List.filter_eq_self.mpr fun s hs =>
    decide_eq_true ⟨(sh.hB s hs).2.2, by have := sh.hB s hs; unfold segLast; omega⟩
  have hR : R.filter (meets t1 t2) = [] := List.filter_eq_nil_iff.mpr fun s hs c => by
    have := (sh.hR s hs).2.2; have := (of_decide_eq_true c).1; omega
  rw [sh.eq, List.filter_append, List.filter_append, hA, hB, hR, List.nil_append, List.append_nil]

theorem locLin_append (a : Nat) (m : Search) (A Q : Segs) (i : Nat) (hA : ∀ s ∈ A, segLast s < a) :
    locLin a m (A ++ Q) i = locLin a m Q (i + A.length) := by
  have h := locLin_skip a m A.length (A ++ Q) i (by simp) (fun j t hj hjt => by
    rw [List.getElem?_append_left hj] at hjt
    exact hA t (List.mem_of_getElem? hjt))
  rwa [List.drop_left] at h

theorem locate_above_shape {l : Nat} {qs A Q : Segs} (ok : Ok l qs) (e : qs = A ++ Q) {t : Nat}
    (hA : ∀ s ∈ A, s.1 + s.2.length ≤ t) (hQ : ∀ s ∈ Q, t < s.1 + s.2.length) :
    locate qs t .above = if Q.length > 0 then .idx A.length else .none := by
  subst e
  rw [locate_eq_locLin ok, locLin_append t _ A Q 0 (fun s hs => by
    have := Ok_mem_bounds ok (List.mem_append_left _ hs); have := hA s hs; unfold segLast; omega), Nat.zero_add]
  cases Q with
  | nil => rfl
  | cons s r =>
    have := hQ s (List.mem_cons_self ..)
    rw [locLin_cons, if_neg (by unfold segLast; omega : ¬ t > segLast s), if_pos (by simp : (s :: r).length > 0)]
    split <;> rfl

theorem locate_below_shape {l : Nat} {qs P R : Segs} (ok : Ok l qs) (e : qs = P ++ R) {t : Nat}
    (hP : ∀ s ∈ P, s.1 ≤ t) (hR : ∀ s ∈ R, t < s.1) :
    locate qs t .below = if P.length > 0 then .idx (P.length - 1) else .none := by
  subst e
  -- what the scan answers once it stands at the head of `R`
  have atR : ∀ i, locLin t .below R i = if i > 0 then .idx (i - 1) else .none := fun i => by
    cases R with
    | nil => rfl
    | cons r R' => rw [locLin_cons, if_pos (hR r (List.mem_cons_self ..))]
  rw [locate_eq_locLin ok]
  rcases List.eq_nil_or_concat P with rfl | ⟨P', u, rfl⟩
  · exact atR 0
  · simp only [List.concat_eq_append, List.append_assoc, List.singleton_append] at ok ⊢
    have hu := hP u (by simp)
    rw [locLin_append t _ P' _ 0 (fun s hs => by have := Ok_append_lt ok hs; unfold segLast; omega),
      Nat.zero_add, locLin_cons, if_neg (by omega), atR, List.length_append, List.length_singleton,
      if_pos (Nat.succ_pos _), Nat.add_sub_cancel, ite_self]

theorem Shape.locate_above {l : Nat} {ps A B R : Segs} {t1 t2 : Nat} (ok : Ok l ps) (sh : Shape ps t1 t2 A B R) :
    locate ps t1 .above = if (B ++ R).length > 0 then .idx A.length else .none :=
  locate_above_shape ok sh.eq (fun s hs => (sh.hA s hs).2) fun s hs =>
    (List.mem_append.mp hs).elim (fun h => (sh.hB s h).2.1) (fun h => (sh.hR s h).2.1)

theorem Shape.locate_below {l : Nat} {ps A B R : Segs} {t1 t2 : Nat} (ok : Ok l ps) (sh : Shape ps t1 t2 A B R)
    (h : t1 ≤ t2) :
    locate ps t2 .below = if (A ++ B).length > 0 then .idx ((A ++ B).length - 1) else .none :=
  locate_below_shape ok (by rw [sh.eq, List.append_assoc])
    (fun s hs => (List.mem_append.mp hs).elim (fun hA => by have := sh.hA s hA; omega) (fun hB => (sh.hB s hB).2.2))
    fun s hs => (sh.hR s hs).2.2

theorem Shape.firstIdx {l : Nat} {ps A B R : Segs} {t1 t2 : Nat} (ok : Ok l ps) (sh : Shape ps t1 t2 A B R) :
    firstIdx ps t1 = .ok A.length := by
  unfold Map.firstIdx
  rw [sh.locate_above ok, sh.eq]
  cases B ++ R with
  | nil => simp
  | cons s r => simp

end Trion.Map
