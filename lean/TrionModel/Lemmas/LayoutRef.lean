import TrionModel.Lemmas.LayoutRun
import TrionModel.Spec.Layout
/-!
# Layout: the machine simulates the two-pass reference

`Rel st L c im`: the machine state `st` with pending tasks `L` corresponds to the reference (`pass2`) state
with cursor `c` and image `im`:
* the reference cursor is the (unsaturated) machine position,
* `view st` and `im` have the same domain,
* they agree outside the pending ranges,
* on every pending range the reference image already holds the task's final bytes.
-/
namespace Trion.Layout
open Ref

structure Rel (st : State) (L : List Task) (c : Option Nat) (im : Img) : Prop where
  core : Core st
  tasks : ∀ t ∈ L, TaskOk st t
  cur : pos st = c
  dom : ∀ a, (view st a).isSome = (im.get a).isSome
  agree : ∀ a, (∀ t ∈ L, ¬ (t.addr ≤ a ∧ a < t.addr + t.len)) → view st a = im.get a
  fin : ∀ t ∈ L, ∀ i, i < t.len → im.get (t.addr + i) = t.final[i]?

theorem rel_init : Rel {} [] none [] :=
  ⟨inv_init.1, fun _ h => (by cases h), rfl, fun _ => rfl, fun _ _ => rfl, fun _ h => (by cases h)⟩

theorem view_congr {st st' : State} (hc : st'.closed = st.closed) (ha : st'.active = st.active) (a : Nat) :
    view st' a = view st a := by
  simp only [view, hc, ha]

theorem Core.congr {st st' : State} (hc : st'.closed = st.closed) (ha : st'.active = st.active)
    (h : Core st) : Core st' := by
  unfold Core; rw [hc, ha]; exact h

theorem TaskOk.congr {st st' : State} {t : Task} (hc : st'.closed = st.closed) (ha : st'.active = st.active)
    (h : TaskOk st t) : TaskOk st' t := by
  unfold TaskOk; rw [hc, ha]; exact h

theorem pos_congr {st st' : State} (ha : st'.active = st.active) : pos st' = pos st := by
  simp only [pos, ha]

theorem Rel.congr {st st' : State} {L : List Task} {c : Option Nat} {im : Img}
    (h : Rel st L c im) (hc : st'.closed = st.closed) (ha : st'.active = st.active) : Rel st' L c im :=
  ⟨h.core.congr hc ha, fun t ht => (h.tasks t ht).congr hc ha, (pos_congr ha).trans h.cur,
   fun a => by rw [view_congr hc ha]; exact h.dom a,
   fun a hx => by rw [view_congr hc ha]; exact h.agree a hx, h.fin⟩

theorem Rel.cur_eq {st : State} {L : List Task} {c : Option Nat} {im : Img} {a : Active}
    (h : Rel st L c im) (hact : st.active = some a) : c = some (a.base + a.buf.length) := by
  rw [← h.cur]; simp only [pos, hact, Option.map_some]

theorem view_fresh (st : State) (s : Active) (hc : Core st) (hact : st.active = some s) (a : Nat)
    (h1 : s.base + s.buf.length ≤ a) (h2 : a < s.base + s.maxLen) : view st a = none := by
  obtain ⟨g1, g2, g3⟩ := hc.2 s hact
  simp only [view, hact]
  rw [if_neg (by omega)]
  have := g3 a (by omega) h2
  unfold Img.has at this
  cases hg : st.closed.get a with
  | none => rfl
  | some v => rw [hg] at this; cases this

theorem view_task (st : State) (t : Task) (hc : Core st) (ht : TaskOk st t) (i : Nat) (hi : i < t.len) :
    (view st (t.addr + i)).isSome = true := by
  rcases ht.2 with h | ⟨s, hs, h1, h2⟩
  · have hh := h i hi
    cases hact : st.active with
    | none => simp only [view, hact]; exact hh
    | some s =>
      obtain ⟨g1, g2, g3⟩ := hc.2 s hact
      simp only [view, hact]
      by_cases hx : s.base ≤ t.addr + i ∧ t.addr + i < s.base + s.buf.length
      · have := g3 (t.addr + i) hx.1 (by omega)
        rw [this] at hh; cases hh
      · rw [if_neg hx]; exact hh
  · simp only [view, hs]
    rw [if_pos ⟨by omega, by omega⟩]
    have : t.addr + i - s.base < s.buf.length := by omega
    simp [this]

theorem isSome_getElem? {α : Type} (l : List α) (i : Nat) : (l[i]?).isSome = decide (i < l.length) := by
  by_cases h : i < l.length <;> simp [h]

/-- appending `bs` to the active buffer while the reference puts `bytes` (same length) at its cursor;
`L'` is the new pending list: the old tasks plus possibly a task for exactly the appended range -/
theorem rel_append (st : State) (L L' : List Task) (x : Nat) (im : Img) (s : Active) (bs bytes : Bytes)
    (hr : Rel st L (some x) im) (hact : st.active = some s) (hfit : s.buf.length + bs.length ≤ s.maxLen)
    (hlen : bytes.length = bs.length)
    (hsub : ∀ t ∈ L, t ∈ L')
    (hnew : ∀ t ∈ L', t ∈ L ∨
      (TaskOk { st with active := some { s with buf := s.buf ++ bs } } t ∧
       (t.len = 0 ∨ (t.addr = x ∧ t.len = bytes.length ∧ t.final = bytes))))
    (hag : bytes = bs ∨ (0 < bs.length → ∃ t ∈ L', t.addr = x ∧ t.len = bs.length)) :
    Rel { st with active := some { s with buf := s.buf ++ bs } } L' (some (x + bs.length)) (im.put x bytes) ∧
    (∀ a, (im.get a).isSome = true → (im.put x bytes).get a = im.get a) := by
  have hx : x = s.base + s.buf.length := Option.some.inj (hr.cur_eq hact)
  obtain ⟨g1, g2, g3⟩ := hr.core.2 s hact
  obtain ⟨e1, e2, e3⟩ := append_effects st s bs hr.core hact hfit
  -- the appended range is fresh in the reference image
  have hfree : ∀ a, x ≤ a → a < x + bs.length → im.get a = none := by
    intro a h1 h2
    have hv := view_fresh st s hr.core hact a (by omega) (by omega)
    have := hr.dom a
    rw [hv] at this
    cases hg : im.get a with
    | none => rfl
    | some v => rw [hg] at this; cases this
  have hmono : ∀ a, (im.get a).isSome = true → (im.put x bytes).get a = im.get a := by
    intro a ha
    apply get_put_outside
    intro hh
    rw [hfree a hh.1 (by omega)] at ha; cases ha
  -- old pending ranges do not meet the appended range
  have hold : ∀ t ∈ L, ∀ i, i < t.len → ¬ (x ≤ t.addr + i ∧ t.addr + i < x + bs.length) := by
    intro t ht i hi hh
    have h1 := view_task st t hr.core (hr.tasks t ht) i hi
    have h2 := view_fresh st s hr.core hact (t.addr + i) (by omega) (by omega)
    rw [h2] at h1; cases h1
  refine ⟨⟨e1, ?_, ?_, ?_, ?_, ?_⟩, hmono⟩
  · intro t ht
    rcases hnew t ht with h | h
    · exact e2 t (hr.tasks t h)
    · exact h.1
  · simp only [pos, Option.map_some, List.length_append]; congr 1; omega
  · intro a
    rw [e3 a, get_put, hlen, ← hx]
    by_cases ha : x ≤ a ∧ a < x + bs.length
    · rw [if_pos ha, if_pos ha, isSome_getElem?, isSome_getElem?, hlen]
    · rw [if_neg ha, if_neg ha]; exact hr.dom a
  · intro a hno
    rw [e3 a, get_put, hlen, ← hx]
    by_cases ha : x ≤ a ∧ a < x + bs.length
    · rw [if_pos ha, if_pos ha]
      rcases hag with h | h
      · rw [h]
      · obtain ⟨t, ht, h1, h2⟩ := h (by omega)
        exact absurd ⟨by omega, by omega⟩ (hno t ht)
    · rw [if_neg ha, if_neg ha]
      exact hr.agree a (fun t ht => hno t (hsub t ht))
  · intro t ht i hi
    rcases hnew t ht with h | ⟨_, h | ⟨h1, h2, h3⟩⟩
    · rw [get_put_outside _ _ _ _ (by rw [hlen]; exact hold t h i hi)]
      exact hr.fin t h i hi
    · omega
    · rw [h1, h3, get_put_inside _ _ _ _ (by omega) (by omega)]
      congr 1; omega


theorem curr_eq (s : Active) (h : s.base + s.buf.length < top) : s.curr = s.base + s.buf.length := by
  unfold Active.curr; unfold top at *; omega

theorem pass2_emits {s : Stmt} (hs : s.emits = true) (x : Nat) (im : Img) (r : List Stmt) :
    pass2 (some x) im (s :: r) = pass2 (some (x + (bytes x s).length)) (im.put x (bytes x s)) r := by
  cases s <;> first | exact Bool.noConfusion hs | rfl

theorem next_emits {s : Stmt} (hs : s.emits = true) (hwf : s.wf = true) (x : Nat) :
    next (some x) s = some (x + (bytes x s).length) := by
  cases s with
  | raw bs => rfl
  | emit len deps final =>
    have hw : final.length = len := by simpa [Stmt.wf] using hwf
    simp [next, bytes, hw]
  | align n => simp [next, bytes, length_placeholder]
  | addr | label | const => cases hs

/-- one statement against one statement of `pass2`, for any list `L` of pending tasks (those of the file and of its
includers): the statement only appends its own task to it -/
theorem step_rel {st st' : State} {s : Stmt} {L : List Task} {c : Option Nat} {im : Img}
    (hr : Rel st L c im) (hwf : s.wf = true) (h : step st s = .ok st') :
    ∃ new im', st'.tasks = st.tasks ++ new ∧ (∀ r, pass2 c im (s :: r) = pass2 (next c s) im' r) ∧
      Rel st' (L ++ new) (next c s) im' ∧ (∀ a, (im.get a).isSome = true → im'.get a = im.get a) ∧
      (s.emits = true → ∃ x, c = some x ∧ im' = im.put x (bytes x s)) := by
  rcases (step_spec st s hr.core).ok h with ⟨a, rfl, k1, _, k3, k4, k5, k6⟩ | ⟨n, v, _, rfl, hs⟩ |
    ⟨hs, a, bs, new, hact, hfit, rfl, hcase⟩
  · refine ⟨[], im, by rw [k3, List.append_nil], fun r => rfl, ?_, fun a _ => rfl, fun he => by cases he⟩
    rw [List.append_nil]
    exact ⟨k1, fun t ht => k5 t (hr.tasks t ht), k6, fun x => by rw [k4]; exact hr.dom x,
      fun x hx => by rw [k4]; exact hr.agree x hx, hr.fin⟩
  · rcases hs with ⟨a, rfl, _⟩ | ⟨d, rfl⟩ <;>
      exact ⟨[], im, (List.append_nil _).symm, fun r => rfl, by rw [List.append_nil]; exact hr.congr rfl rfl,
        fun a _ => rfl, fun he => by cases he⟩
  · have hc := hr.cur_eq hact
    subst hc
    rw [next_emits hs hwf]
    refine ⟨new, im.put _ (bytes _ s), rfl, pass2_emits hs _ im, ?_⟩
    rcases hcase with ⟨rfl, rfl⟩ | ⟨len, deps, final, rfl, rfl, rfl⟩
    · obtain ⟨r1, r2⟩ := rel_append st L (L ++ []) _ im a _ _ hr hact hfit rfl (fun t ht => by simpa using ht)
        (fun t ht => Or.inl (by simpa using ht)) (Or.inl rfl)
      exact ⟨r1.congr rfl rfl, r2, fun _ => ⟨_, rfl, rfl⟩⟩
    · have hw : final.length = len := by simpa [Stmt.wf] using hwf
      have hfit' := hfit
      rw [length_placeholder] at hfit'
      obtain ⟨g1, g2, g3⟩ := hr.core.2 a hact
      obtain ⟨r1, r2⟩ := rel_append st L (L ++ [{ addr := a.curr, len := len, deps := deps, final := final }])
        _ im a (placeholder len) final hr hact hfit (by rw [length_placeholder]; exact hw)
        (fun t ht => List.mem_append_left _ ht)
        (fun t ht => by
          simp only [List.mem_append, List.mem_singleton] at ht
          rcases ht with ht | rfl
          · exact Or.inl ht
          · refine Or.inr ⟨new_task_ok st a len deps final hr.core hact hfit' hw, ?_⟩
            by_cases hl : len = 0
            · exact Or.inl hl
            · exact Or.inr ⟨curr_eq a (by omega), hw.symm, rfl⟩)
        (Or.inr fun hpos => ⟨_, List.mem_append_right _ (List.mem_singleton.mpr rfl),
          curr_eq a (by rw [length_placeholder] at hpos; omega), (length_placeholder len).symm⟩)
      rw [(length_placeholder len).trans hw.symm] at r1
      exact ⟨r1.congr rfl rfl, r2, fun _ => ⟨_, rfl, rfl⟩⟩

/-- one statement against one statement of `pass1`: the machine's symbol table stays the reference's, unless a label
stands where the reference cursor has reached 2^32 (the machine saturates, `pass1` is undefined) -/
theorem step_env {st st' : State} {s : Stmt} {L : List Task} {c : Option Nat} {im : Img}
    (hr : Rel st L c im) (hl : ∀ x n, (some x, Stmt.label n) ∈ trace c [s] → x < top) (h : step st s = .ok st') :
    ∀ r, pass1 c st.env (s :: r) = pass1 (next c s) st'.env r := by
  intro r
  rcases (step_spec st s hr.core).ok h with ⟨a, rfl, _, k2, _⟩ | ⟨n, v, hn, rfl, hs⟩ | ⟨hs, a, bs, new, hact, _, rfl, _⟩
  · rw [k2]; rfl
  · rcases hs with ⟨a, rfl, hact, rfl⟩ | ⟨d, rfl⟩
    · have hc := hr.cur_eq hact
      have hx : a.base + a.buf.length < top := hl _ n (by rw [hc]; exact List.mem_cons_self)
      rw [curr_eq a hx, hc]
      simp only [pass1, hn, if_pos hx, next]
    · simp only [pass1, hn, next]
  · have hc := hr.cur_eq hact
    subst hc
    cases s <;> first | exact Bool.noConfusion hs | simp only [pass1, next, size, Option.map_some]

theorem rewrite_rel (A B : List Task) (t : Task) (st st' : State) (c : Option Nat) (im : Img)
    (hr : Rel st (A ++ t :: B) c im) (h : rewrite st t.addr t.final = .ok st') :
    Rel st' (A ++ B) c im ∧ st'.env = st.env ∧ st'.tasks = st.tasks := by
  have hmem : t ∈ A ++ t :: B := by simp
  obtain ⟨st1, h1, hc1, he, ht, hp, hk, hv⟩ := rewrite_spec st t hr.core (hr.tasks t hmem)
  rw [h] at h1; cases h1
  have hsub : ∀ x ∈ A ++ B, x ∈ A ++ t :: B := by
    intro x hx
    simp only [List.mem_append, List.mem_cons] at hx ⊢
    rcases hx with hx | hx
    · exact .inl hx
    · exact .inr (.inr hx)
  have hin : ∀ x, t.addr ≤ x ∧ x < t.addr + t.len → view st' x = im.get x := by
    intro x hx
    rw [hv x, if_pos hx]
    have := hr.fin t hmem (x - t.addr) (by omega)
    rw [show t.addr + (x - t.addr) = x by omega] at this
    exact this.symm
  refine ⟨⟨hc1, fun x hx => hk x (hr.tasks x (hsub x hx)), hp.trans hr.cur, fun x => ?_, fun x hx => ?_,
    fun x hx => hr.fin x (hsub x hx)⟩, he, ht⟩
  · by_cases hx : t.addr ≤ x ∧ x < t.addr + t.len
    · rw [hin x hx]
    · rw [hv x, if_neg hx]; exact hr.dom x
  · by_cases hx' : t.addr ≤ x ∧ x < t.addr + t.len
    · exact hin x hx'
    · rw [hv x, if_neg hx']
      apply hr.agree
      intro t' ht'
      simp only [List.mem_append, List.mem_cons] at ht'
      rcases ht' with ht' | rfl | ht'
      · exact hx t' (List.mem_append_left _ ht')
      · exact hx'
      · exact hx t' (List.mem_append_right _ ht')

end Trion.Layout
