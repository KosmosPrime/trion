import TrionModel.Lemmas.CodecRtBase
/-! Round trip `RT` of the 16-bit encoder arms whose operands are registers only. -/
namespace Trion.Codec
open Trion

theorem rt_lo2 (mk : Reg → Reg → Instr) (base : Nat) (hb : base + 64 ≤ 59392)
    (henc : ∀ d m, encode (mk d m) = lo2 base m d)
    (hdec : ∀ d m : Reg, d.val < 8 → m.val < 8 → decode16 (base + m.val * 8 + d.val) = .ok (2, mk d m))
    (d m : Reg) : RT (mk d m) :=
  rt_arm (henc d m) fun g _ => ⟨by omega, hdec d m (by omega) (by omega)⟩

/-- the sixteen data-processing encodings `010000 op Rm Rdn` -/
theorem decode16_dp (op : Nat) (hop : op < 16) (d m : Reg) (hd : d.val < 8) (hm : m.val < 8) :
    decode16 (0x4000 + op * 64 + m.val * 8 + d.val) = decDataProc op d m := by
  rw [decode16_g8 (by omega), dec01000_dp (by omega), withReg_val d (by omega), withReg_val m (by omega)]
  congr 1; omega

theorem rt_dp (mk : Reg → Reg → Instr) (op : Nat) (hop : op < 16)
    (henc : ∀ d m, encode (mk d m) = lo2 (0x4000 + op * 64) m d)
    (hdec : ∀ d m, decDataProc op d m = .ok (2, mk d m)) (d m : Reg) : RT (mk d m) :=
  rt_lo2 mk _ (by omega) henc (fun d m hd hm => (decode16_dp op hop d m hd hm).trans (hdec d m)) d m

theorem rt_and (a b : Reg) : RT (.and a b) := rt_dp .and 0 (by decide) (fun _ _ => rfl) (fun _ _ => rfl) a b
theorem rt_eor (a b : Reg) : RT (.eor a b) := rt_dp .eor 1 (by decide) (fun _ _ => rfl) (fun _ _ => rfl) a b
theorem rt_adc (a b : Reg) : RT (.adc a b) := rt_dp .adc 5 (by decide) (fun _ _ => rfl) (fun _ _ => rfl) a b
theorem rt_sbc (a b : Reg) : RT (.sbc a b) := rt_dp .sbc 6 (by decide) (fun _ _ => rfl) (fun _ _ => rfl) a b
theorem rt_ror (a b : Reg) : RT (.ror a b) := rt_dp .ror 7 (by decide) (fun _ _ => rfl) (fun _ _ => rfl) a b
theorem rt_tst (a b : Reg) : RT (.tst a b) := rt_dp .tst 8 (by decide) (fun _ _ => rfl) (fun _ _ => rfl) a b
theorem rt_rsb (a b : Reg) : RT (.rsb a b) := rt_dp .rsb 9 (by decide) (fun _ _ => rfl) (fun _ _ => rfl) a b
theorem rt_cmn (a b : Reg) : RT (.cmn a b) := rt_dp .cmn 11 (by decide) (fun _ _ => rfl) (fun _ _ => rfl) a b
theorem rt_orr (a b : Reg) : RT (.orr a b) := rt_dp .orr 12 (by decide) (fun _ _ => rfl) (fun _ _ => rfl) a b
theorem rt_mul (a b : Reg) : RT (.mul a b) := rt_dp .mul 13 (by decide) (fun _ _ => rfl) (fun _ _ => rfl) a b
theorem rt_bic (a b : Reg) : RT (.bic a b) := rt_dp .bic 14 (by decide) (fun _ _ => rfl) (fun _ _ => rfl) a b
theorem rt_mvn (a b : Reg) : RT (.mvn a b) := rt_dp .mvn 15 (by decide) (fun _ _ => rfl) (fun _ _ => rfl) a b

/-- shifts by register are data-processing rows as well; the encoder insists on `value = dst` -/
theorem rt_lsl_reg (a b c : Reg) : RT (.lsl a b (.reg c)) :=
  rt_arm rfl fun g _ => by
    obtain rfl : b = a := Fin.ext (by omega)
    exact ⟨by omega, decode16_dp 2 (by decide) b c (by omega) (by omega)⟩

theorem rt_lsr_reg (a b c : Reg) : RT (.lsr a b (.reg c)) :=
  rt_arm rfl fun g _ => by
    obtain rfl : b = a := Fin.ext (by omega)
    exact ⟨by omega, decode16_dp 3 (by decide) b c (by omega) (by omega)⟩

theorem rt_asr_reg (a b c : Reg) : RT (.asr a b (.reg c)) :=
  rt_arm rfl fun g _ => by
    obtain rfl : b = a := Fin.ext (by omega)
    exact ⟨by omega, decode16_dp 4 (by decide) b c (by omega) (by omega)⟩

/-- sign/zero extension `1011 0010 op Rm Rd` -/
theorem decode16_ext (op : Nat) (hop : op < 4) (d m : Reg) (hd : d.val < 8) (hm : m.val < 8) :
    decode16 (0xB200 + op * 64 + m.val * 8 + d.val) =
      if op / 2 = 0 then (if op % 2 = 0 then .ok (2, .sxth d m) else .ok (2, .sxtb d m))
      else (if op % 2 = 0 then .ok (2, .uxth d m) else .ok (2, .uxtb d m)) := by
  rw [decode16_g22 (by omega), dec10110_ext (by omega), withReg_val d (by omega), withReg_val m (by omega),
    show (0xB200 + op * 64 + m.val * 8 + d.val) / 128 % 2 = op / 2 by omega,
    show (0xB200 + op * 64 + m.val * 8 + d.val) / 64 % 2 = op % 2 by omega]

theorem rt_sxth (a b : Reg) : RT (.sxth a b) :=
  rt_lo2 .sxth 0xB200 (by decide) (fun _ _ => rfl) (decode16_ext 0 (by decide)) a b
theorem rt_sxtb (a b : Reg) : RT (.sxtb a b) :=
  rt_lo2 .sxtb 0xB240 (by decide) (fun _ _ => rfl) (decode16_ext 1 (by decide)) a b
theorem rt_uxth (a b : Reg) : RT (.uxth a b) :=
  rt_lo2 .uxth 0xB280 (by decide) (fun _ _ => rfl) (decode16_ext 2 (by decide)) a b
theorem rt_uxtb (a b : Reg) : RT (.uxtb a b) :=
  rt_lo2 .uxtb 0xB2C0 (by decide) (fun _ _ => rfl) (decode16_ext 3 (by decide)) a b

/-- byte reversal `1011 1010 op Rm Rd` (`op = 2` is undefined) -/
theorem decode16_rev (op : Nat) (hop : op < 4) (d m : Reg) (hd : d.val < 8) (hm : m.val < 8) :
    decode16 (0xBA00 + op * 64 + m.val * 8 + d.val) =
      if op = 0 then .ok (2, .rev d m)
      else if op = 1 then .ok (2, .rev16 d m)
      else if op = 2 then .error (.undefined (0xBA00 + op * 64 + m.val * 8 + d.val) none)
      else if op = 3 then .ok (2, .revsh d m)
      else .error .panic := by
  rw [decode16_g23 (by omega), dec10111_rev (by omega), withReg_val d (by omega), withReg_val m (by omega),
    show (0xBA00 + op * 64 + m.val * 8 + d.val) / 64 % 4 = op by omega]

theorem rt_rev (a b : Reg) : RT (.rev a b) :=
  rt_lo2 .rev 0xBA00 (by decide) (fun _ _ => rfl) (decode16_rev 0 (by decide)) a b
theorem rt_rev16 (a b : Reg) : RT (.rev16 a b) :=
  rt_lo2 .rev16 0xBA40 (by decide) (fun _ _ => rfl) (decode16_rev 1 (by decide)) a b
theorem rt_revsh (a b : Reg) : RT (.revsh a b) :=
  rt_lo2 .revsh 0xBAC0 (by decide) (fun _ _ => rfl) (decode16_rev 3 (by decide)) a b

theorem rt_lo3 (mk : Reg → Reg → Reg → Instr) (base : Nat) (hb : base + 512 ≤ 59392)
    (henc : ∀ t n m, encode (mk t n m) = lo3 base m n t)
    (hdec : ∀ t n m : Reg, t.val < 8 → n.val < 8 → m.val < 8 →
      decode16 (base + m.val * 64 + n.val * 8 + t.val) = .ok (2, mk t n m))
    (t n m : Reg) : RT (mk t n m) :=
  rt_arm (henc t n m) fun g _ => ⟨by omega, hdec t n m (by omega) (by omega) (by omega)⟩

/-- load/store with register offset `0101 op Rm Rn Rt` -/
theorem decode16_ldst_reg (op : Nat) (hop : op < 8) (t n m : Reg) (ht : t.val < 8) (hn : n.val < 8)
    (hm : m.val < 8) : decode16 (0x5000 + op * 512 + m.val * 64 + n.val * 8 + t.val) =
      if op = 0 then .ok (2, .str t n (.reg m))
      else if op = 1 then .ok (2, .strh t n (.reg m))
      else if op = 2 then .ok (2, .strb t n (.reg m))
      else if op = 3 then .ok (2, .ldrsb t n m)
      else if op = 4 then .ok (2, .ldr t n (.reg m))
      else if op = 5 then .ok (2, .ldrh t n (.reg m))
      else if op = 6 then .ok (2, .ldrb t n (.reg m))
      else if op = 7 then .ok (2, .ldrsh t n m)
      else .error .panic := by
  rw [decode16_g10_11 (by omega), dec0101_op op (by omega), withReg_val t (by omega), withReg_val n (by omega),
    withReg_val m (by omega)]

theorem rt_str_reg (a b c : Reg) : RT (.str a b (.reg c)) :=
  rt_lo3 (fun t n m => .str t n (.reg m)) 0x5000 (by decide) (fun _ _ _ => rfl) (decode16_ldst_reg 0 (by decide)) a b c
theorem rt_strh_reg (a b c : Reg) : RT (.strh a b (.reg c)) :=
  rt_lo3 (fun t n m => .strh t n (.reg m)) 0x5200 (by decide) (fun _ _ _ => rfl) (decode16_ldst_reg 1 (by decide)) a b c
theorem rt_strb_reg (a b c : Reg) : RT (.strb a b (.reg c)) :=
  rt_lo3 (fun t n m => .strb t n (.reg m)) 0x5400 (by decide) (fun _ _ _ => rfl) (decode16_ldst_reg 2 (by decide)) a b c
theorem rt_ldrsb (a b c : Reg) : RT (.ldrsb a b c) :=
  rt_lo3 .ldrsb 0x5600 (by decide) (fun _ _ _ => rfl) (decode16_ldst_reg 3 (by decide)) a b c
theorem rt_ldr_reg (a b c : Reg) : RT (.ldr a b (.reg c)) :=
  rt_lo3 (fun t n m => .ldr t n (.reg m)) 0x5800 (by decide) (fun _ _ _ => rfl) (decode16_ldst_reg 4 (by decide)) a b c
theorem rt_ldrh_reg (a b c : Reg) : RT (.ldrh a b (.reg c)) :=
  rt_lo3 (fun t n m => .ldrh t n (.reg m)) 0x5A00 (by decide) (fun _ _ _ => rfl) (decode16_ldst_reg 5 (by decide)) a b c
theorem rt_ldrb_reg (a b c : Reg) : RT (.ldrb a b (.reg c)) :=
  rt_lo3 (fun t n m => .ldrb t n (.reg m)) 0x5C00 (by decide) (fun _ _ _ => rfl) (decode16_ldst_reg 6 (by decide)) a b c
theorem rt_ldrsh (a b c : Reg) : RT (.ldrsh a b c) :=
  rt_lo3 .ldrsh 0x5E00 (by decide) (fun _ _ _ => rfl) (decode16_ldst_reg 7 (by decide)) a b c

theorem rt_sub_reg (f : Bool) (a b c : Reg) : RT (.sub f a b (.reg c)) :=
  rt_arm rfl fun g _ => by
    obtain ⟨rfl, g⟩ := flag_true g
    exact ⟨by omega, by rw [decode16_g3 (by omega), dec00011_reg (by omega), withReg_val a (by omega),
      withReg_val b (by omega), withReg_val c (by omega), if_neg (by omega)]⟩

theorem rt_add_reg (f : Bool) (a b c : Reg) : RT (.add f a b (.reg c)) := by
  -- `DN:Rdn` is split over bits 7 and 2–0; `omega` needs to be told that `DN` is a single bit
  have : a.val / 8 = 0 ∨ a.val / 8 = 1 := by omega
  by_cases h : f = false ∨ a.val ≥ 8 ∨ c.val ≥ 8
  · refine rt_arm (by rw [encode, if_pos h]) fun g _ => ?_
    obtain ⟨rfl, g⟩ := flag_false g
    obtain rfl : b = a := Fin.ext (by omega)
    exact ⟨by omega, by rw [decode16_g8 (by omega), dec01000_add (by omega) (by omega), withReg_val b (by omega),
      withReg_val c (by omega), if_neg (by omega)]⟩
  · refine rt_arm (by rw [encode, if_neg h]) fun g _ => ?_
    obtain ⟨rfl, g⟩ := flag_true g
    exact ⟨by omega, by rw [decode16_g3 (by omega), dec00011_reg (by omega), withReg_val a (by omega),
      withReg_val b (by omega), withReg_val c (by omega), if_pos (by omega)]⟩

theorem rt_cmp_reg (a c : Reg) : RT (.cmp a (.reg c)) := by
  have : a.val / 8 = 0 ∨ a.val / 8 = 1 := by omega
  by_cases h : a.val ≥ 8 ∨ c.val ≥ 8
  · exact rt_arm (by rw [encode, if_pos h]) fun g _ =>
      ⟨by omega, by rw [decode16_g8 (by omega), dec01000_cmp (by omega) (by omega), withReg_val a (by omega),
        withReg_val c (by omega), if_neg (by omega), if_neg (by omega)]⟩
  · exact rt_ok (by rw [encode, if_neg h]) fun _ => ⟨by omega, decode16_dp 10 (by decide) a c (by omega) (by omega)⟩

theorem rt_mov_reg (f : Bool) (a c : Reg) : RT (.mov f a (.reg c)) := by
  have : a.val / 8 = 0 ∨ a.val / 8 = 1 := by omega
  by_cases h : f = false ∨ a.val ≥ 8 ∨ c.val ≥ 8
  · refine rt_arm (by rw [encode, if_pos h]) fun g _ => ?_
    obtain rfl := (Bool.not_eq_true f).mp g
    exact ⟨by omega, by rw [decode16_g8 (by omega), dec01000_mov (by omega) (by omega), withReg_val a (by omega),
      withReg_val c (by omega)]⟩
  · refine rt_ok (by rw [encode, if_neg h]) fun _ => ?_
    obtain ⟨rfl, h⟩ := flag_true h
    exact ⟨by omega, by rw [decode16_g0 (by omega), dec00000_mov (by omega), withReg_val a (by omega),
      withReg_val c (by omega)]⟩

theorem rt_bx (a : Reg) : RT (.bx a) :=
  rt_arm rfl fun g _ =>
    ⟨by omega, by rw [decode16_g8 (by omega), dec01000_bx (by omega) (by omega) (by omega), withReg_val a (by omega),
      if_neg g, if_pos (by omega)]⟩

theorem rt_blx (a : Reg) : RT (.blx a) :=
  rt_arm rfl fun g _ =>
    ⟨by omega, by rw [decode16_g8 (by omega), dec01000_bx (by omega) (by omega) (by omega), withReg_val a (by omega),
      if_neg g, if_neg (by omega)]⟩

end Trion.Codec
