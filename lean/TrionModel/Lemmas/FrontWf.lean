import TrionModel.Lemmas.FrontRun
/-! # The values the getters yield lie inside their Rust types (for C04 `build_wf`, `Lemmas/C04Asm.lean`) -/
namespace Trion.Front

def Val.wf : Val → Prop
  | .imm v => inI32 v
  | .immReg x => x.wf
  | .off v => 0 ≤ v ∧ v ≤ 4294967295
  | .address _ (some x) => x.wf
  | _ => True

theorem narrowI32_inI32 {v w : Int} (h : narrowI32 v = some w) : inI32 w := by
  obtain ⟨h1, h2, rfl⟩ := narrow_iff.1 h; exact ⟨h1, h2⟩

theorem addrOff_val_wf {idx : Nat} {a : Arg} {r : Reg} {o : Option ImmReg} (h : addrOff idx a = .ok (r, o)) :
    (Val.address r o).wf := by
  cases addrOff_ok_iff.1 h with
  | reg => exact (by decide : inI32 0)
  | regReg => trivial
  | regImm hk | immReg hk => exact hk

theorem get_wf {k : Kind} {eval : Arg → EvalOut} {loc : Bool} {pos done : Nat} {a a' : Arg} {d : Nat} {v : Val}
    (h : get k eval loc pos done a = .ok v a' d) : v.wf := by
  cases (get_ok h).1 with
  | imm hy | immRegI hy => exact narrowI32_inI32 hy
  | addr _ hy => exact addrOff_val_wf hy
  | off _ hy => obtain ⟨h1, h2, rfl⟩ := narrow_iff.1 hy; exact ⟨h1, h2⟩
  | _ => trivial

theorem run_wf (e : Arg → EvalOut) (l : Bool) : ∀ (ks : List Kind) (pos : Nat) (rest : List Arg) (done : Nat),
    ∀ v ∈ (run e l ks pos rest done).vals, v.wf
  | [], _, _, _ => fun _ h => nomatch h
  | _ :: _, _, [], _ => fun _ h => nomatch h
  | k :: ks, pos, a :: rest, done => by
    simp only [run]
    cases hg : get k e l pos done a with
    | stop a' d' r => exact fun _ h => nomatch h
    | ok v a' d' =>
      intro w hw
      rcases List.mem_cons.mp hw with rfl | hw
      · exact get_wf hg
      · exact run_wf e l ks _ rest d' w hw

instance instDecidableInstrWf (i : Instr) : Decidable i.wf := by
  cases i <;> (simp only [Instr.wf]; infer_instance)

end Trion.Front
