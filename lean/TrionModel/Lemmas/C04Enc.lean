import TrionModel.Props.C01  -- for `Codec.enc_sound`, `Codec.enc_len`
import TrionModel.Lemmas.C04Prog
import TrionModel.Lemmas.C04MixAsm
import TrionModel.Lemmas.ShowLine
/-!
# C04: where the ARMv6-M table comes in

The lemmas of C04 that conclude `Arm.decode hws = some i` — the emitted halfwords are, in the table, the encoding of the
instruction — by `Codec.enc_sound` of `Props/C01.lean` (imported for it and for `Codec.enc_len`): the
instruction statement placed (`stmt_placed_of_build`), the success direction of the program `.addr A; defs; statement`
stated from `Front.build` (`run_defs_stmt_of_build`), and the case analysis `build_cases2` on the extended operand class.
(The outcome `⟨true, none, true, [], img⟩` is `Asm.Outcome`: `assemble` returned `Ok`, no close error, `finalize` succeeded,
no diagnostic, the image.)  They stand apart so that the other modules `Lemmas/C04*`, `Lemmas/C06*` do not depend on the table agreement
(`Lemmas/ArmAgree*`).
-/
namespace Trion.C04
open Trion Trion.Front Trion.Simp

theorem stmt_placed_of_build (fs : Bytes → Option Bytes) (inc : Asm.Inc) (env : Asm.Env) (st : Asm.St) (tbl : Asm.Table)
    (henv : env.paths ≠ []) (hl : st.locals = some tbl) (l c : Nat) (name : Bytes) (args : Args)
    (map : Map.Segs) (seg : Seg.Active) (pending : List (Nat × Nat)) (hs : st.seg = ⟨map, some seg, pending⟩)
    (i : Instr) (hbuild : build seg.cur name args.toList (Asm.frontEval tbl) true = .completed i)
    (hws : List Nat) (he : Codec.encode i = .ok hws)
    (hfit : seg.buf.length + 2 * hws.length ≤ seg.maxLen) :
    Asm.statement fs Asm.encoder inc env st ⟨l, c, .instruction name args⟩ =
      .ok ({ st with seg := ⟨map, some { seg with buf := seg.buf ++ (Codec.toBytes hws).map (·.toUInt8) },
                              (seg.cur, 2 * hws.length) :: pending⟩ }, .ok) ∧
    Arm.decode hws = some i := by
  have hwf : i.wf := build_wf_proof _ _ _ _ _ i hbuild
  have hlen := (Codec.enc_len i hws he hwf).1
  have henc := Asm.encoder_run i hws he (by omega)
  have hbl : ((Codec.toBytes hws).map (·.toUInt8)).length = 2 * hws.length := by simp [Asm.toBytes_length]
  have := Asm.instr_run fs Asm.encoder inc env st tbl henv hl l c name args map seg pending hs i hbuild _ henc (by rw [hbl]; exact hfit)
  rw [hbl] at this
  exact ⟨this, Codec.enc_sound i hws he hwf⟩

theorem run_defs_stmt_of_build (fs : Bytes → Option Bytes) (main data : Bytes) (hfs : fs main = some data)
    (els : List Element) (hp : Asm.parseFile data = .ok (els, none)) (A : Nat) (defs : List (Bytes × Arg))
    (name : Bytes) (args : Args) (hels : els.map (·.val) = progVals A defs name args)
    (tbl : Asm.Table) (hdefs : defsTable defs [] = some tbl)
    (i : Instr) (hbuild : build A name args.toList (Asm.frontEval tbl) true = .completed i)
    (hws : List Nat) (he : Codec.encode i = .ok hws) (hfit : A + 2 * hws.length ≤ 4294967296) :
    Asm.run fs main = .done ⟨true, none, true, [], [(A, (Codec.toBytes hws).map (·.toUInt8))]⟩ ∧
    Arm.decode hws = some i := by
  have hlen := (Codec.enc_len i hws he (build_wf_proof _ _ _ _ _ i hbuild)).1
  have ha : A < 4294967296 := by omega
  have hblen : ((Codec.toBytes hws).map (·.toUInt8)).length = 2 * hws.length := by simp [Asm.toBytes_length]
  obtain ⟨pre, l, c, rfl, hpre⟩ := progVals_split hels
  have hinstr := stmt_placed_of_build fs (Asm.assembleFile fs Asm.encoder (Asm.maxDepth - 1)) ⟨[main], main⟩ (C06.stateAt A tbl) tbl
    (by simp) rfl l c name args [] ⟨A, [], Map.u32Max - A + 1⟩ [] rfl i
    (by rw [Show.cur_empty A _ ha]; exact hbuild) hws he (by simp only [List.length_nil, Map.u32Max]; omega)
  refine ⟨?_, hinstr.2⟩
  have key := doAssemble_prog fs Asm.encoder (Asm.assembleFile fs Asm.encoder (Asm.maxDepth - 1)) ⟨[main], main⟩ (by simp)
    A ha defs tbl hdefs hpre [⟨l, c, .instruction name args⟩] none
  simp only [Asm.doAssemble, hinstr.1, Show.cur_empty A _ ha] at key
  have hrun := Asm.run_of_statements fs main data hfs _ hp tbl
    ⟨A, [] ++ (Codec.toBytes hws).map (·.toUInt8), Map.u32Max - A + 1⟩ [(A, 2 * hws.length)] key
    (by intro e; have := congrArg List.length e; simp only [List.nil_append, hblen, List.length_nil] at this; omega)
    (by simp only [List.nil_append, hblen]; exact hfit)
  simpa using hrun

theorem build_cases2 {lk : Bytes → Lookup} (hn : NoDef lk) (hT : Simp.tableOk lk) {eval : Arg → EvalOut} (hE : EvalSimp eval lk)
    (loc : Bool) (A : Nat) (name : Bytes) (args : List Arg) (t : Instr) (hm : mnemonic name = some t)
    (hw : wellFormed2 (tab lk) (sig t) args)
    (hq : ∀ vs, denoteAll2 (tab lk) (sig t) args = some vs → ¬ svQuirk t vs) :
    (∃ i hws, build A name args eval loc = .completed i ∧ Codec.encode i = .ok hws ∧
      means2 (tab lk) A name args = some i ∧ i.wf ∧ Arm.decode hws = some i) ∨
    NotEncoded (build A name args eval loc) := by
  rcases build_total2 hn hE loc A name args t hm hw with ⟨i, hb⟩ | ⟨d, st, hb⟩
  · cases he : Codec.encode i with
    | ok hws =>
      obtain ⟨h1, h2⟩ := build_sound2 hn hT hE loc A name args t hm hw i hb hq
      exact .inl ⟨i, hws, hb, he, h1, h2, Codec.enc_sound i hws he h2⟩
    | error e => exact .inr (hb ▸ .of_refused he)
  · exact .inr (hb ▸ .of_error d st)

end Trion.C04
