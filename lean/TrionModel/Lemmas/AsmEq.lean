import TrionModel.Model.Asm
/-!
# `Trion.Asm`: the equations of the model's functions

For each statement-level function, next to its definition: its value under the answers of its callees where a proof follows
one course forwards (`insertConstant_loc`, `addrDirective_one`, `constDirective_ident`, `evalStrict_complete`, `directive_<name>`;
`duDirective_one`, `instruction_one`: the first attempt, then done or the tail `placeholder` the two have in common),
and ONE exact inversion of "returned `Ok`" (`X_ok`) for the proofs that read a success backwards (the simulation of the layout
core, the scope readers): these do not unfold the function.  Two inversions of the same kind need lemmas of later files and
stand with their users: `Multi.runDataTask_ok`, `Multi.runInstrTask_ok` (Lemmas/AsmMultiTasks.lean, over the table the task
ran over).
-/
namespace Trion.Asm
open Trion

theorem arity_eq_none {dir : String} {need n : Nat} : arity dir need n = none ↔ n = need := by
  unfold arity
  split
  · simp [*]
  · split <;> simp [*]

theorem arity_one {dir : String} {args : List Arg} (h : arity dir 1 args.length = none) : ∃ a, args = [a] :=
  match args, arity_eq_none.mp h with
  | [a], _ => ⟨a, rfl⟩

theorem arity_two {dir : String} {args : List Arg} (h : arity dir 2 args.length = none) : ∃ a b, args = [a, b] :=
  match args, arity_eq_none.mp h with
  | [a, b], _ => ⟨a, b, rfl⟩

theorem insertConstant_register {st : St} {n : Bytes} (hr : Front.isRegister n = true) (v : Int) (r : Realm) :
    insertConstant st n v r = .ok (st, .error .reserved) := by
  simp [insertConstant, hr]

/-- an entry without a value is filled (`true`: it was not there), a valued one refuses -/
theorem insertConstant_loc {st : St} {t : Table} {n : Bytes} (hr : Front.isRegister n = false) (hl : st.locals = some t)
    (v : Int) :
    insertConstant st n v .loc =
      match t.find n with
      | some (some _) => .ok (st, .error (.duplicate .loc))
      | o => .ok ({ st with locals := some (t.set n (some v)) }, .ok o.isNone) := by
  simp only [insertConstant, hr, Bool.false_eq_true, if_false, hl]
  cases h : t.find n with
  | none => rfl
  | some o => cases o <;> rfl

theorem insertConstant_global {st : St} {n : Bytes} (hr : Front.isRegister n = false) (v : Int) :
    insertConstant st n v .global =
      match st.globals.find n with
      | some (some _) => .ok (st, .error (.duplicate .global))
      | o => .ok ({ st with globals := st.globals.set n (some v) }, .ok o.isNone) := by
  simp only [insertConstant, hr, Bool.false_eq_true, if_false]
  cases h : st.globals.find n with
  | none => rfl
  | some o => cases o <;> rfl

theorem insertConstant_loc_ok {st st' : St} {n : Bytes} {v : Int} {x : Bool} (h : insertConstant st n v .loc = .ok (st', .ok x)) :
    ∃ t, st.locals = some t ∧ (∀ w, t.find n ≠ some (some w)) ∧ st' = { st with locals := some (t.set n (some v)) } := by
  cases hr : Front.isRegister n with
  | true => rw [insertConstant_register hr] at h; cases h
  | false =>
    cases hl : st.locals with
    | none => simp [insertConstant, hr, hl] at h
    | some t =>
      rw [insertConstant_loc hr hl] at h
      split at h <;> cases h
      exact ⟨t, rfl, ‹_›, rfl⟩

theorem insertConstant_global_ok {st st' : St} {n : Bytes} {v : Int} {x : Bool}
    (h : insertConstant st n v .global = .ok (st', .ok x)) :
    (∀ w, st.globals.find n ≠ some (some w)) ∧ st' = { st with globals := st.globals.set n (some v) } := by
  cases hr : Front.isRegister n with
  | true => rw [insertConstant_register hr] at h; cases h
  | false =>
    rw [insertConstant_global hr] at h
    split at h <;> cases h
    exact ⟨‹_›, rfl⟩

theorem deferConstant_loc {st : St} {t : Table} {n : Bytes} (hr : Front.isRegister n = false) (hl : st.locals = some t) :
    deferConstant st n .loc =
      match t.find n with
      | some _ => .ok (st, .error (.duplicate .loc))
      | none => .ok ({ st with locals := some (t.set n none) }, .ok ()) := by
  simp only [deferConstant, hr, Bool.false_eq_true, if_false, hl]
  rfl

theorem deferConstant_global_ok {st st' : St} {n : Bytes} (h : deferConstant st n .global = .ok (st', .ok ())) :
    Front.isRegister n = false ∧ st.globals.find n = none ∧ st' = { st with globals := st.globals.set n none } := by
  cases hr : Front.isRegister n with
  | true => simp [deferConstant, hr] at h
  | false =>
    simp only [deferConstant, hr, Bool.false_eq_true, if_false] at h
    split at h <;> cases h
    exact ⟨rfl, ‹_›, rfl⟩

theorem insertConstant_reserved {st st' : St} {n : Bytes} {v : Int} {r : Realm}
    (h : insertConstant st n v r = .ok (st', .error .reserved)) : Front.isRegister n = true := by
  refine Decidable.by_contra fun hr => ?_
  unfold insertConstant at h
  rw [if_neg hr] at h
  cases r <;> simp only at h <;> repeat' split at h
  all_goals cases h

theorem deferConstant_reserved {st st' : St} {n : Bytes} {r : Realm}
    (h : deferConstant st n r = .ok (st', .error .reserved)) : Front.isRegister n = true := by
  refine Decidable.by_contra fun hr => ?_
  unfold deferConstant at h
  rw [if_neg hr] at h
  cases r <;> simp only at h <;> repeat' split at h
  all_goals cases h

theorem paths_nonempty {env : Env} (henv : env.paths ≠ []) : env.paths.isEmpty = false :=
  List.isEmpty_eq_false_iff.mpr henv

theorem evalArg_eq {env : Env} {st : St} {t : Table} (henv : env.paths.isEmpty = false) (hl : st.locals = some t)
    (a : Arg) : evalArg env st a = evalIn t a := by
  simp [evalArg, evalTable, henv, hl]

theorem evalStrict_complete {dir : String} {env : Env} {st : St} {l c : Nat} {a a' : Arg}
    (h : evalArg env st a = .ok (.complete a')) : evalStrict dir env st l c a = .ok (.ok a') := by
  simp [evalStrict, h]

theorem evalStrict_noSuch {dir : String} {env : Env} {st : St} {l c : Nat} {a a' : Arg} {n : Bytes}
    (h : evalArg env st a = .ok (.noSuch n a')) :
    evalStrict dir env st l c a = .ok (.error (st.push env l c (.dirApply dir (.eval (.noSuch n))), .err .fatal)) := by
  simp [evalStrict, h]

theorem evalStrict_ok {dir : String} {env : Env} {st : St} {t : Table} (henv : env.paths.isEmpty = false)
    (hl : st.locals = some t) {l c : Nat} {a a' : Arg} (h : evalStrict dir env st l c a = .ok (.ok a')) :
    evalIn t a = .ok (.complete a') := by
  rw [← evalArg_eq henv hl]
  unfold evalStrict at h
  split at h <;> simp_all

theorem evalStrict_error {dir : String} {env : Env} {st st1 : St} {l c : Nat} {a : Arg} {r : Res}
    (h : evalStrict dir env st l c a = .ok (.error (st1, r))) : r = .err .fatal := by
  unfold evalStrict at h
  split at h <;> simp at h <;> exact h.2.symm

/-! ## one region operation, a refusal reported: the end of `.addr`, `.align`, `.dhex/.dstr/.dfile` -/

theorem segStep_ok {s s' : Seg.State} {op : Seg.Op} {o : Seg.Out} (h : segStep s op = .ok (s', o)) : Seg.step s op = (s', o) := by
  unfold segStep at h
  split at h
  · cases h
  · rename_i he; cases h; exact he

/-- the one region operation `op` of a directive at `(l, c)`, a refusal reported: the diagnostic `e` of `Seg.step` is pushed
as the kind `mk e`, and the result is `Err(Fatal)` -/
def segResult (st : St) (env : Env) (l c : Nat) (op : Seg.Op) (mk : Seg.Diag → Kind) : Out (St × Res) :=
  match segStep st.seg op with
  | .ok (s', .diag e) => .ok (({ st with seg := s' }).push env l c (mk e), .err .fatal)
  | .ok (s', _) => .ok ({ st with seg := s' }, .ok)
  | .stop r => .stop r

theorem segResult_ok {st st' : St} {env : Env} {l c : Nat} {op : Seg.Op} {mk : Seg.Diag → Kind}
    (h : segResult st env l c op mk = .ok (st', .ok)) :
    ∃ s' o, segStep st.seg op = .ok (s', o) ∧ (∀ e, o ≠ .diag e) ∧ st' = { st with seg := s' } := by
  unfold segResult at h
  cases hs : segStep st.seg op with
  | stop r => rw [hs] at h; cases h
  | ok p =>
    obtain ⟨s', o⟩ := p
    rw [hs] at h
    cases o <;> first | (cases h; exact ⟨_, _, rfl, (fun _ e => nomatch e), rfl⟩) | cases h

theorem appendData_eq (dir : String) (env : Env) (st : St) (l c : Nat) (d : Bytes) :
    appendData dir env st l c d = segResult st env l c (.append d) fun e => .dirApply dir (.dataWrite e) := rfl

theorem addrDirective_one (env : Env) (st : St) (l c : Nat) (a : Arg) :
    addrDirective env st l c [a] =
      match evalStrict "addr" env st l c a with
      | .ok (.error r) => .ok r
      | .ok (.ok (.const v)) =>
        if 0 ≤ v ∧ v ≤ 4294967295 then segResult st env l c (.select v.toNat) fun e => .dirApply "addr" (.addrSegment e)
        else .ok (st.push env l c (.dirApply "addr" (.addrRange v)), .err .fatal)
      | .ok (.ok a') => .ok (st.push env l c (.dirArgType "addr" 0 .const a'.ty), .err .trivial)
      | .stop r => .stop r := by
  simp only [addrDirective, List.length_cons, List.length_nil, arity, if_true]
  rfl

theorem addrDirective_ok {env : Env} {st st' : St} {l c : Nat} {args : List Arg}
    (h : addrDirective env st l c args = .ok (st', .ok)) :
    ∃ a v, args = [a] ∧ evalStrict "addr" env st l c a = .ok (.ok (.const v)) ∧ (0 ≤ v ∧ v ≤ 4294967295) ∧
      segResult st env l c (.select v.toNat) (fun e => .dirApply "addr" (.addrSegment e)) = .ok (st', .ok) := by
  unfold addrDirective at h
  split at h
  · cases h
  rename_i har
  obtain ⟨a, rfl⟩ := arity_one har
  simp only at h
  split at h
  · rename_i r he; cases r; cases evalStrict_error he; cases h
  · split at h
    · exact ⟨a, _, rfl, ‹_›, ‹_›, h⟩
    · cases h
  all_goals cases h

-- `0xBE`: the byte `.align` pads with (`PADDING`, align.rs) and placeholders are filled with (data.rs; `tmp.fill(0xBE)`,
-- arm6m/mod.rs)
theorem alignDirective_ok {env : Env} {st st' : St} {l c : Nat} {args : List Arg}
    (h : alignDirective env st l c args = .ok (st', .ok)) :
    ∃ a v seg, args = [a] ∧ st.seg.active = some seg ∧ evalStrict "align" env st l c a = .ok (.ok (.const v)) ∧
      (0 < v ∧ v ≤ 4294967295) ∧
      if (seg.base + seg.buf.length) % v.toNat = 0 then st' = st
      else segResult st env l c (.append (List.replicate (v.toNat - (seg.base + seg.buf.length) % v.toNat) 0xBE))
        (fun e => .dirApply "align" (.alignWrite e)) = .ok (st', .ok) := by
  unfold alignDirective at h
  split at h
  · cases h
  split at h
  · cases h
  rename_i har
  obtain ⟨a, rfl⟩ := arity_one har
  simp only at h
  cases hes : evalStrict "align" env st l c a with
  | stop r => rw [hes] at h; cases h
  | ok x =>
    rw [hes] at h
    cases x with
    | error p => cases p; cases evalStrict_error hes; cases h
    | ok a' =>
      simp only at h
      split at h
      · cases h
      rename_i seg ha
      cases a' with
      | const v =>
        simp only at h
        split at h
        · refine ⟨a, v, seg, rfl, ha, hes, ‹_›, ?_⟩
          split at h
          · rename_i hoff; cases h; rw [if_pos hoff]
          · rename_i hoff
            rw [if_neg hoff]
            split at h
            · cases h
            · split at h
              · exact h
              · cases h
        · cases h
      | _ => cases h

theorem stringDirective_ok {fs : Bytes → Option Bytes} {dir : String} (hdir : dir = "dhex" ∨ dir = "dstr" ∨ dir = "dfile")
    {env : Env} {path : Bytes} {rest : List Bytes} (henv : env.paths = path :: rest) {st st' : St} {line col : Nat} {args : List Arg}
    (h : stringDirective fs dir env st line col args = .ok (st', .ok)) :
    ∃ s d, args = [.str s] ∧ (dir = "dhex" → dhexLoop s 0 none [] = .ok (d, none)) ∧ (dir = "dstr" → d = s) ∧
      (dir = "dfile" → fs (sibling path s) = some d) ∧ appendData dir env st line col d = .ok (st', .ok) := by
  unfold stringDirective at h
  split at h
  · simp at h
  · split at h
    · simp at h
    · rename_i har
      obtain ⟨a, rfl⟩ := arity_one har
      cases a with
      | str s =>
        simp only at h
        rcases hdir with rfl | rfl | rfl
        · simp only [if_true] at h
          split at h
          · simp at h
          · simp at h
          · rename_i bytes hd
            exact ⟨s, bytes, rfl, fun _ => hd, fun hh => by simp at hh, fun hh => by simp at hh, h⟩
        · simp only [String.reduceEq, if_false, if_true] at h
          exact ⟨s, s, rfl, fun hh => by simp at hh, fun _ => rfl, fun hh => by simp at hh, h⟩
        · simp only [String.reduceEq, if_false, henv] at h
          repeat' split at h
          all_goals first | (cases h; done) | (simp at h; done) | skip
          rename_i bytes hf
          exact ⟨s, bytes, rfl, fun hh => by simp at hh, fun hh => by simp at hh, fun _ => hf, h⟩
      | _ => simp at h

theorem constDirective_ident (env : Env) (st : St) (l c : Nat) (name : Bytes) (b : Arg) :
    constDirective env st l c [.ident name, b] =
      match evalStrict "const" env st l c b with
      | .ok (.error r) => .ok r
      | .ok (.ok (.const v)) =>
        match insertConstant st name v .loc with
        | .ok (st', .ok _) => .ok (st', .ok)
        | .ok (st', .error (.duplicate _)) =>
          .ok (st'.push env l c (.dirApply "const" (.constDirDuplicate name)), .err .fatal)
        | .ok (st', .error .reserved) => .ok (st'.push env l c (.dirApply "const" (.constReserved name)), .err .fatal)
        | .stop r => .stop r
      | .ok (.ok b') => .ok (st.push env l c (.dirArgType "const" 1 .const b'.ty), .err .trivial)
      | .stop r => .stop r := by
  simp only [constDirective, List.length_cons, List.length_nil, arity, if_true]
  rfl

theorem constDirective_notIdent {env : Env} {st : St} {l c : Nat} {a b : Arg} (ha : ∀ s, a ≠ .ident s) :
    constDirective env st l c [a, b] = .ok (st.push env l c (.dirArgType "const" 0 .ident a.ty), .err .trivial) := by
  cases a <;> first | exact absurd rfl (ha _) | simp [constDirective, arity]

theorem constDirective_ok {env : Env} {st st' : St} {l c : Nat} {args : List Arg}
    (h : constDirective env st l c args = .ok (st', .ok)) :
    ∃ name b v x, args = [.ident name, b] ∧ evalStrict "const" env st l c b = .ok (.ok (.const v)) ∧
      insertConstant st name v .loc = .ok (st', .ok x) := by
  unfold constDirective at h
  split at h
  · cases h
  split at h
  · split at h
    · rename_i r he; cases r; cases evalStrict_error he; cases h
    · split at h
      · rename_i hi; cases h; exact ⟨_, _, _, _, rfl, ‹_›, hi⟩
      all_goals cases h
    all_goals cases h
  all_goals cases h

/-- `.import` / `.export`: the value found in the one table was entered in the other, or (`.import`) the name is announced
in the includer's table and is now announced in the file's -/
theorem xferDirective_ok {g : GDir} (hg : g ≠ .global) {env : Env} {st st' : St} {l c : Nat} {args : List Arg}
    (h : globalDirective g env st l c args = .ok (st', .ok)) :
    ∃ name, args = [.ident name] ∧
      ((∃ v x, getConstant st name (if g = .export_ then .loc else .global) = .ok (.found v) ∧
          insertConstant st name v (if g = .export_ then .global else .loc) = .ok (st', .ok x)) ∨
        g = .import_ ∧ getConstant st name .global = .ok .deferred ∧ deferConstant st name .loc = .ok (st', .ok ())) := by
  unfold globalDirective at h
  split at h
  · cases h
  rename_i har
  obtain ⟨a, rfl⟩ := arity_one har
  cases a <;> try cases h
  rename_i name
  refine ⟨name, rfl, ?_⟩
  cases g with
  | global => exact absurd rfl hg
  | import_ =>
    simp only [reduceCtorEq, if_false, if_true] at h ⊢
    split at h
    · cases h
    · split at h
      · rename_i hd; cases h; exact .inr ⟨trivial, ‹_›, hd⟩
      all_goals cases h
    · split at h
      · rename_i hi; cases h; exact .inl ⟨_, _, ‹_›, hi⟩
      all_goals cases h
    · cases h
  | export_ =>
    simp only [if_true, reduceCtorEq, if_false] at h ⊢
    split at h
    · cases h
    · cases h
    · split at h
      · rename_i hi; cases h; exact .inl ⟨_, _, ‹_›, hi⟩
      all_goals cases h
    · cases h

/-- `.global`: the name was absent from the includer's table and is announced there; if the file holds it valued, the value
is entered at once -/
theorem globalDecl_ok {env : Env} {st st' : St} {l c : Nat} {args : List Arg}
    (h : globalDirective .global env st l c args = .ok (st', .ok)) :
    ∃ name st1, args = [.ident name] ∧ deferConstant st name .global = .ok (st1, .ok ()) ∧
      ∀ v, getConstant st1 name .loc = .ok (.found v) → insertConstant st1 name v .global = .ok (st', .ok false) := by
  unfold globalDirective at h
  split at h
  · cases h
  rename_i har
  obtain ⟨a, rfl⟩ := arity_one har
  cases a <;> try cases h
  rename_i name
  simp only at h
  split at h
  · rename_i st1 hd
    refine ⟨name, st1, rfl, hd, fun v hg => ?_⟩
    rw [hg] at h
    simp only at h
    split at h
    · rename_i hi; cases h; exact hi
    all_goals cases h
  all_goals cases h

theorem statement_label_ok {fs : Bytes → Option Bytes} {enc : Encoder} {inc : Inc} {env : Env} {st st' : St} {l c : Nat}
    {name : Bytes} (h : statement fs enc inc env st ⟨l, c, .label name⟩ = .ok (st', .ok)) :
    ∃ a x, currAddr st = some a ∧ insertConstant st name (a : Int) .loc = .ok (st', .ok x) := by
  simp only [statement] at h
  cases hc : currAddr st with
  | none => rw [hc] at h; cases h
  | some a =>
    rw [hc] at h
    simp only at h
    split at h
    · rename_i hi; cases h; exact ⟨a, _, rfl, hi⟩
    all_goals cases h

theorem writeStmt_placed (s : Seg.State) (addr : Nat) (d : Bytes) :
    writeStmt s true addr d =
      match segStep s (.rewrite addr d) with
      | .ok (s', .diag e) => .ok (s', true, some e)
      | .ok (s', _) => .ok (s', true, none)
      | .stop r => .stop r := rfl

theorem writeStmt_unplaced_ok {s s' : Seg.State} (ha : s.active.isSome = true) {addr : Nat} {d : Bytes} {p' : Bool}
    (h : writeStmt s false addr d = .ok (s', p', none)) :
    p' = true ∧ ∃ o, segStep s (.place d) = .ok (s', o) ∧ ∀ x, o ≠ .diag x := by
  simp only [writeStmt, ha, Bool.not_false, Bool.and_self, if_true] at h
  cases hs : segStep s (.place d) with
  | stop r => rw [hs] at h; cases h
  | ok p =>
    obtain ⟨s1, o⟩ := p
    rw [hs] at h
    cases o <;> first | (cases h; exact ⟨rfl, _, rfl, fun _ e => nomatch e⟩) | cases h

theorem writeData_ok {d d' : DataExpr} {st st' : St} {bytes : Bytes} (h : d.writeData st bytes = .ok (d', st', .ok)) :
    ∃ s' p', writeStmt st.seg d.placed d.addr bytes = .ok (s', p', none) ∧ d' = { d with placed := p' } ∧
      st' = { st with seg := s' } := by
  unfold DataExpr.writeData at h
  cases hw : writeStmt st.seg d.placed d.addr bytes with
  | stop r => rw [hw] at h; cases h
  | ok p =>
    obtain ⟨s', p', e⟩ := p
    rw [hw] at h
    cases e <;> cases h
    exact ⟨_, _, rfl, rfl, rfl⟩

theorem writeInstr_ok {enc : Encoder} {i i' : ArmInstr} {st st' : St} {df : Bool}
    (h : i.writeInstr enc st df = .ok (i', st', .ok)) :
    ∃ bytes s' p', enc i.st.instr = .ok bytes ∧
      writeStmt st.seg i.placed i.st.addr (if df then List.replicate bytes.length 0xBE else bytes) = .ok (s', p', none) ∧
      i' = { i with placed := p' } ∧ st' = { st with seg := s' } := by
  unfold ArmInstr.writeInstr at h
  cases he : enc i.st.instr with
  | error e => rw [he] at h; cases h
  | ok bytes =>
    rw [he] at h
    simp only at h
    cases hw : writeStmt st.seg i.placed i.st.addr (if df then List.replicate bytes.length 0xBE else bytes) with
    | stop r => rw [hw] at h; cases h
    | ok p =>
      obtain ⟨s', p', e⟩ := p
      rw [hw] at h
      cases e <;> cases h
      exact ⟨_, _, _, rfl, hw, rfl, rfl⟩

/-! ## `directive` on each of the thirteen names

The chain compares literal byte strings, so each equation holds by evaluation. -/

theorem directive_addr {fs : Bytes → Option Bytes} {inc : Inc} {env : Env} {st : St} {line col : Nat} {args : List Arg} :
    directive fs inc env st line col (bytesOf "addr") args = addrDirective env st line col args :=
  rfl

theorem directive_align {fs : Bytes → Option Bytes} {inc : Inc} {env : Env} {st : St} {line col : Nat} {args : List Arg} :
    directive fs inc env st line col (bytesOf "align") args = alignDirective env st line col args :=
  rfl

theorem directive_const {fs : Bytes → Option Bytes} {inc : Inc} {env : Env} {st : St} {line col : Nat} {args : List Arg} :
    directive fs inc env st line col (bytesOf "const") args = constDirective env st line col args :=
  rfl

theorem directive_du8 {fs : Bytes → Option Bytes} {inc : Inc} {env : Env} {st : St} {line col : Nat} {args : List Arg} :
    directive fs inc env st line col (bytesOf "du8") args = duDirective .u8 env st line col args :=
  rfl

theorem directive_du16 {fs : Bytes → Option Bytes} {inc : Inc} {env : Env} {st : St} {line col : Nat} {args : List Arg} :
    directive fs inc env st line col (bytesOf "du16") args = duDirective .u16 env st line col args :=
  rfl

theorem directive_du32 {fs : Bytes → Option Bytes} {inc : Inc} {env : Env} {st : St} {line col : Nat} {args : List Arg} :
    directive fs inc env st line col (bytesOf "du32") args = duDirective .u32 env st line col args :=
  rfl

theorem directive_dhex {fs : Bytes → Option Bytes} {inc : Inc} {env : Env} {st : St} {line col : Nat} {args : List Arg} :
    directive fs inc env st line col (bytesOf "dhex") args = stringDirective fs "dhex" env st line col args :=
  rfl

theorem directive_dstr {fs : Bytes → Option Bytes} {inc : Inc} {env : Env} {st : St} {line col : Nat} {args : List Arg} :
    directive fs inc env st line col (bytesOf "dstr") args = stringDirective fs "dstr" env st line col args :=
  rfl

theorem directive_dfile {fs : Bytes → Option Bytes} {inc : Inc} {env : Env} {st : St} {line col : Nat} {args : List Arg} :
    directive fs inc env st line col (bytesOf "dfile") args = stringDirective fs "dfile" env st line col args :=
  rfl

theorem directive_global {fs : Bytes → Option Bytes} {inc : Inc} {env : Env} {st : St} {line col : Nat} {args : List Arg} :
    directive fs inc env st line col (bytesOf "global") args = globalDirective .global env st line col args :=
  rfl

theorem directive_import {fs : Bytes → Option Bytes} {inc : Inc} {env : Env} {st : St} {line col : Nat} {args : List Arg} :
    directive fs inc env st line col (bytesOf "import") args = globalDirective .import_ env st line col args :=
  rfl

theorem directive_export {fs : Bytes → Option Bytes} {inc : Inc} {env : Env} {st : St} {line col : Nat} {args : List Arg} :
    directive fs inc env st line col (bytesOf "export") args = globalDirective .export_ env st line col args :=
  rfl

theorem directive_include {fs : Bytes → Option Bytes} {inc : Inc} {env : Env} {st : St} {line col : Nat} {args : List Arg} :
    directive fs inc env st line col (bytesOf "include") args = includeDirective fs inc env st line col args :=
  rfl

theorem directive_du {fs : Bytes → Option Bytes} {inc : Inc} {env : Env} {st : St} {line col : Nat} {args : List Arg} (du : DU) :
    directive fs inc env st line col (bytesOf du.name) args = duDirective du env st line col args := by
  cases du
  · rfl
  · rfl
  · rfl

theorem includeDirective_ok {fs : Bytes → Option Bytes} {inc : Inc} {env : Env} {st st' : St} {l c : Nat} {args : List Arg}
    (h : includeDirective fs inc env st l c args = .ok (st', .ok)) :
    ∃ p data, args = [.str p] ∧ fs (sibling (env.paths.headD []) p) = some data ∧
      inc env st data (sibling (env.paths.headD []) p) = .ok (st', .ok) := by
  unfold includeDirective at h
  split at h
  · cases h
  rename_i har
  obtain ⟨a, rfl⟩ := arity_one har
  cases a <;> try cases h
  rename_i p
  have e : (match env.paths with | [] => sibling [] p | curr :: _ => sibling curr p) = sibling (env.paths.headD []) p := by
    cases env.paths <;> rfl
  simp only at h
  split at h
  · cases h
  · rename_i data hfs
    split at h
    · rename_i hinc; cases h; exact ⟨p, data, rfl, by rw [← e]; exact hfs, by rw [← e]; exact hinc⟩
    all_goals cases h

theorem statement_instruction_ok {fs : Bytes → Option Bytes} {enc : Encoder} {inc : Inc} {env : Env} {st st' : St} {l c : Nat}
    {name : Bytes} {args : Args} (h : statement fs enc inc env st ⟨l, c, .instruction name args⟩ = .ok (st', .ok)) :
    instruction enc env st l c name args.toList = .ok (st', .ok) := by
  simp only [statement] at h
  split at h
  · cases h
  · exact h

/-! ## `.du*`, an instruction, a queued `.du*`: done now, or the placeholder written and the retry queued -/

/-- the tail of an instruction or `.du*` statement after a first attempt that did not complete: `w` writes placeholder
bytes, then the retry `task x` is queued in the file's own list -/
def placeholder {α : Type} (w : Out (α × St × Res)) (task : α → Task) : Out (St × Res) :=
  match w with
  | .ok (x, st2, .ok) =>
    match addTask st2 (task x) .loc with
    | .ok st3 => .ok (st3, .ok)
    | .stop r => .stop r
  | .ok (_, st2, .err l) => .ok (st2, .err l)
  | .stop r => .stop r

theorem placeholder_ok {α : Type} {w : Out (α × St × Res)} {task : α → Task} {st' : St}
    (h : placeholder w task = .ok (st', .ok)) : ∃ x st2, w = .ok (x, st2, .ok) ∧ addTask st2 (task x) .loc = .ok st' := by
  unfold placeholder at h
  split at h
  · split at h
    · rename_i hs; cases h; exact ⟨_, _, rfl, hs⟩
    · cases h
  · cases h
  · cases h

theorem duDirective_one (du : DU) (env : Env) (st : St) (l c : Nat) (b : Arg) {addr : Nat} (hc : currAddr st = some addr) :
    duDirective du env st l c [b] =
      match (⟨du, env.curName, l, c, addr, b, false⟩ : DataExpr).apply env st true with
      | .ok (_, st', .completed) => .ok (st', .ok)
      | .ok (d', st', _) => placeholder (d'.writeData st' (List.replicate du.size 0xBE)) (.data · false)
      | .stop r => .stop r := by
  simp only [duDirective, hc, arity, List.length_cons, List.length_nil, Nat.zero_add, if_true]
  unfold placeholder
  generalize DataExpr.apply _ _ _ _ = w
  rcases w with ⟨d', s, _ | _ | _⟩ | r <;> try rfl
  all_goals (dsimp only; generalize DataExpr.writeData _ _ _ = w; rcases w with ⟨x, s, _ | l⟩ | r <;> rfl)

theorem instruction_one (enc : Encoder) (env : Env) (st : St) (l c : Nat) (name : Bytes) (args : List Arg) {addr : Nat}
    {t : Instr} (hc : currAddr st = some addr) (hm : Front.mnemonic name = some t) :
    instruction enc env st l c name args =
      match (⟨env.curName, l, c, ⟨addr, t, 0, args⟩, false⟩ : ArmInstr).assemble env st true with
      | .ok (i', st', .completed) =>
        match i'.writeInstr enc st' false with
        | .ok (_, st'', r) => .ok (st'', r)
        | .stop r => .stop r
      | .ok (i', st', _) => placeholder (i'.writeInstr enc st' true) (.instr · false)
      | .stop r => .stop r := by
  simp only [instruction, hc, hm]
  unfold placeholder
  generalize ArmInstr.assemble _ _ _ _ = w
  rcases w with ⟨i', s, _ | _ | _⟩ | r <;> try rfl
  all_goals (dsimp only; generalize ArmInstr.writeInstr _ _ _ _ = w; rcases w with ⟨x, s, _ | l⟩ | r <;> rfl)

theorem duDirective_ok {du : DU} {env : Env} {st st' : St} {l c : Nat} {args : List Arg}
    (h : duDirective du env st l c args = .ok (st', .ok)) :
    ∃ addr a d1 st1 op, args = [a] ∧ currAddr st = some addr ∧
      (⟨du, env.curName, l, c, addr, a, false⟩ : DataExpr).apply env st true = .ok (d1, st1, op) ∧
      (op = .completed ∧ st' = st1 ∨ op ≠ .completed ∧ ∃ d2 st2,
        d1.writeData st1 (List.replicate du.size 0xBE) = .ok (d2, st2, .ok) ∧ d2.schedule st2 false = .ok st') := by
  cases hc : currAddr st with
  | none => simp only [duDirective, hc] at h; cases h
  | some addr =>
    cases har : arity du.name 1 args.length with
    | some k => simp only [duDirective, hc, har] at h; cases h
    | none =>
      obtain ⟨a, rfl⟩ := arity_one har
      rw [duDirective_one du env st l c a hc] at h
      split at h
      · rename_i ha; cases h; exact ⟨_, _, _, _, _, rfl, rfl, ha, .inl ⟨rfl, rfl⟩⟩
      · rename_i hne ha
        obtain ⟨d2, st2, hw, hs⟩ := placeholder_ok h
        exact ⟨_, _, _, _, _, rfl, rfl, ha, .inr ⟨hne, d2, st2, hw, hs⟩⟩
      · cases h

theorem instruction_ok {enc : Encoder} {env : Env} {st st' : St} {l c : Nat} {name : Bytes} {args : List Arg}
    (h : instruction enc env st l c name args = .ok (st', .ok)) :
    ∃ addr t i1 st1 op, Front.mnemonic name = some t ∧ currAddr st = some addr ∧
      (⟨env.curName, l, c, ⟨addr, t, 0, args⟩, false⟩ : ArmInstr).assemble env st true = .ok (i1, st1, op) ∧
      (op = .completed ∧ (∃ i2, i1.writeInstr enc st1 false = .ok (i2, st', .ok)) ∨ op ≠ .completed ∧ ∃ i2 st2,
        i1.writeInstr enc st1 true = .ok (i2, st2, .ok) ∧ i2.schedule st2 false = .ok st') := by
  cases hc : currAddr st with
  | none => simp only [instruction, hc] at h; cases h
  | some addr =>
    cases hm : Front.mnemonic name with
    | none => simp only [instruction, hc, hm] at h; cases h
    | some t =>
      rw [instruction_one enc env st l c name args hc hm] at h
      split at h
      · rename_i ha
        split at h
        · rename_i hw; cases h; exact ⟨_, _, _, _, _, rfl, rfl, ha, .inl ⟨rfl, _, hw⟩⟩
        · cases h
      · rename_i hne ha
        obtain ⟨i2, st2, hw, hs⟩ := placeholder_ok h
        exact ⟨_, _, _, _, _, rfl, rfl, ha, .inr ⟨hne, i2, st2, hw, hs⟩⟩
      · cases h

theorem runDataTask_ok_apply {d : DataExpr} {g : Bool} {env : Env} {st st' : St}
    (h : runDataTask d g env st = .ok (st', .ok)) :
    ∃ d1 st1 op, d.apply env st false = .ok (d1, st1, op) ∧
      (op = .completed ∧ st' = st1 ∨ ∃ c, op = .deferred c ∧ g = false ∧ d1.schedule st1 true = .ok st') := by
  unfold runDataTask at h
  split at h
  · rename_i ha; cases h; exact ⟨_, _, _, ha, .inl ⟨rfl, rfl⟩⟩
  · rename_i ha
    split at h
    · cases h
    · rename_i hg
      split at h
      · rename_i hs; cases h; exact ⟨_, _, _, ha, .inr ⟨_, rfl, by simpa using hg, hs⟩⟩
      · cases h
  all_goals cases h

/-- fresh `locals` / `local_tasks`; those of an includer become the new `globals` / `global_tasks`, whose old values are
kept (first two components) for `leaveFile` -/
theorem enterFile_eq (st : St) :
    enterFile st = (st.locals.map fun _ => st.globals, st.localTasks.map fun _ => st.globalTasks,
      { st with locals := some [], globals := st.locals.getD st.globals, localTasks := some [],
                globalTasks := st.localTasks.getD st.globalTasks }) := by
  unfold enterFile
  cases st.locals <;> cases st.localTasks <;> rfl

theorem enterFile_errs (st : St) : (enterFile st).2.2.errors = st.errors := by rw [enterFile_eq]

theorem leaveFile_errs (c : Option Table) (t : Option (List Task)) (st : St) : (leaveFile c t st).errors = st.errors := by
  unfold leaveFile
  cases c <;> cases t <;> rfl

theorem enterFile_queues (st : St) :
    (enterFile st).2.2.localTasks = some [] ∧
    ((st.localTasks = none ∧ (enterFile st).2.1 = none ∧ (enterFile st).2.2.globalTasks = st.globalTasks) ∨
     ∃ q, st.localTasks = some q ∧ (enterFile st).2.1 = some st.globalTasks ∧ (enterFile st).2.2.globalTasks = q) := by
  rw [enterFile_eq]
  cases st.localTasks <;> simp

theorem leaveFile_queues (c : Option Table) (st : St) :
    ((leaveFile c none st).localTasks = none ∧ (leaveFile c none st).globalTasks = st.globalTasks) ∧
    ∀ g, (leaveFile c (some g) st).localTasks = some st.globalTasks ∧ (leaveFile c (some g) st).globalTasks = g := by
  cases c <;> exact ⟨⟨rfl, rfl⟩, fun _ => ⟨rfl, rfl⟩⟩

/-- `assemble` one level down: enter the file, its body, leave it (the two `unwrap`/`assert_eq!` of `into_inner` compare
syntactically equal numbers) -/
theorem assembleFile_succ (fs : Bytes → Option Bytes) (enc : Encoder) (fuel : Nat) (env : Env) (st : St) (data path : Bytes) :
    assembleFile fs enc (fuel + 1) env st data path =
      match fileBody fs enc (assembleFile fs enc fuel) ⟨path :: env.paths, path⟩ data (enterFile st).2.2 with
      | .ok (st4, r) => .ok (leaveFile (enterFile st).1 (enterFile st).2.1 st4, r)
      | .stop s => .stop s := by
  unfold assembleFile
  simp only [List.length_cons, Nat.add_one_ne_zero, if_false, ne_eq, not_true_eq_false]
  generalize enterFile st = ef
  obtain ⟨cc, tt, st2⟩ := ef
  simp only
  cases fileBody fs enc (assembleFile fs enc fuel) ⟨path :: env.paths, path⟩ data st2 with
  | ok q => rfl
  | stop s => rfl

/-- `assemble` of the main file, as `runWith` calls it; the body starts in `(enterFile St.init).2.2` -/
theorem assembleFile_main_eq (fs : Bytes → Option Bytes) (enc : Encoder) (data main : Bytes) :
    assembleFile fs enc maxDepth Env.init St.init data main =
      match fileBody fs enc (assembleFile fs enc (maxDepth - 1)) ⟨[main], main⟩ data ⟨Seg.init, [], some [], [], some [], []⟩ with
      | .ok (st4, r) => .ok (leaveFile none none st4, r)
      | .stop s => .stop s := by
  show assembleFile fs enc (maxDepth - 1 + 1) Env.init St.init data main = _
  rw [assembleFile_succ, enterFile_eq]
  rfl

theorem finalize_nil {enc : Encoder} {env : Env} {st : St} (h : st.globalTasks = []) :
    finalize enc env st = .ok ({ st with globalTasks := [] }, !st.hasErrored) := by
  simp only [finalize, h, rounds, globalLoop, List.isEmpty_nil, if_true]
  rfl

end Trion.Asm
