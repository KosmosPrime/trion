import TrionModel.Lemmas.SimpRetry
import TrionModel.Lemmas.AsmFront
import TrionModel.Lemmas.AsmPrim
import TrionModel.Lemmas.FrontRetry
/-!
# The evaluators of `Asm` over a growing table

`evalIn` / `frontEval` read off `Simp.evaluateE` (`evalIn_complete_iff` … `frontEval_noSuch_iff`); tables `t₁ ⊆ t₂`
(`Table.Sub`) without deferred entries (`Table.NoDef`): what completes over `t₁` completes over `t₂` with the same tree
(`frontEval_complete_mono`), and nothing is deferred over `t₁` (`frontEval_never_deferred`).
-/
namespace Trion.Asm
open Trion

theorem evalIn_complete_iff {t : Table} {a a' : Arg} :
    evalIn t a = .ok (.complete a') ↔
      ∃ ev, Simp.evaluateE (fun n => t.get n) Front.isRegister a = .ok ev a' ∧ ev.cause = none := by
  unfold evalIn
  cases Simp.evaluateE (fun n => t.get n) Front.isRegister a with
  | ok ev x =>
    refine ⟨fun h => ?_, fun ⟨ev', h1, h2⟩ => by cases h1; simp only [h2]⟩
    cases hc : ev.cause <;> simp only [hc] at h <;> cases h
    exact ⟨ev, rfl, hc⟩
  | nosuch n x => simp
  | err e x => simp
  | panic => simp

theorem evalIn_deferred_iff {t : Table} {a a' : Arg} {c : Bytes} :
    evalIn t a = .ok (.deferred c a') ↔
      ∃ ev, Simp.evaluateE (fun n => t.get n) Front.isRegister a = .ok ev a' ∧ ev.cause = some c := by
  unfold evalIn
  cases Simp.evaluateE (fun n => t.get n) Front.isRegister a with
  | ok ev x =>
    refine ⟨fun h => ?_, fun ⟨ev', h1, h2⟩ => by cases h1; simp only [h2]⟩
    cases hc : ev.cause <;> simp only [hc] at h <;> cases h
    exact ⟨ev, rfl, hc⟩
  | nosuch n x => simp
  | err e x => simp
  | panic => simp

theorem evalIn_noSuch_iff {t : Table} {a a₁ : Arg} {n : Bytes} :
    evalIn t a = .ok (.noSuch n a₁) ↔ Simp.evaluateE (fun n => t.get n) Front.isRegister a = .nosuch n a₁ := by
  unfold evalIn
  cases Simp.evaluateE (fun n => t.get n) Front.isRegister a with
  | ok ev x => cases hc : ev.cause <;> simp [hc]
  | nosuch n x => simp
  | err e x => simp
  | panic => simp

theorem evalIn_err_iff {t : Table} {a a' : Arg} {e : EvalE} :
    evalIn t a = .ok (.err e a') ↔
      ∃ e', Simp.evaluateE (fun n => t.get n) Front.isRegister a = .err e' a' ∧ e = evalE e' := by
  unfold evalIn
  cases Simp.evaluateE (fun n => t.get n) Front.isRegister a with
  | ok ev x => cases hc : ev.cause <;> simp [hc]
  | nosuch n x => simp
  | err e x =>
    show Out.ok (Ev.err (evalE e) x) = _ ↔ _
    exact ⟨fun h => by cases h; exact ⟨e, rfl, rfl⟩, fun ⟨e', h1, h2⟩ => by cases h1; rw [h2]⟩
  | panic => simp

theorem evalIn_err_not_noSuch {t : Table} {a x : Arg} {n : Bytes} : evalIn t a ≠ .ok (.err (.noSuch n) x) := by
  intro h
  obtain ⟨e', _, h2⟩ := evalIn_err_iff.1 h
  cases e' <;> cases h2

theorem frontEval_complete_iff {t : Table} {a a' : Arg} :
    frontEval t a = .complete a' ↔ evalIn t a = .ok (.complete a') := by
  obtain ⟨ev, hev, -⟩ := (evalIn_ret t a).get
  simp only [frontEval, hev]
  cases ev with
  | err e x => cases e <;> simp
  | _ => simp

theorem frontEval_deferred_iff {t : Table} {a a' : Arg} {c : Bytes} :
    frontEval t a = .deferred c a' ↔ evalIn t a = .ok (.deferred c a') := by
  obtain ⟨ev, hev, -⟩ := (evalIn_ret t a).get
  simp only [frontEval, hev]
  cases ev with
  | err e x => cases e <;> simp
  | _ => simp

theorem frontEval_noSuch_iff {t : Table} {a a₁ : Arg} {n : Bytes} :
    frontEval t a = .noSuchVariable n a₁ ↔ evalIn t a = .ok (.noSuch n a₁) := by
  obtain ⟨ev, hev, -⟩ := (evalIn_ret t a).get
  simp only [frontEval, hev]
  cases ev with
  | err e x =>
    cases e with
    | noSuch m => exact absurd hev evalIn_err_not_noSuch
    | _ => simp
  | _ => simp

/-- `evalIn` does not read the `changed` flag -/
theorem evalIn_forget (t : Table) (a b : Arg)
    (h : (Simp.evaluateE (fun n => t.get n) Front.isRegister a).forget =
      (Simp.evaluateE (fun n => t.get n) Front.isRegister b).forget) : evalIn t a = evalIn t b := by
  unfold evalIn
  rcases Simp.forget_eq_cases h with ⟨e₁, e₂, x, h1, h2, hc⟩ | ⟨_, heq⟩
  · rw [h1, h2]; simp only [hc]
  · rw [heq]

theorem frontEval_congr (t : Table) (a b : Arg) (h : evalIn t a = evalIn t b) : frontEval t a = frontEval t b := by
  obtain ⟨ev, hev, -⟩ := (evalIn_ret t b).get
  unfold frontEval
  rw [h, hev]
  cases ev with
  | err e x => cases e <;> rfl
  | _ => rfl

def Table.Sub (t₁ t₂ : Table) : Prop := ∀ n v, t₁.find n = some (some v) → t₂.find n = some (some v)

/-- no entry is `None` (deferred by `.global` / `.import`) -/
def Table.NoDef (t : Table) : Prop := ∀ n, t.find n ≠ some none

theorem Table.sub_get {t₁ t₂ : Table} (h : Table.Sub t₁ t₂) : Simp.Sub (fun n => t₁.get n) (fun n => t₂.get n) := by
  intro s v hs
  have := h s v (get_found hs)
  simp [Table.get, this]

theorem Table.nodef_get {t : Table} (h : Table.NoDef t) : Simp.NoDef (fun n => t.get n) := by
  intro s hs
  exact h s (get_deferred hs)

theorem Table.Sub.refl (t : Table) : Table.Sub t t := fun _ _ h => h

theorem Table.Sub.trans {a b c : Table} (h1 : Table.Sub a b) (h2 : Table.Sub b c) : Table.Sub a c :=
  fun n v h => h2 n v (h1 n v h)

def plainArg (a : Arg) : Bool := Simp.plain Front.isRegister a

theorem evalIn_complete_mono {t₁ t₂ : Table} (hs : Table.Sub t₁ t₂) {a a' : Arg}
    (h : evalIn t₁ a = .ok (.complete a')) : evalIn t₂ a = .ok (.complete a') := by
  obtain ⟨ev, he, hc⟩ := evalIn_complete_iff.1 h
  exact evalIn_complete_iff.2 ⟨ev, Simp.evaluateE_mono_complete (Table.sub_get hs) he hc, hc⟩

theorem evalIn_not_deferred {t : Table} (hn : Table.NoDef t) (a : Arg) (c : Bytes) (a' : Arg) :
    evalIn t a ≠ .ok (.deferred c a') := by
  intro h
  obtain ⟨ev, he, hc⟩ := evalIn_deferred_iff.1 h
  rw [Simp.evaluateE_cause_none (Table.nodef_get hn) he] at hc
  cases hc

theorem frontEval_complete_mono {t₁ t₂ : Table} (hs : Table.Sub t₁ t₂) {a a' : Arg}
    (h : frontEval t₁ a = .complete a') : frontEval t₂ a = .complete a' :=
  frontEval_complete_iff.2 (evalIn_complete_mono hs (frontEval_complete_iff.1 h))

theorem frontEval_never_deferred {t : Table} (hn : Table.NoDef t) (a : Arg) (c : Bytes) (a₁ : Arg) :
    frontEval t a ≠ .deferred c a₁ :=
  fun h => evalIn_not_deferred hn a c a₁ (frontEval_deferred_iff.1 h)

end Trion.Asm

namespace Trion.Asm
open Trion Trion.Front

theorem assemble_completed_loc {st fs2 : Front.St} {e : Arg → Front.EvalOut} {l : Bool} (l' : Bool)
    (h : Front.assemble st e l = (fs2, .completed)) : Front.assemble st e l' = (fs2, .completed) :=
  assemble_loc h trivial l'

end Trion.Asm
