import TrionModel.Lemmas.MapOpsBase
/-!
# Operational `remove_range` = recursive `removeRange` on every well-formed map
-/
namespace Trion.Map
open Trion.Dict

/-- what survives of a segment below `lo` -/
def preP (f : Nat) (x : List UInt8) (lo : Nat) : Segs :=
  if (x.take (lo - f)).isEmpty then [] else [(f, x.take (lo - f))]

/-- what survives of a segment above `hi` -/
def postP (f : Nat) (x : List UInt8) (hi : Nat) : Segs :=
  if (x.drop (hi + 1 - f)).isEmpty then [] else [(max f (hi + 1), x.drop (hi + 1 - f))]

theorem removeRange_cons (f : Nat) (x : List UInt8) (r : Segs) (lo hi : Nat) :
    removeRange ((f, x) :: r) lo hi = preP f x lo ++ postP f x hi ++ removeRange r lo hi := by
  rw [removeRange]; rfl

theorem removeRange_append (P Q : Segs) (lo hi : Nat) :
    removeRange (P ++ Q) lo hi = removeRange P lo hi ++ removeRange Q lo hi := by
  induction P with
  | nil => rfl
  | cons s P ih =>
    obtain ⟨f, x⟩ := s
    simp only [List.cons_append, removeRange_cons, ih, List.append_assoc]

theorem isEmpty_false_of_pos {x : List UInt8} (h : 0 < x.length) : x.isEmpty = false := by
  cases x with
  | nil => simp at h
  | cons _ _ => rfl

theorem preP_nil {f : Nat} {x : List UInt8} {lo : Nat} (h : lo ≤ f) : preP f x lo = [] := by
  unfold preP
  rw [show lo - f = 0 by omega, List.take_zero]; rfl

theorem preP_some {f : Nat} {x : List UInt8} {lo : Nat} (h : f < lo) (hx : 0 < x.length) :
    preP f x lo = [(f, x.take (lo - f))] := by
  unfold preP
  rw [isEmpty_false_of_pos (by rw [List.length_take]; omega)]; rfl

theorem postP_nil {f : Nat} {x : List UInt8} {hi : Nat} (h : f + x.length ≤ hi + 1) : postP f x hi = [] := by
  unfold postP
  rw [List.drop_eq_nil_of_le (by omega)]; rfl

theorem postP_some {f : Nat} {x : List UInt8} {hi : Nat} (h : hi + 1 < f + x.length) (h2 : f ≤ hi + 1) :
    postP f x hi = [(hi + 1, x.drop (hi + 1 - f))] := by
  unfold postP
  rw [isEmpty_false_of_pos (by rw [List.length_drop]; omega), show max f (hi + 1) = hi + 1 by omega]; rfl

theorem postP_all {f : Nat} {x : List UInt8} {hi : Nat} (h : hi < f) (hx : 0 < x.length) :
    postP f x hi = [(f, x)] := by
  unfold postP
  rw [show hi + 1 - f = 0 by omega, List.drop_zero, isEmpty_false_of_pos hx, show max f (hi + 1) = f by omega]; rfl

theorem preP_all {f : Nat} {x : List UInt8} {lo : Nat} (h : f + x.length ≤ lo) (hx : 0 < x.length) :
    preP f x lo = [(f, x)] := by
  unfold preP
  rw [List.take_of_length_le (by omega), isEmpty_false_of_pos hx]; rfl

theorem removeRange_below (A : Segs) (lo hi : Nat) (h : lo ≤ hi)
    (hA : ∀ s ∈ A, 0 < s.2.length ∧ s.1 + s.2.length ≤ lo) : removeRange A lo hi = A := by
  induction A with
  | nil => rfl
  | cons s A ih =>
    obtain ⟨f, x⟩ := s
    have h1 := hA (f, x) (List.mem_cons_self ..)
    simp only at h1
    rw [removeRange_cons, preP_all h1.2 h1.1, postP_nil (by omega),
      ih (fun u hu => hA u (List.mem_cons_of_mem _ hu))]
    rfl

theorem removeRange_above (R : Segs) (lo hi : Nat) (h : lo ≤ hi)
    (hR : ∀ s ∈ R, 0 < s.2.length ∧ hi < s.1) : removeRange R lo hi = R := by
  induction R with
  | nil => rfl
  | cons s R ih =>
    obtain ⟨f, x⟩ := s
    have h1 := hR (f, x) (List.mem_cons_self ..)
    simp only at h1
    rw [removeRange_cons, preP_nil (by omega), postP_all h1.2 h1.1,
      ih (fun u hu => hR u (List.mem_cons_of_mem _ hu))]
    rfl

theorem removeRange_inside (M : Segs) (lo hi : Nat)
    (hM : ∀ s ∈ M, lo ≤ s.1 ∧ s.1 + s.2.length ≤ hi + 1) : removeRange M lo hi = [] := by
  induction M with
  | nil => rfl
  | cons s M ih =>
    obtain ⟨f, x⟩ := s
    have h1 := hM (f, x) (List.mem_cons_self ..)
    simp only at h1
    rw [removeRange_cons, preP_nil h1.1, postP_nil h1.2,
      ih (fun u hu => hM u (List.mem_cons_of_mem _ hu))]
    rfl

theorem removeRangeTail_def (ps1 : Segs) (hi firstIdx : Nat) (rf : Bool) (loc : Loc) :
    locate ps1 hi .below = loc →
    removeRangeTail ps1 hi firstIdx rf =
      match loc with
      | .panic => .panic "locate"
      | .none => if rf then .panic "remove_range: assert!(!remove_first)" else .ok ps1
      | .idx lastIdx =>
        if lastIdx > firstIdx then
          match ps1[lastIdx]? with
          | none => .panic "remove_range: self.parts[last_idx]"
          | some last =>
            (if hi < segLast last then (cutFront last hi).bind fun s => .ok (ps1.set lastIdx s, false)
             else .ok (ps1, true)).bind fun (ps2, removeLast) =>
            vecDrain ps2 (firstIdx + (if rf then 0 else 1)) (lastIdx + (if removeLast then 1 else 0))
        else
          if rf then vecRemove ps1 firstIdx else .ok ps1 := by
  intro h; subst h; rfl

/-- the first segment was cut from the beginning: nothing at or after it starts at or below `hi` -/
theorem rrTail_low {l : Nat} {A R : Segs} {u : Seg} (ok : Ok l (A ++ u :: R)) {hi : Nat}
    (hA : ∀ s ∈ A, s.1 ≤ hi) (hu : hi < u.1) (hR : ∀ s ∈ R, hi < s.1) :
    removeRangeTail (A ++ u :: R) hi A.length false = .ok (A ++ u :: R) := by
  have hloc := locate_below_shape ok rfl hA (show ∀ s ∈ u :: R, hi < s.1 by
    intro s hs; rcases List.mem_cons.mp hs with rfl | hs
    · exact hu
    · exact hR s hs)
  rw [removeRangeTail_def _ _ _ _ _ hloc]
  by_cases c : A.length > 0
  · rw [if_pos c]; simp only
    rw [if_neg (by omega)]; rfl
  · rw [if_neg c]; rfl

/-- the last segment starting at or below `hi` is the first one -/
theorem rrTail_first {l : Nat} {A R : Segs} {u : Seg} (ok : Ok l (A ++ u :: R)) {hi : Nat}
    (hA : ∀ s ∈ A, s.1 ≤ hi) (hu : u.1 ≤ hi) (hR : ∀ s ∈ R, hi < s.1) (rf : Bool) :
    removeRangeTail (A ++ u :: R) hi A.length rf = .ok (if rf then A ++ R else A ++ u :: R) := by
  have e : A ++ u :: R = (A ++ [u]) ++ R := by simp
  have hloc := locate_below_shape ok e (show ∀ s ∈ A ++ [u], s.1 ≤ hi by
    intro s hs; rcases List.mem_append.mp hs with hs | hs
    · exact hA s hs
    · simp only [List.mem_singleton] at hs; subst hs; exact hu) hR
  rw [removeRangeTail_def _ _ _ _ _ hloc, if_pos (by simp)]
  simp only [List.length_append, List.length_cons, List.length_nil, Nat.zero_add, Nat.add_sub_cancel]
  rw [if_neg (by omega)]
  cases rf with
  | false => rfl
  | true =>
    exact vecRemove_at rfl rfl

theorem cutFront_ok {f : Nat} {x : List UInt8} {hi : Nat} (h1 : f ≤ hi + 1) (h2 : hi + 1 < f + x.length)
    (h3 : hi < 4294967295) : cutFront (f, x) hi = .ok (hi + 1, x.drop (hi + 1 - f)) := by
  unfold cutFront
  rw [if_neg (by unfold u32Max; omega), if_neg (by simp only; omega)]
  simp only
  rw [if_neg (by omega), mkSeg_ok _ (by simp only [List.length_drop]; unfold segLast; simp only; omega)]

/-- several segments start at or below `hi`: `u`, then `M` (dropped), then `last` (cut or dropped) -/
theorem rrTail_multi {l : Nat} {A M R : Segs} {u : Seg} {fk : Nat} {xk : List UInt8}
    (ok : Ok l (A ++ u :: (M ++ (fk, xk) :: R))) {hi : Nat}
    (hA : ∀ s ∈ A, s.1 ≤ hi) (hu : u.1 ≤ hi) (hM : ∀ s ∈ M, s.1 ≤ hi) (hl : fk ≤ hi)
    (hR : ∀ s ∈ R, hi < s.1) (rf : Bool) :
    removeRangeTail (A ++ u :: (M ++ (fk, xk) :: R)) hi A.length rf =
      .ok (A ++ ((if rf then [] else [u]) ++ (postP fk xk hi ++ R))) := by
  obtain ⟨_, hxk, hbk⟩ := Ok_mem_bounds ok (show (fk, xk) ∈ A ++ u :: (M ++ (fk, xk) :: R) by simp)
  simp only at hxk hbk
  have hloc := locate_below_shape (P := A ++ u :: (M ++ [(fk, xk)])) (R := R) ok (by simp) (by
    intro s hs
    simp only [List.mem_append, List.mem_cons, List.not_mem_nil, or_false] at hs
    rcases hs with hs | rfl | hs | rfl
    · exact hA s hs
    · exact hu
    · exact hM s hs
    · exact hl) hR
  have hL : (A ++ u :: (M ++ [(fk, xk)])).length - 1 = A.length + 1 + M.length := by
    simp only [List.length_append, List.length_cons, List.length_nil]; omega
  rw [removeRangeTail_def _ _ _ _ _ hloc, if_pos (by simp; omega), hL]
  simp only
  rw [if_pos (by omega), getElem?_at (A := A ++ u :: M) (s := (fk, xk)) (R := R) (by simp) (by simp; omega)]
  simp only
  have hsl : segLast (fk, xk) = fk + xk.length - 1 := rfl
  rw [hsl]
  -- what is drained: `M` and, according to the two flags, `u` before it and the last segment after it
  by_cases c : hi < fk + xk.length - 1
  · rw [if_pos c, cutFront_ok (by omega) (by omega) (by omega), postP_some (by omega) (by omega)]
    simp only [Out.bind_ok]
    rw [set_at (A := A ++ u :: M) (s := (fk, xk)) (R := R) (by simp) (by simp; omega)]
    cases rf with
    | false =>
      rw [vecDrain_at (A := A ++ [u]) (M := M) (R := (hi + 1, xk.drop (hi + 1 - fk)) :: R) (by simp) (by simp)
        (by simp)]
      simp
    | true =>
      rw [vecDrain_at (A := A) (M := u :: M) (R := (hi + 1, xk.drop (hi + 1 - fk)) :: R) (by simp) (by simp)
        (by simp; omega)]
      simp
  · rw [if_neg c, postP_nil (by omega)]
    simp only [Out.bind_ok]
    cases rf with
    | false =>
      rw [vecDrain_at (A := A ++ [u]) (M := M ++ [(fk, xk)]) (R := R) (by simp) (by simp) (by simp; omega)]
      simp
    | true =>
      rw [vecDrain_at (A := A) (M := u :: (M ++ [(fk, xk)])) (R := R) (by simp) (by simp) (by simp; omega)]
      simp

theorem removeRange_nil (lo hi : Nat) : removeRange [] lo hi = [] := by rw [removeRange]

theorem removeRangeOps_eq {ps : Segs} (inv : MInv ps) {lo hi : Nat} (h : lo ≤ hi) (hh : hi ≤ u32Max) :
    removeRangeOps ps lo hi = .ok (removeRange ps lo hi) := by
  have hu : u32Max = 4294967295 := rfl
  have ok : Ok 0 ps := inv
  obtain ⟨A, B, R, sh⟩ := shape_exists ok lo hi
  have hloc := sh.locate_above ok
  obtain ⟨hps, hA, hB, hR⟩ := sh
  have fA2 : ∀ s ∈ A, s.1 ≤ hi := fun s hs => by have := hA s hs; omega
  have fR : ∀ s ∈ R, 0 < s.2.length ∧ hi < s.1 := fun s hs => ⟨(hR s hs).1, (hR s hs).2.2⟩
  have fR2 : ∀ s ∈ R, hi < s.1 := fun s hs => (hR s hs).2.2
  have hrhs : removeRange ps lo hi = A ++ (removeRange B lo hi ++ R) := by
    rw [hps, removeRange_append, removeRange_append, removeRange_below A lo hi h hA,
      removeRange_above R lo hi h fR]
  rw [hrhs]
  unfold removeRangeOps
  rw [hloc]
  subst hps
  cases B with
  | nil =>
    simp only [List.nil_append, removeRange_nil]
    cases R with
    | nil => simp
    | cons r0 R' =>
      rw [if_pos (by simp)]
      simp only [getElem?_mid]
      rw [if_pos (fR2 r0 (List.mem_cons_self ..))]
  | cons first B' =>
    obtain ⟨f1, x1⟩ := first
    have hb1 := (Ok_mem_bounds ok (show (f1, x1) ∈ A ++ ((f1, x1) :: B' ++ R) by simp)).2.2
    obtain ⟨hx1, hl1, hf1⟩ := hB (f1, x1) (List.mem_cons_self ..)
    have hsl1 : segLast (f1, x1) = f1 + x1.length - 1 := rfl
    simp only at hx1 hb1 hl1 hf1
    rw [if_pos (by simp)]
    simp only [List.cons_append, getElem?_mid]
    rw [if_neg (by omega)]
    simp only [hsl1]
    rcases List.eq_nil_or_concat B' with rfl | ⟨M, last, rfl⟩
    · -- exactly one segment meets the range
      have ok : Ok 0 (A ++ (f1, x1) :: R) := ok
      simp only [List.nil_append]
      rw [removeRange_cons, removeRange_nil, List.append_nil]
      by_cases cS : lo > f1 ∧ hi < f1 + x1.length - 1
      · -- split into two
        rw [if_pos cS, if_neg (by omega), if_neg (by omega),
          mkSeg_ok _ (by simp only [List.length_drop]; omega)]
        simp only [Out.bind_ok]
        rw [if_neg (by omega), mkSeg_ok _ (by simp only [List.length_take]; omega)]
        simp only [Out.bind_ok]
        rw [set_mid, vecInsert_at (A := A ++ [(f1, x1.take (lo - f1))]) (R := R) (by simp) (by simp),
          preP_some (by omega) hx1, postP_some (by omega) (by omega),
          show x1.length - (f1 + x1.length - 1 - hi) = hi + 1 - f1 by omega]
        simp
      · rw [if_neg cS]
        by_cases c1 : lo ≤ f1
        · rw [if_pos c1]
          by_cases c2 : hi < f1 + x1.length - 1
          · -- cut from the beginning
            rw [if_pos c2, cutFront_ok (by omega) (by omega) (by omega)]
            simp only [Out.bind_ok]
            rw [set_mid, rrTail_low (Ok_replace ok (by omega) (List.ne_nil_of_length_pos (by
                rw [List.length_drop]; omega)) (by rw [List.length_drop]; omega)) fA2 (by simp only; omega) fR2,
              preP_nil c1, postP_some (by omega) (by omega)]
            simp
          · -- the whole first segment goes
            rw [if_neg c2]
            simp only [Out.bind_ok]
            rw [rrTail_first ok fA2 hf1 fR2 true, preP_nil c1, postP_nil (by omega)]
            simp
        · -- truncate
          rw [if_neg c1, if_neg (by omega), mkSeg_ok _ (by simp only [List.length_take]; omega)]
          simp only [Out.bind_ok]
          rw [set_mid, rrTail_first (Ok_replace ok (Nat.le_refl _) (List.ne_nil_of_length_pos (by
              rw [List.length_take]; omega)) (by rw [List.length_take]; omega)) fA2 hf1 fR2 false,
            preP_some (by omega) hx1, postP_nil (by omega)]
          simp
    · -- several segments meet the range: first, M, last
      simp only [List.concat_eq_append] at *
      obtain ⟨fk, xk⟩ := last
      have e9 : A ++ ((f1, x1) :: (M ++ [(fk, xk)]) ++ R) = A ++ (f1, x1) :: (M ++ (fk, xk) :: R) := by simp
      have ok : Ok 0 (A ++ (f1, x1) :: (M ++ (fk, xk) :: R)) := e9 ▸ ok
      have e8 : M ++ [(fk, xk)] ++ R = M ++ (fk, xk) :: R := by simp
      rw [e8]
      obtain ⟨_, hlk, hfk⟩ := hB (fk, xk) (by simp)
      simp only at hfk
      obtain ⟨h1k, hM, _⟩ := Ok_mid2 ok
      simp only at h1k hM
      have hM2 : ∀ s ∈ M, s.1 ≤ hi := fun s hs => by have := hM s hs; omega
      have hrr : removeRange ((f1, x1) :: (M ++ [(fk, xk)])) lo hi = preP f1 x1 lo ++ postP fk xk hi := by
        rw [removeRange_cons, removeRange_append, removeRange_inside M lo hi (fun s hs => by
          have := hM s hs; omega), removeRange_cons, removeRange_nil, postP_nil (by omega),
          preP_nil (show lo ≤ fk by omega)]
        simp
      rw [hrr, if_neg (by omega)]
      by_cases c1 : lo ≤ f1
      · rw [if_pos c1, if_neg (by omega)]
        simp only [Out.bind_ok]
        rw [rrTail_multi ok fA2 hf1 hM2 hfk fR2 true, preP_nil c1]
        simp
      · rw [if_neg c1, if_neg (by omega), mkSeg_ok _ (by simp only [List.length_take]; omega)]
        simp only [Out.bind_ok]
        rw [set_mid, rrTail_multi (Ok_replace ok (Nat.le_refl _) (List.ne_nil_of_length_pos (by
            rw [List.length_take]; omega)) (by rw [List.length_take]; omega)) fA2 hf1 hM2 hfk fR2 false,
          preP_some (by omega) hx1]
        simp

end Trion.Map
