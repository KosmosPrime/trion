import TrionModel.Lemmas.AsmRefine
import TrionModel.Lemmas.AsmRetrySim
import TrionModel.Lemmas.AsmStmt
import TrionModel.Lemmas.AsmAdds
/-!
# One statement of `Asm` inside any file of a project is one step of the layout core on its abstraction

The state relations of the simulation, all the same relation at different moments:
* `Multi.Sim num enc t₂ G Gt st l` — inside the statement loop of a file at any include depth: `Good`; the regions agree
  (`SegLayout.R`); the file's table `t` is the layout core's table at the file's name space (`EnvRel`), has no unvalued
  entry and lies below the file's FINAL table `t₂`; the file's queue and the layout core's are related entry by entry
  (`TasksRel`).  `G` and `Gt` are a frame condition written as parameters: `st.globalTasks = G ∧ st.globals = Gt`, i.e. the
  includer's queue and table are what they were; every user instantiates `Gt` with the present `st.globals`, so that
  `SimR … st'` says `st'.globals = st.globals`.
* `Multi.SimR` ("the relation alone") — what `Sim` extends by `Good`: what the statement lemmas return, since `Good` of the
  new state comes from `statement_safe`.
* `Asm.Sim` (Lemmas/AsmAbs.lean) — the main file of a one-file project: `Multi.Sim` at `G = []`, `Gt = st.globals`
  (`Sim.toMulti`).
* `Multi.TSim` ("in the task loop", Lemmas/AsmMultiTasks.lean) — after the statement loop: the table IS `t₂`, the queue is empty
  (`Sim.localLoop`: from `Sim` at the last statement through the file's task loop).
* `Xfer.LoopInv` (Lemmas/AsmXferRun.lean) — `Sim` plus the bookkeeping of the flattening (publications, numbering).
The path stack is `path :: rest`.
-/
namespace Trion.Asm
open Trion Trion.SegLayout

section
variable {enc : Encoder} {st st' : St}

theorem constVal_of {t t₂ : Table} (hs : Table.Sub t t₂) {a : Arg} {v : Int}
    (h : evalIn t a = .ok (.complete (.const v))) : constVal t₂ a = some v := by
  simp [constVal, evalIn_complete_mono hs h]

theorem writeData_first {d : DataExpr} (hp : d.placed = false) {seg : Seg.Active} (ha : st.seg.active = some seg)
    {bytes : Bytes} {d' : DataExpr} (h : d.writeData st bytes = .ok (d', st', .ok)) :
    d' = { d with placed := true } ∧ ∃ s' o, segStep st.seg (.place bytes) = .ok (s', o) ∧ (∀ x, o ≠ .diag x) ∧
      st' = { st with seg := s' } := by
  obtain ⟨s', p', hw, rfl, rfl⟩ := writeData_ok h
  rw [hp] at hw
  obtain ⟨rfl, o, hs, hnd⟩ := writeStmt_unplaced_ok (by simp [ha]) hw
  exact ⟨rfl, s', o, hs, hnd, rfl⟩

theorem writeInstr_first {i : ArmInstr} (hp : i.placed = false) {seg : Seg.Active} (ha : st.seg.active = some seg)
    {df : Bool} {i' : ArmInstr} (h : i.writeInstr enc st df = .ok (i', st', .ok)) :
    ∃ bytes, enc i.st.instr = .ok bytes ∧ i' = { i with placed := true } ∧
      ∃ s' o, segStep st.seg (.place (if df then List.replicate bytes.length 0xBE else bytes)) = .ok (s', o) ∧
        (∀ x, o ≠ .diag x) ∧ st' = { st with seg := s' } := by
  obtain ⟨bytes, s', p', he, hw, rfl, rfl⟩ := writeInstr_ok h
  rw [hp] at hw
  obtain ⟨rfl, o, hs, hnd⟩ := writeStmt_unplaced_ok (by simp [ha]) hw
  exact ⟨bytes, he, rfl, s', o, hs, hnd, rfl⟩

theorem duFinal_length (t : Table) (du : DU) (a : Arg) : (duFinal t du a).length = du.size := by
  unfold duFinal
  split
  · split
    · exact leBytes_length _ _
    · simp
  · simp

theorem grew_nil {a b : St} {e : Bool} (h : a.errors.length + e.toNat ≤ b.errors.length) (hb : b.errors = []) :
    a.errors = [] ∧ e = false := by
  rw [hb] at h
  simp only [List.length_nil, Nat.le_zero_eq, Nat.add_eq_zero_iff] at h
  exact ⟨List.eq_nil_of_length_eq_zero h.1, by cases e <;> simp_all⟩

theorem assemble_completed_deps {t : Table} {addr : Nat} {tpl : Instr} {args : List Arg} {l : Bool} {fs2 : Front.St}
    (h : Front.assemble ⟨addr, tpl, 0, args⟩ (frontEval t) l = (fs2, .completed)) :
    ∀ s ∈ instrDeps (Front.kinds tpl) args, t.find s ≠ none := by
  intro s hs
  obtain ⟨k, a, hz, hev, hsa⟩ := mem_instrDeps.1 hs
  obtain ⟨j, hj⟩ := List.mem_iff_getElem?.1 hz
  obtain ⟨hk, ha⟩ := List.getElem?_zip_eq_some.1 hj
  obtain ⟨x, hx⟩ := Front.assemble_completed_evals _ _ _ _ _ _ h j k a hk ha hev
  exact evalIn_complete_idents (frontEval_complete_iff.1 hx) s hsa

theorem assemble_deferred_deps {t : Table} (hn : Table.NoDef t) {addr : Nat} {tpl : Instr} {args : List Arg} {fs1 : Front.St}
    {c : Bytes} (h : Front.assemble ⟨addr, tpl, 0, args⟩ (frontEval t) true = (fs1, .deferred c)) :
    c ∈ instrDeps (Front.kinds tpl) args ∧ t.find c = none := by
  obtain ⟨_, _, k, _, a, a', _, _, _, hz, hg, _⟩ := Front.assemble_deferred_at h
  obtain ⟨hk, _, _, hf⟩ := Front.get_deferred_inv hg
  rcases hf with hf | ⟨_, hf⟩
  · exact absurd hf (frontEval_never_deferred hn a c a')
  · obtain ⟨i1, i2⟩ := evalIn_noSuch_idents (frontEval_noSuch_iff.1 hf)
    exact ⟨mem_instrDeps.2 ⟨k, a, hz, hk, i1⟩, i2⟩

theorem instrFinal_length (henc : EncLen enc) (t : Table) (addr : Nat) (tpl : Instr) (args : List Arg) :
    (instrFinal enc t addr tpl args).length = ilen tpl := by
  unfold instrFinal
  cases hfa : Front.assemble ⟨addr, tpl, 0, args⟩ (frontEval t) true with
  | mk fs r =>
    have hkeep := (Front.assemble_keeps ⟨addr, tpl, 0, args⟩ (frontEval t) true).2
    rw [hfa] at hkeep
    cases r with
    | completed =>
      simp only
      cases he : enc fs.instr with
      | ok b => simp only; rw [henc _ _ he]; exact hkeep
      | error e => simp
    | _ => simp

theorem valueStmt_wf (num : Bytes → Nat) {len : Nat} (deps : List Bytes) {final : Bytes} (h : final.length = len) :
    (valueStmt num len deps final).wf = true := by
  unfold valueStmt
  split <;> simp [Layout.Stmt.wf, h]

theorem absStmt_wf {enc : Encoder} (henc : EncLen enc) (num : Bytes → Nat) (fs : Bytes → Option Bytes) (path : Bytes) (t : Table)
    (c : Option Nat) (el : Element) : (absStmt num fs enc path t c el).wf = true := by
  unfold absStmt
  repeat' split
  all_goals first
    | rfl
    | exact valueStmt_wf num _ (instrFinal_length henc _ _ _ _)
    | exact valueStmt_wf num _ (duFinal_length _ _ _)

end

end Trion.Asm

namespace Trion.Asm.Multi
open Trion Trion.SegLayout Trion.Asm

/-- `Sim` without `Good` (header) -/
structure SimR (num : Bytes → Nat) (enc : Encoder) (t₂ : Table) (G : List Task) (Gt : Table) (st : St) (l : Layout.State) : Prop where
  r : SegLayout.R st.seg l
  tbl : ∃ t, st.locals = some t ∧ Table.NoDef t ∧ Table.Sub t t₂ ∧ EnvRel num t l.env
  tasks : ∃ q, st.localTasks = some q ∧ TasksRel num enc t₂ q l.tasks
  gl : st.globalTasks = G ∧ st.globals = Gt

/-- the simulation relation inside the statement loop of a file (header) -/
structure Sim (num : Bytes → Nat) (enc : Encoder) (t₂ : Table) (G : List Task) (Gt : Table) (st : St) (l : Layout.State) : Prop
    extends SimR num enc t₂ G Gt st l where
  good : Good true st

section
variable {num : Bytes → Nat} {enc : Encoder} {t₂ : Table} {G : List Task} {Gt : Table}
  {st st' : St} {l : Layout.State}

theorem simR_seg (sim : Sim num enc t₂ G Gt st l) {s' : Seg.State} {l' : Layout.State} (r : R s' l')
    (he : l'.env = l.env) (ht : l'.tasks = l.tasks) : SimR num enc t₂ G Gt { st with seg := s' } l' := by
  refine ⟨r, ?_, ?_, sim.gl⟩
  · rw [he]; exact sim.tbl
  · rw [ht]; exact sim.tasks

theorem label_sim (hinj : Function.Injective num) (sim : Sim num enc t₂ G Gt st l) (fs : Bytes → Option Bytes) (inc : Inc) (env : Env) (line col : Nat)
    (name : Bytes) (h : statement fs enc inc env st ⟨line, col, .label name⟩ = .ok (st', .ok))
    (hT : ∀ t', st'.locals = some t' → Table.Sub t' t₂) :
    ∃ l', Layout.step l (.label (num name)) = .ok l' ∧ SimR num enc t₂ G Gt st' l' ∧ cursor st' = cursor st := by
  obtain ⟨t, hl, hnd, hsub, henvr⟩ := sim.tbl
  obtain ⟨a, x, hc, hi⟩ := statement_label_ok h
  obtain ⟨t', hl', hu, rfl⟩ := insertConstant_loc_ok hi
  rw [hl] at hl'; cases hl'
  cases ha : st.seg.active with
  | none => simp [currAddr, ha] at hc
  | some seg =>
    obtain rfl : seg.cur = a := by simpa [currAddr, ha] using hc
    have hla := active_of_sim sim.r ha
    obtain ⟨a1, a2, _, _⟩ := sim.good.inv.2.1 seg ha
    have hcur : (toL seg).curr = seg.cur := cur_eq seg (by omega)
    have hget : l.env.get (num name) = none := by rw [henvr name, val_none_of_find (find_fresh hnd hu)]
    refine ⟨{ l with env := (num name, ((toL seg).curr : Int)) :: l.env }, ?_, ⟨sim.r, ?_, sim.tasks, sim.gl⟩, rfl⟩
    · simp only [Layout.step, hla, Layout.insertConst, hget]
    · refine ⟨_, rfl, Table.nodef_set hnd _ _, hT _ rfl, ?_⟩
      rw [hcur]
      exact envRel_insert hinj henvr name _

theorem appendData_sim (sim : Sim num enc t₂ G Gt st l) (dir : String) (env : Env) (line col : Nat) (d : Bytes)
    (h : appendData dir env st line col d = .ok (st', .ok)) :
    ∃ l', Layout.step l (.raw d) = .ok l' ∧ SimR num enc t₂ G Gt st' l' ∧
      cursor st' = Layout.Ref.next (cursor st) (.raw d) := by
  rw [appendData_eq] at h
  obtain ⟨s', o, hs, hnd, rfl⟩ := segResult_ok h
  cases ha : st.seg.active with
  | none => simp only [segStep, Seg.step, ha] at hs; cases hs; exact absurd rfl (hnd _)
  | some seg =>
    obtain ⟨w1, w2, w3, w4⟩ := write_sim sim.good.inv sim.r ha d _ (.inl rfl) (segStep_ok hs) hnd
    refine ⟨_, w3, simR_seg sim w4 rfl rfl, ?_⟩
    simp [cursor, ha, w1, Layout.Ref.next, Nat.add_assoc]

theorem addr_sim (sim : Sim num enc t₂ G Gt st l) (env : Env) (henv : env.paths.isEmpty = false) (line col : Nat)
    (args : List Arg) (h : addrDirective env st line col args = .ok (st', .ok)) :
    ∃ a v l', args = [a] ∧ constVal t₂ a = some v ∧ Layout.step l (.addr v.toNat) = .ok l' ∧ SimR num enc t₂ G Gt st' l' ∧
      cursor st' = some v.toNat := by
  obtain ⟨t, hl, hnd, hsub, henvr⟩ := sim.tbl
  obtain ⟨a, v, rfl, hes, hv, hr⟩ := addrDirective_ok h
  obtain ⟨s', o, hs, hnd', rfl⟩ := segResult_ok hr
  have hev := evalStrict_ok henv hl hes
  have hwf : Seg.Op.wf st.seg (.select v.toNat) := by
    show v.toNat ≤ Map.u32Max
    unfold Map.u32Max; omega
  have hstep : Seg.step st.seg (.select v.toNat) = (s', o) := segStep_ok hs
  obtain ⟨l', h1, r', e', t'⟩ := step_sim sim.good.inv sim.r (.select v.toNat) hwf hstep hnd'
  refine ⟨a, v, l', rfl, constVal_of hsub hev, h1, simR_seg sim r' e' t', ?_⟩
  have hsp := Seg.select_spec sim.good.inv v.toNat hwf
  have hcs : Seg.changeSegment st.seg v.toNat = (s', o) := hstep
  rw [hcs] at hsp
  rcases hsp.2.2.2 with ⟨_, h2⟩ | ⟨_, _, seg, h3, h4, h5⟩
  · exact absurd h2 (hnd' _)
  · simp only at h3
    simp [cursor, h3, h4, h5]

theorem align_sim (sim : Sim num enc t₂ G Gt st l) (env : Env) (henv : env.paths.isEmpty = false) (line col : Nat)
    (args : List Arg) (h : alignDirective env st line col args = .ok (st', .ok)) :
    ∃ a v l', args = [a] ∧ constVal t₂ a = some v ∧ Layout.step l (.align v.toNat) = .ok l' ∧ SimR num enc t₂ G Gt st' l' ∧
      cursor st' = Layout.Ref.next (cursor st) (.align v.toNat) := by
  obtain ⟨t, hl, hnd, hsub, henvr⟩ := sim.tbl
  obtain ⟨a, v, seg, rfl, ha, hes, hv, hr⟩ := alignDirective_ok h
  have hev := evalStrict_ok henv hl hes
  have hla := active_of_sim sim.r ha
  have hn0 : ¬ (v.toNat = 0 ∨ Layout.top ≤ v.toNat) := by unfold Layout.top; omega
  have hv0 : v.toNat ≠ 0 := by omega
  split at hr
  · rename_i hoff
    subst hr
    refine ⟨a, v, l, rfl, constVal_of hsub hev, ?_, sim.toSimR, ?_⟩
    · simp only [Layout.step, hla, hn0, if_false, toL, hoff, if_true]
    · simp [cursor, ha, Layout.Ref.next, Layout.Ref.size, hoff, hv0]
  · rename_i hoff
    obtain ⟨s', o, hs, hnd', rfl⟩ := segResult_ok hr
    obtain ⟨w1, w2, w3, w4⟩ := write_sim sim.good.inv sim.r ha _ _ (.inl rfl) (segStep_ok hs) hnd'
    refine ⟨a, v, _, rfl, constVal_of hsub hev, ?_, simR_seg sim w4 rfl rfl, ?_⟩
    · rw [Layout.step_align]
      simp only [hla, hn0, if_false, toL, hoff]
      exact w3
    · simp [cursor, ha, w1, Layout.Ref.next, Layout.Ref.size, hoff, hv0, Nat.add_assoc]

theorem const_sim (hinj : Function.Injective num) (sim : Sim num enc t₂ G Gt st l) (env : Env)
    (henv : env.paths.isEmpty = false) (line col : Nat) (args : List Arg)
    (h : constDirective env st line col args = .ok (st', .ok)) (hT : ∀ t', st'.locals = some t' → Table.Sub t' t₂) :
    ∃ name b v l', args = [.ident name, b] ∧ constVal t₂ b = some v ∧
      Layout.step l (.const (num name) ((idents b).map num) v) = .ok l' ∧ SimR num enc t₂ G Gt st' l' ∧
      cursor st' = cursor st := by
  obtain ⟨t, hl, hnd, hsub, henvr⟩ := sim.tbl
  obtain ⟨name, b, v, x, rfl, hes, hi⟩ := constDirective_ok h
  have hev := evalStrict_ok henv hl hes
  obtain ⟨t', hl', hu, rfl⟩ := insertConstant_loc_ok hi
  rw [hl] at hl'; cases hl'
  have hf := find_fresh hnd hu
  have hget : l.env.get (num name) = none := by rw [henvr name, val_none_of_find hf]
  have hall := hasAll_of_known henvr hnd (evalIn_complete_idents hev)
  refine ⟨name, b, v, { l with env := (num name, v) :: l.env }, rfl, constVal_of hsub hev, ?_,
    ⟨sim.r, ?_, sim.tasks, sim.gl⟩, rfl⟩
  · simp only [Layout.step, hall, if_true, Layout.insertConst, hget]
  · exact ⟨_, rfl, Table.nodef_set hnd _ _, hT _ rfl, envRel_insert hinj henvr name v⟩

/-- a value-dependent statement (`.du*`, an instruction) whose bytes `b` are known when it is met and were placed: the layout
core appends them -/
theorem value_now (sim : Sim num enc t₂ G Gt st l) {seg : Seg.Active} (ha : st.seg.active = some seg) {b : Bytes}
    {s' : Seg.State} {o : Seg.Out} (hs : segStep st.seg (.place b) = .ok (s', o)) (hnd : ∀ x, o ≠ .diag x) (len : Nat)
    {deps : List Bytes} (hall : l.env.hasAll (deps.map num) = true) :
    seg.buf.length + b.length ≤ seg.maxLen ∧ ∃ l', Layout.step l (valueStmt num len deps b) = .ok l' ∧
      SimR num enc t₂ G Gt { st with seg := s' } l' ∧
      cursor { st with seg := s' } = (cursor st).map fun x => x + b.length := by
  obtain ⟨w1, w2, w3, w4⟩ := write_sim sim.good.inv sim.r ha _ _ (.inr rfl) (segStep_ok hs) hnd
  refine ⟨w2, _, ?_, simR_seg sim w4 rfl rfl, by simp [cursor, ha, w1, Nat.add_assoc]⟩
  rw [step_value_direct (active_of_sim sim.r ha) num _ _ _ hall]
  exact w3

/-- … whose bytes wait for a name: the placeholder was placed and `task` queued; the layout core does the same, and its
task is related to `task` -/
theorem value_later (sim : Sim num enc t₂ G Gt st l) {seg : Seg.Active} (ha : st.seg.active = some seg) {len : Nat}
    {s' : Seg.State} {o : Seg.Out} (hs : segStep st.seg (.place (List.replicate len 0xBE)) = .ok (s', o))
    (hnd : ∀ x, o ≠ .diag x) {q : List Task} (hq : st.localTasks = some q) {task : Task} {deps : List Bytes} {final : Bytes}
    (hall : l.env.hasAll (deps.map num) = false)
    (hrel : TaskRel num enc t₂ task ⟨(toL seg).curr, len, deps.map num, final⟩) :
    seg.buf.length + len ≤ seg.maxLen ∧ ∃ l', Layout.step l (valueStmt num len deps final) = .ok l' ∧
      SimR num enc t₂ G Gt { st with seg := s', localTasks := some (q ++ [task]) } l' ∧
      cursor { st with seg := s' } = (cursor st).map fun x => x + len := by
  obtain ⟨w1, w2, w3, w4⟩ := write_sim sim.good.inv sim.r ha _ _ (.inr rfl) (segStep_ok hs) hnd
  obtain ⟨q', hq', hqr⟩ := sim.tasks
  rw [hq] at hq'; cases hq'
  refine ⟨by simpa using w2, ?_, ?_, ?_, by simp [cursor, ha, w1, Nat.add_assoc]⟩
  rotate_left
  · rw [step_value_defer (active_of_sim sim.r ha) num _ _ _ hall]
    show (match Layout.append l (List.replicate len 0xBE) with | .error e => _ | .ok st' => _) = _
    rw [w3]
  · exact ⟨⟨w4.1, w4.2⟩, sim.tbl, ⟨_, rfl, TasksRel.snoc hqr hrel⟩, sim.gl⟩

/-- no diagnostic at the end: none on the way -/
theorem no_diag_before {a b c d : St} {e : Bool} (g1 : a.errors.length + e.toNat ≤ b.errors.length)
    (g2 : b.errors.length + false.toNat ≤ c.errors.length) (e3 : d.errors = c.errors) (herr : d.errors = []) : e = false := by
  rw [e3] at herr
  exact (grew_nil g1 (grew_nil g2 herr).1).2

theorem du_sim (sim : Sim num enc t₂ G Gt st l) (du : DU) (env : Env) (henv : env.paths.isEmpty = false) (line col : Nat)
    (args : List Arg)
    (h : duDirective du env st line col args = .ok (st', .ok)) (herr : st'.errors = []) :
    ∃ a l', args = [a] ∧ Layout.step l (valueStmt num du.size (idents a) (duFinal t₂ du a)) = .ok l' ∧
      SimR num enc t₂ G Gt st' l' ∧ (cursor st' = (cursor st).map fun x => x + du.size) ∧ DuFate t₂ st' du a := by
  obtain ⟨addr, a, d1, st1, op, hargs, hc, hap, hrest⟩ := duDirective_ok h
  cases ha : st.seg.active with
  | none => simp [currAddr, ha] at hc
  | some seg =>
  have hcur0 : addr = seg.cur := by simpa [currAddr, ha] using hc.symm
  generalize hd : (⟨du, env.curName, line, col, addr, a, false⟩ : DataExpr) = d at hap
  have hp : d.placed = false := by rw [← hd]
  have hcur : d.addr = seg.cur := by rw [← hd]; exact hcur0
  obtain rfl : d.du = du := by rw [← hd]
  obtain rfl : d.arg = a := by rw [← hd]
  refine ⟨d.arg, ?_⟩
  suffices hs : ∃ l', Layout.step l (valueStmt num d.du.size (idents d.arg) (duFinal t₂ d.du d.arg)) = .ok l' ∧
      SimR num enc t₂ G Gt st' l' ∧ (cursor st' = (cursor st).map fun x => x + d.du.size) ∧ DuFate t₂ st' d.du d.arg by
    obtain ⟨l', h1, h2, h3, h4⟩ := hs
    exact ⟨l', hargs, h1, h2, h3, h4⟩
  obtain ⟨t, hl, hnd, hsub, henvr⟩ := sim.tbl
  obtain ⟨q, hq, _⟩ := sim.tasks
  obtain ⟨a1, a2, _, _⟩ := sim.good.inv.2.1 seg ha
  have hg1 := (apply_addsK (m := .stmt) ⟨rfl, rfl, rfl⟩ _ _ _ hap).1.length
  have ht : evalTable env st = .ok t := by simp [evalTable, henv, hl]
  -- the placeholder and the queued retry, when `apply` did not complete
  have tail : op ≠ .completed → ∃ d2 st2, d1.writeData st1 (List.replicate d.du.size 0xBE) = .ok (d2, st2, .ok) ∧
      d2.schedule st2 false = .ok st' := fun hop => (hrest.resolve_left fun ho => hop ho.1).2
  rcases apply_eval ht hap with ⟨v, hev, hv, rfl, hw⟩ | ⟨n, x, hev, _, rfl, rfl, rfl⟩ | ⟨c, x, hev, _⟩ | ⟨lv, rfl⟩
  · obtain rfl : st' = st1 := (hrest.resolve_right fun hn => hn.1 rfl).2
    obtain ⟨_, s', o, hs, hnd', rfl⟩ := writeData_first (d := { d with arg := .const v }) hp ha hw
    obtain ⟨_, l', h1, h2, h3⟩ := value_now sim ha hs hnd' d.du.size (hasAll_of_known henvr hnd (evalIn_complete_idents hev))
    have hfin : duFinal t₂ d.du d.arg = leBytes d.du.size v.toNat := by
      simp only [duFinal, constVal_of hsub hev, hv, and_self, if_true]
    rw [hfin]
    exact ⟨l', h1, h2, by rw [h3, leBytes_length], .inl ⟨v, constVal_of hsub hev, hv.1, hv.2⟩⟩
  · obtain ⟨d2, st2, hw, hsch⟩ := tail (by simp)
    obtain ⟨rfl, s', o, hs, hnd', rfl⟩ := writeData_first (d := { d with arg := x }) hp ha hw
    obtain ⟨i1, i2⟩ := evalIn_noSuch_idents hev
    simp only [DataExpr.schedule, Bool.false_eq_true, if_false, addTask, hq] at hsch
    cases hsch
    obtain ⟨_, l', h1, h2, h3⟩ := value_later sim ha hs hnd' hq (final := duFinal t₂ d.du d.arg)
      (task := .data { d with arg := x, placed := true } false) (not_hasAll_of_unknown henvr i1 i2)
      ⟨rfl, rfl, by rw [cur_eq seg (by omega), hcur], rfl, d.arg, t, n, hsub, hnd, hev, rfl, rfl⟩
    exact ⟨l', h1, h2, h3, .inr ⟨q, _, t, n, rfl, rfl, hsub, hnd, hev⟩⟩
  · exact absurd hev (evalIn_not_deferred hnd _ _ _)
  · obtain ⟨d2, st2, hw, hsch⟩ := tail (by simp)
    exact absurd (no_diag_before hg1 (writeData_addsK (m := .stmt) ⟨rfl, rfl, rfl⟩ _ _ _ hw).1.length (addTask_errs hsch) herr)
      (by simp)

theorem instr_core (henc : EncLen enc) (sim : Sim num enc t₂ G Gt st l) (env : Env) (henv : env.paths.isEmpty = false)
    {seg : Seg.Active} (ha : st.seg.active = some seg) (tpl : Instr) (args : List Arg)
    (file : Bytes) (line col : Nat)
    {i1 : ArmInstr} {st1 : St} {op : Op}
    (has : (⟨file, line, col, ⟨seg.cur, tpl, 0, args⟩, false⟩ : ArmInstr).assemble env st true = .ok (i1, st1, op))
    (hrest : op = .completed ∧ (∃ i2, i1.writeInstr enc st1 false = .ok (i2, st', .ok)) ∨ op ≠ .completed ∧ ∃ i2 st2,
      i1.writeInstr enc st1 true = .ok (i2, st2, .ok) ∧ i2.schedule st2 false = .ok st')
    (herr : st'.errors = []) :
    ∃ l', Layout.step l (valueStmt num (ilen tpl) (instrDeps (Front.kinds tpl) args)
        (instrFinal enc t₂ (seg.base + seg.buf.length) tpl args)) = .ok l' ∧
      SimR num enc t₂ G Gt st' l' ∧ (cursor st' = (cursor st).map fun x => x + ilen tpl) ∧
      InstrFate enc t₂ st' (seg.base + seg.buf.length) tpl args := by
  obtain ⟨t, hl, hnd, hsub, henvr⟩ := sim.tbl
  obtain ⟨q, hq, _⟩ := sim.tasks
  obtain ⟨a1, a2, _, _⟩ := sim.good.inv.2.1 seg ha
  have hpos : 0 < ilen tpl := by cases tpl <;> simp [ilen]
  have hg1 := (assembleI_addsK (m := .stmt) ⟨rfl, rfl, rfl⟩ _ _ _ has).1.length
  have tail : op ≠ .completed → ∃ i2 st2, i1.writeInstr enc st1 true = .ok (i2, st2, .ok) ∧
      i2.schedule st2 false = .ok st' := fun hop => (hrest.resolve_left fun ho => hop ho.1).2
  obtain ⟨fs, r, hfa, rfl, hout⟩ := assembleI_ok (T := t) (by simp [evalTable, henv, hl]) has
  have hfa : Front.assemble ⟨seg.cur, tpl, 0, args⟩ (frontEval t) true = (fs, r) := hfa
  obtain ⟨hka, hkl⟩ : fs.addr = seg.cur ∧ ilen fs.instr = ilen tpl := by
    simpa [hfa] using Front.assemble_keeps ⟨seg.cur, tpl, 0, args⟩ (frontEval t) true
  rcases hout with ⟨rfl, rfl, rfl⟩ | ⟨c, rfl, rfl, rfl⟩ | ⟨dg, rfl, rfl, rfl⟩
  · obtain ⟨i2, hw⟩ := (hrest.resolve_right fun hn => hn.1 rfl).2
    obtain ⟨bytes, he, _, s', o, hs, hnd', rfl⟩ := writeInstr_first (i := ⟨file, line, col, fs, false⟩) rfl ha hw
    simp only [Bool.false_eq_true, if_false] at hs he
    obtain ⟨w2, l', h1, h2, h3⟩ := value_now sim ha hs hnd' (ilen tpl) (hasAll_of_known henvr hnd (assemble_completed_deps hfa))
    have hblen : bytes.length = ilen tpl := by rw [henc _ _ he, hkl]
    have hct : seg.cur = seg.base + seg.buf.length :=
      cur_true (sim.good.inv.2.1 seg ha) (n := bytes.length) (by omega) w2
    have hmono := Front.assemble_completed_mono (e₂ := frontEval t₂) (st := ⟨seg.cur, tpl, 0, args⟩)
        (fun a _ => (grows_all hsub hnd a).complete) hfa true
    rw [hct] at hmono
    have hfin : instrFinal enc t₂ (seg.base + seg.buf.length) tpl args = bytes := by
      simp only [instrFinal, hmono, he]
    rw [hfin]
    exact ⟨l', h1, h2, by rw [h3, hblen], .inl ⟨fs, bytes, hmono, he⟩⟩
  · obtain ⟨i2, st2, hw, hsch⟩ := tail (by simp)
    obtain ⟨ph, he, rfl, s', o, hs, hnd', rfl⟩ := writeInstr_first (i := ⟨file, line, col, fs, false⟩) rfl ha hw
    simp only [if_true] at hs he
    rw [show ph.length = ilen tpl by rw [henc _ _ he, hkl]] at hs
    obtain ⟨i1', i2'⟩ := assemble_deferred_deps hnd hfa
    simp only [ArmInstr.schedule, Bool.false_eq_true, if_false, addTask, hq] at hsch
    cases hsch
    have hcurr : (toL seg).curr = seg.cur := cur_eq seg (by omega)
    have hrel : ∀ hct : seg.cur = seg.base + seg.buf.length, TaskRel num enc t₂ (.instr ⟨file, line, col, fs, true⟩ false)
        ⟨(toL seg).curr, ilen tpl, (instrDeps (Front.kinds tpl) args).map num,
          instrFinal enc t₂ (seg.base + seg.buf.length) tpl args⟩ := fun hct =>
      ⟨rfl, rfl, by rw [hcurr, hka], hkl.symm, tpl, args, t, c, hsub, hnd, by rw [hka]; exact hfa, rfl, by rw [hka, hct]⟩
    obtain ⟨w2, _⟩ := write_sim sim.good.inv sim.r ha _ _ (.inr rfl) (segStep_ok hs) hnd' |>.2
    have hct : seg.cur = seg.base + seg.buf.length := cur_true (sim.good.inv.2.1 seg ha) hpos (by simpa using w2)
    obtain ⟨_, l', h1, h2, h3⟩ := value_later sim ha hs hnd' hq (not_hasAll_of_unknown henvr i1' i2') (hrel hct)
    exact ⟨l', h1, h2, h3, .inr ⟨q, _, t, c, rfl, by rw [← hct]; exact hka, hsub, hnd, by rw [← hct]; exact hfa⟩⟩
  · obtain ⟨i2, st2, hw, hsch⟩ := tail (by simp)
    exact absurd (no_diag_before hg1 (writeInstr_addsK (m := .stmt) ⟨rfl, rfl, rfl⟩ _ _ _ hw).1.length (addTask_errs hsch)
      herr) (by simp)

theorem instr_sim (henc : EncLen enc) (sim : Sim num enc t₂ G Gt st l) (env : Env) (henv : env.paths.isEmpty = false)
    (line col : Nat) (name : Bytes) (args : List Arg)
    (h : instruction enc env st line col name args = .ok (st', .ok)) (herr : st'.errors = []) :
    ∃ tpl c l', Front.mnemonic name = some tpl ∧ cursor st = some c ∧
      Layout.step l (valueStmt num (ilen tpl) (instrDeps (Front.kinds tpl) args) (instrFinal enc t₂ c tpl args)) = .ok l' ∧
      SimR num enc t₂ G Gt st' l' ∧ cursor st' = some (c + ilen tpl) ∧ InstrFate enc t₂ st' c tpl args := by
  obtain ⟨addr, tpl, i1, st1, op, hm, hc, has, hrest⟩ := instruction_ok h
  cases ha : st.seg.active with
  | none => simp [currAddr, ha] at hc
  | some seg =>
    obtain rfl : seg.cur = addr := by simpa [currAddr, ha] using hc
    obtain ⟨l', h1, h2, h3, h4⟩ := instr_core henc sim env henv ha tpl args env.curName line col has hrest herr
    exact ⟨tpl, seg.base + seg.buf.length, l', hm, by simp [cursor, ha], h1, h2, by rw [h3]; simp [cursor, ha], h4⟩

/-- one statement that succeeded without a diagnostic is one step of the layout core on its abstraction, which is no
fallback: its value-dependent bytes are genuine over the final table already, or the statement is queued with its first
attempt on record -/
theorem statement_sim_fate (hinj : Function.Injective num) (henc : EncLen enc) (sim : Sim num enc t₂ G Gt st l)
    (fs : Bytes → Option Bytes) (inc : Inc) (env : Env) (path : Bytes) {rest : List Bytes} (henv : env.paths = path :: rest) (el : Element)
    (hok : okEl el = true)
    (h : statement fs enc inc env st el = .ok (st', .ok)) (herr : st'.errors = [])
    (hT : ∀ t', st'.locals = some t' → Table.Sub t' t₂) :
    ∃ l', Layout.step l (absStmt num fs enc path t₂ (cursor st) el) = .ok l' ∧ SimR num enc t₂ G Gt st' l' ∧
      cursor st' = Layout.Ref.next (cursor st) (absStmt num fs enc path t₂ (cursor st) el) ∧
      ElFate fs enc path t₂ (cursor st) st' el := by
  have henv' : env.paths.isEmpty = false := by rw [henv]; rfl
  obtain ⟨line, col, val⟩ := el
  cases val with
  | label name =>
    obtain ⟨l', h1, h2, h3⟩ := label_sim hinj sim fs inc env line col name h hT
    exact ⟨l', by simpa [absStmt] using h1, h2, by simp [absStmt, Layout.Ref.next, h3], trivial⟩
  | instruction name args =>
    obtain ⟨tpl, c, l', hm, hc, h1, h2, h3, h4⟩ :=
      instr_sim henc sim env henv' line col name args.toList (statement_instruction_ok h) herr
    refine ⟨l', ?_, h2, ?_, tpl, c, hm, hc, h4⟩
    · simp only [absStmt, hm, hc, Option.getD_some]; exact h1
    · simp only [absStmt, hm, hc, Option.getD_some]
      rw [next_value _ _ _ _ _ (instrFinal_length henc _ _ _ _), h3]
      rfl
  | directive name args =>
    simp only [okEl, Bool.not_eq_true', Bool.or_eq_false_iff, decide_eq_false_iff_not] at hok
    obtain ⟨⟨⟨hn1, hn2⟩, hn3⟩, hn4⟩ := hok
    simp only [statement] at h
    revert h
    refine directive_cases (P := fun o => o = .ok (st', .ok) → _) ?_ ?_ ?_ ?_ ?_ ?_ ?_ ?_
    · rintro rfl h
      obtain ⟨a, v, l', ha, hv, h1, h2, h3⟩ := addr_sim sim env henv' line col args.toList h
      simp (config := { decide := true }) only [absStmt, ElFate, ElGenW, ha, hv, if_true, if_false]
      refine ⟨l', h1, h2, h3, a, v, rfl, hv, ?_⟩
      simp only [Layout.step, Layout.changeSeg] at h1
      split at h1
      · cases h1
      · rename_i hlt; unfold Layout.top at hlt; omega
    · rintro rfl h
      obtain ⟨a, v, l', ha, hv, h1, h2, h3⟩ := align_sim sim env henv' line col args.toList h
      simp (config := { decide := true }) only [absStmt, ElFate, ElGenW, ha, hv, if_true, if_false]
      refine ⟨l', h1, h2, h3, a, v, rfl, hv, ?_⟩
      rw [Layout.step_align] at h1
      split at h1
      · cases h1
      · split at h1
        · cases h1
        · rename_i hr; unfold Layout.top at hr; omega
    · rintro rfl h
      obtain ⟨nm, b, v, l', ha, hv, h1, h2, h3⟩ := const_sim hinj sim env henv' line col args.toList h hT
      simp (config := { decide := true }) only [absStmt, ElFate, ElGenW, ha, hv, if_true, if_false]
      exact ⟨l', h1, h2, h3, nm, b, v, rfl, hv⟩
    · rintro du rfl h
      obtain ⟨a, l', ha, h1, h2, h3, h4⟩ := du_sim sim du env henv' line col args.toList h herr
      cases du <;>
      · simp (config := { decide := true }) only [absStmt, ElFate, ElGenW, duOf, ha, if_true, if_false]
        exact ⟨l', h1, h2, by rw [next_value _ _ _ _ _ (duFinal_length _ _ _), h3], _, _, rfl, rfl, h4⟩
    · rintro dir hdir rfl h
      obtain ⟨s, d, ha, c1, c2, c3, happ⟩ := stringDirective_ok hdir henv h
      obtain ⟨l', h1, h2, h3⟩ := appendData_sim sim dir env line col d happ
      rcases hdir with rfl | rfl | rfl
      · simp (config := { decide := true }) only [absStmt, ElFate, ElGenW, ha, c1 rfl, if_true, if_false]
        exact ⟨l', h1, h2, h3, s, d, rfl, c1 rfl⟩
      · obtain rfl := c2 rfl
        simp (config := { decide := true }) only [absStmt, ElFate, ElGenW, ha, if_true, if_false]
        exact ⟨l', h1, h2, h3, _, rfl⟩
      · simp (config := { decide := true }) only [absStmt, ElFate, ElGenW, ha, c3 rfl, if_true, if_false]
        exact ⟨l', h1, h2, h3, s, d, rfl, c3 rfl⟩
    · intro g hg
      cases g
      · exact absurd hg hn2
      · exact absurd hg hn3
      · exact absurd hg hn4
    · exact fun hi => absurd hi hn1
    · intro h; cases h

end

end Trion.Asm.Multi

namespace Trion.Asm
open Trion Trion.SegLayout

section
variable {num : Bytes → Nat} {enc : Encoder} {t₂ : Table}
  {st st' : St} {l : Layout.State}

theorem Sim.toMulti (s : Sim num enc t₂ st l) : Multi.Sim num enc t₂ [] st.globals st l :=
  ⟨⟨s.r, s.tbl, s.tasks, s.gl, rfl⟩, s.good⟩

theorem statement_fate (hinj : Function.Injective num) (henc : EncLen enc) (sim : Sim num enc t₂ st l)
    (fs : Bytes → Option Bytes) (inc : Inc) (env : Env) (path : Bytes) (henv : env.paths = [path]) (el : Element)
    (hok : okEl el = true)
    (h : statement fs enc inc env st el = .ok (st', .ok)) (herr : st'.errors = [])
    (hT : ∀ t', st'.locals = some t' → Table.Sub t' t₂) :
    ElFate fs enc path t₂ (cursor st) st' el :=
  let ⟨_, _, _, _, h4⟩ := Multi.statement_sim_fate hinj henc sim.toMulti fs inc env path henv el hok h herr hT
  h4

end

end Trion.Asm
