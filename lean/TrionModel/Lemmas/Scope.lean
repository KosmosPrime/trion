import TrionModel.Lemmas.ScopeDefs
/-! The scope model function by function.  The table primitives and the handlers of single statements and tasks
(`insertConstant` … `doUse`, `runUse`) each have a `Sat x guard post`: the arms of the result, and the guard under which
there is no panic.  What is built on them (`addTask`, `writeVal`, `intoInner`, `exitFile`, `finalize`, `step`) has its result
arms here as `_loc`/`_cases`/`_eq` lemmas and its freedom from panics as the `_ok` lemmas of Lemmas/ScopePanic.lean, which also
cover the task loops.  `Acts` — the elementary changes every statement and task is made of — has the preservation lemma
`Acts.pres`, which carries `Eff` and the invariants of reachable states over statements, tasks, the task loops, ops and
runs. -/
namespace Trion.Scope

theorem Table.find_set (t : Table) (n m : Bytes) (v : Option Int) :
    (t.set n v).find m = if n = m then some v else t.find m := by
  induction t with
  | nil => simp [Table.set, Table.find]
  | cons e t ih =>
    obtain ⟨k, w⟩ := e
    by_cases hk : k = n
    · subst hk; by_cases hm : k = m <;> simp [Table.set, Table.find, hm]
    · by_cases hm : k = m
      · subst hm
        have hk' : ¬ n = k := fun e => hk e.symm
        simp [Table.set, Table.find, hk, hk']
      · simp [Table.set, Table.find, hk, hm, ih]

theorem Table.find_set_same (t : Table) (n : Bytes) (v : Option Int) : (t.set n v).find n = some v := by
  rw [Table.find_set, if_pos rfl]

theorem Table.find_set_other (t : Table) (n m : Bytes) (v : Option Int) (h : n ≠ m) :
    (t.set n v).find m = t.find m := by
  rw [Table.find_set, if_neg h]

def Table.keys (t : Table) : List Bytes := t.map (·.1)

theorem Table.find_none_iff (t : Table) (n : Bytes) : t.find n = none ↔ n ∉ t.keys := by
  induction t with
  | nil => simp [Table.find, Table.keys]
  | cons e t ih =>
    obtain ⟨k, w⟩ := e
    have hk : Table.keys ((k, w) :: t) = k :: Table.keys t := rfl
    rw [hk, List.mem_cons]
    by_cases h : k = n
    · subst h; simp [Table.find]
    · have h' : ¬ n = k := fun e => h e.symm
      simp only [Table.find, h, if_false, h', false_or]; exact ih

theorem Table.set_keys_nodup (t : Table) (n : Bytes) (v : Option Int) (h : t.keys.Nodup) :
    (t.set n v).keys.Nodup := by
  induction t with
  | nil => simp [Table.set, Table.keys]
  | cons e t ih =>
    obtain ⟨k, w⟩ := e
    simp only [Table.keys, List.map_cons, List.nodup_cons] at h
    by_cases hk : k = n
    · simp only [Table.set, hk, if_true, Table.keys, List.map_cons, List.nodup_cons]
      subst hk; exact h
    · simp only [Table.set, hk, if_false, Table.keys, List.map_cons, List.nodup_cons]
      refine ⟨?_, ih h.2⟩
      intro hmem
      have : Table.find (Table.set t n v) k ≠ none := by
        intro hn
        exact ((Table.find_none_iff _ _).1 hn) hmem
      rw [Table.find_set_other _ _ _ _ (fun e => hk e.symm)] at this
      exact this ((Table.find_none_iff _ _).2 h.1)

theorem Table.le_refl (t : Table) : t.le t := fun _ _ h => h

theorem Table.le_trans {a b c : Table} (h1 : a.le b) (h2 : b.le c) : a.le c :=
  fun n v h => h2 n v (h1 n v h)

theorem Table.le_set (t : Table) (n : Bytes) (v : Option Int) (h : ∀ w, t.find n ≠ some (some w)) :
    t.le (t.set n v) := by
  intro m w hm
  by_cases e : n = m
  · subst e; exact absurd hm (h w)
  · rw [Table.find_set_other _ _ _ _ e]; exact hm

theorem tables_enterFile (s : State) (tag : Nat) : tables (enterFile s tag) = [] :: tables s := by
  unfold tables enterFile
  cases h : s.locals <;> cases h2 : s.localTasks <;> simp

theorem taskStack_enterFile (s : State) (tag : Nat) : taskStack (enterFile s tag) = [] :: taskStack s := by
  unfold taskStack enterFile
  cases h : s.locals <;> cases h2 : s.localTasks <;> simp

theorem intoInner_eq {s s' : State} {f : Saved} {fs : List Saved} (h : intoInner s f fs = .ok s') :
    ∃ d, s.depth = d + 1 ∧ f.count = d + 1 ∧
      s' = { s with depth := d, globals := f.constants.getD s.globals, locals := f.constants.map fun _ => s.globals,
                    globalTasks := f.tasks.getD s.globalTasks, localTasks := f.tasks.map fun _ => s.globalTasks,
                    frames := fs } := by
  unfold intoInner at h
  split at h
  · cases h
  · rename_i hc
    split at h
    · cases h
    · rename_i d hd
      cases h
      refine ⟨d, hd, (Decidable.not_not.1 hc).symm.trans hd, ?_⟩
      cases f.constants <;> cases f.tasks <;> rfl

theorem tables_intoInner {s s' : State} {f : Saved} {fs : List Saved} (hf : s.frames = f :: fs)
    (hl : s.locals.isSome) (h : intoInner s f fs = .ok s') : tables s' = (tables s).tail := by
  obtain ⟨d, _, _, rfl⟩ := intoInner_eq h
  obtain ⟨l, hl'⟩ := Option.isSome_iff_exists.1 hl
  unfold tables
  cases hc : f.constants <;> simp [hf, hl', hc]

theorem taskStack_intoInner {s s' : State} {f : Saved} {fs : List Saved} (hf : s.frames = f :: fs)
    (hl : s.localTasks.isSome) (h : intoInner s f fs = .ok s') : taskStack s' = (taskStack s).tail := by
  obtain ⟨d, _, _, rfl⟩ := intoInner_eq h
  obtain ⟨l, hl'⟩ := Option.isSome_iff_exists.1 hl
  unfold taskStack
  cases ht : f.tasks <;> simp [hf, hl', ht]

/-- `x` returns a value satisfying `post`, and it panics only where `guard` fails: the one specification of a model
function, read as an inversion (`Sat.ok`) and as panic freedom (`Sat.total`).  The same idea for the other two machines:
`Layout.Sat x post` (`Except Fail` has diagnostics besides the panic, so there is no guard: hypotheses stand outside)
and `Asm.Out.Post Q S` (`Lemmas/AsmOut.lean`: a predicate `S` on what stops the run). -/
def Sat {α : Type} (x : Except Panic α) (guard : Prop) (post : α → Prop) : Prop :=
  match x with
  | .ok a => post a
  | .error _ => ¬ guard

theorem Sat.ok {α : Type} {x : Except Panic α} {g : Prop} {post : α → Prop} {a : α} (h : Sat x g post)
    (e : x = .ok a) : post a := by
  subst e; exact h

theorem Sat.err {α : Type} {x : Except Panic α} {g : Prop} {post : α → Prop} {p : Panic} (h : Sat x g post)
    (e : x = .error p) : ¬ g := by
  subst e; exact h

theorem Sat.total {α : Type} {x : Except Panic α} {g : Prop} {post : α → Prop} (h : Sat x g post) (hg : g) :
    ∃ a, x = .ok a ∧ post a := by
  cases x with
  | ok a => exact ⟨a, rfl, h⟩
  | error p => exact absurd hg h

theorem insertConstant_spec (s : State) (n : Bytes) (v : Int) (r : Realm) :
    Sat (insertConstant s n v r) (r = .loc → s.locals.isSome) fun (s', res) =>
    (s' = s ∧ ((isReg n = true ∧ res = .error .reserved) ∨ (isReg n = false ∧ res = .error (.duplicate r)))) ∨
    (isReg n = false ∧ (∃ b, res = .ok b) ∧
      ((r = .global ∧ (∀ w, s.globals.find n ≠ some (some w)) ∧
          s' = { s with globals := s.globals.set n (some v) }) ∨
       (∃ l, r = .loc ∧ s.locals = some l ∧ (∀ w, l.find n ≠ some (some w)) ∧
          s' = { s with locals := some (l.set n (some v)) }))) := by
  unfold insertConstant
  split
  · rename_i hr; exact .inl ⟨rfl, .inl ⟨hr, rfl⟩⟩
  · rename_i hr
    have hr : isReg n = false := by simpa using hr
    cases r with
    | global =>
      dsimp only
      split
      · rename_i hf; exact .inr ⟨hr, ⟨_, rfl⟩, .inl ⟨rfl, by simp [hf], rfl⟩⟩
      · rename_i hf; exact .inr ⟨hr, ⟨_, rfl⟩, .inl ⟨rfl, by simp [hf], rfl⟩⟩
      · exact .inl ⟨rfl, .inr ⟨hr, rfl⟩⟩
    | loc =>
      dsimp only
      split
      · rename_i hl; exact fun g => by simp [hl] at g
      · rename_i l hl
        split
        · rename_i hf; exact .inr ⟨hr, ⟨_, rfl⟩, .inr ⟨l, rfl, hl, by simp [hf], rfl⟩⟩
        · rename_i hf; exact .inr ⟨hr, ⟨_, rfl⟩, .inr ⟨l, rfl, hl, by simp [hf], rfl⟩⟩
        · exact .inl ⟨rfl, .inr ⟨hr, rfl⟩⟩

theorem deferConstant_spec (s : State) (n : Bytes) (r : Realm) :
    Sat (deferConstant s n r) (r = .loc → s.locals.isSome) fun (s', res) =>
    (s' = s ∧ ((isReg n = true ∧ res = .error .reserved) ∨ (isReg n = false ∧ res = .error (.duplicate r)))) ∨
    (isReg n = false ∧ res = .ok () ∧
      ((r = .global ∧ s.globals.find n = none ∧ s' = { s with globals := s.globals.set n none }) ∨
       (∃ l, r = .loc ∧ s.locals = some l ∧ l.find n = none ∧ s' = { s with locals := some (l.set n none) }))) := by
  unfold deferConstant
  split
  · rename_i hr; exact .inl ⟨rfl, .inl ⟨hr, rfl⟩⟩
  · rename_i hr
    have hr : isReg n = false := by simpa using hr
    cases r with
    | global =>
      dsimp only
      split
      · exact .inl ⟨rfl, .inr ⟨hr, rfl⟩⟩
      · rename_i hf; exact .inr ⟨hr, rfl, .inl ⟨rfl, hf, rfl⟩⟩
    | loc =>
      dsimp only
      split
      · rename_i hl; exact fun g => by simp [hl] at g
      · rename_i l hl
        split
        · exact .inl ⟨rfl, .inr ⟨hr, rfl⟩⟩
        · rename_i hf; exact .inr ⟨hr, rfl, .inr ⟨l, rfl, hl, hf, rfl⟩⟩

theorem insertConstant_global {s s' : State} {n : Bytes} {v : Int} {res : Except CErr Bool}
    (h : insertConstant s n v .global = .ok (s', res)) :
    s' = s ∨ ((∀ w, s.globals.find n ≠ some (some w)) ∧ s' = { s with globals := s.globals.set n (some v) }) := by
  rcases (insertConstant_spec _ _ _ _).ok h with ⟨rfl, _⟩ | ⟨_, _, ⟨_, hu, rfl⟩ | ⟨_, e, _⟩⟩
  · exact .inl rfl
  · exact .inr ⟨hu, rfl⟩
  · cases e

theorem insertConstant_reserved {s s' : State} {n : Bytes} {v : Int} {r : Realm}
    (h : insertConstant s n v r = .ok (s', .error .reserved)) : isReg n = true := by
  rcases (insertConstant_spec _ _ _ _).ok h with ⟨_, ⟨hr, _⟩ | ⟨_, e⟩⟩ | ⟨_, ⟨_, e⟩, _⟩
  · exact hr
  · cases e
  · cases e

theorem deferConstant_reserved {s s' : State} {n : Bytes} {r : Realm}
    (h : deferConstant s n r = .ok (s', .error .reserved)) : isReg n = true := by
  rcases (deferConstant_spec _ _ _).ok h with ⟨_, ⟨hr, _⟩ | ⟨_, e⟩⟩ | ⟨_, e, _⟩
  · exact hr
  · cases e
  · cases e

theorem addTask_loc {s s' : State} {t : Task} :
    addTask s t .loc = .ok s' ↔ ∃ l, s.localTasks = some l ∧ s' = { s with localTasks := some (l ++ [t]) } := by
  unfold addTask
  cases s.localTasks <;> simp [eq_comm]

theorem addTask_global (s : State) (t : Task) :
    addTask s t .global = .ok { s with globalTasks := s.globalTasks ++ [t] } := rfl

theorem writeVal_cases (s : State) (tag : Nat) (v : Int) (stage : Nat) :
    (0 ≤ v ∧ v < 4294967296 ∧ writeVal s tag v stage = ({ s with log := .value tag v stage :: s.log }, none)) ∨
    (¬ (0 ≤ v ∧ v < 4294967296) ∧ writeVal s tag v stage = (s.err tag .range, some .trivial)) := by
  unfold writeVal
  split
  · rename_i h; exact .inl ⟨h.1, h.2, rfl⟩
  · rename_i h; exact .inr ⟨h, rfl⟩

theorem getConstant_loc {s : State} {n : Bytes} {l : Table} (hl : s.locals = some l) :
    getConstant s n .loc = .ok (l.get n) := by
  simp [getConstant, hl]

theorem get_found {t : Table} {n : Bytes} {v : Int} (h : t.get n = .found v) : t.find n = some (some v) := by
  unfold Table.get at h
  split at h <;> simp_all

theorem get_notFound {t : Table} {n : Bytes} (h : t.get n = .notFound) : t.find n = none := by
  unfold Table.get at h
  split at h <;> simp_all

theorem get_deferred {t : Table} {n : Bytes} (h : t.get n = .deferred) : t.find n = some none := by
  unfold Table.get at h
  split at h <;> simp_all

theorem getConstant_spec (s : State) (n : Bytes) (r : Realm) :
    Sat (getConstant s n r) (r = .loc → s.locals.isSome) fun _ => True := by
  unfold getConstant
  cases r with
  | global => trivial
  | loc =>
    dsimp only
    split
    · rename_i hl; exact fun g => by simp [hl] at g
    · trivial

/-- the table an evaluation reads (`realm = if ctx.has_curr_file() {Local} else {Global}`) -/
def evalTab (s : State) : Option Table := if s.depth ≠ 0 then s.locals else some s.globals

theorem evalTab_inFile {s : State} {l : Table} (hd : s.depth ≠ 0) (hl : s.locals = some l) : evalTab s = some l := by
  rw [evalTab, if_pos hd, hl]

theorem getConstant_evalTab {s : State} {T : Table} (n : Bytes) (h : evalTab s = some T) :
    getConstant s n (if s.hasCurrFile then .loc else .global) = .ok (T.get n) := by
  unfold evalTab at h
  by_cases hd : s.depth ≠ 0
  · rw [if_pos hd] at h
    simp [State.hasCurrFile, hd, getConstant, h]
  · rw [if_neg hd] at h
    cases h
    simp [State.hasCurrFile, hd, getConstant]

theorem applyUse_spec(s : State) (n : Bytes) (c : Option Int) (tag stage : Nat) (b : Bool) :
    Sat (applyUse s n c tag stage b) (s.depth ≠ 0 → s.locals.isSome) fun (s', res, c') =>
    (∃ v, c' = some v ∧
      (c = some v ∨ (c = none ∧ isReg n = false ∧
        getConstant s n (if s.hasCurrFile then .loc else .global) = .ok (.found v))) ∧
      ((0 ≤ v ∧ v < 4294967296 ∧ s' = { s with log := .value tag v stage :: s.log } ∧ res = .ok .completed) ∨
       (¬ (0 ≤ v ∧ v < 4294967296) ∧ s' = s.err tag .range ∧ res = .error .trivial))) ∨
    (c = none ∧ c' = none ∧
      ((isReg n = true ∧ s' = s.err tag .argType ∧ res = .error .trivial) ∨
       (isReg n = false ∧ s' = s ∧ res = .ok .deferred ∧
         (getConstant s n (if s.hasCurrFile then .loc else .global) = .ok .deferred ∨
          (b = true ∧ getConstant s n (if s.hasCurrFile then .loc else .global) = .ok .notFound))) ∨
       (isReg n = false ∧ b = false ∧ s' = s.err tag .nfLocal ∧ res = .error .trivial ∧
         getConstant s n (if s.hasCurrFile then .loc else .global) = .ok .notFound))) := by
  unfold applyUse
  split
  · rename_i v
    rcases writeVal_cases s tag v stage with ⟨h0, h1, e⟩ | ⟨hr, e⟩ <;> rw [e]
    · exact .inl ⟨v, rfl, .inl rfl, .inl ⟨h0, h1, rfl, rfl⟩⟩
    · exact .inl ⟨v, rfl, .inl rfl, .inr ⟨hr, rfl, rfl⟩⟩
  · split
    · rename_i hr; exact .inr ⟨rfl, rfl, .inl ⟨hr, rfl, rfl⟩⟩
    · rename_i hr
      have hr : isReg n = false := by simpa using hr
      split
      · rename_i hg
        refine fun g => (getConstant_spec _ _ _).err hg fun hloc => g fun h0 => ?_
        simp [State.hasCurrFile, h0] at hloc
      · rename_i hg
        split
        · rename_i hb; exact .inr ⟨rfl, rfl, .inr (.inl ⟨hr, rfl, rfl, .inr ⟨hb, hg⟩⟩)⟩
        · rename_i hb; exact .inr ⟨rfl, rfl, .inr (.inr ⟨hr, by simpa using hb, rfl, rfl, hg⟩)⟩
      · rename_i hg; exact .inr ⟨rfl, rfl, .inr (.inl ⟨hr, rfl, rfl, .inl hg⟩)⟩
      · rename_i v hg
        rcases writeVal_cases s tag v stage with ⟨h0, h1, e⟩ | ⟨hr', e⟩ <;> rw [e]
        · exact .inl ⟨v, rfl, .inr ⟨rfl, hr, hg⟩, .inl ⟨h0, h1, rfl, rfl⟩⟩
        · exact .inl ⟨v, rfl, .inr ⟨rfl, hr, hg⟩, .inr ⟨hr', rfl, rfl⟩⟩

theorem applyUse_grows_log {s s' : State} {n : Bytes} {c c' : Option Int} {tag stage : Nat} {b : Bool}
    {res : Except Level DataOp} (h : applyUse s n c tag stage b = .ok (s', res, c')) :
    ∃ add, s' = { s with log := add ++ s.log } := by
  rcases (applyUse_spec _ _ _ _ _ _).ok h with ⟨v, _, _, ⟨_, _, rfl, _⟩ | ⟨_, rfl, _⟩⟩ |
    ⟨_, _, ⟨_, rfl, _⟩ | ⟨_, rfl, _⟩ | ⟨_, _, rfl, _⟩⟩
  · exact ⟨[_], rfl⟩
  · exact ⟨[_], rfl⟩
  · exact ⟨[_], rfl⟩
  · exact ⟨[], rfl⟩
  · exact ⟨[_], rfl⟩

theorem applyUse_log {s s' : State} {T : Table} {n : Bytes} {c c' : Option Int} {tag stage : Nat} {b : Bool}
    {res : Except Level DataOp} (hT : evalTab s = some T) (h : applyUse s n c tag stage b = .ok (s', res, c')) :
    s'.log = s.log ∨ (∃ k, s'.log = .diag tag k :: s.log) ∨
    ∃ v, s'.log = .value tag v stage :: s.log ∧
      ((c = some v ∧ 0 ≤ v ∧ v < 4294967296) ∨ (c = none ∧ T.find n = some (some v))) := by
  rcases (applyUse_spec _ _ _ _ _ _).ok h with ⟨v, _, hv, ⟨h0, h1, rfl, _⟩ | ⟨_, rfl, _⟩⟩ |
    ⟨_, _, ⟨_, rfl, _⟩ | ⟨_, rfl, _⟩ | ⟨_, _, rfl, _⟩⟩
  · refine .inr (.inr ⟨v, rfl, ?_⟩)
    rcases hv with e | ⟨e, _, hg⟩
    · exact .inl ⟨e, h0, h1⟩
    · rw [getConstant_evalTab n hT] at hg
      exact .inr ⟨e, get_found (Except.ok.inj hg)⟩
  · exact .inr (.inl ⟨_, rfl⟩)
  · exact .inr (.inl ⟨_, rfl⟩)
  · exact .inl rfl
  · exact .inr (.inl ⟨_, rfl⟩)

theorem Task.ok_of_isGU {t : Task} (h : t.isGU) : t.ok := by
  cases t <;> simp_all [Task.isGU, Task.ok]

theorem Task.isGU_iff {t : Task} : t.isGU ↔ ∃ n c tag, t = .use n c tag true := by
  cases t with
  | globalCopy n tag => simp [Task.isGU]
  | use n c tag g => cases g <;> simp [Task.isGU]

/-- `s'` arises from `s` by the elementary changes every statement and task is made of: an entry without a value of one
of the two visible tables, under a name that is not a register's, gets a new content; the log grows; a task allowed by
`q` is queued.  Whatever these four (two tables, log, queue) preserve, statements, tasks and the task loops preserve
(`Acts.pres`).  (`Asm.Acts`, `Lemmas/AsmActs.lean`, is the same idea for the whole-pipeline model, with other actions:
labelled pushes of diagnostics, region and table changes.) -/
inductive Acts (q : Realm → Task → Prop) : State → State → Prop
  | refl (s : State) : Acts q s s
  | trans {a b c : State} : Acts q a b → Acts q b c → Acts q a c
  | setG {s : State} {n : Bytes} (e : Option Int) : isReg n = false → (∀ w, s.globals.find n ≠ some (some w)) →
      Acts q s { s with globals := s.globals.set n e }
  | setL {s : State} {l : Table} {n : Bytes} (e : Option Int) : isReg n = false → s.locals = some l →
      (∀ w, l.find n ≠ some (some w)) → Acts q s { s with locals := some (l.set n e) }
  | log (s : State) (e : Ev) : Acts q s { s with log := e :: s.log }
  | push {s s' : State} {r : Realm} {t : Task} : q r t → addTask s t r = .ok s' → Acts q s s'

theorem Acts.pres {q : Realm → Task → Prop} {P : State → Prop}
    (hG : ∀ {s : State} {n : Bytes} (e : Option Int), isReg n = false → (∀ w, s.globals.find n ≠ some (some w)) →
      P s → P { s with globals := s.globals.set n e })
    (hL : ∀ {s : State} {l : Table} {n : Bytes} (e : Option Int), isReg n = false → s.locals = some l →
      (∀ w, l.find n ≠ some (some w)) → P s → P { s with locals := some (l.set n e) })
    (hlog : ∀ {s : State} (e : Ev), P s → P { s with log := e :: s.log })
    (hq : ∀ {s s' : State} {r : Realm} {t : Task}, q r t → addTask s t r = .ok s' → P s → P s')
    {s s' : State} (h : Acts q s s') : P s → P s' := by
  induction h with
  | refl => exact id
  | trans _ _ ih1 ih2 => exact fun hp => ih2 (ih1 hp)
  | setG e hr hu => exact hG e hr hu
  | setL e hr hl hu => exact hL e hr hl hu
  | log s e => exact hlog e
  | push hq' ha => exact hq hq' ha

theorem Acts.logs {q : Realm → Task → Prop} (s : State) : ∀ add : List Ev, Acts q s { s with log := add ++ s.log }
  | [] => .refl s
  | e :: add => (Acts.logs s add).trans (.log _ e)

/-- what a statement may queue (always in `local_tasks`): `.global n` its closure, for a name `defer_constant` accepted;
`.du32 n` its own retry, caching at most a value the writer refused -/
def Op.queues (op : Op) (r : Realm) (t : Task) : Prop :=
  r = .loc ∧ ((∃ n tag, op = .global n tag ∧ t = .globalCopy n tag ∧ isReg n = false) ∨
    (∃ n tag c, op = .use n tag ∧ t = .use n c tag false ∧ cokOpt c))

/-- what a task may queue (always in `global_tasks`): a local `.du32` retry reschedules itself for the includer -/
def Task.requeues (t0 : Task) (r : Realm) (t : Task) : Prop :=
  r = .global ∧ ∃ n c c' tag, t0 = .use n c tag false ∧ t = .use n c' tag true ∧ cokOpt c'

/-- the closure came from a `.global` statement of the file itself -/
def Task.fromNames (names : List Bytes) : Task → Prop
  | .globalCopy n _ => n ∈ names
  | .use _ _ _ _ => True

theorem Task.fromNames_of_isGU {t : Task} (names : List Bytes) (h : t.isGU) : t.fromNames names := by
  cases t <;> simp_all [Task.isGU, Task.fromNames]

theorem Task.fromNames_mono {t : Task} {n n' : List Bytes} (h : t.fromNames n) (hn : ∀ m ∈ n, m ∈ n') :
    t.fromNames n' := by
  cases t with
  | globalCopy m tag => exact hn m h
  | use => trivial

/-- all that the users of `stmt_acts` need of what a statement queues -/
theorem Op.queues_spec {op : Op} {r : Realm} {t : Task} (h : op.queues r t) :
    r = .loc ∧ t.ok ∧ t.cok ∧ t.fromNames op.names := by
  rcases h with ⟨rfl, ⟨n, tag, rfl, rfl, hr⟩ | ⟨n, tag, c, rfl, rfl, hc⟩⟩
  · exact ⟨rfl, hr, trivial, by simp [Task.fromNames, Op.names]⟩
  · exact ⟨rfl, trivial, hc, trivial⟩

/-- all that the users of `runTask_acts` need of what a task queues -/
theorem Task.requeues_spec {t0 t : Task} {r : Realm} (h : t0.requeues r t) :
    r = .global ∧ t.isGU ∧ t.cok ∧ ∃ n c tag, t0 = .use n c tag false := by
  obtain ⟨rfl, n, c, c', tag, rfl, rfl, hc⟩ := h
  exact ⟨rfl, trivial, hc, n, c, tag, rfl⟩

section
variable {q : Realm → Task → Prop}

theorem insertConstant_acts {s s' : State} {n : Bytes} {v : Int} {r : Realm} {res : Except CErr Bool}
    (h : insertConstant s n v r = .ok (s', res)) : Acts q s s' := by
  rcases (insertConstant_spec _ _ _ _).ok h with ⟨rfl, _⟩ | ⟨hr, _, ⟨_, hu, rfl⟩ | ⟨l, _, hl, hu, rfl⟩⟩
  · exact .refl _
  · exact .setG _ hr hu
  · exact .setL _ hr hl hu

theorem deferConstant_acts {s s' : State} {n : Bytes} {r : Realm} {res : Except CErr Unit}
    (h : deferConstant s n r = .ok (s', res)) : Acts q s s' := by
  rcases (deferConstant_spec _ _ _).ok h with ⟨rfl, _⟩ | ⟨hr, _, ⟨_, hu, rfl⟩ | ⟨l, _, hl, hu, rfl⟩⟩
  · exact .refl _
  · exact .setG _ hr (by simp [hu])
  · exact .setL _ hr hl (by simp [hu])

theorem applyUse_acts {s s' : State} {n : Bytes} {c c' : Option Int} {tag stage : Nat} {b : Bool}
    {res : Except Level DataOp} (h : applyUse s n c tag stage b = .ok (s', res, c')) : Acts q s s' := by
  obtain ⟨add, rfl⟩ := applyUse_grows_log h
  exact .logs s add

/-- the writer is asked again about a cached value, so what stays cached when `apply` does not complete was refused -/
theorem applyUse_cok {s s' : State} {n : Bytes} {c c' : Option Int} {tag stage : Nat} {b : Bool}
    {res : Except Level DataOp} (h : applyUse s n c tag stage b = .ok (s', res, c')) :
    res = .ok .completed ∨ cokOpt c' := by
  rcases (applyUse_spec _ _ _ _ _ _).ok h with ⟨v, rfl, _, ⟨_, _, _, rfl⟩ | ⟨hr, _⟩⟩ | ⟨_, rfl, _⟩
  · exact .inl rfl
  · exact .inr fun w e => by cases e; exact hr
  · exact .inr fun _ e => by cases e

end

/-- `.const n, v` and a label `n:` are `insert_constant(.., Local)`; a refusal is a fatal diagnostic -/
theorem define_spec (s : State) (n : Bytes) (v : Int) (tag : Nat) :
    let post : State × Option Level → Prop := fun (s', _) =>
      ∃ s1 res, insertConstant s n v .loc = .ok (s1, res) ∧ (s' = s1 ∨ ∃ k, s' = s1.err tag k)
    Sat (doConst s n v tag) s.locals.isSome post ∧ Sat (doLabel s n v tag) s.locals.isSome post := by
  constructor
  · unfold doConst
    split
    · rename_i hi; exact (insertConstant_spec _ _ _ _).err hi ∘ fun g _ => g
    · rename_i hi; exact ⟨_, _, hi, .inl rfl⟩
    · rename_i hi; exact ⟨_, _, hi, .inr ⟨_, rfl⟩⟩
    · rename_i hi; exact ⟨_, _, hi, .inr ⟨_, rfl⟩⟩
  · unfold doLabel
    split
    · rename_i hi; exact (insertConstant_spec _ _ _ _).err hi ∘ fun g _ => g
    · rename_i hi; exact ⟨_, _, hi, .inl rfl⟩
    · rename_i hi; exact ⟨_, _, hi, .inr ⟨_, rfl⟩⟩
    · rename_i hi; exact ⟨_, _, hi, .inr ⟨_, rfl⟩⟩

/-- `.export n` and the closure of `.global n` look `n` up in the file's own table and hand a value to the includer by
`insert_constant(.., Global)`; they differ in the level of their diagnostics only.  The name found in the file's own table
is not a register's, so the `Reserved` arm is not taken. -/
theorem copyUp_spec (s : State) (n : Bytes) (tag : Nat) :
    let guard := ∃ l, s.locals = some l ∧ ∀ v, l.find n = some (some v) → isReg n = false
    let post : State × Option Level → Prop := fun (s', _) =>
      (∃ k, s' = s.err tag k) ∨
      ∃ v s1 res, getConstant s n .loc = .ok (.found v) ∧ insertConstant s n v .global = .ok (s1, res) ∧
        (s' = s1 ∨ ∃ k, s' = s1.err tag k)
    Sat (doExport s n tag) guard post ∧ Sat (runGlobalCopy s n tag) guard post := by
  have noloc : ∀ {p}, getConstant s n .loc = .error p →
      ¬ ∃ l, s.locals = some l ∧ ∀ v, l.find n = some (some v) → isReg n = false :=
    fun hg ⟨l, hl, _⟩ => (getConstant_spec _ _ _).err hg fun _ => by simp [hl]
  have noreg : ∀ {v s1}, getConstant s n .loc = .ok (.found v) → insertConstant s n v .global = .ok (s1, .error .reserved) →
      ¬ ∃ l, s.locals = some l ∧ ∀ v, l.find n = some (some v) → isReg n = false := by
    rintro v s1 hg hi ⟨l, hl, hn⟩
    rw [getConstant_loc hl] at hg
    have := insertConstant_reserved hi
    rw [hn v (get_found (Except.ok.inj hg))] at this
    cases this
  constructor
  · unfold doExport
    split
    · rename_i hg; exact noloc hg
    · exact .inl ⟨_, rfl⟩
    · exact .inl ⟨_, rfl⟩
    · rename_i v hg
      split
      · rename_i hi; exact fun _ => (insertConstant_spec _ _ _ _).err hi (fun e => by cases e)
      · rename_i hi; exact .inr ⟨v, _, _, hg, hi, .inl rfl⟩
      · rename_i hi; exact .inr ⟨v, _, _, hg, hi, .inr ⟨_, rfl⟩⟩
      · rename_i hi; exact noreg hg hi
  · unfold runGlobalCopy
    split
    · rename_i hg; exact noloc hg
    · exact .inl ⟨_, rfl⟩
    · exact .inl ⟨_, rfl⟩
    · rename_i v hg
      split
      · rename_i hi; exact fun _ => (insertConstant_spec _ _ _ _).err hi (fun e => by cases e)
      · rename_i hi; exact .inr ⟨v, _, _, hg, hi, .inl rfl⟩
      · rename_i hi; exact .inr ⟨v, _, _, hg, hi, .inr ⟨_, rfl⟩⟩
      · rename_i hi; exact noreg hg hi

/-- `.import n`; a name found in the includer's table is not a register's, so the `Reserved` arms are not taken -/
theorem doImport_spec (s : State) (n : Bytes) (tag : Nat) :
    Sat (doImport s n tag) (s.locals.isSome ∧ s.globals.keysOk) fun (s', _) =>
    (s.globals.get n = .notFound ∧ s' = s.err tag .nfGlobal) ∨
    (∃ s1 res, s.globals.get n = .deferred ∧ deferConstant s n .loc = .ok (s1, res) ∧
      (s' = s1 ∨ ∃ k, s' = s1.err tag k)) ∨
    (∃ v s1 res, s.globals.get n = .found v ∧ insertConstant s n v .loc = .ok (s1, res) ∧
      (s' = s1 ∨ ∃ k, s' = s1.err tag k)) := by
  have noreg : ∀ {e}, s.globals.find n = some e → isReg n = true → ¬ (s.locals.isSome ∧ s.globals.keysOk) :=
    fun hf hr g => by rw [g.2 n hr] at hf; cases hf
  unfold doImport
  simp only [getConstant]
  split
  · rename_i hg; cases hg
  · rename_i hg; exact .inl ⟨Except.ok.inj hg, rfl⟩
  · rename_i hg
    split
    · rename_i hd; exact fun g => (deferConstant_spec _ _ _).err hd fun _ => g.1
    · rename_i hd; exact .inr (.inl ⟨_, _, Except.ok.inj hg, hd, .inl rfl⟩)
    · rename_i hd; exact .inr (.inl ⟨_, _, Except.ok.inj hg, hd, .inr ⟨_, rfl⟩⟩)
    · rename_i hd; exact noreg (get_deferred (Except.ok.inj hg)) (deferConstant_reserved hd)
  · rename_i v hg
    split
    · rename_i hi; exact fun g => (insertConstant_spec _ _ _ _).err hi fun _ => g.1
    · rename_i hi; exact .inr (.inr ⟨v, _, _, Except.ok.inj hg, hi, .inl rfl⟩)
    · rename_i hi; exact .inr (.inr ⟨v, _, _, Except.ok.inj hg, hi, .inr ⟨_, rfl⟩⟩)
    · rename_i hi; exact noreg (get_found (Except.ok.inj hg)) (insertConstant_reserved hi)

/-- `.global n`: announce `n` to the includer; then, by what the file's own table has for `n`: copy the value up at
once (the entry just announced is unvalued, so `insert_constant` reports "not new": the `assert!` holds), or announce
`n` in the file too (there is no entry, so the `unwrap` of `defer_constant` succeeds) and queue the closure, or (already
announced in the file) just queue the closure -/
theorem doGlobal_spec (s : State) (n : Bytes) (tag : Nat) :
    Sat (doGlobal s n tag) (InFile s) fun (s', _) =>
    (∃ k, s' = s.err tag k) ∨
    (isReg n = false ∧ s.globals.find n = none ∧ ∃ l, s.locals = some l ∧
      ((∃ v, l.find n = some (some v) ∧ s' = { s with globals := (s.globals.set n none).set n (some v) }) ∨
       ∃ lt, s.localTasks = some lt ∧
        ((l.find n = none ∧ s' =
            { s with globals := s.globals.set n none, locals := some (l.set n none),
                     localTasks := some (lt ++ [.globalCopy n tag]) }) ∨
         (l.find n = some none ∧ s' =
            { s with globals := s.globals.set n none, localTasks := some (lt ++ [.globalCopy n tag]) })))) := by
  obtain ⟨⟨s1, res⟩, hd, hpost⟩ := (deferConstant_spec s n .global).total (fun e => by cases e)
  unfold doGlobal
  rw [hd]
  rcases hpost with ⟨rfl, ⟨_, rfl⟩ | ⟨_, rfl⟩⟩ | ⟨hr, rfl, ⟨_, hn, rfl⟩ | ⟨_, e, _⟩⟩
  · exact .inl ⟨_, rfl⟩
  · exact .inl ⟨_, rfl⟩
  · have noq : ∀ {s2 : State} {p}, addTask s2 (.globalCopy n tag) .loc = .error p → s2.localTasks = s.localTasks →
        ¬ InFile s := by
      intro s2 p ha e g
      obtain ⟨lt, hlt⟩ := Option.isSome_iff_exists.1 g.ltasks
      simp [addTask, e, hlt] at ha
    cases hl : s.locals with
    | none => simp only [getConstant]; exact fun g => by simpa [hl] using g.locals
    | some l =>
      simp only [getConstant]
      cases hg : l.get n with
      | found v =>
        have hi : insertConstant { s with globals := s.globals.set n none } n v .global =
            .ok ({ s with globals := (s.globals.set n none).set n (some v) }, .ok false) := by
          simp [insertConstant, hr, Table.find_set_same]
        dsimp only
        rw [hl] at hi
        rw [hi]
        exact .inr ⟨hr, hn, l, rfl, .inl ⟨v, get_found hg, rfl⟩⟩
      | notFound =>
        have hd2 : deferConstant { s with globals := s.globals.set n none } n .loc =
            .ok ({ s with globals := s.globals.set n none, locals := some (l.set n none) }, .ok ()) := by
          simp [deferConstant, hr, hl, get_notFound hg]
        dsimp only
        rw [hl] at hd2
        rw [hd2]
        dsimp only
        split
        · rename_i ha; exact noq ha rfl
        · rename_i ha
          obtain ⟨lt, hlt, rfl⟩ := addTask_loc.1 ha
          exact .inr ⟨hr, hn, l, rfl, .inr ⟨lt, hlt, .inl ⟨get_notFound hg, rfl⟩⟩⟩
      | deferred =>
        dsimp only
        split
        · rename_i ha; exact noq ha rfl
        · rename_i ha
          obtain ⟨lt, hlt, rfl⟩ := addTask_loc.1 ha
          exact .inr ⟨hr, hn, l, rfl, .inr ⟨lt, hlt, .inr ⟨get_deferred hg, rfl⟩⟩⟩
  · cases e

theorem doUse_spec (s : State) (n : Bytes) (tag : Nat) :
    Sat (doUse s n tag) (InFile s) fun (s', _) =>
    ∃ s1 res c, applyUse s n none tag 0 true = .ok (s1, res, c) ∧
      ((res = .ok .completed ∧ s' = s1) ∨
       (res ≠ .ok .completed ∧ addTask s1 (.use n c tag false) .loc = .ok s')) := by
  unfold doUse
  split
  · rename_i ha; exact fun g => (applyUse_spec _ _ _ _ _ _).err ha fun _ => g.locals
  · rename_i ha; exact ⟨_, _, _, ha, .inl ⟨rfl, rfl⟩⟩
  · rename_i s1 res c hne ha
    split
    · rename_i hadd
      intro g
      obtain ⟨lt, hlt⟩ := Option.isSome_iff_exists.1 g.ltasks
      obtain ⟨add, rfl⟩ := applyUse_grows_log ha
      simp [addTask, hlt] at hadd
    · rename_i hadd; exact ⟨_, _, _, ha, .inr ⟨hne, hadd⟩⟩

theorem runUse_spec (s : State) (n : Bytes) (c : Option Int) (tag : Nat) (g : Bool) :
    Sat (runUse s n c tag g) (s.depth ≠ 0 → s.locals.isSome) fun (s', _) =>
    ∃ s1 res c', applyUse s n c tag (if g then 2 else 1) false = .ok (s1, res, c') ∧
      ((res ≠ .ok .deferred ∧ s' = s1) ∨
       (res = .ok .deferred ∧ ((g = true ∧ s' = s1.err tag .nfGlobal) ∨
         (g = false ∧ s' = { s1 with globalTasks := s1.globalTasks ++ [.use n c' tag true] })))) := by
  unfold runUse
  split
  · rename_i ha; exact (applyUse_spec _ _ _ _ _ _).err ha
  · rename_i ha; exact ⟨_, _, _, ha, .inl ⟨by simp, rfl⟩⟩
  · rename_i ha
    cases g
    · exact ⟨_, _, _, ha, .inr ⟨rfl, .inr ⟨rfl, rfl⟩⟩⟩
    · exact ⟨_, _, _, ha, .inr ⟨rfl, .inl ⟨rfl, rfl⟩⟩⟩
  · rename_i ha; exact ⟨_, _, _, ha, .inl ⟨by simp, rfl⟩⟩

theorem stmt_acts {s s' : State} {op : Op} {r : Option Level} (h : stmt s op = .ok (s', r)) :
    Acts op.queues s s' := by
  have fin : ∀ {s1 : State} {tag : Nat}, Acts op.queues s s1 → (s' = s1 ∨ ∃ k, s' = s1.err tag k) →
      Acts op.queues s s' := by
    rintro s1 tag a (rfl | ⟨k, rfl⟩)
    · exact a
    · exact a.trans (.log _ _)
  cases op <;> simp only [stmt] at h
  case label => obtain ⟨_, _, hi, hs⟩ := (define_spec _ _ _ _).2.ok h; exact fin (insertConstant_acts hi) hs
  case const => obtain ⟨_, _, hi, hs⟩ := (define_spec _ _ _ _).1.ok h; exact fin (insertConstant_acts hi) hs
  case «export» =>
    rcases (copyUp_spec _ _ _).1.ok h with ⟨k, rfl⟩ | ⟨_, _, _, _, hi, hs⟩
    · exact .log _ _
    · exact fin (insertConstant_acts hi) hs
  case «import» =>
    rcases (doImport_spec _ _ _).ok h with ⟨_, rfl⟩ | ⟨_, _, _, hd, hs⟩ | ⟨_, _, _, _, hi, hs⟩
    · exact .log _ _
    · exact fin (deferConstant_acts hd) hs
    · exact fin (insertConstant_acts hi) hs
  case global n tag =>
    rcases (doGlobal_spec _ _ _).ok h with ⟨k, rfl⟩ | ⟨hr, hn, l, hl, hc⟩
    · exact .log _ _
    · have a1 : Acts (Op.global n tag).queues s { s with globals := s.globals.set n none } :=
        .setG none hr (by simp [hn])
      have hq : (Op.global n tag).queues .loc (.globalCopy n tag) := ⟨rfl, .inl ⟨n, tag, rfl, rfl, hr⟩⟩
      rcases hc with ⟨v, _, rfl⟩ | ⟨lt, hlt, ⟨hlf, rfl⟩ | ⟨_, rfl⟩⟩
      · exact a1.trans (.setG (some v) hr (by simp [Table.find_set_same]))
      · exact a1.trans ((Acts.setL (s := { s with globals := s.globals.set n none }) none hr hl (by simp [hlf])).trans
          (.push hq (addTask_loc.2 ⟨lt, hlt, rfl⟩)))
      · exact a1.trans (.push hq (addTask_loc.2 ⟨lt, hlt, rfl⟩))
  case use n tag =>
    obtain ⟨s1, res, c, ha, ⟨_, rfl⟩ | ⟨hne, hadd⟩⟩ := (doUse_spec _ _ _).ok h
    · exact applyUse_acts ha
    · refine (applyUse_acts ha).trans (.push ⟨rfl, .inr ⟨n, tag, c, rfl, rfl, ?_⟩⟩ hadd)
      exact (applyUse_cok ha).resolve_left hne
  all_goals (cases h; exact .refl _)

theorem runTask_acts {s s' : State} {t : Task} {r : Option Level} (h : runTask s t = .ok (s', r)) :
    Acts t.requeues s s' := by
  cases t with
  | globalCopy n tag =>
    rcases (copyUp_spec _ _ _).2.ok h with ⟨k, rfl⟩ | ⟨_, _, _, _, hi, rfl | ⟨k, rfl⟩⟩
    · exact .log _ _
    · exact insertConstant_acts hi
    · exact (insertConstant_acts hi).trans (.log _ _)
  | use n c tag g =>
    obtain ⟨s1, res, c', ha, ⟨_, rfl⟩ | ⟨rfl, ⟨_, rfl⟩ | ⟨rfl, rfl⟩⟩⟩ := (runUse_spec _ _ _ _ _).ok h
    · exact applyUse_acts ha
    · exact (applyUse_acts ha).trans (.log _ _)
    · refine (applyUse_acts ha).trans (.push ⟨rfl, n, c, c', tag, rfl, rfl, ?_⟩ (addTask_global _ _))
      exact (applyUse_cok ha).resolve_left (by simp)

theorem drain_pres {P : State → Prop} {ts : List Task}
    (hrun : ∀ t ∈ ts, ∀ {s s' : State} {r : Option Level}, runTask s t = .ok (s', r) → P s → P s') :
    ∀ {s s' : State} {r r' : Option Level}, drain s r ts = .ok (s', r') → P s → P s' := by
  induction ts with
  | nil => intro s s' r r' h hp; simp only [drain] at h; cases h; exact hp
  | cons t ts ih =>
    intro s s' r r' h hp
    have ih' := @ih fun x hx => hrun x (List.mem_cons_of_mem _ hx)
    simp only [drain] at h
    split at h
    · cases h
    · rename_i ht; exact ih' h (hrun t List.mem_cons_self ht hp)
    · rename_i ht
      have p1 := hrun t List.mem_cons_self ht hp
      split at h
      · cases h; exact p1
      · exact ih' h p1

theorem drainFinal_pres {P : State → Prop} {ts : List Task}
    (hrun : ∀ t ∈ ts, ∀ {s s' : State} {r : Option Level}, runTask s t = .ok (s', r) → P s → P s') :
    ∀ {s s' : State} {b : Bool}, drainFinal s ts = .ok (s', b) → P s → P s' := by
  induction ts with
  | nil => intro s s' b h hp; simp only [drainFinal] at h; cases h; exact hp
  | cons t ts ih =>
    intro s s' b h hp
    have ih' := @ih fun x hx => hrun x (List.mem_cons_of_mem _ hx)
    simp only [drainFinal] at h
    split at h
    · cases h
    · rename_i ht; cases h; exact hrun t List.mem_cons_self ht hp
    · rename_i ht; exact ih' h (hrun t List.mem_cons_self ht hp)

theorem runTask_keeps {s s' : State} {t : Task} {r : Option Level} (h : runTask s t = .ok (s', r)) :
    s'.locals = s.locals ∧ s'.localTasks = s.localTasks ∧ s'.depth = s.depth ∧ s'.frames = s.frames := by
  cases t with
  | globalCopy n tag =>
    rcases (copyUp_spec _ _ _).2.ok h with ⟨k, rfl⟩ | ⟨_, _, _, _, hi, hs⟩
    · exact ⟨rfl, rfl, rfl, rfl⟩
    · rcases insertConstant_global hi with rfl | ⟨_, rfl⟩ <;> rcases hs with rfl | ⟨k, rfl⟩ <;>
        exact ⟨rfl, rfl, rfl, rfl⟩
  | use n c tag g =>
    obtain ⟨s1, res, c', ha, hs⟩ := (runUse_spec _ _ _ _ _).ok h
    obtain ⟨add, rfl⟩ := applyUse_grows_log ha
    rcases hs with ⟨_, rfl⟩ | ⟨_, ⟨_, rfl⟩ | ⟨_, rfl⟩⟩ <;> exact ⟨rfl, rfl, rfl, rfl⟩

theorem drain_ltasks {ts : List Task} {s d : State} {r r' : Option Level} (h : drain s r ts = .ok (d, r')) :
    d.localTasks = s.localTasks :=
  drain_pres (P := fun x => x.localTasks = s.localTasks) (fun _ _ _ _ _ ht e => (runTask_keeps ht).2.1.trans e) h rfl

/-- the `while !tasks.is_empty()` loop of `assemble`, started with an emptied `local_tasks`, is one round of `drain`:
tasks queue nothing locally, so the second round is empty (and the model's loop bound is not reached) -/
theorem localLoop_one (fuel : Nat) {s : State} (r : Option Level) (ts : List Task) (hlt : s.localTasks = some []) :
    localLoop (fuel + 1) s r ts =
      match drain s r ts with
      | .error p => .error p
      | .ok (d, r') => .ok ({ d with localTasks := some [] }, r') := by
  cases ts with
  | nil =>
    simp only [localLoop, drain]
    cases s; simp_all
  | cons t ts =>
    simp only [localLoop]
    cases hd : drain s r (t :: ts) with
    | error p => rfl
    | ok x =>
      obtain ⟨d, rd⟩ := x
      simp only [(drain_ltasks hd).trans hlt]
      split
      · rfl
      · cases fuel <;> simp only [localLoop]

theorem exitFile_nil {s : State} (r : Option Level) (hf : s.frames = []) : exitFile s r = .ok s := by
  unfold exitFile; rw [hf]

/-- leaving a file: unless `do_assemble` failed fatally the file's tasks run (one round), then `into_inner` pops the frame,
then the `.include` statement of the includer (if there is one) looks at the result -/
theorem exitFile_cases {s s' : State} {r : Option Level} {f : Saved} {fs : List Saved} (hf : s.frames = f :: fs)
    (h : exitFile s r = .ok s') :
    ∃ mid s2,
      ((r = some .fatal ∧ mid = s) ∨
       ∃ ts d r', r ≠ some .fatal ∧ s.localTasks = some ts ∧
         drain { s with localTasks := some [] } r ts = .ok (d, r') ∧ d.localTasks = some [] ∧
         mid = { d with localTasks := some [] }) ∧
      intoInner mid f fs = .ok s2 ∧
      ((fs ≠ [] ∧ s' = { (s2.err f.tag .asmFailed) with mode := .stopped .fatal 0 }) ∨
        s' = { s2 with mode := .running }) := by
  unfold exitFile at h
  split at h
  · rename_i hnil; rw [hf] at hnil; cases hnil
  · rename_i f' fs' hf'
    rw [hf] at hf'; cases hf'
    simp only at h
    split at h
    · cases h
    · rename_i mid r' hloop
      split at h
      · cases h
      · rename_i s2 hin
        refine ⟨mid, s2, ?_, hin, ?_⟩
        · split at hloop
          · rename_i hr; cases hloop; exact .inl ⟨hr, rfl⟩
          · rename_i hr
            split at hloop
            · cases hloop
            · rename_i ts hts
              rw [localLoop_one 1 r ts rfl] at hloop
              split at hloop
              · cases hloop
              · rename_i d rd hd
                cases hloop
                exact .inr ⟨ts, d, _, hr, hts, hd, drain_ltasks hd, rfl⟩
        · split at h <;> cases h
          · exact .inl ⟨by simp, rfl⟩
          · exact .inr rfl

/-- leaving a file, for a property `P` that clearing `local_tasks` and the file's own tasks keep: it holds after the
tasks have run (`mid`); then the frame is popped -/
theorem exitFile_tasks {P : State → Prop} {s s' : State} {r : Option Level} {f : Saved} {fs : List Saved}
    (hf : s.frames = f :: fs) (h : exitFile s r = .ok s') (hp : P s)
    (hcl : ∀ {x : State}, x.localTasks.isSome → P x → P { x with localTasks := some [] })
    (hrun : ∀ ts, s.localTasks = some ts → ∀ t ∈ ts, ∀ {a b : State} {r' : Option Level},
      runTask a t = .ok (b, r') → P a → P b) :
    ∃ mid s2, P mid ∧ intoInner mid f fs = .ok s2 ∧
      ((fs ≠ [] ∧ s' = { (s2.err f.tag .asmFailed) with mode := .stopped .fatal 0 }) ∨
        s' = { s2 with mode := .running }) := by
  obtain ⟨mid, s2, hmid, hin, hs'⟩ := exitFile_cases hf h
  refine ⟨mid, s2, ?_, hin, hs'⟩
  rcases hmid with ⟨_, rfl⟩ | ⟨ts, d, r', _, hts, hd, hn, rfl⟩
  · exact hp
  · exact hcl (by simp [hn]) (drain_pres (hrun ts hts) hd (hcl (by simp [hts]) hp))

theorem finalLoop_pres {P : State → Prop} {Q : Task → Prop}
    (hrun : ∀ {t : Task} {s s' : State} {r : Option Level}, Q t → runTask s t = .ok (s', r) → P s → P s')
    (hclr : ∀ {s : State}, P s → P { s with globalTasks := [] } ∧ ∀ t ∈ s.globalTasks, Q t) :
    ∀ (fuel : Nat) {s s' : State} {b : Bool} (ts : List Task), (∀ t ∈ ts, Q t) → P s →
      finalLoop fuel s ts = .ok (s', b) → P s'
  | _, s, s', b, [], _, hp, h => by simp only [finalLoop] at h; cases h; exact hp
  | 0, s, s', b, _ :: _, _, _, h => by simp only [finalLoop] at h; cases h
  | fuel + 1, s, s', b, t :: ts, hq, hp, h => by
    simp only [finalLoop] at h
    split at h
    · cases h
    · rename_i s1 ab hd
      have p1 := drainFinal_pres (fun x hx _ _ _ hr => hrun (hq x hx) hr) hd hp
      split at h
      · cases h; exact (hclr p1).1
      · exact finalLoop_pres hrun hclr fuel s1.globalTasks (hclr p1).2 (hclr p1).1 h

theorem finalize_cases {s s' : State} (h : finalize s = .ok s') :
    ∃ s1 b, finalLoop 3 { s with globalTasks := [] } s.globalTasks = .ok (s1, b) ∧
      s' = { s1 with log := .done (!(b || s1.hasErrored)) :: s1.log } := by
  unfold finalize at h
  split at h
  · cases h
  · rename_i s1 b hl; cases h; exact ⟨s1, b, hl, rfl⟩

theorem finalize_pres {P : State → Prop} {Q : Task → Prop}
    (hrun : ∀ {t : Task} {s s' : State} {r : Option Level}, Q t → runTask s t = .ok (s', r) → P s → P s')
    (hclr : ∀ {s : State}, P s → P { s with globalTasks := [] } ∧ ∀ t ∈ s.globalTasks, Q t)
    (hlog : ∀ {s : State} (e : Ev), P s → P { s with log := e :: s.log })
    {s s' : State} (h : finalize s = .ok s') (hp : P s) : P s' := by
  obtain ⟨s1, b, hl, rfl⟩ := finalize_cases h
  exact hlog _ (finalLoop_pres hrun hclr 3 _ (hclr hp).2 (hclr hp).1 hl)

theorem step_stmt {s : State} {op : Op} (hm : s.mode = .running) (ho : op.isStmt = true) (hf : s.frames ≠ []) :
    step s op = match stmt s op with
      | .error p => .error p
      | .ok (s1, none) => .ok s1
      | .ok (s1, some l) => .ok { s1 with mode := .stopped l 0 } := by
  cases hfr : s.frames with
  | nil => exact absurd hfr hf
  | cons f fs => cases op <;> first | exact Bool.noConfusion ho | (simp only [step, hm, hfr]; rfl)

theorem step_stmt_cases {s s' : State} {op : Op} (hm : s.mode = .running) (ho : op.isStmt = true) (hf : s.frames ≠ [])
    (h : step s op = .ok s') :
    ∃ s1 r, stmt s op = .ok (s1, r) ∧
      ((r = none ∧ s' = s1) ∨ ∃ l, r = some l ∧ s' = { s1 with mode := .stopped l 0 }) := by
  rw [step_stmt hm ho hf] at h
  split at h
  · cases h
  · rename_i hs; exact ⟨_, _, hs, .inl ⟨rfl, (Except.ok.inj h).symm⟩⟩
  · rename_i hs; exact ⟨_, _, hs, .inr ⟨_, rfl, (Except.ok.inj h).symm⟩⟩

theorem step_exit {s s' : State} (hm : s.mode = .running ∨ ∃ l, s.mode = .stopped l 0) (h : step s .exit = .ok s') :
    ∃ r, exitFile s r = .ok s' := by
  rcases hm with hm | ⟨l, hm⟩
  · exact ⟨none, by simpa only [step, hm] using h⟩
  · exact ⟨some l, by simpa only [step, hm] using h⟩

theorem step_cases {s s' : State} {op : Op} (h : step s op = .ok s') :
    (∃ m, s' = { s with mode := m }) ∨ (∃ tag, s.mode = .running ∧ op = .enter tag ∧ s' = enterFile s tag) ∨
    (∃ r, op = .exit ∧ exitFile s r = .ok s') ∨ (s.mode = .running ∧ op = .finalize ∧ finalize s = .ok s') ∨
    (∃ s1 r, s.mode = .running ∧ op.isStmt = true ∧ s.frames ≠ [] ∧ stmt s op = .ok (s1, r) ∧
      ((r = none ∧ s' = s1) ∨ ∃ l, r = some l ∧ s' = { s1 with mode := .stopped l 0 })) := by
  cases hm : s.mode with
  | stopped l k =>
    cases op <;> cases k <;> simp only [step, hm] at h
    all_goals first
      | exact .inl ⟨_, (Except.ok.inj h).symm⟩
      | exact .inl ⟨s.mode, (Except.ok.inj h).symm⟩
      | exact .inr (.inr (.inl ⟨_, rfl, h⟩))
  | running =>
    cases op with
    | enter tag => simp only [step, hm] at h; exact .inr (.inl ⟨tag, rfl, rfl, (Except.ok.inj h).symm⟩)
    | exit => simp only [step, hm] at h; exact .inr (.inr (.inl ⟨_, rfl, h⟩))
    | finalize => simp only [step, hm] at h; exact .inr (.inr (.inr (.inl ⟨rfl, rfl, h⟩)))
    | _ =>
      by_cases hf : s.frames = []
      · simp only [step, hm, hf] at h; exact .inl ⟨s.mode, (Except.ok.inj h).symm⟩
      · obtain ⟨s1, r, hs, hs'⟩ := step_stmt_cases hm rfl hf h
        exact .inr (.inr (.inr (.inr ⟨s1, r, rfl, rfl, hf, hs, hs'⟩)))

theorem optLe_refl (a : Option Table) : optLe a a := by
  cases a <;> simp [optLe, Table.le_refl]

theorem optLe_trans {a b c : Option Table} (h1 : optLe a b) (h2 : optLe b c) : optLe a c := by
  cases a <;> cases b <;> cases c <;> simp_all [optLe]
  exact Table.le_trans h1 h2

theorem Eff.refl (s : State) : Eff s s :=
  ⟨rfl, rfl, rfl, optLe_refl _, Table.le_refl _, rfl⟩

theorem Eff.trans {a b c : State} (h1 : Eff a b) (h2 : Eff b c) : Eff a c :=
  ⟨h2.depth.trans h1.depth, h2.frames.trans h1.frames, h2.mode.trans h1.mode, optLe_trans h1.locals h2.locals,
   Table.le_trans h1.globals h2.globals, h2.ltasks.trans h1.ltasks⟩

theorem eff_log (s : State) (l : List Ev) : Eff s { s with log := l } :=
  ⟨rfl, rfl, rfl, optLe_refl _, Table.le_refl _, rfl⟩


theorem eff_setG {s : State} {n : Bytes} (e : Option Int) (h : ∀ w, s.globals.find n ≠ some (some w)) :
    Eff s { s with globals := s.globals.set n e } :=
  ⟨rfl, rfl, rfl, optLe_refl _, Table.le_set _ _ _ h, rfl⟩

theorem eff_setL {s : State} {l : Table} {n : Bytes} (e : Option Int) (hl : s.locals = some l)
    (h : ∀ w, l.find n ≠ some (some w)) : Eff s { s with locals := some (l.set n e) } :=
  ⟨rfl, rfl, rfl, by rw [hl]; exact Table.le_set _ _ _ h, Table.le_refl _, rfl⟩

theorem eff_addTask {s s' : State} {t : Task} {r : Realm} (h : addTask s t r = .ok s') : Eff s s' := by
  cases r with
  | global => cases h; exact ⟨rfl, rfl, rfl, optLe_refl _, Table.le_refl _, rfl⟩
  | loc =>
    obtain ⟨l, hl, rfl⟩ := addTask_loc.1 h
    exact ⟨rfl, rfl, rfl, optLe_refl _, Table.le_refl _, by simp [hl]⟩

theorem eff_clearLocal {s : State} (h : s.localTasks.isSome) : Eff s { s with localTasks := some [] } :=
  ⟨rfl, rfl, rfl, optLe_refl _, Table.le_refl _, h.symm⟩

theorem eff_clearGlobal (s : State) : Eff s { s with globalTasks := [] } :=
  ⟨rfl, rfl, rfl, optLe_refl _, Table.le_refl _, rfl⟩

theorem Acts.eff {q : Realm → Task → Prop} {s s' : State} (h : Acts q s s') : Eff s s' :=
  h.pres (P := Eff s) (fun e _ hu x => x.trans (eff_setG e hu)) (fun e _ hl hu x => x.trans (eff_setL e hl hu))
    (fun _ x => x.trans (eff_log _ _)) (fun _ ha x => x.trans (eff_addTask ha)) (Eff.refl s)

theorem eff_stmt {s s' : State} {op : Op} {r : Option Level} (h : stmt s op = .ok (s', r)) : Eff s s' :=
  (stmt_acts h).eff

theorem eff_runTask {s s' : State} {t : Task} {r : Option Level} (h : runTask s t = .ok (s', r)) : Eff s s' :=
  (runTask_acts h).eff

theorem eff_drain {ts : List Task} {s s' : State} {r r' : Option Level} (h : drain s r ts = .ok (s', r')) :
    Eff s s' :=
  drain_pres (P := Eff s) (fun _ _ _ _ _ ht e => e.trans (eff_runTask ht)) h (Eff.refl s)

theorem eff_finalize {s s' : State} (h : finalize s = .ok s') : Eff s s' :=
  finalize_pres (P := Eff s) (Q := fun _ => True) (fun _ ht e => e.trans (eff_runTask ht))
    (fun e => ⟨e.trans (eff_clearGlobal _), fun _ _ => trivial⟩)
    (fun _ e => e.trans (eff_log _ _)) h (Eff.refl s)

theorem optLe_isSome {a b : Option Table} (h : optLe a b) : b.isSome = a.isSome := by
  cases a <;> cases b <;> simp_all [optLe]

/-- the one place where `step` is taken apart for an invariant -/
theorem step_pres {P : State → Prop}
    (hstmt : ∀ {s s' : State} {op : Op} {r : Option Level}, stmt s op = .ok (s', r) → P s → P s')
    (htask : ∀ {s s' : State} {t : Task} {r : Option Level}, runTask s t = .ok (s', r) → P s → P s')
    (hmode : ∀ {s : State} (m : Mode), P s → P { s with mode := m })
    (hlog : ∀ {s : State} (e : Ev), P s → P { s with log := e :: s.log })
    (henter : ∀ {s : State} (tag : Nat), P s → P (enterFile s tag))
    (hcl : ∀ {s : State}, s.localTasks.isSome → P s → P { s with localTasks := some [] })
    (hcg : ∀ {s : State}, P s → P { s with globalTasks := [] })
    (hpop : ∀ {s s' : State} {f : Saved} {fs : List Saved}, s.frames = f :: fs → intoInner s f fs = .ok s' → P s → P s')
    {s s' : State} {op : Op} (h : step s op = .ok s') (hp : P s) : P s' := by
  rcases step_cases h with ⟨m, rfl⟩ | ⟨tag, _, _, rfl⟩ | ⟨r, _, he⟩ | ⟨_, _, hfin⟩ | ⟨s1, r, _, _, _, hst, hs'⟩
  · exact hmode m hp
  · exact henter tag hp
  · cases hf : s.frames with
    | nil => rw [exitFile_nil r hf] at he; cases he; exact hp
    | cons f fs =>
      obtain ⟨mid, s2, pm, hin, hs'⟩ := exitFile_tasks (P := fun x => P x ∧ x.frames = f :: fs) hf he ⟨hp, hf⟩
        (fun hs ⟨p, e⟩ => ⟨hcl hs p, e⟩) (fun _ _ _ _ _ _ _ hr ⟨p, e⟩ => ⟨htask hr p, (eff_runTask hr).frames.trans e⟩)
      have p2 := hpop pm.2 hin pm.1
      rcases hs' with ⟨_, rfl⟩ | rfl
      · exact hmode _ (hlog _ p2)
      · exact hmode _ p2
  · exact finalize_pres (Q := fun _ => True) (fun _ hr => htask hr) (fun p => ⟨hcg p, fun _ _ => trivial⟩) hlog hfin hp
  · rcases hs' with ⟨_, rfl⟩ | ⟨l, _, rfl⟩
    · exact hstmt hst hp
    · exact hmode _ (hstmt hst hp)

theorem run_pres {P : State → Prop} (hstep : ∀ {s s' : State} {op : Op}, step s op = .ok s' → P s → P s') :
    ∀ (ops : List Op) {s s' : State}, run s ops = .ok s' → P s → P s'
  | [], s, s', h, hp => by simp only [run] at h; cases h; exact hp
  | op :: ops, s, s', h, hp => by
    simp only [run] at h
    split at h
    · cases h
    · rename_i s1 hs; exact run_pres hstep ops h (hstep hs hp)

theorem reach_pres {P : State → Prop} (hrun : ∀ {ops : List Op} {s s' : State}, run s ops = .ok s' → P s → P s')
    {s0 : State} (h0 : P s0) : ∀ (ctx : List (Nat × Body)) {s : State}, Reach s0 ctx s → P s
  | [], _, h => h ▸ h0
  | _ :: outer, _, ⟨_, hr, _, h⟩ => hrun h (reach_pres hrun h0 outer hr)

theorem stackLe_refl : ∀ (a : List Table), stackLe a a
  | [] => trivial
  | t :: ts => ⟨Table.le_refl t, stackLe_refl ts⟩

theorem stackLe_trans : ∀ {a b c : List Table}, stackLe a b → stackLe b c → stackLe a c
  | [], [], [], _, _ => trivial
  | _ :: _, _ :: _, _ :: _, h1, h2 => ⟨Table.le_trans h1.1 h2.1, stackLe_trans h1.2 h2.2⟩
  | [], [], _ :: _, _, h2 => h2.elim
  | [], _ :: _, _, h1, _ => h1.elim
  | _ :: _, [], _, h1, _ => h1.elim
  | _ :: _, _ :: _, [], _, h2 => h2.elim

theorem stackLe_length : ∀ {a b : List Table}, stackLe a b → a.length = b.length
  | [], [], _ => rfl
  | _ :: _, _ :: _, h => by simp [stackLe_length h.2]
  | [], _ :: _, h => h.elim
  | _ :: _, [], h => h.elim

theorem stackLe_get : ∀ {a b : List Table}, stackLe a b → ∀ (j : Nat) (t t' : Table),
    a[j]? = some t → b[j]? = some t' → t.le t'
  | [], [], _, j, t, t', h1, _ => by simp at h1
  | x :: xs, y :: ys, h, 0, t, t', h1, h2 => by
    simp at h1 h2; subst h1; subst h2; exact h.1
  | x :: xs, y :: ys, h, j + 1, t, t', h1, h2 => by
    simp at h1 h2; exact stackLe_get h.2 j t t' h1 h2
  | [], _ :: _, h, _, _, _, _, _ => h.elim
  | _ :: _, [], h, _, _, _, _, _ => h.elim

theorem stackLe_of_eff {s s' : State} (h : Eff s s') : stackLe (tables s) (tables s') := by
  unfold tables
  rw [h.frames]
  have hl := h.locals
  cases h1 : s.locals <;> cases h2 : s'.locals <;> simp [h1, h2, optLe] at hl ⊢
  · exact ⟨h.globals, stackLe_refl _⟩
  · exact ⟨hl, h.globals, stackLe_refl _⟩


theorem exitFile_stack {s s' : State} {r : Option Level} {f : Saved} {fs : List Saved}
    (hl : s.locals.isSome) (hf : s.frames = f :: fs) (h : exitFile s r = .ok s') :
    ∃ mid, Eff s mid ∧ tables s' = (tables mid).tail ∧ s'.depth + 1 = s.depth ∧ s'.frames = fs := by
  obtain ⟨mid, s2, hmid, hin, hs'⟩ := exitFile_tasks (P := Eff s) hf h (Eff.refl s)
    (fun hs e => e.trans (eff_clearLocal hs)) (fun _ _ _ _ _ _ _ hr e => e.trans (eff_runTask hr))
  have ht := tables_intoInner (hmid.frames.trans hf) (by rw [optLe_isSome hmid.locals]; exact hl) hin
  obtain ⟨d, hd, _, e2⟩ := intoInner_eq hin
  have hd' : s2.depth + 1 = s.depth := by rw [← hmid.depth, hd, e2]
  have hfr : s2.frames = fs := by rw [e2]
  refine ⟨mid, hmid, ?_⟩
  rcases hs' with ⟨_, rfl⟩ | rfl <;> exact ⟨ht, hd', hfr⟩

theorem stackLe_append : ∀ {a b c d : List Table}, stackLe a b → stackLe c d → stackLe (a ++ c) (b ++ d)
  | [], [], _, _, _, h2 => h2
  | _ :: _, _ :: _, _, _, h1, h2 => ⟨h1.1, stackLe_append h1.2 h2⟩
  | [], _ :: _, _, _, h1, _ => h1.elim
  | _ :: _, [], _, _, h1, _ => h1.elim

theorem stackLe_reverse : ∀ {a b : List Table}, stackLe a b → stackLe a.reverse b.reverse
  | [], [], _ => trivial
  | x :: xs, y :: ys, h => by
    rw [List.reverse_cons, List.reverse_cons]
    exact stackLe_append (stackLe_reverse h.2) ⟨h.1, trivial⟩
  | [], _ :: _, h => h.elim
  | _ :: _, [], h => h.elim

theorem stackLe_get_rev {a b : List Table} (h : stackLe a b) (i : Nat) (t t' : Table)
    (hi : a.reverse[i]? = some t) (hi' : b.reverse[i]? = some t') : t.le t' :=
  stackLe_get (stackLe_reverse h) i t t' hi hi'

theorem open_init : Open init := ⟨by simp [init], trivial⟩

theorem open_enterFile {s : State} (h : Open s) (tag : Nat) : Open (enterFile s tag) := by
  unfold enterFile
  constructor
  · simp
  · cases hl : s.locals with
    | none =>
      have : s.frames = [] := by
        by_cases hf : s.frames = []
        · exact hf
        · have := h.locals.2 hf; rw [hl] at this; cases this
      cases ht : s.localTasks <;> simp [framesOk, this]
    | some c =>
      have : s.frames ≠ [] := h.locals.1 (by rw [hl]; rfl)
      cases ht : s.localTasks <;> simp [framesOk, this, h.frames]

theorem open_of_eff {s s' : State} (h : Open s) (e : Eff s s') : Open s' :=
  ⟨by rw [optLe_isSome e.locals, e.frames]; exact h.locals, by rw [e.frames]; exact h.frames⟩


theorem open_intoInner {s s' : State} {f : Saved} {fs : List Saved} (hf : s.frames = f :: fs) (h : Open s)
    (hi : intoInner s f fs = .ok s') : Open s' := by
  have hfo := h.frames
  rw [hf] at hfo
  obtain ⟨d, _, _, rfl⟩ := intoInner_eq hi
  exact ⟨by simpa using hfo.1, hfo.2⟩

theorem open_step {s s' : State} {op : Op} (h : Open s) (hs : step s op = .ok s') : Open s' :=
  step_pres (fun h o => open_of_eff o (eff_stmt h)) (fun h o => open_of_eff o (eff_runTask h))
    (fun _ o => ⟨o.locals, o.frames⟩) (fun _ o => ⟨o.locals, o.frames⟩) (fun tag o => open_enterFile o tag)
    (fun hs o => open_of_eff o (eff_clearLocal hs)) (fun o => ⟨o.locals, o.frames⟩)
    (fun hf hin o => open_intoInner hf o hin) hs h

theorem open_run (ops : List Op) {s s' : State} (h : Open s) (hr : run s ops = .ok s') : Open s' :=
  run_pres (fun hs o => open_step o hs) ops hr h

end Trion.Scope
