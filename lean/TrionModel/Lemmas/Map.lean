import TrionModel.Model.Map
import TrionModel.Spec.Dict
/-! Memory map: the abstraction `abs` into the dictionary, the invariant `Ok` with its separation part `Sep`, unoccupied
addresses, and the refinement of `put` (`putGo_spec`). -/
namespace Trion.Map
open Trion.Dict

/-- the dictionary a segment list denotes -/
def abs : Segs → Dict
  | [] => fun _ => none
  | (f, x) :: r => fun k => if f ≤ k ∧ k < f + x.length then x[k - f]? else abs r k

/-- `Ok l ps`: every segment starts at or above `l`, is non-empty, ends at or below 0xFFFFFFFF, and is
followed by a gap of at least one address (sorted, non-overlapping, maximally merged). -/
def Ok : Nat → Segs → Prop
  | _, [] => True
  | lo, (f, x) :: r => lo ≤ f ∧ x ≠ [] ∧ f + x.length ≤ 4294967296 ∧ Ok (f + x.length + 1) r

/-- the representation invariant of `MemoryMap` -/
def MInv (ps : Segs) : Prop := Ok 0 ps

theorem Ok_mono {l l' : Nat} {ps : Segs} (h : l' ≤ l) (ok : Ok l ps) : Ok l' ps := by
  cases ps with
  | nil => trivial
  | cons s r => obtain ⟨f, x⟩ := s; exact ⟨Nat.le_trans h ok.1, ok.2⟩

theorem Ok_mem_bounds {l : Nat} {ps : Segs} (ok : Ok l ps) {t : Seg} (h : t ∈ ps) :
    l ≤ t.1 ∧ 0 < t.2.length ∧ t.1 + t.2.length ≤ 4294967296 := by
  induction ps generalizing l with
  | nil => simp at h
  | cons s r ih =>
    obtain ⟨f, x⟩ := s
    obtain ⟨o1, o2, o3, o4⟩ := ok
    rcases List.mem_cons.mp h with rfl | h
    · exact ⟨o1, List.length_pos_iff.mpr o2, o3⟩
    · have := ih o4 h; exact ⟨by omega, this.2⟩

theorem Ok_mem {l : Nat} {ps : Segs} (ok : Ok l ps) {t : Seg} (h : t ∈ ps) : l ≤ t.1 := (Ok_mem_bounds ok h).1

theorem Ok_tail {l f : Nat} {x : List UInt8} {r : Segs} (ok : Ok l ((f, x) :: r)) :
    Ok (f + x.length + 1) r := ok.2.2.2

theorem Ok_append_right {l : Nat} {A q : Segs} (ok : Ok l (A ++ q)) : Ok l q := by
  induction A generalizing l with
  | nil => exact ok
  | cons s A ih =>
    obtain ⟨f, x⟩ := s
    exact Ok_mono (by have := ok.1; omega) (ih ok.2.2.2)

theorem Ok_append_lt {l : Nat} {M : Segs} {s : Seg} {R : Segs} (ok : Ok l (M ++ s :: R)) {m : Seg}
    (h : m ∈ M) : m.1 + m.2.length < s.1 := by
  induction M generalizing l with
  | nil => simp at h
  | cons u M ih =>
    obtain ⟨f, x⟩ := u
    rcases List.mem_cons.mp h with rfl | h
    · have := Ok_mem ok.2.2.2 (show s ∈ M ++ s :: R by simp)
      simp only; omega
    · exact ih ok.2.2.2 h

theorem Ok_lb {l : Nat} {ps : Segs} (ok : Ok l ps) {j : Nat} {t : Seg} (h : ps[j]? = some t) :
    l ≤ t.1 := Ok_mem ok (List.mem_of_getElem? h)

theorem Ok_sorted {l : Nat} {ps : Segs} (ok : Ok l ps) {i j : Nat} {s t : Seg} (hij : i < j)
    (hi : ps[i]? = some s) (hj : ps[j]? = some t) : s.1 + s.2.length < t.1 := by
  induction ps generalizing l i j with
  | nil => simp at hi
  | cons u r ih =>
    obtain ⟨f, x⟩ := u
    obtain ⟨h1, _, _, h4⟩ := ok
    cases j with
    | zero => omega
    | succ j =>
      rw [List.getElem?_cons_succ] at hj
      cases i with
      | zero =>
        simp at hi; subst hi
        have := Ok_lb h4 hj
        show f + x.length < t.1
        omega
      | succ i =>
        rw [List.getElem?_cons_succ] at hi
        exact ih h4 (by omega) hi hj


/-- `Ok` without the bound 2^32: ascending, non-empty segments with a gap after each. The refinement of `put`
needs no more than this; the bound is carried along separately (`putGo_bound`). -/
def Sep : Nat → Segs → Prop
  | _, [] => True
  | lo, (f, x) :: r => lo ≤ f ∧ x ≠ [] ∧ Sep (f + x.length + 1) r

theorem Sep.mono {l l' : Nat} {ps : Segs} (h : Sep l ps) (hl : l' ≤ l) : Sep l' ps := by
  cases ps with
  | nil => trivial
  | cons s r => obtain ⟨f, x⟩ := s; exact ⟨Nat.le_trans hl h.1, h.2⟩

theorem Ok.sep {l : Nat} {ps : Segs} (ok : Ok l ps) : Sep l ps := by
  induction ps generalizing l with
  | nil => trivial
  | cons s r ih => obtain ⟨f, x⟩ := s; exact ⟨ok.1, ok.2.1, ih ok.2.2.2⟩

theorem Sep.ok {l : Nat} {ps : Segs} (h : Sep l ps) (hb : ∀ s ∈ ps, s.1 + s.2.length ≤ 4294967296) :
    Ok l ps := by
  induction ps generalizing l with
  | nil => trivial
  | cons s r ih =>
    obtain ⟨f, x⟩ := s
    exact ⟨h.1, h.2.1, hb (f, x) (List.mem_cons_self ..), ih h.2.2 (fun s hs => hb s (List.mem_cons_of_mem _ hs))⟩

theorem Sep.abs_none_of_lt {l : Nat} {ps : Segs} (h : Sep l ps) {k : Nat} (hk : k < l) : abs ps k = none := by
  induction ps generalizing l with
  | nil => rfl
  | cons s r ih =>
    obtain ⟨f, x⟩ := s
    have : ¬ (f ≤ k ∧ k < f + x.length) := by have := h.1; omega
    simp only [abs, this, if_false]
    exact ih h.2.2 (by have := h.1; omega)

theorem abs_none_of_lt {l : Nat} {ps : Segs} (ok : Ok l ps) {k : Nat} (h : k < l) : abs ps k = none :=
  ok.sep.abs_none_of_lt h

theorem abs_cons (f : Nat) (x : List UInt8) (r : Segs) (k : Nat) :
    abs ((f, x) :: r) k = if f ≤ k ∧ k < f + x.length then x[k - f]? else abs r k := rfl

theorem abs_none_of_gap {l : Nat} {A Q : Segs} (ok : Ok l (A ++ Q)) {k : Nat}
    (hA : ∀ s ∈ A, s.1 + s.2.length ≤ k) (hQ : ∀ s ∈ Q.head?, k < s.1) : abs (A ++ Q) k = none := by
  induction A generalizing l with
  | nil =>
    cases Q with
    | nil => rfl
    | cons s r =>
      obtain ⟨f, x⟩ := s
      exact abs_none_of_lt (show Ok f ((f, x) :: r) from ⟨Nat.le_refl _, ok.2⟩) (hQ (f, x) rfl)
  | cons s A ih =>
    obtain ⟨f, x⟩ := s
    have := hA (f, x) (List.mem_cons_self ..)
    rw [List.cons_append, abs_cons, if_neg (by simp only at this; omega)]
    exact ih ok.2.2.2 (fun u hu => hA u (List.mem_cons_of_mem _ hu))

theorem abs_none_of_ge {l : Nat} {ps : Segs} (ok : Ok l ps) {k : Nat} (h : 4294967296 ≤ k) : abs ps k = none := by
  have := abs_none_of_gap (A := ps) (Q := []) (by rwa [List.append_nil]) (k := k)
    (fun s hs => Nat.le_trans (Ok_mem_bounds ok hs).2.2 h) (fun _ hs => by cases hs)
  rwa [List.append_nil] at this

theorem merged_length (f a : Nat) (x d : List UInt8) :
    (x.take (a - f) ++ d ++ x.drop (a + d.length - f)).length
      = min (a - f) x.length + d.length + (x.length - (a + d.length - f)) := by
  simp only [List.length_append, List.length_take, List.length_drop]

theorem merged_ne_nil (f a : Nat) (x : List UInt8) {d : List UInt8} (hd : d ≠ []) :
    x.take (a - f) ++ d ++ x.drop (a + d.length - f) ≠ [] := by
  simp [hd]

theorem merged_get (f a : Nat) (x d : List UInt8) (h1 : a ≤ f + x.length) (h2 : f ≤ a + d.length) (k : Nat) :
    (if min a f ≤ k ∧ k < min a f + (x.take (a - f) ++ d ++ x.drop (a + d.length - f)).length
      then (x.take (a - f) ++ d ++ x.drop (a + d.length - f))[k - min a f]? else none) =
    (if a ≤ k ∧ k < a + d.length then d[k - a]?
      else if f ≤ k ∧ k < f + x.length then x[k - f]? else none) := by
  rw [merged_length]
  by_cases c1 : a ≤ k ∧ k < a + d.length
  · rw [if_pos c1, if_pos (by omega)]
    rw [List.append_assoc, List.getElem?_append_right (by simp [List.length_take]; omega)]
    rw [List.getElem?_append_left (by simp [List.length_take]; omega)]
    congr 1
    simp [List.length_take]; omega
  · rw [if_neg c1]
    by_cases c2 : f ≤ k ∧ k < f + x.length
    · rw [if_pos c2, if_pos (by omega)]
      by_cases c3 : k < a
      · rw [List.append_assoc, List.getElem?_append_left (by simp [List.length_take]; omega)]
        rw [List.getElem?_take_of_lt (by omega)]
        congr 1; omega
      · rw [List.getElem?_append_right (by simp [List.length_take]; omega)]
        rw [List.getElem?_drop]
        congr 1
        simp [List.length_take]; omega
    · rw [if_neg c2, if_neg (by omega)]

theorem put_apply (D : Dict) (a : Nat) (d : List UInt8) (k : Nat) :
    Dict.put D a d k = if a ≤ k ∧ k < a + d.length then d[k - a]? else D k := rfl

theorem putGo_cons (f : Nat) (x : List UInt8) (r : Segs) (a : Nat) (d : List UInt8) :
    putGo ((f, x) :: r) a d =
      if f + x.length < a then ((putGo r a d).1, (f, x) :: (putGo r a d).2)
      else if a + d.length < f then (0, (a, d) :: (f, x) :: r)
      else (x.length - (x.take (a - f)).length - (x.drop (a + d.length - f)).length
              + (putGo r (min a f) (x.take (a - f) ++ d ++ x.drop (a + d.length - f))).1,
            (putGo r (min a f) (x.take (a - f) ++ d ++ x.drop (a + d.length - f))).2) := by
  rw [putGo]

theorem putGo_sep (ps : Segs) : ∀ (l a : Nat) (d : List UInt8), Sep l ps → l ≤ a → d ≠ [] →
    Sep l (putGo ps a d).2 ∧ ∀ k, abs (putGo ps a d).2 k = Dict.put (abs ps) a d k := by
  induction ps with
  | nil =>
    intro l a d _ hlo hd
    refine ⟨⟨hlo, hd, trivial⟩, fun k => ?_⟩
    show abs [(a, d)] k = _
    rw [abs_cons, put_apply]
  | cons s r ih =>
    obtain ⟨f, x⟩ := s
    intro l a d sep hlo hd
    obtain ⟨o1, o2, o4⟩ := sep
    rw [putGo_cons]
    by_cases c1 : f + x.length < a
    · rw [if_pos c1]
      obtain ⟨i1, i2⟩ := ih (f + x.length + 1) a d o4 (by omega) hd
      refine ⟨⟨o1, o2, i1⟩, fun k => ?_⟩
      rw [abs_cons, i2, put_apply, put_apply, abs_cons]
      by_cases c : a ≤ k ∧ k < a + d.length
      · have c' : ¬ (f ≤ k ∧ k < f + x.length) := by omega
        simp [c, c']
      · simp [c]
    · rw [if_neg c1]
      by_cases c2 : a + d.length < f
      · rw [if_pos c2]
        refine ⟨⟨hlo, hd, by omega, o2, o4⟩, fun k => ?_⟩
        rw [abs_cons, put_apply]
      · rw [if_neg c2]
        obtain ⟨i1, i2⟩ := ih l (min a f) _ (o4.mono (by omega)) (by omega) (merged_ne_nil f a x hd)
        refine ⟨i1, fun k => ?_⟩
        rw [i2, put_apply, put_apply, abs_cons]
        have hm := merged_get f a x d (by omega) (by omega) k
        have hl := merged_length f a x d
        by_cases c : min a f ≤ k ∧ k < min a f + (x.take (a - f) ++ d ++ x.drop (a + d.length - f)).length
        · rw [if_pos c] at hm ⊢
          rw [hm]
          by_cases c3 : a ≤ k ∧ k < a + d.length
          · rw [if_pos c3, if_pos c3]
          · rw [if_neg c3, if_neg c3]
            by_cases c4 : f ≤ k ∧ k < f + x.length
            · rw [if_pos c4, if_pos c4]
            · omega
        · rw [if_neg c] at hm ⊢
          rw [if_neg (by omega), if_neg (by omega)]

theorem putGo_bound (B : Nat) (ps : Segs) : ∀ (a : Nat) (d : List UInt8),
    (∀ s ∈ ps, s.1 + s.2.length ≤ B) → a + d.length ≤ B → ∀ s ∈ (putGo ps a d).2, s.1 + s.2.length ≤ B := by
  induction ps with
  | nil =>
    intro a d _ hb s hs
    rw [List.mem_singleton.mp hs]; exact hb
  | cons t r ih =>
    obtain ⟨f, x⟩ := t
    intro a d hps hb
    have hf : f + x.length ≤ B := hps (f, x) (List.mem_cons_self ..)
    have hr : ∀ s ∈ r, s.1 + s.2.length ≤ B := fun s hs => hps s (List.mem_cons_of_mem _ hs)
    rw [putGo_cons]
    by_cases c1 : f + x.length < a
    · rw [if_pos c1]
      intro s hs
      rcases List.mem_cons.mp hs with rfl | hs
      · exact hf
      · exact ih a d hr hb s hs
    · rw [if_neg c1]
      by_cases c2 : a + d.length < f
      · rw [if_pos c2]
        intro s hs
        rcases List.mem_cons.mp hs with rfl | hs
        · exact hb
        · exact hps s hs
      · rw [if_neg c2]
        exact ih _ _ hr (by rw [merged_length]; omega)

theorem putGo_spec (ps : Segs) (l a : Nat) (d : List UInt8) (ok : Ok l ps) (hlo : l ≤ a) (hd : d ≠ [])
    (hb : a + d.length ≤ 4294967296) :
    Ok l (putGo ps a d).2 ∧ ∀ k, abs (putGo ps a d).2 k = Dict.put (abs ps) a d k :=
  have h := putGo_sep ps l a d ok.sep hlo hd
  ⟨h.1.ok (putGo_bound _ ps a d (fun _ hs => (Ok_mem_bounds ok hs).2.2) hb), h.2⟩

end Trion.Map
