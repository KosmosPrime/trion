import TrionModel.Lemmas.LexStrScan
/-!
# Number literals: `from_str_radix` is positional notation (`valueFrom`) with an overflow check; the number arm on
`radixPrefix r ++ ds ++ rest` (`prefix_detect`, `lexNumber_follow`); `Follow`: what may come after a number or a name
-/
namespace Trion.Lex
open Trion.Pos (isCont adv)

/-- positional notation: the value of the digits `ds` in `radix`, continuing from `acc`; a byte that is no digit of `radix`
counts 0 -/
def valueFrom (radix : Nat) (ds : Bytes) (acc : Nat) : Nat :=
  ds.foldl (fun a b => a * radix + (digitVal radix b).getD 0) acc

theorem valueFrom_ge (radix : Nat) (hr : 1 ≤ radix) (ds : Bytes) (acc : Nat) : acc ≤ valueFrom radix ds acc := by
  induction ds generalizing acc with
  | nil => simp [valueFrom]
  | cons b ds ih =>
    have := ih (acc * radix + (digitVal radix b).getD 0)
    simp only [valueFrom, List.foldl_cons] at this ⊢
    have h2 : acc ≤ acc * radix := Nat.le_mul_of_pos_right acc hr
    omega

theorem parseDigits_eq (radix max : Nat) (hr : 1 ≤ radix) (ds : Bytes) (acc : Nat)
    (hd : ∀ b ∈ ds, isDigit radix b = true) (hacc : acc ≤ max) :
    parseDigits radix max ds acc = if valueFrom radix ds acc ≤ max then some (valueFrom radix ds acc) else none := by
  induction ds generalizing acc with
  | nil => simp [parseDigits, valueFrom, hacc]
  | cons b ds ih =>
    have hb := hd b (by simp)
    unfold isDigit at hb
    cases hv : digitVal radix b with
    | none => simp [hv] at hb
    | some v =>
      simp only [parseDigits, hv]
      have hstep : valueFrom radix (b :: ds) acc = valueFrom radix ds (acc * radix + v) := by
        simp [valueFrom, hv]
      rw [hstep]
      by_cases hov : acc * radix + v > max
      · simp only [hov, if_true]
        have := valueFrom_ge radix hr ds (acc * radix + v)
        have : ¬ valueFrom radix ds (acc * radix + v) ≤ max := by omega
        simp [this]
      · simp only [hov, if_false]
        exact ih _ (fun x hx => hd x (by simp [hx])) (by omega)

/-- what selects radix `r` in front of the digits: `0b`, `0o`, `0x`, nothing -/
def radixPrefix (r : Nat) : Bytes :=
  if r = 2 then [48, 98] else if r = 8 then [48, 111] else if r = 16 then [48, 120] else []

theorem isDigit10_range {b : UInt8} (h : isDigit 10 b = true) : 48 ≤ b.toNat ∧ b.toNat ≤ 57 := by
  obtain ⟨v, hv⟩ := isDigit_some h
  have := digitVal_some hv
  omega

theorem prefix_detect (r : Nat) (hr : r = 2 ∨ r = 8 ∨ r = 10 ∨ r = 16) (ds rest : Bytes)
    (hds : ∀ b ∈ ds, isDigit r b = true) (hne : r = 10 → ds ≠ [])
    (hrest : r = 10 → ∀ b, rest.head? = some b → isDigit 10 b = false → b.toNat ≠ 98 ∧ b.toNat ≠ 111 ∧ b.toNat ≠ 120) :
    numOff (radixPrefix r ++ ds ++ rest) = (radixPrefix r).length ∧ numRadix (radixPrefix r ++ ds ++ rest) = r := by
  unfold numOff numRadix
  rcases hr with rfl | rfl | rfl | rfl
  · simp [radixPrefix, startsWith2]
  · simp [radixPrefix, startsWith2]
  · -- decimal: the second byte is a decimal digit or the non-digit that ends the run
    simp only [radixPrefix]
    simp only [show ¬ (10 = 2) by omega, show ¬ (10 = 8) by omega, show ¬ (10 = 16) by omega, if_false, List.nil_append]
    have key : ∀ y, (y = 98 ∨ y = 111 ∨ y = 120) → startsWith2 (ds ++ rest) 48 y = false := by
      intro y hy
      cases ds with
      | nil => exact absurd rfl (hne rfl)
      | cons a ds' =>
        cases ds' with
        | cons b ds'' =>
          have hb := isDigit10_range (hds b (by simp))
          simp [startsWith2]
          intro _; omega
        | nil =>
          cases rest with
          | nil => simp [startsWith2]
          | cons b rest' =>
            simp [startsWith2]
            intro _
            by_cases hdg : isDigit 10 b = true
            · have := isDigit10_range hdg; omega
            · have := hrest rfl b rfl (by simpa using hdg); omega
    simp [key 98 (by omega), key 111 (by omega), key 120 (by omega)]
  · simp [radixPrefix, startsWith2]

/-- the byte after an identifier or a number (`none`: the end of the text) does not continue it: it is no identifier byte
(digits are identifier bytes). The side condition of `Spell.ident`, `Spell.num`, `TokOk.ident`, `TokOk.num`. -/
def Follow (nx : Option UInt8) : Prop := ∀ b, nx = some b → isIdentByte b = false

theorem isIdentByte_of_isDigit {r : Nat} {b : UInt8} (h : isDigit r b = true) : isIdentByte b = true := by
  obtain ⟨v, hv⟩ := isDigit_some h
  have := (digitVal_some hv).2
  simp [isIdentByte]
  omega

theorem radixPrefix_ascii (r : Nat) : ∀ b ∈ radixPrefix r, b.toNat < 128 ∧ b.toNat ≠ 10 := by
  intro b hb
  unfold radixPrefix at hb
  split at hb
  · simp at hb; rcases hb with rfl | rfl <;> decide
  · split at hb
    · simp at hb; rcases hb with rfl | rfl <;> decide
    · split at hb
      · simp at hb; rcases hb with rfl | rfl <;> decide
      · simp at hb

theorem number_ascii (r : Nat) (ds : Bytes) (hds : ∀ b ∈ ds, isDigit r b = true) :
    ∀ b ∈ radixPrefix r ++ ds, b.toNat < 128 ∧ b.toNat ≠ 10 := by
  intro b hb
  rcases List.mem_append.mp hb with hb | hb
  · exact radixPrefix_ascii r b hb
  · exact isDigit_ascii (hds b hb)

theorem number_head (r : Nat) (ds : Bytes) (hrx : r = 2 ∨ r = 8 ∨ r = 10 ∨ r = 16) (hne : r = 10 → ds ≠ [])
    (hds : ∀ b ∈ ds, isDigit r b = true) :
    ∃ d0 dtl, radixPrefix r ++ ds = d0 :: dtl ∧ 48 ≤ d0.toNat ∧ d0.toNat ≤ 57 := by
  rcases hrx with rfl | rfl | rfl | rfl
  · exact ⟨48, 98 :: ds, by simp [radixPrefix], by decide⟩
  · exact ⟨48, 111 :: ds, by simp [radixPrefix], by decide⟩
  · cases ds with
    | nil => exact absurd rfl (hne rfl)
    | cons a ds' => exact ⟨a, ds', by simp [radixPrefix], isDigit10_range (hds a (by simp))⟩
  · exact ⟨48, 120 :: ds, by simp [radixPrefix], by decide⟩

theorem lexNumber_follow (r : Nat) (ds rest : Bytes) (hrx : r = 2 ∨ r = 8 ∨ r = 10 ∨ r = 16) (hne : r = 10 → ds ≠ [])
    (hds : ∀ b ∈ ds, isDigit r b = true) (hf : Follow rest.head?) (hr : ∀ b, rest.head? = some b → isCont b = false)
    (l k : Nat) :
    lexNumber ⟨radixPrefix r ++ ds ++ rest, false, l, k⟩ = match i64FromStrRadix ds r with
      | some v => .tok ⟨l, k, .num v⟩ ⟨rest, false, l, k + (radixPrefix r ++ ds).length⟩
      | none => fail ⟨radixPrefix r ++ ds ++ rest, false, l, k⟩ .badNumber := by
  have hdet := prefix_detect r hrx ds rest hds hne (by
    intro _ b hb _
    have := hf b hb
    simp [isIdentByte] at this
    omega)
  have h := lexNumber_exact ⟨radixPrefix r ++ ds ++ rest, false, l, k⟩ (radixPrefix r) ds rest r rfl
    hdet.1 hdet.2 hds
    (by cases ds with
        | nil => simpa using hr
        | cons a ds' => intro b hb; simp at hb; subst hb; exact isDigit_noncont (hds _ (by simp)))
    (by cases rest with
        | nil => exact Or.inl rfl
        | cons r0 rtl =>
          refine Or.inr ⟨r0, rtl, rfl, ?_, hr r0 rfl⟩
          cases hdg : isDigit r r0 with
          | false => rfl
          | true => have := hf r0 rfl; rw [isIdentByte_of_isDigit hdg] at this; cases this)
  rwa [if_neg (by simp)] at h

end Trion.Lex

namespace Trion.Show
open Trion.Lex

theorem follow_of_not_ident {b : UInt8} (h : isIdentByte b = false) : Follow (some b) := by
  intro c hc; cases hc; exact h

theorem valueFrom_snoc (r : Nat) (a : Bytes) (x : UInt8) (acc : Nat) :
    valueFrom r (a ++ [x]) acc = valueFrom r a acc * r + (digitVal r x).getD 0 := by
  simp [valueFrom, List.foldl_append]

end Trion.Show
