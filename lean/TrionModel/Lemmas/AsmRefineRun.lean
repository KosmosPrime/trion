import TrionModel.Lemmas.AsmMultiTasks
import TrionModel.Lemmas.AsmScopeRel
import TrionModel.Lemmas.AsmEnc
/-!
# The inversions of a successful run, and the run of a single-file project against the layout core

`fileBody_inv`, `assembleFile_inv`, `run_success_inv` (what a file body, a call of `assemble` from inside a file, and a
successful run consist of, when no diagnostic is recorded) and `IncFacts` serve every stage of the simulation.
`doAssemble_sim` / `run_sim` here are the one-file theorem (Props/C05Asm.lean): its statement asks for `Layout.run` of
`abstract num …` under ONE injective numbering of the names, which has no room for the name space of an includer, so it is
an induction of its own over `Multi.statement_sim_fate` and not the instance of the one in Lemmas/AsmXferRun.lean.  It is about a
file without scope directives, whose table only grows (`doAssemble_loc`, first).
-/
namespace Trion.Asm
open Trion Trion.SegLayout

/-! a file without `.include/.global/.import/.export`: its table only grows (`doAssemble_loc`).  A corollary of
`doAssemble_rel`: a statement consults the recursive call `inc` only when it is `.include`, so a file without one runs the
same under the `inc` that never returns, for which `IncRel` holds vacuously. -/

theorem doAssemble_inc_irrel {fs : Bytes → Option Bytes} {enc : Encoder} (inc inc' : Inc) {env : Env}
    (err : Option ParseErr) : ∀ (els : List Element) (st : St), (∀ el ∈ els, okEl el = true) →
      doAssemble fs enc inc env els err st = doAssemble fs enc inc' env els err st := by
  intro els
  induction els with
  | nil => intro st _; cases err <;> rfl
  | cons el els ih =>
    intro st hok
    have hni : ∀ as, el.val ≠ .directive (bytesOf "include") as := fun as e => by
      have := hok el List.mem_cons_self
      simp [okEl, e] at this
    simp only [doAssemble, statement_congr_inc inc inc' hni]
    split
    · exact ih _ (fun x hx => hok x (List.mem_cons_of_mem _ hx))
    · rfl
    · rfl

/-- `Table.le` (Lemmas/AsmScope.lean, the scope rules) and `Table.Sub` (Lemmas/AsmRetry.lean, the retries) are one relation -/
theorem Table.le_iff_sub {a b : Table} : Table.le a b ↔ Table.Sub a b := .rfl

theorem doAssemble_loc {fs : Bytes → Option Bytes} {enc : Encoder} {inc : Inc} {env : Env} (err : Option ParseErr)
    (els : List Element) (st st' : St) (r : Res) (hok : ∀ el ∈ els, okEl el = true)
    (h : doAssemble fs enc inc env els err st = .ok (st', r)) :
    ∀ t, st.locals = some t → ∃ t', st'.locals = some t' ∧ Table.Sub t t' := by
  intro t ht
  rw [doAssemble_inc_irrel inc (fun _ _ _ _ => .stop .fuel) err els st hok] at h
  obtain ⟨C, C', hC, hC', le, _⟩ :=
    (doAssemble_rel (fun _ _ _ _ _ _ _ _ h => by cases h) err els st t ht _ _ h).tabs
  cases hC.symm.trans ht
  exact ⟨C', hC', Table.le_iff_sub.mp le⟩

/-- what the simulation asks of the recursive call of `.include`: it keeps `Good` and does not panic, the diagnostics only
grow, and the file's table only grows — each holds of `assembleFile` at every fuel -/
structure IncFacts (inc : Inc) : Prop where
  ok : IncOk inc
  grew : IncGrew inc
  rel : IncRel inc

theorem IncFacts.assembleFile {enc : Encoder} (henc : EncLen enc) (fs : Bytes → Option Bytes) (fuel : Nat) :
    IncFacts (assembleFile fs enc fuel) :=
  ⟨fun env st data path g => assembleFile_safe henc fs fuel true env st data path g, assembleFile_grew fs enc fuel,
    assembleFile_rel fs enc fuel⟩

theorem fileBody_inv {fs : Bytes → Option Bytes} {enc : Encoder} {inc : Inc} (hincg : IncGrew inc) {env1 : Env}
    {data : Bytes} {st2 st4 : St} {res : Res} (h : fileBody fs enc inc env1 data st2 = .ok (st4, res))
    (herr : st4.errors = []) :
    ∃ els perr st3 tasks, parseFile data = .ok (els, perr) ∧ doAssemble fs enc inc env1 els perr st2 = .ok (st3, .ok) ∧
      st3.errors = [] ∧ st3.localTasks = some tasks ∧
      localLoop enc env1 rounds tasks { st3 with localTasks := some [] } .ok = .ok (st4, res) ∧ res = .ok := by
  obtain ⟨els, perr, st3, res3, hparse, hda, hrest⟩ := fileBody_ok h
  have gda := doAssemble_grew hincg perr els _ st3 res3 hda
  rcases hrest with ⟨hfat, rfl, rfl⟩ | ⟨_, tasks, htk, hll⟩
  · subst hfat
    exact absurd (grew_nil gda herr).2 (by simp)
  · have gll := localLoop_grew _ _ _ _ _ _ hll
    have herr3 : st3.errors = [] := by
      have := gll.1
      rw [herr] at this
      exact List.eq_nil_of_length_eq_zero (by simpa using this)
    have hres3 : res3 = .ok := by
      have := (grew_nil gda herr3).2
      cases res3 with
      | ok => rfl
      | err lv => simp at this
    subst hres3
    refine ⟨els, perr, st3, tasks, hparse, hda, herr3, htk, hll, ?_⟩
    cases res with
    | ok => rfl
    | err lv =>
      exfalso
      rcases gll.2 rfl with h1 | h1
      · simp [Res.isErr] at h1
      · rw [herr, herr3] at h1; simp at h1

/-- `Context::assemble` called from inside a file: the body ran on the swapped context, `leaveFile` swaps back -/
theorem assembleFile_inv {fs : Bytes → Option Bytes} {enc : Encoder} {fuel : Nat} {env : Env} {st st' : St}
    {data path : Bytes} {res : Res} (good : Good true st)
    (h : assembleFile fs enc (fuel + 1) env st data path = .ok (st', res)) :
    ∃ c t st4, st.locals = some c ∧ st.localTasks = some t ∧
      Good true { st with locals := some [], globals := c, localTasks := some [], globalTasks := t } ∧
      fileBody fs enc (assembleFile fs enc fuel) ⟨path :: env.paths, path⟩ data
        { st with locals := some [], globals := c, localTasks := some [], globalTasks := t } = .ok (st4, res) ∧
      st' = leaveFile (some st.globals) (some st.globalTasks) st4 := by
  obtain ⟨c, t, hc, ht, he⟩ := enterFile_true good
  obtain ⟨st4, hf, hst⟩ := assembleFile_ok h
  rw [he] at hf hst
  exact ⟨c, t, st4, hc, ht, good_enter good hc ht, hf, hst⟩

theorem run_success_inv {fs : Bytes → Option Bytes} {main data : Bytes} (hfs : fs main = some data) {o : Outcome}
    (h : run fs main = .done o) (hs : o.success = true) :
    ∃ st4 res4 s', fileBody fs encoder (assembleFile fs encoder (maxDepth - 1)) ⟨[main], main⟩ data C04.init2 = .ok (st4, res4) ∧
      st4.errors = [] ∧ Good true st4 ∧ Seg.closeSegment st4.seg = (s', .ok) ∧
      (st4.globalTasks = [] → o.image = s'.map) := by
  obtain ⟨data', st, res4, hdata, ha, hrest⟩ := runWith_done h
  rw [hfs] at hdata
  cases hdata
  -- 63 = `maxDepth - 1`: `runWith` calls `assembleFile` with fuel `maxDepth`, the main file's `.include`s get one less
  obtain ⟨st4, hfb, hst⟩ := assembleFile_ok (fuel := 63) ha
  have hfb : fileBody fs encoder (assembleFile fs encoder 63) ⟨[main], main⟩ data C04.init2 = .ok (st4, res4) := hfb
  have hst : st = leaveFile none none st4 := hst
  subst hst
  have hinc : IncOk (assembleFile fs encoder 63) := fun env st data path g =>
    assembleFile_safe encoder_len fs 63 true env st data path g
  have g4 := ((fileBody_safe encoder_len hinc (env := ⟨[main], main⟩) rfl fs data good_init2).2 _ _ hfb).1
  rcases hrest with ⟨e, _, rfl⟩ | ⟨_, _, st', fin, hfz, rfl⟩
  · simp [Outcome.success] at hs
  · have hfin : fin = true := by simpa [Outcome.success] using hs
    have hfg := finalize_grew hfz
    have herr4 : st4.errors = [] := by
      have := hfg.1
      rw [hfg.2.mp hfin] at this
      exact List.eq_nil_of_length_eq_zero (Nat.le_zero.mp this)
    refine ⟨st4, res4, _, hfb, herr4, g4, Prod.ext rfl (Seg.close_spec g4.inv).1, fun hgl => ?_⟩
    cases hfz.symm.trans (finalize_nil (by simp only [leaveFile, hgl]))
    rfl

section
variable {num : Bytes → Nat} {enc : Encoder} {t₂ : Table}

theorem doAssemble_sim (hinj : Function.Injective num) (henc : EncLen enc) (fs : Bytes → Option Bytes) (inc : Inc)
    (hinc : IncFacts inc) (env : Env) (path : Bytes) (henv : env.paths = [path]) (perr : Option ParseErr) :
    ∀ (els : List Element) (st stf : St) (l : Layout.State), (∀ el ∈ els, okEl el = true) →
      Sim num enc t₂ st l → doAssemble fs enc inc env els perr st = .ok (stf, .ok) → stf.errors = [] →
      stf.locals = some t₂ →
      ∃ lf, Layout.steps l (abstract num fs enc path t₂ (cursor st) els) = .ok lf ∧ Sim num enc t₂ stf lf := by
  have henv' : env.paths.isEmpty = false := by rw [henv]; rfl
  intro els
  induction els with
  | nil =>
    intro st stf l _ sim h herr hfin
    cases perr with
    | none => simp only [doAssemble] at h; cases h; exact ⟨l, rfl, sim⟩
    | some e => simp only [doAssemble] at h; cases h
  | cons el els ih =>
    intro st stf l hok sim h herr hfin
    simp only [doAssemble] at h
    split at h
    · rename_i st1 hs
      have hok' := fun x hx => hok x (List.mem_cons_of_mem _ hx)
      have g1 := (doAssemble_grew hinc.grew perr els st1 stf _ h)
      have herr1 : st1.errors = [] := (grew_nil g1 herr).1
      have hloc := doAssemble_loc perr els st1 stf _ (fun x hx => hok' x hx) h
      have hT : ∀ t', st1.locals = some t' → Table.Sub t' t₂ := by
        intro t' ht'
        obtain ⟨t'', e1, e2⟩ := hloc t' ht'
        rw [hfin] at e1; cases e1; exact e2
      obtain ⟨l1, s1, s2, s3, _⟩ := Multi.statement_sim_fate hinj henc sim.toMulti fs inc env path henv el
        (hok el List.mem_cons_self) hs herr1 hT
      have good1 := ((statement_safe henc hinc.ok sim.good henv' fs el).2 _ _ hs).1
      obtain ⟨lf, f1, f2⟩ := ih st1 stf l1 hok' ⟨good1, s2.r, s2.tbl, s2.tasks, s2.gl.1⟩ h herr hfin
      refine ⟨lf, ?_, f2⟩
      simp only [abstract, Layout.steps, s1]
      rw [← s3]
      exact f1
    · cases h
    · cases h

end

theorem sim_init2 (num : Bytes → Nat) (enc : Encoder) (t₂ : Table) : Sim num enc t₂ C04.init2 {} :=
  ⟨good_init2, ⟨fun _ => rfl, rfl⟩,
   ⟨[], rfl, fun n h => by simp [Table.find] at h, fun n v h => by simp [Table.find] at h, fun n => rfl⟩,
   ⟨[], rfl, trivial⟩, rfl⟩

/-- **the run of a single file against the layout core**: the image of a successful run is the image `Layout.run`
computes for the abstraction of the parsed statements over the file's final symbol table `t₂`, and that table is the
symbol table the layout core has built when the last statement has been processed -/
theorem run_sim {num : Bytes → Nat} (hinj : Function.Injective num) (fs : Bytes → Option Bytes) (main data : Bytes)
    (hfs : fs main = some data) (els : List Element) (perr : Option ParseErr) (hparse : parseFile data = .ok (els, perr))
    (hok : ∀ el ∈ els, okEl el = true) (o : Outcome) (h : run fs main = .done o)
    (hs : o.success = true) :
    ∃ (t₂ : Table) (img : Layout.Img) (lst : Layout.State), Table.NoDef t₂ ∧
      Layout.steps {} (abstract num fs encoder main t₂ none els) = .ok lst ∧ EnvRel num t₂ lst.env ∧
      Layout.run (abstract num fs encoder main t₂ none els) = .ok img ∧ ∀ a, Map.abs o.image a = img.get a := by
  have henc := encoder_len
  obtain ⟨st4, res4, s', hfb, herr4, _, hcl, himg⟩ := run_success_inv hfs h hs
  have hinc := IncFacts.assembleFile henc fs 63
  obtain ⟨els', perr', st3, tasks, hparse', hda, herr3, htk, hll, _⟩ := fileBody_inv hinc.grew hfb herr4
  rw [hparse] at hparse'; cases hparse'
  obtain ⟨t₂, ht₂, _⟩ := doAssemble_loc perr els _ st3 _ (fun x hx => hok x hx) hda [] rfl
  obtain ⟨lf, f1, f2⟩ := doAssemble_sim (num := num) (t₂ := t₂) hinj henc fs _ hinc
    ⟨[main], main⟩ main rfl perr els C04.init2 st3 {} hok (sim_init2 num encoder t₂) hda herr3 ht₂
  rw [show cursor C04.init2 = none from rfl] at f1
  obtain ⟨t, e1, e2, _, e4⟩ := f2.tbl
  cases e1.symm.trans ht₂
  -- `n + 2 = rounds` (= 8), the round bound `fileBody` gives the file's task loop
  obtain ⟨l2, g1, g2, _⟩ := f2.toMulti.localLoop henc ⟨[main], main⟩ rfl (n := 6) ht₂ htk hll herr4
  obtain ⟨l3, c1, c2, _, _⟩ := close_sim g2.good.inv g2.r
  rw [hcl] at c2
  refine ⟨t₂, l3.closed, lf, e2, f1, e4, ?_, fun a => ?_⟩
  · simp only [Layout.run, f1, g1, c1]
  · rw [himg g2.gl.1]; exact c2.1 a

end Trion.Asm
