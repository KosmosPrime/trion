import TrionModel.Model.Parse
/-!
# Basic lemmas about the parser model: `Res.bind`, the precedence-climbing invariant (no panic)
-/
namespace Trion.Parse

variable {α β : Type}

@[simp] theorem bind_ok (a : α) (f : α → Res β) : (Res.ok a).bind f = f a := rfl
@[simp] theorem bind_err (e : ParseErr) (f : α → Res β) : (Res.err e : Res α).bind f = .err e := rfl
@[simp] theorem bind_panic (f : α → Res β) : (Res.panic : Res α).bind f = .panic := rfl
@[simp] theorem bind_fuel (f : α → Res β) : (Res.fuel : Res α).bind f = .fuel := rfl

theorem bind_eq_ok {x : Res α} {f : α → Res β} {b : β} :
    x.bind f = .ok b ↔ ∃ a, x = .ok a ∧ f a = .ok b := by
  cases x <;> simp

theorem bind_ne_panic {x : Res α} {f : α → Res β} :
    x.bind f ≠ .panic ↔ x ≠ .panic ∧ ∀ a, x = .ok a → f a ≠ .panic := by
  cases x <;> simp

theorem bind_ne_fuel {x : Res α} {f : α → Res β} :
    x.bind f ≠ .fuel ↔ x ≠ .fuel ∧ ∀ a, x = .ok a → f a ≠ .fuel := by
  cases x <;> simp

/-- the `match group.higher()` operand of `parse_binary` -/
def operandF (lo : LexOut) (n : Nat) (g : BinOpGroup) (st : Nat × Nat) (ts : List Token) : Res (Arg × List Token) :=
  match g.higher with
  | none => unaryF lo n ts
  | some h => binaryF lo n h st ts

theorem binaryF_succ (lo : LexOut) (n : Nat) (g : BinOpGroup) (st : Nat × Nat) (ts : List Token) :
    binaryF lo (n+1) g st ts = (operandF lo n g st ts).bind fun p => binLoopF lo n g st p.1 p.2 := by
  rw [binaryF]; rfl

theorem binLoopF_cons (lo : LexOut) (n : Nat) (g : BinOpGroup) (st : Nat × Nat) (lhs : Arg) (t : Token) (r : List Token) :
    binLoopF lo (n+1) g st lhs (t :: r) =
      if t.val.isStop then .ok (lhs, t :: r)
      else match t.val.binOp with
        | none => .err (expectErr "<operator>" t)
        | some op =>
          if op.group.toNat < g.toNat then .ok (lhs, t :: r)
          else if g.toNat < op.group.toNat then .panic
          else (operandF lo n g st r).bind fun p => binLoopF lo n g st (.bin op lhs p.1) p.2 := by
  rw [binLoopF]; rfl

/-- The arms of `parse_unary` on `t :: r`, each as a function of the fuel of its inner call: an operand under a unary
operator; a leaf; a bracketed expression; a bracketed argument list (a call or a sequence; `r1` is where the list
begins); a token no operand begins with. The walks `noPanicAt`, `consumesAt`, `fuelAt`, `monoAt` and `posAt` go by these
five cases (`unaryF_arm`), so that an arm added to `parse_unary` is missing in each of them by name. `refAt`
(`Lemmas/ParseIter.lean`) does not: it splits on the token itself, in step with `unaryS`. -/
inductive UnaryArm (lo : LexOut) (t : Token) (r : List Token) : (Nat → Res (Arg × List Token)) → Prop
  | wrap (f : Arg → Arg) : UnaryArm lo t r fun n => (unaryF lo n r).bind fun p => .ok (f p.1, p.2)
  | leaf (a : Arg) : UnaryArm lo t r fun _ => .ok (a, r)
  | expr (e : String) (w : Tok) (k : Arg → Arg) : UnaryArm lo t r fun n =>
      (binaryF lo n .bitOr (exprStart lo r) r).bind fun p => (close lo e w p.2).bind fun r3 => .ok (k p.1, r3)
  | list (e : String) (w : Tok) (k : Args → Arg) (r1 : List Token) (h : r1 <:+ r) : UnaryArm lo t r fun n =>
      (argsF lo n r1).bind fun p => (close lo e w p.2).bind fun r3 => .ok (k p.1, r3)
  | bad : UnaryArm lo t r fun _ => .err (expectErr "<unary>" t)

theorem unaryF_arm (lo : LexOut) (t : Token) (r : List Token) :
    ∃ F, UnaryArm lo t r F ∧ ∀ n, unaryF lo (n+1) (t :: r) = F n := by
  obtain ⟨l, c, v⟩ := t
  cases v with
  | minus => exact ⟨_, .wrap .neg, fun n => by rw [unaryF]⟩
  | not => exact ⟨_, .wrap .not, fun n => by rw [unaryF]⟩
  | num v => exact ⟨_, .leaf (.const v), fun n => by rw [unaryF]⟩
  | str s => exact ⟨_, .leaf (.str s), fun n => by rw [unaryF]⟩
  | lparen => exact ⟨_, .expr "')'" .rparen id, fun n => by rw [unaryF]; rfl⟩
  | lbrack => exact ⟨_, .expr "']'" .rbrack .addr, fun n => by rw [unaryF]⟩
  | lbrace => exact ⟨_, .list "'}'" .rbrace .seq r (List.suffix_refl _), fun n => by rw [unaryF]⟩
  | ident s =>
    cases r with
    | nil => exact ⟨_, .leaf (.ident s), fun n => by rw [unaryF]⟩
    | cons t1 r1 =>
      obtain ⟨l1, c1, v1⟩ := t1
      by_cases h : v1 = .lparen
      · subst h
        exact ⟨_, .list "')'" .rparen (.func s) r1 (List.suffix_cons _ _), fun n => by rw [unaryF]⟩
      · refine ⟨_, .leaf (.ident s), fun n => ?_⟩
        rw [unaryF]
        cases v1 <;> first | rfl | exact absurd rfl h
  | _ => exact ⟨_, .bad, fun n => by rw [unaryF]⟩

/-- the head of `ts` is not an operator of a group higher than `g` (what the loop of
`parse_binary(g)` needs in order not to panic) -/
def noHigher (g : BinOpGroup) : List Token → Prop
  | [] => True
  | t :: _ => ∀ op, t.val.binOp = some op → op.group.toNat ≤ g.toNat

/-- the head of `ts` ends an expression of group `g`: nothing left, a stop token, or an operator of a
lower group (what `parse_binary(g)` leaves behind when it succeeds) -/
def ended (g : BinOpGroup) : List Token → Prop
  | [] => True
  | t :: _ => t.val.isStop = true ∨ ∃ op, t.val.binOp = some op ∧ op.group.toNat < g.toNat

/-- The arms of the operator loop of `parse_binary(g)` on `t :: r`, each as a function of the fuel of its inner calls: `t`
ends the expression (`ended`) and the loop returns; `t` is no operator; `t` is an operator of a higher group (the `panic!`,
which `noHigher` excludes); `t` is an operator of the group `g`, whose right operand is read and the loop entered again.
The walks that go by `UnaryArm` go through the loop by these four cases (`binLoopF_arm`); `refAt` rewrites with `binLoopF_cons`. -/
inductive LoopArm (lo : LexOut) (g : BinOpGroup) (st : Nat × Nat) (lhs : Arg) (t : Token) (r : List Token) :
    (Nat → Res (Arg × List Token)) → Prop
  | done (h : ended g (t :: r)) : LoopArm lo g st lhs t r fun _ => .ok (lhs, t :: r)
  | noOp : LoopArm lo g st lhs t r fun _ => .err (expectErr "<operator>" t)
  | higher (op : BinOp) (h : t.val.binOp = some op) (hgt : g.toNat < op.group.toNat) : LoopArm lo g st lhs t r fun _ => .panic
  | same (op : BinOp) : LoopArm lo g st lhs t r fun n =>
      (operandF lo n g st r).bind fun p => binLoopF lo n g st (.bin op lhs p.1) p.2

theorem binLoopF_arm (lo : LexOut) (g : BinOpGroup) (st : Nat × Nat) (lhs : Arg) (t : Token) (r : List Token) :
    ∃ F, LoopArm lo g st lhs t r F ∧ ∀ n, binLoopF lo (n+1) g st lhs (t :: r) = F n := by
  by_cases hs : t.val.isStop = true
  · exact ⟨_, .done (.inl hs), fun n => by rw [binLoopF_cons, if_pos hs]⟩
  · cases hop : t.val.binOp with
    | none => exact ⟨_, .noOp, fun n => by rw [binLoopF_cons, if_neg hs, hop]⟩
    | some op =>
      by_cases h1 : op.group.toNat < g.toNat
      · exact ⟨_, .done (.inr ⟨op, hop, h1⟩), fun n => by rw [binLoopF_cons, if_neg hs, hop]; simp only [if_pos h1]⟩
      · by_cases h2 : g.toNat < op.group.toNat
        · exact ⟨_, .higher op hop h2, fun n => by rw [binLoopF_cons, if_neg hs, hop]; simp only [if_neg h1, if_pos h2]⟩
        · exact ⟨_, .same op, fun n => by rw [binLoopF_cons, if_neg hs, hop]; simp only [if_neg h1, if_neg h2]⟩

theorem group_le_five (op : BinOp) : op.group.toNat ≤ 5 := by cases op <;> decide

theorem stop_not_binOp {t : Tok} (h : t.isStop = true) : t.binOp = none := by
  cases t <;> simp_all [Tok.isStop, Tok.binOp]

theorem ended_noHigher {h g : BinOpGroup} {ts : List Token} (hg : h.toNat ≤ g.toNat + 1)
    (he : ended h ts) : noHigher g ts := by
  cases ts with
  | nil => trivial
  | cons t r =>
    intro op hop
    rcases he with hs | ⟨op', hop', hlt⟩
    · rw [stop_not_binOp hs] at hop; cases hop
    · rw [hop] at hop'; cases hop'; omega

theorem higher_toNat {g h : BinOpGroup} (hh : g.higher = some h) : h.toNat = g.toNat + 1 := by
  cases g <;> cases h <;> simp_all [BinOpGroup.higher, BinOpGroup.toNat]

theorem higher_none {g : BinOpGroup} (hh : g.higher = none) : g.toNat = 5 := by
  cases g <;> simp_all [BinOpGroup.higher, BinOpGroup.toNat]

/-- At fuel `n` none of the five expression functions panics. `binary` and `loop` carry the precedence-climbing invariant
with it: the tokens they leave behind are `ended g`; the loop needs `noHigher g` of its input, which the operand read
before it provides (`operand_ok`). -/
structure NoPanicAt (lo : LexOut) (n : Nat) : Prop where
  unary : ∀ ts, unaryF lo n ts ≠ .panic
  binary : ∀ g st ts, binaryF lo n g st ts ≠ .panic ∧
    ∀ a r, binaryF lo n g st ts = .ok (a, r) → ended g r
  loop : ∀ g st lhs ts, noHigher g ts → binLoopF lo n g st lhs ts ≠ .panic ∧
    ∀ a r, binLoopF lo n g st lhs ts = .ok (a, r) → ended g r
  args : ∀ ts, argsF lo n ts ≠ .panic
  argsLoop : ∀ ts, argsLoopF lo n ts ≠ .panic

theorem close_ne_panic (lo : LexOut) (e : String) (w : Tok) (ts : List Token) : close lo e w ts ≠ .panic := by
  cases ts with
  | nil => simp [close]
  | cons t r => simp only [close]; split <;> simp

/-- `x? ; close? ; Ok(..)`: the shape of the bracketed arms of `parse_unary` -/
theorem bracket_ne_panic {α β : Type} (lo : LexOut) (e : String) (w : Tok) {x : Res (α × List Token)} (hx : x ≠ .panic)
    (k : α × List Token → List Token → β × List Token) :
    (x.bind fun p => (close lo e w p.2).bind fun r3 => .ok (k p r3)) ≠ .panic := by
  rw [bind_ne_panic]
  exact ⟨hx, fun p _ => by rw [bind_ne_panic]; exact ⟨close_ne_panic _ _ _ _, by intros; simp⟩⟩

theorem operand_ok {lo : LexOut} {n : Nat} (ih : NoPanicAt lo n) (g : BinOpGroup) (st : Nat × Nat) (ts : List Token) :
    operandF lo n g st ts ≠ .panic ∧ ∀ a r, operandF lo n g st ts = .ok (a, r) → noHigher g r := by
  unfold operandF
  cases hh : g.higher with
  | none =>
    refine ⟨ih.unary ts, ?_⟩
    intro a r _
    cases r with
    | nil => trivial
    | cons t r =>
      intro op _
      have := group_le_five op
      have := higher_none hh
      omega
  | some h =>
    refine ⟨(ih.binary h st ts).1, ?_⟩
    intro a r hr
    exact ended_noHigher (by have := higher_toNat hh; omega) ((ih.binary h st ts).2 a r hr)

theorem noPanicAt (lo : LexOut) : ∀ n, NoPanicAt lo n := by
  intro n
  induction n with
  | zero =>
    constructor
    · intro ts; simp [unaryF]
    · intro g st ts; simp [binaryF]
    · intro g st lhs ts _; simp [binLoopF]
    · intro ts; simp [argsF]
    · intro ts; simp [argsLoopF]
  | succ n ih =>
    constructor
    · -- unary
      intro ts
      cases ts with
      | nil => simp [unaryF]
      | cons t r =>
        obtain ⟨F, ha, he⟩ := unaryF_arm lo t r
        rw [he]
        cases ha with
        | wrap f => rw [bind_ne_panic]; exact ⟨ih.unary _, by intros; simp⟩
        | leaf a => simp
        | expr e w k => exact bracket_ne_panic lo _ _ (ih.binary ..).1 _
        | list e w k r1 h => exact bracket_ne_panic lo _ _ (ih.args _) _
        | bad => simp
    · -- binary
      intro g st ts
      rw [binaryF_succ]
      have hop := operand_ok ih g st ts
      constructor
      · rw [bind_ne_panic]
        refine ⟨hop.1, ?_⟩
        intro p hp
        exact (ih.loop g st p.1 p.2 (hop.2 p.1 p.2 hp)).1
      · intro a r hr
        rw [bind_eq_ok] at hr
        obtain ⟨p, hp, hl⟩ := hr
        exact (ih.loop g st p.1 p.2 (hop.2 p.1 p.2 hp)).2 a r hl
    · -- loop
      intro g st lhs ts hpre
      cases ts with
      | nil =>
        rw [binLoopF]
        split
        · exact ⟨by simp, by intro a r h; cases h; trivial⟩
        · exact ⟨by simp, by intro a r h; cases h⟩
      | cons t r =>
        obtain ⟨F, ha, he⟩ := binLoopF_arm lo g st lhs t r
        rw [he]
        cases ha with
        | done hend => exact ⟨by simp, by intro a r' h; cases h; exact hend⟩
        | noOp => exact ⟨by simp, by intro a r' h; cases h⟩
        | higher op hop hgt =>
          have := hpre op hop
          omega
        | same op =>
          have hopd := operand_ok ih g st r
          constructor
          · rw [bind_ne_panic]
            refine ⟨hopd.1, ?_⟩
            intro p hp
            exact (ih.loop g st _ p.2 (hopd.2 p.1 p.2 hp)).1
          · intro a r' hr
            rw [bind_eq_ok] at hr
            obtain ⟨p, hp, hl⟩ := hr
            exact (ih.loop g st _ p.2 (hopd.2 p.1 p.2 hp)).2 a r' hl
    · -- args
      intro ts
      cases ts with
      | nil => rw [argsF]; split <;> simp
      | cons t r =>
        rw [argsF]
        split
        · simp
        · exact ih.argsLoop _
    · -- argsLoop
      intro ts
      rw [argsLoopF, bind_ne_panic]
      refine ⟨(ih.binary ..).1, ?_⟩
      intro p _
      split
      · split <;> simp
      · split
        · rw [bind_ne_panic]; exact ⟨ih.argsLoop _, by intros; simp⟩
        · split <;> simp

end Trion.Parse
