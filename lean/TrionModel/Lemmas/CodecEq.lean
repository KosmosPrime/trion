import TrionModel.Model.Codec
/-! Equations of the decoder, through which every proof about it reaches a branch: how the `try_from(..).unwrap()`
wrappers and the operand constructors resolve once the field is known to be a given register, condition, immediate or
set; what `decode16` is on each value of the five leading bits; what each sub-decoder is on each value of the field it
selects on, error branches included; `decode32` on the patterns that carry operands (all its leaves with their
conditions: `Shape32` in `Lemmas/CodecOut32.lean`).  A dispatch on an opcode (`decDataProc`, `decHint`, the chains inside `dec0101_op`, `dec10110_ext`,
`dec10111_rev`) has no equation per opcode: at a numeral it evaluates (`rfl`); what cannot be evaluated, the range of
reserved hints, is `decHint_cases`.  `decShift` and `decBarrier` select on nothing and are unfolded.  Last, `decode` on a
byte string (`IsBytes`), by what the five leading bits of its first halfword demand.
Also here: `toOpt`, the decoder's result with the error forgotten, which is what the table is compared with. -/
namespace Trion.Codec
open Trion

def toOpt : DecRes → Option Instr
  | .ok (_, i) => some i
  | .error _ => none

theorem toOpt_some {r : DecRes} {i : Instr} (h : toOpt r = some i) : ∃ n, r = .ok (n, i) := by
  match r, h with
  | .ok (n, _), h => simp only [toOpt, Option.some.injEq] at h; exact ⟨n, by rw [h]⟩

theorem ite_ind {α : Sort _} {P : α → Prop} {c : Prop} [Decidable c] {a b : α} (ha : c → P a) (hb : ¬ c → P b) :
    P (if c then a else b) := by
  split
  · exact ha ‹_›
  · exact hb ‹_›


theorem withReg_val {n : Nat} {k : Reg → DecRes} (a : Reg) (e : n = a.val) : withReg n k = k a := by
  subst e; rw [withReg, if_pos a.isLt, Fin.ofNat_val_eq_self]

theorem withCond_val {n : Nat} {k : Cond → DecRes} (c : Cond) (e : n = c.val) : withCond n k = k c := by
  subst e; rw [withCond, if_pos c.isLt, Fin.ofNat_val_eq_self]

theorem withReg_lt {n : Nat} {k : Reg → DecRes} (hn : n < 16) : withReg n k = k (Fin.ofNat 16 n) := by
  rw [withReg, if_pos hn]

theorem withCond_lt {n : Nat} {k : Cond → DecRes} (hn : n < 15) : withCond n k = k (Fin.ofNat 15 n) := by
  rw [withCond, if_pos hn]

theorem imm_eq {n : Nat} (v : Int) (e : (n : Int) = v) : imm n = .imm v := by rw [imm, e]

theorem mkSet_eq {n : Nat} (m : RegSet) (e : n = m.val) : mkSet n = m := by
  subst e; exact Fin.ofNat_val_eq_self m

theorem sext2_8 {n : Nat} (v : Int) (e : (if n ≥ 128 then (n : Int) * 2 - 512 else (n : Int) * 2) = v) :
    sext2 8 n = v := e

theorem sext2_11 {n : Nat} (v : Int) (e : (if n ≥ 1024 then (n : Int) * 2 - 4096 else (n : Int) * 2) = v) :
    sext2 11 n = v := e

theorem top5_cases {h : Nat} (ht : h / 2048 < 29) :
    h / 2048 = 0 ∨ h / 2048 = 1 ∨ h / 2048 = 2 ∨ h / 2048 = 3 ∨ h / 2048 = 4 ∨ h / 2048 = 5 ∨ h / 2048 = 6 ∨
    h / 2048 = 7 ∨ h / 2048 = 8 ∨ h / 2048 = 9 ∨ h / 2048 = 10 ∨ h / 2048 = 11 ∨ h / 2048 = 12 ∨
    h / 2048 = 13 ∨ h / 2048 = 14 ∨ h / 2048 = 15 ∨ h / 2048 = 16 ∨ h / 2048 = 17 ∨ h / 2048 = 18 ∨
    h / 2048 = 19 ∨ h / 2048 = 20 ∨ h / 2048 = 21 ∨ h / 2048 = 22 ∨ h / 2048 = 23 ∨ h / 2048 = 24 ∨
    h / 2048 = 25 ∨ h / 2048 = 26 ∨ h / 2048 = 27 ∨ h / 2048 = 28 := by
  omega

section groups
variable {h : Nat}

theorem decode16_g0 (hk : h / 2048 = 0) : decode16 h = dec00000 h := by
  simp only [decode16, hk, ↓reduceIte]

theorem decode16_g1 (hk : h / 2048 = 1) : decode16 h = decShift h .lsr := by
  simp only [decode16, hk, Nat.reduceEqDiff, ↓reduceIte]

theorem decode16_g2 (hk : h / 2048 = 2) : decode16 h = decShift h .asr := by
  simp only [decode16, hk, Nat.reduceEqDiff, ↓reduceIte]

theorem decode16_g3 (hk : h / 2048 = 3) : decode16 h = dec00011 h := by
  simp only [decode16, hk, Nat.reduceEqDiff, ↓reduceIte]

theorem decode16_g4 (hk : h / 2048 = 4) :
    decode16 h = withReg (h / 256 % 8) fun dst => .ok (2, .mov true dst (imm (h % 256))) := by
  simp only [decode16, hk, Nat.reduceEqDiff, ↓reduceIte]

theorem decode16_g5 (hk : h / 2048 = 5) :
    decode16 h = withReg (h / 256 % 8) fun lhs => .ok (2, .cmp lhs (imm (h % 256))) := by
  simp only [decode16, hk, Nat.reduceEqDiff, ↓reduceIte]

theorem decode16_g6 (hk : h / 2048 = 6) :
    decode16 h = withReg (h / 256 % 8) fun dst => .ok (2, .add true dst dst (imm (h % 256))) := by
  simp only [decode16, hk, Nat.reduceEqDiff, ↓reduceIte]

theorem decode16_g7 (hk : h / 2048 = 7) :
    decode16 h = withReg (h / 256 % 8) fun dst => .ok (2, .sub true dst dst (imm (h % 256))) := by
  simp only [decode16, hk, Nat.reduceEqDiff, ↓reduceIte]

theorem decode16_g8 (hk : h / 2048 = 8) : decode16 h = dec01000 h := by
  simp only [decode16, hk, Nat.reduceEqDiff, ↓reduceIte]

theorem decode16_g9 (hk : h / 2048 = 9) :
    decode16 h = withReg (h / 256 % 8) fun dst => .ok (2, .ldr dst Reg.pc (imm (h % 256 * 4))) := by
  simp only [decode16, hk, Nat.reduceEqDiff, ↓reduceIte]

theorem decode16_g10_11 (hk : h / 2048 = 10 ∨ h / 2048 = 11) : decode16 h = dec0101 h := by
  rcases hk with hk | hk <;> simp only [decode16, hk, Nat.reduceEqDiff, or_true, true_or, ↓reduceIte]

theorem decode16_g12_13 (hk : h / 2048 = 12 ∨ h / 2048 = 13) : decode16 h = decLdStImm h 4 .str .ldr := by
  rcases hk with hk | hk <;> simp only [decode16, hk, Nat.reduceEqDiff, or_self, or_true, true_or, ↓reduceIte]

theorem decode16_g14_15 (hk : h / 2048 = 14 ∨ h / 2048 = 15) : decode16 h = decLdStImm h 1 .strb .ldrb := by
  rcases hk with hk | hk <;> simp only [decode16, hk, Nat.reduceEqDiff, or_self, or_true, true_or, ↓reduceIte]

theorem decode16_g16_17 (hk : h / 2048 = 16 ∨ h / 2048 = 17) : decode16 h = decLdStImm h 2 .strh .ldrh := by
  rcases hk with hk | hk <;> simp only [decode16, hk, Nat.reduceEqDiff, or_self, or_true, true_or, ↓reduceIte]

theorem decode16_g18 (hk : h / 2048 = 18) :
    decode16 h = withReg (h / 256 % 8) fun reg => .ok (2, .str reg Reg.sp (imm (h % 256 * 4))) := by
  simp only [decode16, hk, Nat.reduceEqDiff, Nat.reduceMod, or_self, true_or, ↓reduceIte]

theorem decode16_g19 (hk : h / 2048 = 19) :
    decode16 h = withReg (h / 256 % 8) fun reg => .ok (2, .ldr reg Reg.sp (imm (h % 256 * 4))) := by
  simp only [decode16, hk, Nat.reduceEqDiff, Nat.reduceMod, or_self, or_true, ↓reduceIte]

theorem decode16_g20 (hk : h / 2048 = 20) :
    decode16 h = withReg (h / 256 % 8) fun dst => .ok (2, .adr dst ((h % 256 * 4 : Nat) : Int)) := by
  simp only [decode16, hk, Nat.reduceEqDiff, or_self, ↓reduceIte]

theorem decode16_g21 (hk : h / 2048 = 21) :
    decode16 h = withReg (h / 256 % 8) fun dst => .ok (2, .add false dst Reg.sp (imm (h % 256 * 4))) := by
  simp only [decode16, hk, Nat.reduceEqDiff, or_self, ↓reduceIte]

theorem decode16_g22 (hk : h / 2048 = 22) : decode16 h = dec10110 h := by
  simp only [decode16, hk, Nat.reduceEqDiff, or_self, ↓reduceIte]

theorem decode16_g23 (hk : h / 2048 = 23) : decode16 h = dec10111 h := by
  simp only [decode16, hk, Nat.reduceEqDiff, or_self, ↓reduceIte]

theorem decode16_g24 (hk : h / 2048 = 24) :
    decode16 h = withReg (h / 256 % 8) fun addr => .ok (2, .stm addr (mkSet (h % 256))) := by
  simp only [decode16, hk, Nat.reduceEqDiff, Nat.reduceMod, or_self, true_or, ↓reduceIte]

theorem decode16_g25 (hk : h / 2048 = 25) :
    decode16 h = withReg (h / 256 % 8) fun addr => .ok (2, .ldm addr (mkSet (h % 256))) := by
  simp only [decode16, hk, Nat.reduceEqDiff, Nat.reduceMod, or_self, or_true, ↓reduceIte]

theorem decode16_g26_27 (hk : h / 2048 = 26 ∨ h / 2048 = 27) : decode16 h = dec1101 h := by
  rcases hk with hk | hk <;> simp only [decode16, hk, Nat.reduceEqDiff, or_self, or_true, true_or, ↓reduceIte]

theorem decode16_g28 (hk : h / 2048 = 28) :
    decode16 h = .ok (2, .b Cond.always (sext2 11 (h % 2048))) := by
  simp only [decode16, hk, Nat.reduceEqDiff, or_self, ↓reduceIte]

end groups

section branches
variable {h : Nat}

theorem dec00000_mov (e : h / 64 % 32 = 0) : dec00000 h =
    withReg (h % 8) fun dst => withReg (h / 8 % 8) fun src => .ok (2, .mov true dst (.reg src)) := by
  simp only [dec00000, e, ↓reduceIte]

theorem dec00000_lsl (e : h / 64 % 32 ≠ 0) : dec00000 h =
    withReg (h % 8) fun dst => withReg (h / 8 % 8) fun value => .ok (2, .lsl dst value (imm (h / 64 % 32))) := by
  rw [dec00000, if_neg e]

theorem dec00011_reg (e : h / 1024 % 2 = 0) : dec00011 h =
    withReg (h % 8) fun dst => withReg (h / 8 % 8) fun lhs => withReg (h / 64 % 8) fun rhs =>
      if h / 512 % 2 = 0 then .ok (2, .add true dst lhs (.reg rhs)) else .ok (2, .sub true dst lhs (.reg rhs)) := by
  simp only [dec00011, e, ↓reduceIte]

theorem dec00011_imm (e : h / 1024 % 2 = 1) : dec00011 h =
    withReg (h % 8) fun dst => withReg (h / 8 % 8) fun lhs =>
      if h / 512 % 2 = 0 then .ok (2, .add true dst lhs (imm (h / 64 % 8)))
      else .ok (2, .sub true dst lhs (imm (h / 64 % 8))) := by
  simp only [dec00011, e, Nat.reduceEqDiff, ↓reduceIte]

theorem dec01000_dp (e : h / 1024 % 2 = 0) : dec01000 h =
    withReg (h % 8) fun r0 => withReg (h / 8 % 8) fun r1 => decDataProc (h / 64 % 16) r0 r1 := by
  simp only [dec01000, e, ↓reduceIte]

theorem dec01000_add (e : h / 1024 % 2 = 1) (e' : h / 256 % 4 = 0) : dec01000 h =
    withReg (h % 8 + h / 128 % 2 * 8) fun dst => withReg (h / 8 % 16) fun rhs =>
      if dst.val = 15 ∧ rhs.val = 15 then .error (.unpredictable h none)
      else .ok (2, .add false dst dst (.reg rhs)) := by
  simp only [dec01000, e, e', Nat.reduceEqDiff, ↓reduceIte]

theorem dec01000_cmp (e : h / 1024 % 2 = 1) (e' : h / 256 % 4 = 1) : dec01000 h =
    withReg (h % 8 + h / 128 % 2 * 8) fun lhs => withReg (h / 8 % 16) fun rhs =>
      if lhs.val < 8 ∧ rhs.val < 8 then .error (.unpredictable h none)
      else if lhs.val = 15 ∨ rhs.val = 15 then .error (.unpredictable h none)
      else .ok (2, .cmp lhs (.reg rhs)) := by
  simp only [dec01000, e, e', Nat.reduceEqDiff, ↓reduceIte]

theorem dec01000_mov (e : h / 1024 % 2 = 1) (e' : h / 256 % 4 = 2) : dec01000 h =
    withReg (h % 8 + h / 128 % 2 * 8) fun dst => withReg (h / 8 % 16) fun src =>
      .ok (2, .mov false dst (.reg src)) := by
  simp only [dec01000, e, e', Nat.reduceEqDiff, ↓reduceIte]

theorem dec01000_bx (e : h / 1024 % 2 = 1) (e' : h / 256 % 4 = 3) (e0 : h % 8 = 0) : dec01000 h =
    withReg (h / 8 % 16) fun off =>
      if off.val = 15 then .error (.unpredictable h none)
      else if h / 128 % 2 = 0 then .ok (2, .bx off) else .ok (2, .blx off) := by
  simp only [dec01000, e, e', e0, Nat.reduceEqDiff, ne_eq, not_true_eq_false, ↓reduceIte]

theorem dec01000_bx_unpred (e : h / 1024 % 2 = 1) (e' : h / 256 % 4 = 3) (e0 : h % 8 ≠ 0) :
    dec01000 h = .error (.unpredictable h none) := by
  rw [dec01000, if_neg (by omega), if_neg (by omega), if_neg (by omega), if_neg (by omega), if_pos e', if_pos e0]

theorem dec0101_op (op : Nat) (e : h / 512 % 8 = op) : dec0101 h =
    withReg (h % 8) fun reg => withReg (h / 8 % 8) fun addr => withReg (h / 64 % 8) fun off =>
      if op = 0 then .ok (2, .str reg addr (.reg off))
      else if op = 1 then .ok (2, .strh reg addr (.reg off))
      else if op = 2 then .ok (2, .strb reg addr (.reg off))
      else if op = 3 then .ok (2, .ldrsb reg addr off)
      else if op = 4 then .ok (2, .ldr reg addr (.reg off))
      else if op = 5 then .ok (2, .ldrh reg addr (.reg off))
      else if op = 6 then .ok (2, .ldrb reg addr (.reg off))
      else if op = 7 then .ok (2, .ldrsh reg addr off)
      else .error .panic := by
  rw [dec0101, e]

theorem decLdStImm_st (scale : Nat) (st ld : Reg → Reg → ImmReg → Instr) (hb : h / 2048 % 2 = 0) :
    decLdStImm h scale st ld = withReg (h % 8) fun reg => withReg (h / 8 % 8) fun addr =>
      .ok (2, st reg addr (imm (h / 64 % 32 * scale))) := by
  simp only [decLdStImm, hb, ↓reduceIte]

theorem decLdStImm_ld (scale : Nat) (st ld : Reg → Reg → ImmReg → Instr) (hb : h / 2048 % 2 = 1) :
    decLdStImm h scale st ld = withReg (h % 8) fun reg => withReg (h / 8 % 8) fun addr =>
      .ok (2, ld reg addr (imm (h / 64 % 32 * scale))) := by
  simp only [decLdStImm, hb, Nat.reduceEqDiff, ↓reduceIte]

/-- the values of the field `dec10110` selects on, the three undefined ones last -/
theorem dec10110_sel (h : Nat) : h / 256 % 8 = 0 ∨ h / 256 % 8 = 2 ∨ (h / 256 % 8 = 4 ∨ h / 256 % 8 = 5) ∨ h / 256 % 8 = 6 ∨
    h / 256 % 8 = 1 ∨ h / 256 % 8 = 3 ∨ h / 256 % 8 = 7 := by omega

theorem dec10110_sp (e : h / 256 % 8 = 0) : dec10110 h =
    if h / 128 % 2 = 0 then .ok (2, .add false Reg.sp Reg.sp (imm (h % 128 * 4)))
    else .ok (2, .sub false Reg.sp Reg.sp (imm (h % 128 * 4))) := by
  simp only [dec10110, e, ↓reduceIte]

theorem dec10110_ext (e : h / 256 % 8 = 2) : dec10110 h =
    withReg (h % 8) fun dst => withReg (h / 8 % 8) fun value =>
      if h / 128 % 2 = 0 then
        if h / 64 % 2 = 0 then .ok (2, .sxth dst value) else .ok (2, .sxtb dst value)
      else
        if h / 64 % 2 = 0 then .ok (2, .uxth dst value) else .ok (2, .uxtb dst value) := by
  simp only [dec10110, e, Nat.reduceEqDiff, ↓reduceIte]

theorem dec10110_push (e : h / 256 % 8 = 4 ∨ h / 256 % 8 = 5) : dec10110 h =
    if h % 256 + h / 256 % 2 * 16384 = 0 then .error (.unpredictable h none)
    else .ok (2, .push (mkSet (h % 256 + h / 256 % 2 * 16384))) := by
  rw [dec10110, if_neg (by omega), if_neg (by omega), if_neg (by omega), if_neg (by omega), if_pos e]

theorem dec10110_cps (e : h / 256 % 8 = 6) : dec10110 h =
    if h / 32 % 8 = 3 then
      if h % 16 ≠ 2 then .error (.unpredictable h none) else .ok (2, .cps (h / 16 % 2 = 0))
    else .error (.undefined h none) := by
  simp only [dec10110, e, Nat.reduceEqDiff, or_self, ↓reduceIte]

theorem dec10110_undef (e : h / 256 % 8 = 1 ∨ h / 256 % 8 = 3 ∨ h / 256 % 8 = 7) :
    dec10110 h = .error (.undefined h none) := by
  rcases e with e | e | e <;> simp only [dec10110, e, Nat.reduceEqDiff, or_self, ↓reduceIte]

theorem dec10111_undef (e : h / 256 % 8 = 0 ∨ h / 256 % 8 = 1 ∨ h / 256 % 8 = 3) :
    dec10111 h = .error (.undefined h none) := by
  rcases e with e | e | e <;> simp only [dec10111, e, Nat.reduceEqDiff, or_self, true_or, or_true, ↓reduceIte]

theorem dec10111_hint (e : h / 256 % 8 = 7) : dec10111 h =
    if h % 16 = 0 then decHint h (h / 16 % 16) else .error (.undefined h none) := by
  simp only [dec10111, e, Nat.reduceEqDiff, or_self, ↓reduceIte]

/-- hint numbers: five are allocated (there `decHint` evaluates), the others are reserved -/
theorem decHint_cases (h op : Nat) (hop : op ≤ 15) :
    (op = 0 ∨ op = 1 ∨ op = 2 ∨ op = 3 ∨ op = 4) ∨ 5 ≤ op ∧ decHint h op = .error (.reserved h none) := by
  by_cases lo : 5 ≤ op
  · exact .inr ⟨lo, by
      rw [decHint, if_neg (by omega), if_neg (by omega), if_neg (by omega), if_neg (by omega), if_neg (by omega),
        if_pos ⟨lo, hop⟩]⟩
  · exact .inl (by omega)

theorem dec10111_sel (h : Nat) : h / 256 % 8 = 2 ∨ (h / 256 % 8 = 4 ∨ h / 256 % 8 = 5) ∨ h / 256 % 8 = 6 ∨ h / 256 % 8 = 7 ∨
    h / 256 % 8 = 0 ∨ h / 256 % 8 = 1 ∨ h / 256 % 8 = 3 := by omega

theorem dec10111_rev (e : h / 256 % 8 = 2) : dec10111 h =
    withReg (h % 8) fun dst => withReg (h / 8 % 8) fun value =>
      if h / 64 % 4 = 0 then .ok (2, .rev dst value)
      else if h / 64 % 4 = 1 then .ok (2, .rev16 dst value)
      else if h / 64 % 4 = 2 then .error (.undefined h none)
      else if h / 64 % 4 = 3 then .ok (2, .revsh dst value)
      else .error .panic := by
  simp only [dec10111, e, Nat.reduceEqDiff, or_self, ↓reduceIte]

theorem dec10111_pop (e : h / 256 % 8 = 4 ∨ h / 256 % 8 = 5) : dec10111 h =
    if h % 256 + h / 256 % 2 * 32768 = 0 then .error (.unpredictable h none)
    else .ok (2, .pop (mkSet (h % 256 + h / 256 % 2 * 32768))) := by
  rw [dec10111, if_neg (by omega), if_neg (by omega), if_neg (by omega), if_pos e]

theorem dec10111_bkpt (e : h / 256 % 8 = 6) : dec10111 h = .ok (2, .bkpt ((h % 256 : Nat) : Int)) := by
  simp only [dec10111, e, Nat.reduceEqDiff, or_self, ↓reduceIte]

theorem dec1101_b (e : h / 256 % 16 ≤ 13) : dec1101 h =
    withCond (h / 256 % 16) fun cond => .ok (2, .b cond (sext2 8 (h % 256))) := by
  rw [dec1101, if_pos e]

theorem dec1101_udf (e : h / 256 % 16 = 14) : dec1101 h = .ok (2, .udf ((h % 256 : Nat) : Int)) := by
  simp only [dec1101, e, Nat.reduceLeDiff, ↓reduceIte]

theorem dec1101_svc (e : h / 256 % 16 = 15) : dec1101 h = .ok (2, .svc ((h % 256 : Nat) : Int)) := by
  simp only [dec1101, e, Nat.reduceLeDiff, Nat.reduceEqDiff, ↓reduceIte]

end branches

/-! `decode32` on the four kinds of pattern that carry operands; all have `11110` in the first halfword and
bit 15 set in the second -/
section wide
variable {h0 h1 : Nat}

theorem decode32_msr (e : h0 / 2048 % 4 = 2 ∧ h1 / 32768 % 2 = 1)
    (e' : h0 / 32 % 64 = 28 ∧ (h1 / 4096 % 2 = 0 ∧ h1 / 16384 % 2 = 0))
    (e'' : h0 / 16 % 2 = 0 ∧ h1 / 256 % 16 = 8 ∧ h1 / 8192 % 2 = 0)
    (r : Reg) (hr : h0 % 16 = r.val) (hr' : ¬ (r.val = 13 ∨ r.val = 15))
    (s : SysReg) (hs : SysReg.ofNat? (h1 % 256) = some s) : decode32 h0 h1 = .ok (4, .msr s r) := by
  rw [decode32, if_pos e, if_pos e', if_neg (by omega), withReg_val r hr, if_neg hr', hs]

theorem decode32_mrs (e : h0 / 2048 % 4 = 2 ∧ h1 / 32768 % 2 = 1)
    (e' : h0 / 32 % 64 = 31 ∧ (h1 / 4096 % 2 = 0 ∧ h1 / 16384 % 2 = 0))
    (e'' : h0 % 32 = 15 ∧ h1 / 8192 % 2 = 0)
    (r : Reg) (hr : h1 / 256 % 16 = r.val) (hr' : ¬ (r.val = 13 ∨ r.val = 15))
    (s : SysReg) (hs : SysReg.ofNat? (h1 % 256) = some s) : decode32 h0 h1 = .ok (4, .mrs r s) := by
  rw [decode32, if_pos e, if_neg (by omega), if_neg (by omega), if_pos e', if_neg (by omega), withReg_val r hr,
    if_neg hr', hs]

theorem decode32_udfw (e : h0 / 2048 % 4 = 2 ∧ h1 / 32768 % 2 = 1)
    (e' : h0 / 16 % 128 = 127 ∧ h1 / 4096 % 8 = 2) : decode32 h0 h1 =
    .ok (4, .udfw ((h0 % 16 * 4096 + h1 % 4096 : Nat) : Int)) := by
  rw [decode32, if_pos e, if_neg (by omega), if_neg (by omega), if_neg (by omega), if_pos e']

theorem decode32_bl (e : h0 / 2048 % 4 = 2 ∧ h1 / 32768 % 2 = 1)
    (e' : h1 / 4096 % 2 = 1 ∧ h1 / 16384 % 2 = 1) : decode32 h0 h1 =
    let s := h0 / 1024 % 2
    let i1 : Nat := if h1 / 8192 % 2 = s then 1 else 0
    let i2 : Nat := if h1 / 2048 % 2 = s then 1 else 0
    .ok (4, .bl ((i1 * 8388608 + i2 * 4194304 + h0 % 1024 * 4096 + h1 % 2048 * 2 : Nat) - (s * 16777216 : Nat))) := by
  rw [decode32, if_pos e, if_neg (by omega), if_neg (by omega), if_neg (by omega), if_neg (by omega), if_pos e']

end wide

def IsBytes (bs : List Nat) : Prop := ∀ b ∈ bs, b < 256

section bytes
variable {b0 b1 h0 : Nat}

theorem decode_narrow (rest : List Nat) (e0 : b0 + 256 * b1 = h0) (t : h0 / 2048 < 29) :
    decode (b0 :: b1 :: rest) = decode16 h0 := by
  subst e0; simp only [decode]; rw [if_pos t]

theorem decode_wide {b2 b3 h1 : Nat} (rest : List Nat) (e0 : b0 + 256 * b1 = h0) (e1 : b2 + 256 * b3 = h1)
    (t : 29 ≤ h0 / 2048) (t' : h0 / 2048 < 32) : decode (b0 :: b1 :: b2 :: b3 :: rest) = decode32 h0 h1 := by
  subst e0 e1; simp only [decode]; rw [if_neg (by omega), if_pos t']

theorem decode_short {rest : List Nat} (e0 : b0 + 256 * b1 = h0) (t : 29 ≤ h0 / 2048) (t' : h0 / 2048 < 32)
    (hr : rest.length < 2) : decode (b0 :: b1 :: rest) = .error (.underflow 4 (rest.length + 2)) := by
  subst e0; simp only [decode]; rw [if_neg (by omega), if_pos t']
  match rest, hr with
  | [], _ => rfl
  | [_], _ => rfl

end bytes

end Trion.Codec
