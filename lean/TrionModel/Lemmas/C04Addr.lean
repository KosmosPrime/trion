import TrionModel.Lemmas.C04Mix
import TrionModel.Lemmas.FrontReject
/-!
# C04 closed: memory operands `[Rn]`, `[Rn + Rm]`, `[Rn + e]`, `[e + Rn]` through the concrete evaluator

`addr_off` of the evaluated tree against the specification `mem`.  Soundness (`mem_sound`) needs no computation for the
mixed forms: `Rn + e` and `e + Rn` are sums with one register name, and `accept_mem` (Lemmas/C04Mix.lean) says what
`addr_off` can read from such a sum however it was simplified.  Completeness (`mem_complete`) needs what `simplify_raw`
makes of them: it rewrites `Rn + 0 ↦ Rn`, and `Rn + -c ↦ Rn - c`, which `addr_off` refuses.
-/
namespace Trion.C04
open Trion Trion.Front Trion.Simp

theorem regIdent_ident (s : Bytes) : regIdent (.ident s) = isRegister s := rfl

theorem regIdent_iff {x : Arg} : regIdent x = true ↔ ∃ b, x = .ident b ∧ isRegister b = true := by
  cases x <;> simp [regIdent]

theorem regIdent_of_expr {x : Arg} (h : expr x = true) : regIdent x = false := by
  cases x <;> simp_all [expr, regIdent]

theorem mem_regreg (T : SymTable) (b o : Bytes) (hb : isRegister b = true) (ho : isRegister o = true) :
    mem T (.bin .add (.ident b) (.ident o)) =
      match regl b, regl o with
      | some rb, some ro => some (rb, .reg ro)
      | _, _ => none := by
  simp only [mem, hb, ho, if_true]
  cases regl b <;> cases regl o <;> rfl

theorem mem_regexpr (T : SymTable) (b : Bytes) (e : Arg) (hb : isRegister b = true) (he : regIdent e = false) :
    mem T (.bin .add (.ident b) e) =
      match regl b, value T e with
      | some rb, some v => some (rb, .imm v)
      | _, _ => none := by
  cases e <;> simp_all [mem, regIdent] <;> (cases regl b <;> (try rfl) <;> (cases value T _ <;> rfl))

theorem mem_exprreg (T : SymTable) (b : Bytes) (e : Arg) (hb : isRegister b = true) (he : regIdent e = false) :
    mem T (.bin .add e (.ident b)) =
      match value T e, regl b with
      | some v, some rb => some (rb, .imm v)
      | _, _ => none := by
  cases e <;> simp_all [mem, regIdent] <;> (cases value T _ <;> (try rfl) <;> (cases regl b <;> rfl))

/-- the four operand forms to which the specification `mem` gives a meaning (on the operand as WRITTEN, offsets by their
`value`; `Front.AddrForm` is the counterpart for `addr_off` on the EVALUATED operand) -/
theorem mem_inv {T : SymTable} {x : Arg} {r : Reg} {o : ImmReg} (h : mem T x = some (r, o)) :
    (∃ b, x = .ident b ∧ regl b = some r ∧ o = .imm 0) ∨
    (∃ b b', x = .bin .add (.ident b) (.ident b') ∧ isRegister b = true ∧ isRegister b' = true ∧ regl b = some r ∧
        ∃ ro, regl b' = some ro ∧ o = .reg ro) ∨
    (∃ b e v, x = .bin .add (.ident b) e ∧ isRegister b = true ∧ regIdent e = false ∧ regl b = some r ∧
        value T e = some v ∧ o = .imm v) ∨
    (∃ b e v, x = .bin .add e (.ident b) ∧ isRegister b = true ∧ regIdent e = false ∧ regl b = some r ∧
        value T e = some v ∧ o = .imm v) := by
  cases x with
  | ident b =>
    simp only [mem, Option.map_eq_some_iff, Prod.mk.injEq] at h
    obtain ⟨r0, h1, rfl, rfl⟩ := h
    exact .inl ⟨b, rfl, h1, rfl⟩
  | bin op l r' =>
    cases op <;> try (simp [mem] at h; done)
    by_cases hl : regIdent l = true
    · obtain ⟨b, rfl, hb⟩ := regIdent_iff.1 hl
      by_cases hr : regIdent r' = true
      · obtain ⟨b', rfl, hb'⟩ := regIdent_iff.1 hr
        rw [mem_regreg T b b' hb hb'] at h
        cases h1 : regl b with
        | none => simp [h1] at h
        | some rb =>
          cases h2 : regl b' with
          | none => simp [h1, h2] at h
          | some ro =>
            simp only [h1, h2, Option.some.injEq, Prod.mk.injEq] at h
            obtain ⟨rfl, rfl⟩ := h
            exact .inr (.inl ⟨b, b', rfl, hb, hb', h1, ro, h2, rfl⟩)
      · have hr' : regIdent r' = false := by simpa using hr
        rw [mem_regexpr T b r' hb hr'] at h
        cases h1 : regl b with
        | none => simp [h1] at h
        | some rb =>
          cases h2 : value T r' with
          | none => simp [h1, h2] at h
          | some v =>
            simp only [h1, h2, Option.some.injEq, Prod.mk.injEq] at h
            obtain ⟨rfl, rfl⟩ := h
            exact .inr (.inr (.inl ⟨b, r', v, rfl, hb, hr', h1, h2, rfl⟩))
    · have hl' : regIdent l = false := by simpa using hl
      by_cases hr : regIdent r' = true
      · obtain ⟨b, rfl, hb⟩ := regIdent_iff.1 hr
        rw [mem_exprreg T b l hb hl'] at h
        cases h2 : value T l with
        | none => simp [h2] at h
        | some v =>
          cases h1 : regl b with
          | none => simp [h1, h2] at h
          | some rb =>
            simp only [h1, h2, Option.some.injEq, Prod.mk.injEq] at h
            obtain ⟨rfl, rfl⟩ := h
            exact .inr (.inr (.inr ⟨b, l, v, rfl, hb, hl', h1, h2, rfl⟩))
      · have hr' : regIdent r' = false := by simpa using hr
        exfalso
        cases l <;> cases r' <;> simp_all [mem, regIdent]
  | _ => simp [mem] at h

theorem afterRaw_regreg (ev : Ev) (b o : Bytes) :
    afterRaw ev (.bin .add (.ident b) (.ident o)) = .ok (ev.or ⟨false, none⟩, .bin .add (.ident b) (.ident o)) := by
  simp [afterRaw, simplifyRaw, isBad, cval, merge, mergeL, mergeR, findC, neutralizeRaw, neutralizeBin, normAddSub, stripNeg,
    neutralTail, neutralMain]

theorem afterRaw_regconst_pos (ev : Ev) (b : Bytes) (c : Int) (hc : 0 < c) :
    afterRaw ev (.bin .add (.ident b) (.const c)) = .ok (ev.or ⟨false, none⟩, .bin .add (.ident b) (.const c)) := by
  have h1 : ¬ c < 0 := by omega
  have h2 : c ≠ 0 := by omega
  simp [afterRaw, simplifyRaw, isBad, cval, merge, mergeL, mergeR, findC, preInv, neutralizeRaw, neutralizeBin, normAddSub, stripNeg,
    neutralTail, neutralMain, neutralR, h1, h2]

theorem afterRaw_regconst_zero (ev : Ev) (b : Bytes) :
    afterRaw ev (.bin .add (.ident b) (.const 0)) = .ok (ev.or ⟨false, none⟩, .ident b) := by
  simp [afterRaw, simplifyRaw, isBad, cval, merge, mergeL, mergeR, findC, preInv, neutralizeRaw, neutralizeBin, normAddSub, stripNeg,
    neutralTail, neutralMain, neutralR]

theorem afterRaw_regconst_neg (ev : Ev) (b : Bytes) (c : Int) (hc : c < 0) :
    (∃ e, afterRaw ev (.bin .add (.ident b) (.const c)) = .err e) ∨
    (∃ ev' y, afterRaw ev (.bin .add (.ident b) (.const c)) = .ok (ev', .bin .sub (.ident b) y)) := by
  by_cases hm : checkedNeg c = none
  · left
    simp [afterRaw, simplifyRaw, isBad, cval, merge, mergeL, mergeR, findC, preInv, neutralizeRaw, neutralizeBin, normAddSub, stripNeg, hc, hm]
  · right
    obtain ⟨nv, hnv⟩ := Option.ne_none_iff_exists'.1 hm
    have hnz : nv ≠ 0 := by
      simp only [checkedNeg] at hnv
      obtain ⟨_, rfl⟩ := checked_eq_some.1 hnv
      omega
    simp [afterRaw, simplifyRaw, isBad, cval, merge, mergeL, mergeR, findC, preInv, neutralizeRaw, neutralizeBin, normAddSub, stripNeg, hc, hnv,
      neutralTail, neutralMain, neutralR, hnz]

theorem afterRaw_constreg_zero (ev : Ev) (b : Bytes) :
    afterRaw ev (.bin .add (.const 0) (.ident b)) = .ok (ev.or ⟨false, none⟩, .ident b) := by
  simp [afterRaw, simplifyRaw, isBad, cval, merge, mergeL, mergeR, findC, neutralizeRaw, neutralizeBin, normAddSub, stripNeg,
    neutralTail, neutralMain, neutralL]

theorem afterRaw_constreg_nz (ev : Ev) (b : Bytes) (c : Int) (hc : c ≠ 0) :
    afterRaw ev (.bin .add (.const c) (.ident b)) = .ok (ev.or ⟨false, none⟩, .bin .add (.const c) (.ident b)) := by
  simp [afterRaw, simplifyRaw, isBad, cval, merge, mergeL, mergeR, findC, neutralizeRaw, neutralizeBin, normAddSub, stripNeg,
    neutralTail, neutralMain, neutralL, hc]

theorem evaluate_regIdent (lk : Bytes → Lookup) {x : Arg} (h : regIdent x = true) :
    evaluate lk isRegister x = .ok (⟨false, none⟩, x) := by
  cases x <;> simp [regIdent] at h
  simp [evaluate, h]

theorem addrOff_const (idx : Nat) (v : Int) : addrOff idx (.const v) = .error (.valueRange idx) := rfl

/-- the documented forms between `[` and `]`, on the operand as written: a register-free expression (which is then
diagnosed), `Rn`, `Rn + Rm`, `Rn + e`, `e + Rn` -/
theorem docMem_inv {x : Arg} (h : docMem x = true) :
    expr x = true ∨ (∃ b, x = .ident b ∧ isRegister b = true) ∨
    (∃ b b', x = .bin .add (.ident b) (.ident b') ∧ isRegister b = true ∧ isRegister b' = true) ∨
    (∃ b e, x = .bin .add (.ident b) e ∧ isRegister b = true ∧ expr e = true) ∨
    (∃ b e, x = .bin .add e (.ident b) ∧ isRegister b = true ∧ expr e = true) := by
  cases x with
  | ident s =>
    cases hr : isRegister s
    · exact .inl (by simp [expr, hr])
    · exact .inr (.inl ⟨s, rfl, hr⟩)
  | bin op l r =>
    cases op <;> try exact .inl h
    simp only [docMem, Bool.and_eq_true, Bool.or_eq_true] at h
    rcases h with ⟨hl | hl, hr | hr⟩
    · obtain ⟨b, rfl, hb⟩ := regIdent_iff.1 hl
      obtain ⟨b', rfl, hb'⟩ := regIdent_iff.1 hr
      exact .inr (.inr (.inl ⟨b, b', rfl, hb, hb'⟩))
    · obtain ⟨b, rfl, hb⟩ := regIdent_iff.1 hl
      exact .inr (.inr (.inr (.inl ⟨b, r, rfl, hb, hr⟩)))
    · obtain ⟨b, rfl, hb⟩ := regIdent_iff.1 hr
      exact .inr (.inr (.inr (.inr ⟨b, l, rfl, hb, hl⟩)))
    · exact .inl (by simp [expr, hl, hr])
  | _ => exact .inl h

theorem mem_sound {lk : Bytes → Lookup} (hn : NoDef lk) (hT : Simp.tableOk lk) {x x' : Arg} {e1 : Ev}
    (hd : docMem x = true) (hl : lits x = true) (he : evaluate lk isRegister x = .ok (e1, x'))
    {idx : Nat} {r : Reg} {o : Option ImmReg} (ha : addrOff idx x' = .ok (r, o)) :
    ∃ o', o = some o' ∧ mem (tab lk) x = some (r, o') := by
  rcases docMem_inv hd with hx | ⟨b, rfl, hb⟩ | ⟨b, b', rfl, hb, hb'⟩ | ⟨b, e, rfl, hb, hee⟩ | ⟨b, e, rfl, hb, hee⟩
  · -- a register-free expression evaluates to a constant, which `addr_off` refuses
    obtain ⟨v, rfl⟩ := expr_const hn hx he
    cases ha
  · rw [evaluate_regIdent lk (x := .ident b) hb] at he
    cases he
    cases addrOff_ok_iff.1 ha with
    | reg h1 => exact ⟨_, rfl, by simp [mem, h1]⟩
  · rw [evaluate_bin, evaluate_regIdent lk (x := .ident b) hb, evaluate_regIdent lk (x := .ident b') hb'] at he
    simp only [afterRaw_regreg] at he
    cases he
    rw [mem_regreg _ b b' hb hb']
    cases addrOff_ok_iff.1 ha with
    | regReg h1 h2 => rw [h1, h2]; exact ⟨_, rfl, rfl⟩
  -- `Rn + e` and `e + Rn` are sums with one register name: whatever the simplifier makes of them, `addr_off` can only read
  -- `Rn` and the value of `e` from it (`accept_mem`)
  · obtain ⟨rs, c, hs⟩ := sumForm_defined hn hT _ (by simp [sumShaped, sumShaped_of_expr hee]) hl _ _ he
    rw [sumForm_regexpr _ hb hee] at hs
    obtain ⟨v, hv, -⟩ := Option.map_eq_some_iff.1 hs
    obtain ⟨hr, rfl, -⟩ := accept_mem he (by rw [sumForm_regexpr _ hb hee, hv]; rfl) ha
    exact ⟨_, rfl, by rw [mem_regexpr _ b e hb (regIdent_of_expr hee), hr, hv, Int.zero_add]⟩
  · obtain ⟨rs, c, hs⟩ := sumForm_defined hn hT _ (by simp [sumShaped, sumShaped_of_expr hee]) hl _ _ he
    rw [sumForm_exprreg _ hb hee] at hs
    obtain ⟨v, hv, -⟩ := Option.map_eq_some_iff.1 hs
    obtain ⟨hr, rfl, -⟩ := accept_mem he (by rw [sumForm_exprreg _ hb hee, hv]; rfl) ha
    exact ⟨_, rfl, by rw [mem_exprreg _ b e hb (regIdent_of_expr hee), hr, hv, Int.add_zero]⟩

/-- an offset inside `[…]` that the getter can yield: an `i32` that is not negative (the evaluator rewrites `[Rn + -4]` to
`[Rn - 4]`, which `addr_off` refuses); for the memory operand of an instruction this is `Show.MemNonneg` -/
def immOkNonneg : ImmReg → Prop
  | .imm v => 0 ≤ v ∧ v ≤ 2147483647
  | .reg _ => True

theorem mem_complete (lk : Bytes → Lookup) {x : Arg} {r : Reg} {o : ImmReg}
    (hm : mem (tab lk) x = some (r, o)) (ho : immOkNonneg o) :
    ∃ e1 x', evaluate lk isRegister x = .ok (e1, x') ∧ isBad x' = false ∧ ∀ idx, addrOff idx x' = .ok (r, some o) := by
  rcases mem_inv hm with ⟨b, rfl, h1, rfl⟩ | ⟨b, b', rfl, hb, hb', h1, ro, h2, rfl⟩ |
      ⟨b, e, v, rfl, hb, hre, h1, hv, rfl⟩ | ⟨b, e, v, rfl, hb, hre, h1, hv, rfl⟩
  · have hb := isRegister_of_regl h1
    exact ⟨_, .ident b, evaluate_regIdent lk (by simpa [regIdent] using hb), rfl, fun idx => by simp [addrOff, h1]⟩
  · have hev : ∃ e1, evaluate lk isRegister (.bin .add (.ident b) (.ident b')) = .ok (e1, .bin .add (.ident b) (.ident b')) :=
      ⟨_, by rw [evaluate_bin, evaluate_regIdent lk (show regIdent (.ident b) = true from hb),
        evaluate_regIdent lk (show regIdent (.ident b') = true from hb')]; simp only [afterRaw_regreg]; rfl⟩
    obtain ⟨e1, hev⟩ := hev
    exact ⟨e1, _, hev, rfl, fun idx => by simp [addrOff, h1, h2]⟩
  · obtain ⟨e2, h2⟩ := value_evaluate lk e v hv
    simp only [immOkNonneg] at ho
    rcases Int.lt_or_eq_of_le ho.1 with hc | hc
    · have hev : ∃ e1, evaluate lk isRegister (.bin .add (.ident b) e) = .ok (e1, .bin .add (.ident b) (.const v)) :=
        ⟨_, by rw [evaluate_bin, evaluate_regIdent lk (show regIdent (.ident b) = true from hb), h2]
               simp only [afterRaw_regconst_pos _ _ _ hc]; rfl⟩
      obtain ⟨e1, hev⟩ := hev
      exact ⟨e1, _, hev, rfl, fun idx => by simp [addrOff, h1, show narrowI32 v = some v from if_pos ⟨by omega, ho.2⟩]⟩
    · subst hc
      have hev : ∃ e1, evaluate lk isRegister (.bin .add (.ident b) e) = .ok (e1, .ident b) :=
        ⟨_, by rw [evaluate_bin, evaluate_regIdent lk (show regIdent (.ident b) = true from hb), h2]
               simp only [afterRaw_regconst_zero]; rfl⟩
      obtain ⟨e1, hev⟩ := hev
      exact ⟨e1, _, hev, rfl, fun idx => by simp [addrOff, h1]⟩
  · obtain ⟨e2, h2⟩ := value_evaluate lk e v hv
    simp only [immOkNonneg] at ho
    by_cases hc : v = 0
    · subst hc
      have hev : ∃ e1, evaluate lk isRegister (.bin .add e (.ident b)) = .ok (e1, .ident b) :=
        ⟨_, by rw [evaluate_bin, h2, evaluate_regIdent lk (show regIdent (.ident b) = true from hb)]
               simp only [afterRaw_constreg_zero]; rfl⟩
      obtain ⟨e1, hev⟩ := hev
      exact ⟨e1, _, hev, rfl, fun idx => by simp [addrOff, h1]⟩
    · have hev : ∃ e1, evaluate lk isRegister (.bin .add e (.ident b)) = .ok (e1, .bin .add (.const v) (.ident b)) :=
        ⟨_, by rw [evaluate_bin, h2, evaluate_regIdent lk (show regIdent (.ident b) = true from hb)]
               simp only [afterRaw_constreg_nz _ _ _ hc]; rfl⟩
      obtain ⟨e1, hev⟩ := hev
      exact ⟨e1, _, hev, rfl, fun idx => by simp [addrOff, h1, show narrowI32 v = some v from if_pos ⟨by omega, ho.2⟩]⟩

end Trion.C04
