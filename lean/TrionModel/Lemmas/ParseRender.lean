import TrionModel.Lemmas.ParseMono
import TrionModel.Spec.Render
/-!
# Printer/parser induction: a rendered tree parses back to itself

Levels `0 … 5` are the operator groups (lowest precedence first), level `6` is `parse_unary`.
`Fits lo t m ts`: the token list `ts` may stand wherever an expression of binding strength `m` is
expected, and is then read as `t` — at every level `k ≤ m`, parsing `ts ++ cont` at level `k` is the
same as entering the operator loop of level `k` with `t` already parsed and `cont` remaining.
-/
namespace Trion.Parse

def grp : Nat → BinOpGroup
  | 0 => .bitOr | 1 => .bitXor | 2 => .bitAnd | 3 => .shift | 4 => .addSub | _ => .divMul

theorem grp_toNat {k : Nat} (h : k < 6) : (grp k).toNat = k := by
  match k, h with
  | 0, _ | 1, _ | 2, _ | 3, _ | 4, _ | 5, _ => rfl

theorem grp_of (g : BinOpGroup) : grp g.toNat = g := by cases g <;> rfl
theorem toNat_lt (g : BinOpGroup) : g.toNat < 6 := by cases g <;> decide

/-- the function that reads an expression of level `k`: `parse_binary` of the group below 6, `parse_unary` from 6 on
(`st` is `parse_binary`'s `expr_start`) -/
def parseLvl (lo : LexOut) (k : Nat) (st : Nat × Nat) (ts : List Token) : Res (Arg × List Token) :=
  if k < 6 then binary lo (grp k) st ts else unary lo ts

/-- the operator loop of level `k`, entered with `lhs` read and `cont` remaining; `parse_unary` has no loop, so from level 6
on this is `.ok (lhs, cont)` -/
def loopLvl (lo : LexOut) (k : Nat) (st : Nat × Nat) (lhs : Arg) (cont : List Token) : Res (Arg × List Token) :=
  if k < 6 then binLoop lo (grp k) st lhs cont else .ok (lhs, cont)

theorem operand_grp (lo : LexOut) {k : Nat} (hk : k < 6) (st : Nat × Nat) (ts : List Token) :
    operand lo (grp k) st ts = parseLvl lo (k+1) st ts := by
  match k, hk with
  | 0, _ | 1, _ | 2, _ | 3, _ | 4, _ | 5, _ => simp [operand, parseLvl, grp, BinOpGroup.higher]

/-- the next token ends an expression of level `k`: a stop token or an operator of a group below `k` (`ended`,
Lemmas/ParseBasic.lean, is the same for a group in place of a level and with the end of the tokens admitted) -/
def endsBelow (k : Nat) : List Token → Prop
  | [] => False
  | t :: _ => t.val.isStop = true ∨ ∃ op, t.val.binOp = some op ∧ op.group.toNat < k

theorem endsBelow_mono {a b : Nat} {cont : List Token} (h : endsBelow a cont) (hab : a ≤ b) : endsBelow b cont := by
  cases cont with
  | nil => exact h
  | cons t r =>
    rcases h with h | ⟨op, h1, h2⟩
    · exact Or.inl h
    · exact Or.inr ⟨op, h1, by omega⟩

theorem endsBelow_six {k : Nat} {cont : List Token} (h : endsBelow k cont) : endsBelow 6 cont := by
  cases cont with
  | nil => exact h
  | cons t r =>
    rcases h with h | ⟨op, h1, _⟩
    · exact Or.inl h
    · exact Or.inr ⟨op, h1, by have := group_le_five op; omega⟩

theorem endsBelow_stop {t : Token} (r : List Token) (k : Nat) (h : t.val.isStop = true) : endsBelow k (t :: r) :=
  Or.inl h

theorem binLoop_done (lo : LexOut) {k k' : Nat} (hk : k < 6) (st : Nat × Nat) (lhs : Arg) {cont : List Token}
    (h : endsBelow k' cont) (hk' : k' ≤ k) : binLoop lo (grp k) st lhs cont = .ok (lhs, cont) := by
  cases cont with
  | nil => exact h.elim
  | cons t r =>
    rw [binLoop_cons]
    rcases h with h | ⟨op, h1, h2⟩
    · simp only [h, if_true]
    · by_cases hs : t.val.isStop = true
      · simp only [hs, if_true]
      · simp only [if_neg hs, h1]
        rw [if_pos (by rw [grp_toNat hk]; omega)]

theorem loopLvl_done (lo : LexOut) {k k' : Nat} (st : Nat × Nat) (lhs : Arg) {cont : List Token}
    (h : endsBelow k' cont) (hk' : k' ≤ k) : loopLvl lo k st lhs cont = .ok (lhs, cont) := by
  unfold loopLvl
  split
  · rename_i hk; exact binLoop_done lo hk st lhs h hk'
  · rfl

theorem op_tok_isStop (op : BinOp) : op.tok.isStop = false := by cases op <;> rfl
theorem op_tok_binOp (op : BinOp) : op.tok.binOp = some op := by cases op <;> rfl

theorem binLoop_step (lo : LexOut) (op : BinOp) (st : Nat × Nat) (lhs : Arg) (t : Token) (r : List Token)
    (ht : t.val = op.tok) :
    binLoop lo op.group st lhs (t :: r) =
      (parseLvl lo (op.group.toNat + 1) st r).bind fun p => binLoop lo op.group st (.bin op lhs p.1) p.2 := by
  rw [binLoop_cons, ht, op_tok_isStop, op_tok_binOp]
  simp only [Bool.false_eq_true, if_false, Nat.lt_irrefl]
  have := operand_grp lo (toNat_lt op.group) st r
  rw [grp_of] at this
  rw [this]

theorem endsBelow_op {t : Token} (r : List Token) (op : BinOp) (k : Nat) (ht : t.val = op.tok)
    (h : op.group.toNat < k) : endsBelow k (t :: r) :=
  Or.inr ⟨op, by rw [ht, op_tok_binOp], h⟩

/-- stepping down from level `k'` to a lower level `k`: the levels in between see a continuation that
is none of their business -/
theorem parseLvl_lower (lo : LexOut) (st : Nat × Nat) (X : List Token) (t : Arg) (cont : List Token) :
    ∀ d k k', k' = k + d → parseLvl lo k' st X = loopLvl lo k' st t cont → endsBelow (k+1) cont →
      parseLvl lo k st X = loopLvl lo k st t cont := by
  intro d
  induction d with
  | zero => intro k k' hk h _; subst hk; exact h
  | succ d ih =>
    intro k k' hk h he
    have h1 := ih (k+1) k' (by omega) h (endsBelow_mono he (by omega))
    rw [loopLvl_done lo st t he (Nat.le_refl _)] at h1
    by_cases hk6 : k < 6
    · unfold parseLvl loopLvl
      rw [if_pos hk6, if_pos hk6, binary_eq, operand_grp lo hk6, h1]
      rfl
    · -- both levels are `parse_unary`
      have e1 : parseLvl lo k st X = parseLvl lo (k+1) st X := by
        unfold parseLvl; rw [if_neg hk6, if_neg (by omega)]
      have e2 : loopLvl lo k st t cont = .ok (t, cont) := by
        unfold loopLvl; rw [if_neg hk6]
      rw [e1, e2, h1]

/-- The invariant of the induction (head of the file). The continuation has to begin with a token that ends an expression of
level `k + 1` (`endsBelow (k+1) cont`: a stop token or an operator of a group `≤ k`), so that the calls inside stop where
`ts` ends; in particular it is not empty. -/
def Fits (lo : LexOut) (t : Arg) (m : Nat) (ts : List Token) : Prop :=
  ∀ k, k ≤ m → ∀ st cont, endsBelow (k+1) cont →
    parseLvl lo k st (ts ++ cont) = loopLvl lo k st t cont

theorem Fits.mono {lo : LexOut} {t : Arg} {m m' : Nat} {ts : List Token} (h : Fits lo t m ts) (hm : m' ≤ m) :
    Fits lo t m' ts := fun k hk => h k (by omega)

theorem fits_of_unary {lo : LexOut} {t : Arg} {ts : List Token}
    (h : ∀ cont, endsBelow 6 cont → unary lo (ts ++ cont) = .ok (t, cont)) (m : Nat) : Fits lo t m ts := by
  intro k _ st cont he
  by_cases hk : k ≤ 6
  · refine parseLvl_lower lo st (ts ++ cont) t cont (6 - k) k 6 (by omega) ?_ he
    unfold parseLvl loopLvl
    rw [if_neg (by omega), if_neg (by omega)]
    exact h cont (endsBelow_six he)
  · unfold parseLvl loopLvl
    rw [if_neg (by omega), if_neg (by omega)]
    exact h cont (endsBelow_six he)

theorem close_ok (lo : LexOut) (e : String) (w : Tok) (t : Token) (r : List Token) (h : t.val = w) :
    close lo e w (t :: r) = .ok r := by
  simp [close, h]

theorem fits_inner {lo : LexOut} {t : Arg} {ts : List Token} (h : Fits lo t 0 ts) (st : Nat × Nat)
    (c : Token) (r : List Token) (hc : c.val.isStop = true) :
    binary lo .bitOr st (ts ++ c :: r) = .ok (t, c :: r) := by
  have h0 := h 0 (Nat.le_refl _) st (c :: r) (endsBelow_stop r 1 hc)
  unfold parseLvl loopLvl at h0
  rw [if_pos (by omega), if_pos (by omega)] at h0
  rw [show grp 0 = .bitOr from rfl] at h0
  rw [h0]
  exact binLoop_done lo (k := 0) (by omega) st t (endsBelow_stop r 0 hc) (Nat.le_refl _)

/-! The arms of `parse_unary` with an inner call (`UnaryArm.wrap`, `.expr`, `.list`, Lemmas/ParseBasic.lean), on the rendering
of what the inner call reads: `fits_wrap`, `fits_bracket`, `fits_list` (below `ArgsFit`; its `pre` are the tokens that open the
list, `{` or a name and `(`). `hu` is the arm's equation, `unary_cons` at the token in question. -/

theorem fits_wrap {lo : LexOut} {a : Arg} {ts : List Token} (f : Arg → Arg) (t : Token)
    (hu : ∀ r, unary lo (t :: r) = (unary lo r).bind fun p => .ok (f p.1, p.2)) (h : Fits lo a 6 ts) (m : Nat) :
    Fits lo (f a) m (t :: ts) := by
  apply fits_of_unary
  intro cont he
  have h6 := h 6 (Nat.le_refl _) (0, 0) cont (endsBelow_mono he (by omega))
  unfold parseLvl loopLvl at h6
  rw [if_neg (by omega), if_neg (by omega)] at h6
  rw [List.cons_append, hu, h6]
  rfl

theorem fits_bracket {lo : LexOut} {t : Arg} {ts : List Token} (h : Fits lo t 0 ts) (k : Arg → Arg) (e : String) (w : Tok)
    (lb rb : Token) (hu : ∀ r, unary lo (lb :: r) =
      (binary lo .bitOr (exprStart lo r) r).bind fun p => (close lo e w p.2).bind fun r3 => .ok (k p.1, r3))
    (hr : rb.val = w) (hw : w.isStop = true) (m : Nat) : Fits lo (k t) m (lb :: ts ++ [rb]) := by
  apply fits_of_unary
  intro cont _
  show unary lo (lb :: (ts ++ [rb] ++ cont)) = _
  rw [hu]
  simp only [List.append_assoc, List.singleton_append]
  rw [fits_inner h _ rb cont (by rw [hr]; exact hw)]
  simp only [bind_ok]
  rw [close_ok lo _ _ rb cont hr]
  rfl

theorem fits_paren {lo : LexOut} {t : Arg} {ts : List Token} (h : Fits lo t 0 ts)
    (lp rp : Token) (hl : lp.val = .lparen) (hr : rp.val = .rparen) (m : Nat) :
    Fits lo t m (lp :: ts ++ [rp]) :=
  fits_bracket h id "')'" .rparen lp rp (fun r => by rw [unary_cons, hl]; rfl) hr rfl m

theorem fits_bin {lo : LexOut} {op : BinOp} {l r : Arg} {tl tr : List Token} {to : Token}
    (hl : Fits lo l op.group.toNat tl) (hr : Fits lo r (op.group.toNat + 1) tr) (hto : to.val = op.tok) :
    Fits lo (.bin op l r) op.group.toNat (tl ++ to :: tr) := by
  intro k hk st cont he
  have hg := toNat_lt op.group
  -- at the operator's own level
  have hown : parseLvl lo op.group.toNat st ((tl ++ to :: tr) ++ cont) =
      loopLvl lo op.group.toNat st (.bin op l r) cont := by
    have e : (tl ++ to :: tr) ++ cont = tl ++ (to :: (tr ++ cont)) := by simp
    rw [e, hl _ (Nat.le_refl _) st _ (endsBelow_op _ op _ hto (Nat.lt_succ_self _))]
    unfold loopLvl
    rw [if_pos hg, if_pos hg, grp_of, binLoop_step lo op st l to _ hto,
      hr _ (Nat.le_refl _) st cont (endsBelow_mono he (by omega)),
      loopLvl_done lo st r he (by omega)]
    rfl
  exact parseLvl_lower lo st _ _ cont (op.group.toNat - k) k _ (by omega) hown he

theorem paren_false (ts : List Tok) : Render.paren false ts = ts := rfl
theorem paren_true (ts : List Tok) : Render.paren true ts = .lparen :: ts ++ [.rparen] := rfl

def Tok.startsExpr : Tok → Bool
  | .num _ | .ident _ | .str _ | .minus | .not | .lbrack | .lbrace | .lparen => true
  | _ => false

theorem op_tok_ne_nil : True := trivial

mutual
theorem parg_head (m : Nat) : (p : PArg) → ∃ v vs, Render.parg m p = v :: vs ∧ Tok.startsExpr v = true
  | .const v => ⟨.num v, [], by simp only [Render.parg], rfl⟩
  | .ident s => ⟨.ident s, [], by simp only [Render.parg], rfl⟩
  | .str s => ⟨.str s, [], by simp only [Render.parg], rfl⟩
  | .bin op l r => by
    obtain ⟨v, vs, h, hv⟩ := parg_head op.group.toNat l
    by_cases hp : op.group.toNat < m
    · exact ⟨.lparen, _, by simp only [Render.parg, hp, decide_true, paren_true]; rfl, rfl⟩
    · exact ⟨v, vs ++ op.tok :: Render.parg (op.group.toNat + 1) r,
        by simp only [Render.parg, hp, decide_false, paren_false, h, List.cons_append], hv⟩
  | .neg a => ⟨.minus, _, by simp only [Render.parg]; rfl, rfl⟩
  | .not a => ⟨.not, _, by simp only [Render.parg]; rfl, rfl⟩
  | .addr a => ⟨.lbrack, _, by simp only [Render.parg]; rfl, rfl⟩
  | .seq as => ⟨.lbrace, _, by simp only [Render.parg]; rfl, rfl⟩
  | .func name as => ⟨.ident name, _, by simp only [Render.parg]; rfl, rfl⟩
  | .paren a => ⟨.lparen, _, by simp only [Render.parg]; rfl, rfl⟩
end

theorem startsExpr_not_argsEnd {v : Tok} (h : Tok.startsExpr v = true) : v.isArgsEnd = false := by
  cases v <;> simp_all [Tok.startsExpr, Tok.isArgsEnd]

/-- `ts`, followed by a token that ends an argument list (`isArgsEnd`), is read as the list `as`: by `parse_args`, and if
`as` is not empty by its loop as well, which the induction over the list enters again after each separator. -/
structure ArgsFit (lo : LexOut) (as : Args) (ts : List Token) : Prop where
  args : ∀ c r, c.val.isArgsEnd = true → args lo (ts ++ c :: r) = .ok (as, c :: r)
  loop : as ≠ .nil → ∀ c r, c.val.isArgsEnd = true → argsLoop lo (ts ++ c :: r) = .ok (as, c :: r)

theorem argsEnd_stop {v : Tok} (h : v.isArgsEnd = true) : v.isStop = true := by
  cases v <;> simp_all [Tok.isStop, Tok.isArgsEnd]

theorem fits_list {lo : LexOut} {as : Args} {ta : List Token} (h : ArgsFit lo as ta) (k : Args → Arg) (e : String) (w : Tok)
    (pre : List Token) (rb : Token) (hu : ∀ r, unary lo (pre ++ r) =
      (args lo r).bind fun p => (close lo e w p.2).bind fun r3 => .ok (k p.1, r3))
    (hr : rb.val = w) (hw : w.isArgsEnd = true) (m : Nat) : Fits lo (k as) m (pre ++ ta ++ [rb]) := by
  apply fits_of_unary
  intro cont _
  rw [List.append_assoc, List.append_assoc, hu, List.singleton_append, h.args rb cont (by rw [hr]; exact hw)]
  simp only [bind_ok]
  rw [close_ok lo _ _ rb cont hr]
  rfl

theorem exists_of_map_eq_cons {ts : List Token} {v : Tok} {vs : List Tok} (h : ts.map (·.val) = v :: vs) :
    ∃ t ts', ts = t :: ts' ∧ t.val = v ∧ ts'.map (·.val) = vs := by
  cases ts with
  | nil => simp at h
  | cons t ts' => simp at h; exact ⟨t, ts', rfl, h.1, h.2⟩

theorem exists_of_map_eq_append {ts : List Token} {a b : List Tok} (h : ts.map (·.val) = a ++ b) :
    ∃ ta tb, ts = ta ++ tb ∧ ta.map (·.val) = a ∧ tb.map (·.val) = b := by
  rw [List.map_eq_append_iff] at h
  exact h

theorem argsLoop_last {lo : LexOut} {a : Arg} {ts : List Token} (h : Fits lo a 0 ts) (c : Token) (r : List Token)
    (hc : c.val.isArgsEnd = true) : argsLoop lo (ts ++ c :: r) = .ok (.cons a .nil, c :: r) := by
  rw [argsLoop_eq, fits_inner h _ c r (argsEnd_stop hc)]
  simp only [bind_ok]
  have : c.val ≠ .sep := by intro e; rw [e] at hc; cases hc
  rw [if_neg this, if_pos hc]

theorem argsLoop_more {lo : LexOut} {a : Arg} {as : Args} {ts ts2 : List Token} (h : Fits lo a 0 ts) (s : Token)
    (hs : s.val = .sep) (c : Token) (r : List Token)
    (h2 : argsLoop lo (ts2 ++ c :: r) = .ok (as, c :: r)) :
    argsLoop lo ((ts ++ s :: ts2) ++ c :: r) = .ok (.cons a as, c :: r) := by
  have e : (ts ++ s :: ts2) ++ c :: r = ts ++ s :: (ts2 ++ c :: r) := by simp
  rw [e, argsLoop_eq, fits_inner h _ s _ (by rw [hs]; rfl)]
  simp only [bind_ok]
  rw [if_pos hs, h2]
  rfl

theorem args_of_loop {lo : LexOut} {as : Args} {ts : List Token} {v : Tok} {vs : List Tok}
    (hts : ts.map (·.val) = v :: vs) (hv : Tok.startsExpr v = true) (c : Token) (r : List Token)
    (h : argsLoop lo (ts ++ c :: r) = .ok (as, c :: r)) : args lo (ts ++ c :: r) = .ok (as, c :: r) := by
  obtain ⟨t, ts', rfl, ht, _⟩ := exists_of_map_eq_cons hts
  rw [List.cons_append, args_cons, ht, startsExpr_not_argsEnd hv]
  simpa using h

mutual
theorem fits_parg (lo : LexOut) : (p : PArg) → p.wf → ∀ m ts, ts.map (·.val) = Render.parg m p → Fits lo p.erase m ts
  | .const v, _, m, ts, hts => by
    simp only [Render.parg] at hts
    obtain ⟨t, ts', rfl, ht, hn⟩ := exists_of_map_eq_cons hts
    rw [List.map_eq_nil_iff.1 hn]
    apply fits_of_unary
    intro cont _
    rw [List.singleton_append, unary_cons, ht]
    rfl
  | .str s, _, m, ts, hts => by
    simp only [Render.parg] at hts
    obtain ⟨t, ts', rfl, ht, hn⟩ := exists_of_map_eq_cons hts
    rw [List.map_eq_nil_iff.1 hn]
    apply fits_of_unary
    intro cont _
    rw [List.singleton_append, unary_cons, ht]
    rfl
  | .ident s, _, m, ts, hts => by
    simp only [Render.parg] at hts
    obtain ⟨t, ts', rfl, ht, hn⟩ := exists_of_map_eq_cons hts
    rw [List.map_eq_nil_iff.1 hn]
    apply fits_of_unary
    intro cont he
    rw [List.singleton_append, unary_cons, ht]
    -- the next token is a stop token or an operator, hence not `(`
    cases cont with
    | nil => exact he.elim
    | cons c r =>
      obtain ⟨cl, cc, cv⟩ := c
      have : cv ≠ .lparen := by
        intro e
        subst e
        rcases he with h | ⟨op, h, _⟩
        · cases h
        · cases h
      cases cv <;> first | rfl | exact absurd rfl this
  | .neg a, hwf, m, ts, hts => by
    simp only [Render.parg] at hts
    obtain ⟨t, ts', rfl, ht, hts'⟩ := exists_of_map_eq_cons hts
    exact fits_wrap .neg t (fun r => by rw [unary_cons, ht]) (fits_parg lo a hwf 6 ts' hts') m
  | .not a, hwf, m, ts, hts => by
    simp only [Render.parg] at hts
    obtain ⟨t, ts', rfl, ht, hts'⟩ := exists_of_map_eq_cons hts
    exact fits_wrap .not t (fun r => by rw [unary_cons, ht]) (fits_parg lo a hwf 6 ts' hts') m
  | .addr a, hwf, m, ts, hts => by
    simp only [Render.parg] at hts
    obtain ⟨t, ts1, rfl, ht, hts1⟩ := exists_of_map_eq_cons hts
    obtain ⟨ta, tb, rfl, hta, htb⟩ := exists_of_map_eq_append hts1
    obtain ⟨rb, tb', rfl, hrb, hn⟩ := exists_of_map_eq_cons htb
    rw [List.map_eq_nil_iff.1 hn]
    exact fits_bracket (fits_parg lo a hwf 0 ta hta) .addr "']'" .rbrack t rb (fun r => by rw [unary_cons, ht]) hrb rfl m
  | .paren a, hwf, m, ts, hts => by
    simp only [Render.parg] at hts
    obtain ⟨t, ts1, rfl, ht, hts1⟩ := exists_of_map_eq_cons hts
    obtain ⟨ta, tb, rfl, hta, htb⟩ := exists_of_map_eq_append hts1
    obtain ⟨rp, tb', rfl, hrp, hn⟩ := exists_of_map_eq_cons htb
    rw [List.map_eq_nil_iff.1 hn]
    have ih := fits_parg lo a hwf 0 ta hta
    exact fits_paren ih t rp ht hrp m
  | .seq as, hwf, m, ts, hts => by
    simp only [Render.parg] at hts
    obtain ⟨t, ts1, rfl, ht, hts1⟩ := exists_of_map_eq_cons hts
    obtain ⟨ta, tb, rfl, hta, htb⟩ := exists_of_map_eq_append hts1
    obtain ⟨rb, tb', rfl, hrb, hn⟩ := exists_of_map_eq_cons htb
    rw [List.map_eq_nil_iff.1 hn]
    exact fits_list (fits_pargs lo as hwf ta hta) .seq "'}'" .rbrace [t] rb (fun r => by rw [List.singleton_append, unary_cons, ht])
      hrb rfl m
  | .func name as, hwf, m, ts, hts => by
    simp only [Render.parg] at hts
    obtain ⟨t, ts0, rfl, ht, hts0⟩ := exists_of_map_eq_cons hts
    obtain ⟨⟨ll, lc, lv⟩, ts1, rfl, hlp, hts1⟩ := exists_of_map_eq_cons hts0
    obtain ⟨ta, tb, rfl, hta, htb⟩ := exists_of_map_eq_append hts1
    obtain ⟨rb, tb', rfl, hrb, hn⟩ := exists_of_map_eq_cons htb
    rw [List.map_eq_nil_iff.1 hn]
    simp only at hlp
    subst hlp
    exact fits_list (fits_pargs lo as hwf.2 ta hta) (.func name) "')'" .rparen [t, ⟨ll, lc, .lparen⟩] rb
      (fun r => by rw [List.cons_append, List.cons_append, List.nil_append, unary_cons, ht]) hrb rfl m
  | .bin op l r, hwf, m, ts, hts => by
    simp only [Render.parg] at hts
    have body : ∀ tb, tb.map (·.val) = Render.parg op.group.toNat l ++ op.tok :: Render.parg (op.group.toNat + 1) r →
        Fits lo (.bin op l.erase r.erase) op.group.toNat tb := by
      intro tb htb
      obtain ⟨tl, tr0, rfl, htl, htr0⟩ := exists_of_map_eq_append htb
      obtain ⟨to, tr, rfl, hto, htr⟩ := exists_of_map_eq_cons htr0
      exact fits_bin (fits_parg lo l hwf.1 _ tl htl) (fits_parg lo r hwf.2 _ tr htr) hto
    by_cases hp : op.group.toNat < m
    · simp only [hp, decide_true, paren_true] at hts
      obtain ⟨lp, ts1, rfl, hlp, hts1⟩ := exists_of_map_eq_cons hts
      obtain ⟨tb, te, rfl, htb, hte⟩ := exists_of_map_eq_append hts1
      obtain ⟨rp, te', rfl, hrp, hn⟩ := exists_of_map_eq_cons hte
      rw [List.map_eq_nil_iff.1 hn]
      exact fits_paren ((body tb htb).mono (Nat.zero_le _)) lp rp hlp hrp m
    · simp only [hp, decide_false, paren_false] at hts
      exact (body ts hts).mono (by omega)

theorem fits_pargs (lo : LexOut) : (as : PArgs) → as.wf → ∀ ts, ts.map (·.val) = Render.pargs as → ArgsFit lo as.erase ts
  | .nil, _, ts, hts => by
    simp only [Render.pargs] at hts
    rw [List.map_eq_nil_iff.1 hts]
    constructor
    · intro c r hc
      rw [List.nil_append, args_cons, hc]
      rfl
    · intro h; exact absurd rfl h
  | .cons a .nil, hwf, ts, hts => by
    simp only [Render.pargs] at hts
    have ih := fits_parg lo a hwf.1 0 ts hts
    obtain ⟨v, vs, hv, hstart⟩ := parg_head 0 a
    have hl : ∀ c r, c.val.isArgsEnd = true → argsLoop lo (ts ++ c :: r) = .ok (.cons a.erase .nil, c :: r) :=
      fun c r hc => argsLoop_last ih c r hc
    exact ⟨fun c r hc => args_of_loop (hts.trans hv) hstart c r (hl c r hc), fun _ => hl⟩
  | .cons a (.cons b bs), hwf, ts, hts => by
    simp only [Render.pargs] at hts
    obtain ⟨ta, t0, rfl, hta, ht0⟩ := exists_of_map_eq_append hts
    obtain ⟨s, tb, rfl, hs, htb⟩ := exists_of_map_eq_cons ht0
    have iha := fits_parg lo a hwf.1 0 ta hta
    have ihb := fits_pargs lo (.cons b bs) hwf.2 tb htb
    obtain ⟨v, vs, hv, hstart⟩ := parg_head 0 a
    have hl : ∀ c r, c.val.isArgsEnd = true →
        argsLoop lo ((ta ++ s :: tb) ++ c :: r) = .ok (.cons a.erase (PArgs.cons b bs).erase, c :: r) :=
      fun c r hc => argsLoop_more iha s hs c r (ihb.loop (by simp [PArgs.erase]) c r hc)
    refine ⟨fun c r hc => args_of_loop (v := v) (vs := vs ++ .sep :: Render.pargs (.cons b bs)) ?_ hstart c r (hl c r hc), fun _ => hl⟩
    rw [List.map_append, hta, hv]
    simp [hs, htb]
end

mutual
theorem erase_ofArg : (t : Arg) → (PArg.ofArg t).erase = t
  | .const _ | .ident _ | .str _ => rfl
  | .bin op l r => by simp only [PArg.ofArg, PArg.erase, erase_ofArg l, erase_ofArg r]
  | .neg a => by simp only [PArg.ofArg, PArg.erase, erase_ofArg a]
  | .not a => by simp only [PArg.ofArg, PArg.erase, erase_ofArg a]
  | .addr a => by simp only [PArg.ofArg, PArg.erase, erase_ofArg a]
  | .seq as => by simp only [PArg.ofArg, PArg.erase, erase_ofArgs as]
  | .func n as => by simp only [PArg.ofArg, PArg.erase, erase_ofArgs as]
theorem erase_ofArgs : (as : Args) → (PArgs.ofArgs as).erase = as
  | .nil => rfl
  | .cons a as => by simp only [PArgs.ofArgs, PArgs.erase, erase_ofArg a, erase_ofArgs as]
end

mutual
theorem wf_ofArg : (t : Arg) → t.wf → (PArg.ofArg t).wf
  | .const _, h => by simp only [Arg.wf] at h; simp only [PArg.ofArg, PArg.wf]; exact h
  | .ident _, h => by simp only [Arg.wf] at h; simp only [PArg.ofArg, PArg.wf]; exact h
  | .str _, _ => by simp only [PArg.ofArg, PArg.wf]
  | .bin op l r, h => by
    simp only [Arg.wf] at h
    simp only [PArg.ofArg, PArg.wf]
    exact ⟨wf_ofArg l h.1, wf_ofArg r h.2⟩
  | .neg a, h => by simp only [Arg.wf] at h; simp only [PArg.ofArg, PArg.wf]; exact wf_ofArg a h
  | .not a, h => by simp only [Arg.wf] at h; simp only [PArg.ofArg, PArg.wf]; exact wf_ofArg a h
  | .addr a, h => by simp only [Arg.wf] at h; simp only [PArg.ofArg, PArg.wf]; exact wf_ofArg a h
  | .seq as, h => by simp only [Arg.wf] at h; simp only [PArg.ofArg, PArg.wf]; exact wf_ofArgs as h
  | .func n as, h => by
    simp only [Arg.wf] at h
    simp only [PArg.ofArg, PArg.wf]
    exact ⟨h.1, wf_ofArgs as h.2⟩
theorem wf_ofArgs : (as : Args) → as.wf → (PArgs.ofArgs as).wf
  | .nil, _ => by simp only [PArgs.ofArgs, PArgs.wf]
  | .cons a as, h => by
    simp only [Args.wf] at h
    simp only [PArgs.ofArgs, PArgs.wf]
    exact ⟨wf_ofArg a h.1, wf_ofArgs as h.2⟩
end

mutual
theorem parg_ofArg : (t : Arg) → ∀ m, Render.parg m (PArg.ofArg t) = Render.arg m t
  | .const _, _ | .ident _, _ | .str _, _ => rfl
  | .bin op l r, m => by simp only [PArg.ofArg, Render.parg, Render.arg, parg_ofArg l, parg_ofArg r]
  | .neg a, m => by simp only [PArg.ofArg, Render.parg, Render.arg, parg_ofArg a]
  | .not a, m => by simp only [PArg.ofArg, Render.parg, Render.arg, parg_ofArg a]
  | .addr a, m => by simp only [PArg.ofArg, Render.parg, Render.arg, parg_ofArg a]
  | .seq as, m => by simp only [PArg.ofArg, Render.parg, Render.arg, pargs_ofArgs as]
  | .func n as, m => by simp only [PArg.ofArg, Render.parg, Render.arg, pargs_ofArgs as]
theorem pargs_ofArgs : (as : Args) → Render.pargs (PArgs.ofArgs as) = Render.args as
  | .nil => rfl
  | .cons a .nil => by simp only [PArgs.ofArgs, Render.pargs, Render.args, parg_ofArg a]
  | .cons a (.cons b bs) => by
    have := pargs_ofArgs (.cons b bs)
    simp only [PArgs.ofArgs] at this
    simp only [PArgs.ofArgs, Render.pargs, Render.args, parg_ofArg a, this]
end

theorem stmt_args {lo : LexOut} (as : PArgs) (hwf : as.wf) {ts : List Token} (hts : ts.map (·.val) = Render.pargs as)
    (c : Token) (r : List Token) (hc : c.val.isArgsEnd = true) :
    (args lo (ts ++ c :: r)).bind (fun p => (nextInner lo "';'" p.2).bind fun r3 => .ok (p.1, r3)) = .ok (as.erase, r) := by
  rw [(fits_pargs lo as hwf ts hts).args c r hc]
  rfl

end Trion.Parse
