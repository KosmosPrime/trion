import TrionModel.Lemmas.AsmScopeRel
import TrionModel.Lemmas.AsmLadder
import TrionModel.Lemmas.AsmRetry
/-!
# `Trion.Asm`: where a valued entry of a file's own table can come from (C14 isolation on the whole-pipeline model)

The statements of a file's own text that can give `m` the value `v` in the file's table (`isolation_asm_statement`) are:
a definition (`m:` / `.const m, e`), an `.import m` (then the includer's table has `m = v`), or an `.include` whose
file itself exports / declares global `m` and has `m = v` in its own final table.  Nothing else creates a valued
entry: not `.global` (it only announces), not `.export`, not a `.du*` or an instruction, not a task.
For a statement other than `.include` this is `statement_local`, the scope machine's `stmt_local` read through
`statement_scope`; for `.include` it is `frame_asm`, from the `Rel` of the included file.
-/
namespace Trion.Asm
open Trion

def defines (m : Bytes) (el : Element) : Prop :=
  el.val = .label m ∨ ∃ args e, el.val = .directive (bytesOf "const") args ∧ args.toList = [.ident m, e]

def imports (m : Bytes) (el : Element) : Prop :=
  ∃ args, el.val = .directive (bytesOf "import") args ∧ args.toList = [.ident m]

def isInclude (el : Element) : Prop := ∃ args, el.val = .directive (bytesOf "include") args

/-- a `.include` processed by a file whose table was `L`: it assembled the file `path` from the empty table, that file's
own text exports / declares global `m`, and its own final table has `m = v` -/
def SentUp (fs : Bytes → Option Bytes) (enc : Encoder) (fuel : Nat) (env : Env) (L : Table) (m : Bytes) (v : Int) : Prop :=
  ∃ fuel' path data els perr st2 st4 r4 C, fuel = fuel' + 1 ∧ fs path = some data ∧
    parseFile data = .ok (els, perr) ∧ st2.locals = some [] ∧ st2.globals = L ∧ st2.localTasks = some [] ∧
    fileBody fs enc (assembleFile fs enc fuel') ⟨path :: env.paths, path⟩ data st2 = .ok (st4, r4) ∧
    st4.locals = some C ∧ m ∈ fileNames els ∧ C.find m = some (some v)

/-- C14.isolation_asm (own definitions)  A label or `.const n, e` changes nothing but the entry `n` of the file's own
table, which becomes the value; the includer's table is literally untouched: a definition is visible only in the file
that makes it. -/
theorem isolation_asm_define {st st' : St} {l : Table} {n : Bytes} {v : Int} {x : Except CErr Bool}
    (hl : st.locals = some l) (h : insertConstant st n v .loc = .ok (st', x)) :
    st'.globals = st.globals ∧
    ∃ l', st'.locals = some l' ∧ ∀ m, l'.find m = l.find m ∨ (m = n ∧ l'.find m = some (some v)) := by
  have hs := sim_insertConstant st Env.init n v .loc
  rw [h] at hs
  obtain ⟨hg, l', hl', hm⟩ := Scope.setLocal_frame (s := scopeOf st Env.init) hl (.inl ⟨v, _, rfl, hs⟩)
  simp only [find_eq] at hm
  exact ⟨hg, l', hl', hm⟩

/-- the same for the statements that define: `n:` and `.const n, e` -/
theorem isolation_asm_define_stmt {fs : Bytes → Option Bytes} {enc : Encoder} {inc : Inc} {env : Env} {st st' : St}
    {el : Element} {r : Res} {l : Table} (hl : st.locals = some l)
    (hk : (∃ n, el.val = .label n) ∨ ∃ args, el.val = .directive (bytesOf "const") args)
    (h : statement fs enc inc env st el = .ok (st', r)) :
    st'.globals = st.globals ∧
    ∃ l', st'.locals = some l' ∧ ∀ m, l'.find m = l.find m ∨
      (∃ v, l'.find m = some (some v) ∧
        ((el.val = .label m) ∨ ∃ args e, el.val = .directive (bytesOf "const") args ∧ args.toList = [.ident m, e])) := by
  have key : Quiet st st' ∨ ∃ n w, (Scope.stmt (scopeOf st env) (.const n w 0) = .ok (scopeOf st' env, resOf r) ∨
      Scope.stmt (scopeOf st env) (.label n w 0) = .ok (scopeOf st' env, resOf r)) ∧
      (el.val = .label n ∨ ∃ args e, el.val = .directive (bytesOf "const") args ∧ args.toList = [.ident n, e]) := by
    rcases hk with ⟨n, hv⟩ | ⟨args, hv⟩
    · exact (label_scope hv h).imp id fun ⟨a, hs⟩ => ⟨n, a, .inr hs, .inl hv⟩
    · simp only [statement, hv, directive_const] at h
      exact (constDirective_scope h).imp id fun ⟨n, e, v, ha, hs⟩ => ⟨n, v, .inl hs, .inr ⟨args, e, hv, ha⟩⟩
  rcases key with q | ⟨n, w, hs, hd⟩
  · exact ⟨q.globals, l, q.locals.trans hl, fun _ => .inl rfl⟩
  · obtain ⟨hg, l', hl', hm⟩ := Scope.define_frame (s := scopeOf st env) hl hs
    simp only [find_eq] at hm
    exact ⟨hg, l', hl', fun m => (hm m).imp id fun ⟨e, h2⟩ => by subst e; exact ⟨w, h2, hd⟩⟩

/-- C14.isolation_asm (downwards only by `.import`)  `.import n` changes nothing but the entry `n` of the file's own
table, which becomes the includer's entry for `n` (same value, or still unvalued); the includer's table is literally
untouched. -/
theorem isolation_asm_import {env : Env} {st st' : St} {l : Table} {line col : Nat} {args : List Arg} {r : Res}
    (hl : st.locals = some l) (h : globalDirective .import_ env st line col args = .ok (st', r)) :
    st'.globals = st.globals ∧
    ∃ l', st'.locals = some l' ∧ ∀ m, l'.find m = l.find m ∨ (args = [.ident m] ∧ l'.find m = st.globals.find m) := by
  rcases globalDirective_scope h with q | ⟨n, rfl, hs⟩
  · exact ⟨q.globals, l, q.locals.trans hl, fun _ => .inl rfl⟩
  · obtain ⟨hg, l', hl', hm⟩ := Scope.doImport_frame (s := scopeOf st env) hl hs
    simp only [find_eq] at hm
    exact ⟨hg, l', hl', fun m => (hm m).imp id fun ⟨e, h2⟩ => by subst e; exact ⟨rfl, h2⟩⟩

/-- C14.frame_asm  A complete `.include` statement processed inside a file whose table is `L` (the recursive call is the real
one, at any remaining depth).  The includer's includer's table (`globals`) is literally unchanged.  Either
no file was assembled (arity / operand type / no such file: one diagnostic, `L` unchanged) — or the file at `path`
with text `data`, parsed into the statements `els`, was assembled from the empty table `st2.locals = some []` with `L`
as its `globals`, ended (after its own task loop) in `st4` with its own table `C`, and the includer's table is now

  `L' = L ∪ {names the child itself exports or declares global, with the child's values}`:

every entry of `L'` is the entry of `L`, except at a name `m ∈ fileNames els` (an operand of a `.export`/`.global`
statement of the child's own text) where an absent or unvalued entry of `L` received the child's value `C[m]` — or an
absent entry became "announced" (a `.global` whose value never arrived). -/
theorem frame_asm {fs : Bytes → Option Bytes} {enc : Encoder} {fuel : Nat} {env : Env} {st st' : St} {line col : Nat}
    {args : List Arg} {r : Res} {L : Table} (hL : st.locals = some L)
    (h : includeDirective fs (assembleFile fs enc fuel) env st line col args = .ok (st', r)) :
    st'.globals = st.globals ∧
    ((st'.locals = some L ∧ ∃ k, st' = st.push env line col k) ∨
     ∃ fuel' path data els perr st2 st4 r4 C L', fuel = fuel' + 1 ∧ fs path = some data ∧
       parseFile data = .ok (els, perr) ∧
       st2.locals = some [] ∧ st2.globals = L ∧ st2.localTasks = some [] ∧
       fileBody fs enc (assembleFile fs enc fuel') ⟨path :: env.paths, path⟩ data st2 = .ok (st4, r4) ∧
       st4.locals = some C ∧ st'.locals = some L' ∧ Upd (fileNames els) L L' C) := by
  rcases includeDirective_shape h with ⟨k, rfl, _⟩ | ⟨data, path, st1, r1, hfs, hinc, hst⟩
  · exact ⟨rfl, .inl ⟨hL, k, rfl⟩⟩
  · cases fuel with
    | zero => simp [assembleFile] at hinc
    | succ fuel' =>
      obtain ⟨st2, st4, els, perr, C, h1, h2, h3, h4, h5, _, h7, h8, h9, h10, _⟩ :=
        assembleFile_inside (assembleFile_rel fs enc fuel') hL hinc
      have key : st1.globals = st.globals ∧ ∃ fuel'' path data els perr st2 st4 r4 C L', fuel' + 1 = fuel'' + 1 ∧
          fs path = some data ∧ parseFile data = .ok (els, perr) ∧
          st2.locals = some [] ∧ st2.globals = L ∧ st2.localTasks = some [] ∧
          fileBody fs enc (assembleFile fs enc fuel'') ⟨path :: env.paths, path⟩ data st2 = .ok (st4, r4) ∧
          st4.locals = some C ∧ st1.locals = some L' ∧ Upd (fileNames els) L L' C :=
        ⟨h10, fuel', path, data, els, perr, st2, st4, r1, C, st4.globals, rfl, hfs, h5, h1, h2, h3, h4, h7, h8, h9⟩
      rcases hst with ⟨rfl, _⟩ | ⟨k, rfl, _⟩
      · exact ⟨key.1, .inr key.2⟩
      · exact ⟨key.1, .inr key.2⟩

theorem include_aux {fs : Bytes → Option Bytes} {enc : Encoder} {fuel : Nat} {env : Env} {st st' : St}
    {line col : Nat} {args : List Arg} {r : Res} {L : Table} (hL : st.locals = some L)
    (h : includeDirective fs (assembleFile fs enc fuel) env st line col args = .ok (st', r)) :
    ∃ L', st'.locals = some L' ∧ ∀ m v, L'.find m = some (some v) → L.find m = some (some v) ∨
      SentUp fs enc fuel env L m v := by
  rcases (frame_asm hL h).2 with ⟨hl', _⟩ | ⟨fuel', path, data, els, perr, st2, st4, r4, C, L', hf, hfs, hp, h1, h2, h3, h4, h5, h6, u⟩
  · exact ⟨L, hl', fun m v hv => .inl hv⟩
  · refine ⟨L', h6, fun m v hv => ?_⟩
    rcases u m with e | ⟨hn, _, hc⟩
    · rw [e] at hv; exact .inl hv
    · rcases hc with ⟨v', hc1, hc2⟩ | ⟨_, hc2⟩
      · rw [hc2] at hv; cases hv
        exact .inr ⟨fuel', path, data, els, perr, st2, st4, r4, C, hf, hfs, hp, h1, h2, h3, h4, h5, hn, hc1⟩
      · rw [hc2] at hv; cases hv

theorem elOp_defines {el : Element} {op : Scope.Op} {m : Bytes} {v : Int} (h : elOp el op) (hd : op.defines m v) :
    defines m el := by
  cases op <;> simp only [Scope.Op.defines] at hd
  · obtain ⟨rfl, _⟩ := hd; exact .inl h
  · obtain ⟨rfl, _⟩ := hd; exact .inr h

theorem elOp_imports {el : Element} {op : Scope.Op} {m : Bytes} (h : elOp el op) (hi : op.imports m) : imports m el := by
  cases op <;> simp only [Scope.Op.imports] at hi
  subst hi; exact h

def declaresGlobal (m : Bytes) (el : Element) : Prop :=
  ∃ args, el.val = .directive (bytesOf "global") args ∧ args.toList = [.ident m]

/-- syntactic over-approximations, read off the FIRST operand whatever the operand count (the side conditions of
Props/C06Operand.lean): `el` may leave `m` Valued in the file's table (`m:`, `.const m …`, `.import m …`), resp. (`writesD`)
pending, `Deferred` (`.global m …`, `.import m …`); `touches`: either -/
def writesV (m : Bytes) (el : Element) : Prop :=
  el.val = .label m ∨ ∃ name args rest, el.val = .directive name args ∧ (name = bytesOf "const" ∨ name = bytesOf "import") ∧
    args.toList = .ident m :: rest
def writesD (m : Bytes) (el : Element) : Prop :=
  ∃ name args rest, el.val = .directive name args ∧ (name = bytesOf "global" ∨ name = bytesOf "import") ∧
    args.toList = .ident m :: rest

def touches (n : Bytes) (el : Element) : Prop := writesV n el ∨ writesD n el

/-- What a statement other than `.include` does to the file's own table, entry by entry (`Scope.stmt_local` on the
projection): an entry is as before, or the statement defines it, or imports it (the includer's entry, valued or not), or
`.global` announces it. -/
theorem statement_local {fs : Bytes → Option Bytes} {enc : Encoder} {inc : Inc} {env : Env} {st st' : St} {el : Element}
    {r : Res} {l : Table} (hni : ¬ isInclude el) (hl : st.locals = some l)
    (h : statement fs enc inc env st el = .ok (st', r)) :
    ∃ l', st'.locals = some l' ∧ ∀ m, l'.find m = l.find m ∨ (defines m el ∧ ∃ v, l'.find m = some (some v)) ∨
      (imports m el ∧ l'.find m = st.globals.find m) ∨ (declaresGlobal m el ∧ l.find m = none ∧ l'.find m = some none) := by
  rcases statement_scope h with hi | q | ⟨op, ho, hs, _⟩
  · exact absurd hi hni
  · exact ⟨l, q.locals.trans hl, fun _ => .inl rfl⟩
  · obtain ⟨l', hl', hm⟩ := Scope.stmt_local (s := scopeOf st env) hl hs
    simp only [find_eq] at hm
    exact ⟨l', hl', fun m => (hm m).imp id fun
      | .inl ⟨v, hd, e⟩ => .inl ⟨elOp_defines ho hd, v, e⟩
      | .inr (.inl ⟨hi, e⟩) => .inr (.inl ⟨elOp_imports ho hi, e⟩)
      | .inr (.inr ⟨tag, e, h1, h2⟩) => .inr (.inr ⟨by subst e; exact ho, h1, h2⟩)⟩

/-! ## invariants of a file's own table along statements that are not `.include`

`Pres P st st'`: if the file's own table satisfies `P` before, it does after; by `statement_local` it is enough that `P`
survives the four ways an entry changes (`pres_of_local`).  Two instances:

* `P C := C.find n = none` — a name that no statement defines or declares has no entry (`doAssemble_absent`);
* `P := Table.NoDef` — without `.global` / `.import` statements no entry is pending (`doAssemble_nodef`). -/

def Pres (P : Table → Prop) (a b : St) : Prop := (∀ C, a.locals = some C → P C) → ∀ C, b.locals = some C → P C

theorem Pres.trans {P : Table → Prop} {a b c : St} (h1 : Pres P a b) (h2 : Pres P b c) : Pres P a c := fun hp => h2 (h1 hp)

theorem statement_locals_none {fs : Bytes → Option Bytes} {enc : Encoder} {inc : Inc} {env : Env} {st st' : St}
    {el : Element} {r : Res} (hni : ¬ isInclude el) (hl : st.locals = none)
    (h : statement fs enc inc env st el = .ok (st', r)) : st'.locals = none := by
  rcases statement_scope h with hi | q | ⟨op, _, hs, _⟩
  · exact absurd hi hni
  · exact q.locals.trans hl
  · have := (Scope.eff_stmt hs).locals
    rw [show (scopeOf st env).locals = none from hl] at this
    cases hl' : st'.locals with
    | none => rfl
    | some l' => rw [show (scopeOf st' env).locals = some l' from hl'] at this; exact this.elim

/-- `P` survives a statement if it survives the change of entries that `statement_local` describes -/
theorem pres_of_local {P : Table → Prop} {fs : Bytes → Option Bytes} {enc : Encoder} {inc : Inc} {env : Env} {st st' : St}
    {el : Element} {r : Res} (hni : ¬ isInclude el)
    (hP : ∀ l l' : Table, P l → (∀ m, l'.find m = l.find m ∨ (defines m el ∧ ∃ v, l'.find m = some (some v)) ∨
      (imports m el ∧ l'.find m = st.globals.find m) ∨ (declaresGlobal m el ∧ l.find m = none ∧ l'.find m = some none)) →
      P l')
    (h : statement fs enc inc env st el = .ok (st', r)) : Pres P st st' := by
  intro hp C' hC'
  cases hl : st.locals with
  | none => rw [statement_locals_none hni hl h] at hC'; cases hC'
  | some l =>
    obtain ⟨l', e, hm⟩ := statement_local hni hl h
    cases e.symm.trans hC'
    exact hP l C' (hp l hl) hm

theorem touches_of {n : Bytes} {el : Element} (h : defines n el ∨ imports n el ∨ declaresGlobal n el) : touches n el := by
  rcases h with (hd | ⟨a, x, hv, ha⟩) | ⟨a, hv, ha⟩ | ⟨a, hv, ha⟩
  · exact .inl (.inl hd)
  · exact .inl (.inr ⟨_, a, [x], hv, .inl rfl, ha⟩)
  · exact .inl (.inr ⟨_, a, [], hv, .inr rfl, ha⟩)
  · exact .inr ⟨_, a, [], hv, .inl rfl, ha⟩

theorem statement_absent {fs : Bytes → Option Bytes} {enc : Encoder} {inc : Inc} {env : Env} {st st' : St} {el : Element}
    {r : Res} {n : Bytes} (hni : ¬ isInclude el) (ht : ¬ touches n el)
    (h : statement fs enc inc env st el = .ok (st', r)) : Pres (fun C => C.find n = none) st st' :=
  pres_of_local hni (fun l l' h0 hm => by
    rcases hm n with e | ⟨hd, _⟩ | ⟨hi, _⟩ | ⟨hg, _⟩
    · exact e.trans h0
    · exact absurd (touches_of (.inl hd)) ht
    · exact absurd (touches_of (.inr (.inl hi))) ht
    · exact absurd (touches_of (.inr (.inr hg))) ht) h

theorem statement_nodef {fs : Bytes → Option Bytes} {enc : Encoder} {inc : Inc} {env : Env} {st st' : St} {el : Element}
    {r : Res} (hni : ¬ isInclude el) (hw : ∀ m, ¬ writesD m el)
    (h : statement fs enc inc env st el = .ok (st', r)) : Pres Table.NoDef st st' :=
  pres_of_local hni (fun l l' h0 hm k => by
    rcases hm k with e | ⟨_, v, e⟩ | ⟨⟨a, hv, ha⟩, _⟩ | ⟨⟨a, hv, ha⟩, _⟩
    · rw [e]; exact h0 k
    · rw [e]; simp
    · exact absurd ⟨_, a, [], hv, .inr rfl, ha⟩ (hw k)
    · exact absurd ⟨_, a, [], hv, .inl rfl, ha⟩ (hw k)) h

theorem doAssemble_pres {P : Table → Prop} {fs : Bytes → Option Bytes} {enc : Encoder} {inc : Inc} {env : Env}
    (err : Option ParseErr) (els : List Element) (st : St)
    (hels : ∀ el ∈ els, ∀ st st' r, statement fs enc inc env st el = .ok (st', r) → Pres P st st') (st' : St) (r : Res)
    (h : doAssemble fs enc inc env els err st = .ok (st', r)) : Pres P st st' :=
  let L : Rung Unit :=
    { I := fun _ _ _ => True, R := fun _ _ => Pres P, B := fun _ => False
      refl := fun _ hp => hp, trans := .trans, weaken := id }
  ((L.doAssemble_spec (g := ()) (els₀ := els) (fun el hel _ _ => .of (fun _ hs => ⟨trivial, hels el hel _ _ _ hs⟩) fun _ _ => id)
    (fun _ _ _ _ => ⟨trivial, fun hp => hp⟩) els st (fun _ m => m) trivial).ok h).2

theorem doAssemble_absent {fs : Bytes → Option Bytes} {enc : Encoder} {inc : Inc} {env : Env} (err : Option ParseErr)
    (n : Bytes) (els : List Element) (st : St) (hels : ∀ el ∈ els, ¬ isInclude el ∧ ¬ touches n el)
    (h0 : ∀ C, st.locals = some C → C.find n = none) :
    ∀ st' r, doAssemble fs enc inc env els err st = .ok (st', r) → ∀ C, st'.locals = some C → C.find n = none :=
  fun st' r h => doAssemble_pres err els st
    (fun el hel _ _ _ hs => statement_absent (hels el hel).1 (hels el hel).2 hs) st' r h h0

theorem doAssemble_nodef {fs : Bytes → Option Bytes} {enc : Encoder} {inc : Inc} {env : Env} (err : Option ParseErr)
    (els : List Element) (st : St) (hels : ∀ el ∈ els, ¬ isInclude el ∧ ∀ m, ¬ writesD m el)
    (h0 : ∀ C, st.locals = some C → Table.NoDef C) :
    ∀ st' r, doAssemble fs enc inc env els err st = .ok (st', r) → ∀ C, st'.locals = some C → Table.NoDef C :=
  fun st' r h => doAssemble_pres err els st
    (fun el hel _ _ _ hs => statement_nodef (hels el hel).1 (hels el hel).2 hs) st' r h h0

/-- C14.isolation_asm (one statement)  For a single statement at any position of a file: an entry
valued afterwards was valued before, or the statement defines it, or imports it (the includer has it, with this value), or
is an `.include` whose file sent it up.  `.global`, `.export`, `.du*`, instructions, `.addr/.align/.dhex/.dstr/.dfile`
create no valued entry. -/
theorem isolation_asm_statement {fs : Bytes → Option Bytes} {enc : Encoder} {fuel : Nat} {env : Env} {st st' : St}
    {C C' : Table} {el : Element} {r : Res} (hC : st.locals = some C) (hC' : st'.locals = some C')
    (h : statement fs enc (assembleFile fs enc fuel) env st el = .ok (st', r)) :
    ∀ m v, C'.find m = some (some v) → C.find m = some (some v) ∨ defines m el ∨
      (imports m el ∧ st.globals.find m = some (some v)) ∨ (isInclude el ∧ SentUp fs enc fuel env C m v) := by
  intro m v hv
  by_cases hi : isInclude el
  · obtain ⟨args, ha⟩ := hi
    simp only [statement, ha, directive_include] at h
    obtain ⟨L', hL', hm⟩ := include_aux hC h
    cases hL'.symm.trans hC'
    exact (hm m v hv).imp id fun e => .inr (.inr ⟨⟨args, ha⟩, e⟩)
  · obtain ⟨l', hl', hm⟩ := statement_local hi hC h
    cases hl'.symm.trans hC'
    rcases hm m with e | ⟨hd, _⟩ | ⟨hi, e⟩ | ⟨_, _, e⟩
    · exact .inl (e ▸ hv)
    · exact .inr (.inl hd)
    · exact .inr (.inr (.inl ⟨hi, e ▸ hv⟩))
    · rw [e] at hv; cases hv

/-- where `m = v` in a file's table can come from, over the statements `els` of its own text; `G` = the includer's
table as the file (so far) leaves it -/
def Origin (fs : Bytes → Option Bytes) (enc : Encoder) (fuel : Nat) (env : Env) (els : List Element) (G : Table)
    (m : Bytes) (v : Int) : Prop :=
  (∃ el ∈ els, defines m el) ∨ ((∃ el ∈ els, imports m el) ∧ G.find m = some (some v)) ∨
  (∃ el ∈ els, isInclude el ∧ ∃ L, SentUp fs enc fuel env L m v)

theorem Origin.mono {fs : Bytes → Option Bytes} {enc : Encoder} {fuel : Nat} {env : Env} {els els' : List Element}
    {G G' : Table} {m : Bytes} {v : Int} (h : Origin fs enc fuel env els G m v) (hs : ∀ el ∈ els, el ∈ els')
    (hg : G.le G') : Origin fs enc fuel env els' G' m v := by
  rcases h with ⟨el, he, hd⟩ | ⟨⟨el, he, hi⟩, hv⟩ | ⟨el, he, hi⟩
  · exact .inl ⟨el, hs el he, hd⟩
  · exact .inr (.inl ⟨⟨el, hs el he, hi⟩, hg m v hv⟩)
  · exact .inr (.inr ⟨el, hs el he, hi⟩)

theorem doAssemble_origin {fs : Bytes → Option Bytes} {enc : Encoder} {fuel : Nat} {env : Env} (err : Option ParseErr) :
    ∀ (els : List Element) (st : St) (C : Table), st.locals = some C →
      ∀ st' r C', doAssemble fs enc (assembleFile fs enc fuel) env els err st = .ok (st', r) → st'.locals = some C' →
      ∀ m v, C'.find m = some (some v) → C.find m = some (some v) ∨ Origin fs enc fuel env els st'.globals m v := by
  intro els
  induction els with
  | nil =>
    intro st C hC st' r C' h hC' m v hv
    cases err with
    | none => simp only [doAssemble] at h; cases h; rw [hC] at hC'; cases hC'; exact .inl hv
    | some e => simp only [doAssemble] at h; cases h; rw [show (st.push env e.line e.col _).locals = st.locals from rfl, hC] at hC'; cases hC'; exact .inl hv
  | cons el els ih =>
    intro st C hC st' r C' h hC' m v hv
    simp only [doAssemble] at h
    have one : ∀ {st1 : St} {r1 : Res} {C1 : Table} {G : Table},
        statement fs enc (assembleFile fs enc fuel) env st el = .ok (st1, r1) → st1.locals = some C1 →
        st.globals.le G → C1.find m = some (some v) →
        C.find m = some (some v) ∨ Origin fs enc fuel env (el :: els) G m v := by
      intro st1 r1 C1 G hs hC1 hle hv1
      rcases isolation_asm_statement hC hC1 hs m v hv1 with e | hd | ⟨hi, hg⟩ | ⟨hi, hu⟩
      · exact .inl e
      · exact .inr (.inl ⟨el, List.mem_cons_self, hd⟩)
      · exact .inr (.inr (.inl ⟨⟨el, List.mem_cons_self, hi⟩, hle m v hg⟩))
      · exact .inr (.inr (.inr ⟨el, List.mem_cons_self, hi, C, hu⟩))
    split at h
    · rename_i st1 hs
      have w1 := statement_rel (assembleFile_rel fs enc fuel) hC _ _ hs
      obtain ⟨C1, hC1⟩ := w1.locals_some
      have w2 := doAssemble_rel (assembleFile_rel fs enc fuel) err els st1 C1 hC1 _ _ h
      have le1 : st.globals.le st1.globals := by obtain ⟨_, _, _, _, _, u⟩ := w1.tabs; exact u.le
      have le2 : st1.globals.le st'.globals := by obtain ⟨_, _, _, _, _, u⟩ := w2.tabs; exact u.le
      rcases ih st1 C1 hC1 st' r C' h hC' m v hv with e | ho
      · exact one hs hC1 (Table.le_trans le1 le2) e
      · exact .inr (ho.mono (fun x hx => List.mem_cons_of_mem _ hx) (Table.le_refl _))
    · rename_i st1 l hs
      cases h
      have w1 := statement_rel (assembleFile_rel fs enc fuel) hC _ _ hs
      have le1 : st.globals.le st'.globals := by obtain ⟨_, _, _, _, _, u⟩ := w1.tabs; exact u.le
      exact one hs hC' le1 hv
    · cases h

theorem runTask_locals {enc : Encoder} {env : Env} {st : St} {t : Task} :
    ∀ st' r, runTask enc env st t = .ok (st', r) → st'.locals = st.locals := by
  intro st' r h
  rcases runTask_scope h with q | ⟨n, l, c, rfl, hs⟩
  · exact q.locals
  · exact (Scope.runTask_keeps hs).1

theorem localLoop_locals {enc : Encoder} {env : Env} (n : Nat) (ts : List Task) (st : St) (res : Res) (st' : St) (r : Res)
    (h : localLoop enc env n ts st res = .ok (st', r)) : st'.locals = st.locals :=
  let L : LocalLadder enc Unit :=
    { I := fun _ _ _ => True, R := fun _ _ a b => b.locals = a.locals, B := fun _ => False
      refl := fun _ => rfl, trans := fun h1 h2 => h2.trans h1, weaken := id
      noLoop := id, unwrap := nofun, clear := fun _ => ⟨trivial, rfl⟩
      task := fun _ _ _ _ _ => .of (fun _ h => ⟨trivial, runTask_locals _ _ h⟩) fun _ _ => id }
  ((L.localLoop_spec (g := ()) n ts st res (.of_list _ trivial rfl) trivial).ok h).2.elim fun _ w => w.1


/-- no file of the project has a label `m:` or a `.const m, …` (not `Table.NoDef`: no pending entry in a table) -/
def NoDef (fs : Bytes → Option Bytes) (m : Bytes) : Prop :=
  ∀ path data els perr, fs path = some data → parseFile data = .ok (els, perr) → ∀ el ∈ els, ¬ defines m el

def Unvalued (t : Table) (m : Bytes) : Prop := ∀ w, t.find m ≠ some (some w)

theorem unvalued_of_rel {N : List Bytes} {a b : St} {m : Bytes} (h : Rel N a b)
    (hb : ∀ C', b.locals = some C' → Unvalued C' m) (ha : Unvalued a.globals m) : Unvalued b.globals m := by
  obtain ⟨C, C', _, hC', _, u⟩ := h.tabs
  intro w hw
  rcases u m with e | ⟨_, _, hc⟩
  · rw [e] at hw; exact ha w hw
  · rcases hc with ⟨v, hv, _⟩ | ⟨_, hn⟩
    · exact hb C' hC' v hv
    · rw [hn] at hw; cases hw

/-- what the induction over the include depth provides for the files included from here -/
def ChildOk (fs : Bytes → Option Bytes) (enc : Encoder) (fuel : Nat) (m : Bytes) : Prop :=
  ∀ env data path st st' r, fs path = some data → st.locals = some [] → st.localTasks = some [] →
    Unvalued st.globals m → fileBody fs enc (assembleFile fs enc fuel) env data st = .ok (st', r) →
    (∀ C', st'.locals = some C' → Unvalued C' m) ∧ Unvalued st'.globals m

theorem statement_unvalued {fs : Bytes → Option Bytes} {enc : Encoder} {fuel : Nat} {env : Env} {m : Bytes}
    (ihf : ∀ fuel', fuel = fuel' + 1 → ChildOk fs enc fuel' m) {el : Element} {st st1 : St} {C : Table} {r1 : Res}
    (hnd : ¬ defines m el) (hC : st.locals = some C) (hu : Unvalued C m) (hg : Unvalued st.globals m)
    (hs : statement fs enc (assembleFile fs enc fuel) env st el = .ok (st1, r1)) :
    (∀ C1, st1.locals = some C1 → Unvalued C1 m) ∧ Unvalued st1.globals m := by
  have hloc : ∀ C1, st1.locals = some C1 → Unvalued C1 m := by
    intro C1 hC1 v hv
    rcases isolation_asm_statement hC hC1 hs m v hv with e | hd | ⟨_, hgv⟩ | ⟨_, hup⟩
    · exact hu v e
    · exact hnd hd
    · exact hg v hgv
    · obtain ⟨fuel', path, data, els', perr, st2, st4, r4, C4, hf, hfs, _, h1, h2, h3, h4, h5, _, h7⟩ := hup
      have := ihf fuel' hf ⟨path :: env.paths, path⟩ data path st2 st4 r4 hfs h1 h3 (by rw [h2]; exact hu) h4
      exact this.1 C4 h5 v h7
  exact ⟨hloc, unvalued_of_rel (statement_rel (assembleFile_rel fs enc fuel) hC _ _ hs) hloc hg⟩

theorem doAssemble_unvalued {fs : Bytes → Option Bytes} {enc : Encoder} {fuel : Nat} {env : Env} {m : Bytes}
    (ihf : ∀ fuel', fuel = fuel' + 1 → ChildOk fs enc fuel' m) (err : Option ParseErr)
    (els : List Element) (st : St) (C : Table) (hnd : ∀ el ∈ els, ¬ defines m el) (hC : st.locals = some C)
    (hu : Unvalued C m) (hg : Unvalued st.globals m) (st' : St) (r : Res)
    (h : doAssemble fs enc (assembleFile fs enc fuel) env els err st = .ok (st', r)) :
    (∀ C', st'.locals = some C' → Unvalued C' m) ∧ Unvalued st'.globals m :=
  let L : Rung Unit :=
    { I := fun _ _ st => (∃ C, st.locals = some C) ∧ (∀ C, st.locals = some C → Unvalued C m) ∧ Unvalued st.globals m
      R := fun _ _ _ _ => True, B := fun _ => False
      refl := fun _ => trivial, trans := fun _ _ => trivial, weaken := fun _ => trivial }
  (((L.doAssemble_spec (g := ()) (els₀ := els)
    (fun el hel _ i => .of (fun _ hs => i.1.elim fun C1 hC1 =>
      ⟨⟨(statement_rel (assembleFile_rel fs enc fuel) hC1 _ _ hs).locals_some,
        statement_unvalued ihf (hnd el hel) hC1 (i.2.1 C1 hC1) i.2.2 hs⟩, trivial⟩) fun _ _ => id)
    (fun _ _ _ i => ⟨i, trivial⟩) els st (fun _ x => x)
    ⟨⟨C, hC⟩, fun C' hC' => by cases hC.symm.trans hC'; exact hu, hg⟩).ok h).1).2

/-- a name that no file of the project defines never has a value: not in the table of any file at any include depth, and
not in its includer's table unless the includer brought the value itself -/
theorem nodef_file {fs : Bytes → Option Bytes} {enc : Encoder} {m : Bytes} (hnd : NoDef fs m) :
    ∀ fuel, ChildOk fs enc fuel m := by
  intro fuel
  induction fuel using Nat.strongRecOn with
  | ind fuel ihs =>
    intro env data path st st' r hfs hC hq hg h
    have ihf : ∀ fuel', fuel = fuel' + 1 → ChildOk fs enc fuel' m := fun fuel' e => ihs fuel' (by omega)
    obtain ⟨els, perr, st3, res, hpf, hd, hrest⟩ := fileBody_ok h
    have hu0 : Unvalued ([] : Table) m := fun w hw => by simp [Table.find] at hw
    obtain ⟨hl3, hg3⟩ := doAssemble_unvalued ihf perr els st [] (hnd path data els perr hfs hpf) hC hu0 hg _ _ hd
    have w1 := doAssemble_rel (assembleFile_rel fs enc fuel) perr els st [] hC _ _ hd
    rcases hrest with ⟨_, rfl, _⟩ | ⟨_, tasks, ht, hl⟩
    · exact ⟨hl3, hg3⟩
    · have el := localLoop_locals rounds tasks { st3 with localTasks := some [] } res _ _ hl
      have hl4 : ∀ C', st'.locals = some C' → Unvalued C' m := fun C' hC' => hl3 C' (by rw [← hC']; exact el.symm)
      exact ⟨hl4, unvalued_of_rel (fileLoop_rel hq w1 ht hl) hl4 hg3⟩

end Trion.Asm
