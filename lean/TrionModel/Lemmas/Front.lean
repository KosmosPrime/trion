import TrionModel.Spec.Front
/-! The lookup tables of the front end (association lists without duplicate keys, narrowing conversions, register names),
and what the printer `Show.parts` (Model/Show.lean) prints looked up in them again: a printed register, special register,
register list and mnemonic is read back as what was printed. -/
namespace Trion.Front
open Trion.Show

theorem lookup_some_of_mem {α β} [BEq α] [LawfulBEq α] (t : List (α × β)) (k : α) (v : β)
    (hn : (t.map Prod.fst).Nodup) (hm : (k, v) ∈ t) : t.lookup k = some v := by
  induction t with
  | nil => cases hm
  | cons p t ih =>
    obtain ⟨k', v'⟩ := p
    simp only [List.map_cons, List.nodup_cons] at hn
    rcases List.mem_cons.mp hm with h | h
    · cases h; simp [List.lookup]
    · have hne : (k == k') = false := by
        apply Bool.eq_false_iff.mpr
        intro he
        have := eq_of_beq he
        subst this
        exact hn.1 (List.mem_map.mpr ⟨(k, v), h, rfl⟩)
      simp [List.lookup, hne, ih hn.2 h]

theorem mem_of_lookup_some {α β} [BEq α] [LawfulBEq α] (t : List (α × β)) (k : α) (v : β)
    (h : t.lookup k = some v) : (k, v) ∈ t := by
  induction t with
  | nil => simp [List.lookup] at h
  | cons p t ih =>
    obtain ⟨k', v'⟩ := p
    simp only [List.lookup] at h
    split at h
    · rename_i he
      have := eq_of_beq he
      subst this
      cases h
      exact List.mem_cons_self
    · exact List.mem_cons_of_mem _ (ih h)

theorem narrow_iff {lo hi v w : Int} :
    (if lo ≤ v ∧ v ≤ hi then some v else none) = some w ↔ (lo ≤ v ∧ v ≤ hi ∧ w = v) := by
  split <;> simp_all <;> omega

theorem narrowI32_ok {v : Int} (h : inI32 v) : narrowI32 v = some v := if_pos h
theorem narrowU32_ok {v : Int} (h : 0 ≤ v ∧ v ≤ 4294967295) : narrowU32 v = some v := if_pos h

theorem regl_regName : ∀ r : Reg, regl (regName r) = some r := by decide
theorem sysl_sysName (s : SysReg) : sysl (sysName s) = some s := by cases s <;> decide
theorem isRegister_regName : ∀ r : Reg, isRegister (regName r) = true := by decide
theorem regTable_nodup : (regTable.map Prod.fst).Nodup := by decide
theorem regTable_len : ∀ p ∈ regTable, p.1.length ≤ 4 := by decide

theorem isRegister_of_regl {s : Bytes} {r : Reg} (h : regl s = some r) : isRegister s = true := by
  simp only [regl] at h
  split at h
  · rename_i h4
    have h8 : s.length ≤ 8 := by omega
    simp [isRegister, h, h8]
  · cases h

theorem regset_roundtrip_aux (bits idx : Nat) : ∀ (fuel i : Nat) (acc : RegSet), i + fuel = 16 → acc.val = bits % 2 ^ i →
    regset idx ((regSetList bits fuel i).map rA) acc = .ok (Fin.ofNat 65536 (bits % 65536)) := by
  intro fuel
  induction fuel with
  | zero =>
    intro i acc hi hacc
    have : i = 16 := by omega
    subst this
    simp [regSetList, regset]
    apply Fin.ext
    simp [Fin.ofNat, hacc]
  | succ fuel ih =>
    intro i acc hi hacc
    have hi16 : i < 16 := by omega
    have hstep := Nat.mod_pow_succ (x := bits) (b := 2) (k := i)
    have hpow : 2 ^ i * 2 ≤ 65536 := by
      have : 2 ^ (i + 1) ≤ 2 ^ 16 := Nat.pow_le_pow_right (by decide) (by omega)
      simpa [Nat.pow_succ] using this
    have hlt : bits % 2 ^ i < 2 ^ i := Nat.mod_lt _ (Nat.pow_pos (by decide))
    unfold regSetList
    by_cases hb : bits / 2 ^ i % 2 ≠ 0
    · rw [if_pos hb]
      simp only [List.map_cons, rA, regset, regl_regName]
      apply ih (i + 1) _ (by omega)
      have hb1 : bits / 2 ^ i % 2 = 1 := by omega
      have hv : (Fin.ofNat 16 i).val = i := by simp [Fin.ofNat, Nat.mod_eq_of_lt hi16]
      unfold addBit
      rw [hv, hacc, Nat.div_eq_of_lt hlt]
      simp only [Nat.zero_mod, Nat.zero_ne_one, ↓reduceIte]
      simp only [Fin.ofNat]
      rw [Nat.mod_eq_of_lt (by omega), hstep, hb1]
      omega
    · rw [if_neg hb]
      apply ih (i + 1) acc (by omega)
      have hb0 : bits / 2 ^ i % 2 = 0 := by omega
      rw [hacc, hstep, hb0]; omega

theorem regset_roundtrip (rs : RegSet) (idx : Nat) :
    regset idx ((regSetList rs.val 16 0).map rA) 0 = .ok rs := by
  have := regset_roundtrip_aux rs.val idx 16 0 0 (by omega) (by simp [Nat.mod_one])
  rw [this]
  congr 1
  apply Fin.ext
  simp [Fin.ofNat, Nat.mod_eq_of_lt rs.isLt]

end Trion.Front

namespace Trion.Show
open Trion.Front

theorem mnemonic_b : ∀ c : Cond, mnemonic (bytesOf "B" ++ condName c) = some (.b c 0) := by decide

theorem mnemonic_parts (i : Instr) (a : Nat) : mnemonic (parts i a).1 = some (template i) := by
  cases i
  case b c off => exact mnemonic_b c
  case add f _ _ _ => cases f <;> simp only [parts, template, sfx] <;> decide
  case sub f _ _ _ => cases f <;> simp only [parts, template, sfx] <;> decide
  case mov f _ _ => cases f <;> simp only [parts, template, sfx] <;> decide
  case cps e => cases e <;> simp only [parts, template] <;> decide
  case ldr d ad o =>
    have h : mnemonic (bytesOf "LDR") = some (.ldr 0 0 (.imm 0)) := by decide
    simp only [parts, template]
    split
    · split <;> exact h
    · exact h
  all_goals (simp only [parts, template]; decide)

end Trion.Show
