import TrionModel.Lemmas.CodecOut16
/-! Outcome shapes of the decoder over all bit patterns: the 16-bit half is `decode16_out` in `CodecOut16`; here the
32-bit half, `decode32_out`, and then what needs both, how `decode` proceeds on a byte string (`decode_shape`,
`decode_ok`). -/
namespace Trion.Codec
open Trion

/-! `decode32` is a tree of `if`s; `Shape32` lists its leaves with the conditions on the way to each, obtained by
following the tree (`ite_ind`), and both the outcome shapes needed for C03 and the agreement with the table (C01)
are read off the leaves. -/

/-- the value `decode32` assembles from the fields of a BL pattern -/
def blOff (s i1 i2 a b : Nat) : Int :=
  ((i1 * 8388608 + i2 * 4194304 + a * 4096 + b * 2 : Nat) : Int) - ((s * 16777216 : Nat) : Int)

inductive Shape32 (h0 h1 : Nat) : DecRes → Prop
  | msr (s : SysReg) (c0 : h0 / 2048 % 4 = 2 ∧ h1 / 32768 % 2 = 1)
      (c : h0 / 32 % 64 = 28 ∧ (h1 / 4096 % 2 = 0 ∧ h1 / 16384 % 2 = 0))
      (g : ¬ (h0 / 16 % 2 ≠ 0 ∨ ¬ (h1 / 256 % 16 = 8 ∧ h1 / 8192 % 2 = 0)))
      (gr : ¬ ((Fin.ofNat 16 (h0 % 16) : Reg).val = 13 ∨ (Fin.ofNat 16 (h0 % 16) : Reg).val = 15))
      (hs : SysReg.ofNat? (h1 % 256) = some s) : Shape32 h0 h1 (.ok (4, .msr s (Fin.ofNat 16 (h0 % 16))))
  | mrs (s : SysReg) (c0 : h0 / 2048 % 4 = 2 ∧ h1 / 32768 % 2 = 1)
      (c : h0 / 32 % 64 = 31 ∧ (h1 / 4096 % 2 = 0 ∧ h1 / 16384 % 2 = 0))
      (g : ¬ (h0 % 32 ≠ 15 ∨ h1 / 8192 % 2 ≠ 0))
      (gr : ¬ ((Fin.ofNat 16 (h1 / 256 % 16) : Reg).val = 13 ∨ (Fin.ofNat 16 (h1 / 256 % 16) : Reg).val = 15))
      (hs : SysReg.ofNat? (h1 % 256) = some s) : Shape32 h0 h1 (.ok (4, .mrs (Fin.ofNat 16 (h1 / 256 % 16)) s))
  | barrier (i : Instr) (op : Nat) (c0 : h0 / 2048 % 4 = 2 ∧ h1 / 32768 % 2 = 1)
      (c : h0 / 16 % 128 = 59 ∧ (h1 / 4096 % 2 = 0 ∧ h1 / 16384 % 2 = 0)) (hop : h1 / 16 % 16 = op)
      (hi : op = 4 ∧ i = .dsb ∨ op = 5 ∧ i = .dmb ∨ op = 6 ∧ i = .isb)
      (g : ¬ (h0 % 16 ≠ 15 ∨ ¬ (h1 / 256 % 16 = 15 ∧ h1 / 8192 % 2 = 0))) (g' : ¬ h1 % 16 ≠ 15) :
      Shape32 h0 h1 (.ok (4, i))
  | udfw (c0 : h0 / 2048 % 4 = 2 ∧ h1 / 32768 % 2 = 1) (c : h0 / 16 % 128 = 127 ∧ h1 / 4096 % 8 = 2) :
      Shape32 h0 h1 (.ok (4, .udfw ((h0 % 16 * 4096 + h1 % 4096 : Nat) : Int)))
  | bl (c0 : h0 / 2048 % 4 = 2 ∧ h1 / 32768 % 2 = 1) (c : h1 / 4096 % 2 = 1 ∧ h1 / 16384 % 2 = 1) :
      Shape32 h0 h1 (.ok (4, .bl (blOff (h0 / 1024 % 2) (if h1 / 8192 % 2 = h0 / 1024 % 2 then 1 else 0)
        (if h1 / 2048 % 2 = h0 / 1024 % 2 then 1 else 0) (h0 % 1024) (h1 % 2048))))
  | undefined : Shape32 h0 h1 (.error (.undefined h0 (some h1)))
  | unpredictable : Shape32 h0 h1 (.error (.unpredictable h0 (some h1)))
  | reserved : Shape32 h0 h1 (.error (.reserved h0 (some h1)))

theorem barrier_shape {h0 h1 : Nat} (i : Instr) (op : Nat) (c0 : h0 / 2048 % 4 = 2 ∧ h1 / 32768 % 2 = 1)
    (c : h0 / 16 % 128 = 59 ∧ (h1 / 4096 % 2 = 0 ∧ h1 / 16384 % 2 = 0)) (hop : h1 / 16 % 16 = op)
    (hi : op = 4 ∧ i = .dsb ∨ op = 5 ∧ i = .dmb ∨ op = 6 ∧ i = .isb) : Shape32 h0 h1 (decBarrier h0 h1 i) := by
  rw [decBarrier]
  exact ite_ind (fun _ => .unpredictable) fun g => ite_ind (fun _ => .reserved) fun g' => .barrier i op c0 c hop hi g g'

theorem decode32_shape (h0 h1 : Nat) : Shape32 h0 h1 (decode32 h0 h1) := by
  rw [decode32]
  refine ite_ind (fun c0 => ?_) fun _ => .undefined
  refine ite_ind (fun c => ?_) fun _ => ite_ind (fun c => ?_) fun _ => ite_ind (fun c => ?_) fun _ =>
    ite_ind (fun c => .udfw c0 c) fun _ => ite_ind (fun c => .bl c0 c) fun _ => .undefined
  · refine ite_ind (fun _ => .unpredictable) fun g => ?_
    rw [withReg_lt (Nat.mod_lt _ (by decide))]
    refine ite_ind (fun _ => .unpredictable) fun gr => ?_
    cases hs : SysReg.ofNat? (h1 % 256) with
    | none => exact .unpredictable
    | some s => exact .msr s c0 c g gr hs
  · refine ite_ind (fun _ => .undefined) fun o3 => ?_
    refine ite_ind (fun o => barrier_shape _ 4 c0 c o (.inl ⟨rfl, rfl⟩)) fun o4 => ?_
    refine ite_ind (fun o => barrier_shape _ 5 c0 c o (.inr (.inl ⟨rfl, rfl⟩))) fun o5 => ?_
    refine ite_ind (fun o => barrier_shape _ 6 c0 c o (.inr (.inr ⟨rfl, rfl⟩))) fun o6 => ?_
    exact ite_ind (fun _ => .undefined) fun o7 => absurd ⟨by omega, by omega⟩ o7
  · refine ite_ind (fun _ => .unpredictable) fun g => ?_
    rw [withReg_lt (Nat.mod_lt _ (by decide))]
    refine ite_ind (fun _ => .unpredictable) fun gr => ?_
    cases hs : SysReg.ofNat? (h1 % 256) with
    | none => exact .unpredictable
    | some s => exact .mrs s c0 c g gr hs

theorem blOff_bounds {s i1 i2 a b : Nat} (hs : s ≤ 1) (hi1 : i1 ≤ 1) (hi2 : i2 ≤ 1) (ha : a < 1024) (hb : b < 2048) :
    -16777216 ≤ blOff s i1 i2 a b ∧ blOff s i1 i2 a b < 16777216 ∧ blOff s i1 i2 a b % 2 = 0 := by
  unfold blOff; omega

theorem decode32_out (h0 h1 : Nat) : Out 4 h0 (some h1) (decode32 h0 h1) := by
  have o := decode32_shape h0 h1
  generalize decode32 h0 h1 = r at o
  cases o with
  | msr s c0 c g gr hs => exact .ok _ [_, _] (by rw [encode, if_neg gr]) rfl trivial
  | mrs s c0 c g gr hs => exact .ok _ [_, _] (by rw [encode, if_neg gr]) rfl trivial
  | barrier i op c0 c hop hi g g' =>
    rcases hi with ⟨_, rfl⟩ | ⟨_, rfl⟩ | ⟨_, rfl⟩ <;> exact .ok _ [_, _] rfl rfl trivial
  | udfw c0 c => exact .ok _ [_, _] rfl rfl (show 0 ≤ _ ∧ _ ≤ (65535 : Int) by omega)
  | bl c0 c =>
    have b := blOff_bounds (s := h0 / 1024 % 2) (i1 := if h1 / 8192 % 2 = h0 / 1024 % 2 then 1 else 0)
      (i2 := if h1 / 2048 % 2 = h0 / 1024 % 2 then 1 else 0) (a := h0 % 1024) (b := h1 % 2048)
      (by omega) (by split <;> omega) (by split <;> omega) (by omega) (by omega)
    generalize blOff _ _ _ _ _ = off at b ⊢
    exact .ok _ [_, _] (by rw [encode, if_neg (by omega)]) rfl (show inI32 off from ⟨by omega, by omega⟩)
  | undefined => exact .undefined
  | unpredictable => exact .unpredictable
  | reserved => exact .reserved

/-- `bs[1]` is the high byte of the first halfword; its five leading bits say how many bytes the instruction
has (`need`). -/
theorem decode_shape (bs : List Nat) (hb : IsBytes bs) :
    (bs.length < 2 ∧ decode bs = .error (.underflow 2 bs.length)) ∨
    (2 ≤ bs.length ∧ bs.length < 4 ∧ 29 ≤ bs[1]! / 8 ∧ decode bs = .error (.underflow 4 bs.length)) ∨
    ∃ need h0 h1, need = (if 29 ≤ bs[1]! / 8 then 4 else 2) ∧ need ≤ bs.length ∧ Out need h0 h1 (decode bs) ∧
      ∀ tail, decode (bs.take need ++ tail) = decode bs := by
  match bs, hb with
  | [], _ => exact .inl ⟨by simp, rfl⟩
  | [_], _ => exact .inl ⟨by simp, rfl⟩
  | b0 :: b1 :: rest, hb =>
    have h0 : b0 < 256 := hb b0 (by simp)
    have h1 : b1 < 256 := hb b1 (by simp)
    rw [show (b0 :: b1 :: rest)[1]! = b1 from rfl]
    by_cases t : (b0 + 256 * b1) / 2048 < 29
    · refine .inr (.inr ⟨2, b0 + 256 * b1, none, by rw [if_neg (by omega)], by simp, ?_, fun tail => ?_⟩)
      · rw [decode_narrow rest rfl t]; exact decode16_out _ t
      · exact (decode_narrow tail rfl t).trans (decode_narrow rest rfl t).symm
    · have t29 : 29 ≤ (b0 + 256 * b1) / 2048 := by omega
      have t32 : (b0 + 256 * b1) / 2048 < 32 := by omega
      match rest, hb with
      | [], _ => exact .inr (.inl ⟨by simp, by simp, by omega, decode_short rfl t29 t32 (by simp)⟩)
      | [b2], _ => exact .inr (.inl ⟨by simp, by simp, by omega, decode_short rfl t29 t32 (by simp)⟩)
      | b2 :: b3 :: rest', hb =>
        refine .inr (.inr ⟨4, b0 + 256 * b1, some (b2 + 256 * b3), by rw [if_pos (by omega)], by simp, ?_, fun tail => ?_⟩)
        · rw [decode_wide rest' rfl rfl t29 t32]; exact decode32_out _ _
        · exact (decode_wide tail rfl rfl t29 t32).trans (decode_wide rest' rfl rfl t29 t32).symm

theorem decode_ok (bs : List Nat) (hb : IsBytes bs) (n : Nat) (i : Instr) (h : decode bs = .ok (n, i)) :
    i.wf ∧ ∃ hws, encode i = .ok hws ∧ 2 * hws.length = n ∧ n = (if 29 ≤ bs[1]! / 8 then 4 else 2) ∧
      n ≤ bs.length ∧ ∀ tail, decode (bs.take n ++ tail) = .ok (n, i) := by
  rcases decode_shape bs hb with ⟨_, e⟩ | ⟨_, _, _, e⟩ | ⟨need, _, _, hn, hl, o, hp⟩
  · rw [e] at h; cases h
  · rw [e] at h; cases h
  · rw [h] at o hp
    cases o with
    | ok i hws e l wf => exact ⟨wf, hws, e, l, hn, hl, hp⟩

end Trion.Codec
