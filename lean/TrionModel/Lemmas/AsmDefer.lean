import TrionModel.Lemmas.AsmShow
import TrionModel.Lemmas.AsmNoLoop
import TrionModel.Lemmas.AsmFront
/-!
# The deferred path of `Asm`: placeholder, queued task, end-of-file rewrite

Exact results (in the style of Lemmas/AsmShow.lean) for a statement inside a file whose evaluation is deferred.  An
instruction statement whose `Front.assemble` stops with `Deferred` is placed as 0xBE bytes of the length of the encoding of
the partly filled instruction, recorded in `pending`, and queued as a local task that carries the front-end state (`args`,
`args_done`, the instruction as far as it was filled).  When the task runs over a table in which `Front.assemble`
completes, it rewrites the placeholder with the final bytes: `take ++ bytes ++ drop` on the active buffer when the
statement still lies in the active region, in general exactly the range `[addr, addr + len)` of the image
(`Seg.rewrite_spec`).  `TaskChain`: a queue all of whose tasks complete, which the local task loop runs in one round.
-/
namespace Trion.Asm
open Trion

theorem instr_deferred (fs : Bytes → Option Bytes) (enc : Encoder) (inc : Inc) (env : Env) (st : St) (tbl : Table)
    (q : List Task) (henv : env.paths ≠ []) (hl : st.locals = some tbl) (hq : st.localTasks = some q)
    (l c : Nat) (name : Bytes) (args : Args) (map : Map.Segs) (seg : Seg.Active) (pending : List (Nat × Nat))
    (hs : st.seg = ⟨map, some seg, pending⟩) (t : Instr) (hm : Front.mnemonic name = some t)
    (fs1 : Front.St) (cause : Bytes)
    (ha : Front.assemble ⟨seg.cur, t, 0, args.toList⟩ (frontEval tbl) true = (fs1, .deferred cause))
    (ph : Bytes) (he : enc fs1.instr = .ok ph) (hfit : seg.buf.length + ph.length ≤ seg.maxLen) :
    statement fs enc inc env st ⟨l, c, .instruction name args⟩ =
      .ok ({ st with
              seg := ⟨map, some { seg with buf := seg.buf ++ List.replicate ph.length 0xBE }, (seg.cur, ph.length) :: pending⟩,
              localTasks := some (q ++ [.instr ⟨env.curName, l, c, fs1, true⟩ false]) }, .ok) := by
  have hpaths := paths_nonempty henv
  have hrem : seg.remaining = some (seg.maxLen - seg.buf.length) := by
    simp [Seg.Active.remaining]; omega
  have hle : ph.length ≤ seg.maxLen - seg.buf.length := by omega
  simp only [statement, hs, Option.isNone_some, Bool.false_eq_true, if_false, instruction, currAddr, Option.map_some,
    hm, ArmInstr.assemble, evalTable, hpaths, hl, evalPanics_false, ha, ArmInstr.writeInstr, he, writeStmt,
    Bool.not_false, Option.isSome_some, Bool.and_self, if_true, segStep, Seg.step, Seg.Active.write, hrem,
    List.length_replicate, hle, ArmInstr.schedule, addTask, hq]

theorem rewrite_active (s : Seg.State) (seg : Seg.Active) (addr : Nat) (d : Bytes) (ha : s.active = some seg)
    (hf : Map.find s.map addr .exact = .ok none) (hb : seg.base ≤ addr) (hd : 0 < d.length)
    (he : addr + d.length ≤ seg.base + seg.buf.length) (h32 : seg.base + seg.buf.length ≤ 4294967296) :
    Seg.rewrite s addr d =
      ({ s with active := some { seg with buf := seg.buf.take (addr - seg.base) ++ d ++ seg.buf.drop (addr - seg.base + d.length) } }, .ok) := by
  have hc : addr ≤ seg.cur := by unfold Seg.Active.cur Map.u32Max; omega
  have hcond : (none : Option (Nat × Nat)).isNone = true ∧ addr ≥ seg.base ∧ addr ≤ seg.cur := ⟨rfl, hb, hc⟩
  have hw : seg.writeAt addr d =
      ({ seg with buf := seg.buf.take (addr - seg.base) ++ d ++ seg.buf.drop (addr - seg.base + d.length) }, .ok) := by
    unfold Seg.Active.writeAt
    rw [if_neg (fun h => h ⟨hb, hc⟩)]
    dsimp only
    rw [if_neg (by omega), if_neg (by omega), if_pos (by omega)]
  exact Seg.rewrite_writeAt hf ha hcond hw

theorem instr_task_active (enc : Encoder) (env : Env) (st : St) (tbl : Table) (henv : env.paths ≠ [])
    (hl : st.locals = some tbl) (file : Bytes) (l c : Nat) (fs1 fs2 : Front.St) (g : Bool)
    (map : Map.Segs) (seg : Seg.Active) (pending : List (Nat × Nat)) (hs : st.seg = ⟨map, some seg, pending⟩)
    (ha : Front.assemble fs1 (frontEval tbl) false = (fs2, .completed))
    (bytes : Bytes) (he : enc fs2.instr = .ok bytes)
    (hf : Map.find map fs1.addr .exact = .ok none) (hb : seg.base ≤ fs1.addr) (hd : 0 < bytes.length)
    (hin : fs1.addr + bytes.length ≤ seg.base + seg.buf.length) (h32 : seg.base + seg.buf.length ≤ 4294967296) :
    runTask enc env st (.instr ⟨file, l, c, fs1, true⟩ g) =
      .ok ({ st with seg := ⟨map, some { seg with buf := seg.buf.take (fs1.addr - seg.base) ++ bytes ++ seg.buf.drop (fs1.addr - seg.base + bytes.length) }, pending⟩ }, .ok) := by
  have hpaths := paths_nonempty henv
  have hadr : fs2.addr = fs1.addr := by
    have := (Front.assemble_keeps fs1 (frontEval tbl) false).1
    rw [ha] at this; exact this
  have hrw := rewrite_active ⟨map, some seg, pending⟩ seg fs1.addr bytes rfl hf hb hd hin h32
  simp only [runTask, runInstrTask, ArmInstr.assemble, evalTable, hpaths, hl, evalPanics_false, ha,
    Bool.false_eq_true, if_false, ArmInstr.writeInstr, he, writeStmt, Bool.not_true, Bool.false_and, hs, hadr,
    segStep, Seg.step, hrw]

theorem task_rewrites_range (enc : Encoder) (env : Env) (st : St) (tbl : Table) (henv : env.paths ≠ [])
    (hl : st.locals = some tbl) (file : Bytes) (l c : Nat) (fs1 fs2 : Front.St) (g : Bool) (inv : Seg.Inv st.seg)
    (ha : Front.assemble fs1 (frontEval tbl) false = (fs2, .completed))
    (bytes : Bytes) (he : enc fs2.instr = .ok bytes) (hp : (fs1.addr, bytes.length) ∈ st.seg.pending) :
    ∃ s', runTask enc env st (.instr ⟨file, l, c, fs1, true⟩ g) = .ok ({ st with seg := s' }, .ok) ∧ Seg.Inv s' ∧
      s'.pending = st.seg.pending ∧
      (∀ k, ¬ (fs1.addr ≤ k ∧ k < fs1.addr + bytes.length) → Seg.image s' k = Seg.image st.seg k) ∧
      (∀ j, j < bytes.length → Seg.image s' (fs1.addr + j) = bytes[j]?) := by
  have hpaths := paths_nonempty henv
  have hadr : fs2.addr = fs1.addr := by
    have := (Front.assemble_keeps fs1 (frontEval tbl) false).1
    rw [ha] at this; exact this
  obtain ⟨r1, r2, r3, r4, r5⟩ := Seg.rewrite_spec inv fs1.addr bytes hp
  refine ⟨(Seg.rewrite st.seg fs1.addr bytes).1, ?_, r2, r5, r3, r4⟩
  cases hr : Seg.rewrite st.seg fs1.addr bytes with
  | mk s' o =>
    rw [hr] at r1
    simp only at r1
    subst r1
    simp only [runTask, runInstrTask, ArmInstr.assemble, evalTable, hpaths, hl, evalPanics_false, ha,
      Bool.false_eq_true, if_false, ArmInstr.writeInstr, he, writeStmt, Bool.not_true, Bool.false_and, hadr,
      segStep, Seg.step, hr]

inductive TaskChain (enc : Encoder) (env : Env) : List Task → St → St → Prop
  | nil (st : St) : TaskChain enc env [] st st
  | cons {t : Task} {ts : List Task} {st st1 st2 : St} :
      runTask enc env st t = .ok (st1, .ok) → TaskChain enc env ts st1 st2 → TaskChain enc env (t :: ts) st st2

theorem localRound_chain {enc : Encoder} {env : Env} {ts : List Task} {st st' : St} (h : TaskChain enc env ts st st')
    (res : Res) : localRound enc env ts st res = .ok (st', res) := by
  induction h with
  | nil st => rfl
  | cons h1 _ ih => simp only [localRound, h1]; exact ih

theorem localLoop_chain {enc : Encoder} {env : Env} {ts : List Task} {st st' : St} (h : TaskChain enc env ts st st')
    (hl : st.localTasks = some []) (n : Nat) : localLoop enc env (n + 2) ts st .ok = .ok (st', .ok) := by
  rw [localLoop_one_round n ts st .ok hl]
  cases h with
  | nil => rfl
  | cons h1 h2 => exact localRound_chain (.cons h1 h2) .ok

theorem run_of_statements_tasks (fs : Bytes → Option Bytes) (main data : Bytes) (hfs : fs main = some data)
    (els : List Element) (hp : parseFile data = .ok (els, none))
    (tbl : Table) (seg0 seg : Seg.Active) (pending0 pending : List (Nat × Nat)) (q : List Task)
    (hd : doAssemble fs encoder (assembleFile fs encoder (maxDepth - 1)) ⟨[main], main⟩ els none
        ⟨Seg.init, [], some [], [], some [], []⟩ =
      .ok (⟨⟨[], some seg0, pending0⟩, [], some tbl, [], some q, []⟩, .ok))
    (hc : TaskChain encoder ⟨[main], main⟩ q ⟨⟨[], some seg0, pending0⟩, [], some tbl, [], some [], []⟩
      ⟨⟨[], some seg, pending⟩, [], some tbl, [], some [], []⟩)
    (hne : seg.buf ≠ []) (hfit : seg.base + seg.buf.length ≤ 4294967296) :
    run fs main = .done ⟨true, none, true, [], [(seg.base, seg.buf)]⟩ := by
  have hput : Map.put [] seg.base seg.buf = (.ok seg.buf.length, [(seg.base, seg.buf)]) := by
    have h1 : seg.buf.isEmpty = false := by cases h : seg.buf with | nil => exact absurd h hne | cons => rfl
    have h2 : ¬ (seg.buf.length - 1 > Map.u32Max - seg.base) := by simp [Map.u32Max]; omega
    simp [Map.put, h1, h2, Map.putGo]
  have hloop := localLoop_chain hc rfl 6  -- `rounds` = 6 + 2
  have hA : assembleFile fs encoder maxDepth Env.init St.init data main =
      .ok (⟨⟨[], some seg, pending⟩, [], none, [], none, []⟩, .ok) := by
    rw [assembleFile_main_eq, fileBody_of_parse _ _ _ _ _ _ _ _ hp, hd]
    simp [bodyLoop, fileLoop, rounds, hloop, leaveFile]
  unfold run runWith
  simp only [hfs, hA]
  simp [Seg.closeSegment, hput, finalize_nil, St.hasErrored]

theorem run_of_statements (fs : Bytes → Option Bytes) (main data : Bytes) (hfs : fs main = some data)
    (els : List Element) (hp : parseFile data = .ok (els, none))
    (tbl : Table) (seg : Seg.Active) (pending : List (Nat × Nat))
    (hd : doAssemble fs encoder (assembleFile fs encoder (maxDepth - 1)) ⟨[main], main⟩ els none
        ⟨Seg.init, [], some [], [], some [], []⟩ =
      .ok (⟨⟨[], some seg, pending⟩, [], some tbl, [], some [], []⟩, .ok))
    (hne : seg.buf ≠ []) (hfit : seg.base + seg.buf.length ≤ 4294967296) :
    run fs main = .done ⟨true, none, true, [], [(seg.base, seg.buf)]⟩ :=
  run_of_statements_tasks fs main data hfs els hp tbl seg seg pending pending [] hd (.nil _) hne hfit

end Trion.Asm
