import TrionModel.Lemmas.ShowText
import TrionModel.Lemmas.C04Asm
import TrionModel.Lemmas.FrontRetry
/-!
# `Front.build (Show.parts i a) = i` — the proof behind C19 `show_assembles`

One lemma per getter of `convert!` says what it yields on the operand `Show.parts` prints for it. `parts_means`: the
getters of the mnemonic's arm are all passed on the printed operands (a `Front.run` with `stop = none`, built by
`run_cons`/`run_nil`), with values that `C04.meaning` reads as `i`; the front end then completes with `i`
(`assemble_eq_run`, `C04.Row.printable`). The retry of a deferred
statement is the fresh run over the later table (`Front.assemble_retry`).
-/
namespace Trion.Show
open Trion.Front

theorem wrapAdd_cast (a : Nat) (off : Int) : ((wrapAdd a off : Nat) : Int) = ((a : Int) + off) % 4294967296 :=
  Int.toNat_of_nonneg (Int.emod_nonneg _ (by decide))

theorem wrapAdd_lt (a : Nat) (off : Int) : ((wrapAdd a off : Nat) : Int) < 4294967296 := by
  rw [wrapAdd_cast]; omega
theorem wrapAdd_eq (a : Nat) (off : Int) (h0 : 0 ≤ (a : Int) + off) (h1 : (a : Int) + off < 4294967296) :
    ((wrapAdd a off : Nat) : Int) = a + off := by
  rw [wrapAdd_cast]; omega

theorem wrapAdd_alPc (a : Nat) (off : Int) (h0 : 0 ≤ (Front.alPc a : Int) + off) (h1 : (Front.alPc a : Int) + off < 4294967296) :
    ((wrapAdd (Show.alPc a) off : Nat) : Int) = (Front.alPc a : Int) + off := by
  rw [wrapAdd_cast]; unfold Show.alPc; unfold Front.alPc at h0 h1 ⊢; omega
theorem wrapAdd_pcOf (a : Nat) (off : Int) (h0 : 0 ≤ (Front.pcOf a : Int) + off) (h1 : (Front.pcOf a : Int) + off < 4294967296) :
    ((wrapAdd (Show.pcOf a) off : Nat) : Int) = (Front.pcOf a : Int) + off := by
  rw [wrapAdd_cast]; unfold Show.pcOf; unfold Front.pcOf at h0 h1 ⊢; omega

/-- the label printed for an ADR / literal LDR is an address, and the offset the front end recomputes from it is `off` -/
theorem target_al (a : Nat) (off : Int) (h0 : 0 ≤ off) (ht : (Front.alPc a : Int) + off < 4294967296) :
    C04.isAddress (wrapAdd (Show.alPc a) off : Nat) ∧ ((wrapAdd (Show.alPc a) off : Nat) : Int) - C04.pcAligned a = off := by
  have := wrapAdd_alPc a off (by omega) ht
  rw [C04.pcAligned_eq]
  exact ⟨⟨by omega, by omega⟩, by omega⟩

theorem target_pc (a : Nat) (off : Int) (h0 : 0 ≤ (Front.pcOf a : Int) + off) (ht : (Front.pcOf a : Int) + off < 4294967296) :
    C04.isAddress (wrapAdd (Show.pcOf a) off : Nat) ∧ ((wrapAdd (Show.pcOf a) off : Nat) : Int) - C04.pc a = off := by
  have := wrapAdd_pcOf a off h0 ht
  rw [C04.pc_eq]
  exact ⟨⟨by omega, by omega⟩, by omega⟩

theorem narrowU32_wrapAdd (a : Nat) (off : Int) :
    narrowU32 ((wrapAdd a off : Nat) : Int) = some ((wrapAdd a off : Nat) : Int) := by
  have := wrapAdd_lt a off
  simp [narrowU32]; omega

section getters
variable {eval : Arg → EvalOut} {loc : Bool} {pos done : Nat}

theorem get_reg (r : Reg) : get .register eval loc pos done (rA r) = .ok (.reg r) (rA r) done := by
  simp only [Front.get, rA, regl_regName]
theorem get_sys (s : SysReg) :
    get .systemReg eval loc pos done (.ident (sysName s)) = .ok (.sys s) (.ident (sysName s)) done := by
  simp only [Front.get, sysl_sysName]
theorem get_regSet (rs : RegSet) : get .regSet eval loc pos done (rsA rs) = .ok (.regSet rs) (rsA rs) done := by
  simp only [Front.get, rsA, toList_ofList, regset_roundtrip]
theorem get_ident (s : Bytes) : get .identifier eval loc pos done (.ident s) = .ok (.ident s) (.ident s) done := rfl

/-- no arm has two evaluating getters, so `args_done` is still 0 when one runs -/
theorem evalArg_complete {x y : Arg} (h : eval x = .complete y) : evalArg eval loc pos 0 x = .ok (y, pos + 1) := by
  simp only [evalArg, Nat.zero_le, if_true, h]

theorem get_imm {i : Instr} {a : Nat} (he : EvalOK eval i a) {v : Int} (hv : inI32 v) :
    get .immediate eval loc pos 0 (.const v) = .ok (.imm v) (.const v) (pos + 1) := by
  simp only [Front.get, evalArg_complete (he.const v), narrowI32_ok hv]

theorem get_immReg {i : Instr} {a : Nat} (he : EvalOK eval i a) {x : ImmReg} (hx : x.wf) :
    get .immReg eval loc pos 0 (irA x) = .ok (.immReg x) (irA x) (pos + 1) := by
  cases x with
  | imm v => simp only [Front.get, irA, evalArg_complete (he.const v), narrowI32_ok hx]
  | reg r => simp only [Front.get, irA, rA, evalArg_complete (he.reg r), regl_regName]

/-- the `Offset` getter, alone or as the first alternative of `AddrOffset` -/
theorem get_off {k : Kind} (hk : k = .offset ∨ k = .addrOffset) {x : Arg} {v : Int}
    (hx : eval x = .complete (.const v)) (hv : narrowU32 v = some v) :
    get k eval loc pos 0 x = .ok (.off v) (.const v) (pos + 1) := by
  rw [get_target hk hx, if_pos ⟨(narrow_iff.1 hv).1, (narrow_iff.1 hv).2.1⟩]

theorem get_off_unknown {k : Kind} (hk : k = .offset ∨ k = .addrOffset) {x : Arg} {n : Bytes}
    (hx : eval x = .noSuchVariable n x) : get k eval true pos 0 x = .stop x 0 (.deferred n) := by
  rcases hk with rfl | rfl <;> simp only [Front.get, evalArg, Nat.zero_le, if_true, hx]

theorem addrOff_mem (idx : Nat) (ad : Reg) {o : ImmReg} (ho : o.wf) :
    addrOff idx (.bin .add (rA ad) (irA o)) = .ok (ad, some o) := by
  cases o with
  | imm v => simp only [addrOff, rA, irA, regl_regName, narrowI32_ok ho]
  | reg r => simp only [addrOff, rA, irA, regl_regName]

/-- the `Address` getter, alone or as the second alternative of `AddrOffset` -/
theorem get_addr {k : Kind} (hk : k = .address ∨ k = .addrOffset) {i : Instr} {a : Nat} (he : EvalOK eval i a)
    {ad : Reg} {o : ImmReg} (hm : memOf i = some (ad, o)) (ho : o.wf) :
    ∃ x, get k eval loc pos 0 (memA ad (irA o)) = .ok (.address ad (some o)) (.addr x) (pos + 1) := by
  obtain ⟨x, hx, hax⟩ := he.mem ad o hm
  exact ⟨x, by rcases hk with rfl | rfl <;> simp only [Front.get, evalArg_complete hx, hax, addrOff_mem _ ad ho]⟩
end getters

/-! ## the printed operands are got as values that mean `i`

One row per mnemonic: which getter lemma reads which printed operand; that the values mean `i` is `rfl` except for
the PC-relative rows, where it is `target_al` / `target_pc`, and the option rows (`CPS`, `DMB/DSB/ISB`), an `if_pos`. -/

section rows
variable {a : Nat} {eval : Arg → EvalOut} {loc : Bool}
open C04

omit eval loc in
theorem parts_arity (i : Instr) (a : Nat) : (parts i a).2.length = (kinds (template i)).length := by
  cases i
  case ldr d ad o => cases o <;> simp only [parts] <;> (try split) <;> rfl
  case add f _ _ _ | sub f _ _ _ => cases f <;> rfl
  all_goals rfl

theorem parts_means (i : Instr) (hp : Printable i a) (he : EvalOK eval i a) :
    ∃ vals as' d, run eval loc (kinds (template i)) 0 (parts i a).2 0 = ⟨vals, as', d, none⟩ ∧
      meaning a (template i) vals = some i := by
  cases i
  case add f _ _ _ | sub f _ _ _ =>
    cases f <;> exact ⟨_, _, _, run_cons (get_reg _) (run_cons (get_reg _) (run_cons (get_immReg he hp) (run_nil ..))), rfl⟩
  case asr | lsl | lsr => exact ⟨_, _, _, run_cons (get_reg _) (run_cons (get_reg _) (run_cons (get_immReg he hp) (run_nil ..))), rfl⟩
  case cmp | mov => exact ⟨_, _, _, run_cons (get_reg _) (run_cons (get_immReg he hp) (run_nil ..)), rfl⟩
  case ldrb | ldrh | str | strb | strh =>
    obtain ⟨x, hx⟩ := get_addr (loc := loc) (pos := 1) (.inl rfl) he rfl hp
    exact ⟨_, _, _, run_cons (get_reg _) (run_cons hx (run_nil ..)), rfl⟩
  case ldrsb d ad o | ldrsh d ad o =>
    obtain ⟨x, hx⟩ := get_addr (loc := loc) (pos := 1) (o := .reg o) (.inl rfl) he rfl trivial
    exact ⟨_, _, _, run_cons (get_reg _) (run_cons hx (run_nil ..)), rfl⟩
  case rsb => exact ⟨_, _, _, run_cons (get_reg _) (run_cons (get_reg _) (run_cons (get_imm he (by decide : inI32 0)) (run_nil ..))), rfl⟩
  case svc v | udf v | udfw v =>
    have hv : inI32 v := by obtain ⟨h0, h1⟩ := hp; exact ⟨by omega, by omega⟩
    exact ⟨_, _, _, run_cons (get_imm he hv) (run_nil ..), rfl⟩
  case bkpt v =>
    have hn : narrowU32 v = some v := narrowU32_ok (by obtain ⟨h0, h1⟩ := hp; exact ⟨h0, by omega⟩)
    exact ⟨_, _, _, run_cons (get_off (.inl rfl) (he.const v) hn) (run_nil ..), rfl⟩
  case cps e =>
    exact ⟨_, _, _, run_cons (get_ident _) (run_nil ..),
      show (if upper (bytesOf "i") = bytesOf "I" then some (Instr.cps e) else none) = _ from if_pos (by decide)⟩
  case dmb | dsb | isb =>
    exact ⟨_, _, _, run_cons (get_ident _) (run_nil ..), show (if isSY (bytesOf "SY") then some _ else none) = _ from if_pos (by decide)⟩
  case adr d off =>
    obtain ⟨h0, _, _, ht⟩ := hp
    obtain ⟨t1, t2⟩ := target_al a off h0 ht
    have hg := get_off (loc := loc) (pos := 1) (.inl rfl) (he.label _ rfl) (narrowU32_wrapAdd _ off)
    exact ⟨_, _, _, run_cons (get_reg _) (run_cons hg (run_nil ..)), (if_pos t1).trans (congrArg (fun o => some (Instr.adr d o)) t2)⟩
  case b c off =>
    obtain ⟨_, _, _, h0, ht⟩ := hp
    obtain ⟨t1, t2⟩ := target_pc a off h0 ht
    have hg := get_off (loc := loc) (pos := 0) (.inl rfl) (he.label _ rfl) (narrowU32_wrapAdd _ off)
    exact ⟨_, _, _, run_cons hg (run_nil ..), (if_pos t1).trans (congrArg (fun o => some (Instr.b c o)) t2)⟩
  case bl off =>
    obtain ⟨_, _, _, h0, ht⟩ := hp
    obtain ⟨t1, t2⟩ := target_pc a off h0 ht
    have hg := get_off (loc := loc) (pos := 0) (.inl rfl) (he.label _ rfl) (narrowU32_wrapAdd _ off)
    exact ⟨_, _, _, run_cons hg (run_nil ..), (if_pos t1).trans (congrArg (fun o => some (Instr.bl o)) t2)⟩
  case ldr d ad o =>
    by_cases h15 : ad.val = 15 ∧ ∃ off, o = .imm off
    · obtain ⟨h15, off, rfl⟩ := h15
      simp only [Printable, h15, if_true] at hp
      obtain ⟨h0, _, _, ht⟩ := hp
      obtain ⟨t1, t2⟩ := target_al a off h0 ht
      have hl := he.label (wrapAdd (alPc a) off) (by simp only [targetOf, h15, if_true])
      have hpc : Reg.pc = ad := (Fin.ext h15).symm
      have hparts : parts (.ldr d ad (.imm off)) a = (bytesOf "LDR", [rA d, lblA (wrapAdd (alPc a) off)]) := by
        simp only [parts, h15, if_true]
      rw [hparts, ← hpc]
      exact ⟨_, _, _, run_cons (get_reg _) (run_cons (get_off (.inr rfl) hl (narrowU32_wrapAdd _ off)) (run_nil ..)),
        (if_pos t1).trans (congrArg (fun o => some (Instr.ldr d Reg.pc (.imm o))) t2)⟩
    · have hm : memOf (.ldr d ad o) = some (ad, o) := by
        cases o with
        | reg r => rfl
        | imm off => simp only [memOf, if_neg (fun h => h15 ⟨h, off, rfl⟩)]
      have ho : o.wf := by
        cases o with
        | reg r => trivial
        | imm off => simp only [Printable, if_neg (fun h => h15 ⟨h, off, rfl⟩)] at hp; exact hp
      have hparts : parts (.ldr d ad o) a = (bytesOf "LDR", [rA d, memA ad (irA o)]) := by
        cases o with
        | reg r => rfl
        | imm off => simp only [parts, if_neg (fun h => h15 ⟨h, off, rfl⟩)]
      obtain ⟨x, hx⟩ := get_addr (loc := loc) (pos := 1) (.inr rfl) he hm ho
      rw [hparts]
      exact ⟨_, _, _, run_cons (get_reg _) (run_cons hx (run_nil ..)), rfl⟩
  case mrs => exact ⟨_, _, _, run_cons (get_reg _) (run_cons (get_sys _) (run_nil ..)), rfl⟩
  case msr => exact ⟨_, _, _, run_cons (get_sys _) (run_cons (get_reg _) (run_nil ..)), rfl⟩
  case ldm | stm => exact ⟨_, _, _, run_cons (get_reg _) (run_cons (get_regSet _) (run_nil ..)), rfl⟩
  case pop | push => exact ⟨_, _, _, run_cons (get_regSet _) (run_nil ..), rfl⟩
  case blx | bx => exact ⟨_, _, _, run_cons (get_reg _) (run_nil ..), rfl⟩
  case nop | sev | wfe | wfi | yield => exact ⟨_, _, _, run_nil .., rfl⟩
  all_goals exact ⟨_, _, _, run_cons (get_reg _) (run_cons (get_reg _) (run_nil ..)), rfl⟩

theorem assemble_printed (i : Instr) (hp : Printable i a) (he : EvalOK eval i a) :
    ∃ fs, assemble ⟨a, template i, 0, (parts i a).2⟩ eval loc = (fs, .completed) ∧ fs.instr = i := by
  obtain ⟨vals, as', d, hr, hm⟩ := parts_means (loc := loc) i hp he
  have hfit := (run_shape eval loc (kinds (template i)) 0 (parts i a).2 0).2.1
  have hlen := run_pass_length (e := eval) (l := loc) (ks := kinds (template i)) (pos := 0) (rest := (parts i a).2) (done := 0)
    (by rw [hr])
  rw [hr, kinds_sig] at hfit hlen
  exact ⟨_, by rw [assemble_eq_run (st := ⟨a, template i, 0, (parts i a).2⟩) (parts_arity i a), hr]
               exact assembleRun_of_finish rfl ((row a _ _ vals hfit hlen).printable hm hp), rfl⟩
end rows

theorem show_assembles_proof (i : Instr) (a : Nat) (eval : Arg → EvalOut) (loc : Bool)
    (hp : Printable i a) (he : EvalOK eval i a) :
    build a (parts i a).1 (parts i a).2 eval loc = .completed i :=
  (build_completed_assemble (mnemonic_parts i a)).2 (assemble_printed i hp he)

/-! ## the printed PC-relative statements when their label is not yet defined: first pass and retry -/

theorem targetOf_cases {i : Instr} {a t : Nat} (h : targetOf i a = some t) :
    (∃ d off, i = .adr d off ∧ t = wrapAdd (alPc a) off) ∨ (∃ c off, i = .b c off ∧ t = wrapAdd (pcOf a) off) ∨
    (∃ off, i = .bl off ∧ t = wrapAdd (pcOf a) off) ∨
    (∃ d ad off, i = .ldr d ad (.imm off) ∧ ad.val = 15 ∧ t = wrapAdd (alPc a) off) := by
  cases i <;> simp only [targetOf] at h <;> try cases h
  case adr d off => exact .inl ⟨d, off, rfl, rfl⟩
  case b c off => exact .inr (.inl ⟨c, off, rfl, rfl⟩)
  case bl off => exact .inr (.inr (.inl ⟨off, rfl, rfl⟩))
  case ldr d ad o =>
    cases o with
    | reg r => cases h
    | imm off =>
      simp only at h
      split at h
      · cases h; exact .inr (.inr (.inr ⟨d, ad, off, rfl, ‹_›, rfl⟩))
      · cases h

theorem targetOf_lt (i : Instr) (a t : Nat) (h : targetOf i a = some t) : t < 4294967296 := by
  have : ∃ b off, t = wrapAdd b off := by
    rcases targetOf_cases h with ⟨_, _, _, e⟩ | ⟨_, _, _, e⟩ | ⟨_, _, e⟩ | ⟨_, _, _, _, _, e⟩ <;> exact ⟨_, _, e⟩
  obtain ⟨b, off, rfl⟩ := this
  have := wrapAdd_lt b off
  omega

/-- the instruction as far as the first pass fills it in -/
def preInstr : Instr → Instr
  | .adr d _ => .adr d 0
  | .ldr d _ _ => .ldr d 0 (.imm 0)
  | i => template i

/-- the front-end state a deferred printed statement is queued with -/
def deferSt (i : Instr) (a : Nat) : Front.St := ⟨a, preInstr i, 0, (parts i a).2⟩

/-- C19 (props/C19.json)  `ArmInstr::assemble` on the printed `ADR / B<cond> / BL / LDR Rd, <label>` over an evaluator that
does not know the label stops with `Deferred{cause: label}` and leaves `deferSt i a` (the destination register, if any,
already stored) -/
theorem show_defers (i : Instr) (a t : Nat) (ht : targetOf i a = some t) (eval : Arg → EvalOut)
    (hn : eval (.ident (label t)) = .noSuchVariable (label t) (.ident (label t))) :
    assemble ⟨a, template i, 0, (parts i a).2⟩ eval true = (deferSt i a, .deferred (label t)) := by
  rcases targetOf_cases ht with ⟨d, off, rfl, rfl⟩ | ⟨c, off, rfl, rfl⟩ | ⟨off, rfl, rfl⟩ | ⟨d, ad, off, rfl, h15, rfl⟩
  · simp only [parts, lblA, template, assemble, kinds, conv, get_reg, get_off_unknown (.inl rfl) hn, setOp, deferSt, preInstr,
      List.length_cons, List.length_nil, Nat.zero_add, Nat.reduceAdd, gt_iff_lt, Nat.lt_irrefl, if_false,
      List.reverse_cons, List.reverse_nil, List.nil_append, List.cons_append]
  · simp only [parts, lblA, template, assemble, kinds, conv, get_off_unknown (.inl rfl) hn, deferSt, preInstr,
      List.length_cons, List.length_nil, Nat.zero_add, gt_iff_lt, Nat.lt_irrefl, if_false, List.reverse_nil, List.nil_append]
  · simp only [parts, lblA, template, assemble, kinds, conv, get_off_unknown (.inl rfl) hn, deferSt, preInstr,
      List.length_cons, List.length_nil, Nat.zero_add, gt_iff_lt, Nat.lt_irrefl, if_false, List.reverse_nil, List.nil_append]
  · simp only [parts, lblA, h15, if_true, template, assemble, kinds, conv, get_reg, get_off_unknown (.inr rfl) hn, setOp,
      deferSt, preInstr, List.length_cons, List.length_nil, Nat.zero_add, Nat.reduceAdd, gt_iff_lt, Nat.lt_irrefl, if_false,
      List.reverse_cons, List.reverse_nil, List.nil_append, List.cons_append]

/-- `eval` while the name `n` is not yet defined -/
def hide (n : Bytes) (eval : Arg → EvalOut) : Arg → EvalOut
  | .ident s => if s = n then .noSuchVariable n (.ident s) else eval (.ident s)
  | x => eval x

theorem grows_hide {n : Bytes} {eval : Arg → EvalOut} {x : Arg} (h : x = .ident n ∨ ∃ y, eval x = .complete y) :
    Grows (hide n eval) eval x := by
  by_cases hx : x = .ident n
  · subst hx
    have e : hide n eval (.ident n) = .noSuchVariable n (.ident n) := if_pos rfl
    exact ⟨fun _ h => (by rw [e] at h; cases h), fun _ _ h => (by rw [e] at h; cases h; rfl), fun _ _ h => (by rw [e] at h; cases h)⟩
  · obtain ⟨y, hy⟩ := h.resolve_left hx
    have e : hide n eval x = eval x := by
      cases x <;> try rfl
      exact if_neg (fun hs => hx (by rw [hs]))
    exact ⟨fun _ h => e ▸ h, fun _ _ h => (by rw [e, hy] at h; cases h), fun _ _ h => (by rw [e, hy] at h; cases h)⟩

/-- C19 (props/C19.json)  the retry from `deferSt i a` over an evaluator that knows the label completes with exactly `i` -/
theorem show_retry (i : Instr) (a t : Nat) (ht : targetOf i a = some t) (eval : Arg → EvalOut) (loc : Bool)
    (hp : Printable i a) (he : EvalOK eval i a) :
    ∃ fs2, assemble (deferSt i a) eval loc = (fs2, .completed) ∧ fs2.instr = i := by
  have hd := show_defers i a t ht (hide (label t) eval) (if_pos rfl)
  have hg : ∀ x ∈ (parts i a).2, Grows (hide (label t) eval) eval x := by
    have hr : ∀ r, Grows (hide (label t) eval) eval (rA r) := fun r => grows_hide (.inr ⟨_, he.reg r⟩)
    have hl : Grows (hide (label t) eval) eval (lblA t) := grows_hide (.inl rfl)
    rcases targetOf_cases ht with ⟨d, off, rfl, rfl⟩ | ⟨c, off, rfl, rfl⟩ | ⟨off, rfl, rfl⟩ | ⟨d, ad, off, rfl, h15, rfl⟩
    · simpa only [parts, List.forall_mem_cons, List.not_mem_nil, false_imp_iff, implies_true, and_true] using ⟨hr d, hl⟩
    · simpa only [parts, List.forall_mem_cons, List.not_mem_nil, false_imp_iff, implies_true, and_true] using hl
    · simpa only [parts, List.forall_mem_cons, List.not_mem_nil, false_imp_iff, implies_true, and_true] using hl
    · simpa only [parts, h15, if_true, List.forall_mem_cons, List.not_mem_nil, false_imp_iff, implies_true, and_true] using ⟨hr d, hl⟩
  rw [assemble_retry _ eval _ _ hg _ hd loc]
  exact assemble_printed i hp he

end Trion.Show
