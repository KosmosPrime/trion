import TrionModel.Lemmas.C06Run
import TrionModel.Lemmas.ShowText
/-!
# an invalid statement at ANY include depth: the `.include` statement one level up, and the chain predicate `FailsIn`

`FailsIn` writes the setting `Reaches` (Lemmas/C06Run.lean) out in its constructors; `FailsIn.here_push` is the bridge from
a statement whose whole effect is one diagnostic and an error result.
-/
namespace Trion.C04
open Trion Trion.Asm

/-- the path `.include "p"` opens from `env`: `p` beside the current file (`sibling`, as `includeDirective` computes it) -/
def incPath (env : Env) (p : Bytes) : Bytes :=
  match env.paths with
  | [] => sibling [] p
  | curr :: _ => sibling curr p

/-- the environment in which the included file is read -/
def incEnv (env : Env) (p : Bytes) : Env := ⟨incPath env p :: env.paths, incPath env p⟩

theorem includeDirective_str (fs : Bytes → Option Bytes) (inc : Inc) (env : Env) (st : St) (l c : Nat) (p : Bytes) :
    includeDirective fs inc env st l c [.str p] =
      match fs (incPath env p) with
      | none => .ok (st.push env l c (.dirApply "include" (.includeNoSuchFile (incPath env p))), .err .fatal)
      | some data =>
        match inc env st data (incPath env p) with
        | .ok (st', .ok) => .ok (st', .ok)
        | .ok (st', .err _) => .ok (st'.push env l c (.dirApply "include" (.includeFailed (incPath env p))), .err .fatal)
        | .stop r => .stop r := by
  simp only [includeDirective, arity, List.length_cons, List.length_nil, Nat.zero_add, if_true, incPath]
  cases env.paths <;> rfl

theorem include_stmt_body (fs : Bytes → Option Bytes) (fuel : Nat) (env : Env) (S : St) (l c : Nat) (p data2 : Bytes)
    (hfs2 : fs (incPath env p) = some data2) :
    ∀ S1 r1, statement fs encoder (assembleFile fs encoder (fuel + 1)) env S
        ⟨l, c, .directive (bytesOf "include") (Args.ofList [.str p])⟩ = .ok (S1, r1) →
      ∃ st4 r4, fileBody fs encoder (assembleFile fs encoder fuel) (incEnv env p) data2 (enterFile S).2.2 = .ok (st4, r4) ∧
        (r4.isErr = true → r1.isErr = true ∧
          S1.errors = (⟨env.curName, l, c, .dirApply "include" (.includeFailed (incPath env p))⟩ : Diag) :: st4.errors) := by
  intro S1 r1 h
  simp only [statement, Show.toList_ofList] at h
  rw [directive_include, includeDirective_str] at h
  simp only [hfs2] at h
  rw [assembleFile_succ] at h
  cases hF : fileBody fs encoder (assembleFile fs encoder fuel) ⟨incPath env p :: env.paths, incPath env p⟩ data2 (enterFile S).2.2 with
  | stop s => rw [hF] at h; cases h
  | ok q =>
    obtain ⟨st4, r4⟩ := q
    refine ⟨st4, r4, hF, fun he => ?_⟩
    rw [hF] at h
    cases r4 with
    | ok => cases he
    | err lv =>
      simp only at h
      cases h
      exact ⟨rfl, by simp only [St.push, St.pushIn, leaveFile_errs]⟩

theorem include_stmt_gen (fs : Bytes → Option Bytes) (fuel : Nat) (env : Env) (S : St) (l c : Nat) (p data2 : Bytes)
    (hfs2 : fs (incPath env p) = some data2) (D : List Diag)
    (hB : ∀ st4 r4, fileBody fs encoder (assembleFile fs encoder fuel) (incEnv env p) data2 (enterFile S).2.2 = .ok (st4, r4) →
        (∀ d ∈ D, d ∈ st4.errors) ∧ r4.isErr = true) :
    ∀ S1 r1, statement fs encoder (assembleFile fs encoder (fuel + 1)) env S
        ⟨l, c, .directive (bytesOf "include") (Args.ofList [.str p])⟩ = .ok (S1, r1) →
      (∀ d ∈ (⟨env.curName, l, c, .dirApply "include" (.includeFailed (incPath env p))⟩ : Diag) :: D, d ∈ S1.errors) ∧
      r1.isErr = true := by
  intro S1 r1 h
  obtain ⟨st4, r4, hF, hc⟩ := include_stmt_body fs fuel env S l c p data2 hfs2 S1 r1 h
  obtain ⟨hD, he⟩ := hB st4 r4 hF
  obtain ⟨hr, hE⟩ := hc he
  refine ⟨fun d hd => ?_, hr⟩
  rw [hE]
  rcases List.mem_cons.mp hd with rfl | hd
  · exact List.mem_cons_self
  · exact List.mem_cons_of_mem _ (hD d hd)

/-- `FailsIn fs fuel env data st D`: the body of the file `data` (read at include level `fuel`, in environment `env`, entered
with state `st`) contains — after a prefix that returns no error result — either a statement that records the diagnostics `D`
and returns an error result, or an `.include` of a file that `FailsIn` one level deeper (then `IncludeFailed` at the
`.include` statement is added to `D`) -/
inductive FailsIn (fs : Bytes → Option Bytes) : Nat → Env → Bytes → St → List Diag → Prop
  | here {fuel : Nat} {env : Env} {data : Bytes} {st : St} {D : List Diag} (els : List Element) (perr : Option ParseErr)
      (hp : parseFile data = .ok (els, perr)) (pre post : List Element) (el : Element) (hels : els = pre ++ el :: post)
      (S : St)
      (hpre : ∀ rest perr', doAssemble fs encoder (assembleFile fs encoder fuel) env (pre ++ rest) perr' st =
        doAssemble fs encoder (assembleFile fs encoder fuel) env rest perr' S)
      (hK : ∀ S1 r1, statement fs encoder (assembleFile fs encoder fuel) env S el = .ok (S1, r1) →
        (∀ d ∈ D, d ∈ S1.errors) ∧ r1.isErr = true) : FailsIn fs fuel env data st D
  | inc {fuel : Nat} {env : Env} {data : Bytes} {st : St} {D : List Diag} (els : List Element) (perr : Option ParseErr)
      (hp : parseFile data = .ok (els, perr)) (pre post : List Element) (l c : Nat) (p : Bytes)
      (hels : els = pre ++ ⟨l, c, .directive (bytesOf "include") (Args.ofList [.str p])⟩ :: post) (S : St)
      (hpre : ∀ rest perr', doAssemble fs encoder (assembleFile fs encoder (fuel + 1)) env (pre ++ rest) perr' st =
        doAssemble fs encoder (assembleFile fs encoder (fuel + 1)) env rest perr' S)
      (data2 : Bytes) (hfs2 : fs (incPath env p) = some data2)
      (hdeep : FailsIn fs fuel (incEnv env p) data2 (enterFile S).2.2 D) :
      FailsIn fs (fuel + 1) env data st
        ((⟨env.curName, l, c, .dirApply "include" (.includeFailed (incPath env p))⟩ : Diag) :: D)

/-- the one-diagnostic classes: a statement whose whole effect is one diagnostic `k` and an error result -/
theorem FailsIn.here_push {fs : Bytes → Option Bytes} {fuel : Nat} {env : Env} {data : Bytes} {st S : St}
    {pre post : List Element} {perr : Option ParseErr} {el : Element} (h : Reaches fs fuel env data st pre el post perr S)
    {k : Kind} {lv : Level}
    (hel : statement fs encoder (assembleFile fs encoder fuel) env S el = .ok (S.push env el.line el.col k, .err lv)) :
    FailsIn fs fuel env data st [⟨env.curName, el.line, el.col, k⟩] :=
  .here _ perr h.parse pre post el rfl S h.run fun S1 r1 hX => by
    cases hel.symm.trans hX
    exact ⟨fun d hd => by rw [List.mem_singleton.mp hd]; exact List.mem_cons_self, rfl⟩

theorem failsIn_body {fs : Bytes → Option Bytes} {fuel : Nat} {env : Env} {data : Bytes} {st : St} {D : List Diag}
    (h : FailsIn fs fuel env data st D) :
    ∀ st4 r4, fileBody fs encoder (assembleFile fs encoder fuel) env data st = .ok (st4, r4) →
      (∀ d ∈ D, d ∈ st4.errors) ∧ r4.isErr = true := by
  induction h with
  | here els perr hp pre post el hels S hpre hK =>
    intro st4 r4 hF
    obtain ⟨S1, r1, hX, hkeep, herr⟩ := fileBody_through ⟨hels ▸ hp, hpre⟩ hF
    exact ⟨fun d hd => hkeep d ((hK S1 r1 hX).1 d hd), herr (hK S1 r1 hX).2⟩
  | inc els perr hp pre post l c p hels S hpre data2 hfs2 _ ih =>
    intro st4 r4 hF
    obtain ⟨S1, r1, hX, hkeep, herr⟩ := fileBody_through ⟨hels ▸ hp, hpre⟩ hF
    have hst := include_stmt_gen fs _ _ S l c p data2 hfs2 _ ih S1 r1 hX
    exact ⟨fun d hd => hkeep d (hst.1 d hd), herr hst.2⟩

theorem run_failsIn (fs : Bytes → Option Bytes) (main data : Bytes) (hfs : fs main = some data) (D : List Diag) (hD : D ≠ [])
    (h : FailsIn fs (maxDepth - 1) ⟨[main], main⟩ data init2 D) :
    ∀ o, run fs main = .done o → o.success = false ∧ ∀ d ∈ D, d ∈ o.diags := by
  intro o ho
  obtain ⟨st4, r4, hB, hmem, hsucc⟩ := run_of_mainBody hfs ho
  obtain ⟨hall, _⟩ := failsIn_body h st4 r4 hB
  obtain ⟨d0, hd0⟩ := List.exists_mem_of_ne_nil D hD
  exact ⟨hsucc (List.ne_nil_of_mem (hall d0 hd0)), fun d hd => hmem d (hall d hd)⟩

end Trion.C04
