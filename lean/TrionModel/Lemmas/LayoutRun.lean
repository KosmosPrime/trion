import TrionModel.Lemmas.LayoutInv
import TrionModel.Spec.Layout
/-!
# Layout: what a statement does (`step_spec`); the invariant along `steps` and `runTasks`, which do not panic
-/
namespace Trion.Layout

theorem env_update_inv (st : State) (e : Env) (hi : Inv st) : Inv { st with env := e } := hi

theorem length_placeholder (n : Nat) : (placeholder n).length = n := by
  simp [placeholder]

theorem new_task_ok (st : State) (s : Active) (len : Nat) (deps : List Nat) (final : Bytes) (hc : Core st)
    (hact : st.active = some s) (hfit : s.buf.length + len ≤ s.maxLen) (hwf : final.length = len) :
    TaskOk { st with active := some { s with buf := s.buf ++ placeholder len } }
      { addr := s.curr, len := len, deps := deps, final := final } := by
  obtain ⟨h1, h2, h3⟩ := hc.2 s hact
  refine ⟨hwf, ?_⟩
  have hcurr : s.curr = min (s.base + s.buf.length) (top - 1) := rfl
  by_cases hl : len = 0
  · left; intro i hi; simp only at hi; omega
  · right
    refine ⟨_, rfl, ?_, ?_⟩
    · simp only; unfold top at h2 hcurr; omega
    · simp only [List.length_append, length_placeholder]; unfold top at h2 hcurr; omega

/-- The statements that write bytes at the cursor (the third arm of `step_spec`); the theorems that say where a
statement's bytes stand in the image quantify over these.  Decided by the constructor alone: `true` for every
`.align`, also one that pads 0 bytes. -/
def Stmt.emits : Stmt → Bool
  | .raw _ => true
  | .emit _ _ _ => true
  | .align _ => true
  | _ => false

theorem step_spec (st : State) (s : Stmt) (hc : Core st) :
    Sat (step st s) fun st' =>
    (∃ a, s = .addr a ∧ Core st' ∧ st'.env = st.env ∧ st'.tasks = st.tasks ∧ (∀ x, view st' x = view st x) ∧
      (∀ t, TaskOk st t → TaskOk st' t) ∧ pos st' = some a) ∨
    (∃ n v, st.env.get n = none ∧ st' = { st with env := (n, v) :: st.env } ∧
      ((∃ a, s = .label n ∧ st.active = some a ∧ v = a.curr) ∨ ∃ d, s = .const n d v)) ∨
    (s.emits = true ∧ ∃ a bs new, st.active = some a ∧ a.buf.length + bs.length ≤ a.maxLen ∧
      st' = { st with active := some { a with buf := a.buf ++ bs }, tasks := st.tasks ++ new } ∧
      ((bs = Ref.bytes (a.base + a.buf.length) s ∧ new = []) ∨
       ∃ len deps final, s = .emit len deps final ∧ bs = placeholder len ∧
         new = [{ addr := a.curr, len := len, deps := deps, final := final }])) := by
  have app := fun bs => append_spec st bs hc
  have def_ := insertConst_spec st
  cases s with
  | addr a => exact (changeSeg_spec st a hc).imp fun st' k => .inl ⟨a, rfl, k⟩
  | label n =>
    simp only [step]
    split
    · exact fun e => by cases e
    · rename_i a hact
      exact (def_ n _).imp fun st' ⟨hn, e⟩ => .inr (.inl ⟨n, _, hn, e, .inl ⟨a, rfl, hact, rfl⟩⟩)
  | const n d v =>
    simp only [step]
    split
    · exact (def_ n v).imp fun st' ⟨hn, e⟩ => .inr (.inl ⟨n, v, hn, e, .inr ⟨d, rfl⟩⟩)
    · exact fun e => by cases e
  | raw bs =>
    exact (app bs).imp fun st' ⟨a, hact, hfit, e⟩ =>
      .inr (.inr ⟨rfl, a, bs, [], hact, hfit, by simp [e], .inl ⟨rfl, rfl⟩⟩)
  | emit len deps final =>
    simp only [step]
    split
    · exact fun e => by cases e
    · rename_i a hact
      split
      · exact (app final).imp fun st' ⟨a', hact', hfit, e⟩ => by
          cases hact.symm.trans hact'
          exact .inr (.inr ⟨rfl, a, final, [], hact, hfit, by simp [e], .inl ⟨rfl, rfl⟩⟩)
      · have k := app (placeholder len)
        cases happ : append st (placeholder len) with
        | error e => rw [happ] at k; exact k
        | ok st1 =>
          obtain ⟨a', hact', hfit, rfl⟩ := k.ok happ
          cases hact.symm.trans hact'
          exact .inr (.inr ⟨rfl, a, _, _, hact, hfit, rfl, .inr ⟨len, deps, final, rfl, rfl, rfl⟩⟩)
  | align n =>
    rw [step_align]
    split
    · exact fun e => by cases e
    · rename_i a hact
      split
      · exact fun e => by cases e
      · rename_i hn
        have hn0 : n ≠ 0 := fun h0 => hn (Or.inl h0)
        split
        · rename_i hoff
          refine .inr (.inr ⟨rfl, a, [], [], hact, by simpa using (hc.2 a hact).1, ?_, .inl ⟨?_, rfl⟩⟩)
          · cases st; simp_all
          · simp [Ref.bytes, Ref.size, hn0, hoff, placeholder]
        · rename_i hoff
          exact (app _).imp fun st' ⟨a', hact', hfit, e⟩ => by
            cases hact.symm.trans hact'
            exact .inr (.inr ⟨rfl, a, _, [], hact, hfit, by simp [e],
              .inl ⟨by simp [Ref.bytes, Ref.size, hn0, hoff], rfl⟩⟩)

theorem step_no_panic (st : State) (s : Stmt) (hi : Inv st) : step st s ≠ .error .panic :=
  (step_spec st s hi.1).no_panic

theorem step_inv {st st' : State} {s : Stmt} (hi : Inv st) (hwf : s.wf = true) (h : step st s = .ok st') :
    Inv st' := by
  rcases (step_spec st s hi.1).ok h with ⟨a, rfl, k1, _, k3, _, k5, _⟩ | ⟨n, v, _, rfl, _⟩ |
    ⟨_, a, bs, new, hact, hfit, rfl, hcase⟩
  · exact ⟨k1, fun t ht => k5 t (hi.2 t (by rwa [k3] at ht))⟩
  · exact hi
  · obtain ⟨e1, e2, _⟩ := append_effects st a bs hi.1 hact hfit
    refine ⟨e1, fun t ht => ?_⟩
    rcases List.mem_append.1 ht with hold | hnew
    · exact e2 t (hi.2 t hold)
    · rcases hcase with ⟨_, rfl⟩ | ⟨len, deps, final, rfl, rfl, rfl⟩
      · cases hnew
      · cases List.mem_singleton.1 hnew
        rw [length_placeholder] at hfit
        exact new_task_ok st a len deps final hi.1 hact hfit (by simpa [Stmt.wf] using hwf)

theorem steps_spec : ∀ (p : List Stmt) (st : State), Inv st → (∀ s ∈ p, s.wf = true) → Sat (steps st p) Inv
  | [], _, hi, _ => hi
  | s :: r, st, hi, hwf => by
    have k := step_spec st s hi.1
    simp only [steps]
    cases hs : step st s with
    | error e => rw [hs] at k; exact k
    | ok st1 =>
      exact steps_spec r st1 (step_inv hi (hwf s List.mem_cons_self) hs) fun x hx => hwf x (List.mem_cons_of_mem _ hx)

theorem runTasks_spec : ∀ (l : List Task) (st : State), Core st → (∀ t ∈ l, TaskOk st t) → Sat (runTasks st l) Core
  | [], _, hc, _ => hc
  | t :: r, st, hc, ht => by
    unfold runTasks
    split
    · obtain ⟨st1, h1, hc1, _, _, _, hk, _⟩ := rewrite_spec st t hc (ht t List.mem_cons_self)
      rw [h1]
      exact runTasks_spec r st1 hc1 fun x hx => hk x (ht x (List.mem_cons_of_mem _ hx))
    · exact fun e => by cases e

theorem run_spec (p : List Stmt) (hwf : ∀ s ∈ p, s.wf = true) :
    Sat (run p) fun img => ∃ st st1 st2, steps {} p = .ok st ∧ runTasks { st with tasks := [] } st.tasks = .ok st1 ∧
      closeSeg st1 = .ok st2 ∧ img = st2.closed := by
  have k := steps_spec p {} inv_init hwf
  unfold run
  cases hs : steps {} p with
  | error e => rw [hs] at k; exact k
  | ok st =>
    have hi : Inv st := k.ok hs
    have k1 := runTasks_spec st.tasks { st with tasks := [] } hi.1 hi.2
    dsimp only
    cases hr : runTasks { st with tasks := [] } st.tasks with
    | error e => rw [hr] at k1; exact k1
    | ok st1 =>
      obtain ⟨st2, h2, _⟩ := closeSeg_spec st1 (k1.ok hr)
      dsimp only
      rw [h2]
      exact ⟨st, st1, st2, rfl, hr, h2, rfl⟩

end Trion.Layout
