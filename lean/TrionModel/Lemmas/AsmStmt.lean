import TrionModel.Lemmas.AsmPrim
import TrionModel.Lemmas.AsmFront
import TrionModel.Lemmas.FrontReject
/-!
# `Trion.Asm`: `.du*` statements, instruction statements and their tasks return and keep the invariant

The forward walk (`X_ret`) through the functions whose courses Lemmas/AsmActs.lean describes. The two paths have the same
course: evaluate (`apply` / `assemble`), write the bytes or a placeholder (`writeData` / `writeInstr`, both
`writeStmt_safe`), queue the retry (`addTask_ret`); the last two steps are the tail the two statements share
(`placeholder_ret`). What is carried from step to step is where the statement stands with
respect to the regions (`DAt` / `IAt`) and that address, length and "placed" persist (`same`).
-/
namespace Trion.Asm
open Trion


def DAt (st : St) (d : DataExpr) : Prop := At st.seg d.placed d.addr d.du.size

def DataExpr.same (d d' : DataExpr) : Prop := d'.du = d.du ∧ d'.addr = d.addr ∧ (d.placed = true → d'.placed = true)

theorem DataExpr.same_refl (d : DataExpr) : d.same d := ⟨rfl, rfl, id⟩

theorem leBytes_length (n v : Nat) : (leBytes n v).length = n := by
  induction n generalizing v with
  | zero => rfl
  | succ n ih => simp [leBytes, ih]

theorem DAt_pushIn {st : St} {d : DataExpr} (h : DAt st d) (f : Bytes) (l c : Nat) (k : Kind) : DAt (st.pushIn f l c k) d := h

theorem writeData_ret {b : Bool} {st : St} (h : Good b st) (d : DataExpr) (bytes : Bytes)
    (hl : bytes.length = d.du.size) (hat : DAt st d) :
    (d.writeData st bytes).Ret fun x => Step b st x.2.1 ∧ DAt x.2.1 x.1 ∧ d.same x.1 ∧ (x.2.2 = .ok → x.1.placed = true) := by
  obtain ⟨s', p', e, hw, ha, hpp, h0, h1⟩ := writeStmt_safe h d.placed d.addr bytes (by rw [hl]; exact hat)
  rw [hl] at ha
  unfold DataExpr.writeData
  rw [hw]
  cases e with
  | none => exact ⟨(h0 rfl).2, ha, ⟨rfl, rfl, hpp⟩, fun _ => (h0 rfl).1⟩
  | some e => exact ⟨h1 .., ha, ⟨rfl, rfl, hpp⟩, fun e => nomatch e⟩

theorem writer_ret {b : Bool} {st : St} (h : Good b st) (d : DataExpr) (hat : DAt st d) :
    (d.writer st).Ret fun x => Step b st x.2.1 ∧ DAt x.2.1 x.1 ∧ d.same x.1 ∧ (x.2.2 = .ok → x.1.placed = true) := by
  have refused : ∀ k, (Out.ok (d, st.pushIn d.file d.line d.col k, Res.err .trivial)).Ret fun x =>
      Step b st x.2.1 ∧ DAt x.2.1 x.1 ∧ d.same x.1 ∧ (x.2.2 = .ok → x.1.placed = true) :=
    fun _ => ⟨(Step.refl h).pushIn .., hat, d.same_refl, fun e => nomatch e⟩
  unfold DataExpr.writer
  split
  · split
    · exact writeData_ret h d _ (leBytes_length _ _) hat
    · exact refused _
  · exact refused _

theorem apply_ret {b : Bool} {env : Env} {st : St} (h : Good b st) (hb : env.paths.isEmpty = !b) (d : DataExpr)
    (loc : Bool) (hat : DAt st d) :
    (d.apply env st loc).Ret fun x => Step b st x.2.1 ∧ DAt x.2.1 x.1 ∧ d.same x.1 := by
  obtain ⟨ev, hev, -⟩ := (evalArg_ret h hb d.arg).get
  unfold DataExpr.apply
  rw [hev]
  cases ev with
  | complete a =>
    obtain ⟨⟨d1, st1, r⟩, hw, s1, da, sa, _⟩ := (writer_ret h ({ d with arg := a } : DataExpr) hat).get
    simp only [hw]
    cases r <;> exact ⟨s1, da, sa⟩
  | deferred c a => exact ⟨.refl h, hat, ⟨rfl, rfl, id⟩⟩
  | noSuch n a =>
    cases loc
    · exact ⟨(Step.refl h).pushIn .., hat, ⟨rfl, rfl, id⟩⟩
    · exact ⟨.refl h, hat, ⟨rfl, rfl, id⟩⟩
  | err e a => exact ⟨(Step.refl h).pushIn .., hat, ⟨rfl, rfl, id⟩⟩

theorem taskOk_data {st : St} {d : DataExpr} (hat : DAt st d) (hp : d.placed = true) (g : Bool) :
    TaskOk st.seg.pending (.data d g) := by
  refine ⟨hp, ?_⟩
  simpa [DAt, At, hp] using hat

theorem dat_of_taskOk {st : St} {d : DataExpr} {g : Bool} (h : TaskOk st.seg.pending (.data d g)) : DAt st d := by
  obtain ⟨hp, hm⟩ := h
  simpa [DAt, At, hp] using hm

/-- after a first attempt that led from `st0` to `st1`: the write returns, and what it placed is a valid retry -/
theorem placeholder_ret {α : Type} {w : Out (α × St × Res)} {task : α → Task} {st0 st1 : St} (s1 : Step true st0 st1)
    (hw : w.Ret fun x => Step true st1 x.2.1 ∧ (x.2.2 = .ok → TaskOk x.2.1.seg.pending (task x.1))) :
    (placeholder w task).Ret fun y => Step true st0 y.1 := by
  unfold placeholder
  split
  · obtain ⟨s2, ht⟩ := hw
    obtain ⟨st3, hat3, s3⟩ := (addTask_ret s2.1 _ .loc (ht rfl) (fun _ => rfl) (fun e => nomatch e)).get
    rw [hat3]
    exact (s1.trans s2).trans s3
  · exact s1.trans hw.1
  · exact hw

theorem duDirective_ret {env : Env} {st : St} (h : Good true st) (hb : env.paths.isEmpty = false)
    (du : DU) (line col : Nat) (args : List Arg) :
    (duDirective du env st line col args).Ret fun x => Step true st x.1 := by
  cases hca : currAddr st with
  | none => simp only [duDirective, hca]; exact (Step.refl h).push ..
  | some addr =>
    cases har : arity du.name 1 args.length with
    | some k => simp only [duDirective, hca, har]; exact (Step.refl h).push ..
    | none =>
      obtain ⟨a, rfl⟩ := arity_one har
      have hat : DAt st ⟨du, env.curName, line, col, addr, a, false⟩ := by
        obtain ⟨seg, hact, hcur⟩ := Option.map_eq_some_iff.mp hca
        simpa [DAt, At] using ⟨seg, hact, hcur⟩
      obtain ⟨⟨d1, st1, op⟩, hap, s1, da, sa⟩ :=
        (apply_ret h (by simpa using hb) ⟨du, env.curName, line, col, addr, a, false⟩ true hat).get
      dsimp only at s1 da sa
      rw [duDirective_one du env st line col a hca, hap]
      cases op with
      | completed => exact s1
      | _ =>
        exact placeholder_ret s1 ((writeData_ret s1.1 d1 (List.replicate du.size 0xBE) (by simp [sa.1]) da).mono
          (fun x hx => ⟨hx.1, fun e => taskOk_data hx.2.1 (hx.2.2.2 e) false⟩) fun _ => id)

theorem runDataTask_ret {b : Bool} {env : Env} {st : St} (h : Good b st) (hb : env.paths.isEmpty = !b)
    (d : DataExpr) (g : Bool) (ht : TaskOk st.seg.pending (.data d g)) :
    (runDataTask d g env st).Ret fun x => Step b st x.1 := by
  obtain ⟨⟨d1, st1, op⟩, hap, s1, da, sa⟩ := (apply_ret h hb d false (dat_of_taskOk ht)).get
  dsimp only at s1 da sa
  unfold runDataTask
  rw [hap]
  cases op with
  | completed => exact s1
  | err l => exact s1
  | deferred cause =>
    cases g with
    | true => exact s1.pushIn ..
    | false =>
      obtain ⟨st2, hat2, s2⟩ := (addTask_ret s1.1 (.data d1 true) .global (taskOk_data da (sa.2.2 ht.1) true)
        (fun e => nomatch e) (fun _ => rfl)).get
      simp only [DataExpr.schedule, if_true, hat2, Bool.false_eq_true, if_false]
      exact s1.trans s2

def IAt (st : St) (i : ArmInstr) : Prop := At st.seg i.placed i.st.addr (ilen i.st.instr)

def ArmInstr.same (i i' : ArmInstr) : Prop :=
  i'.st.addr = i.st.addr ∧ ilen i'.st.instr = ilen i.st.instr ∧ (i.placed = true → i'.placed = true)

theorem assembleI_ret {b : Bool} {env : Env} {st : St} (h : Good b st) (hb : env.paths.isEmpty = !b) (i : ArmInstr)
    (loc : Bool) (hat : IAt st i) :
    (i.assemble env st loc).Ret fun x => Step b st x.2.1 ∧ IAt x.2.1 x.1 ∧ i.same x.1 := by
  obtain ⟨t, ht, -⟩ := (evalTable_ret h hb).get
  unfold ArmInstr.assemble
  rw [ht]
  simp only [evalPanics_false, Bool.false_eq_true, if_false]
  have keep := Front.assemble_keeps i.st (frontEval t) loc
  have np := Front.assemble_no_panic_proof i.st (frontEval t) loc
  cases hfa : Front.assemble i.st (frontEval t) loc with
  | mk fs r =>
    rw [hfa] at keep np
    simp only at keep
    have ia : IAt st { i with st := fs } := by
      unfold IAt at hat ⊢
      simp only [keep.1, keep.2]
      exact hat
    have sa : i.same { i with st := fs } := ⟨keep.1, keep.2, id⟩
    cases r with
    | completed => exact ⟨.refl h, ia, sa⟩
    | deferred c => exact ⟨.refl h, ia, sa⟩
    | error d => exact ⟨(Step.refl h).pushIn .., ia, sa⟩
    | panic => exact absurd rfl np

theorem writeInstr_ret {enc : Encoder} (henc : EncLen enc) {b : Bool} {st : St} (h : Good b st) (i : ArmInstr)
    (deferred : Bool) (hat : IAt st i) :
    (i.writeInstr enc st deferred).Ret fun x =>
      Step b st x.2.1 ∧ IAt x.2.1 x.1 ∧ i.same x.1 ∧ (x.2.2 = .ok → x.1.placed = true) := by
  unfold ArmInstr.writeInstr
  split
  · exact ⟨(Step.refl h).pushIn .., hat, ⟨rfl, rfl, id⟩, fun e => nomatch e⟩
  · rename_i bytes hen
    have hl : (if deferred then List.replicate bytes.length (0xBE : UInt8) else bytes).length = ilen i.st.instr := by
      split <;> simp [henc _ _ hen]
    obtain ⟨s', p', e, hw, ha, hpp, h0, h1⟩ := writeStmt_safe h i.placed i.st.addr
      (if deferred then List.replicate bytes.length (0xBE : UInt8) else bytes) (by rw [hl]; exact hat)
    rw [hl] at ha
    simp only [hw]
    cases e with
    | none => exact ⟨(h0 rfl).2, ha, ⟨rfl, rfl, hpp⟩, fun _ => (h0 rfl).1⟩
    | some e => exact ⟨h1 .., ha, ⟨rfl, rfl, hpp⟩, fun e => nomatch e⟩

theorem taskOk_instr {st : St} {i : ArmInstr} (hat : IAt st i) (hp : i.placed = true) (g : Bool) :
    TaskOk st.seg.pending (.instr i g) := by
  refine ⟨hp, ?_⟩
  simpa [IAt, At, hp] using hat

theorem iat_of_taskOk {st : St} {i : ArmInstr} {g : Bool} (h : TaskOk st.seg.pending (.instr i g)) : IAt st i := by
  obtain ⟨hp, hm⟩ := h
  simpa [IAt, At, hp] using hm

theorem ArmInstr.same_trans {a b c : ArmInstr} (h1 : a.same b) (h2 : b.same c) : a.same c :=
  ⟨h2.1.trans h1.1, h2.2.1.trans h1.2.1, fun p => h2.2.2 (h1.2.2 p)⟩

theorem instruction_ret {enc : Encoder} (henc : EncLen enc) {env : Env} {st : St} (h : Good true st)
    (hb : env.paths.isEmpty = false) (hact : st.seg.active.isSome = true) (line col : Nat) (name : Bytes) (args : List Arg) :
    (instruction enc env st line col name args).Ret fun x => Step true st x.1 := by
  obtain ⟨seg, hseg⟩ := Option.isSome_iff_exists.mp hact
  have hca : currAddr st = some seg.cur := by simp [currAddr, hseg]
  cases hm : Front.mnemonic name with
  | none => simp only [instruction, hca, hm]; exact (Step.refl h).push ..
  | some t =>
    have hat : IAt st ⟨env.curName, line, col, ⟨seg.cur, t, 0, args⟩, false⟩ := by
      simpa [IAt, At] using ⟨seg, hseg, rfl⟩
    obtain ⟨⟨i1, st1, op⟩, hap, s1, ia, _⟩ :=
      (assembleI_ret h (by simpa using hb) ⟨env.curName, line, col, ⟨seg.cur, t, 0, args⟩, false⟩ true hat).get
    dsimp only at s1 ia
    rw [instruction_one enc env st line col name args hca hm, hap]
    cases op with
    | completed =>
      obtain ⟨⟨i2, st2, r⟩, hwi, s2, _⟩ := (writeInstr_ret henc s1.1 i1 false ia).get
      simp only [hwi]
      exact s1.trans s2
    | _ =>
      exact placeholder_ret s1 ((writeInstr_ret henc s1.1 i1 true ia).mono
        (fun x hx => ⟨hx.1, fun e => taskOk_instr hx.2.1 (hx.2.2.2 e) false⟩) fun _ => id)

theorem runInstrTask_ret {enc : Encoder} (henc : EncLen enc) {b : Bool} {env : Env} {st : St} (h : Good b st)
    (hb : env.paths.isEmpty = !b) (i : ArmInstr) (g : Bool) (ht : TaskOk st.seg.pending (.instr i g)) :
    (runInstrTask enc i g env st).Ret fun x => Step b st x.1 := by
  obtain ⟨⟨i1, st1, op⟩, hap, s1, ia, sa⟩ := (assembleI_ret h hb i false (iat_of_taskOk ht)).get
  dsimp only at s1 ia sa
  unfold runInstrTask
  rw [hap]
  cases op with
  | completed =>
    obtain ⟨⟨i2, st2, r⟩, hwi, s2, _⟩ := (writeInstr_ret henc s1.1 i1 false ia).get
    simp only [hwi]
    exact s1.trans s2
  | err l => exact s1
  | deferred cause =>
    cases g with
    | true => exact s1.pushIn ..
    | false =>
      obtain ⟨st2, hat2, s2⟩ := (addTask_ret s1.1 (.instr i1 true) .global (taskOk_instr ia (sa.2.2 ht.1) true)
        (fun e => nomatch e) (fun _ => rfl)).get
      simp only [ArmInstr.schedule, if_true, hat2, Bool.false_eq_true, if_false]
      exact s1.trans s2

end Trion.Asm
