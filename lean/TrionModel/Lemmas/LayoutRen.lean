import TrionModel.Lemmas.LayoutCor
/-!
# The two-pass reference does not depend on how the symbols are numbered

`Stmt.ren f` renames the symbols of a statement.  Cursor, sizes, bytes and `pass2` never look at a symbol; `pass1` only
compares symbols, so for injective `f` it commutes with the renaming.  `up k = 2 k + 1` is the renaming that frees the even
numbers, `Env.down` undoes it on a symbol table.
-/
namespace Trion.Layout
open Ref

def Stmt.ren (f : Nat → Nat) : Stmt → Stmt
  | .label n => .label (f n)
  | .const n deps v => .const (f n) (deps.map f) v
  | .emit len deps final => .emit len (deps.map f) final
  | s => s

theorem ren_next (f : Nat → Nat) (c : Option Nat) (s : Stmt) : next c (s.ren f) = next c s := by cases s <;> rfl
theorem ren_wf (f : Nat → Nat) (s : Stmt) : (s.ren f).wf = s.wf := by cases s <;> rfl
theorem ren_emits (f : Nat → Nat) (s : Stmt) : (s.ren f).emits = s.emits := by cases s <;> rfl
theorem ren_bytes (f : Nat → Nat) (x : Nat) (s : Stmt) : bytes x (s.ren f) = bytes x s := by cases s <;> rfl

theorem ren_cursorAfter (f : Nat → Nat) (p : List Stmt) (c : Option Nat) :
    cursorAfter c (p.map (Stmt.ren f)) = cursorAfter c p := by
  induction p generalizing c with
  | nil => rfl
  | cons s p ih => simp only [List.map_cons, cursorAfter, ren_next, ih]

theorem ren_pass2 (f : Nat → Nat) (p : List Stmt) (c : Option Nat) (im : Img) :
    pass2 c im (p.map (Stmt.ren f)) = pass2 c im p := by
  induction p generalizing c im with
  | nil => rfl
  | cons s p ih => cases s <;> cases c <;> simp only [List.map_cons, Stmt.ren, pass2, ih]

theorem ren_noLabelAtTop (f : Nat → Nat) (p : List Stmt) (c : Option Nat)
    (h : ∀ x n, (some x, Stmt.label n) ∈ trace c p → x < top) :
    ∀ x n, (some x, Stmt.label n) ∈ trace c (p.map (Stmt.ren f)) → x < top := by
  induction p generalizing c with
  | nil => intro x n hx; cases hx
  | cons s p ih =>
    intro x n hx
    simp only [List.map_cons, trace, ren_next, List.mem_cons] at hx
    rcases hx with hx | hx
    · cases s <;> simp only [Stmt.ren, Prod.mk.injEq, reduceCtorEq, and_false] at hx
      exact h x _ (by rw [hx.1]; exact List.mem_cons_self)
    · exact ih _ (fun y m hy => h y m (List.mem_cons_of_mem _ hy)) x n hx

def Env.ren (f : Nat → Nat) (e : Env) : Env := e.map fun kv => (f kv.1, kv.2)

theorem Env.get_ren {f : Nat → Nat} (hf : Function.Injective f) (e : Env) (n : Nat) : (e.ren f).get (f n) = e.get n := by
  induction e with
  | nil => rfl
  | cons kv e ih =>
    simp only [Env.ren, List.map_cons, Env.get] at ih ⊢
    by_cases h : kv.1 = n
    · rw [if_pos h, if_pos (by rw [h])]
    · rw [if_neg h, if_neg (fun e => h (hf e))]; exact ih

theorem ren_pass1 {f : Nat → Nat} (hf : Function.Injective f) (p : List Stmt) (c : Option Nat) (e : Env) :
    pass1 c (e.ren f) (p.map (Stmt.ren f)) = (pass1 c e p).map (Env.ren f) := by
  induction p generalizing c e with
  | nil => rfl
  | cons s p ih =>
    cases s with
    | label n =>
      simp only [List.map_cons, Stmt.ren, pass1, Env.get_ren hf]
      cases c <;> cases e.get n <;> simp only [Option.map_none]
      split
      · exact ih _ ((n, _) :: e)
      · rfl
    | const n d v =>
      simp only [List.map_cons, Stmt.ren, pass1, Env.get_ren hf]
      cases e.get n
      · exact ih _ ((n, v) :: e)
      · rfl
    | addr a => exact ih _ e
    | _ => cases c <;> simp only [List.map_cons, Stmt.ren, pass1, size, Option.map_none, ih]

/-- Moves every symbol to an odd number.  `Asm.shift` (Lemmas/AsmFlatEls.lean) puts the symbols of the file instances
there and gives the even numbers to the empty includer of the main file, which a numbering that is onto leaves no room for. -/
def up (k : Nat) : Nat := 2 * k + 1

theorem up_inj : Function.Injective up := fun a b h => by unfold up at h; omega

def Env.down (e : Env) : Env := e.filterMap fun kv => if kv.1 % 2 = 1 then some (kv.1 / 2, kv.2) else none

theorem Env.get_down (e : Env) (k : Nat) : e.down.get k = e.get (up k) := by
  induction e with
  | nil => rfl
  | cons kv e ih =>
    simp only [Env.down, List.filterMap_cons, Env.get] at ih ⊢
    by_cases h : kv.1 % 2 = 1
    · simp only [if_pos h, Env.get, ih]
      by_cases h2 : kv.1 / 2 = k
      · rw [if_pos h2, if_pos (by unfold up; omega)]
      · rw [if_neg h2, if_neg (by unfold up; omega)]
    · rw [if_neg h, ih, if_neg (by unfold up; omega)]

theorem Env.down_ren (e : Env) : (e.ren up).down = e := by
  induction e with
  | nil => rfl
  | cons kv e ih =>
    simp only [Env.ren, Env.down, List.map_cons, List.filterMap_cons] at ih ⊢
    rw [if_pos (by unfold up; omega), ih, show up kv.1 / 2 = kv.1 by unfold up; omega]

end Trion.Layout
