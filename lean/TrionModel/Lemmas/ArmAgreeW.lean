import TrionModel.Lemmas.ArmSpec
import TrionModel.Lemmas.CodecOut32
/-! Agreement of the ARMv6-M table with the decoder model on all 32-bit patterns. -/
namespace Trion.Codec
open Trion Trion.Arm

theorem sysm_eq (n : Nat) : Arm.sysm n = SysReg.ofNat? n := by
  by_cases h : n < 21
  · have all : ∀ k : Fin 21, Arm.sysm k.val = SysReg.ofNat? k.val := by decide
    exact all ⟨n, h⟩
  · unfold Arm.sysm SysReg.ofNat?
    split <;> first | omega | (split <;> first | omega | rfl)

/-! The bit runs of the word `h0 * 65536 + h1` that the 32-bit rows look at, in terms of the halfwords.  A run lies in
one halfword, except the two that span both (the three barriers are whole words, MRS fixes bits 31–12). -/

theorem word_lo (h0 h1 p l : Nat) (hpl : p + l ≤ 16) : (h0 * 65536 + h1) / 2 ^ p % 2 ^ l = h1 / 2 ^ p % 2 ^ l := by
  have e : h0 * 65536 = 2 ^ p * (2 ^ l * (h0 * 2 ^ (16 - p - l))) := by
    rw [Nat.mul_left_comm (2 ^ l), Nat.mul_left_comm (2 ^ p), ← Nat.pow_add, ← Nat.pow_add,
      show p + (l + (16 - p - l)) = 16 by omega]
  rw [e, Nat.mul_add_div (Nat.two_pow_pos p), Nat.mul_add_mod]

theorem word_hi (h0 h1 p l : Nat) (b1 : h1 < 65536) (hp : 16 ≤ p) :
    (h0 * 65536 + h1) / 2 ^ p % 2 ^ l = h0 / 2 ^ (p - 16) % 2 ^ l := by
  rw [show p = 16 + (p - 16) by omega, Nat.pow_add, ← Nat.div_div_eq_div_mul, Nat.add_sub_cancel_left]
  congr 2
  omega

theorem wb_0_32 (h0 h1 : Nat) (_ : h1 < 65536) :
    (h0 * 65536 + h1) % 4294967296 = h0 % 65536 * 65536 + h1 := by omega
theorem wb_12_20 (h0 h1 : Nat) (_ : h1 < 65536) :
    (h0 * 65536 + h1) / 4096 % 1048576 = h0 % 65536 * 16 + h1 / 4096 := by omega

/-- `SignExtend(S:I1:I2:imm10:imm11:'0')` as a difference -/
theorem bl_spec (s j k a b : Nat) (hs : s < 2) (ha : a < 1024) (hb : b < 2048) :
    sx 25 (s * 16777216 + ibit j s * 8388608 + ibit k s * 4194304 + a * 4096 + b * 2) =
      blOff s (ibit j s) (ibit k s) a b := by
  unfold sx ibit blOff
  have : s = 0 ∨ s = 1 := by omega
  rcases this with rfl | rfl <;> (repeat' split) <;> omega

theorem decodeIn_nil (w n : Nat) : decodeIn [] w n = none := rfl

theorem table32_ifs (h0 h1 : Nat) (b0 : h0 < 65536) (b1 : h1 < 65536) :
    decodeIn table32 (h0 * 65536 + h1) 32 =
      if h0 / 16 % 4096 = 0xF38 ∧ h1 / 256 % 256 = 0x88 then
        if (h0 % 16 == 13 || h0 % 16 == 15 || (sysm (h1 % 256)).isNone) = true then none
        else some (.msr (sys (h1 % 256)) (r (h0 % 16)))
      else if h0 * 16 + h1 / 4096 = 0xF3EF8 then
        if (h1 / 256 % 16 == 13 || h1 / 256 % 16 == 15 || (sysm (h1 % 256)).isNone) = true then none
        else some (.mrs (r (h1 / 256 % 16)) (sys (h1 % 256)))
      else if h0 * 65536 + h1 = 0xF3BF8F4F then some .dsb
      else if h0 * 65536 + h1 = 0xF3BF8F5F then some .dmb
      else if h0 * 65536 + h1 = 0xF3BF8F6F then some .isb
      else if h0 / 16 % 4096 = 0xF7F ∧ h1 / 4096 % 16 = 10 then
        some (.udfw ((h0 % 16 * 4096 + h1 % 4096 : Nat) : Int))
      else if h0 / 2048 % 32 = 30 ∧ h1 / 16384 % 4 = 3 ∧ h1 / 4096 % 2 = 1 then
        some (.bl (sx 25 (h0 / 1024 % 2 * 16777216 + ibit (h1 / 8192 % 2) (h0 / 1024 % 2) * 8388608 +
          ibit (h1 / 2048 % 2) (h0 / 1024 % 2) * 4194304 + h0 % 1024 * 4096 + h1 % 2048 * 2)))
      else none := by
  -- `word_hi`, `word_lo` before the powers of two are evaluated; their side conditions fall to `b1` and the `reduce`s
  simp only [table32, decodeIn_cons, decodeIn_nil, fits, fieldOf, segVal, ↓word_hi, ↓word_lo, b1, Nat.reduceLeDiff,
    Nat.reduceAdd, Nat.reduceSub, Nat.reducePow, Char.reduceEq, if_true, if_false, Nat.mod_eq_of_lt b0, Nat.zero_mul,
    Nat.zero_add, and_true, true_and, Bool.false_eq_true, Nat.div_one, wb_0_32 h0 h1 b1, wb_12_20 h0 h1 b1]

/-- the side condition of the MSR and MRS rows in the decoder's terms: register `n` is SP or PC, or SYSm `m` is
not allocated -/
theorem sys_unpred_iff (n m : Nat) (hn : n < 16) :
    (n == 13 || n == 15 || (sysm m).isNone) = true ↔
      ((Fin.ofNat 16 n : Reg).val = 13 ∨ (Fin.ofNat 16 n : Reg).val = 15) ∨ SysReg.ofNat? m = none := by
  rw [sysm_eq, Fin.val_ofNat, Nat.mod_eq_of_lt hn]
  simp only [Bool.or_eq_true, beq_iff_eq, Option.isNone_iff_eq_none]

theorem sys_eq {m : Nat} {s : SysReg} (hs : SysReg.ofNat? m = some s) : sys m = s := by
  rw [sys, sysm_eq, hs]; rfl


/-- the conditions on the way to a leaf of `decode32` pin down the fixed bits of its row (stated first,
compactly, so that each row test is a small problem) -/
theorem table32_of_shape (h0 h1 : Nat) (b0 : h0 < 65536) (b1 : h1 < 65536) (t : 29 ≤ h0 / 2048) {n : Nat}
    {i : Instr} (o : Shape32 h0 h1 (.ok (n, i))) : decodeIn table32 (h0 * 65536 + h1) 32 = some i := by
  rw [table32_ifs h0 h1 b0 b1]
  cases o with
  | msr s c0 c g gr hs =>
    have e0 : h0 / 16 = 0xF38 := by omega
    have e1 : h1 / 256 = 0x88 := by omega
    rw [if_pos (by omega), if_neg (by rw [sys_unpred_iff _ _ (by omega)]; exact not_or.mpr ⟨gr, by rw [hs]; nofun⟩),
      sys_eq hs]; rfl
  | mrs s c0 c g gr hs =>
    have e0 : h0 = 0xF3EF := by omega
    have e1 : h1 / 4096 = 8 := by omega
    clear c0 c g t b0
    rw [if_neg (by omega), if_pos (by omega),
      if_neg (by rw [sys_unpred_iff _ _ (by omega)]; exact not_or.mpr ⟨gr, by rw [hs]; nofun⟩), sys_eq hs]; rfl
  | barrier i op c0 c hop hi g g' =>
    have e0 : h0 = 0xF3BF := by omega
    have e1 : h1 = 0x8F0F + op * 16 := by omega
    clear c0 c g g' t b0 b1 hop
    subst e0 e1
    rcases hi with ⟨rfl, rfl⟩ | ⟨rfl, rfl⟩ | ⟨rfl, rfl⟩ <;> rfl
  | udfw c0 c =>
    have e0 : h0 / 16 = 0xF7F := by omega
    have e1 : h1 / 4096 = 10 := by omega
    clear c0 c t b0
    rw [if_neg (by omega), if_neg (by omega), if_neg (by omega), if_neg (by omega), if_neg (by omega),
      if_pos (by omega)]
  | bl c0 c =>
    have e0 : h0 / 2048 = 30 := by omega
    have e1 : h1 / 16384 = 3 := by omega
    have e2 : h1 / 4096 % 2 = 1 := c.1
    clear c0 c t
    rw [if_neg (by omega), if_neg (by omega), if_neg (by omega), if_neg (by omega), if_neg (by omega),
      if_neg (by omega), if_pos (by omega), bl_spec _ _ _ _ _ (by omega) (by omega) (by omega)]
    rfl

theorem decode32_of_table (h0 h1 : Nat) (b0 : h0 < 65536) (b1 : h1 < 65536) {i : Instr}
    (h : decodeIn table32 (h0 * 65536 + h1) 32 = some i) : decode32 h0 h1 = .ok (4, i) := by
  rw [table32_ifs h0 h1 b0 b1] at h
  split at h
  · rename_i f; split at h; cases h; rename_i u
    cases h
    rw [sys_unpred_iff _ _ (by omega), not_or] at u
    obtain ⟨s, hs⟩ := Option.ne_none_iff_exists'.mp u.2
    rw [sys_eq hs]
    exact decode32_msr (by omega) (by omega) (by omega) _ (by rw [Fin.val_ofNat]; omega) u.1 s hs
  split at h
  · rename_i f; split at h; cases h; rename_i u
    cases h
    rw [sys_unpred_iff _ _ (by omega), not_or] at u
    obtain ⟨s, hs⟩ := Option.ne_none_iff_exists'.mp u.2
    rw [sys_eq hs]
    exact decode32_mrs (by omega) (by omega) (by omega) _ (by rw [Fin.val_ofNat]; omega) u.1 s hs
  split at h
  · cases h
    obtain ⟨rfl, rfl⟩ : h0 = 0xF3BF ∧ h1 = 0x8F4F := by omega
    rfl
  split at h
  · cases h
    obtain ⟨rfl, rfl⟩ : h0 = 0xF3BF ∧ h1 = 0x8F5F := by omega
    rfl
  split at h
  · cases h
    obtain ⟨rfl, rfl⟩ : h0 = 0xF3BF ∧ h1 = 0x8F6F := by omega
    rfl
  split at h
  · cases h
    exact decode32_udfw (by omega) (by omega)
  split at h
  · cases h
    rw [decode32_bl (by omega) (by omega), bl_spec _ _ _ _ _ (by omega) (by omega) (by omega)]
    rfl
  · cases h

theorem agree_table32 (h0 h1 : Nat) (b0 : h0 < 65536) (b1 : h1 < 65536) (t : 29 ≤ h0 / 2048) :
    decodeIn table32 (h0 * 65536 + h1) 32 = toOpt (decode32 h0 h1) := by
  cases hd : decode32 h0 h1 with
  | ok p =>
    have o := decode32_shape h0 h1
    rw [hd] at o
    exact table32_of_shape h0 h1 b0 b1 t o
  | error e =>
    cases ht : decodeIn table32 (h0 * 65536 + h1) 32 with
    | none => rfl
    | some i => rw [decode32_of_table h0 h1 b0 b1 ht] at hd; cases hd

theorem table32_low (h0 h1 : Nat) (b0 : h0 < 65536) (b1 : h1 < 65536) (t : h0 / 2048 < 29) :
    decodeIn table32 (h0 * 65536 + h1) 32 = none := by
  rw [table32_ifs h0 h1 b0 b1, if_neg (by omega), if_neg (by omega), if_neg (by omega), if_neg (by omega),
    if_neg (by omega), if_neg (by omega), if_neg (by omega)]

end Trion.Codec
