import TrionModel.Model.Asm
/-!
# `Trion.Asm`: what is said about an outcome

One predicate, `Out.Post Q S o`: what `o` returns satisfies `Q`, what stops it satisfies `S`. The statements about the
model's functions are instances: `Out.Spec Q` (a stop is a panic: the walk of Lemmas/AsmActs.lean), `Out.Ret` (it
returns: Lemmas/AsmPrim.lean … AsmFile.lean), `Rung.Spec` and `LoopSpec` (the stops a ladder excludes:
Lemmas/AsmLadder.lean), and `Safe` (Lemmas/AsmBase.lean: no panic; `safe_iff`).
-/
namespace Trion.Asm
open Trion

def Out.Post {α : Type} (Q : α → Prop) (S : Stop → Prop) : Out α → Prop
  | .ok a => Q a
  | .stop z => S z

theorem Out.Post.ok {α : Type} {Q : α → Prop} {S : Stop → Prop} {o : Out α} {a : α} (h : o.Post Q S) (e : o = .ok a) :
    Q a := by
  subst e; exact h

theorem Out.Post.stop {α : Type} {Q : α → Prop} {S : Stop → Prop} {o : Out α} {z : Stop} (h : o.Post Q S)
    (e : o = .stop z) : S z := by
  subst e; exact h

theorem Out.Post.of {α : Type} {Q : α → Prop} {S : Stop → Prop} {o : Out α} (hq : ∀ a, o = .ok a → Q a)
    (hs : ∀ z, o = .stop z → S z) : o.Post Q S := by
  cases o with
  | ok a => exact hq a rfl
  | stop z => exact hs z rfl

theorem Out.Post.mono {α : Type} {Q Q' : α → Prop} {S S' : Stop → Prop} {o : Out α} (h : o.Post Q S)
    (hq : ∀ a, Q a → Q' a) (hs : ∀ z, S z → S' z) : o.Post Q' S' := by
  cases o with
  | ok a => exact hq a h
  | stop z => exact hs z h

/-- what `o` returns satisfies `Q`, and nothing but a panic stops it -/
abbrev Out.Spec {α : Type} (Q : α → Prop) (o : Out α) : Prop := o.Post Q (· = .panic)

/-- `o` returns, and what it returns satisfies `Q` -/
abbrev Out.Ret {α : Type} (o : Out α) (Q : α → Prop) : Prop := o.Post Q fun _ => False

theorem Out.Ret.get {α : Type} {o : Out α} {Q : α → Prop} (h : o.Ret Q) : ∃ a, o = .ok a ∧ Q a := by
  cases o with
  | ok a => exact ⟨a, rfl, h⟩
  | stop z => exact h.elim

end Trion.Asm
