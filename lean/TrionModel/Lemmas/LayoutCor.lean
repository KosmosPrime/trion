import TrionModel.Lemmas.LayoutMain
/-!
# Layout: corollaries about the reference passes on split programs — `.const` statements are ignored by `pass2`, a label's value in `pass1`
-/
namespace Trion.Layout
open Ref

theorem pass2_const (q r : List Stmt) (c : Option Nat) (im : Img) (n : Nat) (d : List Nat) (v : Int) :
    pass2 c im (q ++ .const n d v :: r) = pass2 c im (q ++ r) := by
  induction q generalizing c im with
  | nil => rfl
  | cons s q ih =>
    simp only [List.cons_append]
    cases s with
    | addr a => exact ih _ _
    | label m => exact ih _ _
    | const m d' v' => exact ih _ _
    | raw | emit | align => cases c with
      | none => rfl
      | some x => exact ih _ _

theorem next_const (c : Option Nat) (n : Nat) (d : List Nat) (v : Int) : next c (.const n d v) = c := rfl

theorem pass1_label_cons (c : Option Nat) (e0 e : Env) (m : Nat) (r : List Stmt)
    (h : pass1 c e0 (.label m :: r) = some e) :
    ∃ x, c = some x ∧ x < top ∧ e0.get m = none ∧ pass1 c ((m, (x : Int)) :: e0) r = some e := by
  cases c with
  | none => simp [pass1] at h
  | some x =>
    cases hg : e0.get m with
    | some v => simp [pass1, hg] at h
    | none =>
      by_cases hx : x < top
      · simp only [pass1, hg, if_pos hx] at h
        exact ⟨x, rfl, hx, rfl, h⟩
      · simp [pass1, hg, if_neg hx] at h

theorem pass1_const_cons (c : Option Nat) (e0 e : Env) (m : Nat) (d : List Nat) (v : Int) (r : List Stmt)
    (h : pass1 c e0 (.const m d v :: r) = some e) :
    e0.get m = none ∧ pass1 c ((m, v) :: e0) r = some e := by
  cases hg : e0.get m with
  | some v => simp [pass1, hg] at h
  | none =>
    simp only [pass1, hg] at h
    exact ⟨rfl, h⟩

theorem pass1_data_cons (c : Option Nat) (e0 e : Env) (s : Stmt) (r : List Stmt) (hs : s.emits = true)
    (h : pass1 c e0 (s :: r) = some e) : ∃ x, c = some x ∧ pass1 (next c s) e0 r = some e := by
  cases s <;> cases c <;> first | exact ⟨_, rfl, h⟩ | (cases hs; done) | (cases h; done)

theorem pass1_keeps (r : List Stmt) (c : Option Nat) (e0 e : Env) (n : Nat) (v : Int)
    (h : pass1 c e0 r = some e) (hn : e0.get n = some v) : e.get n = some v := by
  induction r generalizing c e0 with
  | nil => simp only [pass1] at h; cases h; exact hn
  | cons s r ih =>
    cases s with
    | addr a => exact ih _ _ h hn
    | label m =>
      obtain ⟨x, _, _, hm, h'⟩ := pass1_label_cons c e0 e m r h
      refine ih _ _ h' ?_
      rw [env_get_cons, if_neg (fun hmn => by rw [hmn, hn] at hm; cases hm)]; exact hn
    | const m d w =>
      obtain ⟨hm, h'⟩ := pass1_const_cons c e0 e m d w r h
      refine ih _ _ h' ?_
      rw [env_get_cons, if_neg (fun hmn => by rw [hmn, hn] at hm; cases hm)]; exact hn
    | raw | emit | align => obtain ⟨x, _, h'⟩ := pass1_data_cons c e0 e _ r rfl h; exact ih _ _ h' hn

theorem pass1_label (q r : List Stmt) (c0 : Option Nat) (e0 e : Env) (n : Nat)
    (h : pass1 c0 e0 (q ++ .label n :: r) = some e) :
    ∃ c, cursorAfter c0 q = some c ∧ c < top ∧ e.get n = some (c : Int) := by
  induction q generalizing c0 e0 with
  | nil =>
    obtain ⟨x, hx, hlt, _, h'⟩ := pass1_label_cons c0 e0 e n r h
    exact ⟨x, hx, hlt, pass1_keeps r _ _ e n _ h' (by rw [env_get_cons, if_pos rfl])⟩
  | cons s q ih =>
    simp only [List.cons_append] at h
    cases s with
    | addr a => exact ih _ _ h
    | label m => obtain ⟨x, _, _, _, h'⟩ := pass1_label_cons c0 e0 e m _ h; exact ih _ _ h'
    | const m d w => obtain ⟨_, h'⟩ := pass1_const_cons c0 e0 e m d w _ h; exact ih _ _ h'
    | raw | emit | align => obtain ⟨x, _, h'⟩ := pass1_data_cons c0 e0 e _ _ rfl h; exact ih _ _ h'

/-- statements that neither move the cursor nor emit: labels and constants -/
def Stmt.silent : Stmt → Bool
  | .label _ => true
  | .const _ _ _ => true
  | _ => false

theorem cursorAfter_silent (mid : List Stmt) (c : Option Nat) (h : ∀ s ∈ mid, s.silent = true) :
    cursorAfter c mid = c := by
  induction mid generalizing c with
  | nil => rfl
  | cons s mid ih =>
    have hs := h s List.mem_cons_self
    have := ih (next c s) (fun x hx => h x (List.mem_cons_of_mem _ hx))
    cases s with
    | label m => exact this
    | const m d v => exact this
    | addr | raw | emit | align => cases hs

end Trion.Layout
