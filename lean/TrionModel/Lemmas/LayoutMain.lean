import TrionModel.Lemmas.LayoutRef
/-!
# Layout: whole programs against `Ref.pass1` / `Ref.pass2`

`MRun l p l'` is an execution of the layout core on the program `p` in which the task queue is flushed at the end of
every included file (`Layout.run` is the case of one file: `MRun.of_steps`).  `mrun_ref` is the one induction along
executions: the relation `Rel` of `Lemmas/LayoutRef.lean` with the pending tasks of ALL open files, the symbol table
against `pass1`, and every emitting statement's reference bytes in the reference image.
-/
namespace Trion.Layout
open Ref

/-- the state with another task queue: an included file starts from the empty one, its includer's comes back after it -/
def withTasks (T : List Task) (st : State) : State := { st with tasks := T }

theorem trace_append (q r : List Stmt) (c : Option Nat) :
    trace c (q ++ r) = trace c q ++ trace (cursorAfter c q) r := by
  induction q generalizing c with
  | nil => rfl
  | cons s q ih => simp only [List.cons_append, trace, cursorAfter, ih]

theorem cursorAfter_append (q r : List Stmt) (c : Option Nat) :
    cursorAfter c (q ++ r) = cursorAfter (cursorAfter c q) r := by
  induction q generalizing c with
  | nil => rfl
  | cons s q ih => simp only [List.cons_append, cursorAfter, ih]

theorem runTasks_rel_frame (P : List Task) : ∀ (Q : List Task) (st st' : State) (c : Option Nat) (im : Img),
    Rel st (P ++ Q) c im → runTasks st Q = .ok st' → Rel st' P c im ∧ st'.env = st.env ∧ st'.tasks = st.tasks := by
  intro Q
  induction Q with
  | nil =>
    intro st st' c im hr h
    simp only [runTasks] at h; cases h
    rw [List.append_nil] at hr
    exact ⟨hr, rfl, rfl⟩
  | cons t Q ih =>
    intro st st' c im hr h
    unfold runTasks at h
    split at h
    · cases hrw : rewrite st t.addr t.final with
      | error e => rw [hrw] at h; cases h
      | ok st1 =>
        rw [hrw] at h; simp only at h
        obtain ⟨r1, e1, t1⟩ := rewrite_rel P Q t st st1 c im hr hrw
        obtain ⟨r2, e2, t2⟩ := ih st1 st' c im r1 h
        exact ⟨r2, e2.trans e1, t2.trans t1⟩
    · cases h

/-- an execution over several files (`M` for multi-file): single statements, and complete included files whose own task
queue is run where the file ends -/
inductive MRun : State → List Stmt → State → Prop
  | nil (l : State) : MRun l [] l
  | step {l l1 l' : State} {s : Stmt} {p : List Stmt} : step l s = .ok l1 → MRun l1 p l' → MRun l (s :: p) l'
  | file {l l1 l2 l' : State} {pc p : List Stmt} : MRun (withTasks [] l) pc l1 →
      runTasks (withTasks [] l1) l1.tasks = .ok l2 → MRun (withTasks l.tasks l2) p l' → MRun l (pc ++ p) l'

/-- `NoLabelAtTop` (`Spec/Layout.lean`) for a part of a program met at reference cursor `c` -/
def NoTop (c : Option Nat) (p : List Stmt) : Prop := ∀ x n, (some x, Stmt.label n) ∈ trace c p → x < top

theorem noTop_none (p : List Stmt) : NoTop none p ↔ NoLabelAtTop p := Iff.rfl

/-- `P`: the pending tasks of the including files -/
theorem mrun_ref {l l' : State} {p : List Stmt} (h : MRun l p l') : ∀ (P : List Task) (c : Option Nat) (im : Img),
    Rel l (P ++ l.tasks) c im → (∀ s ∈ p, s.wf = true) →
    ∃ im', (∀ r, pass2 c im (p ++ r) = pass2 (cursorAfter c p) im' r) ∧ Rel l' (P ++ l'.tasks) (cursorAfter c p) im' ∧
      (NoTop c p → ∀ r, pass1 c l.env (p ++ r) = pass1 (cursorAfter c p) l'.env r) ∧
      (∀ a, (im.get a).isSome = true → im'.get a = im.get a) ∧
      (∀ q s r, p = q ++ s :: r → s.emits = true →
        ∃ x, cursorAfter c q = some x ∧ ∀ i, i < (bytes x s).length → im'.get (x + i) = (bytes x s)[i]?) := by
  induction h with
  | nil l =>
    intro P c im hr _
    exact ⟨im, fun r => rfl, hr, fun _ r => rfl, fun _ _ => rfl, fun q s r hp _ => by cases q <;> cases hp⟩
  | @step l l1 l' s0 p hs _ ih =>
    intro P c im hr hwf
    obtain ⟨new, im1, ht, e1, r1, m1, pl1⟩ := step_rel hr (hwf s0 List.mem_cons_self) hs
    rw [List.append_assoc, ← ht] at r1
    obtain ⟨im2, e2, r2, e3, m2, pl2⟩ := ih P (next c s0) im1 r1 (fun x hx => hwf x (List.mem_cons_of_mem _ hx))
    refine ⟨im2, fun r => ?_, r2, fun hl r => ?_, fun a ha => ?_, fun q s r hp hse => ?_⟩
    · simp only [List.cons_append, cursorAfter]; rw [e1, e2]
    · simp only [List.cons_append, cursorAfter]
      rw [step_env hr
        (fun x n hx => hl x n (by simp only [trace, List.mem_cons, List.not_mem_nil, or_false] at hx ⊢; exact .inl hx)) hs]
      exact e3 (fun x n hx => hl x n (List.mem_cons_of_mem _ hx)) r
    · have h1 := m1 a ha
      rw [m2 a (by rw [h1]; exact ha), h1]
    · cases q with
      | nil =>
        simp only [List.nil_append, List.cons.injEq] at hp
        obtain ⟨rfl, rfl⟩ := hp
        obtain ⟨x, rfl, rfl⟩ := pl1 hse
        refine ⟨x, rfl, fun i hi => ?_⟩
        have h2 : (im.put x (bytes x s0)).get (x + i) = (bytes x s0)[i]? := by
          rw [get_put_inside _ _ _ _ (by omega) (by omega)]
          congr 1; omega
        rw [m2 (x + i) (by rw [h2, isSome_getElem?]; simpa using hi), h2]
      | cons s1 q =>
        simp only [List.cons_append, List.cons.injEq] at hp
        obtain ⟨rfl, hp⟩ := hp
        exact pl2 q s r hp hse
  | @file l l1 l2 l' pc p _ hrun _ ih1 ih2 =>
    intro P c im hr hwf
    have hr0 : Rel (withTasks [] l) ((P ++ l.tasks) ++ (withTasks [] l).tasks) c im := by
      simp only [withTasks, List.append_nil]; exact hr.congr rfl rfl
    obtain ⟨im1, e1, r1, n1, m1, pl1⟩ := ih1 (P ++ l.tasks) c im hr0 (fun x hx => hwf x (List.mem_append_left _ hx))
    have r1' : Rel (withTasks [] l1) ((P ++ l.tasks) ++ l1.tasks) (cursorAfter c pc) im1 := r1.congr rfl rfl
    obtain ⟨r2, he2, _⟩ := runTasks_rel_frame (P ++ l.tasks) l1.tasks _ l2 _ im1 r1' hrun
    have r2' : Rel (withTasks l.tasks l2) (P ++ (withTasks l.tasks l2).tasks) (cursorAfter c pc) im1 := r2.congr rfl rfl
    obtain ⟨im2, e2, r3, n2, m2, pl2⟩ := ih2 P (cursorAfter c pc) im1 r2' (fun x hx => hwf x (List.mem_append_right _ hx))
    refine ⟨im2, fun r => ?_, by rw [cursorAfter_append]; exact r3, fun hl r => ?_, fun a ha => ?_,
      fun q s r hp hse => ?_⟩
    · rw [List.append_assoc, e1, e2, cursorAfter_append]
    · have hl1 : NoTop c pc := fun x n hx => hl x n (by rw [trace_append]; exact List.mem_append_left _ hx)
      have hl2 : NoTop (cursorAfter c pc) p := fun x n hx => hl x n (by rw [trace_append]; exact List.mem_append_right _ hx)
      rw [List.append_assoc, cursorAfter_append]
      have := n1 hl1 (p ++ r)
      simp only [withTasks] at this
      rw [this]
      have e : l1.env = (withTasks l.tasks l2).env := by simp only [withTasks]; exact he2.symm
      rw [e]
      exact n2 hl2 r
    · have h1 := m1 a ha
      rw [m2 a (by rw [h1]; exact ha), h1]
    · rcases List.append_eq_append_iff.mp hp with ⟨a', rfl, hp'⟩ | ⟨c', hpc, hsr⟩
      · -- the statement lies behind the included file
        obtain ⟨x, hx, hb⟩ := pl2 a' s r hp' hse
        exact ⟨x, by rw [cursorAfter_append]; exact hx, hb⟩
      · cases c' with
        | nil =>
          simp only [List.append_nil] at hpc
          simp only [List.nil_append] at hsr
          subst hpc
          obtain ⟨x, hx, hb⟩ := pl2 [] s r hsr.symm hse
          exact ⟨x, hx, hb⟩
        | cons s1 c'' =>
          simp only [List.cons_append, List.cons.injEq] at hsr
          obtain ⟨rfl, _⟩ := hsr
          obtain ⟨x, hx, hb⟩ := pl1 q s c'' hpc hse
          refine ⟨x, hx, fun i hi => ?_⟩
          have h2 := hb i hi
          rw [m2 (x + i) (by rw [h2, isSome_getElem?]; simpa using hi), h2]

theorem mrun_rel {l l' : State} {p : List Stmt} (h : MRun l p l') (P : List Task) (c : Option Nat) (im : Img)
    (hr : Rel l (P ++ l.tasks) c im) (hwf : ∀ s ∈ p, s.wf = true) :
    ∃ im', (∀ r, pass2 c im (p ++ r) = pass2 (cursorAfter c p) im' r) ∧ Rel l' (P ++ l'.tasks) (cursorAfter c p) im' ∧
      (NoTop c p → ∀ r, pass1 c l.env (p ++ r) = pass1 (cursorAfter c p) l'.env r) := by
  obtain ⟨im', h1, h2, h3, _⟩ := mrun_ref h P c im hr hwf
  exact ⟨im', h1, h2, h3⟩

theorem mrun_placed {l l' : State} {p : List Stmt} (h : MRun l p l') (P : List Task) (c : Option Nat) (im : Img)
    (hr : Rel l (P ++ l.tasks) c im) (hwf : ∀ s ∈ p, s.wf = true) :
    ∃ im', (∀ r, pass2 c im (p ++ r) = pass2 (cursorAfter c p) im' r) ∧ Rel l' (P ++ l'.tasks) (cursorAfter c p) im' ∧
      (∀ a, (im.get a).isSome = true → im'.get a = im.get a) ∧
      (∀ q s r, p = q ++ s :: r → s.emits = true →
        ∃ x, cursorAfter c q = some x ∧ ∀ i, i < (bytes x s).length → im'.get (x + i) = (bytes x s)[i]?) := by
  obtain ⟨im', h1, h2, _, h4, h5⟩ := mrun_ref h P c im hr hwf
  exact ⟨im', h1, h2, h4, h5⟩


theorem MRun.of_steps : ∀ {p : List Stmt} {st st' : State}, steps st p = .ok st' → MRun st p st'
  | [], st, st', h => by simp only [steps] at h; cases h; exact .nil st
  | s :: p, st, st', h => by
    simp only [steps] at h
    split at h
    · cases h
    · rename_i st1 hs; exact .step hs (MRun.of_steps h)

theorem run_ref (p : List Stmt) (img : Img) (h : run p = .ok img) (hwf : ∀ s ∈ p, s.wf = true) :
    ∃ st im', steps {} p = .ok st ∧ pass2 none [] p = some im' ∧ (∀ a, img.get a = im'.get a) ∧
      (∀ a, top ≤ a → img.get a = none) ∧
      (NoTop none p → pass1 none [] p = some st.env) ∧
      (∀ q s r, p = q ++ s :: r → s.emits = true →
        ∃ x, cursorAfter none q = some x ∧ ∀ i, i < (bytes x s).length → im'.get (x + i) = (bytes x s)[i]?) := by
  obtain ⟨st, st1, st2, hs, hr, hc, rfl⟩ := (run_spec p hwf).ok h
  obtain ⟨im', e1, r1, n1, _, pl⟩ := mrun_ref (MRun.of_steps hs) [] none [] rel_init hwf
  obtain ⟨r2, _, _⟩ := runTasks_rel_frame [] st.tasks { st with tasks := [] } st1 _ im' (r1.congr rfl rfl) hr
  obtain ⟨st2', h2, hc2, _, _, _, hg, _⟩ := closeSeg_spec st1 r2.core
  rw [hc] at h2; cases h2
  refine ⟨st, im', hs, by simpa [pass2] using e1 [], fun a => ?_, fun a ha => ?_,
    fun hl => by simpa [pass1] using n1 hl [], pl⟩
  · rw [hg a]; exact r2.agree a (fun t ht => by cases ht)
  · cases hga : st2.closed.get a with
    | none => rfl
    | some v => have := hc2.1 a (by unfold Img.has; rw [hga]; rfl); omega

theorem run_pass2 (p : List Stmt) (img : Img) (h : run p = .ok img) (hwf : ∀ s ∈ p, s.wf = true) :
    ∃ img', pass2 none [] p = some img' ∧ ∀ a, img.get a = img'.get a :=
  let ⟨_, im', _, e, hg, _⟩ := run_ref p img h hwf
  ⟨im', e, hg⟩

theorem stmt_in_image (p q r : List Stmt) (s : Stmt) (img : Img) (h : run p = .ok img)
    (hwf : ∀ s ∈ p, s.wf = true) (hp : p = q ++ s :: r) (hs : s.emits = true) :
    ∃ c, cursorAfter none q = some c ∧ ∀ i, i < (bytes c s).length → img.get (c + i) = (bytes c s)[i]? := by
  obtain ⟨_, im', _, _, hg, _, _, pl⟩ := run_ref p img h hwf
  obtain ⟨c, hc, hb⟩ := pl q s r hp hs
  exact ⟨c, hc, fun i hi => by rw [hg, hb i hi]⟩

theorem layout_eq (p : List Stmt) (h : pass1 none [] p ≠ none) : layout p = pass2 none [] p := by
  unfold layout
  cases h1 : pass1 none [] p with
  | none => exact absurd h1 h
  | some e => rfl

theorem layout_some (p : List Stmt) (img : Img) (h : layout p = some img) :
    pass1 none [] p ≠ none ∧ pass2 none [] p = some img := by
  unfold layout at h
  cases h1 : pass1 none [] p with
  | none => rw [h1] at h; cases h
  | some e => rw [h1] at h; exact ⟨by simp, h⟩

end Trion.Layout
