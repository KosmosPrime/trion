import TrionModel.Lemmas.SimpArithFwd
import TrionModel.Lemmas.SimpNF
/-!
# The evaluator on the tree it left behind after an ERROR

`evaluateE lk isReg t = .err e t'`: the statement records the diagnostic and is retried at the end of the file on `t'`.

For arithmetic all of whose names have a value (the operand of `.du*`, an immediate, a branch target over defined constants,
e.g. `1/0`) the re-evaluation of `t'` fails with EXACTLY the same error and leaves `t'`, over EVERY lookup
(`evaluateE_error_again_closed`: the names met were replaced by their numbers, the others are behind the failing node).  For any
tree over a table without Deferred names the same holds unless the error came from the deep `neutralize` after a constant merge
(`evaluateE_error_again_partial`, `MergeNeut`).
-/
namespace Trion.Simp
open Trion

/-- An error of the first attempt (over the table `lk`) recurs: re-evaluating the tree `t'` it left gives the same error and
the same tree, over every table `lk₂`. -/
def ErrAgain (lk : Bytes → Lookup) (isReg : Bytes → Bool) (a : Arg) : Prop :=
  ∀ e t', evaluateE lk isReg a = .err e t' → ∀ lk₂ : Bytes → Lookup, evaluateE lk₂ isReg t' = .err e t'

theorem evaluateE_error_again_closed (lk : Bytes → Lookup) (isReg : Bytes → Bool) : ∀ a, arith (unknown lk isReg) a = true →
    ∀ e t', evaluateE lk isReg a = .err e t' → ∀ lk₂ : Bytes → Lookup, evaluateE lk₂ isReg t' = .err e t' :=
  fun a ha e t' h =>
  -- every completed operand is a number, so the failing node is a fold of two numbers or the negation of `MIN`
  (evaluateE_err_ind lk isReg (Rs := fun _ _ _ => True)
    (R := fun a e t' => arith (unknown lk isReg) a = true → ∀ lk₂ : Bytes → Lookup, evaluateE lk₂ isReg t' = .err e t')
    (fun _ _ _ _ _ ih ha lk₂ => by
      simp only [arith, Bool.and_eq_true] at ha
      simp only [evaluateE, ih ha.1 lk₂])
    (fun _ _ _ _ _ _ _ h1 ih ha lk₂ => by
      simp only [arith, Bool.and_eq_true] at ha
      obtain ⟨x, rfl⟩ := known_const ha.1 h1
      simp only [evaluateE, ih ha.2 lk₂])
    (fun op _ _ _ _ _ _ _ _ h1 h2 hs ha lk₂ => by
      simp only [arith, Bool.and_eq_true] at ha
      obtain ⟨x, rfl⟩ := known_const ha.1 h1
      obtain ⟨y, rfl⟩ := known_const ha.2 h2
      simp only [simplifyRawE, isBad, Bool.false_eq_true, if_false, cval] at hs
      cases hf : foldBin op x y with
      | ok v => rw [hf] at hs; cases hs
      | error k =>
        rw [hf] at hs; cases hs
        simp only [evaluateE, afterRawE, simplifyRawE, isBad, Bool.false_eq_true, if_false, cval, hf])
    (fun _ _ _ ih ha lk₂ => by simp only [evaluateE, ih (by simpa [arith] using ha) lk₂])
    (fun _ _ _ _ _ h1 hs ha lk₂ => by
      obtain ⟨x, rfl⟩ := known_const (by simpa [arith] using ha) h1
      simp only [simplifyRawE] at hs
      by_cases hx : x = i64Min
      · simp only [hx, if_true] at hs; cases hs
        simp only [evaluateE, afterRawE, simplifyRawE, if_true]
      · simp only [hx, if_false] at hs; cases hs)
    (fun _ _ _ ih ha lk₂ => by simp only [evaluateE, ih (by simpa [arith] using ha) lk₂])
    (fun _ _ _ _ _ h1 hs ha _ => by
      obtain ⟨x, rfl⟩ := known_const (by simpa [arith] using ha) h1
      simp [simplifyRawE] at hs)
    (fun _ _ _ _ ha => by simp [arith] at ha) (fun _ _ _ _ _ _ _ ha => by simp [arith] at ha)
    (fun _ _ _ _ ha => by simp [arith] at ha) (fun _ _ _ _ _ ha => by simp [arith] at ha)
    (fun _ _ _ _ _ => trivial) (fun _ _ _ _ _ _ _ _ => trivial)).1 a e t' h ha

theorem errAgain_closed {lk : Bytes → Lookup} {isReg : Bytes → Bool} {a : Arg} (h : arith (unknown lk isReg) a = true) :
    ErrAgain lk isReg a := evaluateE_error_again_closed lk isReg a h

/-! ## the general case: tables without Deferred names

After an error every sub-tree evaluated so far is complete, hence `NF` and a fixed point of `evaluate` over every lookup; the
failing `simplify_raw` call is then repeated on the same operands — unless it had already written into the tree before it
failed: the swap `-(l - r) ↦ r - l` / `0 - (l - r) ↦ r - l` (handled: `swap_residual_again`), or the constant merge followed
by the deep `neutralize` (NOT handled: `MergeNeut`). -/

section
variable {isReg : Bytes → Bool}

theorem stripNeg_notBad (r : Arg) (hr : NF isReg r) (hb : isBad r = false) (b : Bool) : isBad (stripNeg b r).2.1 = false := by
  induction r using Arg.ind generalizing b with
  | neg n ih =>
    obtain ⟨hn, hbn, _, _, _⟩ := NF_neg_inv hr
    show isBad (stripNeg (!b) n).2.1 = false
    exact ih hn hbn (!b)
  | _ => exact hb

theorem neutralizeBinE_err_NF {op : BinOp} {l r : Arg} (hr : NF isReg r) (hbl : isBad l = false) (hbr : isBad r = false)
    {e : SimpErr} {t : Arg} (h : neutralizeBinE op l r = .err e t) :
    e = .overflow .negate ∧ additive op ∧ t = .bin op l r ∧ ∃ v, r = .const v ∧ v < 0 ∧ checkedNeg v = none := by
  unfold neutralizeBinE at h
  by_cases hop : op = .add ∨ op = .sub
  · rw [if_pos hop] at h
    obtain ⟨i1, i2, i3, _, _⟩ := stripNeg_NF r hr (decide (op = .sub))
    have i6 := stripNeg_notBad r hr hbr (decide (op = .sub))
    simp only at h
    cases hc : cval (stripNeg (decide (op = .sub)) r).2.1 with
    | none =>
      simp only [hc, hbl, i6, Bool.false_eq_true, if_false] at h
      cases h
    | some v =>
      simp only [hc] at h
      by_cases hv : v < 0
      · simp only [hv, if_true] at h
        cases hn : checkedNeg v with
        | some nv =>
          have hcb : isBad (Arg.const nv) = false := rfl
          simp only [hn, hbl, hcb, Bool.false_eq_true, if_false] at h
          cases h
        | none =>
          simp only [hn, ResE.err.injEq] at h
          obtain ⟨rfl, rfl⟩ := h
          have hcr : isC r = true := by rw [← i3]; exact cval_some_isC hc
          have hr' : ∃ w, r = .const w := by cases r <;> simp [isC, cval] at hcr; exact ⟨_, rfl⟩
          obtain ⟨w, rfl⟩ := hr'
          simp only [stripNeg, cval, Option.some.injEq] at hc
          subst hc
          refine ⟨rfl, hop, ?_, w, rfl, hv, hn⟩
          exact congrArg (Arg.bin · l (.const w)) (opOf_additive hop)
      · simp only [hv, if_false, hbl, i6, Bool.false_eq_true] at h
        cases h
  · rw [if_neg hop] at h
    simp only [hbl, hbr, Bool.false_eq_true, if_false] at h
    cases h

end

theorem swappedE_err {x : ResE (Bool × Arg) Arg} {e : SimpErr} {t : Arg} (h : swappedE x = .err e t) : x = .err e t := by
  cases x with
  | err e' t' => exact h
  | _ => cases h

section
variable {isReg : Bytes → Bool}

theorem neutralizeBinE_swap_err {x y : Arg} (h : NF isReg (.bin .sub x y)) {e : SimpErr} {t : Arg}
    (he : neutralizeBinE .sub y x = .err e t) :
    e = .overflow .negate ∧ ∃ v, x = .const v ∧ v < 0 ∧ checkedNeg v = none ∧ t = .bin .sub y (.const v) := by
  obtain ⟨hx, hy, hf⟩ := NF_bin_inv h
  obtain ⟨b1, b2, _, _, _, _⟩ := lfix_bin hf
  obtain ⟨r1, _, r3, v, rfl, r5, r6⟩ := neutralizeBinE_err_NF hx b2 b1 he
  exact ⟨r1, v, rfl, r5, r6, r3⟩

theorem swap_residual_again {v : Int} {y : Arg} (h : NF isReg (.bin .sub (.const v) y)) (hv : v < 0)
    (hn : checkedNeg v = none) (lk₂ : Bytes → Lookup) :
    evaluateE lk₂ isReg (.bin .sub y (.const v)) = .err (.overflow .negate) (.bin .sub y (.const v)) := by
  obtain ⟨_, hy, hf⟩ := NF_bin_inv h
  obtain ⟨_, b2, hlr, _, hb, _⟩ := lfix_bin hf
  have hcy : cval y = none := by
    cases hc : cval y with
    | none => rfl
    | some w => exact (hlr ⟨rfl, cval_some_isC hc⟩).elim
  have hbf := hb rfl
  rw [bothFound_eq _ _ _ (by intro h; cases h)] at hbf
  have hfy : fnd .sub y = false := by
    have : fnd .sub (.const v) = true := by simp [fnd, isC, cval]
    simpa [this] using hbf
  have hL : mergeL .sub y = .none := by
    have h1 := mergeL_isFound .sub y
    rw [hfy] at h1
    have h2 := mergeL_ne_panic .sub y (NF_nb hy)
    cases hm : mergeL .sub y with
    | none => rfl
    | found c i => rw [hm] at h1; simp [Find.isFound] at h1
    | panic => exact absurd hm h2
  have hraw : neutralizeRawE (.bin .sub y (.const v)) = .err (.overflow .negate) (.bin .sub y (.const v)) := by
    rcases neutralizeRawE_bin_cases .sub y (.const v) with h0 | ⟨_, _, _, _, hh, _⟩
    · rw [h0]
      simp only [neutralizeBinE, or_true, if_true, stripNeg, cval, hv, hn, opOf, decide_true]
    · cases hh
  have hs : simplifyRawE (.bin .sub y (.const v)) = .err (.overflow .negate) (.bin .sub y (.const v)) := by
    have hcb : isBad (Arg.const v) = false := rfl
    simp only [simplifyRawE, b2, hcb, Bool.false_eq_true, if_false, hcy, mergeE, hL]
    cases hR : mergeR .sub (.const v) with
    | panic => simp [mergeR, cval] at hR
    | _ => simp only [hraw]
  simp only [evaluateE, NF_stable hy, afterRawE, hs]

end

section
variable {isReg : Bytes → Bool}

/-- the error was raised by the deep `neutralize` that follows a constant merge (negating `MIN` at the holder of the merged
constant): the tree left is the merged, partly neutralized one — not covered by the theorems below -/
def MergeNeut (isReg : Bytes → Bool) (e : SimpErr) : Prop :=
  ∃ op l r c t₀, NF isReg l ∧ NF isReg r ∧ neutralizeE (mergeTree op l r c) = .err e t₀

theorem neutralizeRawE_bin_err_NF {op : BinOp} {l r : Arg} (hl : NF isReg l) (hr : NF isReg r) (hbl : isBad l = false)
    (hbr : isBad r = false) {e : SimpErr} {t : Arg} (h : neutralizeRawE (.bin op l r) = .err e t) :
    t = .bin op l r ∨ ∀ lk₂ : Bytes → Lookup, evaluateE lk₂ isReg t = .err e t := by
  rcases neutralizeRawE_bin_cases op l r with h0 | ⟨x, y, rfl, rfl, rfl, h1⟩
  · rw [h0] at h
    exact .inl (neutralizeBinE_err_NF hr hbl hbr h).2.2.1
  · rw [h1] at h
    obtain ⟨rfl, v, rfl, hv, hn, rfl⟩ := neutralizeBinE_swap_err hr (swappedE_err h)
    exact .inr (swap_residual_again hr hv hn)

theorem bin_node_again {op : BinOp} {l r : Arg} (hl : NF isReg l) (hr : NF isReg r) {e : SimpErr} {t : Arg}
    (hs : simplifyRawE (.bin op l r) = .err e t) :
    (∀ lk₂ : Bytes → Lookup, evaluateE lk₂ isReg t = .err e t) ∨ MergeNeut isReg e := by
  have local_ : t = .bin op l r → ∀ lk₂ : Bytes → Lookup, evaluateE lk₂ isReg t = .err e t := by
    intro ht lk₂
    subst ht
    simp only [evaluateE, NF_stable hl, NF_stable hr, afterRawE, hs]
  have viaRaw : neutralizeRawE (.bin op l r) = .err e t → isBad l = false → isBad r = false →
      (∀ lk₂ : Bytes → Lookup, evaluateE lk₂ isReg t = .err e t) ∨ MergeNeut isReg e := by
    intro h b1 b2
    rcases neutralizeRawE_bin_err_NF hl hr b1 b2 h with h | h
    · exact .inl (local_ h)
    · exact .inl h
  unfold simplifyRawE at hs
  cases b1 : isBad l with
  | true => simp only [b1, if_true, ResE.err.injEq] at hs; exact .inl (local_ hs.2.symm)
  | false =>
    cases b2 : isBad r with
    | true => simp only [b1, b2, Bool.false_eq_true, if_false, if_true, ResE.err.injEq] at hs; exact .inl (local_ hs.2.symm)
    | false =>
      simp only [b1, b2, Bool.false_eq_true, if_false] at hs
      have viaMerge : mergeE op l r = .err e t →
          (∀ lk₂ : Bytes → Lookup, evaluateE lk₂ isReg t = .err e t) ∨ MergeNeut isReg e := by
        intro hm
        unfold mergeE at hm
        cases hL : mergeL op l with
        | panic => simp [hL] at hm
        | none =>
          cases hR : mergeR op r with
          | panic => simp [hL, hR] at hm
          | none => simp only [hL, hR] at hm; exact viaRaw hm b1 b2
          | found c2 s2 => simp only [hL, hR] at hm; exact viaRaw hm b1 b2
        | found c1 s1 =>
          cases hR : mergeR op r with
          | panic => simp [hL, hR] at hm
          | none => simp only [hL, hR] at hm; exact viaRaw hm b1 b2
          | found c2 s2 =>
            simp only [hL, hR] at hm
            cases hcmb : combine op s1 s2 c1 c2 with
            | error k =>
              simp only [hcmb, ResE.err.injEq] at hm
              exact .inl (local_ hm.2.symm)
            | ok c =>
              simp only [hcmb] at hm
              cases hne : neutralizeE (mergeTree op l r c) with
              | ok p => simp [hne] at hm
              | panic => simp [hne] at hm
              | err e' t' =>
                simp only [hne, ResE.err.injEq] at hm
                obtain ⟨rfl, rfl⟩ := hm
                exact .inr ⟨op, l, r, c, _, hl, hr, hne⟩
      cases hcl : cval l with
      | none =>
        simp only [hcl] at hs
        cases op <;> simp only at hs <;>
          first
            | exact viaRaw hs b1 b2
            | exact viaMerge hs
            | (split at hs <;> first | (cases hs; done) | exact viaRaw hs b1 b2)
      | some a =>
        cases hcr : cval r with
        | none =>
          simp only [hcl, hcr] at hs
          cases op <;> simp only at hs <;>
            first
              | exact viaRaw hs b1 b2
              | exact viaMerge hs
              | (split at hs <;> first | (cases hs; done) | exact viaRaw hs b1 b2)
        | some b =>
          simp only [hcl, hcr] at hs
          cases hf : foldBin op a b with
          | ok v => simp [hf] at hs
          | error k =>
            simp only [hf, ResE.err.injEq] at hs
            exact .inl (local_ hs.2.symm)

end

section
variable {isReg : Bytes → Bool}

theorem neg_node_again {v : Arg} (hv : NF isReg v) {e : SimpErr} {t : Arg}
    (hs : simplifyRawE (.neg v) = .err e t) : ∀ lk₂ : Bytes → Lookup, evaluateE lk₂ isReg t = .err e t := by
  have local_ : t = .neg v → ∀ lk₂ : Bytes → Lookup, evaluateE lk₂ isReg t = .err e t := by
    intro ht lk₂
    subst ht
    simp only [evaluateE, NF_stable hv, afterRawE, hs]
  cases v with
  | const c =>
    simp only [simplifyRawE] at hs
    split at hs
    · simp only [ResE.err.injEq] at hs; exact local_ hs.2.symm
    · cases hs
  | str x => simp only [simplifyRawE, ResE.err.injEq] at hs; exact local_ hs.2.symm
  | addr x => simp only [simplifyRawE, ResE.err.injEq] at hs; exact local_ hs.2.symm
  | seq x => simp only [simplifyRawE, ResE.err.injEq] at hs; exact local_ hs.2.symm
  | neg w =>
    -- `neutralize_raw` on `-(-w)` is `neutralize_raw w`, which leaves the `NF` tree `w` alone
    exfalso
    simp only [simplifyRawE, neutralizeRawE] at hs
    obtain ⟨hw, _⟩ := NF_neg_inv hv
    have h1 := neutralizeRawE_proj w
    rw [NF_neutralizeRaw hw] at h1
    cases hn : neutralizeRawE w with
    | ok p => rw [hn] at hs; simp [swappedE] at hs
    | _ => rw [hn] at h1; cases h1
  | bin op x y =>
    by_cases hop : op = .sub
    · subst hop
      simp only [simplifyRawE] at hs
      cases hn : neutralizeRawE (.bin .sub y x) with
      | ok p => rw [hn] at hs; cases hs
      | panic => rw [hn] at hs; cases hs
      | err e' t' =>
        rw [hn] at hs
        simp only [ResE.err.injEq] at hs
        obtain ⟨rfl, rfl⟩ := hs
        rcases neutralizeRawE_bin_cases .sub y x with h0 | ⟨_, _, _, hy0, _, _⟩
        · rw [h0] at hn
          obtain ⟨rfl, w, rfl, hw, hcn, rfl⟩ := neutralizeBinE_swap_err hv hn
          exact swap_residual_again hv hw hcn
        · exact absurd hy0 (NF_sub_rhs hv)
    · exfalso
      cases op <;> first | exact hop rfl | simp [simplifyRawE] at hs
  | _ => simp [simplifyRawE] at hs

theorem not_node_again {v : Arg} (hv : NF isReg v) {e : SimpErr} {t : Arg}
    (hs : simplifyRawE (.not v) = .err e t) : ∀ lk₂ : Bytes → Lookup, evaluateE lk₂ isReg t = .err e t := by
  have local_ : t = .not v → ∀ lk₂ : Bytes → Lookup, evaluateE lk₂ isReg t = .err e t := by
    intro ht lk₂
    subst ht
    simp only [evaluateE, NF_stable hv, afterRawE, hs]
  cases v <;> simp only [simplifyRawE, ResE.err.injEq] at hs <;> first | exact local_ hs.2.symm | cases hs

theorem addr_node_again {v : Arg} (hv : NF isReg v) {e : SimpErr} {t : Arg}
    (hs : simplifyRawE (.addr v) = .err e t) : ∀ lk₂ : Bytes → Lookup, evaluateE lk₂ isReg t = .err e t := by
  have local_ : t = .addr v → ∀ lk₂ : Bytes → Lookup, evaluateE lk₂ isReg t = .err e t := by
    intro ht lk₂
    subst ht
    simp only [evaluateE, NF_stable hv, afterRawE, hs]
  simp only [simplifyRawE] at hs
  split at hs
  · simp only [ResE.err.injEq] at hs; exact local_ hs.2.symm
  · cases hs

end

section
variable {isReg : Bytes → Bool}

theorem evaluateE_error_again_both (lk : Bytes → Lookup) (hn : NoDef lk) :
    (∀ a e t', evaluateE lk isReg a = .err e t' →
      (∀ lk₂ : Bytes → Lookup, evaluateE lk₂ isReg t' = .err e t') ∨ MergeNeut isReg e) ∧
    (∀ as e t', evaluateArgsE lk isReg as = .err e t' →
      (∀ lk₂ : Bytes → Lookup, evaluateArgsE lk₂ isReg t' = .err e t') ∨ MergeNeut isReg e) :=
  -- what has been completed before the failure is `NF`, hence evaluated to itself again
  have nf : ∀ {x e1 x'}, evaluateE lk isReg x = .ok e1 x' → NF isReg x' := fun h =>
    evaluateE_NF h (evaluateE_cause_none hn h)
  evaluateE_err_ind lk isReg
    (R := fun _ e t' => (∀ lk₂ : Bytes → Lookup, evaluateE lk₂ isReg t' = .err e t') ∨ MergeNeut isReg e)
    (Rs := fun _ e t' => (∀ lk₂ : Bytes → Lookup, evaluateArgsE lk₂ isReg t' = .err e t') ∨ MergeNeut isReg e)
    (fun _ _ _ _ _ ih => ih.imp_left fun ih lk₂ => by simp only [evaluateE, ih lk₂])
    (fun _ _ _ _ _ _ _ h1 ih => ih.imp_left fun ih lk₂ => by simp only [evaluateE, NF_stable (nf h1), ih lk₂])
    (fun _ _ _ _ _ _ _ _ _ h1 h2 hs => bin_node_again (nf h1) (nf h2) hs)
    (fun _ _ _ ih => ih.imp_left fun ih lk₂ => by simp only [evaluateE, ih lk₂])
    (fun _ _ _ _ _ h1 hs => .inl (neg_node_again (nf h1) hs))
    (fun _ _ _ ih => ih.imp_left fun ih lk₂ => by simp only [evaluateE, ih lk₂])
    (fun _ _ _ _ _ h1 hs => .inl (not_node_again (nf h1) hs))
    (fun _ _ _ ih => ih.imp_left fun ih lk₂ => by simp only [evaluateE, ih lk₂])
    (fun _ _ _ _ _ h1 hs => .inl (addr_node_again (nf h1) hs))
    (fun _ _ _ ih => ih.imp_left fun ih lk₂ => by simp only [evaluateE, ih lk₂])
    (fun _ _ _ _ ih => ih.imp_left fun ih lk₂ => by simp only [evaluateE, ih lk₂])
    (fun _ _ _ _ ih => ih.imp_left fun ih lk₂ => by simp only [evaluateArgsE, ih lk₂])
    (fun _ _ _ _ _ _ h1 ih => ih.imp_left fun ih lk₂ => by simp only [evaluateArgsE, NF_stable (nf h1), ih lk₂])

theorem evaluateE_error_again_partial {lk : Bytes → Lookup} (hn : NoDef lk) {a : Arg} {e : SimpErr} {t' : Arg}
    (h : evaluateE lk isReg a = .err e t') :
    (∀ lk₂ : Bytes → Lookup, evaluateE lk₂ isReg t' = .err e t') ∨ MergeNeut isReg e :=
  (evaluateE_error_again_both lk hn).1 a e t' h

end

end Trion.Simp
