import TrionModel.Model.Codec
/-! A tactic that splits the decoder model into its branches inside a hypothesis.  No proof uses it: a branch of the
decoder is reached through the equations of `CodecEq`. -/
namespace Trion.Codec
open Trion

macro "dec_split" "at" hres:ident : tactic => `(tactic| (
  repeat' (first
    | simp only [withReg, withCond] at $hres:ident
    | simp only [Fin.val_ofNat] at $hres:ident
    | rw [if_neg (by omega)] at $hres:ident
    | rw [if_pos (by omega)] at $hres:ident
    | split at $hres:ident
    | unfold decode16 at $hres:ident | unfold dec00000 at $hres:ident | unfold decShift at $hres:ident
    | unfold dec00011 at $hres:ident | unfold dec01000 at $hres:ident | unfold decDataProc at $hres:ident
    | unfold dec0101 at $hres:ident | unfold decLdStImm at $hres:ident | unfold dec10110 at $hres:ident
    | unfold dec10111 at $hres:ident | unfold decHint at $hres:ident | unfold dec1101 at $hres:ident
    | unfold decode32 at $hres:ident | unfold decBarrier at $hres:ident)))

end Trion.Codec
