import TrionModel.Lemmas.MapOpsBase
/-!
# Operational `put` = recursive `put` on every well-formed map
-/
namespace Trion.Map
open Trion.Dict

theorem putGo_skipA (A q : Segs) (a : Nat) (d : List UInt8) (h : ∀ s ∈ A, s.1 + s.2.length < a) :
    (putGo (A ++ q) a d).2 = A ++ (putGo q a d).2 := by
  induction A with
  | nil => rfl
  | cons s A ih =>
    obtain ⟨f, x⟩ := s
    have h1 := h (f, x) (List.mem_cons_self ..)
    simp only at h1
    rw [List.cons_append, putGo_cons, if_pos h1]
    simp only [ih (fun u hu => h u (List.mem_cons_of_mem _ hu)), List.cons_append]

theorem putGo_above (R : Segs) (a : Nat) (d : List UInt8) (h : ∀ s ∈ R, a + d.length < s.1) :
    putGo R a d = (0, (a, d) :: R) := by
  cases R with
  | nil => rfl
  | cons s r =>
    obtain ⟨f, x⟩ := s
    have h1 := h (f, x) (List.mem_cons_self ..)
    simp only at h1
    rw [putGo_cons, if_neg (by omega), if_pos h1]

theorem putGo_inside (M rest : Segs) (a : Nat) (d : List UInt8)
    (h : ∀ s ∈ M, a ≤ s.1 ∧ s.1 + s.2.length ≤ a + d.length) :
    (putGo (M ++ rest) a d).2 = (putGo rest a d).2 := by
  induction M with
  | nil => rfl
  | cons s M ih =>
    obtain ⟨f, x⟩ := s
    have h1 := h (f, x) (List.mem_cons_self ..)
    simp only at h1
    have hx : 0 < x.length ∨ x.length = 0 := by omega
    rw [List.cons_append, putGo_cons]
    by_cases c0 : f + x.length < a
    · -- impossible for any segment of `M`: `a ≤ f`
      omega
    · rw [if_neg c0]
      by_cases c1 : a + d.length < f
      · omega
      · rw [if_neg c1]
        have e1 : a - f = 0 := by omega
        have e2 : x.drop (a + d.length - f) = [] := List.drop_eq_nil_of_le (by omega)
        have e3 : min a f = a := by omega
        simp only [e1, e2, e3, List.take_zero, List.nil_append, List.append_nil]
        exact ih (fun u hu => h u (List.mem_cons_of_mem _ hu))

/-- a block of segments that each touch or overlap the pending write merges with it into one segment: the first
gives its prefix, the last its suffix, whatever lies between vanishes -/
theorem putGo_block : ∀ (B : Segs) (hne : B ≠ []) (R : Segs) (a : Nat) (d : List UInt8) (l : Nat),
    Ok l (B ++ R) → (∀ s ∈ B, a ≤ s.1 + s.2.length ∧ s.1 ≤ a + d.length) → (∀ s ∈ R, a + d.length < s.1) →
    (putGo (B ++ R) a d).2 =
      (min a (B.head hne).1, (B.head hne).2.take (a - (B.head hne).1) ++ d ++
        (B.getLast hne).2.drop (a + d.length - (B.getLast hne).1)) :: R
  | [(f, x)], _, R, a, d, l, ok, hB, hR => by
    obtain ⟨h1, h2⟩ := hB (f, x) (List.mem_cons_self ..)
    simp only at h1 h2
    have hR' := Ok_after (A := []) ok
    rw [List.singleton_append, putGo_cons, if_neg (by omega), if_neg (by omega)]
    simp only [List.head_cons, List.getLast_singleton]
    rw [putGo_above]
    intro s hs
    have := hR s hs; have := hR' s hs
    simp only [List.length_append, List.length_take, List.length_drop] at *
    omega
  | (f, x) :: t :: B', _, R, a, d, l, ok, hB, hR => by
    obtain ⟨h1, h2⟩ := hB (f, x) (List.mem_cons_self ..)
    obtain ⟨t1, t2⟩ := hB t (by simp)
    simp only at h1 h2
    have hft : f + x.length < t.1 := by have := ok.2.2.2.1; omega
    have hl : min a f + (x.take (a - f) ++ d).length = a + d.length := by
      simp only [List.length_append, List.length_take]; omega
    have ih := putGo_block (t :: B') (by simp) R (min a f) (x.take (a - f) ++ d) _ ok.2.2.2
      (fun s hs => by have := hB s (List.mem_cons_of_mem _ hs); rw [hl]; omega)
      (fun s hs => by rw [hl]; exact hR s hs)
    rw [List.cons_append, putGo_cons, if_neg (by omega), if_neg (by omega)]
    simp only
    rw [List.drop_eq_nil_of_le (show x.length ≤ a + d.length - f by omega), List.append_nil, ih, hl]
    simp only [List.head_cons, List.getLast_cons_cons]
    rw [show min a f - t.1 = 0 by omega, List.take_zero, List.nil_append, show min (min a f) t.1 = min a f by omega]

theorem putMid_zero (ps : Segs) (idx added : Nat) : putMid ps idx 0 added = .ok added := by
  rw [putMid]

theorem putMid_succ (ps : Segs) (idx n added : Nat) :
    putMid ps idx (n + 1) added =
      match ps[idx]? with
      | none => .panic "put: self.parts[idx] (middle)"
      | some s =>
        if added < s.2.length then .panic "put: added -= self.parts[idx].data.len()"
        else putMid ps (idx + 1) n (added - s.2.length) := by
  rw [putMid]; rfl

theorem putMid_spec (M : Segs) : ∀ (P Q : Segs) (added : Nat), sumLen M ≤ added →
    putMid (P ++ (M ++ Q)) P.length M.length added = .ok (added - sumLen M) := by
  induction M with
  | nil => intro P Q added _; simp [putMid_zero, sumLen]
  | cons m M ih =>
    intro P Q added h
    simp only [sumLen] at h
    rw [List.length_cons, putMid_succ, List.cons_append, getElem?_mid]
    simp only
    rw [if_neg (by omega)]
    have e : P ++ m :: (M ++ Q) = (P ++ [m]) ++ (M ++ Q) := by simp
    have e2 : P.length + 1 = (P ++ [m]).length := by simp
    rw [e, e2, ih (P ++ [m]) Q _ (by omega)]
    simp only [sumLen]
    congr 1; omega

theorem putFirst_eq (f1 : Nat) (x1 : List UInt8) (a al : Nat) (d : List UInt8) (hal : al + 1 = a + d.length)
    (hx : 0 < x1.length) (h1 : a ≤ f1 + x1.length) (h2 : f1 ≤ a + d.length) :
    putFirst (f1, x1) a al d =
      .ok (x1.take (a - f1) ++ d ++ x1.drop (a + d.length - f1),
           d.length - (min (a + d.length) (f1 + x1.length) - max a f1)) := by
  have hsl : segLast (f1, x1) = f1 + x1.length - 1 := rfl
  unfold putFirst
  simp only [hsl]
  by_cases c1 : a ≤ f1
  · rw [if_pos c1]
    by_cases c2 : al ≥ f1 + x1.length - 1
    · rw [if_pos c2, if_neg (by omega)]
      have e1 : a - f1 = 0 := by omega
      have e2 : x1.drop (a + d.length - f1) = [] := List.drop_eq_nil_of_le (by omega)
      rw [e1, e2, List.take_zero, List.nil_append, List.append_nil]
      congr 2; omega
    · rw [if_neg c2, if_neg (by omega), if_neg (by omega), if_neg (by omega)]
      have e1 : a - f1 = 0 := by omega
      have e2 : d.length - (f1 - a) = a + d.length - f1 := by omega
      rw [e1, e2, List.take_zero, List.nil_append]
      congr 2; omega
  · rw [if_neg c1]
    by_cases c2 : al > f1 + x1.length - 1
    · rw [if_pos c2, if_neg (by omega), if_neg (by omega)]
      have e2 : x1.drop (a + d.length - f1) = [] := List.drop_eq_nil_of_le (by omega)
      rw [e2, List.append_nil]
      congr 2; omega
    · rw [if_neg c2, if_neg (by omega)]
      have e2 : a - f1 + d.length = a + d.length - f1 := by omega
      rw [e2]
      congr 2; omega

theorem putLastSeg_eq (fk : Nat) (xk : List UInt8) (al e : Nat) (fdata : List UInt8) (added : Nat)
    (hal : al + 1 = e) (hk : fk ≤ e) (hx : 0 < xk.length) (hadd : min e (fk + xk.length) - fk ≤ added) :
    putLastSeg (fk, xk) al fdata added =
      .ok (fdata ++ xk.drop (e - fk), max al (fk + xk.length - 1), added - (min e (fk + xk.length) - fk)) := by
  have hsl : segLast (fk, xk) = fk + xk.length - 1 := rfl
  unfold putLastSeg
  simp only [hsl]
  by_cases c : al < fk + xk.length - 1
  · rw [if_pos c, if_neg (by omega), if_neg (by omega)]
    have e1 : xk.length - (fk + xk.length - 1 - al) = e - fk := by omega
    rw [e1]
    congr 3 <;> omega
  · rw [if_neg c, if_neg (by omega)]
    have e2 : xk.drop (e - fk) = [] := List.drop_eq_nil_of_le (by omega)
    rw [e2, List.append_nil]
    congr 3 <;> omega

/-- The window is the write `[a, al]` widened by one address on each side, `addr.saturating_sub(1)` and
`addr_last.saturating_add(1)` in `MemoryMap::put`: a segment that only touches the write is merged with it. -/
theorem put_shape_facts {ps A B R : Segs} (ok : Ok 0 ps) {a al n : Nat} (ha : a ≤ u32Max) (hal : al + 1 = a + n)
    (hal2 : al ≤ u32Max) (sh : Shape ps (a - 1) (min (al + 1) u32Max) A B R) :
    (∀ s ∈ A, s.1 + s.2.length < a) ∧
    (∀ s ∈ B, 0 < s.2.length ∧ a ≤ s.1 + s.2.length ∧ s.1 ≤ a + n) ∧
    (∀ s ∈ R, a + n < s.1) := by
  have hu : u32Max = 4294967295 := rfl
  refine ⟨fun s hs => ?_, fun s hs => ?_, fun s hs => ?_⟩
  · have := sh.hA s hs; omega
  · have := sh.hB s hs; omega
  · have := Ok_mem_bounds ok (show s ∈ ps by rw [sh.eq]; simp [hs]); have := sh.hR s hs; omega

theorem put_fit (ps : Segs) {a : Nat} {d : List UInt8} (hd : d ≠ []) (hfit : a + d.length ≤ 4294967296) :
    put ps a d = (.ok (d.length - (putGo ps a d).1), (putGo ps a d).2) := by
  unfold put
  rw [List.isEmpty_eq_false_iff.mpr hd]
  simp only [Bool.false_eq_true, if_false]
  rw [if_neg (by unfold u32Max; omega)]

theorem putOps_core (ps : Segs) {a : Nat} {d : List UInt8} (hd : d ≠ []) (hfit : a + d.length ≤ 4294967296) :
    putOps ps a d =
      match firstIdx ps (a - 1) with
      | .panic => .panic "locate"
      | .ok idxFirst =>
        (putIdxLast ps a (a + d.length - 1)).bind fun idxLast =>
        match idxLast with
        | none =>
          (mkSeg a (a + d.length - 1) d "put: new segment").bind fun seg =>
          (vecInsert ps idxFirst seg).bind fun ps' =>
          .ok (.ok d.length, ps')
        | some idxLast =>
          (putMerge ps a (a + d.length - 1) d idxFirst idxLast).bind fun (added, ps') =>
          .ok (.ok added, ps') := by
  have hdl : 0 < d.length := List.length_pos_iff.mpr hd
  have hal : a + (d.length - 1) % 4294967296 = a + d.length - 1 := by
    rw [Nat.mod_eq_of_lt (by omega)]; omega
  unfold putOps
  rw [List.isEmpty_eq_false_iff.mpr hd]
  simp only [Bool.false_eq_true, if_false]
  rw [if_neg (by unfold u32Max; omega), hal, if_neg (by unfold u32Max; omega)]
  rfl

theorem putIdxLast_shape {l : Nat} {ps A B R : Segs} (ok : Ok l ps) {a al : Nat}
    (sh : Shape ps (a - 1) (min (al + 1) u32Max) A B R) (h : a - 1 ≤ min (al + 1) u32Max) :
    putIdxLast ps a al = .ok (if B = [] then none else some (A.length + (B.length - 1))) := by
  unfold putIdxLast
  rw [sh.locate_below ok h]
  rcases List.eq_nil_or_concat B with rfl | ⟨B', u, rfl⟩
  · rcases List.eq_nil_or_concat A with rfl | ⟨A', u, rfl⟩
    · rfl
    · -- the search answers the last segment below the window, which ends below `a - 1`
      have := sh.hA u (by simp)
      have hu : ps[A'.length]? = some u := getElem?_at (R := R) (by rw [sh.eq]; simp) rfl
      rw [if_pos (by simp)]
      simp only [List.concat_eq_append, List.append_nil, List.length_append, List.length_singleton,
        Nat.add_sub_cancel, hu]
      rw [if_neg (by unfold segLast; omega), if_pos trivial]
  · have := sh.hB u (by simp)
    have hu : ps[A.length + B'.length]? = some u :=
      getElem?_at (A := A ++ B') (R := R) (by rw [sh.eq]; simp) (by simp)
    rw [if_pos (by rw [List.length_append, List.length_concat]; omega)]
    simp only [List.concat_eq_append, List.length_append, List.length_singleton, ← Nat.add_assoc,
      Nat.add_sub_cancel, hu]
    rw [if_pos (by unfold segLast; omega), if_neg (by simp)]

theorem putMerge_single (A R : Segs) (f1 : Nat) (x1 : List UInt8) (a al : Nat) (d : List UInt8)
    (hal : al + 1 = a + d.length) (hx : 0 < x1.length) (h1 : a ≤ f1 + x1.length) (h2 : f1 ≤ a + d.length) :
    putMerge (A ++ (f1, x1) :: R) a al d A.length A.length =
      .ok (d.length - (min (a + d.length) (f1 + x1.length) - max a f1),
           A ++ (min a f1, x1.take (a - f1) ++ d ++ x1.drop (a + d.length - f1)) :: R) := by
  unfold putMerge
  simp only [getElem?_mid]
  rw [putFirst_eq f1 x1 a al d hal hx h1 h2]
  simp only [Out.bind_ok]
  rw [if_neg (Nat.lt_irrefl _), mkSeg_ok _ (by
    unfold segLast
    simp only [List.length_append, List.length_take, List.length_drop]
    omega)]
  simp only [Out.bind_ok]
  rw [set_mid, Nat.min_comm f1 a]

theorem putMerge_multi (A M R : Segs) (f1 : Nat) (x1 : List UInt8) (fk : Nat) (xk : List UInt8) (a al : Nat)
    (d : List UInt8) (hal : al + 1 = a + d.length) (hx1 : 0 < x1.length) (hxk : 0 < xk.length)
    (h1 : a ≤ f1 + x1.length) (h2 : f1 ≤ a + d.length) (h1k : f1 + x1.length < fk) (hk : fk ≤ a + d.length)
    (hle : (min (a + d.length) (f1 + x1.length) - max a f1) +
      (sumLen M + (min (a + d.length) (fk + xk.length) - fk)) ≤ d.length) :
    putMerge (A ++ (f1, x1) :: (M ++ (fk, xk) :: R)) a al d A.length (A.length + 1 + M.length) =
      .ok (d.length - ((min (a + d.length) (f1 + x1.length) - max a f1) +
              (sumLen M + (min (a + d.length) (fk + xk.length) - fk))),
           A ++ (min a f1, x1.take (a - f1) ++ d ++ xk.drop (a + d.length - fk)) :: R) := by
  have hmid : ∀ added, sumLen M ≤ added →
      putMid (A ++ (f1, x1) :: (M ++ (fk, xk) :: R)) (A.length + 1) M.length added = .ok (added - sumLen M) := by
    intro added h
    have e1 : A ++ (f1, x1) :: (M ++ (fk, xk) :: R) = (A ++ [(f1, x1)]) ++ (M ++ (fk, xk) :: R) := by simp
    have e2 : A.length + 1 = (A ++ [(f1, x1)]).length := by simp
    rw [e1, e2]; exact putMid_spec M _ _ added h
  unfold putMerge
  simp only [getElem?_mid]
  rw [putFirst_eq f1 x1 a al d hal hx1 h1 h2]
  simp only [Out.bind_ok]
  rw [if_pos (by omega), show A.length + 1 + M.length - (A.length + 1) = M.length by omega, hmid _ (by omega)]
  simp only [Out.bind_ok]
  rw [if_neg (by simp only [List.length_append, List.length_cons]; omega),
    getElem?_at (A := A ++ (f1, x1) :: M) (s := (fk, xk)) (R := R) (by simp) (by simp; omega)]
  simp only
  rw [putLastSeg_eq fk xk al (a + d.length) _ _ hal hk hxk (by omega)]
  simp only [Out.bind_ok]
  rw [mkSeg_ok _ (by
    simp only [List.length_append, List.length_take, List.length_drop]
    omega)]
  simp only [Out.bind_ok]
  -- the merged segment replaces the first one; `M` and the last one are drained
  rw [set_mid, List.drop_eq_nil_of_le (show x1.length ≤ a + d.length - f1 by omega), List.append_nil,
    Nat.min_comm f1 a,
    vecDrain_at (A := A ++ [(min a f1, x1.take (a - f1) ++ d ++ xk.drop (a + d.length - fk))])
      (M := M ++ [(fk, xk)]) (R := R) (by simp) (by simp) (by simp; omega)]
  simp only [Out.bind_ok, List.append_assoc, List.singleton_append]
  congr 2
  omega

theorem putOps_eq {ps : Segs} (inv : MInv ps) {a : Nat} (ha : a ≤ u32Max) (d : List UInt8) :
    putOps ps a d = .ok (put ps a d) := by
  have hu : u32Max = 4294967295 := rfl
  have ok : Ok 0 ps := inv
  by_cases hd : d = []
  · subst hd; rfl
  have hdl : 0 < d.length := List.length_pos_iff.mpr hd
  by_cases hov : 4294967296 < a + d.length
  · unfold putOps put
    rw [List.isEmpty_eq_false_iff.mpr hd]
    simp only [Bool.false_eq_true, if_false]
    rw [if_pos (by omega), if_pos (by omega)]
  have hfit : a + d.length ≤ 4294967296 := by omega
  rw [put_fit ps hd hfit, putGo_fst ps 0 a d ok hd, putOps_core ps hd hfit]
  have hal1 : a + d.length - 1 + 1 = a + d.length := by omega
  have hle := occSegs_le ok a d.length
  obtain ⟨A, B, R, sh⟩ := shape_exists ok (a - 1) (min (a + d.length - 1 + 1) u32Max)
  obtain ⟨hAb', fB, fR⟩ := put_shape_facts ok ha hal1 (by omega) sh
  have hAb : ∀ s ∈ A, s.1 + s.2.length ≤ a := fun s hs => by have := hAb' s hs; omega
  have hRa : ∀ s ∈ R, a + d.length ≤ s.1 := fun s hs => by have := fR s hs; omega
  rw [sh.firstIdx ok]
  simp only
  rw [putIdxLast_shape ok sh (by omega)]
  obtain ⟨hps, -, -, -⟩ := sh
  subst hps
  rcases B with _ | ⟨⟨f1, x1⟩, B'⟩
  · -- nothing touches the pending write: a new segment is inserted
    rw [if_pos rfl]
    simp only [List.nil_append, Out.bind_ok] at ok ⊢
    rw [mkSeg_ok _ rfl]
    simp only [Out.bind_ok]
    rw [vecInsert_at rfl rfl]
    simp only [Out.bind_ok]
    rw [putGo_skipA A R a d hAb', putGo_above R a d fR, occSegs_append,
      occSegs_below A _ _ hAb, occSegs_above R _ _ hRa]
    rfl
  · obtain ⟨hx1, h1a, h1b⟩ := fB (f1, x1) (List.mem_cons_self ..)
    simp only at hx1 h1a h1b
    rw [if_neg (List.cons_ne_nil _ _)]
    simp only [Out.bind_ok, List.length_cons, Nat.add_sub_cancel]
    rcases List.eq_nil_or_concat B' with rfl | ⟨M, ⟨fk, xk⟩, rfl⟩
    · -- exactly one touching segment
      simp only [List.cons_append, List.nil_append, List.length_nil, Nat.add_zero] at ok ⊢
      rw [putMerge_single A R f1 x1 a _ d hal1 hx1 h1a h1b]
      simp only [Out.bind_ok]
      have hgo := putGo_block [(f1, x1)] (by simp) R a d _ (Ok_append_right ok)
        (fun s hs => by rw [List.mem_singleton.mp hs]; exact ⟨h1a, h1b⟩) fR
      simp only [List.singleton_append, List.head_cons, List.getLast_singleton] at hgo
      rw [putGo_skipA A _ a d hAb', hgo, occSegs_append, occSegs_below A _ _ hAb]
      simp only [occSegs]
      rw [occSegs_above R _ _ hRa, Nat.zero_add, Nat.add_zero]
    · -- several touching segments: first, M, last
      simp only [List.concat_eq_append, List.cons_append, List.append_assoc, List.nil_append, List.length_append,
        List.length_singleton] at ok hle fB ⊢
      obtain ⟨hxk, hka, hkb⟩ := fB (fk, xk) (by simp)
      simp only at hxk hka hkb
      obtain ⟨h1k, hM, _⟩ := Ok_mid2 ok
      simp only at h1k hM
      have hocc : occSegs (A ++ (f1, x1) :: (M ++ (fk, xk) :: R)) a (a + d.length) =
          (min (a + d.length) (f1 + x1.length) - max a f1) + (sumLen M +
            (min (a + d.length) (fk + xk.length) - fk)) := by
        rw [occSegs_append, occSegs_below A _ _ hAb]
        simp only [occSegs]
        rw [occSegs_append, occSegs_inside M _ _ (fun s hs => by have := hM s hs; omega)]
        simp only [occSegs]
        rw [occSegs_above R _ _ hRa]; omega
      rw [hocc] at hle ⊢
      rw [show A.length + (M.length + 1) = A.length + 1 + M.length by omega,
        putMerge_multi A M R f1 x1 fk xk a _ d hal1 hx1 hxk h1a h1b h1k hkb hle]
      simp only [Out.bind_ok]
      have hgo := putGo_block ((f1, x1) :: (M ++ [(fk, xk)])) (by simp) R a d _
        (by simpa using Ok_append_right ok)
        (fun s hs => (fB s (by simpa using hs)).2) fR
      rw [List.getLast_cons (by simp), List.getLast_concat] at hgo
      simp only [List.cons_append, List.append_assoc, List.nil_append, List.head_cons] at hgo
      rw [putGo_skipA A _ a d hAb', hgo, List.append_assoc]

end Trion.Map
