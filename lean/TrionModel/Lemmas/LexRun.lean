import TrionModel.Lemmas.LexDoNext
/-!
# `next_token` and the run: by hand on a text that begins with its token; on any well-formed text

The skip loop is taken one turn at a time by what the text begins with; `SkipSpec` and `DoSpec` give `StepSpec` for one
`next_token`, and the iteration gives `Placed`: every token sits at the position the specification assigns to its byte
offset (`tokens_spec`). `calls` is the run as successive calls of `Iterator::next` (`calls_run`, behind C10 `lex_shape`).
-/
namespace Trion.Lex
open Trion.Pos (isCont adv countLF)

/-! ### The first token of a text, by hand

The route of the single-literal theorems of `Props/C11.lean`: the first `next_token` is given by the arm's equation under
`nextToken_doNext` (`number_next`, value and error alike; `char_bad`, `str_reject`) or by `nextToken_spell`
(Lemmas/LexLayout.lean; `char_lit`, `str_lit`); then `tokens_single` for an accepted literal, `tokens_error` for a
rejected one. -/

theorem skipSpaces_none (s : State) (h : ∀ b, s.data.head? = some b → isSpace b = false) : skipSpaces s = some s := by
  obtain ⟨d, u, l, c⟩ := s
  cases d with
  | nil => simp [skipSpaces, position]
  | cons b r => simp [skipSpaces, position, h b rfl]

theorem skipLoop_stop (f : Nat) (u : Bool) (l c : Nat) (d : Bytes) (hd : ∀ b, d.head? = some b → isSpace b = false)
    (h1 : startsWith2 d 47 47 = false) (h2 : startsWith2 d 47 42 = false) :
    skipLoop (f + 1) ⟨d, u, l, c⟩ = .go ⟨d, u, l, c⟩ := by
  rw [skipLoop, skipSpaces_none _ hd]
  simp [h1, h2]

theorem nextToken_ended (l c : Nat) : nextToken ⟨[], false, l, c⟩ = .done ⟨[], false, l, c⟩ := by
  simp [nextToken, skipLoop]

theorem nextToken_doNext (s : State) (b0 : UInt8) (tl : Bytes) (hd : s.data = b0 :: tl)
    (h1 : isSpace b0 = false) (h2 : b0.toNat ≠ 47) :
    nextToken s = match doNext s with
      | .err e s2 => .err e s2.clear
      | r => r := by
  obtain ⟨d, u, l, c⟩ := s
  subst hd
  unfold nextToken
  rw [skipLoop_stop _ u l c (b0 :: tl) (by simp [h1]) (by cases tl <;> simp [startsWith2, h2])
    (by cases tl <;> simp [startsWith2, h2])]
  simp only [List.isEmpty_cons, Bool.not_false, if_true]
  cases doNext ⟨b0 :: tl, u, l, c⟩ <;> rfl

theorem tokens_single (lit : Bytes) (hu : Utf8 lit) (t : Tok) (l c : Nat)
    (h : nextToken ⟨lit, false, 1, 1⟩ = .tok ⟨1, 1, t⟩ ⟨[], false, l, c⟩) :
    tokens lit = .ok ⟨[⟨1, 1, t⟩], none, l, c⟩ := by
  unfold tokens
  rw [new_of_utf8 lit hu, run, h]
  simp only
  rw [run, nextToken_ended]
  simp [Out.push]

theorem tokens_error (lit : Bytes) (hu : Utf8 lit) (e : LexErr) (s' : State)
    (h : nextToken ⟨lit, false, 1, 1⟩ = .err e s') :
    tokens lit = .ok ⟨[], some e, s'.line, s'.col⟩ := by
  unfold tokens
  rw [new_of_utf8 lit hu, run, h]

theorem isSpace_ascii {b : UInt8} (h : isSpace b = true) : b.toNat < 128 := by
  simp [isSpace] at h
  omega

theorem skipSpaces_run (s : State) (w rest : Bytes) (hd : s.data = w ++ rest) (hw : ∀ x ∈ w, isSpace x = true)
    (hr : ∀ b, rest.head? = some b → isSpace b = false ∧ isCont b = false) :
    skipSpaces s = some ⟨rest, s.utfErr, (adv s.pos w).1, (adv s.pos w).2⟩ := by
  obtain ⟨d, u, l, c⟩ := s
  simp only at hd; subst hd
  cases w with
  | nil =>
    cases rest with
    | nil => simp [skipSpaces, position, State.pos, Pos.adv_nil]
    | cons b r => simp [skipSpaces, position, (hr b rfl).1, State.pos, Pos.adv_nil]
  | cons x w' =>
    have hgood : Good (x :: w') := good_ascii _ (fun y hy => isSpace_ascii (hw y hy))
    have hnc : ∀ b, rest.head? = some b → isCont b = false := fun b hb => (hr b hb).2
    have e1 := sliceTo_split (x :: w') rest hnc
    have e2 := sliceFrom_split (x :: w') rest hnc
    simp only [List.length_cons] at e1 e2
    cases rest with
    | nil =>
      have hpos : position (fun b => !isSpace b) (x :: w' ++ []) = none :=
        position_none_of_all _ (by intro y hy; simp at hy; simp [hw y (by simpa using hy)])
      unfold skipSpaces
      simp only [hpos, List.length_cons, List.length_append, List.length_nil, Nat.add_zero, Nat.zero_lt_succ, if_true, gt_iff_lt]
      rw [e1, e2]
      simp only
      rw [updatePos_eq hgood]
      rfl
    | cons b r =>
      have hpos : position (fun b => !isSpace b) (x :: w' ++ b :: r) = some (x :: w').length :=
        position_append_of_all (p := fun b => !isSpace b) (x :: w') b r
          (by intro y hy; simp [hw y hy]) (by simp [(hr b rfl).1])
      unfold skipSpaces
      simp only [hpos, List.length_cons, Nat.zero_lt_succ, if_true, gt_iff_lt]
      rw [e1, e2]
      simp only
      rw [updatePos_eq hgood]
      rfl

theorem space_split (d : Bytes) : ∃ w rest, d = w ++ rest ∧ (∀ x ∈ w, isSpace x = true) ∧
    (∀ b, rest.head? = some b → isSpace b = false) := by
  obtain ⟨w, rest, hd, hw, hr⟩ := run_split isSpace d
  refine ⟨w, rest, hd, hw, ?_⟩
  rcases hr with rfl | ⟨b, tl, rfl, hb⟩
  · simp
  · intro c hc; simp at hc; subst hc; exact hb

theorem startsWith2_head {d : Bytes} {y : Nat} (h : startsWith2 d 47 y = true) :
    ∀ b, d.head? = some b → isSpace b = false := by
  obtain ⟨a0, a1, tl, rfl, h0, _⟩ := (startsWith2_iff _ _ _).mp h
  intro b hb
  simp at hb; subst hb
  simp [isSpace, h0]

/-- white space costs no turn of the loop: the turn goes to what follows it -/
theorem skipLoop_ws (f : Nat) (u : Bool) (l c : Nat) (w rest : Bytes) (hw : ∀ x ∈ w, isSpace x = true)
    (hr : ∀ b, rest.head? = some b → isSpace b = false ∧ isCont b = false) :
    skipLoop (f + 1) ⟨w ++ rest, u, l, c⟩ = skipLoop (f + 1) ⟨rest, u, (adv (l, c) w).1, (adv (l, c) w).2⟩ := by
  have e1 := skipSpaces_run ⟨w ++ rest, u, l, c⟩ w rest rfl hw hr
  have e2 := skipSpaces_none ⟨rest, u, (adv (l, c) w).1, (adv (l, c) w).2⟩ (fun b hb => (hr b hb).1)
  rw [skipLoop, skipLoop, e1, e2]
  simp only [State.pos]
  cases rest with
  | cons b r => simp
  | nil =>
    cases w with
    | nil => simp [Pos.adv_nil]
    | cons x w' => simp [startsWith2]

theorem skipLoop_line (f : Nat) (u : Bool) (l c : Nat) (cpre post : Bytes)
    (hsw : startsWith2 (cpre ++ 10 :: post) 47 47 = true) (hno : ∀ x ∈ cpre, x.toNat ≠ 10)
    (hp : ∀ b, post.head? = some b → isCont b = false) :
    skipLoop (f + 1) ⟨cpre ++ 10 :: post, u, l, c⟩ = skipLoop f ⟨post, u, l + 1, 1⟩ := by
  have hpos : position (fun b => b.toNat == 10) (cpre ++ 10 :: post) = some cpre.length :=
    position_append_of_all cpre 10 post (by intro x hx; simpa using hno x hx) (by decide)
  have hsl : sliceFrom (cpre ++ 10 :: post) (cpre.length + 1) = some post := by
    have := sliceFrom_split (cpre ++ [10]) post hp
    simpa using this
  rw [skipLoop, skipSpaces_none _ (startsWith2_head hsw)]
  simp [hsw, hpos, hsl]

theorem skipLoop_lineEnd (f : Nat) (u : Bool) (l c : Nat) (d : Bytes) (hsw : startsWith2 d 47 47 = true)
    (hno : ∀ x ∈ d, x.toNat ≠ 10) (hg : Good d) :
    skipLoop (f + 1) ⟨d, u, l, c⟩ =
      if u then .err ⟨(adv (l, c) d).1, (adv (l, c) d).2, .badUnicode⟩ ⟨[], false, (adv (l, c) d).1, (adv (l, c) d).2⟩
      else .go ⟨[], false, (adv (l, c) d).1, (adv (l, c) d).2⟩ := by
  have hpos : position (fun b => b.toNat == 10) d = none :=
    position_none_of_all d (by intro x hx; simpa using hno x hx)
  have hne : d ≠ [] := by rintro rfl; simp [startsWith2] at hsw
  rw [skipLoop, skipSpaces_none _ (startsWith2_head hsw)]
  simp [hsw, hpos, updatePos_eq hg, hne]

theorem startsWith2_block {d : Bytes} (h : startsWith2 d 47 42 = true) : startsWith2 d 47 47 = false := by
  obtain ⟨a0, a1, tl, rfl, _, h1⟩ := (startsWith2_iff _ _ _).mp h
  simp [startsWith2, h1]

theorem skipLoop_block (f : Nat) (u : Bool) (l c : Nat) (cm post : Bytes) (k : Nat)
    (hsw : startsWith2 (cm ++ post) 47 42 = true) (hsc : scanBlock ((cm ++ post).drop 2) 0 2 1 = some k)
    (hk : cm.length = 4 + k) (hg : Good cm) (hp : ∀ b, post.head? = some b → isCont b = false) :
    skipLoop (f + 1) ⟨cm ++ post, u, l, c⟩ = skipLoop f ⟨post, u, (adv (l, c) cm).1, (adv (l, c) cm).2⟩ := by
  have hne : cm ≠ [] := by rintro rfl; simp at hk; omega
  rw [skipLoop, skipSpaces_none _ (startsWith2_head hsw)]
  simp [hsw, startsWith2_block hsw, hsc, ← hk, sliceTo_split cm post hp, sliceFrom_split cm post hp, updatePos_eq hg, hne]

theorem skipLoop_blockOpen (f : Nat) (u : Bool) (l c : Nat) (d : Bytes) (hsw : startsWith2 d 47 42 = true)
    (hsc : scanBlock (d.drop 2) 0 2 1 = none) (hg : Good d) :
    skipLoop (f + 1) ⟨d, u, l, c⟩ =
      .err ⟨(adv (l, c) d).1, (adv (l, c) d).2, if u then .badUnicode else .blockComment⟩
        ⟨[], false, (adv (l, c) d).1, (adv (l, c) d).2⟩ := by
  have hne : d ≠ [] := by rintro rfl; simp [startsWith2] at hsw
  rw [skipLoop, skipSpaces_none _ (startsWith2_head hsw)]
  simp [hsw, startsWith2_block hsw, hsc, updatePos_eq hg, hne]

/-- What the skip loop may do on a well-formed text: stop after a prefix `pre` (white space and comments) with the position
advanced over it as specified, or report an error (`ErrSpec`: an unterminated block comment; ill-formed UTF-8 behind the
valid part). -/
def SkipSpec (s : State) : SkipRes → Prop
  | .go s' => ∃ pre, s.data = pre ++ s'.data ∧ Utf8 s'.data ∧ s'.pos = adv s.pos pre ∧ s'.utfErr = s.utfErr
  | .err e s' => ErrSpec s e s'
  | .panic => False
  | .fuel => False

theorem skipSpec_trans {s s2 : State} {p : Bytes} {r : SkipRes} (hd : s.data = p ++ s2.data)
    (hpos : s2.pos = adv s.pos p) (hue : s2.utfErr = s.utfErr) (h : SkipSpec s2 r) : SkipSpec s r := by
  cases r with
  | go s' =>
    obtain ⟨pre, h1, h2, h3, h4⟩ := h
    refine ⟨p ++ pre, by rw [hd, h1]; simp, h2, ?_, by rw [h4, hue]⟩
    rw [h3, hpos, Pos.adv_append]
  | err e s' => exact ErrSpec.trans hd hpos h
  | panic => exact h
  | fuel => exact h

theorem adv_line_comment (p : Nat × Nat) (cpre : Bytes) (lf : UInt8) (hno : ∀ x ∈ cpre, x.toNat ≠ 10)
    (hlf : lf.toNat = 10) : adv p (cpre ++ [lf]) = (p.1 + 1, 1) := by
  rw [Pos.adv_append, Pos.adv_closed p cpre, countLF_eq_zero hno]
  simp [adv, Pos.step, hlf]

theorem scanStep_zero {b c : UInt8} {p start depth : Nat} (hdep : depth ≥ 1)
    (h : (scanStep b c p start depth).2 = 0) : c.toNat = 47 := by
  unfold scanStep at h
  simp only at h
  split at h
  · omega
  · split at h
    · rename_i hclose
      simp at hclose
      exact hclose.2
    · omega

theorem scanBlock_some {l : Bytes} {k start depth k' : Nat} (hdep : depth ≥ 1)
    (h : scanBlock l k start depth = some k') :
    ∃ j c, k' = k + j ∧ l[j + 1]? = some c ∧ c.toNat = 47 := by
  induction l generalizing k start depth with
  | nil => simp [scanBlock] at h
  | cons b tl ih =>
    cases tl with
    | nil => simp [scanBlock] at h
    | cons c tl' =>
      rw [scanBlock] at h
      by_cases hz : (scanStep b c (k + 2) start depth).2 = 0
      · simp only [hz, beq_self_eq_true, if_true] at h
        cases h
        exact ⟨0, c, rfl, rfl, scanStep_zero hdep hz⟩
      · have : ((scanStep b c (k + 2) start depth).2 == 0) = false := by simpa using hz
        simp only [this, Bool.false_eq_true, if_false] at h
        obtain ⟨j, c', hk, hc1, hc2⟩ := ih (by omega) h
        exact ⟨j + 1, c', by omega, by simpa using hc1, hc2⟩

theorem split_at_index {d : Bytes} {i : Nat} {c : UInt8} (h : d[i]? = some c) :
    ∃ pre post, d = pre ++ c :: post ∧ pre.length = i := by
  induction d generalizing i with
  | nil => simp at h
  | cons b d ih =>
    cases i with
    | zero => simp at h; subst h; exact ⟨[], d, rfl, rfl⟩
    | succ i =>
      simp at h
      obtain ⟨pre, post, hd, hl⟩ := ih h
      exact ⟨b :: pre, post, by rw [hd]; rfl, by simp [hl]⟩

theorem skipLoop_spec (f : Nat) (s : State) (hu : Utf8 s.data) (hf : s.data.length < f) :
    SkipSpec s (skipLoop f s) := by
  induction f generalizing s with
  | zero => omega
  | succ f ih =>
    obtain ⟨d, u, l, c⟩ := s
    obtain ⟨w, rest, rfl, hw, hr⟩ := space_split d
    have hur : Utf8 rest := utf8_drop_ascii hu (fun x hx => isSpace_ascii (hw x hx))
    rw [skipLoop_ws f u l c w rest hw (fun b hb => ⟨hr b hb, utf8_head? hur b hb⟩)]
    refine skipSpec_trans (s2 := ⟨rest, u, (adv (l, c) w).1, (adv (l, c) w).2⟩) (p := w) rfl rfl rfl ?_
    generalize (adv (l, c) w).1 = l1
    generalize (adv (l, c) w).2 = c1
    have hlen : rest.length ≤ f := by simp at hf; omega
    by_cases hlc : startsWith2 rest 47 47 = true
    · cases hp : position (fun b => b.toNat == 10) rest with
      | none =>
        rw [skipLoop_lineEnd f u l1 c1 rest hlc (fun x hx => by simpa using position_none hp x hx) (good_of_utf8 hur)]
        cases u with
        | true => exact errSpec_end ⟨rest, true, l1, c1⟩ _
        | false => exact ⟨rest, by simp, Utf8.nil, rfl, rfl⟩
      | some i =>
        obtain ⟨cpre, lf, post, rfl, _, hlf, hall⟩ := position_some hp
        obtain rfl : lf = 10 := UInt8.toNat_inj.1 (by simpa using hlf)
        have hpost : Utf8 post := utf8_split_after_ascii hur (by decide)
        have hno : ∀ x ∈ cpre, x.toNat ≠ 10 := fun x hx => by simpa using hall x hx
        rw [skipLoop_line f u l1 c1 cpre post hlc hno (utf8_head? hpost)]
        exact skipSpec_trans (s2 := ⟨post, u, l1 + 1, 1⟩) (p := cpre ++ [10]) (by simp)
          (adv_line_comment (l1, c1) cpre 10 hno rfl).symm rfl (ih _ hpost (by simp at hlen ⊢; omega))
    · by_cases hbc : startsWith2 rest 47 42 = true
      · cases hsc : scanBlock (rest.drop 2) 0 2 1 with
        | none =>
          rw [skipLoop_blockOpen f u l1 c1 rest hbc hsc (good_of_utf8 hur)]
          exact errSpec_end ⟨rest, u, l1, c1⟩ _
        | some k =>
          obtain ⟨a0, a1, tl, rfl, _, _⟩ := (startsWith2_iff _ _ _).mp hbc
          obtain ⟨j, x, rfl, hx1, hx2⟩ := scanBlock_some (by omega) hsc
          obtain ⟨cpre, post, hsplit, hl⟩ := split_at_index (d := a0 :: a1 :: tl) (i := j + 3) (by simpa using hx1)
          have hd2 : a0 :: a1 :: tl = (cpre ++ [x]) ++ post := by rw [hsplit]; simp
          rw [hd2] at hur hbc hsc hlen ⊢
          have hpost : Utf8 post := utf8_split_after_ascii (by simpa using hur) (by omega)
          rw [skipLoop_block f u l1 c1 (cpre ++ [x]) post (0 + j) hbc hsc (by simp; omega) (good_of_utf8_prefix hur)
            (utf8_head? hpost)]
          exact skipSpec_trans (s2 := ⟨post, u, _, _⟩) (p := cpre ++ [x]) rfl rfl rfl
            (ih _ hpost (by simp at hlen ⊢; omega))
      · rw [skipLoop_stop f u l1 c1 rest hr (by simpa using hlc) (by simpa using hbc)]
        exact ⟨[], by simp, hur, rfl, rfl⟩

/-- What one `next()` may do on a well-formed text — `SkipSpec` followed by `DoSpec`: a token placed after the skipped
prefix `pre`; an error (`ErrSpec`); or the end, with the text used up, the flag clear and the position advanced over all
of it. -/
def StepSpec (s : State) : Step → Prop
  | .tok t s' => ∃ pre mid, s.data = pre ++ mid ++ s'.data ∧ Utf8 s'.data ∧ s'.utfErr = s.utfErr ∧
      (t.line, t.col) = adv s.pos pre ∧ s'.pos = adv s.pos (pre ++ mid) ∧
      ∃ b, mid.head? = some b ∧ startsTok t.val b = true
  | .err e s' => ErrSpec s e s'
  | .done s' => s'.data = [] ∧ s'.utfErr = false ∧ s.utfErr = false ∧ s'.pos = adv s.pos s.data
  | .panic => False
  | .fuel => False

theorem nextToken_spec (s : State) (hu : Utf8 s.data) : StepSpec s (nextToken s) := by
  unfold nextToken
  have hsk := skipLoop_spec (s.data.length + 1) s hu (by omega)
  cases hr : skipLoop (s.data.length + 1) s with
  | fuel => rw [hr] at hsk; exact hsk
  | panic => rw [hr] at hsk; exact hsk
  | err e s1 => rw [hr] at hsk; exact hsk
  | go s1 =>
    rw [hr] at hsk
    obtain ⟨pre, hd, hu1, hpos, hue⟩ := hsk
    simp only
    by_cases hne : s1.data = []
    · have : (!s1.data.isEmpty) = false := by simp [hne]
      simp only [this, Bool.false_eq_true, if_false]
      split
      · exact ⟨hne, rfl, rfl, pre, [], by rw [hd, hne], hpos⟩
      · rename_i hu0
        simp at hu0
        refine ⟨hne, hu0, by rw [← hue, hu0], ?_⟩
        rw [hpos, hd, hne]; simp
    · have : (!s1.data.isEmpty) = true := by simp [hne]
      simp only [this, if_true]
      have hdo := doSpec_doNext s1 hu1 hne
      cases hdn : doNext s1 with
      | tok t s2 =>
        rw [hdn] at hdo
        obtain ⟨mid, h1, h2, h3, h4, h5, h6, h7⟩ := hdo
        refine ⟨pre, mid, by rw [hd, h1]; simp, h2, by rw [h3, hue], ?_, ?_, h7⟩
        · rw [h4, h5]; exact hpos
        · rw [h6, hpos, Pos.adv_append]
      | err e s2 =>
        rw [hdn] at hdo
        obtain ⟨_, _, h3, h4⟩ := ErrSpec.trans hd hpos hdo
        exact ⟨rfl, rfl, h3, h4⟩
      | done s2 => rw [hdn] at hdo; exact hdo.elim
      | panic => rw [hdn] at hdo; exact hdo.elim
      | fuel => rw [hdn] at hdo; exact hdo.elim

/-- tokens sit at increasing byte offsets of the text, each at the position the specification assigns
to its offset, and the byte there is one a token of that kind begins with -/
inductive Placed (txt : Bytes) : Nat → List Token → Prop
  | nil (start : Nat) : Placed txt start []
  | cons (start o e : Nat) (t : Token) (ts : List Token) :
      start ≤ o → o < e → e ≤ txt.length →
      (t.line, t.col) = Pos.of (txt.take o) →
      (∃ b, txt[o]? = some b ∧ startsTok t.val b = true) →
      Placed txt e ts → Placed txt start (t :: ts)

theorem Placed.mem {txt : Bytes} {start : Nat} {ts : List Token} (h : Placed txt start ts) :
    ∀ t ∈ ts, ∃ o, start ≤ o ∧ o < txt.length ∧ (t.line, t.col) = Pos.of (txt.take o) ∧
      ∃ b, txt[o]? = some b ∧ startsTok t.val b = true := by
  induction h with
  | nil _ => simp
  | cons start o e t ts h1 h2 h3 h4 h5 _ ih =>
    intro t' ht'
    rcases List.mem_cons.mp ht' with rfl | ht'
    · exact ⟨o, h1, by omega, h4, h5⟩
    · obtain ⟨o', ho', rest⟩ := ih t' ht'
      exact ⟨o', by omega, rest⟩

theorem run_spec (full : Bytes) (f : Nat) (s : State) (consumed : Bytes) (hu : Utf8 s.data)
    (hfull : full = consumed ++ s.data) (hpos : s.pos = Pos.of consumed) (hf : s.data.length + 1 ≤ f) :
    ∃ o, run f s = .ok o ∧ Placed full consumed.length o.toks ∧
      (o.err = none → (o.endLine, o.endCol) = Pos.of full ∧ s.utfErr = false) ∧
      (∀ e, o.err = some e → (o.endLine, o.endCol) = (e.line, e.col) ∧
        ∃ pre rest, full = pre ++ rest ∧ (e.line, e.col) = Pos.of pre) := by
  induction f generalizing s consumed with
  | zero => omega
  | succ f ih =>
    unfold run
    have hst := nextToken_spec s hu
    cases hn : nextToken s with
    | panic => rw [hn] at hst; exact hst.elim
    | fuel => rw [hn] at hst; exact hst.elim
    | err e s1 =>
      rw [hn] at hst
      obtain ⟨_, _, h3, pre, rest, h4, h5⟩ := hst
      refine ⟨_, rfl, Placed.nil _, by simp, ?_⟩
      intro e' he
      simp at he; subst he
      exact ⟨h3, consumed ++ pre, rest, by rw [hfull, h4]; simp, by rw [← h3, h5, hpos, Pos.of_append]⟩
    | done s1 =>
      rw [hn] at hst
      obtain ⟨_, _, h3, h4⟩ := hst
      refine ⟨_, rfl, Placed.nil _, ?_, by simp⟩
      intro _
      refine ⟨?_, h3⟩
      show s1.pos = _
      rw [h4, hpos, hfull, Pos.of_append]
    | tok t s1 =>
      rw [hn] at hst
      obtain ⟨pre, mid, hd, hu1, hue, htp, hsp, b, hb, hbt⟩ := hst
      have hmne : mid ≠ [] := by intro h; subst h; simp at hb
      have hmlen : 0 < mid.length := List.length_pos_iff.mpr hmne
      have hfull' : full = (consumed ++ pre ++ mid) ++ s1.data := by rw [hfull, hd]; simp
      have hlen : s.data.length = pre.length + mid.length + s1.data.length := by rw [hd]; simp; omega
      obtain ⟨o, hrun, hpl, hend, herr⟩ := ih s1 (consumed ++ pre ++ mid) hu1 hfull'
        (by rw [hsp, hpos, List.append_assoc, Pos.of_append]) (by omega)
      simp only
      rw [hrun]
      refine ⟨_, rfl, ?_, ?_, herr⟩
      · refine Placed.cons _ (consumed ++ pre).length (consumed ++ pre ++ mid).length t o.toks
          (by simp) (by simp; omega) (by rw [hfull']; simp) ?_ ?_ hpl
        · have : full.take (consumed ++ pre).length = consumed ++ pre := by
            rw [hfull', List.append_assoc (consumed ++ pre)]
            exact List.take_left' rfl
          rw [this, htp, hpos, Pos.of_append]
        · refine ⟨b, ?_, hbt⟩
          obtain ⟨m', rfl⟩ : ∃ m', mid = b :: m' := by
            cases mid with
            | nil => simp at hb
            | cons x y => simp at hb; subst hb; exact ⟨y, rfl⟩
          rw [hfull']
          have : consumed ++ pre ++ b :: m' ++ s1.data = (consumed ++ pre) ++ b :: (m' ++ s1.data) := by simp
          rw [this]
          exact getElem?_append_length _ _ _
      · intro hnone
        obtain ⟨h1, h2⟩ := hend hnone
        exact ⟨h1, by rw [← hue]; exact h2⟩

theorem tokens_run (bs : Bytes) :
    ∃ o, tokens bs = .ok o ∧ Placed (State.new bs).data 0 o.toks ∧
      (o.err = none → (o.endLine, o.endCol) = Pos.of (State.new bs).data ∧ (State.new bs).utfErr = false) ∧
      (∀ e, o.err = some e → (o.endLine, o.endCol) = (e.line, e.col) ∧
        ∃ pre rest, (State.new bs).data = pre ++ rest ∧ (e.line, e.col) = Pos.of pre) :=
  run_spec (State.new bs).data (bs.length + 2) (State.new bs) [] (utf8_new bs)
    (by simp) (by simp [State.pos, State.new, Pos.of, Pos.countLF, Pos.scalars, Pos.lastLine])
    (by simp [State.new]; omega)

theorem tokens_spec (bs : Bytes) (o : LexOut) (h : tokens bs = .ok o) :
    Placed (State.new bs).data 0 o.toks ∧
      (o.err = none → (o.endLine, o.endCol) = Pos.of (State.new bs).data ∧ (State.new bs).utfErr = false) ∧
      (∀ e, o.err = some e → (o.endLine, o.endCol) = (e.line, e.col) ∧
        ∃ pre rest, (State.new bs).data = pre ++ rest ∧ (e.line, e.col) = Pos.of pre) := by
  obtain ⟨o', h', hspec⟩ := tokens_run bs
  obtain rfl : o' = o := by simpa using h'.symm.trans h
  exact hspec

/-- the results of `k` successive calls of `Iterator::next` (`none` = `None`); `none` overall if one of
them panics -/
def calls : Nat → State → Option (List (Option (Except LexErr Token)))
  | 0, _ => some []
  | k+1, s =>
    match nextToken s with
    | .tok t s' => (calls k s').map (some (.ok t) :: ·)
    | .err e s' => (calls k s').map (some (.error e) :: ·)
    | .done s' => (calls k s').map (none :: ·)
    | .panic => none
    | .fuel => none

theorem calls_ended (k : Nat) (s : State) (hd : s.data = []) (hu : s.utfErr = false) :
    calls k s = some (List.replicate k none) := by
  obtain ⟨d, u, l, c⟩ := s
  simp at hd hu; subst hd; subst hu
  induction k with
  | zero => rfl
  | succ k ih => simp [calls, nextToken_ended, ih, List.replicate_succ]

theorem calls_run (f : Nat) (s : State) (hu : Utf8 s.data) (o : LexOut) (h : run f s = .ok o) (k : Nat) :
    calls (o.toks.length + 1 + k) s =
      some (o.toks.map (fun t => some (.ok t)) ++ [o.err.map .error] ++ List.replicate k none) := by
  induction f generalizing s o with
  | zero => simp [run] at h
  | succ f ih =>
    unfold run at h
    have hst := nextToken_spec s hu
    cases hn : nextToken s with
    | panic => rw [hn] at hst; exact hst.elim
    | fuel => rw [hn] at hst; exact hst.elim
    | err e s1 =>
      rw [hn] at hst h
      obtain ⟨h1, h2, _⟩ := hst
      simp at h; subst h
      simp only [List.length_nil, Nat.zero_add]
      rw [show 1 + k = k + 1 by omega, calls, hn]
      simp [calls_ended k s1 h1 h2]
    | done s1 =>
      rw [hn] at hst h
      obtain ⟨h1, h2, _⟩ := hst
      simp at h; subst h
      simp only [List.length_nil, Nat.zero_add]
      rw [show 1 + k = k + 1 by omega, calls, hn]
      simp [calls_ended k s1 h1 h2]
    | tok t s1 =>
      rw [hn] at hst h
      obtain ⟨pre, mid, hd, hu1, _⟩ := hst
      simp only at h
      cases hr : run f s1 with
      | panic => rw [hr] at h; simp [Out.push] at h
      | fuel => rw [hr] at h; simp [Out.push] at h
      | ok o1 =>
        rw [hr] at h
        simp [Out.push] at h; subst h
        have := ih s1 hu1 o1 hr
        simp only [List.length_cons]
        have e : o1.toks.length + 1 + 1 + k = (o1.toks.length + 1 + k) + 1 := by omega
        rw [e, calls, hn]
        simp only
        rw [this]
        simp

end Trion.Lex
