import TrionModel.Lemmas.AsmBase
/-!
# The encoder's output length depends on the instruction's constructor only (`EncLen encoder`)
-/
namespace Trion.Asm
open Trion

theorem toBytes_length (l : List Nat) : (Codec.toBytes l).length = 2 * l.length := by
  induction l with
  | nil => rfl
  | cons h t ih => simp only [Codec.toBytes, List.length_cons, ih]; omega

theorem encode_len (i : Instr) (hws : List Nat) (h : Codec.encode i = .ok hws) : 2 * hws.length = ilen i := by
  unfold Codec.encode at h
  split at h
  all_goals (try simp only [Codec.lo2, Codec.lo3, Codec.unrep] at h)
  all_goals (repeat' split at h)
  all_goals (first | (cases h; done) | (cases h; rfl) | skip)

theorem encoder_len : EncLen encoder := by
  intro i bs h
  unfold encoder Codec.encodeInto at h
  cases he : Codec.encode i with
  | error e => rw [he] at h; cases e <;> simp at h
  | ok hws =>
    rw [he] at h
    simp only at h
    split at h
    · rename_i bs' hb
      split at hb
      · cases hb
      · cases hb
        cases h
        rw [List.length_map, toBytes_length]
        exact encode_len i hws he
    · cases h
    · cases h

end Trion.Asm
