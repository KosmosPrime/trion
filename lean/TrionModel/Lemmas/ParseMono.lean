import TrionModel.Lemmas.ParseFuel
/-!
# Extra fuel does not change a result; fuel-free unfolding equations of the parser model
-/
namespace Trion.Parse

variable {α β : Type}

theorem bind_congr_fuel {x x' : Res α} {f f' : α → Res β}
    (h : x.bind f ≠ .fuel) (hx : x ≠ .fuel → x' = x) (hf : ∀ a, x = .ok a → f a ≠ .fuel → f' a = f a) :
    x'.bind f' = x.bind f := by
  cases x with
  | ok a => rw [hx (by simp)]; simp only [bind_ok] at h ⊢; exact hf a rfl h
  | err e => rw [hx (by simp)]; rfl
  | panic => rw [hx (by simp)]; rfl
  | fuel => simp at h

theorem bind_congr_ok {x : Res α} {f f' : α → Res β} (hf : ∀ a, x = .ok a → f' a = f a) :
    x.bind f' = x.bind f := by
  cases x with
  | ok a => exact hf a rfl
  | _ => rfl

structure MonoAt (lo : LexOut) (n : Nat) : Prop where
  unary : ∀ ts, unaryF lo n ts ≠ .fuel → unaryF lo (n+1) ts = unaryF lo n ts
  binary : ∀ g st ts, binaryF lo n g st ts ≠ .fuel → binaryF lo (n+1) g st ts = binaryF lo n g st ts
  loop : ∀ g st lhs ts, binLoopF lo n g st lhs ts ≠ .fuel → binLoopF lo (n+1) g st lhs ts = binLoopF lo n g st lhs ts
  args : ∀ ts, argsF lo n ts ≠ .fuel → argsF lo (n+1) ts = argsF lo n ts
  argsLoop : ∀ ts, argsLoopF lo n ts ≠ .fuel → argsLoopF lo (n+1) ts = argsLoopF lo n ts

theorem operand_mono {lo : LexOut} {n : Nat} (ih : MonoAt lo n) (g : BinOpGroup) (st : Nat × Nat) (ts : List Token)
    (h : operandF lo n g st ts ≠ .fuel) : operandF lo (n+1) g st ts = operandF lo n g st ts := by
  unfold operandF at h ⊢
  cases hh : g.higher with
  | none => simp only [hh] at h ⊢; exact ih.unary _ h
  | some h' => simp only [hh] at h ⊢; exact ih.binary _ _ _ h

theorem monoAt (lo : LexOut) : ∀ n, MonoAt lo n := by
  intro n
  induction n with
  | zero => constructor <;> intros <;> simp_all [unaryF, binaryF, binLoopF, argsF, argsLoopF]
  | succ n ih =>
    constructor
    · -- unary
      intro ts h
      cases ts with
      | nil => simp [unaryF]
      | cons t r =>
        obtain ⟨F, ha, he⟩ := unaryF_arm lo t r
        rw [he n] at h
        rw [he (n+1), he n]
        cases ha with
        | wrap f => exact bind_congr_fuel h (ih.unary r) (fun _ _ _ => rfl)
        | leaf a => rfl
        | expr e w k => exact bind_congr_fuel h (ih.binary _ _ r) (fun _ _ _ => rfl)
        | list e w k r1 hs => exact bind_congr_fuel h (ih.args r1) (fun _ _ _ => rfl)
        | bad => rfl
    · -- binary
      intro g st ts h
      rw [binaryF_succ] at h ⊢
      exact bind_congr_fuel h (operand_mono ih g st ts) (fun p _ hp => ih.loop _ _ _ _ hp)
    · -- loop
      intro g st lhs ts h
      cases ts with
      | nil => simp only [binLoopF]
      | cons t r =>
        obtain ⟨F, ha, he⟩ := binLoopF_arm lo g st lhs t r
        rw [he n] at h
        rw [he (n+1), he n]
        cases ha with
        | done _ => rfl
        | noOp => rfl
        | higher _ _ _ => rfl
        | same op => exact bind_congr_fuel h (operand_mono ih g st r) (fun p _ hp => ih.loop _ _ _ _ hp)
    · -- args
      intro ts h
      cases ts with
      | nil => simp only [argsF]
      | cons t r =>
        simp only [argsF] at h ⊢
        by_cases he : t.val.isArgsEnd = true
        · simp only [if_pos he]
        · simp only [if_neg he] at h ⊢
          exact ih.argsLoop _ h
    · -- argsLoop
      intro ts h
      rw [argsLoopF] at h ⊢
      refine bind_congr_fuel h (ih.binary _ _ ts) ?_
      intro p _ hp
      obtain ⟨a, r⟩ := p
      cases r with
      | nil => rfl
      | cons t r1 =>
        simp only [] at hp ⊢
        by_cases hsep : t.val = .sep
        · simp only [if_pos hsep] at hp ⊢
          exact bind_congr_fuel hp (ih.argsLoop r1) (fun _ _ _ => rfl)
        · simp only [if_neg hsep]

def binLoop (lo : LexOut) (g : BinOpGroup) (st : Nat × Nat) (lhs : Arg) (ts : List Token) : Res (Arg × List Token) :=
  binLoopF lo (fuelFor ts) g st lhs ts

def argsLoop (lo : LexOut) (ts : List Token) : Res (Args × List Token) := argsLoopF lo (fuelFor ts) ts

/-- `operandF` (`Lemmas/ParseBasic.lean`) without the fuel: `operandF_stable` -/
def operand (lo : LexOut) (g : BinOpGroup) (st : Nat × Nat) (ts : List Token) : Res (Arg × List Token) :=
  match g.higher with
  | none => unary lo ts
  | some h => binary lo h st ts

theorem stable_of_mono {γ : Type} (f : Nat → Res γ) (b : Nat)
    (hne : ∀ n, b ≤ n → f n ≠ .fuel) (hm : ∀ n, f n ≠ .fuel → f (n+1) = f n) :
    ∀ n m, b ≤ n → b ≤ m → f n = f m := by
  have key : ∀ k, f (b + k) = f b := by
    intro k
    induction k with
    | zero => rfl
    | succ k ih => rw [← Nat.add_assoc, hm _ (hne _ (by omega)), ih]
  intro n m hn hm'
  have h1 := key (n - b)
  have h2 := key (m - b)
  rw [show b + (n - b) = n by omega] at h1
  rw [show b + (m - b) = m by omega] at h2
  rw [h1, h2]

theorem unaryF_stable (lo : LexOut) (ts : List Token) (n : Nat) (h : 16 * ts.length + 1 ≤ n) :
    unaryF lo n ts = unary lo ts :=
  stable_of_mono (fun n => unaryF lo n ts) _ (fun n hn => (fuelAt lo n).unary ts hn)
    (fun n hn => (monoAt lo n).unary ts hn) n (fuelFor ts) h (by unfold fuelFor; omega)

theorem binaryF_stable (lo : LexOut) (g : BinOpGroup) (st : Nat × Nat) (ts : List Token) (n : Nat)
    (h : 16 * ts.length + 2 + lvl g ≤ n) : binaryF lo n g st ts = binary lo g st ts :=
  stable_of_mono (fun n => binaryF lo n g st ts) _ (fun n hn => (fuelAt lo n).binary g st ts hn)
    (fun n hn => (monoAt lo n).binary g st ts hn) n (fuelFor ts) h (by have := lvl_le g; unfold fuelFor; omega)

theorem binLoopF_stable (lo : LexOut) (g : BinOpGroup) (st : Nat × Nat) (lhs : Arg) (ts : List Token) (n : Nat)
    (h : 16 * ts.length + 2 + lvl g ≤ n) : binLoopF lo n g st lhs ts = binLoop lo g st lhs ts :=
  stable_of_mono (fun n => binLoopF lo n g st lhs ts) _ (fun n hn => (fuelAt lo n).loop g st lhs ts hn)
    (fun n hn => (monoAt lo n).loop g st lhs ts hn) n (fuelFor ts) h (by have := lvl_le g; unfold fuelFor; omega)

theorem argsF_stable (lo : LexOut) (ts : List Token) (n : Nat) (h : 16 * ts.length + 9 ≤ n) :
    argsF lo n ts = args lo ts :=
  stable_of_mono (fun n => argsF lo n ts) _ (fun n hn => (fuelAt lo n).args ts hn)
    (fun n hn => (monoAt lo n).args ts hn) n (fuelFor ts) h (by unfold fuelFor; omega)

theorem argsLoopF_stable (lo : LexOut) (ts : List Token) (n : Nat) (h : 16 * ts.length + 8 ≤ n) :
    argsLoopF lo n ts = argsLoop lo ts :=
  stable_of_mono (fun n => argsLoopF lo n ts) _ (fun n hn => (fuelAt lo n).argsLoop ts hn)
    (fun n hn => (monoAt lo n).argsLoop ts hn) n (fuelFor ts) h (by unfold fuelFor; omega)

theorem operandF_stable (lo : LexOut) (g : BinOpGroup) (st : Nat × Nat) (ts : List Token) (n : Nat)
    (h : 16 * ts.length + 1 + lvl g ≤ n) : operandF lo n g st ts = operand lo g st ts := by
  unfold operandF operand
  cases hh : g.higher with
  | none => simp only []; exact unaryF_stable lo ts n (by omega)
  | some h' => simp only []; exact binaryF_stable lo _ st ts n (by have := lvl_higher hh; omega)

theorem unary_len {lo : LexOut} {ts : List Token} {a : Arg} {r : List Token} (h : unary lo ts = .ok (a, r)) :
    r.length < ts.length := (fuelAt lo _).unaryLen _ _ _ h
theorem binary_len {lo : LexOut} {g : BinOpGroup} {st : Nat × Nat} {ts : List Token} {a : Arg} {r : List Token}
    (h : binary lo g st ts = .ok (a, r)) : r.length < ts.length := (fuelAt lo _).binaryLen _ _ _ _ _ h
theorem binLoop_len {lo : LexOut} {g : BinOpGroup} {st : Nat × Nat} {lhs : Arg} {ts : List Token} {a : Arg} {r : List Token}
    (h : binLoop lo g st lhs ts = .ok (a, r)) : r.length ≤ ts.length := (fuelAt lo _).loopLen _ _ _ _ _ _ h
theorem argsLoop_len {lo : LexOut} {ts : List Token} {a : Args} {r : List Token} (h : argsLoop lo ts = .ok (a, r)) :
    r.length ≤ ts.length := (fuelAt lo _).argsLoopLen _ _ _ h
theorem operand_len' {lo : LexOut} {g : BinOpGroup} {st : Nat × Nat} {ts : List Token} {a : Arg} {r : List Token}
    (h : operand lo g st ts = .ok (a, r)) : r.length < ts.length := by
  unfold operand at h
  split at h
  · exact unary_len h
  · exact binary_len h

theorem unary_ne_fuel (lo : LexOut) (ts : List Token) : unary lo ts ≠ .fuel :=
  (fuelAt lo _).unary ts (by unfold fuelFor; omega)
theorem binary_ne_fuel (lo : LexOut) (g : BinOpGroup) (st : Nat × Nat) (ts : List Token) : binary lo g st ts ≠ .fuel :=
  (fuelAt lo _).binary g st ts (by have := lvl_le g; unfold fuelFor; omega)
theorem args_ne_fuel (lo : LexOut) (ts : List Token) : args lo ts ≠ .fuel :=
  (fuelAt lo _).args ts (by unfold fuelFor; omega)

theorem unary_ne_panic (lo : LexOut) (ts : List Token) : unary lo ts ≠ .panic := (noPanicAt lo _).unary ts
theorem binary_ne_panic (lo : LexOut) (g : BinOpGroup) (st : Nat × Nat) (ts : List Token) : binary lo g st ts ≠ .panic :=
  ((noPanicAt lo _).binary g st ts).1
theorem args_ne_panic (lo : LexOut) (ts : List Token) : args lo ts ≠ .panic := (noPanicAt lo _).args ts

/-- `fuelFor` with the unit the outermost call spends split off (likewise `16 * ts.length + 15` below) -/
theorem fuelFor_cons (t : Token) (r : List Token) : fuelFor (t :: r) = (16 * r.length + 31) + 1 := by
  simp only [fuelFor, List.length_cons]; omega

theorem unary_nil (lo : LexOut) : unary lo [] = .err (endErr lo "<unary>") := rfl

theorem unary_cons (lo : LexOut) (t : Token) (r : List Token) :
    unary lo (t :: r) =
      match t.val with
      | .minus => (unary lo r).bind fun p => .ok (.neg p.1, p.2)
      | .not => (unary lo r).bind fun p => .ok (.not p.1, p.2)
      | .num v => .ok (.const v, r)
      | .ident s =>
        match r with
        | ⟨_, _, .lparen⟩ :: r1 =>
          (args lo r1).bind fun p => (close lo "')'" .rparen p.2).bind fun r3 => .ok (.func s p.1, r3)
        | _ => .ok (.ident s, r)
      | .str s => .ok (.str s, r)
      | .lparen =>
        (binary lo .bitOr (exprStart lo r) r).bind fun p =>
          (close lo "')'" .rparen p.2).bind fun r3 => .ok (p.1, r3)
      | .lbrack =>
        (binary lo .bitOr (exprStart lo r) r).bind fun p =>
          (close lo "']'" .rbrack p.2).bind fun r3 => .ok (.addr p.1, r3)
      | .lbrace =>
        (args lo r).bind fun p => (close lo "'}'" .rbrace p.2).bind fun r3 => .ok (.seq p.1, r3)
      | _ => .err (expectErr "<unary>" t) := by
  show unaryF lo (fuelFor (t :: r)) (t :: r) = _
  rw [fuelFor_cons, unaryF, unaryF_stable lo r (16 * r.length + 31) (by omega),
    binaryF_stable lo .bitOr (exprStart lo r) r (16 * r.length + 31) (by have := lvl_le .bitOr; omega),
    argsF_stable lo r (16 * r.length + 31) (by omega)]
  generalize unary lo r = U
  generalize binary lo .bitOr (exprStart lo r) r = B
  generalize args lo r = A
  obtain ⟨l, c, v⟩ := t
  cases v <;> simp only []
  -- the goal left is the identifier arm, which looks at the token after it
  cases r with
  | nil => simp only []
  | cons t1 r1 =>
    obtain ⟨l1, c1, v1⟩ := t1
    cases v1 <;> simp only []
    rw [argsF_stable lo r1 _ (by simp only [List.length_cons]; omega)]

theorem binary_eq (lo : LexOut) (g : BinOpGroup) (st : Nat × Nat) (ts : List Token) :
    binary lo g st ts = (operand lo g st ts).bind fun p => binLoop lo g st p.1 p.2 := by
  unfold binary
  rw [show fuelFor ts = (16 * ts.length + 15) + 1 from rfl, binaryF_succ,
    operandF_stable lo g st ts _ (by have := lvl_le g; omega)]
  apply bind_congr_ok
  intro p hp
  have := operand_len' (a := p.1) (r := p.2) hp
  exact binLoopF_stable lo g st p.1 p.2 _ (by have := lvl_le g; omega)

theorem binLoop_nil (lo : LexOut) (g : BinOpGroup) (st : Nat × Nat) (lhs : Arg) :
    binLoop lo g st lhs [] =
      match lo.err with
      | none => .ok (lhs, [])
      | some e => .err ⟨st.1, st.2, .token e⟩ := rfl

theorem binLoop_cons (lo : LexOut) (g : BinOpGroup) (st : Nat × Nat) (lhs : Arg) (t : Token) (r : List Token) :
    binLoop lo g st lhs (t :: r) =
      if t.val.isStop then .ok (lhs, t :: r)
      else match t.val.binOp with
        | none => .err (expectErr "<operator>" t)
        | some op =>
          if op.group.toNat < g.toNat then .ok (lhs, t :: r)
          else if g.toNat < op.group.toNat then .panic
          else (operand lo g st r).bind fun p => binLoop lo g st (.bin op lhs p.1) p.2 := by
  show binLoopF lo (fuelFor (t :: r)) g st lhs (t :: r) = _
  rw [fuelFor_cons, binLoopF_cons, operandF_stable lo g st r _ (by have := lvl_le g; omega)]
  by_cases hs : t.val.isStop = true
  · simp only [if_pos hs]
  · simp only [if_neg hs]
    cases hop : t.val.binOp with
    | none => simp only []
    | some op =>
      simp only []
      by_cases h1 : op.group.toNat < g.toNat
      · simp only [if_pos h1]
      · simp only [if_neg h1]
        by_cases h2 : g.toNat < op.group.toNat
        · simp only [if_pos h2]
        · simp only [if_neg h2]
          apply bind_congr_ok
          intro p hp
          have := operand_len' (a := p.1) (r := p.2) hp
          exact binLoopF_stable lo g st _ p.2 _ (by have := lvl_le g; omega)

theorem args_nil (lo : LexOut) :
    args lo [] = match lo.err with
      | none => .ok (.nil, [])
      | some e => .err (tokErr e) := rfl

theorem args_cons (lo : LexOut) (t : Token) (r : List Token) :
    args lo (t :: r) = if t.val.isArgsEnd then .ok (.nil, t :: r) else argsLoop lo (t :: r) := by
  unfold args
  rw [fuelFor_cons, argsF, argsLoopF_stable lo (t :: r) _ (by simp only [List.length_cons]; omega)]

theorem argsLoop_eq (lo : LexOut) (ts : List Token) :
    argsLoop lo ts =
      (binary lo .bitOr (exprStart lo ts) ts).bind fun p =>
        match p.2 with
        | [] =>
          match lo.err with
          | none => .err (eofErr lo "<separator>")
          | some e => .err (tokErr e)
        | t :: r1 =>
          if t.val = .sep then (argsLoop lo r1).bind fun q => .ok (.cons p.1 q.1, q.2)
          else if t.val.isArgsEnd then .ok (.cons p.1 .nil, p.2)
          else .err (expectErr "<separator>" t) := by
  show argsLoopF lo (fuelFor ts) ts = _
  rw [show fuelFor ts = (16 * ts.length + 15) + 1 from rfl, argsLoopF,
    binaryF_stable lo .bitOr _ ts _ (by have := lvl_le .bitOr; omega)]
  apply bind_congr_ok
  intro p hp
  have hl := binary_len (a := p.1) (r := p.2) hp
  obtain ⟨a, r⟩ := p
  cases r with
  | nil => rfl
  | cons t r1 =>
    simp only [List.length_cons] at hl
    simp only []
    rw [argsLoopF_stable lo r1 _ (by omega)]

end Trion.Parse
