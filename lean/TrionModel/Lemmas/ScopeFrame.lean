import TrionModel.Lemmas.Scope
/-! Frame conditions ("frame" as in frame rule, not `PathFrame`): the exact effect of each statement and of the `.global`
closure on the two visible tables — which entry may change and to what; everything else is literally unchanged. -/
namespace Trion.Scope

theorem set_change (l : Table) (n : Bytes) (v : Option Int) (m : Bytes) :
    (l.set n v).find m = l.find m ∨ (m = n ∧ (l.set n v).find m = some v) := by
  by_cases h : n = m
  · subst h; exact .inr ⟨rfl, Table.find_set_same _ _ _⟩
  · exact .inl (Table.find_set_other _ _ _ _ h)

theorem copyUp_frame {s s' : State} {l : Table} {n : Bytes} {tag : Nat} {r : Option Level} (hl : s.locals = some l)
    (h : doExport s n tag = .ok (s', r) ∨ runGlobalCopy s n tag = .ok (s', r)) :
    s'.locals = s.locals ∧ ∀ m, s'.globals.find m = s.globals.find m ∨
      (m = n ∧ (∀ w, s.globals.find n ≠ some (some w)) ∧
        ∃ v, l.find n = some (some v) ∧ s'.globals.find m = some (some v)) := by
  rcases h.elim (copyUp_spec _ _ _).1.ok (copyUp_spec _ _ _).2.ok with ⟨k, rfl⟩ | ⟨v, s1, res, hg, hi, hs⟩
  · exact ⟨rfl, fun m => .inl rfl⟩
  · have hlf : l.find n = some (some v) := by
      rw [getConstant_loc hl] at hg; exact get_found (Except.ok.inj hg)
    suffices key : s1.locals = s.locals ∧ ∀ m, s1.globals.find m = s.globals.find m ∨
        (m = n ∧ (∀ w, s.globals.find n ≠ some (some w)) ∧
          ∃ v, l.find n = some (some v) ∧ s1.globals.find m = some (some v)) by
      rcases hs with rfl | ⟨k, rfl⟩ <;> exact key
    rcases insertConstant_global hi with rfl | ⟨hu, rfl⟩
    · exact ⟨rfl, fun m => .inl rfl⟩
    · refine ⟨rfl, fun m => ?_⟩
      rcases set_change s.globals n (some v) m with h1 | ⟨h1, h2⟩
      · exact .inl h1
      · exact .inr ⟨h1, hu, v, hlf, h2⟩

theorem doGlobal_frame {s s' : State} {l : Table} {n : Bytes} {tag : Nat} {r : Option Level}
    (hl : s.locals = some l) (h : stmt s (.global n tag) = .ok (s', r)) :
    (∃ l', s'.locals = some l' ∧ ∀ m, l'.find m = l.find m ∨ (m = n ∧ l.find n = none ∧ l'.find m = some none)) ∧
    (∀ m, s'.globals.find m = s.globals.find m ∨ (m = n ∧ s.globals.find n = none ∧
      (s'.globals.find m = some none ∨ ∃ v, l.find n = some (some v) ∧ s'.globals.find m = some (some v)))) := by
  rcases (doGlobal_spec _ _ _).ok h with ⟨k, rfl⟩ | ⟨_, hn, l0, hl0, hc⟩
  · exact ⟨⟨l, hl, fun m => .inl rfl⟩, fun m => .inl rfl⟩
  · cases hl0.symm.trans hl
    -- the includer's table after the announcement
    have hg1 : ∀ m, (s.globals.set n none).find m = s.globals.find m ∨
        (m = n ∧ s.globals.find n = none ∧ ((s.globals.set n none).find m = some none ∨
          ∃ v, l.find n = some (some v) ∧ (s.globals.set n none).find m = some (some v))) := fun m =>
      (set_change s.globals n none m).imp id fun ⟨h3, h4⟩ => ⟨h3, hn, .inl h4⟩
    rcases hc with ⟨v, hlf, rfl⟩ | ⟨lt, _, ⟨hlf, rfl⟩ | ⟨_, rfl⟩⟩
    · -- the file already has a value: exported at once
      refine ⟨⟨l, hl, fun m => .inl rfl⟩, fun m => ?_⟩
      rcases set_change (s.globals.set n none) n (some v) m with h5 | ⟨h5, h6⟩
      · exact h5 ▸ hg1 m
      · exact .inr ⟨h5, hn, .inr ⟨v, hlf, h6⟩⟩
    · -- no entry yet: announced locally too
      exact ⟨⟨_, rfl, fun m => (set_change l n none m).imp id fun ⟨h7, h8⟩ => ⟨h7, hlf, h8⟩⟩, hg1⟩
    · exact ⟨⟨l, hl, fun m => .inl rfl⟩, hg1⟩

theorem setLocal_frame {s s1 : State} {l : Table} {n : Bytes} {e : Option Int} (hl : s.locals = some l)
    (h : (∃ v res, e = some v ∧ insertConstant s n v .loc = .ok (s1, res)) ∨
      (∃ res, e = none ∧ deferConstant s n .loc = .ok (s1, res))) :
    s1.globals = s.globals ∧ ∃ l', s1.locals = some l' ∧ ∀ m, l'.find m = l.find m ∨ (m = n ∧ l'.find m = some e) := by
  have set : ∀ l0, s.locals = some l0 → s1 = { s with locals := some (l0.set n e) } →
      s1.globals = s.globals ∧ ∃ l', s1.locals = some l' ∧ ∀ m, l'.find m = l.find m ∨ (m = n ∧ l'.find m = some e) := by
    rintro l0 hl0 rfl
    cases Option.some.inj (hl0.symm.trans hl)
    exact ⟨rfl, _, rfl, set_change _ n e⟩
  rcases h with ⟨v, res, rfl, hi⟩ | ⟨res, rfl, hd⟩
  · rcases (insertConstant_spec _ _ _ _).ok hi with ⟨rfl, _⟩ | ⟨_, _, ⟨e, _⟩ | ⟨l0, _, hl0, _, e⟩⟩
    · exact ⟨rfl, l, hl, fun m => .inl rfl⟩
    · cases e
    · exact set l0 hl0 e
  · rcases (deferConstant_spec _ _ _).ok hd with ⟨rfl, _⟩ | ⟨_, _, ⟨e, _⟩ | ⟨l0, _, hl0, _, e⟩⟩
    · exact ⟨rfl, l, hl, fun m => .inl rfl⟩
    · cases e
    · exact set l0 hl0 e

theorem define_frame {s s' : State} {l : Table} {n : Bytes} {v : Int} {tag : Nat} {r : Option Level}
    (hl : s.locals = some l) (h : stmt s (.const n v tag) = .ok (s', r) ∨ stmt s (.label n v tag) = .ok (s', r)) :
    s'.globals = s.globals ∧
    ∃ l', s'.locals = some l' ∧ ∀ m, l'.find m = l.find m ∨ (m = n ∧ l'.find m = some (some v)) := by
  obtain ⟨s1, res, hi, hs⟩ := h.elim (define_spec _ _ _ _).1.ok (define_spec _ _ _ _).2.ok
  have key := setLocal_frame hl (.inl ⟨v, res, rfl, hi⟩)
  rcases hs with rfl | ⟨k, rfl⟩ <;> exact key

theorem doImport_frame {s s' : State} {l : Table} {n : Bytes} {tag : Nat} {r : Option Level}
    (hl : s.locals = some l) (h : stmt s (.import n tag) = .ok (s', r)) :
    s'.globals = s.globals ∧
    ∃ l', s'.locals = some l' ∧ ∀ m, l'.find m = l.find m ∨ (m = n ∧ l'.find m = s.globals.find n) := by
  rcases (doImport_spec _ _ _).ok h with ⟨_, rfl⟩ | ⟨s1, res, hg, hd, hs⟩ | ⟨v, s1, res, hg, hi, hs⟩
  · exact ⟨rfl, l, hl, fun m => .inl rfl⟩
  · have key := setLocal_frame hl (.inr ⟨res, rfl, hd⟩)
    rw [← get_deferred hg] at key
    rcases hs with rfl | ⟨k, rfl⟩ <;> exact key
  · have key := setLocal_frame hl (.inl ⟨v, res, rfl, hi⟩)
    rw [← get_found hg] at key
    rcases hs with rfl | ⟨k, rfl⟩ <;> exact key

theorem use_tables {s s' : State} {n : Bytes} {tag : Nat} {r : Option Level}
    (h : (∃ c g, runUse s n c tag g = .ok (s', r)) ∨ doUse s n tag = .ok (s', r)) :
    s'.locals = s.locals ∧ s'.globals = s.globals := by
  rcases h with ⟨c, g, h⟩ | h
  · obtain ⟨s1, res, c', ha, hs⟩ := (runUse_spec _ _ _ _ _).ok h
    obtain ⟨add, rfl⟩ := applyUse_grows_log ha
    rcases hs with ⟨_, rfl⟩ | ⟨_, ⟨_, rfl⟩ | ⟨_, rfl⟩⟩ <;> exact ⟨rfl, rfl⟩
  · obtain ⟨s1, res, c, ha, hs⟩ := (doUse_spec _ _ _).ok h
    obtain ⟨add, rfl⟩ := applyUse_grows_log ha
    rcases hs with ⟨_, rfl⟩ | ⟨_, hadd⟩
    · exact ⟨rfl, rfl⟩
    · obtain ⟨lt, _, rfl⟩ := addTask_loc.1 hadd
      exact ⟨rfl, rfl⟩

end Trion.Scope
