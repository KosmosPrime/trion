import TrionModel.Lemmas.C06DuMention
/-!
# `Front.assemble` does not complete when an EVALUATING operand mentions an undefined name

If `assemble` of a fresh statement returns `Completed`, every argument at an evaluating position (`Kind.evals`) evaluated to
`Complete` (`Front.assemble_completed_evals`, Lemmas/FrontRetry.lean); an argument that mentions a name the table does not
define never does (`evalIn_mentions`).
-/
namespace Trion.C04
open Trion Trion.Front Trion.Asm

theorem assemble_mentions (tbl : Asm.Table) (n : Bytes) (hr : isRegister n = false) (hf : tbl.find n = none)
    (addr : Nat) (t : Instr) (args : List Arg) (j : Nat) (k : Front.Kind) (a : Arg) (hk : (kinds t)[j]? = some k)
    (ha : args[j]? = some a) (hev : k.evals = true) (hm : Simp.mentions n a = true) :
    (∃ fs1 c, Front.assemble ⟨addr, t, 0, args⟩ (Asm.frontEval tbl) true = (fs1, .deferred c)) ∨
    (∃ fs1 d, Front.assemble ⟨addr, t, 0, args⟩ (Asm.frontEval tbl) true = (fs1, .error d)) := by
  cases h : Front.assemble ⟨addr, t, 0, args⟩ (Asm.frontEval tbl) true with
  | mk fs1 out =>
    cases out with
    | completed =>
      obtain ⟨x, hx⟩ := assemble_completed_evals _ _ _ _ _ _ h j k a hk ha hev
      exfalso
      unfold Asm.frontEval at hx
      rcases evalIn_mentions tbl n hr hf a hm with ⟨m, a', he, _⟩ | ⟨e, a', he⟩
      · rw [he] at hx; cases hx
      · rw [he] at hx; cases e <;> cases hx
    | deferred c => exact .inl ⟨fs1, c, rfl⟩
    | error d => exact .inr ⟨fs1, d, rfl⟩
    | panic =>
      have := Front.assemble_no_panic_proof ⟨addr, t, 0, args⟩ (Asm.frontEval tbl) true
      rw [h] at this
      exact absurd rfl this

end Trion.C04
