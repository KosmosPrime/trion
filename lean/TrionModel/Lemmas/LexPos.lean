import TrionModel.Lemmas.LexBasic
/-!
# Positions: the specification `Pos.of` is the byte-wise reading `Pos.adv` from (1, 1), `update_pos` computes it, and
`Pos.of` separates offsets
-/
namespace Trion.Pos

theorem adv_append (p : Nat × Nat) (a b : Bytes) : adv p (a ++ b) = adv (adv p a) b := by
  simp [adv, List.foldl_append]

theorem adv_nil (p : Nat × Nat) : adv p [] = p := rfl

theorem adv_cons (p : Nat × Nat) (b : UInt8) (d : Bytes) : adv p (b :: d) = adv (step p b) d := rfl

theorem countLF_cons (b : UInt8) (d : Bytes) : countLF (b :: d) = (if b.toNat = 10 then 1 else 0) + countLF d := by
  unfold countLF
  by_cases h : b.toNat = 10 <;> simp [h] <;> omega

theorem scalars_cons (b : UInt8) (d : Bytes) : scalars (b :: d) = (if isCont b then 0 else 1) + scalars d := by
  unfold scalars
  by_cases h : isCont b = true
  · simp [h]
  · simp [h]; omega

theorem lastLine_of_noLF {d : Bytes} (h : countLF d = 0) : lastLine d = d := by
  cases d with
  | nil => rfl
  | cons b d =>
    rw [countLF_cons] at h
    have h1 : ¬ b.toNat = 10 := by intro hb; simp [hb] at h
    have h2 : countLF d = 0 := by omega
    simp [lastLine, h1, h2]

theorem adv_closed (p : Nat × Nat) (d : Bytes) :
    adv p d = (p.1 + countLF d, (if countLF d > 0 then 1 else p.2) + scalars (lastLine d)) := by
  induction d generalizing p with
  | nil => simp [adv, countLF, scalars, lastLine]
  | cons b d ih =>
    rw [adv_cons, ih, countLF_cons]
    by_cases hb : b.toNat = 10
    · by_cases hd : countLF d > 0
      · simp [step, hb, hd, lastLine]; omega
      · have hd0 : countLF d = 0 := by omega
        simp [step, hb, hd0, lastLine, lastLine_of_noLF hd0]
    · by_cases hd : countLF d > 0
      · by_cases hc : isCont b = true <;> simp [step, hb, hd, hc, lastLine]
      · have hd0 : countLF d = 0 := by omega
        by_cases hc : isCont b = true
        · simp [step, hb, hd0, hc, lastLine, scalars_cons, lastLine_of_noLF hd0]
        · simp [step, hb, hd0, hc, lastLine, scalars_cons, lastLine_of_noLF hd0]; omega

theorem of_eq_adv (d : Bytes) : Pos.of d = adv (1, 1) d := by
  rw [adv_closed]
  unfold Pos.of
  by_cases h : countLF d > 0 <;> simp [h]

theorem of_append (a b : Bytes) : Pos.of (a ++ b) = adv (Pos.of a) b := by
  rw [of_eq_adv, of_eq_adv, adv_append]

theorem adv_ascii (p : Nat × Nat) (d : Bytes) (h : ∀ b ∈ d, b.toNat < 128 ∧ b.toNat ≠ 10) :
    adv p d = (p.1, p.2 + d.length) := by
  induction d generalizing p with
  | nil => rfl
  | cons b d ih =>
    have hb := h b (by simp)
    have hc : isCont b = false := by simp [isCont]; omega
    rw [adv_cons, ih _ (fun x hx => h x (by simp [hx]))]
    simp [step, hb.2, hc]; omega

end Trion.Pos

namespace Trion.Lex
open Trion.Pos (isCont countLF scalars lastLine adv step)

/-- in the text, the byte after an ASCII byte never is a continuation byte (true of every slice of
well-formed UTF-8; closed under taking contiguous pieces, unlike `Utf8`) -/
def Good (d : Bytes) : Prop :=
  ∀ pre b c post, d = pre ++ b :: c :: post → b.toNat < 128 → isCont c = false

theorem good_of_utf8_infix {a m z : Bytes} (h : Utf8 (a ++ m ++ z)) : Good m := by
  intro pre b c post hm hb
  subst hm
  have h' : Utf8 ((a ++ pre) ++ b :: (c :: (post ++ z))) := by simpa using h
  exact utf8_head_noncont (utf8_split_after_ascii h' hb)

theorem good_of_utf8 {d : Bytes} (h : Utf8 d) : Good d :=
  good_of_utf8_infix (a := []) (z := []) (by simpa using h)

theorem good_of_utf8_prefix {a z : Bytes} (h : Utf8 (a ++ z)) : Good a :=
  good_of_utf8_infix (a := []) (by simpa using h)

theorem good_tail {b : UInt8} {d : Bytes} (h : Good (b :: d)) : Good d := by
  intro pre x c post hd hx
  exact h (b :: pre) x c post (by simp [hd]) hx

theorem good_ascii (d : Bytes) (h : ∀ b ∈ d, b.toNat < 128) : Good d := by
  intro pre b c post hd _
  rw [isCont_false_iff]
  have := h c (by rw [hd]; simp)
  omega

theorem countLF_eq_zero {d : Bytes} (h : ∀ x ∈ d, x.toNat ≠ 10) : countLF d = 0 := by
  induction d with
  | nil => rfl
  | cons b d ih =>
    rw [Pos.countLF_cons, ih (fun x hx => h x (by simp [hx]))]
    simp [h b (by simp)]

theorem rposition_spec (d : Bytes) :
    match rposition (fun b => b.toNat == 10) d with
    | none => countLF d = 0 ∧ lastLine d = d
    | some v => ∃ pre b, d = pre ++ b :: lastLine d ∧ pre.length = v ∧ b.toNat = 10 ∧ countLF d > 0 := by
  induction d with
  | nil => simp [rposition, countLF, lastLine]
  | cons a d ih =>
    simp only [rposition]
    cases hr : rposition (fun b => b.toNat == 10) d with
    | some i =>
      simp only [hr] at ih ⊢
      obtain ⟨pre, b, hd, hl, hb, hc⟩ := ih
      refine ⟨a :: pre, b, ?_, by simp [hl], hb, ?_⟩
      · simp only [lastLine, hc, if_true]
        rw [List.cons_append, ← hd]
      · rw [Pos.countLF_cons]; omega
    | none =>
      simp only [hr] at ih ⊢
      obtain ⟨hc, hl⟩ := ih
      by_cases ha : a.toNat = 10
      · simp only [ha, beq_self_eq_true, if_true]
        refine ⟨[], a, ?_, rfl, ha, ?_⟩
        · simp [lastLine, hc, ha]
        · rw [Pos.countLF_cons]; simp [ha]; omega
      · have : (a.toNat == 10) = false := by simpa using ha
        simp only [this]
        refine ⟨?_, ?_⟩
        · rw [Pos.countLF_cons]; simp [ha, hc]
        · simp [lastLine, hc, ha]

theorem updatePos_eq {d : Bytes} (hg : Good d) (l c : Nat) : updatePos l c d = some (adv (l, c) d) := by
  unfold updatePos
  have hs := rposition_spec d
  rw [Pos.adv_closed]
  cases hr : rposition (fun b => b.toNat == 10) d with
  | none =>
    simp only [hr] at hs ⊢
    obtain ⟨hc, hl⟩ := hs
    simp [sliceFrom, isBoundary_zero, hc, hl]
  | some v =>
    simp only [hr] at hs ⊢
    obtain ⟨pre, b, hd, hl, hb, hc⟩ := hs
    have hsl : sliceFrom d (v + 1) = some (lastLine d) := by
      have e : d = (pre ++ [b]) ++ lastLine d := by simpa using hd
      have := sliceFrom_split (pre ++ [b]) (lastLine d) (by
        intro x hx
        cases hll : lastLine d with
        | nil => simp [hll] at hx
        | cons y r =>
          simp [hll] at hx; subst hx
          exact hg pre b y r (by rw [hll] at hd; exact hd) (by omega))
      rw [← e] at this
      simpa [hl] using this
    simp [hsl, hc]

theorem of_ge1 (d : Bytes) : 1 ≤ (Pos.of d).1 ∧ 1 ≤ (Pos.of d).2 := by
  simp [Pos.of]

end Trion.Lex

namespace Trion.Pos

/-- positions in lexicographic order: by line, then by column -/
def le (p q : Nat × Nat) : Prop := p.1 < q.1 ∨ (p.1 = q.1 ∧ p.2 ≤ q.2)

theorem le_refl (p : Nat × Nat) : le p p := .inr ⟨rfl, Nat.le_refl _⟩

theorem le_trans {p q r : Nat × Nat} (h1 : le p q) (h2 : le q r) : le p r := by
  unfold le at *
  omega

theorem le_step (p : Nat × Nat) (b : UInt8) : le p (step p b) := by
  unfold step le
  split
  · left; simp
  · split
    · right; exact ⟨rfl, Nat.le_refl _⟩
    · right; simp

theorem le_adv (p : Nat × Nat) (d : Bytes) : le p (adv p d) := by
  induction d generalizing p with
  | nil => exact le_refl p
  | cons b d ih => exact le_trans (le_step p b) (by simpa [adv] using ih (step p b))

theorem of_take_ne (text : Bytes) (o o' : Nat) (h : o < o') (ho' : o' ≤ text.length) (b : UInt8) (hb : text[o]? = some b)
    (hlf : (b.toNat == 10) = false) (hc : isCont b = false) : Pos.of (text.take o) ≠ Pos.of (text.take o') := by
  have hsplit : text.take o' = text.take o ++ b :: (text.take o').drop (o + 1) := by
    have h1 : (text.take o').take o = text.take o := by rw [List.take_take]; congr 1; omega
    have hlen : o < (text.take o').length := by simp only [List.length_take]; omega
    have h2 : (text.take o')[o]? = some b := by rw [List.getElem?_take]; simp [h, hb]
    have hbe : (text.take o')[o] = b := by
      rw [List.getElem?_eq_getElem hlen] at h2; exact Option.some.inj h2
    have h3 := List.take_append_drop o (text.take o')
    rw [List.drop_eq_getElem_cons hlen, hbe, h1] at h3
    exact h3.symm
  rw [hsplit, of_append]
  have hst : step (Pos.of (text.take o)) b = ((Pos.of (text.take o)).1, (Pos.of (text.take o)).2 + 1) := by
    simp [step, hlf, hc]
  have hle := le_adv (step (Pos.of (text.take o)) b) ((text.take o').drop (o + 1))
  simp only [adv, List.foldl_cons] at hle ⊢
  rw [hst] at hle ⊢
  intro e
  rw [← e] at hle
  unfold le at hle
  simp at hle
  omega

end Trion.Pos
