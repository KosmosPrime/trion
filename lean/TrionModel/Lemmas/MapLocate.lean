import TrionModel.Lemmas.Map
/-!
# Memory map: the binary search `locate` is the linear scan `locLin`

`locLin a m ps i` walks the list once from index `i`. On a sorted list the loop of `locate` keeps "everything before
`first` ends below `a`, everything after `last` starts above `a`", which is all `locLin` looks at (`locLin_skip`,
`locLin_at_*`), so it returns the same answer within `ps.length` iterations (`locate_eq_locLin`); `locLin` has no
panic (`locLin_ne_panic`).
-/
namespace Trion.Map

def locLin (a : Nat) (m : Search) : Segs → Nat → Loc
  | [], i => match m with
    | .below => if i > 0 then .idx (i - 1) else .none
    | _ => .none
  | s :: r, i =>
    if a < s.1 then
      match m with
      | .exact => .none
      | .below => if i > 0 then .idx (i - 1) else .none
      | .above => .idx i
    else if a > segLast s then locLin a m r (i + 1)
    else .idx i

theorem locLin_nil (a : Nat) (m : Search) (i : Nat) :
    locLin a m [] i = (match m with
      | .below => if i > 0 then .idx (i - 1) else .none
      | _ => .none) := by
  cases m <;> rfl

theorem locLin_cons (a : Nat) (m : Search) (s : Seg) (r : Segs) (i : Nat) :
    locLin a m (s :: r) i =
      (if a < s.1 then
        match m with
        | .exact => .none
        | .below => if i > 0 then .idx (i - 1) else .none
        | .above => .idx i
      else if a > segLast s then locLin a m r (i + 1)
      else .idx i) := by
  cases m <;> rfl

theorem locLin_ne_panic (a : Nat) (m : Search) (ps : Segs) (i : Nat) : locLin a m ps i ≠ .panic := by
  induction ps generalizing i with
  | nil => rw [locLin_nil]; cases m <;> simp <;> split <;> simp
  | cons s r ih =>
    rw [locLin_cons]
    split
    · cases m <;> simp <;> split <;> simp
    · split
      · exact ih _
      · simp

theorem locateLoop_succ (ps : Segs) (addr : Nat) (mode : Search) (fuel first last : Nat) :
    locateLoop ps addr mode (fuel + 1) first last =
      (if last < first then .panic else
      match ps[first + (last - first) / 2]? with
      | none => .panic
      | some seg =>
        if addr < seg.1 then
          if first + (last - first) / 2 = first then
            match mode with
            | .exact => .none
            | .below => if first > 0 then .idx (first - 1) else .none
            | .above => .idx first
          else locateLoop ps addr mode fuel first (first + (last - first) / 2 - 1)
        else if addr > segLast seg then
          if first + (last - first) / 2 = last then
            match mode with
            | .exact => .none
            | .below => .idx last
            | .above => if last < ps.length - 1 then .idx (last + 1) else .none
          else locateLoop ps addr mode fuel (first + (last - first) / 2 + 1) last
        else .idx (first + (last - first) / 2)) := by
  cases mode <;> rfl

theorem locLin_skip (a : Nat) (m : Search) : ∀ (k : Nat) (ps : Segs) (i : Nat), k ≤ ps.length →
    (∀ j t, j < k → ps[j]? = some t → segLast t < a) →
    locLin a m ps i = locLin a m (ps.drop k) (i + k)
  | 0, ps, i, _, _ => by simp
  | k+1, [], i, h, _ => by simp at h
  | k+1, s :: r, i, h, hl => by
    have h0 : segLast s < a := hl 0 s (by omega) (by simp)
    have n1 : ¬ a < s.1 := by unfold segLast at h0; omega
    have ih := locLin_skip a m k r (i+1) (by simpa using h)
      (fun j t hj hjt => hl (j+1) t (by omega) (by simpa using hjt))
    rw [List.drop_succ_cons, ← (show i + 1 + k = i + (k+1) by omega), ← ih]
    rw [locLin_cons, if_neg n1, if_pos h0]

theorem locLin_at_lt {a : Nat} {m : Search} {ps : Segs} {k : Nat} {s : Seg} (hk : ps[k]? = some s)
    (hlow : ∀ j t, j < k → ps[j]? = some t → segLast t < a) (h : a < s.1) :
    locLin a m ps 0 = (match m with
      | .exact => .none
      | .below => if k > 0 then .idx (k - 1) else .none
      | .above => .idx k) := by
  obtain ⟨hlt, rfl⟩ := List.getElem?_eq_some_iff.mp hk
  rw [locLin_skip a m k ps 0 (by omega) hlow, List.drop_eq_getElem_cons hlt, locLin_cons, if_pos h]
  simp

theorem locLin_at_mid {a : Nat} {m : Search} {ps : Segs} {k : Nat} {s : Seg} (hk : ps[k]? = some s)
    (hlow : ∀ j t, j < k → ps[j]? = some t → segLast t < a) (h1 : ¬ a < s.1) (h2 : ¬ a > segLast s) :
    locLin a m ps 0 = .idx k := by
  obtain ⟨hlt, rfl⟩ := List.getElem?_eq_some_iff.mp hk
  rw [locLin_skip a m k ps 0 (by omega) hlow, List.drop_eq_getElem_cons hlt, locLin_cons, if_neg h1, if_neg h2]
  simp

theorem locLin_at_end {a : Nat} {m : Search} {ps : Segs} {last : Nat} (hlast : last < ps.length)
    (hlow : ∀ j t, j < last + 1 → ps[j]? = some t → segLast t < a)
    (hhigh : ∀ j t, last < j → ps[j]? = some t → a < t.1) :
    locLin a m ps 0 = (match m with
      | .exact => .none
      | .below => .idx last
      | .above => if last < ps.length - 1 then .idx (last + 1) else .none) := by
  rw [locLin_skip a m (last + 1) ps 0 (by omega) hlow]
  by_cases c : last + 1 < ps.length
  · have h := hhigh (last + 1) ps[last + 1] (by omega) (by simp)
    have hc : last < ps.length - 1 := by omega
    rw [List.drop_eq_getElem_cons c, locLin_cons, if_pos h]
    cases m <;> simp [hc]
  · have : ps.drop (last + 1) = [] := List.drop_eq_nil_of_le (by omega)
    have hc : ¬ last < ps.length - 1 := by omega
    rw [this, locLin_nil]
    cases m <;> simp [hc]

theorem locateLoop_eq_locLin {ps : Segs} {a : Nat} {m : Search}
    (sorted : ∀ (i j : Nat) (s t : Seg), i < j → ps[i]? = some s → ps[j]? = some t → s.1 + s.2.length < t.1) :
    ∀ (fuel first last : Nat), first ≤ last → last < ps.length → last - first < fuel →
      (∀ j t, j < first → ps[j]? = some t → segLast t < a) →
      (∀ j t, last < j → ps[j]? = some t → a < t.1) →
      locateLoop ps a m fuel first last = locLin a m ps 0
  | 0, _, _, _, _, hf, _, _ => by omega
  | fuel + 1, first, last, hfl, hll, hf, hlow, hhigh => by
    have hmidlt : first + (last - first) / 2 < ps.length := by omega
    have hmid : ps[first + (last - first) / 2]? = some ps[first + (last - first) / 2] :=
      List.getElem?_eq_getElem hmidlt
    generalize hseg : ps[first + (last - first) / 2] = seg at hmid
    rw [locateLoop_succ, if_neg (by omega)]
    simp only [hmid]
    have hlowmid : ∀ j t, j < first + (last - first) / 2 → ps[j]? = some t → segLast t < seg.1 := by
      intro j t hj hjt
      have := sorted j _ t seg hj hjt hmid
      unfold segLast; omega
    by_cases c1 : a < seg.1
    · rw [if_pos c1]
      by_cases e : first + (last - first) / 2 = first
      · rw [if_pos e]
        rw [e] at hmid
        rw [locLin_at_lt hmid hlow c1]
      · rw [if_neg e]
        refine locateLoop_eq_locLin sorted fuel first _ (by omega) (by omega) (by omega) hlow ?_
        intro j t hj hjt
        by_cases ej : j = first + (last - first) / 2
        · subst ej; rw [hmid] at hjt; cases hjt; exact c1
        · have := sorted _ j seg t (by omega) hmid hjt
          omega
    · rw [if_neg c1]
      by_cases c2 : a > segLast seg
      · rw [if_pos c2]
        have hlow' : ∀ j t, j < first + (last - first) / 2 + 1 → ps[j]? = some t → segLast t < a := by
          intro j t hj hjt
          by_cases ej : j = first + (last - first) / 2
          · subst ej; rw [hmid] at hjt; cases hjt; exact c2
          · have := hlowmid j t (by omega) hjt
            omega
        by_cases e : first + (last - first) / 2 = last
        · rw [if_pos e]
          rw [e] at hlow'
          rw [locLin_at_end hll hlow' hhigh]
        · rw [if_neg e]
          exact locateLoop_eq_locLin sorted fuel _ last (by omega) hll (by omega) hlow' hhigh
      · rw [if_neg c2]
        refine (locLin_at_mid hmid ?_ c1 c2).symm
        intro j t hj hjt
        have := hlowmid j t hj hjt
        omega

theorem locate_eq_locLin {l : Nat} {ps : Segs} (ok : Ok l ps) (a : Nat) (m : Search) :
    locate ps a m = locLin a m ps 0 := by
  unfold locate
  cases ps with
  | nil => cases m <;> simp [locLin_nil]
  | cons s r =>
    rw [if_neg (by simp)]
    exact locateLoop_eq_locLin (fun i j s t hij hi hj => Ok_sorted ok hij hi hj) _ 0 _
      (by omega) (by simp) (by simp) (fun j t hj => by omega) (fun j t hj hjt => by
        have := (List.getElem?_eq_some_iff.mp hjt).1
        simp at this hj; omega)

end Trion.Map
