import TrionModel.Lemmas.ShowReads
import TrionModel.Lemmas.ShowLine
/-!
# The one-statement programs around the disassembly text (C19, pipeline clauses)

`progText i a` = `.addr <a>;` ⏎ — if the text of `i` mentions a label — `.const l_XXXXXXXX, <target>;` ⏎, then
`Show.text i a`: an instance of the program text of C04 (`Props/C04Text.lean`), see `Props/C19.lean`.

`progTextFwd i a t` = `.addr <a>;` ⏎ `<Show.text i a>` ⏎ `.const l_XXXXXXXX, <t>;`: the label is defined AFTER the
statement (`run_progFwd`, from `line_later` and `line_task`; the path is told in `Props/C19Asm.lean`).
-/
namespace Trion.Show
open Trion.Front Trion.Lex Trion.Codec

/-- the statements in front of the instruction: `.addr a`, and the definition of the label the text mentions -/
def preStmts (i : Instr) (a : Nat) : List (Bytes × List Arg) :=
  (bytesOf "addr", [.const a]) ::
    (match targetOf i a with
     | none => []
     | some t => [(bytesOf "const", [.ident (label t), .const t])])

def progText (i : Instr) (a : Nat) : Bytes :=
  ((preStmts i a).map fun p => bytesOf "." ++ render p ++ [10]).flatten ++ text i a

/-- the symbol table after the statements in front of the instruction -/
def progTable (i : Instr) (a : Nat) : Asm.Table :=
  match targetOf i a with
  | none => []
  | some t => [(label t, some (t : Int))]

theorem progTable_get (i : Instr) (a : Nat) : ∀ t, targetOf i a = some t → (progTable i a).get (label t) = .found (t : Int) := by
  intro t ht
  simp [progTable, ht, Asm.Table.get, Asm.Table.find]

def addrStmt (a : Nat) : Bytes × List Arg := (bytesOf "addr", [.const a])
def constStmt (t : Nat) : Bytes × List Arg := (bytesOf "const", [.ident (label t), .const t])

def progTextFwd (i : Instr) (a t : Nat) : Bytes :=
  bytesOf "." ++ render (addrStmt a) ++ [10] ++ (text i a ++ ([10] ++ (bytesOf "." ++ render (constStmt t))))

def progValsFwd (i : Instr) (a t : Nat) : List ElemVal :=
  [.directive (bytesOf "addr") (Args.ofList [.const a]),
   .instruction (parts i a).1 (Args.ofList (parts i a).2),
   .directive (bytesOf "const") (Args.ofList [.ident (label t), .const t])]

theorem addrStmt_ok (a : Nat) (ha : a < 4294967296) : identOk (addrStmt a).1 = true ∧ ∀ x ∈ (addrStmt a).2, Opnd x := by
  refine ⟨by show identOk (bytesOf "addr") = true; decide, ?_⟩
  intro x hx; simp [addrStmt] at hx; subst hx
  exact opnd_const _ ⟨by omega, by simp [i64Max]; omega⟩

theorem constStmt_ok (t : Nat) (ht : t < 4294967296) : identOk (constStmt t).1 = true ∧ ∀ x ∈ (constStmt t).2, Opnd x := by
  refine ⟨by show identOk (bytesOf "const") = true; decide, ?_⟩
  intro x hx; simp [constStmt] at hx
  rcases hx with rfl | rfl
  · exact opnd_lblA t
  · exact opnd_const _ ⟨by omega, by simp [i64Max]; omega⟩

theorem parseFile_progFwd (i : Instr) (a t : Nat) (hl : LitOk i) (ha : a < 4294967296) (ht : t < 4294967296) :
    ∃ els, Asm.parseFile (progTextFwd i a t) = .ok (els, none) ∧ els.map (·.val) = progValsFwd i a t := by
  have hA := addrStmt_ok a ha
  have hC := constStmt_ok t ht
  have hS := readsAs_stmt (parts i a) (name_ok i a) (args_ok i a hl) (some 10)
  rw [← text_eq_render_proof] at hS
  have := ((readsAs_dir _ hA.1 hA.2 (some 10)).append
    ((hS.append ((readsAs_dir _ hC.1 hC.2 none).ws [10] (by decide))).ws [10] (by decide))).parseFile
  simpa [progTextFwd, progValsFwd, addrStmt, constStmt, List.append_assoc] using this

/-- C19 (props/C19.json)  the whole pipeline on `progTextFwd i a t`, the printed statement with its label defined after it:
success, no diagnostic, the image is the encoding of `i` at `a` (`show_run_forward`, `Props/C19Asm.lean`, is this for a
decoded `i`) -/
theorem run_progFwd (i : Instr) (a t : Nat) (ht : targetOf i a = some t) (hl : LitOk i) (hws : List Nat)
    (he : Codec.encode i = .ok hws) (hlen : hws.length = 1 ∨ hws.length = 2) (hfit : a + 2 * hws.length ≤ 4294967296)
    (hp : Printable i a) (hev : EvalOK (Asm.frontEval [(label t, some (t : Int))]) i a)
    (fs : Bytes → Option Bytes) (main : Bytes) (hfs : fs main = some (progTextFwd i a t)) :
    Asm.run fs main = .done ⟨true, none, true, [], [(a, (Codec.toBytes hws).map (·.toUInt8))]⟩ := by
  have ha : a < 4294967296 := by omega
  have ht32 := targetOf_lt i a t ht
  obtain ⟨els, hparse, hels⟩ := parseFile_progFwd i a t hl ha (by omega)
  have hblen : ((Codec.toBytes hws).map (·.toUInt8)).length = 2 * hws.length := by simp [Asm.toBytes_length]
  simp only [progValsFwd] at hels
  obtain ⟨l1, c1, r1, rfl, hr1⟩ := Asm.map_val_cons hels
  obtain ⟨l2, c2, r2, rfl, hr2⟩ := Asm.map_val_cons hr1
  obtain ⟨l3, c3, r3, rfl, hr3⟩ := Asm.map_val_cons hr2
  cases List.map_eq_nil_iff.mp hr3
  let inc := Asm.assembleFile fs Asm.encoder (Asm.maxDepth - 1)
  let env : Asm.Env := ⟨[main], main⟩
  let n := 2 * hws.length
  let task : Asm.Task := .instr ⟨main, l2, c2, deferSt i a, true⟩ false
  let tbl : Asm.Table := [(label t, some (t : Int))]
  have haddr : Asm.statement fs Asm.encoder inc env ⟨Seg.init, [], some [], [], some [], []⟩
      ⟨l1, c1, .directive (bytesOf "addr") (Args.ofList [.const a])⟩ = .ok (stG a [] [] [] [], .ok) := by
    rw [Asm.statement_directive, Asm.addr_run fs inc env _ [] (by simp [env]) rfl rfl l1 c1 (a : Int) (by omega) (by omega)]
    simp [stG]
  have hinstr : Asm.statement fs Asm.encoder inc env (stG a [] [] [] [])
      ⟨l2, c2, .instruction (parts i a).1 (Args.ofList (parts i a).2)⟩ =
      .ok (stG a ([] ++ List.replicate n 0xBE) [] [(a, n)] ([] ++ [task]), .ok) :=
    line_later fs inc main a [] [] l2 c2 i a hws he hlen [] [] t ht rfl rfl hfit
  have hconst : Asm.statement fs Asm.encoder inc env (stG a ([] ++ List.replicate n 0xBE) [] [(a, n)] ([] ++ [task]))
      ⟨l3, c3, .directive (bytesOf "const") (Args.ofList [.ident (label t), .const t])⟩ =
      .ok (stG a ([] ++ List.replicate n 0xBE ++ []) tbl [(a, n)] [task], .ok) := by
    rw [Asm.statement_directive, Asm.const_run fs inc env _ [] (by simp [env]) rfl l3 c3 (label t) (t : Int)
      (isRegister_label t) rfl]
    simp [stG, tbl, Asm.Table.set]
  have htask : Asm.runTask Asm.encoder env (stG a ([] ++ List.replicate n 0xBE ++ []) tbl [(a, n)] []) task =
      .ok (stG a ([] ++ (Codec.toBytes hws).map (·.toUInt8) ++ []) tbl [(a, n)] [], .ok) :=
    line_task main a tbl [(a, n)] l2 c2 i a hws he hlen [] [] t ht hp hev rfl (by simpa using hfit)
  have key : Asm.doAssemble fs Asm.encoder inc env
      [⟨l1, c1, .directive (bytesOf "addr") (Args.ofList [.const a])⟩,
       ⟨l2, c2, .instruction (parts i a).1 (Args.ofList (parts i a).2)⟩,
       ⟨l3, c3, .directive (bytesOf "const") (Args.ofList [.ident (label t), .const t])⟩] none
      ⟨Seg.init, [], some [], [], some [], []⟩ = .ok (stG a ([] ++ List.replicate n 0xBE ++ []) tbl [(a, n)] [task], .ok) := by
    simp only [Asm.doAssemble, haddr, hinstr, hconst]
  exact Asm.run_of_statements_tasks fs main (progTextFwd i a t) hfs _ hparse tbl
    ⟨a, [] ++ List.replicate n 0xBE ++ [], Map.u32Max - a + 1⟩ ⟨a, (Codec.toBytes hws).map (·.toUInt8), Map.u32Max - a + 1⟩
    [(a, n)] [(a, n)] [task] key (.cons (by simpa [stG] using htask) (.nil _))
    (fun e => by have := congrArg List.length e; simp only [hblen, List.length_nil] at this; omega)
    (by simp only [hblen]; exact hfit)

end Trion.Show
