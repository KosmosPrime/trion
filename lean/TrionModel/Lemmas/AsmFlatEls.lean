import TrionModel.Lemmas.AsmXferRun
import TrionModel.Lemmas.LayoutRen
/-!
# Projects with `.include` and file-local names only: the flattening `Multi.FlatEls` as a family of `Xfer.Flat`

`FlatEls` numbers the main file 0 and has no name space for an includer of the main file, while the simulation of
Lemmas/AsmXferRun.lean runs the main file as instance 1 of an (empty) includer 0.  A jointly injective numbering may be onto,
so the room is made by renaming: `shift num` numbers instance `i + 1` by `up (num i ·)` (the odd numbers) and the includer of
the main file by even numbers.  A flattening over `shift num` of a tree without `.global/.import/.export` is the `up`-renaming
of a `FlatEls` flattening over `num` (`FE`), and the reference does not see the renaming (Lemmas/LayoutRen.lean).
-/
namespace Trion.Asm
open Trion Trion.SegLayout Trion.Asm.Multi Trion.Asm.Glob Trion.Asm.Xfer
open Trion.Layout (Stmt.ren up)

theorem valueStmt_ren (f : Nat → Nat) (num : Bytes → Nat) (len : Nat) (deps : List Bytes) (final : Bytes) :
    valueStmt (fun n => f (num n)) len deps final = (valueStmt num len deps final).ren f := by
  unfold valueStmt
  split
  · rfl
  · simp only [Stmt.ren, List.map_map]; rfl

theorem absStmt_ren (f : Nat → Nat) (num : Bytes → Nat) (fs : Bytes → Option Bytes) (enc : Encoder) (path : Bytes) (t : Table)
    (c : Option Nat) (el : Element) :
    absStmt (fun n => f (num n)) fs enc path t c el = (absStmt num fs enc path t c el).ren f := by
  unfold absStmt
  repeat' split
  all_goals first
    | rfl
    | exact valueStmt_ren ..
    | (simp only [Stmt.ren, List.map_map]; rfl)

theorem okInc_not3 {el : Element} (h : okInc el = true) : isGlobal el = false ∧ isExport el = false ∧ isImport el = false := by
  obtain ⟨line, col, val⟩ := el
  cases val with
  | label n => exact ⟨rfl, rfl, rfl⟩
  | instruction n a => exact ⟨rfl, rfl, rfl⟩
  | directive name args =>
    simp only [okInc, Bool.not_eq_true', Bool.or_eq_false_iff, decide_eq_false_iff_not] at h
    simp only [isGlobal, isExport, isImport, decide_eq_false_iff_not]
    exact ⟨h.1.1, h.2, h.1.2⟩

theorem okInc_of_okEl {el : Element} (h : okEl el = true) : okInc el = true ∧ isInclude el = false := by
  obtain ⟨_, _, v⟩ := el; cases v <;> simp_all [okEl, okInc, isInclude]

theorem elsOk_of_okInc (fs : Bytes → Option Bytes) (path : Bytes) (proj : List Bytes → Bytes → Bytes → Prop) (avail : List Bytes) :
    ∀ (els : List Element) (seen : List Bytes),
      (∀ el ∈ els, okInc el = true ∧ ∀ p' d', incTarget fs path el = some (p', d') → ∀ a, proj a p' d') →
      ElsOk fs path proj avail seen els := by
  intro els
  induction els with
  | nil => intro _ _; trivial
  | cons el els ih =>
    intro seen hok
    have hel := hok el List.mem_cons_self
    have h3 := okInc_not3 hel.1
    exact ⟨fun hg => (by rw [h3.1] at hg; cases hg), fun hm => (by rw [h3.2.2] at hm; cases hm),
      fun p' d' ht => hel.2 p' d' ht _, ih _ (fun x hx => hok x (List.mem_cons_of_mem _ hx))⟩

theorem filterMap_pubName_okInc : ∀ (els : List Element), (∀ el ∈ els, okInc el = true) → els.filterMap pubName = []
  | [], _ => rfl
  | el :: els, h => by
    have h3 := okInc_not3 (h el List.mem_cons_self)
    simp only [List.filterMap_cons, pubName, globalName_none h3.1, exportName_none h3.2.1]
    exact filterMap_pubName_okInc els (fun x hx => h x (List.mem_cons_of_mem _ hx))

/-- an injective code of byte strings: bijective base 256 -/
def exCode : Bytes → Nat
  | [] => 0
  | x :: r => x.toNat + 1 + 256 * exCode r

theorem exCode_inj : ∀ a b : Bytes, exCode a = exCode b → a = b
  | [], [], _ => rfl
  | [], y :: s, h => by simp only [exCode] at h; omega
  | x :: r, [], h => by simp only [exCode] at h; omega
  | x :: r, y :: s, h => by
    simp only [exCode] at h
    have hx := x.toNat_lt
    have hy := y.toNat_lt
    have h1 : x.toNat = y.toNat := by omega
    have h2 : exCode r = exCode s := by omega
    rw [exCode_inj r s h2, UInt8.toNat_inj.mp h1]

/-- `num` moved up by one instance, into the odd numbers (`up`); instance 0, the includer of the main file, gets the even ones -/
def shift (num : Nat → Bytes → Nat) : Nat → Bytes → Nat
  | 0, n => 2 * exCode n
  | i + 1, n => up (num i n)

theorem shift_inj {num : Nat → Bytes → Nat} (h : NumInj num) : NumInj (shift num) := by
  intro i j a b e
  cases i with
  | zero =>
    cases j with
    | zero => exact ⟨rfl, exCode_inj _ _ (by simp only [shift] at e; omega)⟩
    | succ j => simp only [shift, up] at e; omega
  | succ i =>
    cases j with
    | zero => simp only [shift, up] at e; omega
    | succ j =>
      obtain ⟨e1, e2⟩ := h i j a b (by simp only [shift, up] at e; omega)
      exact ⟨by rw [e1], e2⟩

/-- the flattenings over `shift num` that are `up`-renamings of `FlatEls` flattenings over `num`, instance `i + 1` for `i` -/
def FE (num : Nat → Bytes → Nat) (fs : Bytes → Option Bytes) (enc : Encoder) : FlatT :=
  fun E _ id path t nxt c els p' nxt' => ∀ i n₀, id = i + 1 → nxt = n₀ + 1 →
    ∃ p n₁, nxt' = n₁ + 1 ∧ p' = p.map (Stmt.ren up) ∧ FlatEls num fs enc E.down i path t n₀ c els p n₁

theorem FE.flat (num : Nat → Bytes → Nat) (fs : Bytes → Option Bytes) (enc : Encoder) :
    Flat (shift num) fs enc (fun el => okInc el = true) (FE num fs enc) where
  nil := fun _ _ _ _ _ _ _ _ n₀ _ h2 => ⟨[], n₀, h2, rfl, .nil ..⟩
  stmt := fun {_ _ _ path t _ c el _ _ _} _ hi _ _ _ _ h i n₀ h1 h2 => by
    subst h1
    have e : absStmt (shift num (i + 1)) fs enc path t c el = (absStmt (num i) fs enc path t c el).ren up :=
      absStmt_ren up (num i) ..
    rw [e, Layout.ren_next] at h
    obtain ⟨p, n₁, e1, e2, e3⟩ := h i n₀ rfl h2
    exact ⟨_ :: p, n₁, e1, by rw [e, e2]; rfl, .stmt hi e3⟩
  pubs := fun hok hg _ => by
    have h3 := okInc_not3 hok
    rw [h3.1, h3.2.1] at hg
    simp at hg
  imp := fun hok hi _ _ => by rw [importName_none (okInc_not3 hok).2.2] at hi; cases hi
  inc := fun {_ _ _ _ _ _ c _ _ _ _ _ _ _ _ _ _ _ A} _ htgt hparse hokc her hc hAn _ hp i n₀ h1 h2 => by
    subst h1; subst h2
    obtain ⟨pc, m, e1, e2, e3⟩ := hc n₀ (n₀ + 1) rfl rfl
    subst e1; subst e2
    rw [Layout.ren_cursorAfter] at hp
    obtain ⟨p, n₁, e4, e5, e6⟩ := hp i m rfl rfl
    obtain rfl : A = [] := List.map_eq_nil_iff.mp (hAn.trans (filterMap_pubName_okInc _ hokc))
    refine ⟨pc ++ p, n₁, e4, by simp only [aliases, List.map_nil, List.nil_append, List.map_append, e5], ?_⟩
    exact .inc htgt hparse (fun n => by rw [Layout.Env.get_down]; exact her n) e3 e6

theorem localProject_step (fs : Bytes → Option Bytes) (fuel : Nat) (avail : List Bytes) (path data : Bytes)
    (h : LocalProject fs (fuel + 1) path data) (els : List Element) (perr : Option ParseErr)
    (hp : parseFile data = .ok (els, perr)) :
    ElsOk fs path (fun _ p d => LocalProject fs fuel p d) avail [] els ∧ ∀ el ∈ els, okInc el = true :=
  ⟨elsOk_of_okInc fs path _ avail els [] (fun el hel => ⟨(h els perr hp el hel).1, fun p' d' ht _ => (h els perr hp el hel).2 p' d' ht⟩),
    fun el hel => (h els perr hp el hel).1⟩

/-- what the recursive call of `.include` does in a tree free of `.global/.import/.export`, seen from the includer -/
theorem Multi.assembleFile_sim {num : Nat → Bytes → Nat} {enc : Encoder} (hinj : NumInj num) (henc : EncLen enc)
    (fs : Bytes → Option Bytes) (fuel : Nat) :
    FIncSim (shift num) (fun el => okInc el = true) (FE num fs enc) (assembleFile fs enc fuel)
      (fun _ p d => LocalProject fs fuel p d) :=
  assembleFile_simF (shift_inj hinj) henc fs (FE.flat num fs enc) (fun fuel _ p d => LocalProject fs fuel p d)
    (localProject_step fs) fuel

end Trion.Asm
