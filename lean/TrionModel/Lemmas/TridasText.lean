import TrionModel.Lemmas.ShowReads
import TrionModel.Model.Tridas
/-!
# The text of a tridas listing, and the tokenizer + parser on it (C20, text level)

`lineText` is what the `println!`s of `src/bin/disassembler.rs` write for a line of the listing model:
`.addr 0x20000000;⏎`, an empty line, `l_XXXXXXXX:⏎`, `⇥<instr.at(addr)>⏎`.
`parseFile_listing`: the tokenizer and parser models read the whole text as exactly the statements of the lines
(`lineVals`), without error.

Three things are called "render" here: `Tridas.render` (model) makes the lines of a listing from the entries,
`Show.render` the text of one statement, and `Render.elemVal` (C09) the tokens of a statement.
-/
namespace Trion.Tridas
open Trion.Lex Trion.Show

def lineText : Line → Bytes
  | .header => bytesOf ".addr 0x20000000;\n"
  | .blank => [10]
  | .label a => label a ++ bytesOf ":\n"
  | .instr a i => [9] ++ text i a ++ [10]

/-- stdout of `tridas` for a listing -/
def listingText (ls : List Line) : Bytes := (ls.map lineText).flatten

/-- the statements a line denotes -/
def lineVals : Line → List ElemVal
  | .header => [.directive (bytesOf "addr") (Args.ofList [.const 0x20000000])]
  | .blank => []
  | .label a => [.label (label a)]
  | .instr a i => [.instruction (parts i a).1 (Args.ofList (parts i a).2)]

/-- the instruction lines carry no negative literal (true of every decoded instruction) -/
def LinesOk (ls : List Line) : Prop := ∀ a i, Line.instr a i ∈ ls → LitOk i

theorem readsAs_line (l : Line) (hl : ∀ a i, l = .instr a i → LitOk i) (nx : Option UInt8) :
    ReadsAs (lineText l) nx (lineVals l) := by
  have hnl : ∀ x ∈ ([10] : Bytes), isSpace x = true := by decide
  cases l with
  | header =>
    have c0 := (Cuts.nil nx).ws [10] hnl
    have c1 := c0.tok (TokOk.punct 59 .term _ (by decide) (by decide))
    have c2 := c1.tok (TokOk.num 16 (bytesOf "20000000") 0x20000000 _ (by omega) (by decide) (by decide) (by decide)
      (follow_of_not_ident (b := 59) (by decide)))
    have c3 := (c2.ws [32] (by decide)).tok (TokOk.ident (bytesOf "addr") _ (by decide) (follow_of_not_ident (b := 32) (by decide)))
    exact .one (c3.tok (TokOk.punct 46 .dirMark _ (by decide) (by decide)))
      (dir_wf (bytesOf "addr", [.const 0x20000000]) (by decide)
        (by intro x hx; simp at hx; subst hx; exact opnd_const _ (by decide)))
  | blank => exact (ReadsAs.nil nx).ws [10] hnl
  | label a =>
    have c1 := ((Cuts.nil nx).ws [10] hnl).tok (TokOk.punct 58 .labelMark _ (by decide) (by decide))
    refine .one (c1.tok (TokOk.ident (label a) _ (identOk_label a) (follow_of_not_ident (b := 58) (by decide)))) ?_
    intro e
    have := identOk_label a
    rw [e] at this; simp [identOk] at this
  | instr a i =>
    have hlit := hl a i rfl
    have := (readsAs_stmt (parts i a) (name_ok i a) (args_ok i a hlit) (some 10)).append ((ReadsAs.nil nx).ws [10] hnl)
    rw [← text_eq_render_proof] at this
    exact this.ws [9] (by decide)

theorem readsAs_lines (ls : List Line) (h : LinesOk ls) : ReadsAs (listingText ls) none (ls.flatMap lineVals) := by
  induction ls with
  | nil => exact .nil none
  | cons l r ih =>
    exact (readsAs_line l (fun a i e => h a i (by simp [e])) _).append (ih (fun a i m => h a i (by simp [m])))

theorem parseFile_listing (ls : List Line) (h : LinesOk ls) :
    ∃ els, Asm.parseFile (listingText ls) = .ok (els, none) ∧ els.map (·.val) = ls.flatMap lineVals :=
  (readsAs_lines ls h).parseFile

end Trion.Tridas
