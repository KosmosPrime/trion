import TrionModel.Lemmas.ParseAll
import TrionModel.Lemmas.LexExact
/-!
# Statements as token segments placed in the text

`StmtsAt text lo start ts els left`: the segmentation `Segs` (`Lemmas/ParseAll.lean`) with every segment located in the text: the first token of segment `i`
has the extent `[oᵢ, eᵢ)`, the remaining tokens of the segment are placed from `eᵢ` to `stopᵢ`, the next segment is
searched from `stopᵢ`, and element `i` carries `Pos.of (text.take oᵢ)`.
-/
namespace Trion.Parse
open Trion.Lex (Exact IsSep Spell)

/-- tokens placed in the text from `start`, the last extent ending at `stop` (no condition on what follows) -/
inductive ExactTo (text : Bytes) : Nat → List Token → Nat → Prop
  | nil (start : Nat) : start ≤ text.length → ExactTo text start [] start
  | cons (start o e stop : Nat) (t : Token) (ts : List Token) :
      start ≤ o → o < e → e ≤ text.length →
      IsSep ((text.take o).drop start) →
      Spell ((text.take e).drop o) t.val text[e]? →
      (t.line, t.col) = Pos.of (text.take o) →
      ExactTo text e ts stop → ExactTo text start (t :: ts) stop

theorem exact_start_le {text : Bytes} {start : Nat} {ts : List Token} (h : Exact text start ts) : start ≤ text.length := by
  cases h with
  | nil _ h _ => exact h
  | cons _ o e _ _ h1 h2 h3 _ _ _ _ => omega

theorem exactTo_le {text : Bytes} {start stop : Nat} {ts : List Token} (h : ExactTo text start ts stop) :
    start ≤ stop ∧ stop ≤ text.length := by
  induction h with
  | nil _ h => exact ⟨Nat.le_refl _, h⟩
  | cons _ o e _ _ _ h1 h2 _ _ _ _ _ ih => omega

theorem exact_split {text : Bytes} {start : Nat} (a b : List Token) (h : Exact text start (a ++ b)) :
    ∃ stop, ExactTo text start a stop ∧ Exact text stop b := by
  induction a generalizing start with
  | nil => exact ⟨start, .nil _ (exact_start_le h), h⟩
  | cons t a ih =>
    cases h with
    | cons _ o e _ _ h1 h2 h3 h4 h5 h6 h7 =>
      obtain ⟨stop, hx, hy⟩ := ih h7
      exact ⟨stop, .cons start o e stop t a h1 h2 h3 h4 h5 h6 hx, hy⟩

inductive StmtsAt (text : Bytes) (lo : LexOut) : Nat → List Token → List Element → List Token → Prop
  | nil (start : Nat) (ts : List Token) : StmtsAt text lo start ts [] ts
  | cons (start o e stop : Nat) (t : Token) (seg r' : List Token) (el : Element) (els : List Element) (left : List Token) :
      start ≤ o → o < e → e ≤ text.length →
      IsSep ((text.take o).drop start) →                          -- separator text before the statement
      Spell ((text.take e).drop o) t.val text[e]? →              -- `[o, e)` spells its first token,
      (t.val = .dirMark ∨ ∃ s, t.val = .ident s) →               -- a `.` or the name / label identifier
      ExactTo text e seg stop →                                  -- the rest of the statement's tokens, up to `stop`
      element lo t (seg ++ r') = .ok (el, r') →                  -- `do_next` reads `el` from exactly this segment
      (el.line, el.col) = Pos.of (text.take o) →                 -- and `el` carries the specified position of `o`
      StmtsAt text lo stop r' els left →                         -- the next statement is searched from `stop`
      StmtsAt text lo start (t :: (seg ++ r')) (el :: els) left

theorem stmtsAt_of_segs {text : Bytes} {lo : LexOut} {ts : List Token} {els : List Element} {left : List Token}
    (hs : Segs lo ts els left) : ∀ {start : Nat}, Exact text start ts → StmtsAt text lo start ts els left := by
  induction hs with
  | nil ts => intro start _; exact .nil start ts
  | cons t seg r' el els left he _ ih =>
    obtain ⟨_, hl, hc, hk⟩ := element_ok he
    intro start hx
    cases hx with
    | cons _ o e _ _ h1 h2 h3 h4 h5 h6 h7 =>
      obtain ⟨stop, hseg, hrest⟩ := exact_split seg r' h7
      exact .cons start o e stop t seg r' el els left h1 h2 h3 h4 h5 hk hseg he (by rw [hl, hc]; exact h6) (ih hrest)

theorem segs_of_stmtsAt {text : Bytes} {lo : LexOut} {start : Nat} {ts : List Token} {els : List Element}
    {left : List Token} (h : StmtsAt text lo start ts els left) : Segs lo ts els left := by
  induction h with
  | nil _ ts => exact .nil ts
  | cons _ o e stop t seg r' el els left _ _ _ _ _ _ _ he _ _ ih =>
    exact .cons t seg r' el els left he ih

theorem stmtsAt_offsets {text : Bytes} {lo : LexOut} {start : Nat} {ts : List Token} {els : List Element}
    {left : List Token} (h : StmtsAt text lo start ts els left) :
    ∃ offs : List Nat, offs.length = els.length ∧ offs.Pairwise (· < ·) ∧ (∀ o ∈ offs, start ≤ o ∧ o < text.length) ∧
      els.map (fun e => (e.line, e.col)) = offs.map (fun o => Pos.of (text.take o)) := by
  induction h with
  | nil _ _ => exact ⟨[], rfl, List.Pairwise.nil, by simp, rfl⟩
  | cons start o e stop t seg r' el els left h1 h2 h3 _ _ _ hseg _ hpos _ ih =>
    obtain ⟨offs, hl, hp, hb, hm⟩ := ih
    have hle := exactTo_le hseg
    refine ⟨o :: offs, by simp [hl], ?_, ?_, ?_⟩
    · refine List.Pairwise.cons ?_ hp
      intro x hx; have := (hb x hx).1; omega
    · intro x hx
      rcases List.mem_cons.mp hx with rfl | hx
      · omega
      · have := hb x hx; omega
    · simp only [List.map_cons, hm, hpos]

end Trion.Parse
