import TrionModel.Lemmas.FrontRun
/-! # `assemble` and `build` by outcome: arity, panic freedom, completion; letter case of the lookups (C04) -/
namespace Trion.Front

theorem assemble_arity (st : St) (eval : Arg → EvalOut) (loc : Bool) (hl : st.args.length ≠ (kinds st.instr).length) :
    assemble st eval loc =
      (st, .error (if st.args.length > (kinds st.instr).length then .tooMany (kinds st.instr).length st.args.length
                   else .notEnough (kinds st.instr).length st.args.length)) := by
  unfold assemble
  by_cases hg : st.args.length > (kinds st.instr).length
  · simp [hg]
  · have : st.args.length < (kinds st.instr).length := by omega
    simp [hg, this]

/-- `assemble` never reaches the `self.args[arg_pos]` index panic -/
theorem assemble_no_panic_proof (st : St) (eval : Arg → EvalOut) (loc : Bool) : (assemble st eval loc).2 ≠ .panic := by
  by_cases hl : st.args.length = (kinds st.instr).length
  · rw [assemble_eq_run hl]
    unfold assembleRun
    split
    · rename_i s hs; exact (run_early (by omega) hs).ne_panic
    · split <;> simp
  · rw [assemble_arity st eval loc hl]; simp

theorem arity_rejected_proof (a : Nat) (name : Bytes) (args : List Arg) (eval : Arg → EvalOut) (loc : Bool) (t : Instr)
    (hm : mnemonic name = some t) (h : args.length ≠ (kinds t).length) :
    build a name args eval loc =
      .error (if args.length > (kinds t).length then .tooMany (kinds t).length args.length
              else .notEnough (kinds t).length args.length)
        { addr := a, instr := t, argsDone := 0, args := args } := by
  simp only [build, hm, assemble_arity ⟨a, t, 0, args⟩ eval loc h]

theorem build_completed_iff {a : Nat} {name : Bytes} {args : List Arg} {eval : Arg → EvalOut} {loc : Bool} {t i : Instr}
    (hm : mnemonic name = some t) :
    build a name args eval loc = .completed i ↔
      args.length = (kinds t).length ∧ (run eval loc (kinds t) 0 args 0).stop = none ∧
        finish a (stores t 0 (run eval loc (kinds t) 0 args 0).vals) (run eval loc (kinds t) 0 args 0).vals (kinds t).length = .ok i := by
  by_cases hl : args.length = (kinds t).length
  · simp only [build, hm, assemble_eq_run (st := ⟨a, t, 0, args⟩) hl, hl, true_and]
    unfold assembleRun
    cases hs : (run eval loc (kinds t) 0 args 0).stop with
    | some s =>
      have := run_early (by omega) hs
      cases s <;> simp_all [Res.early]
    | none =>
      cases hf : finish a (stores t 0 (run eval loc (kinds t) 0 args 0).vals) (run eval loc (kinds t) 0 args 0).vals (kinds t).length <;>
        simp
  · rw [arity_rejected_proof a name args eval loc t hm hl]; simp [hl]

theorem upperByte_idem (b : UInt8) : upperByte (upperByte b) = upperByte b := by
  unfold upperByte
  split
  · rename_i h
    -- an upper-cased letter lies in 65..90, outside the lower-case range
    have e : (b - 32).toNat = b.toNat - 32 := by
      rw [UInt8.toNat_sub_of_le _ _ (by rw [UInt8.le_iff_toNat_le]; exact Nat.le_trans (by decide) h.1)]; rfl
    rw [if_neg (by rw [e]; omega)]
  · rfl
theorem upper_idem (s : Bytes) : upper (upper s) = upper s := by
  simp [upper, List.map_map, Function.comp_def, upperByte_idem]
theorem upper_length (s : Bytes) : (upper s).length = s.length := by simp [upper]
theorem regl_upper (s : Bytes) : regl (upper s) = regl s := by simp [regl, upper_idem, upper_length]
theorem sysl_upper (s : Bytes) : sysl (upper s) = sysl s := by simp [sysl, upper_idem, upper_length]
theorem isRegister_upper (s : Bytes) : isRegister (upper s) = isRegister s := by
  simp [isRegister, upper_idem, upper_length]
theorem mnemonic_upper (s : Bytes) : mnemonic (upper s) = mnemonic s := by
  simp [mnemonic, foldName, upper_idem, upper_length]
end Trion.Front
