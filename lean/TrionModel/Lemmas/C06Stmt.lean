import TrionModel.Lemmas.C06Dispatch
import TrionModel.Lemmas.C04Prog
/-!
# Statement-level facts for C06 "invalid constructs are reported": what each invalid statement does to the state
-/
namespace Trion.C04
open Trion Trion.Asm Trion.Front

variable {fs : Bytes → Option Bytes} {enc : Asm.Encoder} {inc : Asm.Inc} {env : Asm.Env} {st : Asm.St} {l c : Nat}

section
variable {tbl : Asm.Table} (henv : env.paths ≠ []) (hl : st.locals = some tbl)
include henv hl

theorem evalArg_str (s : Bytes) : Asm.evalArg env st (.str s) = .ok (.complete (.str s)) := by
  rw [Asm.evalArg_eq (paths_nonempty henv) hl]; simp [Asm.evalIn, Simp.evaluateE]

theorem evalArg_value (hn : Asm.Table.NoDef tbl) {b : Arg} {v : Int} (hv : value (tabOf tbl) b = some v) :
    Asm.evalArg env st b = .ok (.complete (.const v)) := by
  rw [Asm.evalArg_eq (paths_nonempty henv) hl]; exact evalIn_of_value hn hv

theorem evalArg_undef {n : Bytes} (hr : isRegister n = false) (hf : tbl.find n = none) :
    Asm.evalArg env st (.ident n) = .ok (.noSuch n (.ident n)) := by
  rw [Asm.evalArg_eq (paths_nonempty henv) hl]; simp [Asm.evalIn, Simp.evaluateE, hr, Asm.Table.get, hf]

theorem evalArg_du_bad (hn : Asm.Table.NoDef tbl) (du : Asm.DU) {b : Arg}
    (hb : (∃ v, value (tabOf tbl) b = some v ∧ ¬ (0 ≤ v ∧ v ≤ du.max)) ∨ (∃ s, b = .str s)) :
    ∃ a', Asm.evalArg env st b = .ok (.complete a') ∧ ∀ v, a' = .const v → ¬ (0 ≤ v ∧ v ≤ du.max) := by
  rcases hb with ⟨v, hv, hr⟩ | ⟨s, rfl⟩
  · exact ⟨.const v, evalArg_value henv hl hn hv, fun w hw => by cases hw; exact hr⟩
  · exact ⟨.str s, evalArg_str henv hl s, fun w hw => by cases hw⟩

theorem const_reserved (hn : Asm.Table.NoDef tbl) {name : Bytes} (hr : isRegister name = true) {b : Arg} {v : Int}
    (hv : value (tabOf tbl) b = some v) :
    Asm.directive fs inc env st l c (bytesOf "const") [.ident name, b] =
      .ok (st.push env l c (.dirApply "const" (.constReserved name)), .err .fatal) := by
  rw [directive_const, Asm.constDirective_ident, Asm.evalStrict_complete (evalArg_value henv hl hn hv)]
  simp only [Asm.insertConstant_register hr]

theorem addr_kind {s : Bytes} :
    Asm.directive fs inc env st l c (bytesOf "addr") [.str s] =
      .ok (st.push env l c (.dirArgType "addr" 0 .const .str), .err .trivial) := by
  rw [directive_addr, Asm.addrDirective_one, Asm.evalStrict_complete (evalArg_str henv hl s)]
  rfl

theorem const_kind1 {name s : Bytes} :
    Asm.directive fs inc env st l c (bytesOf "const") [.ident name, .str s] =
      .ok (st.push env l c (.dirArgType "const" 1 .const .str), .err .trivial) := by
  rw [directive_const, Asm.constDirective_ident, Asm.evalStrict_complete (evalArg_str henv hl s)]
  rfl

theorem align_kind (hact : st.seg.active.isSome = true) {s : Bytes} :
    Asm.directive fs inc env st l c (bytesOf "align") [.str s] =
      .ok (st.push env l c (.dirArgType "align" 0 .const .str), .err .trivial) := by
  rw [directive_align]
  cases hc : st.seg.active with
  | none => simp [hc] at hact
  | some seg => simp [Asm.alignDirective, hc, Asm.arity, Asm.evalStrict, evalArg_str henv hl, Arg.ty]

theorem addr_range (hn : Asm.Table.NoDef tbl) {b : Arg} {v : Int} (hv : value (tabOf tbl) b = some v)
    (hr : ¬ (0 ≤ v ∧ v ≤ 4294967295)) :
    Asm.directive fs inc env st l c (bytesOf "addr") [b] =
      .ok (st.push env l c (.dirApply "addr" (.addrRange v)), .err .fatal) := by
  rw [directive_addr, Asm.addrDirective_one, Asm.evalStrict_complete (evalArg_value henv hl hn hv)]
  simp only [if_neg hr]

theorem align_range (hn : Asm.Table.NoDef tbl) (hact : st.seg.active.isSome = true) {b : Arg} {v : Int}
    (hv : value (tabOf tbl) b = some v) (hr : ¬ (0 < v ∧ v ≤ 4294967295)) :
    Asm.directive fs inc env st l c (bytesOf "align") [b] =
      .ok (st.push env l c (.dirApply "align" (.alignRange v)), .err .fatal) := by
  rw [directive_align]
  cases hc : st.seg.active with
  | none => simp [hc] at hact
  | some seg =>
    simp only [Asm.alignDirective, hc, Option.isNone_some, Bool.false_eq_true, if_false, Asm.arity, List.length_cons,
      List.length_nil, Nat.zero_add, if_true, Asm.evalStrict, evalArg_value henv hl hn hv, if_neg hr]

theorem addr_undefined {n : Bytes} (hr : isRegister n = false) (hf : tbl.find n = none) :
    Asm.directive fs inc env st l c (bytesOf "addr") [.ident n] =
      .ok (st.push env l c (.dirApply "addr" (.eval (.noSuch n))), .err .fatal) := by
  rw [directive_addr, Asm.addrDirective_one, Asm.evalStrict_noSuch (evalArg_undef henv hl hr hf)]

theorem const_undefined {name n : Bytes} (hr : isRegister n = false) (hf : tbl.find n = none) :
    Asm.directive fs inc env st l c (bytesOf "const") [.ident name, .ident n] =
      .ok (st.push env l c (.dirApply "const" (.eval (.noSuch n))), .err .fatal) := by
  rw [directive_const, Asm.constDirective_ident, Asm.evalStrict_noSuch (evalArg_undef henv hl hr hf)]

theorem align_undefined (hact : st.seg.active.isSome = true) {n : Bytes} (hr : isRegister n = false) (hf : tbl.find n = none) :
    Asm.directive fs inc env st l c (bytesOf "align") [.ident n] =
      .ok (st.push env l c (.dirApply "align" (.eval (.noSuch n))), .err .fatal) := by
  rw [directive_align]
  cases hc : st.seg.active with
  | none => simp [hc] at hact
  | some seg => simp [Asm.alignDirective, hc, Asm.arity, Asm.evalStrict, evalArg_undef henv hl hr hf]

theorem const_duplicate (hn : Asm.Table.NoDef tbl) {name : Bytes} (hr : isRegister name = false) {w : Int}
    (hf : tbl.find name = some (some w)) {b : Arg} {v : Int} (hv : value (tabOf tbl) b = some v) :
    Asm.directive fs inc env st l c (bytesOf "const") [.ident name, b] =
      .ok (st.push env l c (.dirApply "const" (.constDirDuplicate name)), .err .fatal) := by
  rw [directive_const, Asm.constDirective_ident, Asm.evalStrict_complete (evalArg_value henv hl hn hv)]
  simp only [Asm.insertConstant_loc hr hl, hf]

end

theorem global_reserved {name : Bytes} (hr : isRegister name = true) :
    Asm.directive fs inc env st l c (bytesOf "global") [.ident name] =
      .ok (st.push env l c (.dirApply "global" (.constReserved name)), .err .fatal) := by
  rw [directive_global]
  simp [Asm.globalDirective, Asm.arity, Asm.GDir.name, Asm.deferConstant, hr]

theorem const_kind0 {a b : Arg} (ha : ∀ s, a ≠ .ident s) :
    Asm.directive fs inc env st l c (bytesOf "const") [a, b] =
      .ok (st.push env l c (.dirArgType "const" 0 .ident a.ty), .err .trivial) := by
  rw [directive_const, Asm.constDirective_notIdent ha]

theorem gdir_kind {g : Asm.GDir} {a : Arg} (ha : ∀ s, a ≠ .ident s) :
    Asm.globalDirective g env st l c [a] = .ok (st.push env l c (.dirArgType g.name 0 .str a.ty), .err .trivial) := by
  cases a <;> first | (exact absurd rfl (ha _)) | simp [Asm.globalDirective, Asm.arity]

theorem include_kind {a : Arg} (ha : ∀ s, a ≠ .str s) :
    Asm.directive fs inc env st l c (bytesOf "include") [a] =
      .ok (st.push env l c (.dirArgType "include" 0 .str a.ty), .err .trivial) := by
  rw [directive_include]
  cases a <;> first | (exact absurd rfl (ha _)) | simp [Asm.includeDirective, Asm.arity]

theorem string_kind {dir : String} (hact : st.seg.active.isSome = true) {a : Arg} (ha : ∀ s, a ≠ .str s) :
    Asm.stringDirective fs dir env st l c [a] = .ok (st.push env l c (.dirArgType dir 0 .str a.ty), .err .trivial) := by
  cases a <;> first | (exact absurd rfl (ha _)) | simp [Asm.stringDirective, active_some hact, Asm.arity]

theorem label_reserved {name : Bytes} (hact : st.seg.active.isSome = true) (hr : isRegister name = true) :
    Asm.statement fs enc inc env st ⟨l, c, .label name⟩ = .ok (st.push env l c (.label (.constReserved name)), .err .fatal) := by
  cases hc : st.seg.active with
  | none => simp [hc] at hact
  | some seg => simp [Asm.statement, Asm.currAddr, hc, Asm.insertConstant, hr, Asm.CErr.inner]

theorem label_duplicate {tbl : Asm.Table} (hl : st.locals = some tbl) {name : Bytes} (hact : st.seg.active.isSome = true)
    (hr : isRegister name = false) {w : Int} (hf : tbl.find name = some (some w)) :
    Asm.statement fs enc inc env st ⟨l, c, .label name⟩ =
      .ok (st.push env l c (.label (.constDuplicate name .loc)), .err .fatal) := by
  cases hc : st.seg.active with
  | none => simp [hc] at hact
  | some seg => simp [Asm.statement, Asm.currAddr, hc, Asm.insertConstant, hr, hl, hf, Asm.CErr.inner]

theorem label_inactive {name : Bytes} (hact : st.seg.active = none) :
    Asm.statement fs enc inc env st ⟨l, c, .label name⟩ = .ok (st.push env l c .inactive, .err .fatal) := by
  simp [Asm.statement, Asm.currAddr, hact]

theorem instr_inactive {name : Bytes} {args : Args} (hact : st.seg.active = none) :
    Asm.statement fs enc inc env st ⟨l, c, .instruction name args⟩ = .ok (st.push env l c .inactive, .err .fatal) := by
  simp [Asm.statement, hact]

theorem instr_unknown {name : Bytes} {args : Args} (hact : st.seg.active.isSome = true) (hm : mnemonic name = none) :
    Asm.statement fs enc inc env st ⟨l, c, .instruction name args⟩ =
      .ok (st.push env l c (.instrNotFound (foldName name)), .err .fatal) := by
  cases hc : st.seg.active with
  | none => simp [hc] at hact
  | some seg => simp [Asm.statement, hc, Asm.instruction, Asm.currAddr, hm]

theorem du_inactive {du : Asm.DU} {args : List Arg} (hact : st.seg.active = none) :
    Asm.duDirective du env st l c args = .ok (st.push env l c (.dirApply du.name .dataInactive), .err .fatal) := by
  simp [Asm.duDirective, Asm.currAddr, hact]

theorem string_inactive {dir : String} {args : List Arg} (hact : st.seg.active = none) :
    Asm.stringDirective fs dir env st l c args = .ok (st.push env l c (.dirApply dir .dataInactive), .err .fatal) := by
  simp [Asm.stringDirective, hact]

theorem align_inactive {args : List Arg} (hact : st.seg.active = none) :
    Asm.alignDirective env st l c args = .ok (st.push env l c (.dirApply "align" .alignInactive), .err .fatal) := by
  simp [Asm.alignDirective, hact]

end Trion.C04
