import TrionModel.Lemmas.CodecRtBase
/-! Round trip `RT` of the 32-bit encoder arms (MSR, MRS, DSB, DMB, ISB, UDF.W, BL). -/
namespace Trion.Codec
open Trion

theorem rt_dmb : RT .dmb := rt_ok32 rfl fun _ => ⟨by decide, by decide, by decide, rfl⟩
theorem rt_dsb : RT .dsb := rt_ok32 rfl fun _ => ⟨by decide, by decide, by decide, rfl⟩
theorem rt_isb : RT .isb := rt_ok32 rfl fun _ => ⟨by decide, by decide, by decide, rfl⟩

theorem rt_udfw (v : Int) : RT (.udfw v) :=
  rt_ok32 rfl fun wf => by
    obtain ⟨_, _⟩ : 0 ≤ v ∧ v ≤ 65535 := wf
    exact ⟨by omega, by omega, by omega, by rw [decode32_udfw (by omega) (by omega),
      show (((0xF7F0 + v.toNat / 4096) % 16 * 4096 + (0xA000 + v.toNat % 4096) % 4096 : Nat) : Int) = v by omega]⟩

theorem rt_msr (s : SysReg) (r : Reg) : RT (.msr s r) := by
  have := SysReg.toNat_le s
  exact rt_arm32 rfl fun g _ =>
    ⟨by omega, by omega, by omega, decode32_msr (by omega) (by omega) (by omega) r (by omega) g s
      (by rw [show (0x8800 + s.toNat) % 256 = s.toNat by omega, SysReg.ofNat?_toNat])⟩

theorem rt_mrs (r : Reg) (s : SysReg) : RT (.mrs r s) := by
  have := SysReg.toNat_le s
  exact rt_arm32 rfl fun g _ =>
    ⟨by omega, by omega, by omega, decode32_mrs (by omega) (by omega) (by omega) r (by omega) g s
      (by rw [show (0x8000 + r.val * 256 + s.toNat) % 256 = s.toNat by omega, SysReg.ofNat?_toNat])⟩

/-- `J = NOT (I XOR S)` is its own inverse: the scrambled bit, read with the same sign, gives `I` back -/
theorem ibit_invol (a s : Nat) (ha : a < 2) (hs : s < 2) :
    (if (if a = s then 1 else 0 : Nat) = s then 1 else 0 : Nat) = a := by
  have ha : a = 0 ∨ a = 1 := by omega
  have hs : s = 0 ∨ s = 1 := by omega
  rcases ha with rfl | rfl <;> rcases hs with rfl | rfl <;> rfl

theorem bl_horner {off y4 y3 y2 y1 x4 x3 x2 x1 s : Int} (b0 : off = 2 * y4) (b1 : y4 = 2048 * y3 + x4)
    (b2 : y3 = 1024 * y2 + x3) (b3 : y2 = 2 * y1 + x2) (b4 : y1 = x1 - 2 * s) :
    off = 8388608 * x1 + 4194304 * x2 + 4096 * x3 + 2 * x4 - 16777216 * s := by omega

/-- the fields of an encodable BL offset, `off = -2^24·s + 2^23·i1 + 2^22·i2 + 2^12·m + 2·l`, as the encoder
computes them.  Each quotient is split off the previous one, so that `omega` sees one division at a time
(the sum in one step is several times dearer). -/
theorem bl_bits (off : Int) (g : ¬ (off < -16777216 ∨ off ≥ 16777216 ∨ off % 2 ≠ 0)) :
    ∃ s i1 i2 m l : Nat, s < 2 ∧ i1 < 2 ∧ i2 < 2 ∧ m < 1024 ∧ l < 2048 ∧
      off = 8388608 * (i1 : Int) + 4194304 * (i2 : Int) + 4096 * (m : Int) + 2 * (l : Int) - 16777216 * (s : Int) ∧
      (if off < 0 then 1 else 0 : Nat) = s ∧ (off / 8388608 % 2).toNat = i1 ∧ (off / 4194304 % 2).toNat = i2 ∧
      (off / 4096 % 1024).toNat = m ∧ (off / 2 % 2048).toNat = l := by
  have b0 : off = 2 * (off / 2) := by omega
  have b1 : off / 2 = 2048 * (off / 4096) + off / 2 % 2048 := by omega
  have b2 : off / 4096 = 1024 * (off / 4194304) + off / 4096 % 1024 := by omega
  have b3 : off / 4194304 = 2 * (off / 8388608) + off / 4194304 % 2 := by omega
  have b4 : off / 8388608 = off / 8388608 % 2 - 2 * (if off < 0 then 1 else 0 : Nat) := by split <;> omega
  refine ⟨if off < 0 then 1 else 0, (off / 8388608 % 2).toNat, (off / 4194304 % 2).toNat,
    (off / 4096 % 1024).toNat, (off / 2 % 2048).toNat, ?_, ?_, ?_, ?_, ?_, ?_, rfl, rfl, rfl, rfl, rfl⟩
  · split <;> omega
  · omega
  · omega
  · omega
  · omega
  · rw [Int.toNat_of_nonneg (by omega), Int.toNat_of_nonneg (by omega), Int.toNat_of_nonneg (by omega),
      Int.toNat_of_nonneg (by omega)]
    exact bl_horner b0 b1 b2 b3 b4

theorem decode32_bl_fields (s i1 i2 m l : Nat) (hs : s < 2) (hi1 : i1 < 2) (hi2 : i2 < 2) (hm : m < 1024)
    (hl : l < 2048) :
    decode32 (0xF000 + s * 1024 + m) (0xD000 + (if i1 = s then 1 else 0) * 8192 + (if i2 = s then 1 else 0) * 2048 + l) =
      .ok (4, .bl ((i1 * 8388608 + i2 * 4194304 + m * 4096 + l * 2 : Nat) - (s * 16777216 : Nat))) := by
  generalize hj1 : (if i1 = s then 1 else 0 : Nat) = j1
  generalize hj2 : (if i2 = s then 1 else 0 : Nat) = j2
  have : j1 < 2 := by rw [← hj1]; split <;> omega
  have : j2 < 2 := by rw [← hj2]; split <;> omega
  rw [decode32_bl (by omega) (by omega)]
  simp only
  rw [show (0xF000 + s * 1024 + m) / 1024 % 2 = s by omega,
    show (0xD000 + j1 * 8192 + j2 * 2048 + l) / 8192 % 2 = j1 by omega,
    show (0xD000 + j1 * 8192 + j2 * 2048 + l) / 2048 % 2 = j2 by omega,
    show (0xF000 + s * 1024 + m) % 1024 = m by omega,
    show (0xD000 + j1 * 8192 + j2 * 2048 + l) % 2048 = l by omega,
    ← hj1, ← hj2, ibit_invol i1 s hi1 hs, ibit_invol i2 s hi2 hs]

theorem rt_bl (off : Int) : RT (.bl off) :=
  rt_arm32 rfl fun g _ => by
    obtain ⟨s, i1, i2, m, l, hs, hi1, hi2, hm, hl, hoff, e0, e1, e2, e3, e4⟩ := bl_bits off g
    rw [e0, e1, e2, e3, e4, decode32_bl_fields s i1 i2 m l hs hi1 hi2 hm hl]
    refine ⟨by omega, by split <;> split <;> omega, by omega, ?_⟩
    congr 3; omega
end Trion.Codec
