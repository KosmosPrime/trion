import TrionModel.Lemmas.AsmRetry
import TrionModel.Lemmas.SimpTaint
/-!
# The retry of one operand, and `DataExpr::apply`

The tree a stopped first attempt over `t₁` leaves evaluates over `t₂ ⊇ t₁` like the operand itself (`data_retry_all`,
from `Simp.resumes_all`), which is `Front.Grows` (`grows_all`); hence `assemble_retry_tables_all`, and for `.du*`
`DataExpr.apply_retry`: `apply` reads its operand only through `evalArg` (`apply_arg_congr`), so on the tree left it is
`apply` on the operand, whatever the outcome.
`LeftStableArg t₁ t₂ a`: every value the first attempt over `t₁` completed before it stopped is a fixed point of `evaluate`
over `t₂` (Lemmas/SimpRetry.lean, last section), the hypothesis of the C08 statements of Props/C08Bytes.lean.  `evaluate` is
idempotent (`Simp.evaluateE_idempotent`), so it holds for every tree (`leftStableArg_all`).
-/
namespace Trion.Asm
open Trion

theorem frontEval_noSuch_eval {t : Table} {a : Arg} {n : Bytes} {a₁ : Arg} (h : frontEval t a = .noSuchVariable n a₁) :
    Simp.evaluateE (fun n => t.get n) Front.isRegister a = .nosuch n a₁ :=
  evalIn_noSuch_iff.1 (frontEval_noSuch_iff.1 h)

def LeftStableArg (t₁ t₂ : Table) (a : Arg) : Prop :=
  Simp.LeftStable (fun n => t₁.get n) (fun n => t₂.get n) Front.isRegister a

theorem data_retry_all {t₁ t₂ : Table} (hs : Table.Sub t₁ t₂) (hn : Table.NoDef t₁) {a : Arg} {n : Bytes} {a₁ : Arg}
    (h : evalIn t₁ a = .ok (.noSuch n a₁)) : evalIn t₂ a₁ = evalIn t₂ a :=
  evalIn_forget _ _ _ (Simp.resumes_all (Table.sub_get hs) (Table.nodef_get hn) a n a₁ (evalIn_noSuch_iff.1 h))

theorem grows_all {t₁ t₂ : Table} (hs : Table.Sub t₁ t₂) (hn : Table.NoDef t₁) (a : Arg) :
    Front.Grows (frontEval t₁) (frontEval t₂) a :=
  ⟨fun _ h => frontEval_complete_mono hs h,
   fun _ _ h => frontEval_congr t₂ _ _ (data_retry_all hs hn (frontEval_noSuch_iff.1 h)),
   fun c a₁ => frontEval_never_deferred hn a c a₁⟩

theorem DataExpr.apply_arg_congr (d : DataExpr) {env : Env} {st : St} {a b : Arg} (h : evalArg env st a = evalArg env st b)
    (loc : Bool) :
    ({ d with arg := a } : DataExpr).apply env st loc = ({ d with arg := b } : DataExpr).apply env st loc := by
  unfold DataExpr.apply
  simp only [h, DataExpr.kindApply]

theorem DataExpr.apply_retry {t₁ t₂ : Table} (hs : Table.Sub t₁ t₂) (hn : Table.NoDef t₁) {a : Arg} {n : Bytes} {a₁ : Arg}
    (h : evalIn t₁ a = .ok (.noSuch n a₁)) (d : DataExpr) {env : Env} {st : St} (ht : evalTable env st = .ok t₂) (loc : Bool) :
    ({ d with arg := a₁ } : DataExpr).apply env st loc = ({ d with arg := a } : DataExpr).apply env st loc :=
  DataExpr.apply_arg_congr d (by simp only [evalArg, ht, data_retry_all hs hn h]) loc

theorem DataExpr.apply_completed {d d' : DataExpr} {env : Env} {st st' : St} {loc : Bool} {t : Table}
    (ht : evalTable env st = .ok t) (h : d.apply env st loc = .ok (d', st', .completed)) :
    ∃ v, evalIn t d.arg = .ok (.complete (.const v)) ∧
      ({ d with arg := .const v } : DataExpr).writeData st (leBytes d.du.size v.toNat) = .ok (d', st', .ok) := by
  rcases apply_eval ht h with ⟨v, e, -, -, w⟩ | ⟨_, _, _, _, _, _, ho⟩ | ⟨_, _, _, ho⟩ | ⟨_, ho⟩
  · exact ⟨v, e, w⟩
  all_goals cases ho

theorem leftStableArg_all {t₁ : Table} (t₂ : Table) (hn : Table.NoDef t₁) (a : Arg) : LeftStableArg t₁ t₂ a :=
  Simp.leftStable_all _ (Table.nodef_get hn) a

theorem assemble_retry_tables_all {t₁ t₂ : Table} (hs : Table.Sub t₁ t₂) (hn : Table.NoDef t₁) (addr : Nat) (t : Instr)
    (args : List Arg) (fs1 : Front.St) (c : Bytes)
    (h1 : Front.assemble ⟨addr, t, 0, args⟩ (frontEval t₁) true = (fs1, .deferred c)) (loc : Bool) :
    Front.assemble fs1 (frontEval t₂) loc = Front.assemble ⟨addr, t, 0, args⟩ (frontEval t₂) loc :=
  Front.assemble_retry _ _ _ fs1 (fun a _ => grows_all hs hn a) c h1 loc

end Trion.Asm
