import TrionModel.Lemmas.AsmShow
/-!
# Directive dispatch: the table of the thirteen directives, a wrong operand count, an unknown name

`dirTable` is the table the C06 statements speak of; it has the keys of `dirImpl` of Lemmas/AsmCases.lean (`dirImpl_keys`, below).
What each invalid statement does otherwise is in Lemmas/C06Stmt.lean.  What a new directive must be fed to: DESIGN.md §16.
-/
namespace Trion.C04
open Trion Trion.Asm Trion.Front

/-- the directives, the name used in their diagnostics, their operand count, and whether they need an open region before
the operand count is looked at -/
def dirTable : List (Bytes × String × Nat × Bool) :=
  [(bytesOf "addr", "addr", 1, false), (bytesOf "align", "align", 1, true), (bytesOf "const", "const", 2, false),
   (bytesOf "du8", "du8", 1, true), (bytesOf "du16", "du16", 1, true), (bytesOf "du32", "du32", 1, true),
   (bytesOf "dhex", "dhex", 1, true), (bytesOf "dstr", "dstr", 1, true), (bytesOf "dfile", "dfile", 1, true),
   (bytesOf "global", "global", 1, false), (bytesOf "import", "import", 1, false), (bytesOf "export", "export", 1, false),
   (bytesOf "include", "include", 1, false)]

theorem dirImpl_keys (fs : Bytes → Option Bytes) (inc : Asm.Inc) (env : Asm.Env) (st : Asm.St) (l c : Nat) (args : List Arg) :
    (dirImpl fs inc env st l c args).map Prod.fst = dirTable.map (·.1) := rfl

def arityKind (dir : String) (need n : Nat) : Asm.Kind := if n < need then .dirNotEnough dir need n else .dirTooMany dir need n

theorem arity_ne {dir : String} {need n : Nat} (h : n ≠ need) : Asm.arity dir need n = some (arityKind dir need n) := by
  unfold Asm.arity arityKind
  rw [if_neg h]
  split <;> rfl

theorem active_some {st : Asm.St} (h : st.seg.active.isSome = true) : st.seg.active.isNone = false := by
  cases hh : st.seg.active <;> simp_all

theorem duDirective_arity {env : Asm.Env} {st : Asm.St} {l c : Nat} {args : List Arg} (du : Asm.DU) (hn : args.length ≠ 1)
    (hact : st.seg.active.isSome = true) :
    Asm.duDirective du env st l c args = .ok (st.push env l c (arityKind du.name 1 args.length), .err .trivial) := by
  obtain ⟨seg, hc⟩ := Option.isSome_iff_exists.mp hact
  simp only [Asm.duDirective, Asm.currAddr, hc, Option.map_some, arity_ne hn]

theorem directive_arity (fs : Bytes → Option Bytes) (inc : Asm.Inc) (env : Asm.Env) (st : Asm.St) (l c : Nat)
    (name : Bytes) (dir : String) (need : Nat) (act : Bool) (hd : (name, dir, need, act) ∈ dirTable) (args : List Arg)
    (hn : args.length ≠ need) (ha : act = true → st.seg.active.isSome = true) :
    Asm.directive fs inc env st l c name args = .ok (st.push env l c (arityKind dir need args.length), .err .trivial) := by
  simp only [dirTable, List.mem_cons, Prod.mk.injEq, List.not_mem_nil, or_false] at hd
  rcases hd with ⟨rfl, rfl, rfl, rfl⟩ | ⟨rfl, rfl, rfl, rfl⟩ | ⟨rfl, rfl, rfl, rfl⟩ | ⟨rfl, rfl, rfl, rfl⟩ | ⟨rfl, rfl, rfl, rfl⟩ |
    ⟨rfl, rfl, rfl, rfl⟩ | ⟨rfl, rfl, rfl, rfl⟩ | ⟨rfl, rfl, rfl, rfl⟩ | ⟨rfl, rfl, rfl, rfl⟩ | ⟨rfl, rfl, rfl, rfl⟩ |
    ⟨rfl, rfl, rfl, rfl⟩ | ⟨rfl, rfl, rfl, rfl⟩ | ⟨rfl, rfl, rfl, rfl⟩
  · rw [directive_addr]; simp only [Asm.addrDirective, arity_ne hn]
  · rw [directive_align]; simp only [Asm.alignDirective, active_some (ha rfl), Bool.false_eq_true, if_false, arity_ne hn]
  · rw [directive_const]; simp only [Asm.constDirective, arity_ne hn]
  · rw [directive_du8]; exact duDirective_arity .u8 hn (ha rfl)
  · rw [directive_du16]; exact duDirective_arity .u16 hn (ha rfl)
  · rw [directive_du32]; exact duDirective_arity .u32 hn (ha rfl)
  · rw [directive_dhex]; simp only [Asm.stringDirective, active_some (ha rfl), Bool.false_eq_true, if_false, arity_ne hn]
  · rw [directive_dstr]; simp only [Asm.stringDirective, active_some (ha rfl), Bool.false_eq_true, if_false, arity_ne hn]
  · rw [directive_dfile]; simp only [Asm.stringDirective, active_some (ha rfl), Bool.false_eq_true, if_false, arity_ne hn]
  · rw [directive_global]; simp only [Asm.globalDirective, Asm.GDir.name, arity_ne hn]
  · rw [directive_import]; simp only [Asm.globalDirective, Asm.GDir.name, arity_ne hn]
  · rw [directive_export]; simp only [Asm.globalDirective, Asm.GDir.name, arity_ne hn]
  · rw [directive_include]; simp only [Asm.includeDirective, arity_ne hn]

theorem directive_unknown (fs : Bytes → Option Bytes) (inc : Asm.Inc) (env : Asm.Env) (st : Asm.St) (l c : Nat)
    (name : Bytes) (hn : ∀ p ∈ dirTable, p.1 ≠ name) (args : List Arg) :
    Asm.directive fs inc env st l c name args = .ok (st.push env l c (.dirNotFound name), .err .fatal) := by
  rw [directive_eq]
  refine dispatch_not_mem (fun hmem => ?_)
  rw [dirImpl_keys] at hmem
  obtain ⟨p, hp, rfl⟩ := List.mem_map.mp hmem
  exact hn p hp rfl

theorem statement_du (fs : Bytes → Option Bytes) (enc : Asm.Encoder) (inc : Asm.Inc) (env : Asm.Env) (st : Asm.St)
    (l c : Nat) (du : Asm.DU) {dn : Bytes} (hdn : dn = bytesOf du.name) (args : List Arg) :
    Asm.statement fs enc inc env st ⟨l, c, .directive dn (Args.ofList args)⟩ = Asm.duDirective du env st l c args := by
  rw [statement_directive, hdn, directive_du]

theorem statement_instr (fs : Bytes → Option Bytes) (enc : Asm.Encoder) (inc : Asm.Inc) (env : Asm.Env) {st : Asm.St}
    (hact : st.seg.active.isSome = true) (l c : Nat) (name : Bytes) (args : Args) :
    Asm.statement fs enc inc env st ⟨l, c, .instruction name args⟩ = Asm.instruction enc env st l c name args.toList := by
  simp only [Asm.statement, active_some hact, Bool.false_eq_true, if_false]

end Trion.C04
