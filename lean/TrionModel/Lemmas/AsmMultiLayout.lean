import TrionModel.Lemmas.LayoutCor
/-!
# The symbol table of the layout core along `MRun` executions, without any invariant

A statement changes the symbol table only at the symbol it defines, and neither a region switch nor the task queue
touches it (`step_env_raw`, `mrun_env_raw`).  `MRun` and the simulation of the two-pass reference along it are in
`Lemmas/LayoutMain.lean`.
-/
namespace Trion.Layout
open Ref

def defines : Stmt → Option Nat
  | .label n => some n
  | .const n _ _ => some n
  | _ => none

theorem closeSeg_env (st st' : State) (h : closeSeg st = .ok st') : st'.env = st.env := by
  obtain ⟨c, a, e, t⟩ := st
  unfold closeSeg at h
  cases a <;> simp only at h
  · cases h; rfl
  · split at h
    · cases h; rfl
    · cases h

theorem openAt_env (st st' : State) (a : Nat) (h : changeSeg.openAt st a = .ok st') : st'.env = st.env := by
  obtain ⟨c, ac, e, t⟩ := st
  unfold changeSeg.openAt at h
  simp only at h
  repeat' split at h
  all_goals first | (cases h; rfl) | cases h

theorem changeSeg_env (st st' : State) (a : Nat) (h : changeSeg st a = .ok st') : st'.env = st.env := by
  unfold changeSeg at h
  split at h
  · cases h
  · cases hact : st.active with
    | none => rw [hact] at h; exact openAt_env _ _ _ h
    | some s =>
      rw [hact] at h; simp only at h
      split at h
      · cases h; rfl
      · cases hcl : closeSeg st with
        | error e => rw [hcl] at h; cases h
        | ok st1 =>
          rw [hcl] at h; simp only at h
          rw [openAt_env _ _ _ h, closeSeg_env _ _ hcl]

theorem rewrite_env (st st' : State) (addr : Nat) (bs : Bytes) (h : rewrite st addr bs = .ok st') : st'.env = st.env := by
  obtain ⟨c, a, e, t⟩ := st
  simp only [rewrite] at h
  repeat' split at h
  all_goals first | (cases h; rfl) | cases h

theorem runTasks_env : ∀ (Q : List Task) (st st' : State), runTasks st Q = .ok st' → st'.env = st.env := by
  intro Q
  induction Q with
  | nil => intro st st' h; simp only [runTasks] at h; cases h; rfl
  | cons t Q ih =>
    intro st st' h
    unfold runTasks at h
    split at h
    · cases hrw : rewrite st t.addr t.final with
      | error e => rw [hrw] at h; cases h
      | ok st1 =>
        rw [hrw] at h; simp only at h
        rw [ih st1 st' h, rewrite_env _ _ _ _ hrw]
    · cases h

theorem step_env_raw (st st' : State) (s : Stmt) (h : step st s = .ok st') (k : Nat) (hk : defines s ≠ some k) :
    st'.env.get k = st.env.get k := by
  have hic : ∀ n v, insertConst st n v = .ok st' → n ≠ k → st'.env.get k = st.env.get k := by
    intro n v hi hne
    obtain ⟨_, rfl⟩ := (insertConst_spec _ _ _).ok hi
    simp only [env_get_cons, if_neg hne]
  have happ : ∀ bs st1, append st bs = .ok st1 → st1.env = st.env := by
    intro bs st1 hb
    simp only [append] at hb
    repeat' split at hb
    all_goals first | (cases hb; rfl) | cases hb
  cases s with
  | addr a => simp only [step] at h; rw [changeSeg_env _ _ _ h]
  | label n =>
    simp only [step] at h
    split at h
    · cases h
    · exact hic _ _ h (fun e => hk (by rw [e]; rfl))
  | const n d v =>
    simp only [step] at h
    split at h
    · exact hic _ _ h (fun e => hk (by rw [e]; rfl))
    · cases h
  | raw bs => simp only [step] at h; rw [happ _ _ h]
  | align n =>
    rw [step_align] at h
    repeat' split at h
    all_goals first | (cases h; done) | (cases h; rfl) | (rw [happ _ _ h])
  | emit len d f =>
    simp only [step] at h
    split at h
    · cases h
    · split at h
      · rw [happ _ _ h]
      · split at h
        · cases h
        · rename_i st1 ha
          cases h
          have := happ _ _ ha
          show st1.env.get k = st.env.get k
          rw [this]

theorem mrun_env_raw {l l' : State} {p : List Stmt} (h : MRun l p l') (k : Nat)
    (hk : ∀ s ∈ p, defines s ≠ some k) : l'.env.get k = l.env.get k := by
  induction h with
  | nil l => rfl
  | @step l l1 l' s p hs _ ih =>
    rw [ih (fun x hx => hk x (List.mem_cons_of_mem _ hx)), step_env_raw l l1 s hs k (hk s List.mem_cons_self)]
  | @file l l1 l2 l' pc p _ hrun _ ih1 ih2 =>
    rw [ih2 (fun x hx => hk x (List.mem_append_right _ hx))]
    have e1 := ih1 (fun x hx => hk x (List.mem_append_left _ hx))
    have e2 := runTasks_env _ _ _ hrun
    simp only [withTasks] at e1 e2 ⊢
    rw [e2, e1]

end Trion.Layout
