import TrionModel.Lemmas.SimpArith
import TrionModel.Lemmas.SimpInv
/-!
# The ideal value `valZ` and the checked value `valC`; `neutralize_raw` and `neutralize` preserve the ideal value
-/
namespace Trion.Simp
open Trion

theorem liftBin_eq_some {f : Int → Int → Option Int} {x y : Option Int} {v : Int}
    (h : liftBin f x y = some v) : ∃ a b, x = some a ∧ y = some b ∧ f a b = some v := by
  cases x <;> cases y <;> simp_all [liftBin]

/-- induction over a tree that has a checked value: the cases are the ways `valC` gives one -/
theorem valC_ind {ρ : Env} {R : Arg → Int → Prop}
    (const : ∀ w, inI64 w = true → R (.const w) w)
    (ident : ∀ s w, ρ s = some w → inI64 w = true → R (.ident s) w)
    (bin : ∀ op l r x y w, R l x → R r y → foldBin op x y = .ok w → R (.bin op l r) w)
    (neg : ∀ a x, R a x → inI64 (-x) = true → R (.neg a) (-x))
    (not : ∀ a x, R a x → R (.not a) (bnot x)) :
    ∀ (a : Arg) (v : Int), valC ρ a = some v → R a v := by
  apply Arg.ind
  case const => intro w v h; obtain ⟨hr, rfl⟩ := checked_eq_some.1 h; exact const _ hr
  case ident =>
    intro s v h
    simp only [valC] at h
    cases hr : ρ s with
    | none => simp [hr] at h
    | some w =>
      simp only [hr, Option.bind_some] at h
      obtain ⟨hw, rfl⟩ := checked_eq_some.1 h
      exact ident s _ hr hw
  case bin =>
    intro op l r ihl ihr v h
    simp only [valC] at h
    obtain ⟨x, y, h1, h2, h3⟩ := liftBin_eq_some h
    unfold opC at h3
    cases hf : foldBin op x y with
    | error k => simp [hf] at h3
    | ok w => simp only [hf, Option.some.injEq] at h3; subst h3; exact bin op l r x y _ (ihl x h1) (ihr y h2) hf
  case neg =>
    intro a ih v h
    simp only [valC] at h
    cases ha : valC ρ a with
    | none => simp [ha] at h
    | some x =>
      simp only [ha, Option.bind_some, checkedNeg] at h
      obtain ⟨hr, rfl⟩ := checked_eq_some.1 h
      exact neg a x (ih x ha) hr
  case not =>
    intro a ih v h
    simp only [valC] at h
    cases ha : valC ρ a with
    | none => simp [ha] at h
    | some x =>
      simp only [ha, Option.map_some, Option.some.injEq] at h
      subst h
      exact not a x (ih x ha)
  case str => intro s v h; simp [valC] at h
  case addr => intro a _ v h; simp [valC] at h
  case seq => intro as v h; simp [valC] at h
  case func => intro n as v h; simp [valC] at h

theorem valC_spec (ρ : Env) (a : Arg) {v : Int} (h : valC ρ a = some v) : inI64 v = true ∧ valZ ρ a = some v :=
  valC_ind (ρ := ρ) (R := fun a v => inI64 v = true ∧ valZ ρ a = some v)
    (fun _ hw => ⟨hw, rfl⟩)
    (fun s _ hs hw => ⟨hw, by simp only [valZ, hs]⟩)
    (fun op _ _ x y w ⟨hx, hl⟩ ⟨hy, hr⟩ hf => by
      obtain ⟨rfl, h0, hk, _⟩ := foldBin_ok hf
      exact ⟨foldBin_range hx hy hf, by simp only [valZ, hl, hr, liftBin]; exact opZ_of hx hy h0 hk⟩)
    (fun _ _ ⟨_, ha⟩ hr => ⟨hr, by simp only [valZ, ha, Option.map_some]⟩)
    (fun _ x ⟨hx, ha⟩ => by
      have := (inI64_iff x).1 hx
      exact ⟨by rw [inI64_iff]; unfold bnot; omega, by simp only [valZ, ha, Option.map_some]⟩)
    a v h

theorem valC_range (ρ : Env) (a : Arg) {v : Int} (h : valC ρ a = some v) : inI64 v = true := (valC_spec ρ a h).1

theorem valC_sub_valZ (ρ : Env) (a : Arg) {v : Int} (h : valC ρ a = some v) : valZ ρ a = some v := (valC_spec ρ a h).2

theorem valZ_bin {ρ : Env} {op : BinOp} {l r : Arg} {v : Int} (h : valZ ρ (.bin op l r) = some v) :
    ∃ a b, valZ ρ l = some a ∧ valZ ρ r = some b ∧ opZ op a b = some v := by
  simp only [valZ] at h; exact liftBin_eq_some h

theorem valZ_bin_mk {ρ : Env} {op : BinOp} {l r : Arg} {a b : Int} (hl : valZ ρ l = some a)
    (hr : valZ ρ r = some b) : valZ ρ (.bin op l r) = opZ op a b := by
  simp [valZ, hl, hr, liftBin]

theorem valZ_neg {ρ : Env} {a : Arg} {v : Int} (h : valZ ρ (.neg a) = some v) :
    ∃ w, valZ ρ a = some w ∧ v = -w := by
  simp only [valZ] at h
  cases ha : valZ ρ a with
  | none => simp [ha] at h
  | some w => simp only [ha, Option.map_some, Option.some.injEq] at h; exact ⟨w, rfl, h.symm⟩

theorem cval_valZ {ρ : Env} {a : Arg} {c : Int} (h : cval a = some c) : valZ ρ a = some c := by
  cases a <;> simp_all [cval, valZ]

theorem valZ_of_cval {ρ : Env} {a : Arg} {c x : Int} (hc : cval a = some c) (hv : valZ ρ a = some x) : x = c := by
  rw [cval_valZ hc] at hv; exact (Option.some.inj hv).symm

theorem valZ_neg_mk {ρ : Env} {a : Arg} {w : Int} (h : valZ ρ a = some w) : valZ ρ (.neg a) = some (-w) := by
  simp [valZ, h]

theorem valZ_bin_congr {ρ : Env} {op : BinOp} {l r l' r' : Arg} (hl : ∀ v, valZ ρ l = some v → valZ ρ l' = some v)
    (hr : ∀ v, valZ ρ r = some v → valZ ρ r' = some v) {v : Int} (h : valZ ρ (.bin op l r) = some v) :
    valZ ρ (.bin op l' r') = some v := by
  obtain ⟨x, y, h1, h2, ho⟩ := valZ_bin h
  rw [valZ_bin_mk (hl x h1) (hr y h2)]; exact ho

theorem valZ_neg_congr {ρ : Env} {a a' : Arg} (ha : ∀ v, valZ ρ a = some v → valZ ρ a' = some v) {v : Int}
    (h : valZ ρ (.neg a) = some v) : valZ ρ (.neg a') = some v := by
  obtain ⟨w, hw, rfl⟩ := valZ_neg h
  exact valZ_neg_mk (ha w hw)

theorem valZ_not_congr {ρ : Env} {a a' : Arg} (ha : ∀ v, valZ ρ a = some v → valZ ρ a' = some v) {v : Int}
    (h : valZ ρ (.not a) = some v) : valZ ρ (.not a') = some v := by
  simp only [valZ] at h ⊢
  cases hw : valZ ρ a with
  | none => simp [hw] at h
  | some w => rw [ha w hw]; rw [hw] at h; exact h

/-- `x + sgn s * y` is `x - y` under an inverted sign (`s = true`) and `x + y` otherwise: the flag of `search`, and
`Subtract` vs. `Add` -/
def sgn (b : Bool) : Int := if b then -1 else 1

theorem stripNeg_val (ρ : Env) (r : Arg) (s : Bool) (vr : Int) (h : valZ ρ r = some vr) :
    ∃ vr', valZ ρ (stripNeg s r).2.1 = some vr' ∧ sgn s * vr = sgn (stripNeg s r).1 * vr' := by
  induction r using Arg.ind generalizing s vr with
  | neg n ih =>
    obtain ⟨w, hw, rfl⟩ := valZ_neg h
    obtain ⟨vr', h1, h2⟩ := ih (!s) w hw
    refine ⟨vr', by simpa [stripNeg] using h1, ?_⟩
    simp only [stripNeg]
    rw [← h2]
    cases s <;> simp [sgn]
  | _ => exact ⟨vr, by simpa [stripNeg] using h, by simp [stripNeg]⟩

theorem normAddSub_val (ρ : Env) {s : Bool} {r : Arg} {ch s' : Bool} {r' : Arg} {vr : Int}
    (he : normAddSub s r = .ok (ch, s', r')) (h : valZ ρ r = some vr) :
    ∃ vr', valZ ρ r' = some vr' ∧ sgn s * vr = sgn s' * vr' := by
  unfold normAddSub at he
  obtain ⟨w, hw, hx⟩ := stripNeg_val ρ r s vr h
  cases hc : cval (stripNeg s r).2.1 with
  | none =>
    simp only [hc, Res.ok.injEq, Prod.mk.injEq] at he
    obtain ⟨_, rfl, rfl⟩ := he
    exact ⟨w, hw, hx⟩
  | some v =>
    simp only [hc] at he
    have hwv : w = v := by
      have := cval_valZ (ρ := ρ) hc
      rw [hw] at this; exact Option.some.inj this
    subst hwv
    by_cases hv : w < 0
    · simp only [hv, if_true] at he
      cases hn : checkedNeg w with
      | none => simp [hn] at he
      | some nv =>
        simp only [hn, Res.ok.injEq, Prod.mk.injEq] at he
        obtain ⟨_, rfl, rfl⟩ := he
        have : nv = -w := (checked_eq_some.1 hn).2
        subst this
        refine ⟨-w, rfl, ?_⟩
        rw [hx]
        cases (stripNeg s r).1 <;> simp [sgn]
    · simp only [hv, if_false, Res.ok.injEq, Prod.mk.injEq] at he
      obtain ⟨_, rfl, rfl⟩ := he
      exact ⟨w, hw, hx⟩

theorem neutralMain_val (ρ : Env) (op : BinOp) (l r : Arg) (v : Int)
    (h : valZ ρ (.bin op l r) = some v) : valZ ρ (neutralMain op l r) = some v := by
  obtain ⟨a, b, hl, hr, ho⟩ := valZ_bin h
  unfold neutralMain
  cases hcl : cval l with
  | some c =>
    have hac : a = c := valZ_of_cval hcl hl
    subst hac
    simp only
    split
    · rename_i hn
      rw [hr]
      cases op <;> simp only [neutralL, Option.some.injEq, reduceCtorEq] at hn <;> subst hn <;>
        simp only [opZ] at ho
      · simpa using ho
      · simpa using ho
      · split at ho
        · rename_i hh; rw [band_comm, band_neg_one hh.2] at ho; exact ho
        · simp at ho
      · split at ho
        · rename_i hh; rw [bor_comm, bor_zero hh.2] at ho; exact ho
        · simp at ho
      · split at ho
        · rename_i hh; rw [bxor_comm, bxor_zero hh.2] at ho; exact ho
        · simp at ho
    · split
      · rename_i _ hs
        obtain ⟨rfl, rfl⟩ := hs
        simp only [opZ, Option.some.injEq] at ho
        simp only [valZ, hr, Option.map_some]; congr 1; omega
      · exact h
  | none =>
    simp only
    cases hcr : cval r with
    | none => exact h
    | some c =>
      have hbc : b = c := valZ_of_cval hcr hr
      subst hbc
      simp only
      split
      · rename_i hn
        rw [hl]
        cases op <;> simp only [neutralR, Option.some.injEq, reduceCtorEq] at hn <;> subst hn <;>
          simp only [opZ] at ho
        · simpa using ho
        · simpa using ho
        · simpa using ho
        · simpa [Int.tdiv_one] using ho
        · split at ho
          · rename_i hh; rw [band_neg_one hh.1] at ho; exact ho
          · simp at ho
        · split at ho
          · rename_i hh; rw [bor_zero hh.1] at ho; exact ho
          · simp at ho
        · split at ho
          · rename_i hh; rw [bxor_zero hh.1] at ho; exact ho
          · simp at ho
        · split at ho
          · rename_i hh
            simp only [checkedShl] at ho
            simpa [wrap_of_range hh] using ho
          · simp at ho
        · split at ho
          · simpa [checkedShr] using ho
          · simp at ho
      · exact h

theorem neutralizeBin_val (ρ : Env) {op : BinOp} {l r : Arg} {c : Bool} {a' : Arg} {v : Int}
    (he : neutralizeBin op l r = .ok (c, a')) (h : valZ ρ (.bin op l r) = some v) : valZ ρ a' = some v := by
  obtain ⟨op', r', _, _, rfl, ⟨_, rfl, rfl⟩ | ⟨hop, s', hn, rfl⟩⟩ := neutralizeBin_ok he
  · exact neutralMain_val ρ _ l _ v h
  · obtain ⟨x, y, hl, hr, ho⟩ := valZ_bin h
    obtain ⟨y', hr', hxy⟩ := normAddSub_val ρ hn hr
    refine neutralMain_val ρ _ l r' v ?_
    rw [valZ_bin_mk hl hr', ← ho]
    rcases hop with rfl | rfl <;> cases s' <;> simp [sgn, opZ] at hxy ⊢ <;> omega

theorem neutralizeRaw_val (ρ : Env) : ∀ {a : Arg} {c : Bool} {a' : Arg} {v : Int},
    neutralizeRaw a = .ok (c, a') → valZ ρ a = some v → valZ ρ a' = some v := by
  apply Arg.negNegInd
  · intro a hnn c a' v he h
    cases a with
    | bin op l r =>
      rcases neutralizeRaw_bin_cases op l r with h0 | ⟨x, y, rfl, rfl, rfl, h0⟩
      · rw [h0] at he; exact neutralizeBin_val ρ he h
      · rw [h0] at he
        obtain ⟨_, c', he'⟩ := swapped_ok he
        refine neutralizeBin_val ρ he' ?_
        obtain ⟨p, q, hp, hq, ho⟩ := valZ_bin h
        obtain ⟨a, b, ha, hb, ho2⟩ := valZ_bin hq
        simp only [valZ, Option.some.injEq] at hp
        simp only [opZ, Option.some.injEq] at ho ho2
        rw [valZ_bin_mk hb ha]; simp only [opZ, Option.some.injEq]; omega
    | neg w =>
      rcases neutralizeRaw_neg_cases w with h0 | ⟨x, y, rfl, h0⟩ | ⟨u, rfl, _⟩
      · rw [h0] at he
        simp only [Res.ok.injEq, Prod.mk.injEq] at he
        obtain ⟨_, rfl⟩ := he; exact h
      · rw [h0] at he
        obtain ⟨_, c', he'⟩ := swapped_ok he
        refine neutralizeBin_val ρ he' ?_
        obtain ⟨q, hq, rfl⟩ := valZ_neg h
        obtain ⟨a, b, ha, hb, ho2⟩ := valZ_bin hq
        simp only [opZ, Option.some.injEq] at ho2
        rw [valZ_bin_mk hb ha]; simp only [opZ, Option.some.injEq]; omega
      · exact absurd rfl (hnn u)
    | _ =>
      simp only [neutralizeRaw, Res.ok.injEq, Prod.mk.injEq] at he
      obtain ⟨_, rfl⟩ := he; exact h
  · intro w ih c a' v he h
    rw [neutralizeRaw_neg_neg] at he
    obtain ⟨_, c', he'⟩ := swapped_ok he
    obtain ⟨q, hq, rfl⟩ := valZ_neg h
    obtain ⟨q2, hq2, rfl⟩ := valZ_neg hq
    have : - -q2 = q2 := by omega
    rw [this]
    exact ih he' hq2

theorem neutralize_val (ρ : Env) (a : Arg) (c : Bool) (a' : Arg) (v : Int) (h : neutralize a = .ok (c, a')) :
    valZ ρ a = some v → valZ ρ a' = some v :=
  neutralize_ok_ind (R := fun a a' => ∀ v, valZ ρ a = some v → valZ ρ a' = some v)
    (fun _ _ h => h) (fun _ _ h => h) (fun _ _ h => h)
    (fun _ _ _ _ _ _ _ ihl ihr h3 _ h => neutralizeRaw_val ρ h3 (valZ_bin_congr ihl ihr h))
    (fun _ _ _ _ ih h3 _ h => neutralizeRaw_val ρ h3 (valZ_neg_congr ih h))
    (fun _ _ ih _ h => valZ_not_congr ih h)
    (fun _ _ _ h => by simp [valZ] at h) (fun _ _ _ h => by simp [valZ] at h) (fun _ _ _ _ h => by simp [valZ] at h)
    a c a' h v

end Trion.Simp
