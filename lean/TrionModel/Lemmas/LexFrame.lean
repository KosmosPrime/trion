import TrionModel.Lemmas.LexExact
/-!
# Layouts compose (framing); piece lists are layouts; texts cut into pieces (`Cuts`, `Reads`)

How the descriptions of "what the tokenizer does on a text" hang together (defined in the modules of the last column,
except `Spell`, `IsSep`, `LOk`, `ltoks`: Lemmas/LexLayoutDef.lean, and `Piece`, `Valid`, `TokOk`, `lexed`:
Lemmas/LexPieceDef.lean; all of them appear in statements of `Props/`):

| description | for | says | proved in |
|---|---|---|---|
| `DoSpec` → `StepSpec` → `Placed` | arbitrary bytes | no panic; a token's offset, position `Pos.of`, first byte (`startsTok`); where an error sits | LexStep, LexDoNext, LexRun: `tokens_spec` (C10, C12 `tok_pos`, `end_pos`) |
| `Spell`, `IsSep`, `LOk`, `ltoks` | exact layouts, named parts | exactly these tokens at exactly these positions | LexLayout: `tokens_layout` (C12 `layout_tokens`), `tokens_spell` (C11Ctx) |
| `Exact` | the same, by byte offsets | `Exact` ⇔ `LOk` with `ltoks` | LexExact: `exact_layout`, `layout_exact` |
| `LOkTo`; `ExactTo` (Lemmas/ParseSegs.lean) | `LOk`; `Exact` without the condition on the end | `LOk L trail ↔ LOkTo L trail ∧ IsSepEnd trail` (`lok_iff`); `exact_split` | here; ParseSegs |
| `Piece`, `Valid`, `TokOk`, `lexed` | layouts with white-space separators and the spellings `punct`, `ident`, `num` only | `TokOk` ⊂ `Spell` (`spell_of_tokOk`), pieces ⊂ layouts (`toLayout*`), `tokens_pieces`; pieces in front of a layout, `tokens_pieces_layout` | here |
| `Cuts`, `Reads` | pieces with their text and token values bundled | `Reads.tokens`; printed texts: the `Cuts` of rendered constructs (ShowLex, TridasText), `ReadsAs` on top of `Reads` (ShowReads, used in ShowProg, TridasText), `Props/C04Text`, `C04Layout`, `C04Any` | here |
| by hand: `nextToken_doNext`, `tokens_single`, `tokens_error` | one literal at 1:1 | the single-literal theorems of `Props/C11.lean`: `tokens_single` the accepted ones (`int_lit`, `char_lit`, `str_lit`), `tokens_error` the rejected ones | LexRun |

A new arm of `do_next`, or a change to one, is fed to: its equation and `DoSpec` (LexStep / LexStrScan / LexStr, the
dispatch `doNext_arm`, and `doSpec_doNext` in LexDoNext) — this alone restores C10 and C12 `tok_pos` —; a `Spell` constructor with its
case in `utf8_spell`, `spell_head`, `doNext_spell` (LexLayout) — this restores C12Layout, C11Ctx and everything that uses
`Spell` abstractly —; and the literal theorems of `Props/C11.lean`, `Props/C11Ctx.lean` for its values and errors.
-/
namespace Trion.Lex
open Trion.Pos (adv isCont)

/-- a layout in front of the text `next` (no condition on `next`) -/
def LOkTo : List LTok → Bytes → Prop
  | [], _ => True
  | x :: r, next => IsSep x.sep ∧ Spell x.spell x.tok (ltext r next).head? ∧ LOkTo r next

theorem lok_iff (L : List LTok) (trail : Bytes) : LOk L trail ↔ LOkTo L trail ∧ IsSepEnd trail := by
  induction L with
  | nil => simp [LOk, LOkTo]
  | cons x r ih => simp only [LOk, LOkTo, ih]; constructor <;> (intro h; simp_all)

theorem ltext_append (L1 L2 : List LTok) (trail : Bytes) : ltext (L1 ++ L2) trail = ltext L1 (ltext L2 trail) := by
  induction L1 with
  | nil => rfl
  | cons x r ih => simp [ltext, ih]

theorem ltext_split (L : List LTok) (next : Bytes) : ltext L next = ltext L [] ++ next := by
  induction L with
  | nil => rfl
  | cons x r ih => simp only [ltext]; rw [ih]; simp

theorem ltoks_append (pre : Bytes) (L1 L2 : List LTok) :
    ltoks pre (L1 ++ L2) = ltoks pre L1 ++ ltoks (pre ++ ltext L1 []) L2 := by
  induction L1 generalizing pre with
  | nil => simp [ltoks, ltext]
  | cons x r ih => simp [ltoks, ltext, ih, List.append_assoc]

theorem lok_append {L1 L2 : List LTok} {trail : Bytes} (h1 : LOkTo L1 (ltext L2 trail)) (h2 : LOk L2 trail) :
    LOk (L1 ++ L2) trail := by
  induction L1 with
  | nil => exact h2
  | cons x r ih =>
    obtain ⟨a, b, c⟩ := h1
    refine ⟨a, ?_, ih c⟩
    show Spell x.spell x.tok (ltext (r ++ L2) trail).head?
    rw [ltext_append]; exact b

theorem spell_of_tokOk {bs : Bytes} {t : Tok} {nx : Option UInt8} (h : TokOk bs t nx) : Spell bs t nx := by
  cases h with
  | punct c t nx hp h47 => exact Spell.punct c t nx hp h47
  | ident s nx hs hf => exact Spell.ident _ nx hs hf
  | num r ds v nx a b c d e => exact Spell.num r ds v nx a b c d e

/-- pieces → layout; `acc` is the white space collected in front of the next token -/
def toLayout : List Piece → Bytes → List LTok × Bytes
  | [], acc => ([], acc)
  | .ws w :: r, acc => toLayout r (acc ++ w)
  | .tok bs t :: r, acc => (⟨acc, bs, t⟩ :: (toLayout r []).1, (toLayout r []).2)

theorem toLayout_text (ps : List Piece) (acc : Bytes) :
    ltext (toLayout ps acc).1 (toLayout ps acc).2 = acc ++ pbytes ps := by
  induction ps generalizing acc with
  | nil => simp [toLayout, ltext, pbytes]
  | cons p r ih =>
    cases p with
    | ws w => simp [toLayout, pbytes, Piece.bytes, ih]
    | tok bs t => simp [toLayout, ltext, pbytes, Piece.bytes, ih]

theorem toLayout_acc_space (ps : List Piece) {nx : Option UInt8} (hv : Valid ps nx) (acc : Bytes) (hacc : ∀ x ∈ acc, isSpace x = true) :
    ∀ x ∈ (toLayout ps acc).2, isSpace x = true := by
  induction ps generalizing acc with
  | nil => exact hacc
  | cons p r ih =>
    cases p with
    | ws w => exact ih hv.2 (acc ++ w) (by intro x hx; simp at hx; rcases hx with hx | hx; exact hacc x hx; exact hv.1 x hx)
    | tok bs t => exact ih hv.2 [] (by simp)

theorem head?_append_firstOr (a b : Bytes) : (a ++ b).head? = firstOr a b.head? := by cases a <;> rfl

theorem toLayout_okTo (ps : List Piece) (next : Bytes) (hv : Valid ps next.head?) (acc : Bytes)
    (hacc : ∀ x ∈ acc, isSpace x = true) : LOkTo (toLayout ps acc).1 ((toLayout ps acc).2 ++ next) := by
  induction ps generalizing acc with
  | nil => trivial
  | cons p r ih =>
    cases p with
    | ws w =>
      exact ih hv.2 (acc ++ w) (by intro x hx; simp at hx; rcases hx with hx | hx; exact hacc x hx; exact hv.1 x hx)
    | tok bs t =>
      refine ⟨isSep_ws acc hacc, ?_, ih hv.2 [] (by simp)⟩
      show Spell bs t (ltext (toLayout r []).1 ((toLayout r []).2 ++ next)).head?
      have : ltext (toLayout r []).1 ((toLayout r []).2 ++ next) = pbytes r ++ next := by
        rw [ltext_split, ← List.append_assoc, ← ltext_split, toLayout_text, List.nil_append]
      rw [this, head?_append_firstOr]
      exact spell_of_tokOk hv.1

theorem toLayout_ok (ps : List Piece) (hv : Valid ps none) (acc : Bytes) (hacc : ∀ x ∈ acc, isSpace x = true) :
    LOk (toLayout ps acc).1 (toLayout ps acc).2 := by
  have h := toLayout_okTo ps [] hv acc hacc
  rw [List.append_nil] at h
  exact (lok_iff _ _).mpr ⟨h, .inl (isSep_ws _ (toLayout_acc_space ps hv acc hacc))⟩

theorem toLayout_toks (ps : List Piece) (pre acc : Bytes) :
    ltoks pre (toLayout ps acc).1 = lexed (Pos.of (pre ++ acc)) ps := by
  induction ps generalizing pre acc with
  | nil => rfl
  | cons p r ih =>
    cases p with
    | ws w =>
      simp only [toLayout, lexed]
      rw [ih, ← List.append_assoc, Pos.of_append (pre ++ acc) w]
    | tok bs t =>
      simp only [toLayout, ltoks, lexed]
      rw [ih, List.append_nil, ← Pos.of_append]

theorem tokens_pieces (ps : List Piece) (hv : Valid ps none) :
    tokens (pbytes ps) = .ok ⟨lexed (1, 1) ps, none, (adv (1, 1) (pbytes ps)).1, (adv (1, 1) (pbytes ps)).2⟩ := by
  have h := tokens_layout _ _ (toLayout_ok ps hv [] (by simp))
  rw [toLayout_text ps [], toLayout_toks ps [] []] at h
  simpa only [List.nil_append, Pos.of_eq_adv, Pos.adv_nil] using h

/-! a piece list (the program's `.addr` / `.const` lines of `Props/C04Layout.lean`) in front of an arbitrary layout (the statement: any
separators — white space, line and block comments — and any token spellings the tokenizer knows) -/

theorem toLayout_vals (ps : List Piece) (acc : Bytes) : ((toLayout ps acc).1).map (·.tok) = tokVals ps := by
  induction ps generalizing acc with
  | nil => rfl
  | cons p r ih => cases p <;> simp [toLayout, tokVals, ih]

theorem tokens_pieces_layout (P : List Piece) (x : LTok) (r : List LTok) (trail : Bytes)
    (hP : Valid P (x.sep ++ x.spell ++ ltext r trail).head?) (hL : LOk (x :: r) trail) :
    ∃ ts, tokens (pbytes P ++ ltext (x :: r) trail) =
        .ok ⟨ts, none, (Pos.of (pbytes P ++ ltext (x :: r) trail)).1, (Pos.of (pbytes P ++ ltext (x :: r) trail)).2⟩ ∧
      ts.map (·.val) = tokVals P ++ (x :: r).map (·.tok) := by
  let L1 := (toLayout P []).1
  let acc1 := (toLayout P []).2
  let x' : LTok := ⟨acc1 ++ x.sep, x.spell, x.tok⟩
  have hacc1 : ∀ b ∈ acc1, isSpace b = true := toLayout_acc_space P hP [] (by simp)
  have hL' : LOk (x' :: r) trail := ⟨isSep_append (isSep_ws acc1 hacc1) hL.1, hL.2.1, hL.2.2⟩
  have hto : LOkTo L1 (ltext (x' :: r) trail) := by
    have := toLayout_okTo P (x.sep ++ x.spell ++ ltext r trail) hP [] (by simp)
    simpa [ltext, x', List.append_assoc] using this
  have hW := tokens_layout (L1 ++ x' :: r) trail (lok_append hto hL')
  have htext : ltext (L1 ++ x' :: r) trail = pbytes P ++ ltext (x :: r) trail := by
    rw [ltext_append, ltext_split L1]
    have h1 : ltext L1 acc1 = pbytes P := by simpa using toLayout_text P []
    rw [ltext_split L1 acc1] at h1
    simp only [ltext, x', List.append_assoc]
    rw [← List.append_assoc (ltext L1 []) acc1, h1]
  rw [htext] at hW
  refine ⟨_, hW, ?_⟩
  rw [ltoks_vals, List.map_append, toLayout_vals]
  rfl

/-- the valid pieces `ps` cut `text`, in front of the byte `nx`, into tokens with the values `vals` -/
structure Cuts (ps : List Piece) (nx : Option UInt8) (text : Bytes) (vals : List Tok) : Prop where
  valid : Valid ps nx
  text : pbytes ps = text
  vals : tokVals ps = vals

theorem Cuts.nil (nx : Option UInt8) : Cuts [] nx [] [] := ⟨trivial, rfl, rfl⟩

theorem Cuts.ws {ps : List Piece} {nx : Option UInt8} {text : Bytes} {vals : List Tok} (h : Cuts ps nx text vals) (w : Bytes)
    (hw : ∀ x ∈ w, isSpace x = true) : Cuts (.ws w :: ps) nx (w ++ text) vals :=
  ⟨⟨hw, h.valid⟩, by rw [← h.text]; rfl, h.vals⟩

theorem Cuts.tok {ps : List Piece} {nx : Option UInt8} {text : Bytes} {vals : List Tok} {bs : Bytes} {t : Tok}
    (h : Cuts ps nx text vals) (ht : TokOk bs t (firstOr text nx)) : Cuts (.tok bs t :: ps) nx (bs ++ text) (t :: vals) :=
  ⟨⟨by rw [h.text]; exact ht, h.valid⟩, by rw [← h.text]; rfl, by rw [← h.vals]; rfl⟩

theorem Cuts.append {a b : List Piece} {nx : Option UInt8} {ta tb : Bytes} {va vb : List Tok}
    (ha : Cuts a (firstOr tb nx) ta va) (hb : Cuts b nx tb vb) : Cuts (a ++ b) nx (ta ++ tb) (va ++ vb) :=
  ⟨valid_append (by rw [hb.text]; exact ha.valid) hb.valid, by rw [pbytes_append, ha.text, hb.text],
    by rw [tokVals_append, ha.vals, hb.vals]⟩

/-- `text`, in front of the byte `nx`, reads as the tokens `vals`: some valid pieces cut it so -/
def Reads (text : Bytes) (nx : Option UInt8) (vals : List Tok) : Prop := ∃ ps, Cuts ps nx text vals

theorem Reads.nil (nx : Option UInt8) : Reads [] nx [] := ⟨[], Cuts.nil nx⟩

theorem Reads.of_valid {ps : List Piece} {nx : Option UInt8} (h : Valid ps nx) : Reads (pbytes ps) nx (tokVals ps) :=
  ⟨ps, h, rfl, rfl⟩

theorem Reads.ws {text : Bytes} {nx : Option UInt8} {vals : List Tok} (h : Reads text nx vals) (w : Bytes)
    (hw : ∀ x ∈ w, isSpace x = true) : Reads (w ++ text) nx vals :=
  h.elim fun _ hc => ⟨_, hc.ws w hw⟩

theorem Reads.append {ta tb : Bytes} {nx : Option UInt8} {va vb : List Tok} (ha : Reads ta (firstOr tb nx) va)
    (hb : Reads tb nx vb) : Reads (ta ++ tb) nx (va ++ vb) := by
  obtain ⟨a, ca⟩ := ha
  obtain ⟨b, cb⟩ := hb
  exact ⟨a ++ b, ca.append cb⟩

theorem Reads.tokens {text : Bytes} {vals : List Tok} (h : Reads text none vals) :
    ∃ ts, tokens text = .ok ⟨ts, none, (adv (1, 1) text).1, (adv (1, 1) text).2⟩ ∧ ts.map (·.val) = vals :=
  h.elim fun ps hc => ⟨_, hc.text ▸ tokens_pieces ps hc.valid, by rw [lexed_vals, hc.vals]⟩

end Trion.Lex
