import TrionModel.Lemmas.SimpTaint
import TrionModel.Lemmas.SimpSound
/-!
# What arithmetic over known names evaluates to, and the number a retried operand delivers

* `evaluateE_known`: arithmetic all of whose names have a value evaluates to a NUMBER or fails with an arithmetic OVERFLOW
  (`OverflowError`: add / sub / mul / negate / divide / modulo / shift, including division by zero) — nothing else;
* `retry_of_fresh_number` / `fresh_of_retry_number`: for an operand that must be a number, the re-evaluation of the tree a
  first attempt left and the fresh evaluation differ at most by an arithmetic overflow.
-/
namespace Trion.Simp
open Trion

/-- The names `evaluate` does not replace by a number: the registers, and the names without a value in `lk` (`NotFound` or
`Deferred`).  As the parameter of `arith` it leaves arithmetic all of whose names have a value. -/
def unknown (lk : Bytes → Lookup) (isReg : Bytes → Bool) (s : Bytes) : Bool :=
  isReg s || (match lk s with | .found _ => false | _ => true)

theorem leftBy_known {lk₁ lk₂ : Bytes → Lookup} {isReg : Bytes → Bool} (h₁ : ∀ s v, lk₁ s = .found v → lk₂ s = .found v)
    {a a₁ : Arg} (h : LeftBy lk₁ isReg a a₁) : arith (unknown lk₂ isReg) a₁ = arith (unknown lk₂ isReg) a := by
  have hQ : ∀ s v, isReg s = false → lk₁ s = .found v → unknown lk₂ isReg s = false := fun s v hr hf => by
    simp [unknown, hr, h₁ s v hf]
  rcases h with ⟨ev, h⟩ | ⟨n, h⟩
  · exact evaluateE_arith_ok _ lk₁ isReg hQ _ _ _ h
  · exact evaluateE_arith_nosuch _ lk₁ isReg hQ _ _ _ h

theorem evaluateE_complete_known (lk : Bytes → Lookup) (isReg : Bytes → Bool) : ∀ a ev a',
    evaluateE lk isReg a = .ok ev a' → ev.cause = none → arith isReg a = true → arith (unknown lk isReg) a = true :=
  (evaluateE_complete_ind lk isReg (R := fun a _ _ => arith isReg a = true → arith (unknown lk isReg) a = true)
    (Rs := fun _ _ _ => True)
    (fun _ _ => rfl) (fun _ ha => by simp [arith] at ha) (fun s hr ha => by simp [arith, hr] at ha)
    (fun s v hr hl _ => by simp [arith, unknown, hr, hl])
    (fun _ _ _ _ _ _ _ _ _ _ _ ihl ihr _ ha => by
      simp only [arith, Bool.and_eq_true] at ha ⊢
      exact ⟨ihl ha.1, ihr ha.2⟩)
    (fun _ _ _ _ _ _ ih _ ha => ih ha) (fun _ _ _ _ _ _ ih _ ha => ih ha)
    (fun _ _ _ _ _ _ _ _ ha => by simp [arith] at ha)
    (fun _ _ _ _ ha => by simp [arith] at ha) (fun _ _ _ _ _ ha => by simp [arith] at ha)
    trivial (fun _ _ _ _ _ _ _ _ => trivial)).1

def NumberOrOverflow (r : EvE Arg) : Prop :=
  (∃ ev v, r = .ok ev (.const v) ∧ ev.cause = none) ∨ (∃ k t, r = .err (.overflow k) t)

theorem evaluateE_known (lk : Bytes → Lookup) (isReg : Bytes → Bool) : ∀ a, arith (unknown lk isReg) a = true →
    NumberOrOverflow (evaluateE lk isReg a) := by
  intro a
  induction a using Arg.ind with
  | const v => intro _; exact .inl ⟨_, v, rfl, rfl⟩
  | ident s =>
    intro h
    simp only [arith, unknown, Bool.not_eq_true', Bool.or_eq_false_iff] at h
    obtain ⟨hr, hk⟩ := h
    cases hl : lk s with
    | notFound => simp [hl] at hk
    | deferred => simp [hl] at hk
    | found v => exact .inl ⟨⟨true, none⟩, v, by simp [evaluateE, hr, hl], rfl⟩
  | bin op l r ihl ihr =>
    intro h
    simp only [arith, Bool.and_eq_true] at h
    rcases ihl h.1 with ⟨e1, x, h1, c1⟩ | ⟨k, t, h1⟩
    · rcases ihr h.2 with ⟨e2, y, h2, c2⟩ | ⟨k, t, h2⟩
      · simp only [evaluateE, h1, h2, afterRawE, simplifyRawE, isBad, Bool.false_eq_true, if_false, cval]
        cases hf : foldBin op x y with
        | ok v => exact .inl ⟨_, v, rfl, by simp [Ev.or, c1, c2]⟩
        | error k => exact .inr ⟨k, _, rfl⟩
      · exact .inr ⟨k, .bin op (.const x) t, by simp only [evaluateE, h1, h2]⟩
    · exact .inr ⟨k, .bin op t r, by simp only [evaluateE, h1]⟩
  | neg v ih =>
    intro h
    simp only [arith] at h
    rcases ih h with ⟨e1, x, h1, c1⟩ | ⟨k, t, h1⟩
    · simp only [evaluateE, h1, afterRawE, simplifyRawE]
      by_cases hx : x = i64Min
      · simp only [hx, if_true]; exact .inr ⟨_, _, rfl⟩
      · simp only [hx, if_false]; exact .inl ⟨_, _, rfl, by simp [Ev.or, c1]⟩
    · exact .inr ⟨k, .neg t, by simp only [evaluateE, h1]⟩
  | not v ih =>
    intro h
    simp only [arith] at h
    rcases ih h with ⟨e1, x, h1, c1⟩ | ⟨k, t, h1⟩
    · simp only [evaluateE, h1, afterRawE, simplifyRawE]
      exact .inl ⟨_, _, rfl, by simp [Ev.or, c1]⟩
    · exact .inr ⟨k, .not t, by simp only [evaluateE, h1]⟩
  | _ => intro h; simp [arith] at h

theorem known_const {lk : Bytes → Lookup} {isReg : Bytes → Bool} {a : Arg} (ha : arith (unknown lk isReg) a = true)
    {e1 : Ev} {a' : Arg} (h : evaluateE lk isReg a = .ok e1 a') : ∃ x, a' = .const x := by
  rcases evaluateE_known lk isReg a ha with ⟨_, x, h', _⟩ | ⟨_, _, h'⟩ <;> rw [h] at h' <;> cases h'
  exact ⟨x, rfl⟩

theorem arith_const (lk : Bytes → Lookup) (isReg : Bytes → Bool) (hn : NoDef lk) (a : Arg) (ha : arith isReg a = true)
    (ev : Ev) (a' : Arg) (h : evaluateE lk isReg a = .ok ev a') : ∃ v, a' = .const v :=
  known_const (evaluateE_complete_known lk isReg a ev a' h (evaluateE_cause_none hn h) ha) h

section
variable {lk₁ lk₂ : Bytes → Lookup} {isReg : Bytes → Bool}

theorem retry_of_fresh_number (h₁ : ∀ s v, lk₁ s = .found v → lk₂ s = .found v) (hT : tableOk lk₂) {a a₁ : Arg}
    (hlit : litsOk a = true) (hl : LeftBy lk₁ isReg a a₁) {ev : Ev} {w : Int}
    (e : evaluateE lk₂ isReg a = .ok ev (.const w)) (hc : ev.cause = none) :
    (∃ ev₂, evaluateE lk₂ isReg a₁ = .ok ev₂ (.const w) ∧ ev₂.cause = none) ∨
    (∃ k t, evaluateE lk₂ isReg a₁ = .err (.overflow k) t) := by
  have ha := evaluateE_const_arith isReg e
  have hk := evaluateE_complete_known lk₂ isReg a ev _ e hc ha
  rw [← leftBy_known h₁ hl] at hk
  rcases evaluateE_known lk₂ isReg a₁ hk with ⟨ev₂, v, h2, c2⟩ | ⟨k, t, h2⟩
  · have := number_order_independent h₁ hT hlit hl h2 e
    subst this
    exact .inl ⟨ev₂, h2, c2⟩
  · exact .inr ⟨k, t, h2⟩

theorem fresh_of_retry_number (h₁ : ∀ s v, lk₁ s = .found v → lk₂ s = .found v) (hT : tableOk lk₂) {a a₁ : Arg}
    (hlit : litsOk a = true) (hl : LeftBy lk₁ isReg a a₁) {ev₂ : Ev} {v : Int}
    (e₂ : evaluateE lk₂ isReg a₁ = .ok ev₂ (.const v)) (hc : ev₂.cause = none) :
    (∃ ev, evaluateE lk₂ isReg a = .ok ev (.const v) ∧ ev.cause = none) ∨
    (∃ k t, evaluateE lk₂ isReg a = .err (.overflow k) t) := by
  have ha₁ := evaluateE_const_arith isReg e₂
  have hk := evaluateE_complete_known lk₂ isReg a₁ ev₂ _ e₂ hc ha₁
  rw [leftBy_known h₁ hl] at hk
  rcases evaluateE_known lk₂ isReg a hk with ⟨ev, w, h2, c2⟩ | ⟨k, t, h2⟩
  · have := number_order_independent h₁ hT hlit hl e₂ h2
    subst this
    exact .inl ⟨ev, h2, c2⟩
  · exact .inr ⟨k, t, h2⟩

end

end Trion.Simp
