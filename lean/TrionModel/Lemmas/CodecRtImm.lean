import TrionModel.Lemmas.CodecRtBase
/-! Round trip `RT` of the 16-bit encoder arms with an immediate, a register list or no operand. -/
namespace Trion.Codec
open Trion

theorem rt_lsl_imm (a b : Reg) (v : Int) : RT (.lsl a b (.imm v)) :=
  rt_arm rfl fun g _ =>
    ⟨by omega, by rw [decode16_g0 (by omega), dec00000_lsl (by omega), withReg_val a (by omega),
      withReg_val b (by omega), imm_eq v (by omega)]⟩

/-- LSR/ASR: a shift of 32 is emitted as field value 0 and read back as 32 -/
theorem rt_lsr_imm (a b : Reg) (v : Int) : RT (.lsr a b (.imm v)) :=
  rt_arm rfl fun g _ =>
    ⟨by omega, by rw [decode16_g1 (by omega), decShift, withReg_val a (by omega), withReg_val b (by omega),
      imm_eq v (by split <;> omega)]⟩

theorem rt_asr_imm (a b : Reg) (v : Int) : RT (.asr a b (.imm v)) :=
  rt_arm rfl fun g _ =>
    ⟨by omega, by rw [decode16_g2 (by omega), decShift, withReg_val a (by omega), withReg_val b (by omega),
      imm_eq v (by split <;> omega)]⟩

theorem rt_mov_imm (f : Bool) (a : Reg) (v : Int) : RT (.mov f a (.imm v)) :=
  rt_arm rfl fun g _ => by
    obtain ⟨rfl, g⟩ := flag_true g
    exact ⟨by omega, by rw [decode16_g4 (by omega), withReg_val a (by omega), imm_eq v (by omega)]⟩

theorem rt_cmp_imm (a : Reg) (v : Int) : RT (.cmp a (.imm v)) :=
  rt_arm rfl fun g _ =>
    ⟨by omega, by rw [decode16_g5 (by omega), withReg_val a (by omega), imm_eq v (by omega)]⟩

theorem rt_add_imm (f : Bool) (a b : Reg) (v : Int) : RT (.add f a b (.imm v)) := by
  by_cases hb : b.val = 13
  · obtain rfl : b = Reg.sp := Fin.ext hb
    by_cases ha : a.val = 13
    · obtain rfl : a = Reg.sp := Fin.ext ha
      refine rt_arm (by rw [encode, if_pos hb, if_pos ha]) fun g _ => ?_
      obtain ⟨rfl, g⟩ := flag_false g
      exact ⟨by omega, by rw [decode16_g22 (by omega), dec10110_sp (by omega), if_pos (by omega), imm_eq v (by omega)]⟩
    · refine rt_arm (by rw [encode, if_pos hb, if_neg ha]) fun g _ => ?_
      obtain ⟨rfl, g⟩ := flag_false g
      exact ⟨by omega, by rw [decode16_g21 (by omega), withReg_val a (by omega), imm_eq v (by omega)]⟩
  · by_cases hab : a.val ≠ b.val
    · refine rt_arm (by rw [encode, if_neg hb, if_pos hab]) fun g _ => ?_
      obtain ⟨rfl, g⟩ := flag_true g
      exact ⟨by omega, by rw [decode16_g3 (by omega), dec00011_imm (by omega), withReg_val a (by omega),
        withReg_val b (by omega), if_pos (by omega), imm_eq v (by omega)]⟩
    · obtain rfl : a = b := Fin.ext (by omega)
      refine rt_arm (by rw [encode, if_neg hb, if_neg hab]) fun g _ => ?_
      obtain ⟨rfl, g⟩ := flag_true g
      exact ⟨by omega, by rw [decode16_g6 (by omega), withReg_val a (by omega), imm_eq v (by omega)]⟩

theorem rt_sub_imm (f : Bool) (a b : Reg) (v : Int) : RT (.sub f a b (.imm v)) := by
  by_cases hb : b.val = 13
  · obtain rfl : b = Reg.sp := Fin.ext hb
    refine rt_arm (by rw [encode, if_pos hb]) fun g _ => ?_
    obtain ⟨rfl, g⟩ := flag_false g
    obtain rfl : a = Reg.sp := Fin.ext (by omega)
    exact ⟨by omega, by rw [decode16_g22 (by omega), dec10110_sp (by omega), if_neg (by omega), imm_eq v (by omega)]⟩
  · by_cases hab : a.val ≠ b.val
    · refine rt_arm (by rw [encode, if_neg hb, if_pos hab]) fun g _ => ?_
      obtain ⟨rfl, g⟩ := flag_true g
      exact ⟨by omega, by rw [decode16_g3 (by omega), dec00011_imm (by omega), withReg_val a (by omega),
        withReg_val b (by omega), if_neg (by omega), imm_eq v (by omega)]⟩
    · obtain rfl : a = b := Fin.ext (by omega)
      refine rt_arm (by rw [encode, if_neg hb, if_neg hab]) fun g _ => ?_
      obtain ⟨rfl, g⟩ := flag_true g
      exact ⟨by omega, by rw [decode16_g7 (by omega), withReg_val a (by omega), imm_eq v (by omega)]⟩

theorem rt_adr (a : Reg) (v : Int) : RT (.adr a v) :=
  rt_arm rfl fun g wf => by
    obtain ⟨hv, _⟩ : 0 ≤ v ∧ v ≤ 65535 := wf
    exact ⟨by omega, by rw [decode16_g20 (by omega), withReg_val a (by omega),
      show ((((0xA000 + a.val * 256 + (v / 4).toNat) % 256 * 4 : Nat) : Int)) = v by omega]⟩

theorem rt_ldr_imm (a b : Reg) (v : Int) : RT (.ldr a b (.imm v)) := by
  by_cases hpc : b.val = 15
  · obtain rfl : b = Reg.pc := Fin.ext hpc
    exact rt_arm (by rw [encode, if_pos hpc]) fun g _ =>
      ⟨by omega, by rw [decode16_g9 (by omega), withReg_val a (by omega), imm_eq v (by omega)]⟩
  · by_cases hsp : b.val = 13
    · obtain rfl : b = Reg.sp := Fin.ext hsp
      exact rt_arm (by rw [encode, if_neg hpc, if_pos hsp]) fun g _ =>
        ⟨by omega, by rw [decode16_g19 (by omega), withReg_val a (by omega), imm_eq v (by omega)]⟩
    · exact rt_arm (by rw [encode, if_neg hpc, if_neg hsp]) fun g _ =>
        ⟨by omega, by rw [decode16_g12_13 (by omega), decLdStImm_ld _ _ _ (by omega), withReg_val a (by omega),
          withReg_val b (by omega), imm_eq v (by omega)]⟩

theorem rt_str_imm (a b : Reg) (v : Int) : RT (.str a b (.imm v)) := by
  by_cases hsp : b.val = 13
  · obtain rfl : b = Reg.sp := Fin.ext hsp
    exact rt_arm (by rw [encode, if_pos hsp]) fun g _ =>
      ⟨by omega, by rw [decode16_g18 (by omega), withReg_val a (by omega), imm_eq v (by omega)]⟩
  · exact rt_arm (by rw [encode, if_neg hsp]) fun g _ =>
      ⟨by omega, by rw [decode16_g12_13 (by omega), decLdStImm_st _ _ _ (by omega), withReg_val a (by omega),
        withReg_val b (by omega), imm_eq v (by omega)]⟩

theorem rt_strb_imm (a b : Reg) (v : Int) : RT (.strb a b (.imm v)) :=
  rt_arm rfl fun g _ =>
    ⟨by omega, by rw [decode16_g14_15 (by omega), decLdStImm_st _ _ _ (by omega), withReg_val a (by omega),
      withReg_val b (by omega), imm_eq v (by omega)]⟩

theorem rt_ldrb_imm (a b : Reg) (v : Int) : RT (.ldrb a b (.imm v)) :=
  rt_arm rfl fun g _ =>
    ⟨by omega, by rw [decode16_g14_15 (by omega), decLdStImm_ld _ _ _ (by omega), withReg_val a (by omega),
      withReg_val b (by omega), imm_eq v (by omega)]⟩

theorem rt_strh_imm (a b : Reg) (v : Int) : RT (.strh a b (.imm v)) :=
  rt_arm rfl fun g _ =>
    ⟨by omega, by rw [decode16_g16_17 (by omega), decLdStImm_st _ _ _ (by omega), withReg_val a (by omega),
      withReg_val b (by omega), imm_eq v (by omega)]⟩

theorem rt_ldrh_imm (a b : Reg) (v : Int) : RT (.ldrh a b (.imm v)) :=
  rt_arm rfl fun g _ =>
    ⟨by omega, by rw [decode16_g16_17 (by omega), decLdStImm_ld _ _ _ (by omega), withReg_val a (by omega),
      withReg_val b (by omega), imm_eq v (by omega)]⟩

theorem rt_stm (a : Reg) (m : RegSet) : RT (.stm a m) :=
  rt_arm rfl fun g _ =>
    ⟨by omega, by rw [decode16_g24 (by omega), withReg_val a (by omega), mkSet_eq m (by omega)]⟩

theorem rt_ldm (a : Reg) (m : RegSet) : RT (.ldm a m) :=
  rt_arm rfl fun g _ =>
    ⟨by omega, by rw [decode16_g25 (by omega), withReg_val a (by omega), mkSet_eq m (by omega)]⟩

/-- PUSH: bit 8 of the encoding is LR, bit 14 of the set -/
theorem rt_push (m : RegSet) : RT (.push m) :=
  rt_arm rfl fun g _ =>
    ⟨by omega, by rw [decode16_g22 (by omega), dec10110_push (by omega), if_neg (by omega), mkSet_eq m (by omega)]⟩

/-- POP: bit 8 of the encoding is PC, bit 15 of the set -/
theorem rt_pop (m : RegSet) : RT (.pop m) :=
  rt_arm rfl fun g _ =>
    ⟨by omega, by rw [decode16_g23 (by omega), dec10111_pop (by omega), if_neg (by omega), mkSet_eq m (by omega)]⟩

theorem rt_b (c : Cond) (v : Int) : RT (.b c v) := by
  by_cases hc : c.val = 14
  · obtain rfl : c = Cond.always := Fin.ext hc
    exact rt_arm (by rw [encode, if_pos hc]) fun g _ =>
      ⟨by omega, by rw [decode16_g28 (by omega), sext2_11 v (by split <;> omega)]⟩
  · exact rt_arm (by rw [encode, if_neg hc]) fun g _ =>
      ⟨by omega, by rw [decode16_g26_27 (by omega), dec1101_b (by omega), withCond_val c (by omega), 
        sext2_8 v (by split <;> omega)]⟩

theorem rt_udf (v : Int) : RT (.udf v) :=
  rt_ok rfl fun wf => by
    obtain ⟨_, _⟩ : 0 ≤ v ∧ v ≤ 255 := wf
    exact ⟨by omega, by rw [decode16_g26_27 (by omega), dec1101_udf (by omega),
      show (((0xDE00 + v.toNat) % 256 : Nat) : Int) = v by omega]⟩

theorem rt_svc (v : Int) : RT (.svc v) :=
  rt_ok rfl fun wf => by
    obtain ⟨_, _⟩ : 0 ≤ v ∧ v ≤ 255 := wf
    exact ⟨by omega, by rw [decode16_g26_27 (by omega), dec1101_svc (by omega),
      show (((0xDF00 + v.toNat) % 256 : Nat) : Int) = v by omega]⟩

theorem rt_bkpt (v : Int) : RT (.bkpt v) :=
  rt_ok rfl fun wf => by
    obtain ⟨_, _⟩ : 0 ≤ v ∧ v ≤ 255 := wf
    exact ⟨by omega, by rw [decode16_g23 (by omega), dec10111_bkpt (by omega),
      show (((0xBE00 + v.toNat) % 256 : Nat) : Int) = v by omega]⟩

theorem rt_cps (e : Bool) : RT (.cps e) := by
  cases e <;> exact rt_ok rfl fun _ => ⟨by decide, rfl⟩

theorem rt_nop : RT .nop := rt_ok rfl fun _ => ⟨by decide, rfl⟩
theorem rt_yield : RT .yield := rt_ok rfl fun _ => ⟨by decide, rfl⟩
theorem rt_wfe : RT .wfe := rt_ok rfl fun _ => ⟨by decide, rfl⟩
theorem rt_wfi : RT .wfi := rt_ok rfl fun _ => ⟨by decide, rfl⟩
theorem rt_sev : RT .sev := rt_ok rfl fun _ => ⟨by decide, rfl⟩

end Trion.Codec
