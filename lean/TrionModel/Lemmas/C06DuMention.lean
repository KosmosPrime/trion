import TrionModel.Lemmas.SimpMentions
import TrionModel.Lemmas.C06DuDiag
import TrionModel.Lemmas.C06Retry
/-!
# `.du* e` where the expression `e` mentions an undefined name: statement and retry
-/
namespace Trion.C04
open Trion Trion.Asm Trion.Front

theorem evalIn_mentions (tbl : Asm.Table) (n : Bytes) (hr : isRegister n = false) (hf : tbl.find n = none) (a : Arg)
    (hm : Simp.mentions n a = true) :
    (∃ m a', Asm.evalIn tbl a = .ok (.noSuch m a') ∧ Simp.mentions n a' = true) ∨
    (∃ e a', Asm.evalIn tbl a = .ok (.err e a')) := by
  have hl : (fun x => tbl.get x) n = .notFound := by simp [Asm.Table.get, hf]
  unfold Asm.evalIn
  rcases Simp.evaluateE_mentions (fun x => tbl.get x) isRegister n hr hl a hm with ⟨m, a', h, w⟩ | ⟨e, a', h⟩ | h
  · rw [h]; exact .inl ⟨m, a', rfl, w⟩
  · rw [h]; exact .inr ⟨_, a', rfl⟩
  · exact absurd h (Asm.evaluateE_ne_panic _ _ _)

theorem evalArg_mentions (env : Asm.Env) (st : Asm.St) (tbl : Asm.Table) (henv : env.paths ≠ []) (hl : st.locals = some tbl)
    (n : Bytes) (hr : isRegister n = false) (hf : tbl.find n = none) (a : Arg) (hm : Simp.mentions n a = true) :
    (∃ m a', Asm.evalArg env st a = .ok (.noSuch m a') ∧ Simp.mentions n a' = true) ∨
    (∃ e a', Asm.evalArg env st a = .ok (.err e a')) := by
  have : Asm.evalArg env st a = Asm.evalIn tbl a := Asm.evalArg_eq (paths_nonempty henv) hl a
  rw [this]
  exact evalIn_mentions tbl n hr hf a hm

/-- the diagnostic at once is an evaluation error met first, or no room for the placeholder -/
theorem du_mentions_stmt (du : Asm.DU) (env : Asm.Env) (st : Asm.St) (tbl : Asm.Table) (henv : env.paths ≠ [])
    (hl : st.locals = some tbl) (hlt : st.localTasks = some []) (l c : Nat) (n : Bytes) (a : Arg)
    (hr : isRegister n = false) (hf : tbl.find n = none) (hm : Simp.mentions n a = true) :
    ∀ st' r, Asm.duDirective du env st l c [a] = .ok (st', r) →
      st.errors.length + 1 ≤ st'.errors.length ∨
      (r = .ok ∧ st'.locals = some tbl ∧ st'.errors = st.errors ∧
        ∃ d, st'.localTasks = some [.data d false] ∧ Simp.mentions n d.arg = true ∧ d.du = du) := by
  intro st' r h
  cases hc : st.seg.active with
  | none => simp only [Asm.duDirective, Asm.currAddr, hc, Option.map_none] at h; cases h; exact .inl (Nat.le_refl _)
  | some seg =>
    rw [duDirective_one du env st l c a hc] at h
    rcases evalArg_mentions env st tbl henv hl n hr hf a hm with ⟨m, a1, hev, hm1⟩ | ⟨e, a1, hev⟩
    · simp only [Asm.DataExpr.apply, hev, if_true] at h
      obtain ⟨_, _, he, hok⟩ := duPlaceholder_spec h
      cases r with
      | err lv => exact .inl (he rfl)
      | ok =>
        obtain ⟨h1, h2, p', h3⟩ := hok rfl [] hlt
        exact .inr ⟨rfl, h1.trans hl, h2, _, h3, hm1, rfl⟩
    · simp only [Asm.DataExpr.apply, hev] at h
      exact .inl (duPlaceholder_spec h).2.1

theorem du_mentions_task (d : Asm.DataExpr) (env : Asm.Env) (st : Asm.St) (tbl : Asm.Table) (henv : env.paths ≠ [])
    (hl : st.locals = some tbl) (n : Bytes) (hm : Simp.mentions n d.arg = true) (hr : isRegister n = false)
    (hf : tbl.find n = none) :
    ∀ st' r, Asm.runTask Asm.encoder env st (.data d false) = .ok (st', r) → st.errors.length + 1 ≤ st'.errors.length := by
  intro st' r h
  rcases evalArg_mentions env st tbl henv hl n hr hf d.arg hm with ⟨m, a1, hev, _⟩ | ⟨e, a1, hev⟩
  · simp only [Asm.runTask, Asm.runDataTask, Asm.DataExpr.apply, hev, Bool.false_eq_true, if_false] at h
    cases h
    simp
  · simp only [Asm.runTask, Asm.runDataTask, Asm.DataExpr.apply, hev] at h
    cases h
    simp

theorem run_last_du_mentions {fs : Bytes → Option Bytes} {main : Bytes} {l c : Nat} (du : Asm.DU) {dn : Bytes}
    (hdn : dn = bytesOf du.name) {e : Arg} {S : Asm.St} (h : C06.AtLast fs main ⟨l, c, .directive dn (Args.ofList [e])⟩ S)
    {tbl : Asm.Table} (hl : S.locals = some tbl) {n : Bytes} (hr : isRegister n = false) (hf : tbl.find n = none)
    (hm : Simp.mentions n e = true) : C06.ReportedAt fs main ⟨l, c, .directive dn (Args.ofList [e])⟩ := by
  obtain ⟨data, pre, hfs, hR, hq⟩ := h.reaches
  refine .of_kind (run_last_du hfs du hdn hR hq fun S1 r1 hX => ?_)
  rcases du_mentions_stmt du ⟨[main], main⟩ S tbl (by simp) hl hq.2.2 l c n e hr hf hm S1 r1 hX with
    hE | ⟨rfl, hl1, _, d, hlt1, hda, _⟩
  · exact .inl hE
  · exact .inr ⟨rfl, _, hlt1, du_mentions_task d ⟨[main], main⟩ _ tbl (by simp) hl1 n hda hr hf⟩

end Trion.C04
