import TrionModel.Props.C08Bytes
import TrionModel.Lemmas.AsmRetrySim
/-!
# C08 (statement level, FULL) — the order of definition changes neither the outcome nor the bytes, for every operand tree

Models: `Trion.Simp` (`simplify_raw / neutralize_raw / neutralize / evaluate`; the negation of a difference is never kept —
`-(l - r)` and `0 - (l - r)` become `r - l`, and the swapped node is brought into neutral form: F29, F30 in DESIGN.md §11, K4, K5 in
props/C08.json),
`Trion.Front.assemble / build`, `Trion.Asm.frontEval / evalIn / DataExpr.apply`.

`evaluate_idempotent` is the normal-form theorem of Lemmas/SimpNF.lean: every result is hereditarily a local fixed point
of `simplify_raw`.  It rests on those two rewrites (F29: `-(−1 − r0)` must not stay `r0 − (−1)`; F30: `0 − (−r0 − r1)` must
not stay `−(−r0 − r1)`), the operands on which defined-below and defined-above would otherwise differ.  Hence the tree an interrupted
`evaluate` leaves behind evaluates over a larger table exactly like the original operand, for EVERY tree.  The theorems
here are those of Props/C08Asm.lean and Props/C08Bytes.lean without the hypotheses `plain` / `LeftStableArg`, which no proof
there uses; all are read off `build_retry`, `build_retry_completed` (Props/C08Asm.lean) and `data_retry_all`.

The one hypothesis is `Table.NoDef t₁` (no `.global/.import`-deferred entry in the table of the first attempt; with a `Deferred`
name the first attempt does not stop but simplifies AROUND the name, a different mechanism: Props/C08Deferred.lean).
-/
namespace Trion.Asm
open Trion

/-- C08  `evaluate` is idempotent: a complete result (no `Deferred` cause) is left unchanged by `evaluate` over any table -/
theorem evaluate_idempotent (lk lk' : Bytes → Simp.Lookup) (isReg : Bytes → Bool) (a : Arg) (ev : Simp.Ev) (a' : Arg)
    (h : Simp.evaluateE lk isReg a = .ok ev a') (hc : ev.cause = none) :
    Simp.evaluateE lk' isReg a' = .ok ⟨false, none⟩ a' := Simp.evaluateE_idempotent h hc lk'

/-- C08  The tree-level retry theorem for every operand tree: first `evaluate` over `t₁` stopped at an unknown name and left
`a₁`; over every `t₂ ⊇ t₁`, `evaluate a₁` is `evaluate a` — outcome, tree, everything the callers read. -/
theorem retry_is_fresh {t₁ t₂ : Table} (hs : Table.Sub t₁ t₂) (hn : Table.NoDef t₁) (a : Arg) (n : Bytes) (a₁ : Arg)
    (h : evalIn t₁ a = .ok (.noSuch n a₁)) : evalIn t₂ a₁ = evalIn t₂ a := data_retry_all hs hn h

/-- C08 (data, tree form)  the statement of `retry_is_fresh` -/
theorem du_value_order_independent_tree {t₁ t₂ : Table} (hs : Table.Sub t₁ t₂) (hn : Table.NoDef t₁) (a : Arg)
    (n : Bytes) (a₁ : Arg) (h : evalIn t₁ a = .ok (.noSuch n a₁)) : evalIn t₂ a₁ = evalIn t₂ a :=
  retry_is_fresh hs hn a n a₁ h

/-- C08 (statement level, FULL)  An instruction statement whose constants are defined BELOW it (first `assemble` over `t₁`
deferred, re-run from the queued state over the final table `t₂`) and the same statement with the constants defined ABOVE
it (one `assemble` over `t₂`): the re-run IS the fresh run — for every mnemonic and EVERY operand trees. -/
theorem stmt_bytes_order_independent_full {t₁ t₂ : Table} (hs : Table.Sub t₁ t₂) (hn : Table.NoDef t₁) (addr : Nat)
    (name : Bytes) (args : List Arg) (c : Bytes) (fs1 : Front.St)
    (h1 : Front.build addr name args (frontEval t₁) true = .deferred c fs1) :
    (∀ loc, ∃ t, Front.mnemonic name = some t ∧
      Front.assemble fs1 (frontEval t₂) loc = Front.assemble ⟨addr, t, 0, args⟩ (frontEval t₂) loc) ∧
    (∀ fs2, Front.assemble fs1 (frontEval t₂) false = (fs2, .completed) →
      Front.build addr name args (frontEval t₂) true = .completed fs2.instr) :=
  let ⟨t, hm, hr⟩ := build_retry hs hn h1
  ⟨fun loc => ⟨t, hm, hr loc⟩, fun fs2 h2 => (build_retry_completed hs hn h1 _).1 ⟨fs2, h2, rfl⟩⟩

/-- C08 (statement level, outcome and bytes, FULL)  The re-run of the deferred statement over `t₂` completes with the
instruction `i` iff the fresh assembly over `t₂` completes with `i` — success vs. diagnostic, and on success the same
instruction (same address, hence the same bytes; `placeholder_length` gives the length).  No condition on the operands. -/
theorem stmt_outcome_order_independent {t₁ t₂ : Table} (hs : Table.Sub t₁ t₂) (hn : Table.NoDef t₁) (addr : Nat)
    (name : Bytes) (args : List Arg) (c : Bytes) (fs1 : Front.St)
    (h1 : Front.build addr name args (frontEval t₁) true = .deferred c fs1) (i : Instr) :
    (∃ fs2, Front.assemble fs1 (frontEval t₂) false = (fs2, .completed) ∧ fs2.instr = i) ↔
      Front.build addr name args (frontEval t₂) true = .completed i :=
  build_retry_completed hs hn h1 i

/-! ### non-vacuity: the statements of F29 and F30, and a tower of operators -/

/-- `LDR r2, [(0 - ((0 - r0) - r1)) * x]` (F30): deferred over the empty table; over `x = 1` the re-run and the fresh
assembly both complete with `LDR r2, [r1, r0]` -/
example :
    ∃ fs1, Front.build 0 [76, 68, 82] [.ident [114, 50], exOrder5] (frontEval []) true = .deferred [120] fs1 ∧
      (∃ fs2, Front.assemble fs1 (frontEval [([120], some 1)]) false = (fs2, .completed) ∧ fs2.instr = .ldr 2 1 (.reg 0)) ∧
      Front.build 0 [76, 68, 82] [.ident [114, 50], exOrder5] (frontEval [([120], some 1)]) true =
        .completed (.ldr 2 1 (.reg 0)) ∧
      Table.Sub [] [([120], some 1)] ∧ Table.NoDef [] :=
  ⟨_, rfl, ⟨_, rfl, rfl⟩, rfl, fun _ _ h => by simp [Table.find] at h, fun _ h => by simp [Table.find] at h⟩

/-- idempotence on a result that needed a merge through a `Negate`: `-(r1 + 5) + 7` evaluates to `2 - r1`, a fixed point -/
example :
    Simp.evaluateE (fun _ => .notFound) Front.isRegister
      (.bin .add (.neg (.bin .add (.ident [114, 49]) (.const 5))) (.const 7)) =
      .ok ⟨true, none⟩ (.bin .sub (.const 2) (.ident [114, 49])) ∧
    Simp.evaluateE (fun _ => .notFound) Front.isRegister (.bin .sub (.const 2) (.ident [114, 49])) =
      .ok ⟨false, none⟩ (.bin .sub (.const 2) (.ident [114, 49])) := ⟨rfl, rfl⟩

end Trion.Asm
