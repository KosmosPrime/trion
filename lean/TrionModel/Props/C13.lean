import TrionModel.Lemmas.SegRewrite
/-!
# C13 — output regions never overlap or overflow silently

Model: `Trion.Seg` (Model/Seg.lean) on top of `Trion.Map`, mirroring
`change_segment`, `close_segment`, `ActiveSegment::{write, write_at, curr_addr, remaining}`, the target
choice of `write_instr`/`write_data`, `.addr` and `.align` (`curr_addr` saturates, /repo 46d02de; `.align` pads from the
unsaturated cursor, /repo 9bfedb8).  `Op.align` (`align_spec`) is `.align` inside the region machine; the whole-pipeline model
never issues it: `Asm.alignDirective` computes the same padding itself and issues `Op.append`.

`image s` (Lemmas/Seg.lean) is the address → byte dictionary of everything emitted so far: the closed map
overlaid with the active buffer. `Inv s` = map invariant (C15) ∧ the active region satisfies
`buf.length ≤ maxLen`, `0 < maxLen`, `base + maxLen ≤ 2^32` and no closed byte lies in
`[base, base + maxLen)` (i.e. `base + maxLen ≤` next occupied address) ∧ every placed statement lies
entirely in the closed map or entirely in the active buffer. `Op.wf s op`: selected addresses are `u32`,
alignments positive, and a rewrite only targets a statement that was placed.

The step theorems `inv_step`, `step_no_panic`, `rewrite_in_place` hold for EVERY operation in EVERY state
satisfying `Inv`, with no further guard. That includes the state `Wrapped` (a region based at 0 that holds 2^32 bytes):
`curr_addr` saturates at 0xFFFFFFFF there, so a statement placed at the end of the buffer is still rewritten in the
buffer; a cursor computed as `buffer.len() as u32` would be 0 and send that rewrite to the closed map, where
`assert_eq!(n, 0)` fails. `wrapped_rewrite_ok` is the witness history.
Whole histories (`Legal`, with rewrites licensed by the ghost list `pending`): `reachable_inv`,
`history_no_panic`, `history_never_replaces`.
-/
namespace Trion.Seg
open Trion.Map Trion.Dict

theorem inv_init : Inv init := ⟨trivial, fun _ h => by simp [init] at h, fun _ h => by simp [init] at h⟩

/-- C13 (invariant), all operations except `rewrite`. -/
theorem inv_step_nonrewrite (s : State) (op : Op) (inv : Inv s) (wf : Op.wf s op)
    (hop : ∀ a d, op ≠ .rewrite a d) : Inv (step s op).1 :=
  (step_nonrewrite inv op wf hop).2.1

/-- C13 (no panic), all operations except `rewrite`: none of the `assert_eq!` on put counts, the
`remaining()` underflow, or an index panic of the map can fire. -/
theorem step_no_panic_nonrewrite (s : State) (op : Op) (inv : Inv s) (wf : Op.wf s op)
    (hop : ∀ a d, op ≠ .rewrite a d) : (step s op).2 ≠ .panic :=
  (step_nonrewrite inv op wf hop).1

/-- C13 (size of the active buffer): under `Inv` the active buffer ends inside the address space, hence holds at
most 2^32 bytes, and exactly 2^32 only in the state `Wrapped` (base 0, completely filled 4 GiB buffer). -/
theorem small_invariant (s : State) (inv : Inv s) :
    (∀ seg, s.active = some seg → seg.base + seg.buf.length ≤ 4294967296) ∧
    (∀ seg, s.active = some seg → seg.buf.length = 4294967296 → Wrapped s) :=
  ⟨fun _ ha => buf_le_of_inv inv ha,
    fun seg ha hl => ⟨seg, ha, by have := buf_le_of_inv inv ha; omega, hl⟩⟩

/-- C13 (a value resolved later is written at the address its statement occupied): wherever the placed
statement now lives — in the still active region, or in the closed map because other regions have been
opened since, including a region that ends exactly where the statement begins — the rewrite succeeds,
changes the image exactly on `[addr, addr + len)`, puts the resolved bytes there, keeps the invariant. -/
theorem rewrite_in_place (s : State) (addr : Nat) (d : List UInt8) (inv : Inv s)
    (hp : (addr, d.length) ∈ s.pending) :
    (step s (.rewrite addr d)).2 = .ok ∧ Inv (step s (.rewrite addr d)).1 ∧
    (∀ k, ¬ (addr ≤ k ∧ k < addr + d.length) → image (step s (.rewrite addr d)).1 k = image s k) ∧
    (∀ i, i < d.length → image (step s (.rewrite addr d)).1 (addr + i) = d[i]?) :=
  let h := rewrite_spec inv addr d hp
  ⟨h.1, h.2.1, h.2.2.1, h.2.2.2.1⟩

/-- C13 (invariant), every operation. -/
theorem inv_step (s : State) (op : Op) (inv : Inv s) (wf : Op.wf s op) : Inv (step s op).1 :=
  (legal_step inv op wf).2

/-- C13 (no panic), every operation: under the invariant, and with rewrites only of placed statements, no
`assert!`/`assert_eq!`, `remaining()` underflow or map index panic can fire. -/
theorem step_no_panic (s : State) (op : Op) (inv : Inv s) (wf : Op.wf s op) : (step s op).2 ≠ .panic :=
  (legal_step inv op wf).1

/-- The state `Wrapped` is reachable and harmless: the history `.addr 0`, 2^32−2 bytes of data, one two-byte statement
(placed at 0xFFFFFFFE) is legal and reaches it; there the cursor is 0xFFFFFFFF (`curr_addr` saturates, /repo 46d02de),
and the rewrite of that statement succeeds in place. -/
theorem wrapped_rewrite_ok (big : List UInt8) (hb : big.length = 4294967294) (x y x' y' : UInt8) :
    let ops : List Op := [.select 0, .append big, .place [x, y]]
    Legal init ops ∧ Wrapped (run init ops) ∧ (4294967294, 2) ∈ (run init ops).pending ∧
    (∀ seg, (run init ops).active = some seg → seg.cur = 4294967295) ∧
    (step (run init ops) (.rewrite 4294967294 [x', y'])).2 = .ok ∧
    image (step (run init ops) (.rewrite 4294967294 [x', y'])).1 4294967294 = some x' ∧
    image (step (run init ops) (.rewrite 4294967294 [x', y'])).1 4294967295 = some y' := by
  intro ops
  have h1 : step init (.select 0) = (⟨[], some ⟨0, [], 4294967296⟩, []⟩, .ok) := by rfl
  have h2 : step ⟨[], some ⟨0, [], 4294967296⟩, []⟩ (.append big) = (⟨[], some ⟨0, big, 4294967296⟩, []⟩, .ok) := by
    simp [step, Active.write, Active.remaining, hb]
  have h3 : step ⟨[], some ⟨0, big, 4294967296⟩, []⟩ (.place [x, y]) =
      (⟨[], some ⟨0, big ++ [x, y], 4294967296⟩, [(4294967294, 2)]⟩, .placed 4294967294) := by
    simp [step, Active.write, Active.remaining, Active.cur, hb, u32Max]
  have hrun : run init ops = ⟨[], some ⟨0, big ++ [x, y], 4294967296⟩, [(4294967294, 2)]⟩ := by
    simp only [ops, run, List.foldl, h1, h2, h3]
  have hlegal : Legal init ops := by
    refine ⟨by show (0 : Nat) ≤ u32Max; decide, ?_⟩
    rw [h1]
    refine ⟨trivial, ?_⟩
    rw [h2]
    exact ⟨trivial, trivial⟩
  have hinv := (run_inv ops init inv_init hlegal).1
  have hp : (4294967294, [x', y'].length) ∈ (run init ops).pending := by rw [hrun]; simp
  obtain ⟨r1, _, _, r4⟩ := rewrite_in_place _ 4294967294 [x', y'] hinv hp
  refine ⟨hlegal, ?_, ?_, ?_, r1, ?_, ?_⟩
  · rw [hrun]; exact ⟨_, rfl, rfl, by simp [hb]⟩
  · rw [hrun]; simp
  · intro seg hs
    rw [hrun] at hs
    cases hs
    simp [Active.cur, hb, u32Max]
  · exact r4 0 (by simp)
  · exact r4 1 (by simp)

/-- C13 (bytes are never replaced): no operation other than the rewrite of a placed statement changes a
byte already present in the image — whether the operation succeeds or is refused. -/
theorem never_replaces (s : State) (op : Op) (inv : Inv s) (wf : Op.wf s op)
    (hop : ∀ a d, op ≠ .rewrite a d) (k : Nat) (hk : (image s k).isSome = true) :
    image (step s op).1 k = image s k :=
  (step_nonrewrite inv op wf hop).2.2 k hk

/-- C13 (selecting an occupied address is refused): whether the address holds output of a closed region or
of the region being written, `.addr a` is the diagnostic `occupied a` and the image is unchanged. -/
theorem select_occupied (s : State) (a : Nat) (inv : Inv s) (ha : a ≤ u32Max)
    (occ : (image s a).isSome = true) :
    (step s (.select a)).2 = .diag (.occupied a) ∧ image (step s (.select a)).1 = image s := by
  obtain ⟨_, h2, _, h4⟩ := select_spec inv a ha
  refine ⟨?_, h2⟩
  rcases h4 with ⟨_, h⟩ | ⟨h, _⟩
  · exact h
  · rw [h] at occ; simp at occ

/-- C13 (a free address is accepted, and the cursor is exactly that address): the new region has base `a`,
an empty buffer, cursor `a`, and the image is unchanged. -/
theorem select_next (s : State) (a : Nat) (inv : Inv s) (ha : a ≤ u32Max) (free : image s a = none) :
    (step s (.select a)).2 = .ok ∧ image (step s (.select a)).1 = image s ∧
    ∃ seg, (step s (.select a)).1.active = some seg ∧ seg.base = a ∧ seg.buf = [] ∧ seg.cur = a := by
  obtain ⟨_, h2, _, h4⟩ := select_spec inv a ha
  rcases h4 with ⟨h, _⟩ | ⟨_, h, seg, h5, h6, h7⟩
  · rw [free] at h; simp at h
  · refine ⟨h, h2, seg, h5, h6, h7, ?_⟩
    unfold Active.cur; rw [h6, h7]; unfold u32Max at ha ⊢; simp; omega

/-- C13 (the next byte goes to exactly the cursor address): a successful write of `d` (immediate statement;
likewise the first write of an instruction / `.du*`, which uses the same `ActiveSegment::write`) puts `d[i]`
at `base + |buf| + i` and changes no other address. -/
theorem write_lands_at_cursor (s : State) (seg : Active) (d : List UInt8) (inv : Inv s)
    (ha : s.active = some seg) (fits : seg.buf.length + d.length ≤ seg.maxLen) :
    (step s (.append d)).2 = .ok ∧
    (∀ i, i < d.length → image (step s (.append d)).1 (seg.base + seg.buf.length + i) = d[i]?) ∧
    (∀ k, ¬ (seg.base + seg.buf.length ≤ k ∧ k < seg.base + seg.buf.length + d.length) →
      image (step s (.append d)).1 k = image s k) := by
  have ok := inv.2.1 seg ha
  rcases write_spec ok d with ⟨_, f2⟩ | ⟨f1, _⟩
  · obtain ⟨_, _, g3, g4⟩ := grow_spec inv ha d fits [] (fun p hp => by simp at hp)
    simp only [step, ha, f2]
    exact ⟨trivial, g4, g3⟩
  · omega

/-- C13 (overflow is a diagnostic): a statement that would extend the region past its capacity — which by
`Inv` ends at the next occupied address or at 2^32 — is the diagnostic `overflow` and NOTHING changes
(neither the active region nor the closed map). Immediate statements and first writes alike. -/
theorem overflow_is_diag (s : State) (seg : Active) (d : List UInt8) (inv : Inv s)
    (ha : s.active = some seg) (h : seg.buf.length + d.length > seg.maxLen) :
    step s (.append d) = (s, .diag (.overflow d.length (seg.maxLen - seg.buf.length))) ∧
    step s (.place d) = (s, .diag (.overflow d.length (seg.maxLen - seg.buf.length))) := by
  have ok := inv.2.1 seg ha
  rcases write_spec ok d with ⟨f1, _⟩ | ⟨_, f2⟩
  · omega
  · simp only [step, ha, f2, eta_active ha, and_self]

/-- C13 (`.align n`, after /repo 9bfedb8): the padding is computed from the TRUE cursor `base + |buf|` (not the
saturated `curr_addr`): nothing happens when it is a multiple of `n`; otherwise `n - cursor % n` bytes 0xBE are
appended when they fit — and the new cursor is a multiple of `n` — and else the statement is the diagnostic
`overflow` and the whole state is unchanged. -/
theorem align_spec (s : State) (seg : Active) (n : Nat) (inv : Inv s) (ha : s.active = some seg) (hn : 0 < n) :
    ((seg.base + seg.buf.length) % n = 0 → step s (.align n) = (s, .ok)) ∧
    ((seg.base + seg.buf.length) % n ≠ 0 → n - (seg.base + seg.buf.length) % n ≤ seg.maxLen - seg.buf.length →
      step s (.align n) = ({ s with active := some { seg with
        buf := seg.buf ++ List.replicate (n - (seg.base + seg.buf.length) % n) 0xBE } }, .ok) ∧
      (seg.base + (seg.buf ++ List.replicate (n - (seg.base + seg.buf.length) % n) 0xBE).length) % n = 0) ∧
    ((seg.base + seg.buf.length) % n ≠ 0 → ¬ (n - (seg.base + seg.buf.length) % n ≤ seg.maxLen - seg.buf.length) →
      step s (.align n) =
        (s, .diag (.overflow (n - (seg.base + seg.buf.length) % n) (seg.maxLen - seg.buf.length)))) := by
  have ok := inv.2.1 seg ha
  have hr : seg.remaining = some (seg.maxLen - seg.buf.length) := by
    unfold Active.remaining; rw [if_pos ok.1]
  refine ⟨fun h0 => ?_, fun h0 h1 => ⟨?_, ?_⟩, fun h0 h1 => ?_⟩
  · simp only [step, ha, h0, if_true]
  · simp only [step, ha, h0, if_false, hr, h1, if_true]
    rcases write_spec ok (List.replicate (n - (seg.base + seg.buf.length) % n) 0xBE) with ⟨_, f2⟩ | ⟨f1, _⟩
    · rw [f2]
    · simp only [List.length_replicate] at f1; have := ok.1; omega
  · rw [List.length_append, List.length_replicate]
    have h := Nat.div_add_mod (seg.base + seg.buf.length) n
    have hlt := Nat.mod_lt (seg.base + seg.buf.length) hn
    have e : seg.base + (seg.buf.length + (n - (seg.base + seg.buf.length) % n)) =
        n * ((seg.base + seg.buf.length) / n + 1) := by
      rw [Nat.mul_add, Nat.mul_one]; omega
    rw [e, Nat.mul_mod_right]
  · simp only [step, ha, h0, if_false, hr, h1]

/-- the capacity of the active region really is the room up to the next occupied address / 2^32 -/
theorem capacity_meaning (s : State) (seg : Active) (inv : Inv s) (ha : s.active = some seg) :
    seg.base + seg.maxLen ≤ 4294967296 ∧ ∀ k, seg.base ≤ k → k < seg.base + seg.maxLen → abs s.map k = none :=
  ⟨(inv.2.1 seg ha).2.1, (inv.2.1 seg ha).2.2.2⟩

/-- C13 (whole histories, WITH rewrites of placed statements). `Legal s ops`: every operation is well-formed
in the state it is issued in — a rewrite must target an entry `(addr, len)` of the ghost list `pending`, i.e. a
statement that an earlier `place` of this very history put at `addr` with `len` bytes. Every state reached from `init` by a legal history satisfies the invariant. -/
theorem reachable_inv (ops : List Op) (lg : Legal init ops) : Inv (run init ops) :=
  (run_inv ops init inv_init lg).1

/-- C13 (no panic over whole histories): no operation of a legal history panics. -/
theorem history_no_panic (ops : List Op) (lg : Legal init ops) : ∀ o ∈ outs init ops, o ≠ .panic :=
  (run_inv ops init inv_init lg).2

/-- C13 (bytes are never replaced, whole histories): along a legal history continued from any reachable state,
a byte present in the image keeps its value until the end unless the history contains the rewrite of a placed
statement covering its address. -/
theorem history_never_replaces (pre ops : List Op) (lg : Legal init (pre ++ ops)) (k : Nat)
    (hk : (image (run init pre) k).isSome = true)
    (hno : ∀ a d, Op.rewrite a d ∈ ops → ¬ (a ≤ k ∧ k < a + d.length)) :
    image (run init (pre ++ ops)) k = image (run init pre) k := by
  have split : ∀ (pre : List Op) (s : State), Legal s (pre ++ ops) → Legal s pre ∧ Legal (run s pre) ops := by
    intro pre
    induction pre with
    | nil => intro s h; exact ⟨trivial, h⟩
    | cons op r ih =>
      intro s h
      obtain ⟨i1, i2⟩ := ih _ h.2
      exact ⟨⟨h.1, i1⟩, i2⟩
  obtain ⟨l1, l2⟩ := split pre init lg
  have hrun : run init (pre ++ ops) = run (run init pre) ops := by simp [run, List.foldl_append]
  rw [hrun]
  exact run_keeps ops _ (run_inv pre init inv_init l1).1 l2 k hk hno

/-- a legal history with a rewrite: place a two-byte statement, open another region, resolve the statement -/
example : Legal init [.select 0x100, .place [0, 0xBE], .select 0x200, .rewrite 0x100 [1, 2]] ∧
    outs init [.select 0x100, .place [0, 0xBE], .select 0x200, .rewrite 0x100 [1, 2]] =
      [.ok, .placed 0x100, .ok, .ok] ∧
    (run init [.select 0x100, .place [0, 0xBE], .select 0x200, .rewrite 0x100 [1, 2]]).map = [(0x100, [1, 2])] := by
  refine ⟨⟨by show (0x100 : Nat) ≤ u32Max; decide, trivial, by show (0x200 : Nat) ≤ u32Max; decide, ?_, trivial⟩,
    by rfl, by rfl⟩
  show ((0x100 : Nat), 2) ∈ [((0x100 : Nat), 2)]
  simp

-- non-vacuity: the F10 / F12 / F22 witnesses on the model (capacity 4 before 0x104; re-selecting a non-empty
-- region; a region filled through 0xFFFFFFFF)
example : (step ⟨[(0x104, [1, 0, 0, 0])], some ⟨0x100, [0, 0xBF, 0, 0xBF], 4⟩, []⟩ (.place [0, 0xBF])).2 =
    .diag (.overflow 2 0) := by rfl
example : (step ⟨[], some ⟨0x100, [1], 4294967040⟩, []⟩ (.select 0x100)).2 = .diag (.occupied 0x100) := by rfl
example : (step ⟨[], some ⟨0xFFFFFFFF, [1], 1⟩, []⟩ (.place [2])).2 = .diag (.overflow 1 0) := by rfl
-- /repo 9bfedb8: after a region was filled through 0xFFFFFFFF the true cursor is 2^32: `.align 2` needs no padding,
-- `.align 3` has no room
example : step ⟨[], some ⟨0xFFFFFFFF, [1], 1⟩, []⟩ (.align 2) = (⟨[], some ⟨0xFFFFFFFF, [1], 1⟩, []⟩, .ok) := by rfl
example : (step ⟨[], some ⟨0xFFFFFFFF, [1], 1⟩, []⟩ (.align 3)).2 = .diag (.overflow 2 0) := by rfl
example : Inv ⟨[(0x104, [1, 0, 0, 0])], some ⟨0x100, [0, 0xBF], 4⟩, [(0x100, 2)]⟩ := by
  refine ⟨⟨by omega, by simp, by simp, trivial⟩, fun seg h => ?_, fun p hp => ?_⟩
  · simp only [Option.some.injEq] at h; subst h
    refine ⟨by simp, by simp, by simp, fun k k1 k2 => ?_⟩
    simp only [abs]; simp only at k1 k2; rw [if_neg (by omega)]
  · simp only [List.mem_singleton] at hp; subst hp
    exact Or.inr ⟨_, rfl, by simp, by simp⟩

end Trion.Seg
