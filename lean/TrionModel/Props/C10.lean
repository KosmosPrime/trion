import TrionModel.Lemmas.LexRun
/-!
# C10 — the tokenizer is total on arbitrary bytes (lexer half)

Model: `Trion.Lex` (`Model/Lex.lean`), which mirrors `Tokenizer::{new, next_token, do_next}`. Every `str`
slice, byte index, `usize` subtraction, `unwrap` and `assert_eq!` of the Rust code is an explicit
`.panic` outcome there, and every loop runs on fuel with an explicit `.fuel` outcome.

`Utf8 d` (`Lemmas/LexBasic.lean`): `d` is a sequence of whole, strictly decoded UTF-8 characters.
The invariant behind everything: the tokenizer's remaining text is always `Utf8`, and every slice
offset is the index of a non-continuation byte or the end of the text.
-/
namespace Trion.Lex

/-- C10.a  `Tokenizer::new` keeps well-formed UTF-8, whatever the input bytes. -/
theorem new_utf8 (bs : Bytes) : Utf8 (State.new bs).data := utf8_new bs

/-- C10.b `lex_progress`  One call of `next()` on a state whose text is well-formed never panics and
never runs out of fuel (the internal loops' fuel, the remaining length, suffices). Either it yields a
token and strictly shortens the text, which stays well-formed and keeps the UTF-8 flag; or it yields an
error or the end, and then the text is empty and the flag is clear. -/
theorem lex_progress (s : State) (hu : Utf8 s.data) :
    match nextToken s with
    | .tok _ s' => s'.data.length < s.data.length ∧ Utf8 s'.data ∧ s'.utfErr = s.utfErr
    | .err _ s' => s'.data = [] ∧ s'.utfErr = false
    | .done s' => s'.data = [] ∧ s'.utfErr = false
    | .panic => False
    | .fuel => False := by
  have h := nextToken_spec s hu
  cases hn : nextToken s with
  | tok t s' =>
    rw [hn] at h
    obtain ⟨pre, mid, hd, hu', hue, _, _, b, hb, _⟩ := h
    refine ⟨?_, hu', hue⟩
    have : 0 < mid.length := by
      cases mid with
      | nil => simp at hb
      | cons x y => simp
    rw [hd]; simp; omega
  | err e s' => rw [hn] at h; exact ⟨h.1, h.2.1⟩
  | done s' => rw [hn] at h; exact ⟨h.1, h.2.1⟩
  | panic => rw [hn] at h; exact h
  | fuel => rw [hn] at h; exact h

/-- C10.c  For EVERY byte string, iterating the tokenizer to exhaustion terminates normally within the
fuel `length + 2`: the result is neither the panic outcome nor the fuel-exhausted outcome. -/
theorem lex_total (bs : Bytes) : ∃ o, tokens bs = .ok o :=
  (tokens_run bs).imp fun _ h => h.1

/-- C10.d `lex_no_panic`  The tokenizer never panics, for every byte list. -/
theorem lex_no_panic (bs : Bytes) : tokens bs ≠ .panic := by
  obtain ⟨o, h⟩ := lex_total bs
  rw [h]; simp

/-- C10.e  The fuel of `tokens` is never exhausted (so `tokens` is the complete iteration). -/
theorem lex_fuel_sufficient (bs : Bytes) : tokens bs ≠ .fuel := by
  obtain ⟨o, h⟩ := lex_total bs
  rw [h]; simp

/-- C10.f `lex_shape`  What `LexOut` means in terms of `Iterator::next`: if `tokens bs = ok o`, then for
every `k` the first `|o.toks| + 1 + k` calls of `next()` return exactly: `Some(Ok(t))` for each token of
`o.toks` in order, then `Some(Err(e))` if `o.err = some e` and `None` otherwise, then `None` `k` more
times — and none of these calls panics. So at most the last item is an error and nothing follows an
error or the end. (`calls` is defined in `Lemmas/LexRun.lean`: it iterates `nextToken`.) -/
theorem lex_shape (bs : Bytes) (o : LexOut) (h : tokens bs = .ok o) (k : Nat) :
    calls (o.toks.length + 1 + k) (State.new bs) =
      some (o.toks.map (fun t => some (.ok t)) ++ [o.err.map .error] ++ List.replicate k none) :=
  calls_run _ _ (utf8_new bs) o h k

/-- C10.g  Ill-formed UTF-8 is never accepted silently: a stream without error means the whole input
was well-formed UTF-8. -/
theorem lex_reports_bad_utf8 (bs : Bytes) (o : LexOut) (h : tokens bs = .ok o) (hn : o.err = none) :
    validUpTo bs = bs.length := by
  simpa [State.new] using ((tokens_spec bs o h).2.1 hn).2

/-- C10.h  Once the text is used up and the UTF-8 flag is clear, `next()` yields `None` and leaves
the state unchanged. -/
theorem next_after_end (l c : Nat) : nextToken ⟨[], false, l, c⟩ = .done ⟨[], false, l, c⟩ :=
  nextToken_ended l c

-- non-vacuity: the theorems are about a tokenizer that does produce tokens, errors and the
-- `BadUnicode` tail, and the panic outcome is a real outcome of the slicing primitives
example : tokens (bytesOf "mov r0, 1") =
    .ok ⟨[⟨1, 1, .ident (bytesOf "mov")⟩, ⟨1, 5, .ident (bytesOf "r0")⟩, ⟨1, 7, .sep⟩, ⟨1, 9, .num 1⟩], none, 1, 10⟩ := by
  decide
example : tokens [0x61, 0xFF] = .ok ⟨[], some ⟨1, 2, .badUnicode⟩, 1, 2⟩ := by decide
example : tokens ([0x2F, 0x2A, 0x20, 0x78, 0x20, 0x2A, 0x2F, 0x20, 0xC3, 0xA9]) =
    .ok ⟨[], some ⟨1, 9, .unexpected 233⟩, 1, 9⟩ := by decide
example : sliceFrom [0xC3, 0xA9] 1 = none := by decide
example : Utf8 (bytesOf "a") := Utf8.cons _ 97 1 (by decide) Utf8.nil

end Trion.Lex
