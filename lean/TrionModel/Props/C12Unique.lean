import TrionModel.Lemmas.LexPos
import TrionModel.Props.C12Layout
/-!
# C12 — distinct statements of one file have distinct (line, column)   (texts that have a layout)

`run_blames` identifies the blamed statement by its line and column.  `layout_positions_distinct`: for a text that has a
layout (`Lex.Exact text 0 ts`: separators and token spellings, Props/C12Layout.lean), the positions of the elements the
parser produces are pairwise different — each statement starts, at a strictly later offset than the previous one
(`stmt_pos_offsets`), with a `.` or the first byte of an identifier (a letter or `_`), i.e. with a character that is neither
a line feed nor a UTF-8 continuation byte, and `Pos.of` separates such offsets (`Pos.of_take_ne`).  So "THE element at
`(d.line, d.col)`" is well defined for such files.  Not proved: the same for every text the tokenizer accepts (layout
completeness is open, see C12 `partial`).
-/
namespace Trion.Lex
open Trion

theorem stmtsAt_distinct {text : Bytes} {lo : LexOut} {start : Nat} {ts : List Token} {els : List Element}
    {left : List Token} (h : Parse.StmtsAt text lo start ts els left) :
    (els.map (fun e => (e.line, e.col))).Pairwise (· ≠ ·) := by
  induction h with
  | nil _ _ => exact List.Pairwise.nil
  | cons start o e stop t seg r' el els left h1 h2 h3 _ hsp hk hseg _ hpos hrest ih =>
    simp only [List.map_cons]
    refine List.Pairwise.cons ?_ ih
    intro p hp
    obtain ⟨offs, _, _, hb, hm⟩ := Parse.stmtsAt_offsets hrest
    rw [hm] at hp
    obtain ⟨x, hx, rfl⟩ := List.mem_map.mp hp
    obtain ⟨hx1, hx2⟩ := hb x hx
    have hle := Parse.exactTo_le hseg
    obtain ⟨b, rest, hsb, hb, hsp', _⟩ := spell_head hsp
    have hlf : (b.toNat == 10) = false := by simp [isSpace] at hsp' ⊢; omega
    have hc : Pos.isCont b = false := by rw [isCont_false_iff]; omega
    have hbo : text[o]? = some b := by
      have : ((text.take e).drop o)[0]? = some b := by rw [hsb]; rfl
      rw [List.getElem?_drop, List.getElem?_take] at this
      simpa [h2] using this
    rw [hpos]
    exact Pos.of_take_ne text o x (by omega) (by omega) b hbo hlf hc

/-- C12.layout_positions_distinct  for a text with a layout, the elements the parser produces have pairwise different
(line, column) -/
theorem layout_positions_distinct (text : Bytes) (ts : List Token) (h : Exact text 0 ts) (els : List Element)
    (err : Option ParseErr) (hp : Parse.all ⟨ts, none, (Pos.of text).1, (Pos.of text).2⟩ = .done els err) :
    (els.map (fun e => (e.line, e.col))).Pairwise (· ≠ ·) := by
  obtain ⟨left, hs, _⟩ := stmt_pos_segments text ts h els err hp
  exact stmtsAt_distinct hs

/-- … hence an element is determined by its position: THE element at `(line, col)` -/
theorem layout_element_unique (text : Bytes) (ts : List Token) (h : Exact text 0 ts) (els : List Element)
    (err : Option ParseErr) (hp : Parse.all ⟨ts, none, (Pos.of text).1, (Pos.of text).2⟩ = .done els err)
    (i j : Nat) (e1 e2 : Element) (h1 : els[i]? = some e1) (h2 : els[j]? = some e2)
    (hl : e1.line = e2.line) (hc : e1.col = e2.col) : i = j := by
  have hd := layout_positions_distinct text ts h els err hp
  rw [List.pairwise_iff_getElem] at hd
  have hi : i < els.length := by
    rcases Nat.lt_or_ge i els.length with h | h
    · exact h
    · rw [List.getElem?_eq_none h] at h1; cases h1
  have hj : j < els.length := by
    rcases Nat.lt_or_ge j els.length with h | h
    · exact h
    · rw [List.getElem?_eq_none h] at h2; cases h2
  rw [List.getElem?_eq_getElem hi] at h1
  rw [List.getElem?_eq_getElem hj] at h2
  cases h1; cases h2
  rcases Nat.lt_trichotomy i j with hlt | heq | hgt
  · exact absurd (by rw [List.getElem_map, List.getElem_map]; exact Prod.ext hl hc) (hd i j (by simpa using hi) (by simpa using hj) hlt)
  · exact heq
  · exact absurd (by rw [List.getElem_map, List.getElem_map]; exact Prod.ext hl.symm hc.symm) (hd j i (by simpa using hj) (by simpa using hi) hgt)

end Trion.Lex
