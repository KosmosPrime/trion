import TrionModel.Model.TriasMain
import TrionModel.Props.C18Run
import TrionModel.Props.C06Asm
/-!
# C18, file-level clause — `trias` from its arguments to the output file

`Model/TriasMain.lean` models `main` + `assemble` of `src/bin/assembler.rs` in front of the post-processing:
`Trias.mainOut fs main` is what `trias <main> <out>` does to the output file: written, refused (the file stays as it was),
or aborted for a missing source / an include depth beyond the model's bound (K2).
Tie: `trias main <project>` of the driver is compared with the real executable (output file absent / unchanged /
bytes) on every generated C18 project.
-/
namespace Trion.Trias
open Trion Trion.Asm Trion.Uf2

/-- C18.F0 `post_no_panic`  The post-processing of `assemble()` (checksum insertion, page padding, UF2 writer, the
writer's `Drop`) never panics on an image inside the 32-bit address space: no `assert_eq!` of the padding loop,
no slice bound of the writer, no `unwrap`. -/
theorem post_no_panic (m : List Seg) (ha : Trias.Addr32 m) (s : String) : post m ≠ .error (.panic s) := by
  rw [post_eq]
  split
  · simp
  · split
    · rename_i e hb
      unfold bootCrc at hb
      split at hb
      · split at hb
        · cases hb; simp
        · cases hb
      · cases hb
    · rename_i m1 hb
      have ha2 : Trias.Addr32 (padAll m1) := fun x hx => (padAll_starts m1 (bootCrc_addr32 m m1 ha hb) x hx).2
      rcases writeSegs_cases (padAll m1) st0 st0_inv ha2 with ⟨st', hw, hI, hE⟩ | ⟨e, hw⟩
      · rw [hw]
        simp only
        rw [(finish_of_extends (st0 := st0) rfl rfl hI hE).2.1]
        simp
      · rw [hw]; simp

theorem run_image_addr32 (fs : Bytes → Option Bytes) (main : Bytes) (o : Outcome) (h : run fs main = .done o) :
    Trias.Addr32 o.image := by
  have hn := run_image_norm fs main o h
  exact Norm.addr32 o.image hn

theorem success_iff (fs : Bytes → Option Bytes) (main : Bytes) (o : Outcome) (h : run fs main = .done o) :
    o.success = true ↔ o.diags = [] ∧ o.closeErr = none := by
  have ro := run_outcome fs main o h
  have rp := run_outcome_partial fs main o h
  constructor
  · intro hs; exact rp.1 hs
  · intro ⟨hd, hc⟩
    cases hs : o.success with
    | true => rfl
    | false => rcases ro.2 hs with h1 | h1 <;> contradiction

/-- C18.F1 `main_failure_keeps_file`  When assembly fails — a diagnostic was recorded or the final region could not be
closed — no output file is created or modified. -/
theorem main_failure_keeps_file (fs : Bytes → Option Bytes) (main : Bytes) (o : Outcome) (h : run fs main = .done o)
    (hfail : o.diags ≠ [] ∨ o.closeErr ≠ none) (before : Option (List UInt8)) :
    mainOut fs main = .refused .asmFailed ∧ fileAfter before (mainOut fs main) = before := by
  have hs : o.success = false := by
    cases hs : o.success with
    | false => rfl
    | true =>
      have := (success_iff fs main o h).mp hs
      rcases hfail with h1 | h1
      · exact absurd this.1 h1
      · exact absurd this.2 h1
  have : mainOut fs main = .refused .asmFailed := by
    simp [mainOut, h, ofOutcome, hs]
  exact ⟨this, by rw [this]; rfl⟩

/-- C18.F2 `main_refused_keeps_file`  Every outcome other than `written` leaves the output file as it was. -/
theorem main_refused_keeps_file (fs : Bytes → Option Bytes) (main : Bytes) (before : Option (List UInt8))
    (h : ∀ f, mainOut fs main ≠ .written f) : fileAfter before (mainOut fs main) = before := by
  cases hm : mainOut fs main with
  | written f => exact absurd hm (h f)
  | refused r => rfl
  | aborted a => rfl

/-- C18.F3 `main_written_iff`  A file is written exactly when the run finished without a diagnostic and the
post-processing of its image delivered these bytes. -/
theorem main_written_iff (fs : Bytes → Option Bytes) (main : Bytes) (f : List UInt8) :
    mainOut fs main = .written f ↔
      ∃ o, run fs main = .done o ∧ o.diags = [] ∧ o.closeErr = none ∧ post o.image = .ok f := by
  constructor
  · intro hm
    unfold mainOut at hm
    cases hr : run fs main with
    | done o =>
      rw [hr] at hm
      simp only [ofOutcome] at hm
      cases hs : o.success with
      | false => simp [hs] at hm
      | true =>
        simp only [hs, if_true] at hm
        have hd := (success_iff fs main o hr).mp hs
        cases hp : post o.image with
        | ok g =>
          rw [hp] at hm
          cases hm
          exact ⟨o, rfl, hd.1, hd.2, hp⟩
        | error e =>
          rw [hp] at hm
          cases e <;> cases hm
    | noMain => rw [hr] at hm; cases hm
    | panic => rw [hr] at hm; cases hm
    | fuel => rw [hr] at hm; cases hm
    | loop => rw [hr] at hm; cases hm
  · intro ⟨o, hr, hd, hc, hp⟩
    have hs := (success_iff fs main o hr).mpr ⟨hd, hc⟩
    simp [mainOut, hr, ofOutcome, hs, hp]

/-- C18.F4 `main_written`  The written file reproduces the assembled image: every conclusion of `trias_of_run` — program
bytes read back at their addresses, touched pages padded with zeros and untouched pages absent, 256-byte page blocks
numbered consecutively with the RP2040 family id at ascending distinct addresses, and the boot-sector checksum word =
CRC-32/MPEG-2 of the 252 boot bytes when 0x10000000 is occupied — holds of the bytes `trias` wrote. -/
theorem main_written (fs : Bytes → Option Bytes) (main : Bytes) (f : List UInt8) (hm : mainOut fs main = .written f) :
    ∃ o, run fs main = .done o ∧ o.diags = [] ∧
    (∃ bs, read f = some bs ∧ ∀ x v, Trias.lookup o.image x = some v → image bs x = some v) ∧
    (∃ bs, read f = some bs ∧ ∀ x,
      (TouchedF (Trias.lookup o.image) x → image bs x = some ((withCrc o.image x).getD 0)) ∧
      (¬ TouchedF (Trias.lookup o.image) x → image bs x = none)) ∧
    (∃ bs, read f = some bs ∧ f.length = 512 * bs.length ∧
      (∀ k (hk : k < bs.length), bs[k].psize = 256 ∧ bs[k].addr % 256 = 0 ∧ bs[k].blockNo = k ∧
        bs[k].numBlocks = bs.length ∧ bs[k].fam = 0xE48BFF56 ∧ bs[k].flags = 0x2000) ∧
      (∀ j k (hj : j < bs.length) (hk : k < bs.length), j < k → bs[j].addr + 256 ≤ bs[k].addr) ∧
      (∀ j k (hj : j < bs.length) (hk : k < bs.length), j ≠ k → bs[j].addr ≠ bs[k].addr)) ∧
    ((Trias.lookup o.image 0x10000000).isSome →
      ∃ bs b0 b1 b2 b3, read f = some bs ∧
        image bs 0x100000FC = some b0 ∧ image bs 0x100000FD = some b1 ∧
        image bs 0x100000FE = some b2 ∧ image bs 0x100000FF = some b3 ∧
        b0.toNat + 256 * b1.toNat + 65536 * b2.toNat + 16777216 * b3.toNat =
          (Trion.Crc.Spec.crc ((bootBytes o.image).map UInt8.toBitVec)).toNat) := by
  obtain ⟨o, hr, hd, _, hp⟩ := (main_written_iff fs main f).mp hm
  exact ⟨o, hr, hd, trias_of_run fs main o hr f hp⟩

/-- C18.F5 `main_cases`  Totality of the part in front of the post-processing: the assembler never panics and its
task loop ends, so `trias` writes the file, refuses, or stops for a missing source file / an include nesting beyond
the model's bound (K2); the post-processing does not panic either (`post_no_panic` on the normalised image of the
run, `run_image_norm`). -/
theorem main_cases (fs : Bytes → Option Bytes) (main : Bytes) :
    (∃ f, mainOut fs main = .written f) ∨ (∃ r, mainOut fs main = .refused r) ∨
    mainOut fs main = .aborted .noMain ∨ mainOut fs main = .aborted .fuel := by
  unfold mainOut
  rcases run_cases fs main with ⟨o, hr⟩ | hr | hr
  · rw [hr]
    simp only [ofOutcome]
    cases hs : o.success with
    | false => exact .inr (.inl ⟨.asmFailed, by simp⟩)
    | true =>
      simp only [if_true]
      cases hp : post o.image with
      | ok g => exact .inl ⟨g, rfl⟩
      | error e =>
        cases e with
        | panic s => exact absurd hp (post_no_panic o.image (run_image_addr32 fs main o hr) s)
        | empty => exact .inr (.inl ⟨_, rfl⟩)
        | crcOverwrite => exact .inr (.inl ⟨_, rfl⟩)
        | uf2 e => exact .inr (.inl ⟨_, rfl⟩)
  · rw [hr]; exact .inr (.inr (.inl rfl))
  · rw [hr]; exact .inr (.inr (.inr rfl))

/-- C18.F6 / C06 `main_no_crash`  The executable as a whole — assembler, checksum insertion, page padding, UF2 writer and
its `Drop` — never panics and never diverges in its task loop, whatever the project: `trias` ends by writing the file,
by refusing, or by aborting for a missing source file / an include nesting deeper than `maxDepth` = 64 (K2), the model's
`.aborted .noMain` / `.aborted .fuel`. -/
theorem main_no_crash (fs : Bytes → Option Bytes) (main : Bytes) :
    mainOut fs main ≠ .aborted .panic ∧ mainOut fs main ≠ .aborted .loop := by
  rcases main_cases fs main with ⟨f, h⟩ | ⟨r, h⟩ | h | h <;> rw [h] <;> exact ⟨by simp, by simp⟩

/-- `NOP;` before any `.addr` is a failing program: nothing is written, an existing file keeps its bytes -/
def exFs : Bytes → Option Bytes := fun p => if p = bytesOf "m" then some (bytesOf "NOP;") else none

example : (∃ o, run exFs (bytesOf "m") = .done o ∧ o.diags ≠ []) ∧
    fileAfter (some [1, 2, 3]) (mainOut exFs (bytesOf "m")) = some [1, 2, 3] := by
  -- one evaluation of the run: it is finished and holds one diagnostic
  have key : (match run exFs (bytesOf "m") with | .done o => o.diags.length | _ => 0) = 1 := by decide
  have h : ∃ o, run exFs (bytesOf "m") = .done o ∧ o.diags ≠ [] := by
    cases hr : run exFs (bytesOf "m") with
    | done o => rw [hr] at key; exact ⟨o, rfl, fun he => by simp [he] at key⟩
    | _ => rw [hr] at key; cases key
  obtain ⟨o, hr, hd⟩ := h
  exact ⟨⟨o, hr, hd⟩, (main_failure_keeps_file exFs (bytesOf "m") o hr (.inl hd) _).2⟩

end Trion.Trias
