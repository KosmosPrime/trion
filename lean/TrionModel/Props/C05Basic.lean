import TrionModel.Model.Layout
/-!
# C05 — first, definitional facts about the layout model and the reference layout

The main theorems (`run_no_panic`, `layout_refines`, …) live in `Props/C05.lean`.
-/
namespace Trion.Layout

/-- A value-dependent statement whose symbols are all known is written at once with its final bytes —
exactly like value-independent bytes (no placeholder, no task). -/
theorem known_emit_is_raw (st : State) (s : Active) (len : Nat) (deps : List Nat) (final : Bytes)
    (ha : st.active = some s) (hk : st.env.hasAll deps = true) :
    step st (.emit len deps final) = step st (.raw final) := by
  simp [step, ha, hk]

/-- A statement that meets an unknown symbol reserves exactly `len` placeholder bytes (0xBE) at the
cursor and queues one task for that address; nothing else changes. -/
theorem unknown_emit_reserves (st st' : State) (s : Active) (len : Nat) (deps : List Nat) (final : Bytes)
    (ha : st.active = some s) (hk : st.env.hasAll deps = false)
    (h : step st (.emit len deps final) = .ok st') :
    ∃ st1, append st (placeholder len) = .ok st1 ∧
      st' = { st1 with tasks := st1.tasks ++ [{ addr := s.curr, len := len, deps := deps, final := final }] } := by
  simp only [step, ha, hk] at h
  cases h1 : append st (placeholder len) with
  | error e => simp [h1] at h
  | ok st1 =>
    simp [h1] at h
    exact ⟨st1, rfl, h.symm⟩

/-- The reference image does not depend on `.const` statements at all (only on where bytes are emitted). -/
theorem ref_pass2_ignores_const (c : Option Nat) (img : Img) (n : Nat) (d : List Nat) (v : Int) (r : List Stmt) :
    Ref.pass2 c img (.const n d v :: r) = Ref.pass2 c img r := rfl

/-- In the reference, a label denotes the address of the byte that follows it: `pass1` records the
cursor at which `pass2` places the next emitted byte. -/
theorem ref_label_is_cursor (c : Nat) (env : Env) (n : Nat) (r : List Stmt) (hc : c < top) (hn : env.get n = none) :
    Ref.pass1 (some c) env (.label n :: r) = Ref.pass1 (some c) ((n, (c : Int)) :: env) r := by
  simp [Ref.pass1, hn, hc]

/-- A run by evaluation: the forward reference to label 1 is written as a placeholder at 256..257 and rewritten to its
final bytes `[4, 1]` by the task queue; the byte after the label stands at 258 and nothing behind it. -/
def demoOk : Bool :=
  match run [.addr 256, .emit 2 [1] [4, 1], .label 1, .raw [0xAA]] with
  | .ok img => img.get 256 == some 4 && img.get 257 == some 1 && img.get 258 == some 0xAA && img.get 259 == none
  | .error _ => false

example : demoOk = true := by decide

end Trion.Layout
