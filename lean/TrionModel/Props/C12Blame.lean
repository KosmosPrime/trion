import TrionModel.Lemmas.AsmWithin
import TrionModel.Props.C12Asm
/-!
# C12 — provenance: every diagnostic of a finished run is blamed on a statement that can push it

`diag_pos_run` (Props/C12Asm.lean) says every diagnostic sits at the position of SOME statement of the file it names.
Here the statement is tied to the diagnostic by what it is: `run_blames` says every diagnostic `d` of a finished run —
whatever the include tree — names a file of the project, and, with `els`, `err` what the text of THAT file parses into,

* either there is a statement `el ∈ els` with `d.line = el.line`, `d.col = el.col` and `Pushes el d.kind`: the kind of
  `d` is one that processing a statement of `el`'s class (label / directive / instruction) pushes — at statement time,
  or later as the statement's queued task (`.du*` data, instruction retry, `.global` closure) run by the file's own
  loop, the includer's loop or `finalize`;
* or `d` is the report of the error `err = some e` that ended the parse of the file: `d.kind = .parse e.kind` exactly, at
  `(e.line, e.col)`.

The proof is the rule of Lemmas/AsmWithin.lean at the statements of the project (`QWithin (SrcElK fs)`, `runWith_dblame`),
threaded through every statement, every include depth, both task loops and `finalize`; the per-step fact is `AddsK.within`:
what a statement (a task) adds is at its own position AND of a kind of its class; a queued task remembers the class of
the statement that queued it (`Task.cls`).  A diagnostic inside an included file names that file (`fs d.file`, `el ∈ els` of
that file's text); the `.include` statement's own reports (`includeNoSuchFile`, `includeFailed`, argument errors) are
blamed on a DIRECTIVE statement of the includer (`blame_dir`).

Inversions (`blame_…`): the kind alone determines the class of the blamed statement — e.g. an `instrNotFound` /
`instrAssemble` … diagnostic is always at an instruction statement, a `parse` diagnostic is never at a statement.
-/
namespace Trion.Asm
open Trion

/-- C12.run_blames  Every diagnostic of a finished run (any include tree) names a file of the project and is blamed on
a statement of that file that can push its kind, or is exactly the report of the parse error that ended that file. -/
theorem run_blames (fs : Bytes → Option Bytes) (main : Bytes) (o : Outcome) (h : run fs main = .done o) :
    ∀ d ∈ o.diags, ∃ text lo els err, fs d.file = some text ∧ Lex.tokens text = .ok lo ∧ Parse.all lo = .done els err ∧
      Blamed els err d := by
  exact runWith_dblame h

/-- C12.run_blames_single  single-file projects: every diagnostic names `main` and is blamed on a statement of `main` -/
theorem run_blames_single (fs : Bytes → Option Bytes) (main : Bytes) (hsingle : ∀ f, f ≠ main → fs f = none)
    (o : Outcome) (h : run fs main = .done o) :
    ∀ d ∈ o.diags, d.file = main ∧ ∃ text lo els err, fs main = some text ∧ Lex.tokens text = .ok lo ∧
      Parse.all lo = .done els err ∧ Blamed els err d := by
  intro d hd
  obtain ⟨text, lo, els, err, h1, h2, h3, h4⟩ := run_blames fs main o h d hd
  have hf := file_single hsingle h1
  exact ⟨hf, text, lo, els, err, hf ▸ h1, h2, h3, h4⟩

/-- C12.blame_parse  a `parse` diagnostic is never blamed on a statement: it is the error that ended its file -/
theorem blame_parse {els : List Element} {err : Option ParseErr} {d : Diag} (h : Blamed els err d) {k : ParseErrKind}
    (hk : d.kind = .parse k) : ∃ e, err = some e ∧ d.line = e.line ∧ d.col = e.col ∧ e.kind = k := by
  rcases h with ⟨el, _, _, _, hp⟩ | ⟨e, he, h1, h2, h3⟩
  · rw [Pushes, hk] at hp; cases hv : Cls.of el.val <;> rw [hv] at hp <;> cases hp
  · rw [hk] at h3; cases h3; exact ⟨e, he, h1, h2, rfl⟩

/-- the kinds only an instruction statement reports: `pushesC .ins` (= `Kind.ofInstr`, `pushes_ofInstr`) without `.inactive`,
which a label outside a region reports too -/
def Kind.isInstr : Kind → Bool
  | .instrNotFound _ | .instrTooMany .. | .instrNotEnough .. | .instrArgType .. | .instrAssemble _ => true
  | _ => false

/-- `pushesC (.dir n)` for some `n`; `Kind.dirName` gives the `n` -/
def Kind.isDir : Kind → Bool
  | .dirNotFound _ | .dirTooMany .. | .dirNotEnough .. | .dirArgType .. | .dirApply .. => true
  | _ => false

def Kind.dirName : Kind → Option Bytes
  | .dirNotFound m => some m
  | .dirTooMany s .. | .dirNotEnough s .. | .dirArgType s .. | .dirApply s _ => some (bytesOf s)
  | _ => none

theorem Kind.isDir_dirName {k : Kind} (h : k.isDir = true) : ∃ n, k.dirName = some n := by
  cases k <;> first | exact ⟨_, rfl⟩ | cases h

theorem pushesC_isInstr {C : Cls} {k : Kind} (h : pushesC C k = true) (hk : k.isInstr = true) : C = .ins := by
  cases C <;> cases k <;> simp [pushesC, Kind.isInstr] at h hk ⊢

theorem pushesC_dirName {C : Cls} {k : Kind} {n : Bytes} (h : pushesC C k = true) (hk : k.dirName = some n) : C = .dir n := by
  cases C <;> cases k <;> simp [pushesC, Kind.dirName] at h hk ⊢ <;> rw [← h, hk]

theorem pushesC_label {C : Cls} {i : Inner} (h : pushesC C (.label i) = true) : C = .lbl := by
  cases C <;> first | rfl | cases h

theorem Cls.of_ins {v : ElemVal} (h : Cls.of v = .ins) : ∃ name args, v = .instruction name args := by
  cases v <;> first | exact ⟨_, _, rfl⟩ | cases h

theorem Cls.of_dir {v : ElemVal} {n : Bytes} (h : Cls.of v = .dir n) : ∃ args, v = .directive n args := by
  cases v <;> first | (cases h; exact ⟨_, rfl⟩) | cases h

theorem Cls.of_lbl {v : ElemVal} (h : Cls.of v = .lbl) : ∃ name, v = .label name := by
  cases v <;> first | exact ⟨_, rfl⟩ | cases h

theorem Blamed.stmt {els : List Element} {err : Option ParseErr} {d : Diag} (h : Blamed els err d)
    (hk : ∀ k, d.kind ≠ .parse k) : ∃ el ∈ els, d.line = el.line ∧ d.col = el.col ∧ pushesC (Cls.of el.val) d.kind = true :=
  h.elim id fun ⟨_, _, _, _, h3⟩ => absurd h3 (hk _)

/-- C12.blame_instr  an instruction diagnostic (unknown mnemonic, arity, operand type, `instrAssemble`) is blamed on an
instruction statement -/
theorem blame_instr {els : List Element} {err : Option ParseErr} {d : Diag} (h : Blamed els err d)
    (hk : d.kind.isInstr = true) :
    ∃ el ∈ els, d.line = el.line ∧ d.col = el.col ∧ ∃ name args, el.val = .instruction name args := by
  obtain ⟨el, hel, h1, h2, hp⟩ := h.stmt fun k e => by rw [e] at hk; cases hk
  exact ⟨el, hel, h1, h2, Cls.of_ins (pushesC_isInstr hp hk)⟩

/-- C12.blame_dir_name  **a directive diagnostic is blamed on the directive statement OF THAT NAME**: `dirApply "du8" …`
on a `.du8` statement (also when pushed by its queued data task), `dirApply "global" …` on a `.global` statement (also when
pushed by its closure, in whichever loop runs it), `dirNotFound n` on the statement `.n …` -/
theorem blame_dir_name {els : List Element} {err : Option ParseErr} {d : Diag} (h : Blamed els err d) {n : Bytes}
    (hk : d.kind.dirName = some n) :
    ∃ el ∈ els, d.line = el.line ∧ d.col = el.col ∧ ∃ args, el.val = .directive n args := by
  obtain ⟨el, hel, h1, h2, hp⟩ := h.stmt fun k e => by rw [e] at hk; cases hk
  exact ⟨el, hel, h1, h2, Cls.of_dir (pushesC_dirName hp hk)⟩

/-- C12.blame_dir  a directive diagnostic — in particular the reports of `.include` itself: `includeNoSuchFile`,
`includeFailed` — is blamed on a directive statement (of the file it names: the includer) -/
theorem blame_dir {els : List Element} {err : Option ParseErr} {d : Diag} (h : Blamed els err d)
    (hk : d.kind.isDir = true) :
    ∃ el ∈ els, d.line = el.line ∧ d.col = el.col ∧ ∃ name args, el.val = .directive name args := by
  obtain ⟨n, hn⟩ := Kind.isDir_dirName hk
  obtain ⟨el, hel, h1, h2, args, hv⟩ := blame_dir_name h hn
  exact ⟨el, hel, h1, h2, n, args, hv⟩

/-- C12.blame_include  **the reports of `.include` itself** (`IncludeFailed`, `IncludeNoSuchFile`, its argument errors) are
blamed on a statement NAMED `include` of the file the diagnostic names — the includer -/
theorem blame_include {els : List Element} {err : Option ParseErr} {d : Diag} (h : Blamed els err d) {src : Inner}
    (hk : d.kind = .dirApply "include" src) :
    ∃ el ∈ els, d.line = el.line ∧ d.col = el.col ∧ ∃ args, el.val = .directive (bytesOf "include") args :=
  blame_dir_name h (by rw [hk]; rfl)

/-- C12.blame_label  a `label` diagnostic (duplicate / reserved label …) is blamed on a label statement -/
theorem blame_label {els : List Element} {err : Option ParseErr} {d : Diag} (h : Blamed els err d) {i : Inner}
    (hk : d.kind = .label i) : ∃ el ∈ els, d.line = el.line ∧ d.col = el.col ∧ ∃ name, el.val = .label name := by
  obtain ⟨el, hel, h1, h2, hp⟩ := h.stmt fun k e => by rw [e] at hk; cases hk
  rw [hk] at hp
  exact ⟨el, hel, h1, h2, Cls.of_lbl (pushesC_label hp)⟩

-- non-vacuity: `Pushes` separates the classes
example : Pushes ⟨3, 5, .instruction (bytesOf "FOO") (Args.ofList [])⟩ (.instrNotFound (bytesOf "FOO")) := by decide
example : ¬ Pushes ⟨3, 5, .label (bytesOf "x")⟩ (.instrNotFound (bytesOf "FOO")) := by decide
example : ¬ Pushes ⟨3, 5, .instruction (bytesOf "FOO") (Args.ofList [])⟩ (.dirApply "include" (.includeFailed [])) := by decide
example : Pushes ⟨1, 1, .directive (bytesOf "include") (Args.ofList [.str []])⟩ (.dirApply "include" (.includeFailed [])) := by
  decide
example : ¬ Pushes ⟨1, 1, .directive (bytesOf "du8") (Args.ofList [.str []])⟩ (.dirApply "include" (.includeFailed [])) := by
  decide

end Trion.Asm
