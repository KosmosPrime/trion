import TrionModel.Lemmas.C06DuMention
import TrionModel.Props.C06Invalid
/-!
# C06, third clause — undefined names, SYNTACTIC criterion

`Simp.mentions n e`: the identifier `n` occurs somewhere in the expression tree `e` (Lemmas/SimpMentions.lean).  If `n` is
not a register name and the file's table has no entry for it, `evaluate` of `e` never returns `Ok`
(`Simp.evaluateE_mentions`): it is `NoSuchVariable` — leaving a tree that still mentions `n`, so the end-of-file retry
fails the same way — or an evaluation error met earlier in the tree (also reported).

* `invalid_du_expr_undefined_partial`: `.du8/.du16/.du32 e` with `e` ANY expression mentioning such a name (`x + 1`,
  `(2 * x) << 3`, `-x` …), generalising `invalid_du_undefined_partial` (`e = x`).
* `invalid_du_expr_undefined_prog_partial`: the same for the program `.addr A; .const n₁, e₁; …; .const nₖ, eₖ; .duN e` under
  purely syntactic hypotheses on the name: `n` is not a register name and is none of `n₁ … nₖ`.

`_partial`: the statement is the LAST one of the main file (see `invalid_instruction_undefined_partial` for why the
position claim needs it: a later Fatal statement skips the task loop).  For a file without `.include` the hypothesis "the
table has no entry for `n`" is made syntactic in Props/C06Operand.lean (`Asm.doAssemble_absent`: no earlier statement
defines or declares `n`).  Not proved: the same across `.include` (a name declared `.global` but never defined is
`Deferred`, not `NoSuchVariable`, and may even cancel: `x - x`).
-/
namespace Trion.C06
open Trion Trion.Asm Trion.Front Trion.C04

/-- C06u.1  **undefined name inside a larger data expression** -/
theorem invalid_du_expr_undefined_partial {fs : Bytes → Option Bytes} {main : Bytes} {S : Asm.St} {l c : Nat}
    {tbl : Asm.Table} (hl : S.locals = some tbl) (du : Asm.DU) (dn : Bytes) (hdn : dn = bytesOf du.name) {n : Bytes}
    (hr : isRegister n = false) (hf : tbl.find n = none) {e : Arg} (hm : Simp.mentions n e = true)
    (h : AtLast fs main ⟨l, c, .directive dn (Args.ofList [e])⟩ S) :
    ReportedAt fs main ⟨l, c, .directive dn (Args.ofList [e])⟩ :=
  run_last_du_mentions du hdn h hl hr hf hm

theorem defsTable_find_none (n : Bytes) : ∀ (defs : List (Bytes × Arg)) (t t' : Asm.Table), t.find n = none →
    n ∉ defs.map Prod.fst → defsTable defs t = some t' → t'.find n = none := by
  intro defs
  induction defs with
  | nil => intro t t' h _ hd; cases hd; exact h
  | cons d ds ih =>
    intro t t' h hn hd
    simp only [List.map_cons, List.mem_cons, not_or] at hn
    obtain ⟨_, _, v, _, hd'⟩ := defsTable_cons (n := d.1) (e := d.2) hd
    exact ih _ _ (by rw [Asm.find_set, if_neg (fun e => hn.1 e.symm)]; exact h) hn.2 hd'

/-- C06u.2  the program `.addr A; .const n₁, e₁; …; .duN e` where `e` mentions a name that is not a register name and
none of the defined names: not a success, every diagnostic at the `.duN` statement -/
theorem invalid_du_expr_undefined_prog_partial {fs : Bytes → Option Bytes} {main data : Bytes} (hfs : fs main = some data)
    {pre : List Element} {l c : Nat} (du : Asm.DU) (dn : Bytes) (hdn : dn = bytesOf du.name) {e : Arg}
    (hp : Asm.parseFile data = .ok (pre ++ [⟨l, c, .directive dn (Args.ofList [e])⟩], none))
    (A : Nat) (hA : A < 4294967296) (defs : List (Bytes × Arg)) (tbl : Asm.Table) (hdefs : defsTable defs [] = some tbl)
    (hpre : pre.map (·.val) = .directive (bytesOf "addr") (Args.ofList [.const A]) :: defs.map constStmt)
    {n : Bytes} (hr : isRegister n = false) (hn : n ∉ defs.map Prod.fst) (hm : Simp.mentions n e = true) :
    ReportedAt fs main ⟨l, c, .directive dn (Args.ofList [e])⟩ :=
  invalid_du_expr_undefined_partial (S := stateAt A tbl) rfl du dn hdn hr
    (defsTable_find_none n defs [] tbl rfl hn hdefs) hm (atLast_addr_defs hfs hp A hA defs tbl hdefs hpre)

-- non-vacuity: `(2 * x) << 3` and `-(1 + x)` mention `x`; `1 + 2` does not
example : Simp.mentions (bytesOf "x") (.bin .shl (.bin .mul (.const 2) (.ident (bytesOf "x"))) (.const 3)) = true := by decide
example : Simp.mentions (bytesOf "x") (.neg (.bin .add (.const 1) (.ident (bytesOf "x")))) = true := by decide
example : Simp.mentions (bytesOf "x") (.bin .add (.const 1) (.const 2)) = false := by decide

end Trion.C06
