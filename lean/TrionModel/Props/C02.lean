import TrionModel.Lemmas.CodecRt
/-!
# C02 — decoding an encoded instruction returns the same instruction

Model: `Trion.Codec.encode` / `toBytes` / `decode` (`Model/Codec.lean`), mirroring `Instruction::encode`
and `Instruction::decode` of `src/arm6m/asm.rs` arm by arm.  `i.wf` says that the immediate fields are
values of their Rust field types (`u8`, `u16`, `i32`); every `Instruction` value satisfies it.
-/
namespace Trion.Codec
open Trion

/-- C02.a  For **every** instruction the encoder accepts, decoding the produced bytes — followed by
anything — succeeds, consumes exactly the number of bytes produced and yields the original instruction. -/
theorem dec_enc (i : Instr) (hws rest : List Nat) (h : encode i = .ok hws) (wf : i.wf) :
    decode (toBytes hws ++ rest) = .ok (2 * hws.length, i) :=
  decode_toBytes i hws rest h wf

/-- C02.b  No two distinct instructions share an encoding. -/
theorem enc_inj (i j : Instr) (hws : List Nat) (hi : encode i = .ok hws) (hj : encode j = .ok hws)
    (wi : i.wf) (wj : j.wf) : i = j := by
  have b := decode_toBytes_nil j hws hj wj
  rw [decode_toBytes_nil i hws hi wi] at b
  injection b with b
  injection b

/-- C02.c  The encoder never emits a bit pattern that the decoder classifies as undefined,
unpredictable or reserved (or on which it underflows or panics). -/
theorem enc_never_rejected_by_decoder (i : Instr) (hws : List Nat) (h : encode i = .ok hws) (wf : i.wf) :
    ∀ e, decode (toBytes hws) ≠ .error e := by
  intro e he
  rw [decode_toBytes_nil i hws h wf] at he
  cases he

/-- C02.d  Every encoding is one or two halfwords, each below 2^16; two exactly when the first lies in
the 32-bit space (top five bits 11101, 11110, 11111). -/
theorem enc_shape (i : Instr) (hws : List Nat) (h : encode i = .ok hws) (wf : i.wf) :
    (∃ w, hws = [w] ∧ w < 65536 ∧ w / 2048 < 29) ∨
    (∃ w0 w1, hws = [w0, w1] ∧ w0 < 65536 ∧ w1 < 65536 ∧ 29 ≤ w0 / 2048) :=
  (rt_all i hws h wf).imp (fun ⟨w, e, a, b, _⟩ => ⟨w, e, a, b⟩) fun ⟨w0, w1, e, a, b, c, _⟩ => ⟨w0, w1, e, a, b, c⟩

example : encode (.add false 8 8 (.reg 0)) = .ok [0x4480] := rfl
example : (Instr.add false 8 8 (.reg 0)).wf := by simp [Instr.wf, ImmReg.wf]
example : encode (.bl (-4)) = .ok [0xF7FF, 0xFFFE] := rfl
example : (Instr.bl (-4)).wf := by simp [Instr.wf, inI32]
example : decode (toBytes [0xF7FF, 0xFFFE] ++ [1, 2, 3]) = .ok (4, .bl (-4)) := rfl
example : encode (.cps true) = .ok [0xB662] := rfl
example : encode (.adc 8 0) = .error .unrepresentable := rfl

end Trion.Codec
