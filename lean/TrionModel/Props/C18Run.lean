import TrionModel.Props.C18
import TrionModel.Props.C13Run
/-!
# C18 composed with the assembler — the Trias post-processing on the image of a finished run

Every theorem of Props/C18.lean quantifies over a normalised segment list (`Trias.Norm m`).  Here the hypothesis is
discharged for the image the whole-pipeline model produces: `Seg.Inv` of the final regions (`run_ops_legal`, C13)
contains `Map.MInv` of the output map, which is `Norm` (`norm_is_map_inv`, C15).

That `trias` calls the post-processing only after a SUCCESSFUL run and writes no output file otherwise (the branch
`if !ok {return false}` of `src/bin/assembler.rs`) is `main_failure_keeps_file` and `main_written_iff` in
Props/C18Main.lean; `Model/Trias.lean` models `assemble()` from the point where the map is final.
-/
namespace Trion.Asm
open Trion Trion.Trias Trion.Uf2

/-- C18/C15/C13  The image of every finished run is a normalised segment list. -/
theorem run_image_norm (fs : Bytes → Option Bytes) (main : Bytes) (o : Outcome) (h : run fs main = .done o) :
    Trias.Norm o.image := by
  obtain ⟨ops, _, _, hinv, hm⟩ := run_ops_legal fs main o h
  rw [← hm]
  exact (Trias.norm_is_map_inv _).mpr hinv.1

/-- C18 composed  **`trias_of_run`**: the file `Trias.post` produces from the image of a finished run reproduces that image. -/
theorem trias_of_run (fs : Bytes → Option Bytes) (main : Bytes) (o : Outcome) (h : run fs main = .done o)
    (f : List UInt8) (hp : Trias.post o.image = .ok f) :
    (∃ bs, read f = some bs ∧ ∀ x v, Trias.lookup o.image x = some v → image bs x = some v) ∧
    (∃ bs, read f = some bs ∧ ∀ x,
      (TouchedF (Trias.lookup o.image) x → image bs x = some ((withCrc o.image x).getD 0)) ∧
      (¬ TouchedF (Trias.lookup o.image) x → image bs x = none)) ∧
    (∃ bs, read f = some bs ∧ f.length = 512 * bs.length ∧
      (∀ k (hk : k < bs.length), bs[k].psize = 256 ∧ bs[k].addr % 256 = 0 ∧ bs[k].blockNo = k ∧
        bs[k].numBlocks = bs.length ∧ bs[k].fam = 0xE48BFF56 ∧ bs[k].flags = 0x2000) ∧
      (∀ j k (hj : j < bs.length) (hk : k < bs.length), j < k → bs[j].addr + 256 ≤ bs[k].addr) ∧
      (∀ j k (hj : j < bs.length) (hk : k < bs.length), j ≠ k → bs[j].addr ≠ bs[k].addr)) ∧
    ((Trias.lookup o.image 0x10000000).isSome →
      ∃ bs b0 b1 b2 b3, read f = some bs ∧
        image bs 0x100000FC = some b0 ∧ image bs 0x100000FD = some b1 ∧
        image bs 0x100000FE = some b2 ∧ image bs 0x100000FF = some b3 ∧
        b0.toNat + 256 * b1.toNat + 65536 * b2.toNat + 16777216 * b3.toNat =
          (Trion.Crc.Spec.crc ((bootBytes o.image).map UInt8.toBitVec)).toNat) := by
  have hn := run_image_norm fs main o h
  refine ⟨pad_pages_bytes _ hn f hp, pad_pages _ hn f hp, blocks_pages _ hn f hp, fun h0 => ?_⟩
  obtain ⟨bs, b0, b1, b2, b3, g1, g2, g3, g4, g5, g6, _⟩ := boot_crc _ hn h0 f hp
  exact ⟨bs, b0, b1, b2, b3, g1, g2, g3, g4, g5, g6⟩

/-- C18 composed  refusals: a boot-sector program that itself occupies the checksum word, and the empty image -/
theorem trias_of_run_refuses (fs : Bytes → Option Bytes) (main : Bytes) (o : Outcome) (_h : run fs main = .done o) :
    ((Trias.lookup o.image 0x10000000).isSome → ∀ i, i < 4 → (Trias.lookup o.image (0x100000FC + i)).isSome →
      Trias.post o.image = .error .crcOverwrite) ∧
    (o.image = [] → Trias.post o.image = .error .empty) :=
  ⟨fun h0 i hi hx => boot_crc_refuses _ h0 i hi hx, fun he => by rw [he]; rfl⟩

end Trion.Asm
