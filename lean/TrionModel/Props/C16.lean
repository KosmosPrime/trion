import TrionModel.Lemmas.Uf2
/-!
# C16 — UF2 writer output is well-formed and reproduces the data

Model and reader: `Model/Uf2.lean`.

Setting of the history theorems: a writer created by `new` (fixed buffer of `cap` bytes) or `new_vec`
(vector already holding `pre` bytes) — `Start` — followed by any sequence `ops` of `write` /
`write_all` calls with 32-bit addresses. No such history panics (`no_panic`, `no_panic_history`): `write`
rejects with `BlockCount{need: 1, have: 0}` once 2^32 − 1 blocks have been written (/repo 13f4488), as `write_all`
does, so the unchecked `self.count += 1` of `encode` cannot overflow.
`finish` is `Drop`. `read` is the independent reader: it returns `some` only for a whole number of
512-byte blocks that each carry the three magic numbers and a payload size ≤ 476.
-/
namespace Trion.Uf2

/-- C16.a  `new` / `new_vec` accept exactly: 1 ≤ payload size ≤ 476, alignment ≥ 1 dividing it. -/
theorem cfg_valid (fam : Option Nat) (ps al n : Nat) :
    ((∃ st, new fam ps al n = .ok st) ↔ (1 ≤ ps ∧ ps ≤ 476 ∧ 1 ≤ al ∧ ps % al = 0)) ∧
    ((∃ st, newVec fam ps al n = .ok st) ↔ (1 ≤ ps ∧ ps ≤ 476 ∧ 1 ≤ al ∧ ps % al = 0)) := by
  have key : checkCfg ps al = .ok () ↔ (1 ≤ ps ∧ ps ≤ 476 ∧ 1 ≤ al ∧ ps % al = 0) := by
    unfold checkCfg
    split
    · simp; omega
    · split
      · simp; omega
      · simp; omega
  unfold new newVec
  constructor <;> rw [← key] <;> cases checkCfg ps al <;> simp

/-- a freshly constructed writer: family id is a `u32`, buffer / vector length at most `isize::MAX` -/
def Start (st : St) : Prop :=
  ∃ fam ps al n, (∀ f, fam = some f → f < 4294967296) ∧ n ≤ 9223372036854775807 ∧
    (new fam ps al n = .ok st ∨ newVec fam ps al n = .ok st)

def NoPanic (st : St) (ops : List Op) : Prop := ∀ r ∈ (run st ops).2, ∀ s, r ≠ .panic s

def Addr32 (ops : List Op) : Prop := ∀ op ∈ ops, op.addr < 4294967296

theorem Start.inv {st : St} (h : Start st) : Inv st ∧ st.out = [] ∧ st.count = 0 := by
  obtain ⟨fam, ps, al, n, hf, hn, h⟩ := h
  have hv : ∀ st, (new fam ps al n = .ok st ∨ newVec fam ps al n = .ok st) → 1 ≤ ps ∧ ps ≤ 476 ∧ 1 ≤ al ∧ ps % al = 0 := by
    intro st h
    rcases h with h | h
    · exact ((cfg_valid fam ps al n).1).mp ⟨st, h⟩
    · exact ((cfg_valid fam ps al n).2).mp ⟨st, h⟩
  have hv := hv st h
  unfold new newVec at h
  rcases h with h | h <;> cases hc : checkCfg ps al <;> rw [hc] at h <;> simp at h <;> subst h
  · exact ⟨Inv.fresh (cfg := ⟨ps, al, fam⟩) hv hf (Nat.zero_le _) hn (by simp), rfl, rfl⟩
  · exact ⟨Inv.fresh (cfg := ⟨ps, al, fam⟩) hv hf (Nat.le_refl _) hn (fun _ => rfl), rfl, rfl⟩

/-- `Drop` after any history from a fresh writer: the invariant, the appended abstract blocks (`Blk`), and what the reader
decodes from the output -/
theorem finish_run (st0 : St) (h0 : Start st0) (ops : List Op) (ha : Addr32 ops) :
    Inv (run st0 ops).1 ∧ Extends st0 (run st0 ops).1 (runBlks st0 ops).flatten ∧
    (runBlks st0 ops).flatten.length = (run st0 ops).1.count ∧
    finish (run st0 ops).1 = .ok (encAll (run st0 ops).1.cfg (run st0 ops).1.count (runBlks st0 ops).flatten) ∧
    read (encAll (run st0 ops).1.cfg (run st0 ops).1.count (runBlks st0 ops).flatten) =
      some ((runBlks st0 ops).flatten.map (toBlock st0.cfg (run st0 ops).1.count)) ∧
    (encAll (run st0 ops).1.cfg (run st0 ops).1.count (runBlks st0 ops).flatten).length =
      512 * (run st0 ops).1.count := by
  obtain ⟨hI0, hout0, hcnt0⟩ := h0.inv
  obtain ⟨hI, hE, _⟩ := run_spec ops st0 hI0 ha
  exact ⟨hI, hE, finish_of_extends hout0 hcnt0 hI hE⟩

/-- C16.b  **Well-formed output.** After any accepted history and `Drop`, the output is a whole number of
512-byte blocks (one per appended block), the independent reader decodes it (so every block carries the
three magic numbers), block `k` is numbered `k` (from 0), carries the total block count, the family id (or
0) and exactly the flags "family id present" (0x2000, iff configured) and "not main flash" (1). -/
theorem wellformed (st0 : St) (h0 : Start st0) (ops : List Op) (ha : Addr32 ops) :
    ∃ out bs, finish (run st0 ops).1 = .ok out ∧ out.length = 512 * (run st0 ops).1.count ∧
      read out = some bs ∧ bs.length = (run st0 ops).1.count ∧
      ∀ k (hk : k < bs.length), bs[k].blockNo = k ∧ bs[k].numBlocks = bs.length ∧
        bs[k].fam = (match st0.cfg.fam with | none => 0 | some f => f) ∧
        (bs[k].flags = (if st0.cfg.fam.isSome then 8192 else 0) ∨
         bs[k].flags = 1 + (if st0.cfg.fam.isSome then 8192 else 0)) ∧
        bs[k].psize ≤ 476 := by
  obtain ⟨hI, hE, hlen, f1, f2, f3⟩ := finish_run st0 h0 ops ha
  refine ⟨_, _, f1, f3, f2, by rw [List.length_map]; exact hlen, ?_⟩
  intro k hk
  simp only [List.length_map] at hk
  have hno := hE.no k hk
  simp only [List.getElem_map, toBlock, List.length_map]
  refine ⟨by rw [hno, h0.inv.2.2]; omega, hlen.symm, rfl, ?_, (hE.ok _ (List.getElem_mem hk)).2.2.1⟩
  unfold flagsOf
  cases ((runBlks st0 ops).flatten[k]).nf <;> simp

/-- C16.c  **The data is reproduced.** After any accepted history and `Drop`, the reader decodes the output
into the concatenation of one block list per operation, and the image of the blocks of operation `i`
(payload-size bytes of each block at its target address) is exactly: for an accepted non-empty `write`,
the block followed by zeros up to the payload size, at its address; for an accepted `write_all`, the data
followed by zeros up to the next multiple of the alignment; no address at all for a rejected or empty
operation (`opImage`). -/
theorem reconstructs (st0 : St) (h0 : Start st0) (ops : List Op) (ha : Addr32 ops) :
    ∃ (out : List UInt8) (per : List (List Block)), finish (run st0 ops).1 = .ok out ∧ read out = some per.flatten ∧
      per.length = ops.length ∧
      ∀ i (h1 : i < per.length) (h2 : i < ops.length) (h3 : i < (run st0 ops).2.length) (x : Nat),
        image per[i] x = opImage st0.cfg ops[i] ((run st0 ops).2[i]) x := by
  obtain ⟨_, _, _, f1, f2, _⟩ := finish_run st0 h0 ops ha
  refine ⟨_, (runBlks st0 ops).map (List.map (toBlock st0.cfg (run st0 ops).1.count)), f1, ?_, ?_, ?_⟩
  · rw [f2, List.map_flatten]
  · simp [runBlks_length]
  · intro i h1 h2 h3 x
    simp only [List.getElem_map]
    exact runBlks_image ops st0 h0.inv.1 ha i (by simpa using h1) h2 h3 _ x

/-- C16.c'  **No address twice.** The address ranges `[target, target + payload size)` of the blocks that one
operation appends are pairwise disjoint (a `write` appends at most one block; the blocks of a `write_all`
are consecutive). Stated on the helper list `stepBlks st op`; on the reader's output: `no_dup_addr_output`. -/
theorem no_dup_addr (st : St) (hI : Inv st) (op : Op) :
    List.Pairwise (fun b c : Blk => b.addr + b.blen ≤ c.addr) (stepBlks st op) := by
  cases op with
  | write a d nf =>
    simp only [stepBlks]
    split
    · unfold writeBlks; split <;> simp
    · simp
  | writeAll a d nf =>
    simp only [stepBlks]
    split
    · exact allBlks_disjoint st.cfg hI.valid nf _ _ _ _
    · simp

/-- C16.d  **Rejections of `write`.** From any reachable state (`Inv`), `write` returns an error exactly when
the block is non-empty and (its length is not a multiple of the alignment, or it is longer than the payload
size, or 2^32 − 1 blocks have already been written, or the destination has no room for 512 more bytes); then the state — in particular the output — is
unchanged, so no block is appended. -/
theorem rejects_write (st : St) (hI : Inv st) (addr : Nat) (ha : addr < 4294967296) (block : List UInt8) (nf : Bool) :
    WriteRejects st block ↔ ∃ e, write st addr block nf = (st, .err e) := by
  rcases write_spec st hI addr ha block nf with ⟨st', h, _, _, hnr⟩ | ⟨e, h, hr⟩
  · exact ⟨fun hr => absurd hr hnr, fun ⟨e, he⟩ => by rw [h] at he; cases he⟩
  · exact ⟨fun _ => ⟨e, h⟩, fun _ => hr⟩

/-- C16.d'  a single block longer than the payload size is rejected, not truncated (F20) -/
theorem rejects_long_block (st : St) (hI : Inv st) (addr : Nat) (ha : addr < 4294967296) (block : List UInt8)
    (nf : Bool) (h : block.length > st.cfg.ps) : ∃ e, write st addr block nf = (st, .err e) :=
  (rejects_write st hI addr ha block nf).mp
    ⟨by intro hb; subst hb; simp at h, .inr (.inl h)⟩

/-- C16.d''  the block counter is checked by `write` as well (/repo 13f4488): once 2^32 − 1 blocks have been
written a non-empty, aligned, not over-long block is rejected with `BlockCount{need: 1, have: 0}`, before the
capacity check; `self.count += 1` in `encode` is therefore never reached with a full counter. -/
theorem rejects_write_count (st : St) (addr : Nat) (block : List UInt8) (nf : Bool)
    (hb : block ≠ []) (hal : st.cfg.al ≠ 0) (h1 : block.length % st.cfg.al = 0) (h2 : block.length ≤ st.cfg.ps)
    (hc : st.count = 4294967295) : write st addr block nf = (st, .err (.blockCount 1 0)) := by
  unfold write
  have hemp : block.isEmpty = false := by simpa using hb
  rw [hemp]
  simp only [Bool.false_eq_true, if_false]
  rw [if_neg hal, if_neg (by omega), if_neg (by omega), if_pos hc]

/-- C16.e  **Rejections of `write_all`.** It returns an error exactly when the data is non-empty and
(rounding the length up to the alignment overflows `usize`, or the padded data does not fit below 2^32, or
the block counter would exceed `u32::MAX`, or the destination has no room for all blocks); then the state is
unchanged. Otherwise it succeeds and returns the number of appended blocks. -/
theorem rejects_writeAll (st : St) (hI : Inv st) (addr : Nat) (ha : addr < 4294967296) (data : List UInt8) (nf : Bool) :
    (WriteAllRejects st addr data ↔ ∃ e, writeAll st addr data nf = (st, .err e)) ∧
    (¬ WriteAllRejects st addr data → ∃ st', writeAll st addr data nf = (st', .ok (writeAllBlks st addr data nf).length)) := by
  rcases writeAll_spec st hI addr ha data nf with ⟨st', h, _, _, hnr⟩ | ⟨e, h, hr⟩
  · exact ⟨⟨fun hr => absurd hr hnr, fun ⟨e, he⟩ => by rw [h] at he; cases he⟩, fun _ => ⟨st', h⟩⟩
  · exact ⟨⟨fun _ => ⟨e, h⟩, fun _ => hr⟩, fun hn => absurd hr hn⟩

/-- C16.f  **No panic.** Neither `write` nor `write_all` panics from any reachable state (`Inv`; in
particular with the block counter at its maximum 2^32 − 1). -/
theorem no_panic (st : St) (hI : Inv st) (op : Op) (ha : op.addr < 4294967296) :
    ∀ s, (step st op).2 ≠ .panic s := by
  intro s
  rcases (step_spec st hI op ha).2.2 with ⟨n, h⟩ | ⟨⟨e, h⟩, _⟩ <;> rw [h] <;> simp

/-- C16.f'  **No panic, for every history**: no sequence of `write` / `write_all` calls (32-bit addresses) on
a freshly constructed writer panics, and neither does the final `Drop` (`wellformed`: `finish … = .ok _`). -/
theorem no_panic_history (st0 : St) (h0 : Start st0) (ops : List Op) (ha : Addr32 ops) : NoPanic st0 ops :=
  (run_spec ops st0 h0.inv.1 ha).2.2

theorem reachable_inv (st0 : St) (h0 : Start st0) (ops : List Op) (ha : Addr32 ops) :
    Inv (run st0 ops).1 := (run_spec ops st0 h0.inv.1 ha).1

/-! ### the reader's result, block by block

Above, `reconstructs` fixes the reader's blocks only up to their image, and `no_dup_addr` speaks about the helper
list `stepBlks st op` (`Lemmas/Uf2.lean`), not about the output. The theorems of this section say what the
independent reader decodes from the bytes left after `Drop`: operation by operation and block by block, exactly
`opBlocks` — and `opBlocks` is spelled out field by field (`opBlocks_rejected`, `opBlocks_write`,
`opBlocks_writeAll`), so nothing has to be taken from the definition of the helper. -/

/-- the blocks the reader must find for operation `op` issued in writer state `st` (its block counter is
`st.count`), when the finished file holds `t` blocks -/
def opBlocks (st : St) (t : Nat) (op : Op) : List Block := (stepBlks st op).map (toBlock st.cfg t)

/-- C16.g  **The output, block by block.** For every accepted configuration and every history, `Drop`
succeeds and the reader decodes the output into exactly the concatenation, over the operations in order, of
`opBlocks` of that operation in the state reached by the earlier operations (`run st0 (ops.take i)`), with
the final block count as total. -/
theorem output_blocks (st0 : St) (h0 : Start st0) (ops : List Op) (ha : Addr32 ops) :
    ∃ (out : List UInt8) (per : List (List Block)), finish (run st0 ops).1 = .ok out ∧
      read out = some per.flatten ∧ per.length = ops.length ∧
      ∀ i (h1 : i < per.length) (h2 : i < ops.length),
        per[i] = opBlocks (run st0 (ops.take i)).1 (run st0 ops).1.count ops[i] := by
  obtain ⟨_, _, _, f1, f2, _⟩ := finish_run st0 h0 ops ha
  refine ⟨_, (runBlks st0 ops).map (List.map (toBlock st0.cfg (run st0 ops).1.count)), f1, ?_, ?_, ?_⟩
  · rw [f2, List.map_flatten]
  · simp [runBlks_length]
  · intro i h1 h2
    have h1' : i < (runBlks st0 ops).length := by simpa using h1
    simp only [List.getElem_map, opBlocks]
    rw [runBlks_getElem ops st0 i h2 h1']
    -- the configuration never changes
    have hsub : Addr32 (ops.take i) := fun op hop => ha op (List.mem_of_mem_take hop)
    have hcfg := (run_spec (ops.take i) st0 h0.inv.1 hsub).2.1.cfg
    rw [hcfg]

/-- C16.g.1  a rejected operation contributes no block -/
theorem opBlocks_rejected (st : St) (t : Nat) (op : Op) (e : WriteErr) (h : (step st op).2 = .err e) :
    opBlocks st t op = [] := by
  cases op with
  | write a d nf =>
    simp only [step] at h
    simp only [opBlocks, stepBlks]
    rcases hw : write st a d nf with ⟨st', r⟩
    rw [hw] at h
    cases r <;> simp_all
  | writeAll a d nf =>
    simp only [step] at h
    simp only [opBlocks, stepBlks, h, List.map_nil]

/-- C16.g.2  an accepted `write` contributes nothing for an empty block and otherwise exactly one block:
the given target address, the configured payload size, the writer's current block number, the block's bytes
followed by zeros in the 476-byte data area; `flagsOf cfg nf = (1 if not-main-flash) + (0x2000 if a family id is
configured)`, `infoOf cfg` = the family id or 0 (`Model/Uf2.lean`) -/
theorem opBlocks_write (st : St) (t a : Nat) (d : List UInt8) (nf : Bool) (n : Nat)
    (h : (step st (.write a d nf)).2 = .ok n) :
    opBlocks st t (.write a d nf) =
      if d = [] then [] else
        [{ flags := flagsOf st.cfg nf, addr := a, psize := st.cfg.ps,
           blockNo := st.count, numBlocks := t, fam := infoOf st.cfg,
           data := d ++ zeros (476 - d.length) }] := by
  simp only [step] at h
  simp only [opBlocks, stepBlks]
  rcases hw : write st a d nf with ⟨st', r⟩
  rw [hw] at h
  cases r with
  | ok u =>
    simp only [writeBlks]
    by_cases hd : d = []
    · subst hd; simp
    · have hemp : d.isEmpty = false := by simpa using hd
      simp only [hemp, Bool.false_eq_true, if_false, if_neg hd, List.map_cons, List.map_nil, toBlock]
  | err e => simp at h
  | panic s => simp at h

/-- C16.g.3  an accepted `write_all` of `d` at `a` contributes block `k` for exactly the `k` with
`k·ps < d.length`; block `k` targets `a + k·ps`, carries the `k`-th chunk of `ps` bytes (zero-filled in the
data area), has payload size `ps` — except the last block, whose payload size is the remaining length
rounded up to the alignment — and block number `st.count + k`. -/
theorem opBlocks_writeAll (st : St) (hI : Inv st) (t a : Nat) (ha : a < 4294967296) (d : List UInt8) (nf : Bool)
    (n : Nat) (h : (step st (.writeAll a d nf)).2 = .ok n) :
    (∀ k, k < (opBlocks st t (.writeAll a d nf)).length ↔ k * st.cfg.ps < d.length) ∧
    n = (opBlocks st t (.writeAll a d nf)).length ∧
    ∀ k (hk : k < (opBlocks st t (.writeAll a d nf)).length),
      (opBlocks st t (.writeAll a d nf))[k] =
        { flags := flagsOf st.cfg nf, addr := a + k * st.cfg.ps,
          psize := (if st.cfg.ps < d.length - k * st.cfg.ps then st.cfg.ps
                    else roundUp (d.length - k * st.cfg.ps) st.cfg.al),
          blockNo := st.count + k, numBlocks := t, fam := infoOf st.cfg,
          data := (d.drop (k * st.cfg.ps)).take st.cfg.ps ++
                    zeros (476 - ((d.drop (k * st.cfg.ps)).take st.cfg.ps).length) } := by
  simp only [step] at h
  have hb : opBlocks st t (.writeAll a d nf) = (allBlks st.cfg nf d.length d a st.count).map (toBlock st.cfg t) := by
    simp only [opBlocks, stepBlks, h, writeAllBlks]
  rw [hb]
  refine ⟨?_, ?_, ?_⟩
  · intro k
    rw [List.length_map]
    exact allBlks_length_iff st.cfg hI.valid.1 nf d.length d a st.count (Nat.le_refl _) k
  · rw [List.length_map]
    rcases writeAll_spec st hI a ha d nf with ⟨st', hw, _⟩ | ⟨e, hw, _⟩
    · rw [hw] at h; simp only [Res.ok.injEq] at h; rw [← h]; rfl
    · rw [hw] at h; cases h
  · intro k hk
    rw [List.length_map] at hk
    obtain ⟨i1, i2, i3, i4, i5, _⟩ := allBlks_getElem st.cfg nf d.length d a st.count k hk
    simp only [List.getElem_map, toBlock, i1, i2, i3, i4, i5]

/-- the blocks one operation contributes have positive payload sizes and pairwise disjoint, ascending target
ranges (stated on reader-level blocks) -/
theorem opBlocks_disjoint (st : St) (hI : Inv st) (t : Nat) (op : Op) :
    (opBlocks st t op).Pairwise (fun b c : Block => b.addr + b.psize ≤ c.addr ∧ b.addr ≠ c.addr) := by
  have hpos : ∀ b ∈ stepBlks st op, 1 ≤ b.blen := by
    intro b hb
    cases op with
    | write a d nf =>
      simp only [stepBlks] at hb
      split at hb
      · unfold writeBlks at hb
        split at hb
        · simp at hb
        · simp at hb; subst hb; exact hI.valid.1
      · simp at hb
    | writeAll a d nf =>
      simp only [stepBlks] at hb
      split at hb
      · exact allBlks_blen_pos st.cfg hI.valid nf _ _ _ _ b hb
      · simp at hb
  unfold opBlocks
  rw [List.pairwise_map]
  refine List.Pairwise.imp_of_mem ?_ (no_dup_addr st hI op)
  intro b c hb _ hbc
  have := hpos b hb
  simp only [toBlock]
  exact ⟨hbc, by omega⟩

/-- C16.h  **No address twice, on the output.** In the block list the reader decodes from the finished
output, the blocks contributed by any one operation (`per[i]`, identified block by block in `output_blocks`)
have pairwise disjoint target ranges `[addr, addr + payload size)`, in ascending order; in particular no
target address occurs twice among them. -/
theorem no_dup_addr_output (st0 : St) (h0 : Start st0) (ops : List Op) (ha : Addr32 ops) :
    ∃ (out : List UInt8) (per : List (List Block)), finish (run st0 ops).1 = .ok out ∧
      read out = some per.flatten ∧ per.length = ops.length ∧
      (∀ i (h1 : i < per.length) (h2 : i < ops.length),
        per[i] = opBlocks (run st0 (ops.take i)).1 (run st0 ops).1.count ops[i]) ∧
      ∀ l ∈ per, l.Pairwise (fun b c : Block => b.addr + b.psize ≤ c.addr ∧ b.addr ≠ c.addr) := by
  obtain ⟨out, per, f1, f2, f3, f4⟩ := output_blocks st0 h0 ops ha
  refine ⟨out, per, f1, f2, f3, f4, ?_⟩
  intro l hl
  obtain ⟨i, hi, rfl⟩ := List.getElem_of_mem hl
  rw [f4 i hi (by omega)]
  have hsub : Addr32 (ops.take i) := fun op hop => ha op (List.mem_of_mem_take hop)
  exact opBlocks_disjoint _ (reachable_inv st0 h0 (ops.take i) hsub) _ _

/-- C16.i  **A rejected write appends no block, on the output**: if operation `i` of a history returns an
error, the reader finds no block for it (`per[i] = []`), and the writer state — hence everything decoded for
the other operations — is what it would be without that operation (`rejects_write`, `rejects_writeAll`:
state unchanged). A rejected *configuration* yields no writer at all (`new`/`new_vec` return `Err` and no
state, `cfg_valid`), so there is no output to speak of; that the destination stays untouched is observed
by the correspondence run. -/
theorem rejected_appends_nothing (st0 : St) (h0 : Start st0) (ops : List Op) (ha : Addr32 ops) :
    ∃ (out : List UInt8) (per : List (List Block)), finish (run st0 ops).1 = .ok out ∧
      read out = some per.flatten ∧ per.length = ops.length ∧
      ∀ i (h1 : i < per.length) (h2 : i < ops.length) (e : WriteErr),
        (step (run st0 (ops.take i)).1 ops[i]).2 = .err e → per[i] = [] := by
  obtain ⟨out, per, f1, f2, f3, f4⟩ := output_blocks st0 h0 ops ha
  refine ⟨out, per, f1, f2, f3, ?_⟩
  intro i h1 h2 e he
  rw [f4 i h1 h2]
  exact opBlocks_rejected _ _ _ e he

/-- C16.j  **Address space.** Every block of an accepted `write_all` lies inside the 32-bit address space
(`addr + payload size ≤ 2^32`): the padded data is checked against the space left above `addr`. -/
theorem writeAll_in_address_space (st : St) (hI : Inv st) (t a : Nat) (ha : a < 4294967296) (d : List UInt8)
    (nf : Bool) (n : Nat) (h : (step st (.writeAll a d nf)).2 = .ok n) :
    ∀ b ∈ opBlocks st t (.writeAll a d nf), b.addr + b.psize ≤ 4294967296 := by
  simp only [step] at h
  intro b hb
  simp only [opBlocks, stepBlks, h, writeAllBlks, List.mem_map] at hb
  obtain ⟨c, hc, rfl⟩ := hb
  have hr := allBlks_range st.cfg hI.valid nf d.length d a st.count c hc
  rcases writeAll_spec st hI a ha d nf with ⟨st', hw, _, _, hnr⟩ | ⟨e, hw, _⟩
  · have hd : d ≠ [] := by intro hd; subst hd; simp [allBlks] at hc
    have : ¬ 4294967296 < a + roundUp d.length st.cfg.al := fun h' => hnr ⟨hd, .inr (.inl h')⟩
    simp only [toBlock]
    omega
  · rw [hw] at h; cases h

/-- C16.j'  **`write` has no such check** (observation, see props/C16.json): a single-block `write` declares
the full payload size whatever the block's length and is accepted at any 32-bit address, so near the top of
the address space its target range runs past 2^32 — here payload size 8, four bytes at 0xFFFFFFFF: accepted,
one block with `addr + psize = 2^32 + 7` — whereas `write_all` of the same bytes at the same address is
rejected with `Address{need: 4, have: 1}`. `reconstructs`, `output_blocks` and `no_dup_addr_output` cover
such writes with natural-number addresses (no wrap-around, no hypothesis excluding them). -/
theorem write_not_address_checked :
    let st : St := ⟨⟨8, 4, none⟩, [], 0, 0, 1024, false⟩
    (step st (.write 0xFFFFFFFF [1, 2, 3, 4] false)).2 = .ok 0 ∧
    (opBlocks st 1 (.write 0xFFFFFFFF [1, 2, 3, 4] false)).map (fun b => (b.addr, b.psize)) = [(0xFFFFFFFF, 8)] ∧
    (step st (.writeAll 0xFFFFFFFF [1, 2, 3, 4] false)).2 = .err (.address 4 1) := by
  refine ⟨rfl, rfl, rfl⟩

/-- a concrete accepted history: the RP2040 family id with payload size 8, alignment 4 and a 2048-byte buffer;
a 5-byte `write_all` (one block) and a 4-byte `write` -/
example : ∃ st0, new (some 0xE48BFF56) 8 4 2048 = .ok st0 ∧
    (run st0 [.writeAll 0x10000000 [1, 2, 3, 4, 5] false, .write 0x20 [9, 9, 9, 9] true]).2 = [.ok 1, .ok 0] := by
  exact ⟨_, rfl, rfl⟩
example : WriteRejects ⟨⟨8, 4, none⟩, [], 0, 0, 1024, false⟩ [1, 2, 3] := by
  refine ⟨by simp, .inl (by decide)⟩
/-- the hypothesis `Inv` of `no_panic` allows the counter to be 2^32 − 1 (`Inv.cnt` is `≤`); `write` then answers
`BlockCount` -/
example : write ⟨⟨8, 4, none⟩, [], 0, 4294967295, 1024, false⟩ 0 [1, 2, 3, 4] false =
    (⟨⟨8, 4, none⟩, [], 0, 4294967295, 1024, false⟩, .err (.blockCount 1 0)) := by
  exact rejects_write_count _ _ _ _ (by simp) (by decide) (by decide) (by decide) rfl
/-- `opBlocks` is not trivially empty: a 9-byte `write_all` with payload 8, alignment 4 gives two blocks, the
second with payload size 4 (one byte rounded up to the alignment) -/
example : (opBlocks ⟨⟨8, 4, none⟩, [], 0, 0, 2048, false⟩ 2 (.writeAll 0x100 [1, 2, 3, 4, 5, 6, 7, 8, 9] false)).map
    (fun b => (b.addr, b.psize, b.blockNo, b.numBlocks)) = [(0x100, 8, 0, 2), (0x108, 4, 1, 2)] := rfl
example : checkCfg 256 256 = .ok () ∧ checkCfg 0 1 = .error (.blockSize 0) ∧ checkCfg 8 3 = .error (.alignment 3 8) :=
  ⟨rfl, rfl, rfl⟩

end Trion.Uf2
