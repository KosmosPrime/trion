import TrionModel.Lemmas.C06Stmt
import TrionModel.Lemmas.C06DuMention
import TrionModel.Props.C04Text  -- for the last `example` (`progText`, `parseFile_progText_partial`)
/-!
# C06, third clause — invalid constructs are reported as diagnostics (whole-pipeline model `Asm.run`)

"Invalid constructs — register names used as constants, wrong argument counts or kinds, unknown mnemonics or directives,
out-of-range values, undefined or duplicate symbols, writes before any `.addr` — are reported as diagnostics."

Setting (`At fs main el S`): the main file parses into `pre ++ el :: post` (possibly followed by a parse error); the
statements `pre` ran without an error result and left no diagnostic and no queued task, ending in the pipeline state `S`
(`PrefixOk`, `QuietSt`; `at_start`: the empty prefix; `at_addr_defs`: `.addr A;` and any number of `.const` definitions;
`At.snoc`: any further statement that returns `Ok` quietly extends the prefix); `post` is arbitrary — `do_assemble` stops
at the first error result.  Conclusion (`Reported fs main el k`): `Asm.run` ends in an outcome that is NOT a success and
whose diagnostics are EXACTLY one: file `main`, line and column of the statement `el`, kind `k`.

Statements that go through the placeholder-and-retry path (instruction statements, `.du8/.du16/.du32` with a bad value)
return `Ok` at first and are retried by the task loop; for them see the last section (`…_partial`: the statement is the
last one of the file).
-/
namespace Trion.C06
open Trion Trion.Asm Trion.Front Trion.C04

/-- C06i.0  the generic statement: a statement whose whole effect is one diagnostic and an error result is reported -/
theorem reported_of {fs : Bytes → Option Bytes} {main : Bytes} {el : Element} {S : Asm.St} (h : At fs main el S)
    {k : Asm.Kind} {lv : Asm.Level}
    (hel : Asm.statement fs Asm.encoder (incOf fs) (envOf main) S el = .ok (S.push (envOf main) el.line el.col k, .err lv)) :
    Reported fs main el k := by
  obtain ⟨data, els, perr, pre, post, hfs, hp, rfl, hpre, hq⟩ := h
  obtain ⟨o, ho, hs, hd, _⟩ := run_single_diag_image hfs ⟨hp, hpre⟩ hq hel
  exact ⟨o, ho, hs, hd⟩

/-- `reported_of` for a directive statement, from what `Asm.directive` does on its argument list (the form of the lemmas of
Lemmas/C06Stmt.lean, C06Dispatch.lean) -/
theorem reported_dirs {fs : Bytes → Option Bytes} {main : Bytes} {S : Asm.St} {l c : Nat} {name : Bytes} {args : Args}
    (h : At fs main ⟨l, c, .directive name args⟩ S) {k : Asm.Kind} {lv : Asm.Level}
    (hd : Asm.directive fs (incOf fs) (envOf main) S l c name args.toList = .ok (S.push (envOf main) l c k, .err lv)) :
    Reported fs main ⟨l, c, .directive name args⟩ k :=
  reported_of h hd

theorem reported_dir {fs : Bytes → Option Bytes} {main : Bytes} {S : Asm.St} {l c : Nat} {name : Bytes} {args : List Arg}
    (h : At fs main ⟨l, c, .directive name (Args.ofList args)⟩ S) {k : Asm.Kind} {lv : Asm.Level}
    (hd : Asm.directive fs (incOf fs) (envOf main) S l c name args = .ok (S.push (envOf main) l c k, .err lv)) :
    Reported fs main ⟨l, c, .directive name (Args.ofList args)⟩ k :=
  reported_dirs h (by rw [Show.toList_ofList]; exact hd)

theorem at_start {fs : Bytes → Option Bytes} {main data : Bytes} (hfs : fs main = some data) {els : List Element}
    {perr : Option ParseErr} (hp : Asm.parseFile data = .ok (els, perr)) {el : Element} {post : List Element}
    (hels : els = el :: post) : At fs main el init2 :=
  ⟨data, els, perr, [], post, hfs, hp, hels, prefixOk_nil fs main, quiet_init2⟩

theorem At.snoc {fs : Bytes → Option Bytes} {main : Bytes} {e el : Element} {S S' : Asm.St}
    (h : ∃ data els perr pre post, fs main = some data ∧ Asm.parseFile data = .ok (els, perr) ∧ els = pre ++ e :: el :: post ∧
      PrefixOk fs main pre S)
    (he : Asm.statement fs Asm.encoder (incOf fs) (envOf main) S e = .ok (S', .ok)) (hq : QuietSt S') : At fs main el S' := by
  obtain ⟨data, els, perr, pre, post, hfs, hp, hels, hpre⟩ := h
  refine ⟨data, els, perr, pre ++ [e], post, hfs, hp, by simp [hels], ?_, hq⟩
  intro rest perr'
  rw [List.append_assoc, hpre]
  simp only [List.cons_append, List.nil_append, Asm.doAssemble, he]

theorem prefixOk_addr_defs (fs : Bytes → Option Bytes) (main : Bytes) (A : Nat) (hA : A < 4294967296)
    (defs : List (Bytes × Arg)) (tbl : Asm.Table) (hdefs : defsTable defs [] = some tbl) {pre : List Element}
    (hpre : pre.map (·.val) = .directive (bytesOf "addr") (Args.ofList [.const A]) :: defs.map constStmt) :
    PrefixOk fs main pre (stateAt A tbl) ∧ Asm.Table.NoDef tbl ∧ tblI64 tbl :=
  ⟨doAssemble_prog fs Asm.encoder (incOf fs) (envOf main) (by simp) A hA defs tbl hdefs hpre,
   defsTable_nodef defs [] tbl nodef_nil hdefs, defsTable_i64 defs [] tbl tblI64_nil hdefs⟩

theorem at_addr_defs {fs : Bytes → Option Bytes} {main data : Bytes} (hfs : fs main = some data) {els : List Element}
    {perr : Option ParseErr} (hp : Asm.parseFile data = .ok (els, perr)) (A : Nat) (hA : A < 4294967296)
    (defs : List (Bytes × Arg)) (tbl : Asm.Table) (hdefs : defsTable defs [] = some tbl)
    {pre post : List Element} {el : Element} (hels : els = pre ++ el :: post)
    (hpre : pre.map (·.val) = .directive (bytesOf "addr") (Args.ofList [.const A]) :: defs.map constStmt) :
    At fs main el (stateAt A tbl) ∧ Asm.Table.NoDef tbl :=
  ⟨⟨data, els, perr, pre, post, hfs, hp, hels, (prefixOk_addr_defs fs main A hA defs tbl hdefs hpre).1, ⟨rfl, rfl, rfl⟩⟩,
   (prefixOk_addr_defs fs main A hA defs tbl hdefs hpre).2.1⟩

section
variable {fs : Bytes → Option Bytes} {main : Bytes} {S : Asm.St} {l c : Nat}

/-! ## (a) register names used as constant / label names -/

/-- C06i.a1  `.const R0, 1;` (any register or system-register name, any letter case; any expression with a value) -/
theorem invalid_const_register {tbl : Asm.Table} (hl : S.locals = some tbl) (hn : Asm.Table.NoDef tbl)
    {name : Bytes} (hr : isRegister name = true) {b : Arg} {v : Int} (hv : value (tabOf tbl) b = some v)
    (h : At fs main ⟨l, c, .directive (bytesOf "const") (Args.ofList [.ident name, b])⟩ S) :
    Reported fs main ⟨l, c, .directive (bytesOf "const") (Args.ofList [.ident name, b])⟩ (.dirApply "const" (.constReserved name)) :=
  reported_dir h (const_reserved (by simp) hl hn hr hv)

/-- C06i.a2  `.global sp;` -/
theorem invalid_global_register {name : Bytes} (hr : isRegister name = true)
    (h : At fs main ⟨l, c, .directive (bytesOf "global") (Args.ofList [.ident name])⟩ S) :
    Reported fs main ⟨l, c, .directive (bytesOf "global") (Args.ofList [.ident name])⟩ (.dirApply "global" (.constReserved name)) :=
  reported_dir h (global_reserved hr)

/-- C06i.a3  `pc:` (in an open region) -/
theorem invalid_label_register {name : Bytes} (hr : isRegister name = true) (hact : S.seg.active.isSome = true)
    (h : At fs main ⟨l, c, .label name⟩ S) : Reported fs main ⟨l, c, .label name⟩ (.label (.constReserved name)) :=
  reported_of h (label_reserved hact hr)

/-! ## (b) wrong operand count — every directive -/

/-- C06i.b  any of the thirteen directives with a wrong number of operands (`dirTable`: name, operand count; the
directives that write — `.align .du8 .du16 .du32 .dhex .dstr .dfile` — look at the open region first, see (g)) -/
theorem invalid_directive_count {name : Bytes} {dir : String} {need : Nat} {act : Bool}
    (hd : (name, dir, need, act) ∈ dirTable) {args : Args} (hn : args.toList.length ≠ need)
    (ha : act = true → S.seg.active.isSome = true) (h : At fs main ⟨l, c, .directive name args⟩ S) :
    Reported fs main ⟨l, c, .directive name args⟩ (arityKind dir need args.toList.length) :=
  reported_dirs h (directive_arity fs _ _ S l c name dir need act hd _ hn ha)

/-! ## (c) wrong operand kind — directives -/

/-- C06i.c1  `.const 5, 1;` — the name operand is not a name -/
theorem invalid_const_kind0 {a b : Arg} (ha : ∀ s, a ≠ .ident s)
    (h : At fs main ⟨l, c, .directive (bytesOf "const") (Args.ofList [a, b])⟩ S) :
    Reported fs main ⟨l, c, .directive (bytesOf "const") (Args.ofList [a, b])⟩ (.dirArgType "const" 0 .ident a.ty) :=
  reported_dir h (const_kind0 ha)

/-- C06i.c2  `.addr "x";`, `.const n, "x";`, `.align "x";` — a string where a number is required -/
theorem invalid_addr_kind {tbl : Asm.Table} (hl : S.locals = some tbl) (s : Bytes)
    (h : At fs main ⟨l, c, .directive (bytesOf "addr") (Args.ofList [.str s])⟩ S) :
    Reported fs main ⟨l, c, .directive (bytesOf "addr") (Args.ofList [.str s])⟩ (.dirArgType "addr" 0 .const .str) :=
  reported_dir h (addr_kind (by simp) hl)

theorem invalid_const_kind1 {tbl : Asm.Table} (hl : S.locals = some tbl) (name s : Bytes)
    (h : At fs main ⟨l, c, .directive (bytesOf "const") (Args.ofList [.ident name, .str s])⟩ S) :
    Reported fs main ⟨l, c, .directive (bytesOf "const") (Args.ofList [.ident name, .str s])⟩ (.dirArgType "const" 1 .const .str) :=
  reported_dir h (const_kind1 (by simp) hl)

theorem invalid_align_kind {tbl : Asm.Table} (hl : S.locals = some tbl) (hact : S.seg.active.isSome = true) (s : Bytes)
    (h : At fs main ⟨l, c, .directive (bytesOf "align") (Args.ofList [.str s])⟩ S) :
    Reported fs main ⟨l, c, .directive (bytesOf "align") (Args.ofList [.str s])⟩ (.dirArgType "align" 0 .const .str) :=
  reported_dir h (align_kind (by simp) hl hact)

/-- C06i.c3  `.global 5;`, `.import "x";`, `.export [r0];` — not a name -/
theorem invalid_global_kind {a : Arg} (ha : ∀ s, a ≠ .ident s)
    (h : At fs main ⟨l, c, .directive (bytesOf "global") (Args.ofList [a])⟩ S) :
    Reported fs main ⟨l, c, .directive (bytesOf "global") (Args.ofList [a])⟩ (.dirArgType "global" 0 .str a.ty) :=
  reported_dir h (by rw [directive_global]; exact gdir_kind ha)

theorem invalid_import_kind {a : Arg} (ha : ∀ s, a ≠ .ident s)
    (h : At fs main ⟨l, c, .directive (bytesOf "import") (Args.ofList [a])⟩ S) :
    Reported fs main ⟨l, c, .directive (bytesOf "import") (Args.ofList [a])⟩ (.dirArgType "import" 0 .str a.ty) :=
  reported_dir h (by rw [directive_import]; exact gdir_kind ha)

theorem invalid_export_kind {a : Arg} (ha : ∀ s, a ≠ .ident s)
    (h : At fs main ⟨l, c, .directive (bytesOf "export") (Args.ofList [a])⟩ S) :
    Reported fs main ⟨l, c, .directive (bytesOf "export") (Args.ofList [a])⟩ (.dirArgType "export" 0 .str a.ty) :=
  reported_dir h (by rw [directive_export]; exact gdir_kind ha)

/-- C06i.c4  `.include 5;`, `.dstr 5;`, `.dhex x;`, `.dfile 1;` — not a string -/
theorem invalid_include_kind {a : Arg} (ha : ∀ s, a ≠ .str s)
    (h : At fs main ⟨l, c, .directive (bytesOf "include") (Args.ofList [a])⟩ S) :
    Reported fs main ⟨l, c, .directive (bytesOf "include") (Args.ofList [a])⟩ (.dirArgType "include" 0 .str a.ty) :=
  reported_dir h (include_kind ha)

theorem invalid_dstr_kind {a : Arg} (ha : ∀ s, a ≠ .str s) (hact : S.seg.active.isSome = true)
    (h : At fs main ⟨l, c, .directive (bytesOf "dstr") (Args.ofList [a])⟩ S) :
    Reported fs main ⟨l, c, .directive (bytesOf "dstr") (Args.ofList [a])⟩ (.dirArgType "dstr" 0 .str a.ty) :=
  reported_dir h (by rw [directive_dstr]; exact string_kind hact ha)

theorem invalid_dhex_kind {a : Arg} (ha : ∀ s, a ≠ .str s) (hact : S.seg.active.isSome = true)
    (h : At fs main ⟨l, c, .directive (bytesOf "dhex") (Args.ofList [a])⟩ S) :
    Reported fs main ⟨l, c, .directive (bytesOf "dhex") (Args.ofList [a])⟩ (.dirArgType "dhex" 0 .str a.ty) :=
  reported_dir h (by rw [directive_dhex]; exact string_kind hact ha)

theorem invalid_dfile_kind {a : Arg} (ha : ∀ s, a ≠ .str s) (hact : S.seg.active.isSome = true)
    (h : At fs main ⟨l, c, .directive (bytesOf "dfile") (Args.ofList [a])⟩ S) :
    Reported fs main ⟨l, c, .directive (bytesOf "dfile") (Args.ofList [a])⟩ (.dirArgType "dfile" 0 .str a.ty) :=
  reported_dir h (by rw [directive_dfile]; exact string_kind hact ha)

/-! ## (d) unknown directive, unknown mnemonic -/

/-- C06i.d1  a directive name that is none of the thirteen -/
theorem invalid_unknown_directive {name : Bytes} (hn : ∀ p ∈ dirTable, p.1 ≠ name) {args : Args}
    (h : At fs main ⟨l, c, .directive name args⟩ S) : Reported fs main ⟨l, c, .directive name args⟩ (.dirNotFound name) :=
  reported_dirs h (directive_unknown fs _ _ S l c name hn _)

/-- C06i.d2  a mnemonic that is not in the table (in an open region; before any `.addr` see (g)) -/
theorem invalid_unknown_mnemonic {name : Bytes} (hm : mnemonic name = none) {args : Args} (hact : S.seg.active.isSome = true)
    (h : At fs main ⟨l, c, .instruction name args⟩ S) :
    Reported fs main ⟨l, c, .instruction name args⟩ (.instrNotFound (foldName name)) :=
  reported_of h (instr_unknown hact hm)

/-! ## (e) out-of-range values — directives -/

/-- C06i.e1  `.addr 4294967296;`, `.addr -1;` (any expression with such a value) -/
theorem invalid_addr_range {tbl : Asm.Table} (hl : S.locals = some tbl) (hn : Asm.Table.NoDef tbl) {b : Arg} {v : Int}
    (hv : value (tabOf tbl) b = some v) (hr : ¬ (0 ≤ v ∧ v ≤ 4294967295))
    (h : At fs main ⟨l, c, .directive (bytesOf "addr") (Args.ofList [b])⟩ S) :
    Reported fs main ⟨l, c, .directive (bytesOf "addr") (Args.ofList [b])⟩ (.dirApply "addr" (.addrRange v)) :=
  reported_dir h (addr_range (by simp) hl hn hv hr)

/-- C06i.e2  `.align 0;`, `.align 4294967296;` -/
theorem invalid_align_range {tbl : Asm.Table} (hl : S.locals = some tbl) (hn : Asm.Table.NoDef tbl)
    (hact : S.seg.active.isSome = true) {b : Arg} {v : Int}
    (hv : value (tabOf tbl) b = some v) (hr : ¬ (0 < v ∧ v ≤ 4294967295))
    (h : At fs main ⟨l, c, .directive (bytesOf "align") (Args.ofList [b])⟩ S) :
    Reported fs main ⟨l, c, .directive (bytesOf "align") (Args.ofList [b])⟩ (.dirApply "align" (.alignRange v)) :=
  reported_dir h (align_range (by simp) hl hn hact hv hr)

/-! ## (f) undefined and duplicate symbols — directives and labels -/

/-- C06i.f1  `.addr nowhere;`, `.const x, nowhere;`, `.align nowhere;` — a name that is not defined (these directives need
their value at once) -/
theorem invalid_addr_undefined {tbl : Asm.Table} (hl : S.locals = some tbl) {n : Bytes} (hr : isRegister n = false)
    (hf : tbl.find n = none) (h : At fs main ⟨l, c, .directive (bytesOf "addr") (Args.ofList [.ident n])⟩ S) :
    Reported fs main ⟨l, c, .directive (bytesOf "addr") (Args.ofList [.ident n])⟩ (.dirApply "addr" (.eval (.noSuch n))) :=
  reported_dir h (addr_undefined (by simp) hl hr hf)

theorem invalid_const_undefined {tbl : Asm.Table} (hl : S.locals = some tbl) (name : Bytes) {n : Bytes}
    (hr : isRegister n = false) (hf : tbl.find n = none)
    (h : At fs main ⟨l, c, .directive (bytesOf "const") (Args.ofList [.ident name, .ident n])⟩ S) :
    Reported fs main ⟨l, c, .directive (bytesOf "const") (Args.ofList [.ident name, .ident n])⟩ (.dirApply "const" (.eval (.noSuch n))) :=
  reported_dir h (const_undefined (by simp) hl hr hf)

theorem invalid_align_undefined {tbl : Asm.Table} (hl : S.locals = some tbl) (hact : S.seg.active.isSome = true) {n : Bytes}
    (hr : isRegister n = false) (hf : tbl.find n = none)
    (h : At fs main ⟨l, c, .directive (bytesOf "align") (Args.ofList [.ident n])⟩ S) :
    Reported fs main ⟨l, c, .directive (bytesOf "align") (Args.ofList [.ident n])⟩ (.dirApply "align" (.eval (.noSuch n))) :=
  reported_dir h (align_undefined (by simp) hl hact hr hf)

/-- C06i.f2  `.const x, 1; … .const x, 2;` -/
theorem invalid_const_duplicate {tbl : Asm.Table} (hl : S.locals = some tbl) (hn : Asm.Table.NoDef tbl) {name : Bytes}
    (hr : isRegister name = false) {w : Int} (hf : tbl.find name = some (some w)) {b : Arg} {v : Int}
    (hv : value (tabOf tbl) b = some v)
    (h : At fs main ⟨l, c, .directive (bytesOf "const") (Args.ofList [.ident name, b])⟩ S) :
    Reported fs main ⟨l, c, .directive (bytesOf "const") (Args.ofList [.ident name, b])⟩ (.dirApply "const" (.constDirDuplicate name)) :=
  reported_dir h (const_duplicate (by simp) hl hn hr hf hv)

/-- C06i.f3  `x: … x:` (or a label named like an earlier constant) -/
theorem invalid_label_duplicate {tbl : Asm.Table} (hl : S.locals = some tbl) {name : Bytes} (hact : S.seg.active.isSome = true)
    (hr : isRegister name = false) {w : Int} (hf : tbl.find name = some (some w)) (h : At fs main ⟨l, c, .label name⟩ S) :
    Reported fs main ⟨l, c, .label name⟩ (.label (.constDuplicate name .loc)) :=
  reported_of h (label_duplicate hl hact hr hf)

/-! ## (g) writes before any `.addr` -/

/-- C06i.g1  an instruction (any mnemonic, any operands) with no open region -/
theorem invalid_instruction_inactive {name : Bytes} {args : Args} (hact : S.seg.active = none)
    (h : At fs main ⟨l, c, .instruction name args⟩ S) : Reported fs main ⟨l, c, .instruction name args⟩ .inactive :=
  reported_of h (instr_inactive hact)

/-- C06i.g2  a label with no open region -/
theorem invalid_label_inactive {name : Bytes} (hact : S.seg.active = none) (h : At fs main ⟨l, c, .label name⟩ S) :
    Reported fs main ⟨l, c, .label name⟩ .inactive :=
  reported_of h (label_inactive hact)

/-- C06i.g3  `.du8 / .du16 / .du32` (any operands) with no open region -/
theorem invalid_du8_inactive {args : Args} (hact : S.seg.active = none) (h : At fs main ⟨l, c, .directive (bytesOf "du8") args⟩ S) :
    Reported fs main ⟨l, c, .directive (bytesOf "du8") args⟩ (.dirApply "du8" .dataInactive) :=
  reported_dirs h (by rw [directive_du8]; exact du_inactive hact)
theorem invalid_du16_inactive {args : Args} (hact : S.seg.active = none) (h : At fs main ⟨l, c, .directive (bytesOf "du16") args⟩ S) :
    Reported fs main ⟨l, c, .directive (bytesOf "du16") args⟩ (.dirApply "du16" .dataInactive) :=
  reported_dirs h (by rw [directive_du16]; exact du_inactive hact)
theorem invalid_du32_inactive {args : Args} (hact : S.seg.active = none) (h : At fs main ⟨l, c, .directive (bytesOf "du32") args⟩ S) :
    Reported fs main ⟨l, c, .directive (bytesOf "du32") args⟩ (.dirApply "du32" .dataInactive) :=
  reported_dirs h (by rw [directive_du32]; exact du_inactive hact)

/-- C06i.g4  `.dstr / .dhex / .dfile` with no open region -/
theorem invalid_dstr_inactive {args : Args} (hact : S.seg.active = none) (h : At fs main ⟨l, c, .directive (bytesOf "dstr") args⟩ S) :
    Reported fs main ⟨l, c, .directive (bytesOf "dstr") args⟩ (.dirApply "dstr" .dataInactive) :=
  reported_dirs h (by rw [directive_dstr]; exact string_inactive hact)
theorem invalid_dhex_inactive {args : Args} (hact : S.seg.active = none) (h : At fs main ⟨l, c, .directive (bytesOf "dhex") args⟩ S) :
    Reported fs main ⟨l, c, .directive (bytesOf "dhex") args⟩ (.dirApply "dhex" .dataInactive) :=
  reported_dirs h (by rw [directive_dhex]; exact string_inactive hact)
theorem invalid_dfile_inactive {args : Args} (hact : S.seg.active = none) (h : At fs main ⟨l, c, .directive (bytesOf "dfile") args⟩ S) :
    Reported fs main ⟨l, c, .directive (bytesOf "dfile") args⟩ (.dirApply "dfile" .dataInactive) :=
  reported_dirs h (by rw [directive_dfile]; exact string_inactive hact)

/-- C06i.g5  `.align` with no open region -/
theorem invalid_align_inactive {args : Args} (hact : S.seg.active = none) (h : At fs main ⟨l, c, .directive (bytesOf "align") args⟩ S) :
    Reported fs main ⟨l, c, .directive (bytesOf "align") args⟩ (.dirApply "align" .alignInactive) :=
  reported_dirs h (by rw [directive_align]; exact align_inactive hact)

end

/-! ## the placeholder-and-retry path (`…_partial`: the statement is the LAST statement of the main file)

Instruction statements and `.du8/.du16/.du32` record their diagnostic, still write a placeholder, queue a retry and return
`Ok`; the retry runs at the end of the file.  Conclusion (`ReportedAt`): not a success, at least one diagnostic, and EVERY
diagnostic at the statement (the retry may report a second time).  Restriction: no statement follows (`AtLast`).  An
undefined name is reported only by the retry: `invalid_du_undefined_partial` below for a data statement,
`invalid_instruction_undefined_partial` (Props/C06Then.lean) for an instruction. -/

theorem atLast_addr_defs {fs : Bytes → Option Bytes} {main data : Bytes} (hfs : fs main = some data) {pre : List Element}
    {el : Element} (hp : Asm.parseFile data = .ok (pre ++ [el], none)) (A : Nat) (hA : A < 4294967296)
    (defs : List (Bytes × Arg)) (tbl : Asm.Table) (hdefs : defsTable defs [] = some tbl)
    (hpre : pre.map (·.val) = .directive (bytesOf "addr") (Args.ofList [.const A]) :: defs.map constStmt) :
    AtLast fs main el (stateAt A tbl) :=
  ⟨data, pre, hfs, hp, (prefixOk_addr_defs fs main A hA defs tbl hdefs hpre).1, ⟨rfl, rfl, rfl⟩⟩

/-- C06i.p0  an instruction statement (known mnemonic) that the front end does not complete to an encodable instruction -/
theorem invalid_instruction_of_partial {fs : Bytes → Option Bytes} {main : Bytes} {S : Asm.St} {l c : Nat}
    {tbl : Asm.Table} (hl : S.locals = some tbl) (hnd : Asm.Table.NoDef tbl) (hi64 : tblI64 tbl)
    {map : Map.Segs} {seg : Seg.Active} {pending : List (Nat × Nat)} (hs : S.seg = ⟨map, some seg, pending⟩)
    {name : Bytes} {args : Args} {t : Instr} (hm : mnemonic name = some t)
    (htot : (∃ i, build seg.cur name args.toList (Asm.frontEval tbl) true = .completed i) ∨
      (∃ d st, build seg.cur name args.toList (Asm.frontEval tbl) true = .error d st))
    (henc0 : ∀ i hws, build seg.cur name args.toList (Asm.frontEval tbl) true = .completed i → Codec.encode i ≠ .ok hws)
    (h : AtLast fs main ⟨l, c, .instruction name args⟩ S) : ReportedAt fs main ⟨l, c, .instruction name args⟩ := by
  obtain ⟨data, pre, hfs, hR, hq⟩ := h.reaches
  refine .of_kind (run_last_instr hfs hR hq (by simp [hs]) fun S1 r1 hX => .inl ?_)
  obtain ⟨d, hd, _⟩ := instr_diag_memK (envOf main) S tbl (by simp) hl map seg pending hs l c name args.toList t hm ⟨htot, henc0⟩ S1 r1 hX
  have h0 : S.errors.length = 0 := by rw [hq.1]; rfl
  have := List.length_pos_of_mem hd
  omega

/-- C06i.p1  **wrong operand count, instructions** (`TooManyArguments` / `NotEnoughArguments`), any operands -/
theorem invalid_instruction_count_partial {fs : Bytes → Option Bytes} {main : Bytes} {S : Asm.St} {l c : Nat}
    {tbl : Asm.Table} (hl : S.locals = some tbl) (hnd : Asm.Table.NoDef tbl) (hi64 : tblI64 tbl)
    {map : Map.Segs} {seg : Seg.Active} {pending : List (Nat × Nat)} (hs : S.seg = ⟨map, some seg, pending⟩)
    {name : Bytes} {args : Args} {t : Instr} (hm : mnemonic name = some t) (hn : args.toList.length ≠ (kinds t).length)
    (h : AtLast fs main ⟨l, c, .instruction name args⟩ S) : ReportedAt fs main ⟨l, c, .instruction name args⟩ := by
  have hf := arity_fails seg.cur name args.toList (Asm.frontEval tbl) true t hm hn
  exact invalid_instruction_of_partial hl hnd hi64 hs hm hf.1 hf.2 h

/-- C06i.p2  **wrong operand kind / out-of-range or misaligned value / overflow, instructions**: operands of the documented
forms over defined names, and no encodable meaning (`C04.means`) -/
theorem invalid_instruction_partial {fs : Bytes → Option Bytes} {main : Bytes} {S : Asm.St} {l c : Nat}
    {tbl : Asm.Table} (hl : S.locals = some tbl) (hnd : Asm.Table.NoDef tbl) (hi64 : tblI64 tbl)
    {map : Map.Segs} {seg : Seg.Active} {pending : List (Nat × Nat)} (hs : S.seg = ⟨map, some seg, pending⟩)
    {name : Bytes} {args : Args} {t : Instr} (hm : mnemonic name = some t)
    (hw : wellFormed (tabOf tbl) (sig t) args.toList)
    (hq : ∀ vs, denoteAll (tabOf tbl) (sig t) args.toList = some vs → ¬ svQuirk t vs)
    (hno : ∀ i hws, ¬ (means (tabOf tbl) seg.cur name args.toList = some i ∧ i.wf ∧ Codec.encode i = .ok hws))
    (h : AtLast fs main ⟨l, c, .instruction name args⟩ S) : ReportedAt fs main ⟨l, c, .instruction name args⟩ := by
  have hf := no_meaning_fails hnd hi64 seg.cur name args.toList t hm hw hq hno
  exact invalid_instruction_of_partial hl hnd hi64 hs hm hf.1 hf.2 h

/-- C06i.p3  **`.du8 / .du16 / .du32` with a value outside the type, or with a string** -/
theorem invalid_du_partial {fs : Bytes → Option Bytes} {main : Bytes} {S : Asm.St} {l c : Nat}
    {tbl : Asm.Table} (hl : S.locals = some tbl) (hnd : Asm.Table.NoDef tbl) (hact : S.seg.active.isSome = true)
    (du : Asm.DU) (dn : Bytes) (hdn : dn = bytesOf du.name) {b : Arg}
    (hb : (∃ v, value (tabOf tbl) b = some v ∧ ¬ (0 ≤ v ∧ v ≤ du.max)) ∨ (∃ s, b = .str s))
    (h : AtLast fs main ⟨l, c, .directive dn (Args.ofList [b])⟩ S) :
    ReportedAt fs main ⟨l, c, .directive dn (Args.ofList [b])⟩ := by
  obtain ⟨data, pre, hfs, hR, hq⟩ := h.reaches
  refine .of_kind (run_last_du hfs du hdn hR hq fun S1 r1 hX => .inl ?_)
  obtain ⟨a', hev, hbad⟩ := evalArg_du_bad (env := envOf main) (by simp) hl hnd du hb
  obtain ⟨d, hd, _⟩ := du_diag_memK du (envOf main) S l c b a' hact hev hbad S1 r1 hX
  have h0 : S.errors.length = 0 := by rw [hq.1]; rfl
  have := List.length_pos_of_mem hd
  omega

theorem localLoop_first {env : Asm.Env} {t : Asm.Task} {st0 : Asm.St}
    (ht : ∀ st' r, Asm.runTask Asm.encoder env st0 t = .ok (st', r) → 1 ≤ st'.errors.length) :
    ∀ (k : Nat) (res : Asm.Res) (S2 : Asm.St) (r2 : Asm.Res),
      Asm.localLoop Asm.encoder env (k + 1) [t] st0 res = .ok (S2, r2) → 1 ≤ S2.errors.length :=
  C04.localLoop_first ht

/-- C06i.p4  **undefined name in a data statement**: `.du8 nowhere;` (likewise `.du16`, `.du32`) where `nowhere` is defined
nowhere — reported (`NoSuchVariable`) when the retry runs at the end of the file -/
theorem invalid_du_undefined_partial {fs : Bytes → Option Bytes} {main : Bytes} {S : Asm.St} {l c : Nat}
    {tbl : Asm.Table} (hl : S.locals = some tbl) (du : Asm.DU) (dn : Bytes) (hdn : dn = bytesOf du.name) {n : Bytes}
    (hr : isRegister n = false) (hf : tbl.find n = none)
    (h : AtLast fs main ⟨l, c, .directive dn (Args.ofList [.ident n])⟩ S) :
    ReportedAt fs main ⟨l, c, .directive dn (Args.ofList [.ident n])⟩ :=
  run_last_du_mentions du hdn h hl hr hf (by simp [Simp.mentions])

/-- the file `.addr 0;⏎FOO R1;`: exactly one diagnostic, `NotFound "FOO"`, at the second statement -/
example : ∃ el, Reported (fun _ => some (bytesOf ".addr 0;\nFOO R1;")) [] el (.instrNotFound (bytesOf "FOO")) ∧
    el.val = .instruction (bytesOf "FOO") (Args.ofList [.ident (bytesOf "R1")]) := by
  have ht : progText 0 [] (bytesOf "FOO") [.ident (bytesOf "R1")] = bytesOf ".addr 0;\nFOO R1;" := by decide
  obtain ⟨els, hp, hels⟩ := parseFile_progText_partial 0 (by decide) [] (by simp) (bytesOf "FOO") (by decide)
    [.ident (bytesOf "R1")] (by intro x hx; simp at hx; subst hx; exact .atom (.ident _ (by decide)))
  rw [ht] at hp
  simp only [progVals, List.map_nil, List.nil_append] at hels
  obtain ⟨e1, r1, rfl, h1, hr1⟩ := List.map_eq_cons_iff.mp hels
  obtain ⟨e2, r2, rfl, h2, hr2⟩ := List.map_eq_cons_iff.mp hr1
  have : r2 = [] := by simpa using hr2
  subst this
  obtain ⟨l2, c2, v2⟩ := e2
  simp only at h2
  subst h2
  refine ⟨⟨l2, c2, .instruction (bytesOf "FOO") (Args.ofList [.ident (bytesOf "R1")])⟩, ?_, rfl⟩
  have hat := (at_addr_defs (fs := fun _ => some (bytesOf ".addr 0;\nFOO R1;")) (main := []) rfl hp 0 (by decide) [] [] rfl
    (pre := [e1]) (post := []) (el := ⟨l2, c2, _⟩) rfl (by simp [h1])).1
  exact invalid_unknown_mnemonic (by decide) (by simp [stateAt]) hat

/-- a register name as a constant name, as the first statement of a file: the statement-level fact behind `invalid_const_register` -/
example (fs : Bytes → Option Bytes) (main : Bytes) :
    Asm.statement fs Asm.encoder (incOf fs) (envOf main) init2
      ⟨1, 1, .directive (bytesOf "const") (Args.ofList [.ident (bytesOf "R0"), .const 1])⟩ =
    .ok (init2.push (envOf main) 1 1 (.dirApply "const" (.constReserved (bytesOf "R0"))), .err .fatal) := by
  simp only [Asm.statement, Show.toList_ofList]
  exact const_reserved (st := init2) (tbl := []) (by simp) rfl (by intro n; simp [Asm.Table.find]) (by decide) (v := 1) (by decide)

end Trion.C06