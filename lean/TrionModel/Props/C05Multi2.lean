import TrionModel.Lemmas.AsmXferRun
import TrionModel.Props.C05Multi
/-!
# C05 (pipeline clause, projects with `.include` and `.global`) — stage 2, partial

Models as in Props/C05Multi.lean.  Stage 2 adds `.global x`, which in the model (and the code) publishes the file's `x` to
the table of its INCLUDER — to the real global table only for the main file (`enterFile`: inside an included file `globals`
IS the includer's table).  The flattened program is `Glob.GFlat` (Lemmas/AsmGlobRun.lean, whose header describes it): a
`.global` statement emits nothing at its place, and behind every included file stand the alias statements
`.const (includer's x) [file's x] v` (`Glob.aliases`), so that `x` in the includer denotes the symbol of the included file
for includer statements above the `.include` (forward reference) and below it alike.  The aliases of the main file define
the real global table (name space `num 0`; the main file is instance 1, included files are numbered in preorder from 2).

Proved: `layout_refines_asm_global_partial` — for a project whose include tree is free of `.import/.export`, with arbitrary
operands, and in which every `.global x` stands below a label / `.const` of the same file defining `x` or below an
`.include` of a file that itself declares `x` global (re-publication up the include chain to the real global table;
`Glob.GlobalProject`, `Glob.declOk`): a successful run's image is the `pass2` image of the reference on the flattened program with
aliases; every emitting statement of that program stands with its reference bytes at its reference address; if no
label stands at 2^32, `Ref.layout` is defined, equals the image, and its pass-1 table is `E`, which restricts to every
file instance's final table AND to the final global table (`pub [] A`).

PARTIAL, what is left out of the `.global` stage:
(a) DECLARED-THEN-DEFINED (`.global x` above the definition of `x`): between declaration and definition the file's
    table holds `x` unvalued (`Lookup::Deferred`), an operand that mentions `x` is then SIMPLIFIED AROUND `x` instead of
    being left alone, and the retry evaluates the simplified tree.  The statement "bytes = the operand evaluated in the
    final table" is FALSE there: `.addr 16; .global x; .du32 x + 9223372036854775807 - 9223372036854775807; x:`
    assembles to `14 00 00 00` (model and `trias`), while the operand evaluated in the final table overflows — and the
    same file without `.global x`, or with `x:` moved to the top, is rejected with "arithmetic overflow".  A correct
    statement needs the hypothesis that the direct evaluation succeeds (then C08 `simp_sound` gives equal values) and a
    retry theorem for `Deferred` lookups: Props/C08Deferred.lean has the statement level, Props/C05Multi4.lean what of
    the refinement is proved with it;
(b) `.import` / `.export`: Props/C05Multi3.lean; statements handed to the includer's queue and the `finalize` queue:
    Props/C05Multi4.lean.
-/
namespace Trion.Asm
open Trion Trion.SegLayout Trion.Asm.Multi Trion.Asm.Glob
open Trion.Layout (MRun withTasks)

/-- C05 (pipeline, program level, `.include` + `.global` declared below the definition): the header, under "Proved" -/
theorem layout_refines_asm_global_partial {num : Nat → Bytes → Nat} (hinj : NumInj num) (fs : Bytes → Option Bytes)
    (main data : Bytes) (hfs : fs main = some data) (hglob : GlobalProject fs maxDepth main data) (o : Outcome)
    (h : run fs main = .done o) (hs : o.success = true) :
    ∃ (els : List Element) (perr : Option ParseErr) (p : List Layout.Stmt) (E : Layout.Env) (t : Table) (n : Nat)
      (A : List (Bytes × Int)) (im' : Layout.Img),
      parseFile data = .ok (els, perr) ∧
      EnvRel (num 1) t E ∧ GFlat num fs encoder E 1 main t 2 none els p n ∧
      A.map Prod.fst = els.filterMap globalName ∧ (∀ xv ∈ A, t.val xv.1 = some xv.2) ∧
      EnvRel (num 0) (pub [] A) E ∧
      (∀ s ∈ p ++ aliases (num 0) (num 1) A, s.wf = true) ∧
      Layout.Ref.pass2 none [] (p ++ aliases (num 0) (num 1) A) = some im' ∧ (∀ a, Map.abs o.image a = im'.get a) ∧
      (∀ q s r, p ++ aliases (num 0) (num 1) A = q ++ s :: r → s.emits = true →
        ∃ x, Layout.Ref.cursorAfter none q = some x ∧
          ∀ i, i < (Layout.Ref.bytes x s).length → im'.get (x + i) = (Layout.Ref.bytes x s)[i]?) ∧
      (Layout.NoLabelAtTop (p ++ aliases (num 0) (num 1) A) →
        Layout.Ref.pass1 none [] (p ++ aliases (num 0) (num 1) A) = some E) := by
  obtain ⟨els, perr, p, t, n, A, im', la, h1, h2, _, h3, hok, _, h4, h5, h6, h7, h8, h9, h10, h11⟩ :=
    run_flat hinj fs (GFlat.flat num fs encoder) (fun fuel _ p d => GlobalProject fs fuel p d) (Glob.globalProject_step fs)
      main data hfs hglob o h hs
  exact ⟨els, perr, p, la.env, t, n, A, im', h1, h2, h3, h4.trans (filterMap_pubName_of_okGlob els hok), h5, h6, h7, h8, h9,
    h10, h11⟩

def globalProjectB (fs : Bytes → Option Bytes) : Nat → Bytes → Bytes → Bool
  | 0, _, _ => true
  | fuel + 1, path, data =>
    match parseFile data with
    | .ok (els, _) => declOk fs path [] els && els.all fun el => okGlob el &&
        match incTarget fs path el with
        | some (p', d') => globalProjectB fs fuel p' d'
        | none => true
    | .stop _ => true

theorem globalProject_of_B (fs : Bytes → Option Bytes) : ∀ (fuel : Nat) (path data : Bytes),
    globalProjectB fs fuel path data = true → GlobalProject fs fuel path data := by
  intro fuel
  induction fuel with
  | zero => intro _ _ _; trivial
  | succ fuel ih =>
    intro path data h els perr hp
    simp only [globalProjectB, hp, List.all_eq_true, Bool.and_eq_true] at h
    refine ⟨h.1, fun el hel => ?_⟩
    obtain ⟨h1, h3⟩ := h.2 el hel
    refine ⟨h1, fun p' d' ht => ih p' d' ?_⟩
    rw [ht] at h3
    exact h3

/-- the project: `m` = `.addr 16; .du16 y; .include "i"; .du16 y; x: ; .global x` and `i` = `y: ; .du16 y + 1; .global y` — the
main file uses the included file's global `y` ABOVE the `.include` (forward reference to a name defined in another
file) and BELOW it, and publishes its own `x` to the global table -/
def exGMainText : Bytes := bytesOf ".addr 16;\n.du16 y;\n.include \"i\";\n.du16 y;\nx:\n.global x;\n"
def exGIncText : Bytes := bytesOf "y:\n.du16 y + 1;\n.global y;\n"
def exGFs : Bytes → Option Bytes := fun p =>
  if p = bytesOf "m" then some exGMainText else if p = bytesOf "i" then some exGIncText else none

theorem exGProject_global : GlobalProject exGFs maxDepth (bytesOf "m") exGMainText :=
  globalProject_of_B _ _ _ _ (by decide +kernel)

/-- `Asm.run` on the project: success, no diagnostic; `y` = 18 above and below the `.include`, `y + 1` = 19 inside -/
theorem exGProject_run : (match run exGFs (bytesOf "m") with
    | .done o => o.success && o.diags.isEmpty && o.image == [(16, [0x12, 0x00, 0x13, 0x00, 0x12, 0x00])]
    | _ => false) = true := by decide +kernel

/-- the hypotheses of `layout_refines_asm_global_partial` hold of the project, so its conclusion does -/
example : ∃ o, run exGFs (bytesOf "m") = .done o ∧ o.success = true ∧
    ∃ (els : List Element) (perr : Option ParseErr) (p : List Layout.Stmt) (E : Layout.Env) (t : Table) (n : Nat)
      (A : List (Bytes × Int)) (im' : Layout.Img),
      parseFile exGMainText = .ok (els, perr) ∧ GFlat exNum2 exGFs encoder E 1 (bytesOf "m") t 2 none els p n ∧
      Layout.Ref.pass2 none [] (p ++ aliases (exNum2 0) (exNum2 1) A) = some im' ∧ ∀ a, Map.abs o.image a = im'.get a := by
  have hr := exGProject_run
  cases hrun : run exGFs (bytesOf "m") with
  | done o =>
    rw [hrun] at hr
    simp only [Bool.and_eq_true] at hr
    obtain ⟨els, perr, p, E, t, n, A, im', h1, _, h3, _, _, _, _, h8, h9, _⟩ :=
      layout_refines_asm_global_partial exNum2_inj exGFs (bytesOf "m") exGMainText rfl exGProject_global o hrun hr.1.1
    exact ⟨o, rfl, hr.1.1, els, perr, p, E, t, n, A, im', h1, h3, h8, h9⟩
  | noMain => rw [hrun] at hr; cases hr
  | panic => rw [hrun] at hr; cases hr
  | fuel => rw [hrun] at hr; cases hr
  | loop => rw [hrun] at hr; cases hr

/-- the flattened program of the project with its alias statements (main file: `y` = 10, `x` = 11; included file: `y` = 20;
global table: `x` = 1) and its reference layout: the image `Asm.run` produces; `y` of the main file IS `y` of the
included file -/
example : Layout.Ref.layout [.addr 16, .emit 2 [10] [0x12, 0x00], .label 20, .raw [0x13, 0x00], .const 10 [20] 18,
        .raw [0x12, 0x00], .label 11, .const 1 [11] 22] =
      some [(20, 0x12), (21, 0x00), (18, 0x13), (19, 0x00), (16, 0x12), (17, 0x00)] ∧
    Layout.Ref.pass1 none [] [.addr 16, .emit 2 [10] [0x12, 0x00], .label 20, .raw [0x13, 0x00], .const 10 [20] 18,
        .raw [0x12, 0x00], .label 11, .const 1 [11] 22] =
      some [(1, 22), (11, 22), (10, 18), (20, 18)] := ⟨by rfl, by rfl⟩

/-- a chain: `j` defines and publishes `z`, `i` includes `j` and publishes `z` again, `m` uses `z` ABOVE its `.include "i"` and
publishes it to the global table -/
def exCMain : Bytes := bytesOf ".addr 16;\n.du16 z;\n.include \"i\";\n.global z;\n"
def exCMid : Bytes := bytesOf ".include \"j\";\n.global z;\n"
def exCLeaf : Bytes := bytesOf "z:\n.du16 z + 1;\n.global z;\n"
def exCFs : Bytes → Option Bytes := fun p =>
  if p = bytesOf "m" then some exCMain else if p = bytesOf "i" then some exCMid
  else if p = bytesOf "j" then some exCLeaf else none

set_option maxRecDepth 100000 in
example : GlobalProject exCFs maxDepth (bytesOf "m") exCMain ∧
    (match run exCFs (bytesOf "m") with
      | .done o => o.success && o.diags.isEmpty && o.image == [(16, [0x12, 0x00, 0x13, 0x00])]
      | _ => false) = true :=
  ⟨globalProject_of_B _ _ _ _ (by decide +kernel), by decide +kernel⟩

end Trion.Asm
