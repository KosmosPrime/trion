import TrionModel.Lemmas.C04Dich
import TrionModel.Lemmas.ShowReads
import TrionModel.Lemmas.ShowParts
import TrionModel.Props.C04Closed
/-!
# C04 closed, program level — `.addr A; .const n₁, e₁; …; .const n_k, e_k; <statement>` through `Asm.run`

`progVals A defs name args`: the statements of such a program as element values.  The hypotheses speak about what the
program text parses into (`Asm.parseFile`); C09–C12 tie text, tokens, trees and positions.
-/
namespace Trion.C04
open Trion Trion.Front Trion.Simp

/-- C04t.a  **Success direction with definitions.**  For every program text that the tokenizer and parser models read as
`.addr A;`, then `.const` definitions `defs` (each expression may use the earlier names), then ONE instruction statement
`name args`: if the definitions build the table `tbl` (`defsTable defs [] = some tbl`: fresh non-register names,
expressions with a value), the statement MEANS `i` over that table, `i` fits its field types, the encoder accepts it and
the bytes fit below 2^32, then `Asm.run` succeeds, records NO diagnostic, and the image is exactly the encoding of `i`
at `A` — which the ARMv6-M table reads as `i`. -/
theorem run_defs_stmt (fs : Bytes → Option Bytes) (main data : Bytes) (hfs : fs main = some data)
    (els : List Element) (hp : Asm.parseFile data = .ok (els, none)) (A : Nat) (defs : List (Bytes × Arg))
    (name : Bytes) (args : Args) (hels : els.map (·.val) = progVals A defs name args)
    (tbl : Asm.Table) (hdefs : defsTable defs [] = some tbl)
    (i : Instr) (hmeans : means (tabOf tbl) A name args.toList = some i) (hwf : i.wf)
    (hws : List Nat) (he : Codec.encode i = .ok hws) (hfit : A + 2 * hws.length ≤ 4294967296) :
    Asm.run fs main = .done ⟨true, none, true, [], [(A, (Codec.toBytes hws).map (·.toUInt8))]⟩ ∧
    Arm.decode hws = some i :=
  run_defs_stmt_of_build fs main data hfs els hp A defs name args hels tbl hdefs i
    (stmt_complete (Asm.Table.nodef_get (defsTable_nodef defs [] tbl nodef_nil hdefs)) (evalSimp_frontEval tbl) true A name
      args.toList i hmeans hwf hws he).1 hws he hfit

/-- non-vacuity: `.addr 0x20000200; .const base, 0x20000000; .const label, base + 0x100; B label;` -/
def exDefs : List (Bytes × Arg) :=
  [(bytesOf "base", .const 0x20000000), (bytesOf "label", .bin .add (.ident (bytesOf "base")) (.const 0x100))]
example : defsTable exDefs [] = some [(bytesOf "base", some 0x20000000), (bytesOf "label", some 0x20000100)] ∧
    means (tabOf [(bytesOf "base", some 0x20000000), (bytesOf "label", some 0x20000100)]) 0x20000200 (bytesOf "B")
      (Args.ofList [.ident (bytesOf "label")]).toList = some (.b 14 (-260)) ∧
    Codec.encode (.b 14 (-260)) = .ok [0xE77E] := by
  refine ⟨by decide, by decide, rfl⟩

/-- C04t.b  **Diagnosed direction through the whole pipeline model.**  Same programs as `run_defs_stmt`
(`.addr A;`, definitions building `tbl`, ONE instruction statement `name args` with a known mnemonic and operands of the
documented forms over defined names): if the statement has NO encodable meaning — `means` is `none` (wrong operand count
or kind, overflow, target not an address, …), or the instruction does not fit its field types, or the encoder refuses it
(out of range, misaligned, high register, …) — then `Asm.run` ends in an outcome that is NOT a success, records at least
one diagnostic, and EVERY recorded diagnostic is positioned at the statement: file `main`, line and column of the
statement's element (by C12 `Parse.stmt_pos` the position of its first token).  This covers the first attempt, the
placeholder, the queued retry (`local_tasks`, then `finalize`): whatever they do, nothing is reported elsewhere and the
run does not succeed. -/
theorem run_defs_stmt_diag (fs : Bytes → Option Bytes) (main data : Bytes) (hfs : fs main = some data)
    (els : List Element) (hp : Asm.parseFile data = .ok (els, none)) (A : Nat) (hA : A < 4294967296)
    (defs : List (Bytes × Arg)) (name : Bytes) (args : Args) (hels : els.map (·.val) = progVals A defs name args)
    (tbl : Asm.Table) (hdefs : defsTable defs [] = some tbl)
    (t : Instr) (hm : mnemonic name = some t) (hw : wellFormed (tabOf tbl) (sig t) args.toList)
    (hq : ∀ vs, denoteAll (tabOf tbl) (sig t) args.toList = some vs → ¬ svQuirk t vs)
    (hno : ∀ i hws, ¬ (means (tabOf tbl) A name args.toList = some i ∧ i.wf ∧ Codec.encode i = .ok hws)) :
    ∃ el o, el ∈ els ∧ el.val = .instruction name args ∧ Asm.run fs main = .done o ∧ o.success = false ∧ o.diags ≠ [] ∧
      ∀ d ∈ o.diags, d.file = main ∧ d.line = el.line ∧ d.col = el.col := by
  exact run_defs_stmt_diag_build fs main data hfs els hp A hA defs name args hels tbl hdefs t hm
    (no_meaning_fails (defsTable_nodef defs [] tbl nodef_nil hdefs) (defsTable_i64 defs [] tbl tblI64_nil hdefs) A name
      args.toList t hm hw hq hno)

/-- C04t.b'  **Unknown mnemonic.**  Same programs with a statement whose mnemonic is not in the table (in any letter case,
`Front.mnemonic name = none`): `Asm.run` does not succeed, records at least one diagnostic (`InstrErrorKind::NotFound`),
and every diagnostic is at the statement. -/
theorem run_defs_stmt_unknown (fs : Bytes → Option Bytes) (main data : Bytes) (hfs : fs main = some data)
    (els : List Element) (hp : Asm.parseFile data = .ok (els, none)) (A : Nat) (hA : A < 4294967296)
    (defs : List (Bytes × Arg)) (name : Bytes) (args : Args) (hels : els.map (·.val) = progVals A defs name args)
    (tbl : Asm.Table) (hdefs : defsTable defs [] = some tbl) (hm : mnemonic name = none) :
    ∃ el o, el ∈ els ∧ el.val = .instruction name args ∧ Asm.run fs main = .done o ∧ o.success = false ∧ o.diags ≠ [] ∧
      ∀ d ∈ o.diags, d.file = main ∧ d.line = el.line ∧ d.col = el.col := by
  obtain ⟨el, o, h1, h2, h3, h4, h5, h6⟩ := run_defs_stmt_diag_ofK fs main data hfs els hp A hA defs name args hels tbl hdefs
    fun l c st' r _ _ hX => by
      simp only [Asm.instruction, Asm.currAddr, Option.map_some, hm] at hX
      cases hX
      simp [Asm.St.push, Asm.St.pushIn]
  exact ⟨el, o, h1, h2, h3, h4, h5, fun d hd => (h6 d hd).1⟩

/-- C04t.b''  **Every statement that is not assembled is diagnosed at its own position**: `run_defs_stmt_diag` and
`run_defs_stmt_unknown` together — the hypothesis is only that the statement has no encodable meaning (`means` is `none`
also for an unknown mnemonic), and, IF the mnemonic is known, that the operands are of the documented forms. -/
theorem run_defs_stmt_diag_any (fs : Bytes → Option Bytes) (main data : Bytes) (hfs : fs main = some data)
    (els : List Element) (hp : Asm.parseFile data = .ok (els, none)) (A : Nat) (hA : A < 4294967296)
    (defs : List (Bytes × Arg)) (name : Bytes) (args : Args) (hels : els.map (·.val) = progVals A defs name args)
    (tbl : Asm.Table) (hdefs : defsTable defs [] = some tbl)
    (hw : ∀ t, mnemonic name = some t → wellFormed (tabOf tbl) (sig t) args.toList ∧
      ∀ vs, denoteAll (tabOf tbl) (sig t) args.toList = some vs → ¬ svQuirk t vs)
    (hno : ∀ i hws, ¬ (means (tabOf tbl) A name args.toList = some i ∧ i.wf ∧ Codec.encode i = .ok hws)) :
    ∃ el o, el ∈ els ∧ el.val = .instruction name args ∧ Asm.run fs main = .done o ∧ o.success = false ∧ o.diags ≠ [] ∧
      ∀ d ∈ o.diags, d.file = main ∧ d.line = el.line ∧ d.col = el.col := by
  cases hm : mnemonic name with
  | none => exact run_defs_stmt_unknown fs main data hfs els hp A hA defs name args hels tbl hdefs hm
  | some t =>
    exact run_defs_stmt_diag fs main data hfs els hp A hA defs name args hels tbl hdefs t hm (hw t hm).1 (hw t hm).2 hno

/-- non-vacuity of `run_defs_stmt_diag`: `ADDS R1, R1, 300` and `ADDS R1, 300` have no encodable meaning, with known
mnemonic and well-formed operands -/
example : mnemonic (bytesOf "ADDS") = some (.add true 0 0 (.imm 0)) ∧
    wellFormed (tabOf []) (sig (.add true 0 0 (.imm 0))) [.ident (bytesOf "R1"), .ident (bytesOf "R1"), .const 300] ∧
    means (tabOf []) 0 (bytesOf "ADDS") [.ident (bytesOf "R1"), .ident (bytesOf "R1"), .const 300] = some (.add true 1 1 (.imm 300)) ∧
    Codec.encode (.add true 1 1 (.imm 300)) = .error .unrepresentable ∧
    means (tabOf []) 0 (bytesOf "ADDS") [.ident (bytesOf "R1"), .const 300] = none := by
  refine ⟨by decide, ⟨fun h => by simp [evaluated] at h, fun h => by simp [evaluated] at h,
    fun _ => ⟨by decide, by decide, by decide⟩, trivial⟩, by decide, rfl, by decide⟩

def preStmts (A : Nat) (defs : List (Bytes × Arg)) : List (Bytes × List Arg) :=
  (bytesOf "addr", [.const A]) :: defs.map fun d => (bytesOf "const", [.ident d.1, d.2])

theorem preStmts_ok (A : Nat) (hA : A < 4294967296) (defs : List (Bytes × Arg))
    (hdefs : ∀ d ∈ defs, Lex.identOk d.1 = true ∧ Show.Opnd d.2) :
    ∀ p ∈ preStmts A defs, Lex.identOk p.1 = true ∧ ∀ x ∈ p.2, Show.Opnd x := by
  intro p hp
  simp only [preStmts, List.mem_cons, List.mem_map] at hp
  rcases hp with rfl | ⟨d, hd, rfl⟩
  · refine ⟨by dsimp only; decide, ?_⟩
    intro x hx; simp at hx; subst hx
    exact Show.opnd_const _ ⟨by omega, by simp [i64Max]; omega⟩
  · refine ⟨by dsimp only; decide, ?_⟩
    intro x hx; simp at hx
    rcases hx with rfl | rfl
    · exact Show.opnd_ident _ (hdefs d hd).1
    · exact (hdefs d hd).2

theorem preStmts_wf {A : Nat} {defs : List (Bytes × Arg)}
    (hpre : ∀ p ∈ preStmts A defs, Lex.identOk p.1 = true ∧ ∀ x ∈ p.2, Show.Opnd x) :
    ∀ ev ∈ (preStmts A defs).map (fun p => ElemVal.directive p.1 (Args.ofList p.2)), ev.wf := by
  intro ev hev
  obtain ⟨p, hp, rfl⟩ := List.mem_map.mp hev
  exact Show.dir_wf p (hpre p hp).1 (hpre p hp).2

/-- the program text `.addr <A>;⏎ .const <n>, <v>;⏎ … <NAME a, b, c;>` with every statement in the concrete syntax
`Show.render` (mnemonic and names as given — any letter case, any alias —, decimal integers, `[x + y]`, `{a, b}`) -/
def progText (A : Nat) (defs : List (Bytes × Arg)) (name : Bytes) (args : List Arg) : Bytes :=
  ((preStmts A defs).map fun p => bytesOf "." ++ Show.render p ++ [10]).flatten ++ Show.render (name, args)

/-- **a text whose tokens have these values is read as the program**: whatever the text and the positions of its tokens,
if the token VALUES are those of the `.addr` / `.const` lines followed by `name <operands> ;`, the operands any
parenthesisation `as` of trees, the parser reads `progVals A defs name as.erase` -/
theorem parseFile_of_tokens (A : Nat) (hA : A < 4294967296) (defs : List (Bytes × Arg))
    (hdefs : ∀ d ∈ defs, Lex.identOk d.1 = true ∧ Show.Opnd d.2) (text : Bytes) (ts : List Token) (l c : Nat)
    (hlex : Lex.tokens text = .ok ⟨ts, none, l, c⟩) (name : Bytes) (as : PArgs) (haswf : as.wf)
    (hvs : ts.map (·.val) = ((preStmts A defs).map fun p => Render.elemVal (.directive p.1 (Args.ofList p.2))).flatten ++
      (.ident name :: Render.pargs as ++ [.term])) :
    ∃ els, Asm.parseFile text = .ok (els, none) ∧ els.map (·.val) = progVals A defs name as.erase := by
  have hpre := preStmts_ok A hA defs hdefs
  obtain ⟨els, last, hall, hels, hlast⟩ := Parse.all_of_vals_then _ (preStmts_wf hpre) name as haswf ts
    (by simpa [List.map_map, Function.comp_def] using hvs) l c
  refine ⟨els ++ [last], by simp [Asm.parseFile, hlex, hall], ?_⟩
  rw [List.map_append, hels]
  simp [progVals, preStmts, constStmt, List.map_map, Function.comp_def, hlast]

/-- the `.addr` / `.const` lines in front of any text that reads as tokens -/
theorem tokens_pre (A : Nat) (hA : A < 4294967296) (defs : List (Bytes × Arg))
    (hdefs : ∀ d ∈ defs, Lex.identOk d.1 = true ∧ Show.Opnd d.2) {rest : Bytes} {vals : List Tok}
    (hr : Lex.Reads rest none vals) :
    ∃ ts l c, Lex.tokens (((preStmts A defs).map fun p => bytesOf "." ++ Show.render p ++ [10]).flatten ++ rest) =
        .ok ⟨ts, none, l, c⟩ ∧
      ts.map (·.val) = ((preStmts A defs).map fun p => Render.elemVal (.directive p.1 (Args.ofList p.2))).flatten ++ vals := by
  obtain ⟨ts, hlex, hts⟩ := (Show.reads_flat _ (preStmts_ok A hA defs hdefs) hr).tokens
  exact ⟨ts, _, _, hlex, hts⟩

/-- C04t.c  **The tokenizer and the parser read the program text as the program** (`_partial` for the framing lemma:
only statements whose operands are names, non-negative decimal integers, `[x + y]` and `{…}` of those
(`Show.Opnd`), in the spacing of `Show.render`). -/
theorem parseFile_progText_partial (A : Nat) (hA : A < 4294967296) (defs : List (Bytes × Arg))
    (hdefs : ∀ d ∈ defs, Lex.identOk d.1 = true ∧ Show.Opnd d.2) (name : Bytes) (hn : Lex.identOk name = true)
    (args : List Arg) (hargs : ∀ x ∈ args, Show.Opnd x) :
    ∃ els, Asm.parseFile (progText A defs name args) = .ok (els, none) ∧
      els.map (·.val) = progVals A defs name (Args.ofList args) := by
  obtain ⟨ts, l, c, hlex, hts⟩ := tokens_pre A hA defs hdefs ⟨_, Show.cuts_stmt (name, args) hn hargs none⟩
  obtain ⟨els, hp, hels⟩ := parseFile_of_tokens A hA defs hdefs _ ts l c hlex name (PArgs.ofArgs (Args.ofList args))
    (Parse.wf_ofArgs _ (Show.stmt_wf (name, args) hn hargs).2)
    (by rw [hts, Parse.pargs_ofArgs]; simp [Render.elemVal])
  exact ⟨els, hp, by rw [hels, Parse.erase_ofArgs]⟩

/-- C04t.d  **Closed on text, success**: for every statement in the canonical concrete syntax — mnemonic in any letter
case, operands names / decimal integers / `[x + y]` / `{…}` —, in the program TEXT `progText A defs name args`: if the
definitions build `tbl`, the statement means `i`, `i` fits and is encodable and fits below 2^32, then `Asm.run` on that
text succeeds without a diagnostic and places exactly the encoding of `i` at `A`. -/
theorem run_text (fs : Bytes → Option Bytes) (main : Bytes) (A : Nat) (defs : List (Bytes × Arg))
    (hdefsok : ∀ d ∈ defs, Lex.identOk d.1 = true ∧ Show.Opnd d.2) (name : Bytes) (hn : Lex.identOk name = true)
    (args : List Arg) (hargs : ∀ x ∈ args, Show.Opnd x) (hfs : fs main = some (progText A defs name args))
    (tbl : Asm.Table) (hdefs : defsTable defs [] = some tbl)
    (i : Instr) (hmeans : means (tabOf tbl) A name args = some i) (hwf : i.wf)
    (hws : List Nat) (he : Codec.encode i = .ok hws) (hfit : A + 2 * hws.length ≤ 4294967296) :
    Asm.run fs main = .done ⟨true, none, true, [], [(A, (Codec.toBytes hws).map (·.toUInt8))]⟩ ∧
    Arm.decode hws = some i := by
  have hlen := (Codec.enc_len i hws he hwf).1
  obtain ⟨els, hp, hels⟩ := parseFile_progText_partial A (by omega) defs hdefsok name hn args hargs
  exact run_defs_stmt fs main _ hfs els hp A defs name (Args.ofList args) hels tbl hdefs i
    (by rw [Show.toList_ofList]; exact hmeans) hwf hws he hfit

/-- C04t.e  **Closed on text, diagnosed**: the same program text with a statement that has no encodable meaning: `Asm.run`
does not succeed, records at least one diagnostic, and every diagnostic is in file `main` at the line and column of one
and the same statement element — the instruction statement (whose position, by C12, is that of its first token). -/
theorem run_text_diag (fs : Bytes → Option Bytes) (main : Bytes) (A : Nat) (hA : A < 4294967296) (defs : List (Bytes × Arg))
    (hdefsok : ∀ d ∈ defs, Lex.identOk d.1 = true ∧ Show.Opnd d.2) (name : Bytes) (hn : Lex.identOk name = true)
    (args : List Arg) (hargs : ∀ x ∈ args, Show.Opnd x) (hfs : fs main = some (progText A defs name args))
    (tbl : Asm.Table) (hdefs : defsTable defs [] = some tbl)
    (t : Instr) (hm : mnemonic name = some t) (hw : wellFormed (tabOf tbl) (sig t) args)
    (hq : ∀ vs, denoteAll (tabOf tbl) (sig t) args = some vs → ¬ svQuirk t vs)
    (hno : ∀ i hws, ¬ (means (tabOf tbl) A name args = some i ∧ i.wf ∧ Codec.encode i = .ok hws)) :
    ∃ els el o, Asm.parseFile (progText A defs name args) = .ok (els, none) ∧ el ∈ els ∧
      el.val = .instruction name (Args.ofList args) ∧ Asm.run fs main = .done o ∧ o.success = false ∧ o.diags ≠ [] ∧
      ∀ d ∈ o.diags, d.file = main ∧ d.line = el.line ∧ d.col = el.col := by
  obtain ⟨els, hp, hels⟩ := parseFile_progText_partial A hA defs hdefsok name hn args hargs
  obtain ⟨el, o, h1, h2, h3⟩ := run_defs_stmt_diag fs main _ hfs els hp A hA defs name (Args.ofList args) hels tbl hdefs t hm
    (by rw [Show.toList_ofList]; exact hw) (by rw [Show.toList_ofList]; exact hq) (by rw [Show.toList_ofList]; exact hno)
  exact ⟨els, el, o, hp, h1, h2, h3⟩

/-- non-vacuity on TEXT: the program text of `ldr r0, [4 + sp];` at 0 and of `.const label, 536871168;` + `B label;` -/
example : progText 0 [] (bytesOf "ldr") [.ident (bytesOf "r0"), .addr (.bin .add (.const 4) (.ident (bytesOf "sp")))] =
    bytesOf ".addr 0;\nldr r0, [4 + sp];" := by decide
example : progText 536871424 [(bytesOf "label", .const 536871168)] (bytesOf "B") [.ident (bytesOf "label")] =
    bytesOf ".addr 536871424;\n.const label, 536871168;\nB label;" := by decide
example : Show.Opnd (.addr (.bin .add (.const 4) (.ident (bytesOf "sp")))) ∧ Lex.identOk (bytesOf "ldr") = true :=
  ⟨.mem (.const 4 (by decide) (by decide)) (.ident _ (by decide)), by decide⟩

/-- non-vacuity, end to end on TEXT: the file `.addr 0;⏎ldr r0, [4 + sp];` assembles to `01 98` at 0 (lower-case mnemonic,
alias `sp`, offset written first), and `.addr 0;⏎ADDS R1, R1, 300;` does not succeed and is diagnosed -/
example : Asm.run (fun _ => some (bytesOf ".addr 0;\nldr r0, [4 + sp];")) [] =
    .done ⟨true, none, true, [], [(0, (Codec.toBytes [0x9801]).map (·.toUInt8))]⟩ := by
  have ht : progText 0 [] (bytesOf "ldr") [.ident (bytesOf "r0"), .addr (.bin .add (.const 4) (.ident (bytesOf "sp")))] =
      bytesOf ".addr 0;\nldr r0, [4 + sp];" := by decide
  refine (run_text (fun _ => some (bytesOf ".addr 0;\nldr r0, [4 + sp];")) [] 0 [] (by simp) (bytesOf "ldr") (by decide)
    [.ident (bytesOf "r0"), .addr (.bin .add (.const 4) (.ident (bytesOf "sp")))] ?_ (by rw [ht]) [] rfl
    (.ldr 0 13 (.imm 4)) (by decide) (by decide) [0x9801] rfl (by decide)).1
  intro x hx
  simp only [List.mem_cons, List.not_mem_nil, or_false] at hx
  rcases hx with rfl | rfl
  · exact .atom (.ident _ (by decide))
  · exact .mem (.const 4 (by decide) (by decide)) (.ident _ (by decide))

example : ∃ o, Asm.run (fun _ => some (bytesOf ".addr 0;\nADDS R1, R1, 300;")) [] = .done o ∧ o.success = false ∧ o.diags ≠ [] := by
  have ht : progText 0 [] (bytesOf "ADDS") [.ident (bytesOf "R1"), .ident (bytesOf "R1"), .const 300] =
      bytesOf ".addr 0;\nADDS R1, R1, 300;" := by decide
  have hargs : ∀ x ∈ [Arg.ident (bytesOf "R1"), .ident (bytesOf "R1"), .const 300], Show.Opnd x := by
    intro x hx
    simp only [List.mem_cons, List.not_mem_nil, or_false] at hx
    rcases hx with rfl | rfl | rfl
    · exact .atom (.ident _ (by decide))
    · exact .atom (.ident _ (by decide))
    · exact .atom (.const 300 (by decide) (by decide))
  obtain ⟨els, el, o, _, _, _, h1, h2, h3, _⟩ := run_text_diag (fun _ => some (bytesOf ".addr 0;\nADDS R1, R1, 300;")) [] 0 (by decide) []
    (by simp) (bytesOf "ADDS") (by decide) _ hargs (by rw [ht]) [] rfl (.add true 0 0 (.imm 0)) (by decide)
    ⟨fun h => by simp [evaluated] at h, fun h => by simp [evaluated] at h, fun _ => ⟨by decide, by decide, by decide⟩, trivial⟩
    (by intro vs hvs hq; obtain ⟨hh, _⟩ := hq; rcases hh with h | h | h <;> cases h)
    (by
      intro i hws ⟨hmn, _, he⟩
      have : means (tabOf []) 0 (bytesOf "ADDS") [.ident (bytesOf "R1"), .ident (bytesOf "R1"), .const 300] = some (.add true 1 1 (.imm 300)) := by decide
      rw [this] at hmn; cases hmn; cases he)
  exact ⟨o, h1, h2, h3⟩

/-- C04t.e'  `run_text_diag` without the known-mnemonic hypothesis (unknown mnemonics are diagnosed at the statement too) -/
theorem run_text_diag_any (fs : Bytes → Option Bytes) (main : Bytes) (A : Nat) (hA : A < 4294967296) (defs : List (Bytes × Arg))
    (hdefsok : ∀ d ∈ defs, Lex.identOk d.1 = true ∧ Show.Opnd d.2) (name : Bytes) (hn : Lex.identOk name = true)
    (args : List Arg) (hargs : ∀ x ∈ args, Show.Opnd x) (hfs : fs main = some (progText A defs name args))
    (tbl : Asm.Table) (hdefs : defsTable defs [] = some tbl)
    (hw : ∀ t, mnemonic name = some t → wellFormed (tabOf tbl) (sig t) args ∧
      ∀ vs, denoteAll (tabOf tbl) (sig t) args = some vs → ¬ svQuirk t vs)
    (hno : ∀ i hws, ¬ (means (tabOf tbl) A name args = some i ∧ i.wf ∧ Codec.encode i = .ok hws)) :
    ∃ els el o, Asm.parseFile (progText A defs name args) = .ok (els, none) ∧ el ∈ els ∧
      el.val = .instruction name (Args.ofList args) ∧ Asm.run fs main = .done o ∧ o.success = false ∧ o.diags ≠ [] ∧
      ∀ d ∈ o.diags, d.file = main ∧ d.line = el.line ∧ d.col = el.col := by
  obtain ⟨els, hp, hels⟩ := parseFile_progText_partial A hA defs hdefsok name hn args hargs
  obtain ⟨el, o, h1, h2, h3⟩ := run_defs_stmt_diag_any fs main _ hfs els hp A hA defs name (Args.ofList args) hels tbl hdefs
    (by rw [Show.toList_ofList]; exact hw) (by rw [Show.toList_ofList]; exact hno)
  exact ⟨els, el, o, hp, h1, h2, h3⟩

/-- non-vacuity: `.addr 0;⏎FOO R1;` — unknown mnemonic -/
example : ∃ o, Asm.run (fun _ => some (bytesOf ".addr 0;\nFOO R1;")) [] = .done o ∧ o.success = false ∧ o.diags ≠ [] := by
  have ht : progText 0 [] (bytesOf "FOO") [.ident (bytesOf "R1")] = bytesOf ".addr 0;\nFOO R1;" := by decide
  obtain ⟨els, el, o, _, _, _, h1, h2, h3, _⟩ := run_text_diag_any (fun _ => some (bytesOf ".addr 0;\nFOO R1;")) [] 0 (by decide) []
    (by simp) (bytesOf "FOO") (by decide) [.ident (bytesOf "R1")]
    (by intro x hx; simp at hx; subst hx; exact .atom (.ident _ (by decide))) (by rw [ht]) [] rfl
    (by intro t ht; have h0 : mnemonic (bytesOf "FOO") = none := by decide
        rw [h0] at ht; cases ht)
    (by intro i hws ⟨hmn, _⟩; have : means (tabOf []) 0 (bytesOf "FOO") [.ident (bytesOf "R1")] = none := by decide
        rw [this] at hmn; cases hmn)
  exact ⟨o, h1, h2, h3⟩

end Trion.C04
