import TrionModel.Lemmas.CodecOut32
import TrionModel.Props.C02
/-!
# C03 — the decoder is total and canonical over all bit patterns

`decode16` is followed branch by branch for all 59392 halfwords below the 32-bit space (`Lemmas/CodecOut16.lean`),
`decode32` to its leaves for all 6144 × 65536 patterns (`Lemmas/CodecOut32.lean`).

`decode` works on a list of bytes; `IsBytes bs` says every element is `< 256`.  How `decode` proceeds on a byte
string is said once, in `decode_shape` / `decode_ok` (`Lemmas/CodecOut32.lean`); the clauses below are read off it.
-/
namespace Trion.Codec
open Trion

/-- C03.a  The decoder never panics: none of the `unwrap()` / `unreachable!()` sites is reachable. -/
theorem dec_no_panic (bs : List Nat) (hb : IsBytes bs) : decode bs ≠ .error .panic := by
  rcases decode_shape bs hb with ⟨_, e⟩ | ⟨_, _, _, e⟩ | ⟨_, _, _, _, _, o, _⟩
  · rw [e]; nofun
  · rw [e]; nofun
  · intro h; rw [h] at o; cases o

/-- C03.b  Length rule: a decoded instruction consumes 4 bytes exactly when the top five bits of the first
halfword (= of its high byte `bs[1]`) are 11101, 11110 or 11111, otherwise 2; and never more than supplied. -/
theorem dec_len (bs : List Nat) (hb : IsBytes bs) (n : Nat) (i : Instr) (h : decode bs = .ok (n, i)) :
    n = (if 29 ≤ bs[1]! / 8 then 4 else 2) ∧ n ≤ bs.length :=
  let ⟨_, _, _, _, hn, hl, _⟩ := decode_ok bs hb n i h
  ⟨hn, hl⟩

/-- C03.c  Underflow is reported exactly when fewer bytes than the length rule demands were supplied, and
it names the demanded and the supplied length. -/
theorem dec_underflow (bs : List Nat) (hb : IsBytes bs) (need hv : Nat) :
    decode bs = .error (.underflow need hv) ↔
      hv = bs.length ∧ ((bs.length < 2 ∧ need = 2) ∨ (2 ≤ bs.length ∧ 29 ≤ bs[1]! / 8 ∧ bs.length < 4 ∧ need = 4)) := by
  rcases decode_shape bs hb with ⟨l, e⟩ | ⟨l2, l4, t, e⟩ | ⟨k, _, _, hk, hl, o, _⟩
  · rw [e]; constructor
    · intro h; injection h with h; injection h with h1 h2; omega
    · rintro ⟨rfl, ⟨_, rfl⟩ | ⟨_, _⟩⟩
      · rfl
      · omega
  · rw [e]; constructor
    · intro h; injection h with h; injection h with h1 h2; omega
    · rintro ⟨rfl, ⟨_, _⟩ | ⟨_, _, _, rfl⟩⟩
      · omega
      · rfl
  · constructor
    · intro h; rw [h] at o; cases o
    · rintro ⟨_, ⟨l, _⟩ | ⟨_, t, l, _⟩⟩
      · split at hk <;> omega
      · rw [if_pos t] at hk; omega

/-- C03.d  Canonicity: every instruction the decoder returns can be re-encoded; the re-encoding has the
same length and decodes to the same instruction (it equals the input up to alias encodings). -/
theorem dec_canon (bs : List Nat) (hb : IsBytes bs) (n : Nat) (i : Instr) (h : decode bs = .ok (n, i)) :
    ∃ hws, encode i = .ok hws ∧ 2 * hws.length = n ∧ decode (toBytes hws) = .ok (n, i) :=
  let ⟨wf, hws, he, hl, _⟩ := decode_ok bs hb n i h
  ⟨hws, he, hl, hl ▸ decode_toBytes_nil i hws he wf⟩

/-- C03.e  The result depends only on the bytes consumed. -/
theorem dec_prefix (bs : List Nat) (hb : IsBytes bs) (n : Nat) (i : Instr) (h : decode bs = .ok (n, i))
    (tail : List Nat) : decode (bs.take n ++ tail) = .ok (n, i) :=
  let ⟨_, _, _, _, _, _, hp⟩ := decode_ok bs hb n i h
  hp tail

/-- every decoded instruction has its fields inside their Rust types and is accepted by the encoder -/
theorem decode_wf (bs : List Nat) (hb : IsBytes bs) (n : Nat) (i : Instr) (h : decode bs = .ok (n, i)) :
    i.wf ∧ ∃ hws, encode i = .ok hws :=
  let ⟨wf, hws, he, _⟩ := decode_ok bs hb n i h
  ⟨wf, hws, he⟩

example : IsBytes [0x08, 0x44] ∧ decode [0x08, 0x44] = .ok (2, .add false 0 0 (.reg 1)) :=
  ⟨by intro b hb; simp at hb; omega, rfl⟩
example : decode [0xFF, 0xF7, 0xFE, 0xFF, 0x00] = .ok (4, .bl (-4)) := rfl
example : decode [0x00, 0xF0, 0x00] = .error (.underflow 4 3) := rfl
example : decode [0xFF, 0x44] = .error (.unpredictable 0x44FF none) := rfl
-- the alias case of canonicity: ADDS R0,R0,#1 in the three-operand form decodes and re-encodes to the
-- two-operand form
example : decode [0x40, 0x1C] = .ok (2, .add true 0 0 (.imm 1)) ∧ encode (.add true 0 0 (.imm 1)) = .ok [0x3001] :=
  ⟨rfl, rfl⟩

end Trion.Codec
