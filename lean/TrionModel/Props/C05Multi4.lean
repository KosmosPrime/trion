import TrionModel.Props.C08Deferred
import TrionModel.Lemmas.AsmMultiTasks
import TrionModel.Lemmas.AsmXferRun
import TrionModel.Lemmas.AsmDefEval
/-!
# C05 (pipeline clause) with `Deferred` names — what is proved about the two excluded cases, and what is not

The multi-file refinement (`layout_refines_asm_scope_strong`, Props/C05Multi3.lean) excludes
(a) `.global x` ABOVE the definition of `x` (forward declaration) and (b) `.import x` of a name the includer holds UNVALUED.
In both the file's table holds `x` as `Lookup::Deferred` for a while; a statement that mentions `x` in that window is not
left alone by its first attempt but SIMPLIFIED AROUND `x`, queued, and re-run — in case (a) when its own file ends, in
case (b) by the INCLUDER's queue (`global = true`), for the main file by `finalize`.

NOT PROVED: the refinement theorem for projects that contain (a) or (b) — the image is the reference layout of the flattened
program in which a forward `.global x` is the alias `.const (includer's x) [file's x] v` behind the file, as in stage 2, and an
`.import` of an unvalued name is an alias `.const (file's x) [includer's x] v` whose value arrives later, every statement's
bytes being those of its FRESH assembly over the final table whenever that completes.  The simulation does not reach (a), (b):
* `Multi.Sim.tbl` (Lemmas/AsmMultiStmt.lean) carries `Table.NoDef` of the CURRENT table, and every lemma that evaluates
  (`du_sim`, `instr_core`, `addr/align/const_sim`) uses it to exclude the outcome `Deferred` and for "a complete evaluation has
  looked up only valued names" (that alone holds with Deferred entries too: `Simp.evaluateE_complete_noDefIn`,
  Lemmas/SimpRetry.lean, `evalIn_complete_valued`, Lemmas/AsmDefEval.lean); `label_sim` / `const_sim` have no `some none` case
  of `insert_constant`;
* `TaskRel` knows one provenance of a task, a first attempt stopped at an unknown name with `global = false`: not a first
  attempt that met a Deferred name (`LeftByT t₁ a a₁`; its task step is `runTask_sim_*_deferred` below) nor `global = true`
  (`handed_up_*` below); `TasksRel` has no `.globalCopy` closure, which runs in the local loop and changes the includer's
  table THERE (so the publication order is not the source order);
* the includer's table holds `x` unvalued while the file runs (`TEq Gt (pub Gt₀ A)` and `NoDef Gt` of Lemmas/AsmXferRun.lean
  fail in the window);
* for (b) the queue of the includer receives tasks during `.include` (`st'.localTasks = st.localTasks` of `Xfer.FIncSim`
  fails), and `finalize` is not trivial for the main file.

PROVED HERE, on top of Props/C08Deferred.lean — per statement:
* `deferred_du_task_bytes`, `deferred_instr_task_bytes_number`, `deferred_instr_task_bytes_guarded`: the bytes the re-run task
  wrote over the final table `t₂ ⊇ t₁` are the reference bytes (`duFinal`, `instrFinal`: the FRESH assembly of the source
  statement over `t₂`) — or the fresh evaluation overflows, the one way the two routes can differ (witness
  `.global x; .du32 x + MAX - MAX; x:`);
* `runTask_sim_data_deferred`, `runTask_sim_instr_deferred`: the step of the task queue in the simulation
  (`Multi.runTask_sim_data/instr`, Lemmas/AsmMultiTasks.lean) for such a statement, under the hypothesis that the fresh
  evaluation over the final table succeeds;
* `handed_up_data_task`, `handed_up_instr_task`: what a task does when it runs in the INCLUDER's queue or in `finalize`
  (`global = true`), stated on the model;
* the two example programs at the end, evaluated in the kernel.
-/
namespace Trion.Asm
open Trion Trion.SegLayout Trion.Asm.Multi Trion.Asm.Glob Trion.Asm.Xfer

/-- C05/C08 (`.du*`, first attempt with Deferred names)  The task wrote `v`: the reference bytes over the final table are
the bytes written, or the fresh evaluation overflows. -/
theorem deferred_du_task_bytes {t₁ t₂ : Table} (hs : Table.Sub t₁ t₂) (hT : Table.Ok t₂) (du : DU) (a : Arg)
    (hlit : Simp.litsOk a = true) (a₁ : Arg) (hl : LeftByT t₁ a a₁) (v : Int)
    (h₂ : evalIn t₂ a₁ = .ok (.complete (.const v))) (hv : 0 ≤ v ∧ v ≤ du.max) :
    (DuGen t₂ du a ∧ duFinal t₂ du a = leBytes du.size v.toNat) ∨
      ∃ k y, evalIn t₂ a = .ok (.err (.overflow k) y) := by
  rcases du_fresh_of_retry hs hT a hlit a₁ hl v h₂ with h | h
  · have hc : constVal t₂ a = some v := by simp only [constVal, h]
    refine .inl ⟨⟨v, hc, hv.1, hv.2⟩, ?_⟩
    simp only [duFinal, hc, hv, and_self, if_true]
  · exact .inr h

/-- … if the fresh evaluation over the final table delivers a number, the bytes written are the reference bytes -/
theorem deferred_du_task_bytes_direct {t₁ t₂ : Table} (hs : Table.Sub t₁ t₂) (hT : Table.Ok t₂) (du : DU) (a : Arg)
    (hlit : Simp.litsOk a = true) (a₁ : Arg) (hl : LeftByT t₁ a a₁) (v : Int)
    (h₂ : evalIn t₂ a₁ = .ok (.complete (.const v))) (hv : 0 ≤ v ∧ v ≤ du.max)
    (hd : ∃ w, evalIn t₂ a = .ok (.complete (.const w))) :
    DuGen t₂ du a ∧ duFinal t₂ du a = leBytes du.size v.toNat := by
  rcases deferred_du_task_bytes hs hT du a hlit a₁ hl v h₂ hv with h | ⟨k, y, h⟩
  · exact h
  · obtain ⟨w, hw⟩ := hd
    rw [hw] at h; cases h

theorem instrFinal_of_build {enc : Encoder} {t : Table} {addr : Nat} {name : Bytes} {tpl : Instr} {args : List Arg} {i : Instr}
    {b : Bytes} (hm : Front.mnemonic name = some tpl) (h : Front.build addr name args (frontEval t) true = .completed i)
    (he : enc i = .ok b) : InstrGen enc t addr tpl args ∧ instrFinal enc t addr tpl args = b := by
  obtain ⟨fs, hg, rfl⟩ := (Front.build_completed_assemble hm).mp h
  exact ⟨⟨fs, b, hg, he⟩, by simp only [instrFinal, hg, he]⟩

/-- C05/C08 (instructions whose evaluated operands are numbers, first attempt with Deferred names)  The task completed with
`fs2`, encoded as `b`: the fresh assembly over the final table completes with the same instruction, so the reference bytes
`instrFinal` are `b` — or the fresh assembly reports an arithmetic overflow. -/
theorem deferred_instr_task_bytes_number {enc : Encoder} {t₁ t₂ : Table} (hs : Table.Sub t₁ t₂) (hT : Table.Ok t₂) (addr : Nat)
    (name : Bytes) (tpl : Instr) (hm : Front.mnemonic name = some tpl) (args : List Arg)
    (hlit : ∀ a ∈ args, Simp.litsOk a = true) (c : Bytes) (fs1 : Front.St)
    (h1 : Front.build addr name args (frontEval t₁) true = .deferred c fs1)
    (hk : ∀ k ∈ Front.kinds tpl, k.shape = false)
    (fs2 : Front.St) (h2 : Front.assemble fs1 (frontEval t₂) false = (fs2, .completed)) (b : Bytes)
    (he : enc fs2.instr = .ok b) :
    (InstrGen enc t₂ addr tpl args ∧ instrFinal enc t₂ addr tpl args = b) ∨
      ∃ st w, Front.build addr name args (frontEval t₂) true = .error (.evalErr (.overflow w)) st := by
  have hk' : ∀ t, Front.mnemonic name = some t → ∀ k ∈ Front.kinds t, k.shape = false := by
    intro t ht; rw [hm] at ht; cases ht; exact hk
  rcases (stmt_number_acceptance_deferred hs hT addr name args hlit c fs1 h1 hk').2 fs2 h2 with h | h
  · exact .inl (instrFinal_of_build hm h he)
  · exact .inr h

/-- C05/C08 (any instruction, register/address-shaped operands free of Deferred names)  If the fresh assembly over the final
table completes, it gives the instruction of the re-run: the reference bytes are the bytes written. -/
theorem deferred_instr_task_bytes_guarded {enc : Encoder} {t₁ t₂ : Table} (hs : Table.Sub t₁ t₂) (hT : Table.Ok t₂) (addr : Nat)
    (name : Bytes) (tpl : Instr) (hm : Front.mnemonic name = some tpl) (args : List Arg)
    (hlit : ∀ a ∈ args, Simp.litsOk a = true) (c : Bytes) (fs1 : Front.St)
    (h1 : Front.build addr name args (frontEval t₁) true = .deferred c fs1)
    (hp : ∀ p ∈ List.zip (Front.kinds tpl) args, p.1.shape = true → noDeferredIn t₁ p.2 = true)
    (fs2 : Front.St) (h2 : Front.assemble fs1 (frontEval t₂) false = (fs2, .completed)) (b : Bytes)
    (he : enc fs2.instr = .ok b) (i : Instr) (hd : Front.build addr name args (frontEval t₂) true = .completed i) :
    i = fs2.instr ∧ InstrGen enc t₂ addr tpl args ∧ instrFinal enc t₂ addr tpl args = b := by
  have hp' : ∀ t, Front.mnemonic name = some t → ∀ p ∈ List.zip (Front.kinds t) args, p.1.shape = true →
      noDeferredIn t₁ p.2 = true := by
    intro t ht; rw [hm] at ht; cases ht; exact hp
  have hi := stmt_order_independent_deferred_partial hs hT addr name args hlit c fs1 h1 hp' fs2 i h2 hd
  subst hi
  exact ⟨rfl, instrFinal_of_build hm hd he⟩

/-- C05 (simulation step, `.du*`, first attempt with Deferred names)  The step `Multi.runTask_sim'` proves for a
statement stopped at an unknown name, for a statement whose first attempt over `t₁` met a Deferred name and left `d.arg`
(`LeftByT`): if the fresh evaluation of the source operand over the file's final table delivers a number, the
run of the task is matched by `Layout.rewrite` of the task carrying the REFERENCE bytes `duFinal t₂ du a`, all its
dependencies are defined, and the simulation relation is kept. -/
theorem runTask_sim_data_deferred {num : Bytes → Nat} {enc : Encoder} {t₁ t₂ : Table} {G : List Task} {Gt : Table}
    (henc : EncLen enc) {st st' : St} {l : Layout.State} (ts : Multi.TSim num t₂ G Gt st l) (env : Env)
    (henv : env.paths.isEmpty = false) (d : DataExpr) (lt : Layout.Task) (a : Arg)
    (hpl : d.placed = true) (haddr : lt.addr = d.addr) (hlen : lt.len = d.du.size)
    (hdeps : lt.deps = (idents a).map num) (hfinal : lt.final = duFinal t₂ d.du a)
    (hs : Table.Sub t₁ t₂) (hT : Table.Ok t₂) (hlit : Simp.litsOk a = true) (hl : LeftByT t₁ a d.arg)
    (hdirect : ∃ w, evalIn t₂ a = .ok (.complete (.const w)))
    (hok : TaskOk st.seg.pending (.data d false)) (h : runTask enc env st (.data d false) = .ok (st', .ok)) :
    ∃ l', l.env.hasAll lt.deps = true ∧ Layout.rewrite l lt.addr lt.final = .ok l' ∧ Multi.TSim num t₂ G Gt st' l' ∧
      st'.seg.pending = st.seg.pending ∧ cursor st' = cursor st := by
  obtain ⟨w, hw⟩ := hdirect
  obtain ⟨l', h1, h2, h3, h4, h5, _⟩ := Multi.runTask_sim_data henc ts env henv d lt a hpl haddr hdeps hfinal
    (fun v hv => by rw [du_number_order_independent hs hT a hlit d.arg hl v w hv hw]; exact hw) hok h
  exact ⟨l', h1, h2, h3, h4, h5⟩

/-- C05 (simulation step, instruction, first attempt with Deferred names)  The same for an instruction whose
first attempt was deferred — by an unknown or by a Deferred name — and whose register/address-shaped operands mention no
Deferred name of `t₁` (no condition at all for `B`, `B<cond>`, `BL`, `ADR`, `BKPT`, `SVC`, `UDF`, `RSBS`, whose `kinds` have
no such position): if the fresh assembly over the final table completes, the run of the task is matched by `Layout.rewrite`
with the reference bytes `instrFinal`. -/
theorem runTask_sim_instr_deferred {num : Bytes → Nat} {enc : Encoder} {t₁ t₂ : Table} {G : List Task} {Gt : Table}
    (henc : EncLen enc) {st st' : St} {l : Layout.State} (ts : Multi.TSim num t₂ G Gt st l) (env : Env)
    (henv : env.paths.isEmpty = false) (i : ArmInstr) (lt : Layout.Task) (name : Bytes) (tpl : Instr) (args : List Arg)
    (hm : Front.mnemonic name = some tpl)
    (hpl : i.placed = true) (haddr : lt.addr = i.st.addr) (hlen : lt.len = ilen i.st.instr)
    (hdeps : lt.deps = (instrDeps (Front.kinds tpl) args).map num)
    (hfinal : lt.final = instrFinal enc t₂ i.st.addr tpl args)
    (hs : Table.Sub t₁ t₂) (hT : Table.Ok t₂) (hlit : ∀ a ∈ args, Simp.litsOk a = true) (c : Bytes)
    (h1 : Front.build i.st.addr name args (frontEval t₁) true = .deferred c i.st)
    (hp : ∀ p ∈ List.zip (Front.kinds tpl) args, p.1.shape = true → noDeferredIn t₁ p.2 = true)
    (hdirect : ∃ j, Front.build i.st.addr name args (frontEval t₂) true = .completed j)
    (hok : TaskOk st.seg.pending (.instr i false)) (h : runTask enc env st (.instr i false) = .ok (st', .ok)) :
    ∃ l', l.env.hasAll lt.deps = true ∧ Layout.rewrite l lt.addr lt.final = .ok l' ∧ Multi.TSim num t₂ G Gt st' l' ∧
      st'.seg.pending = st.seg.pending ∧ cursor st' = cursor st := by
  have hag : ∀ fs2, Front.assemble i.st (frontEval t₂) false = (fs2, .completed) →
      ∃ fs', Front.assemble ⟨i.st.addr, tpl, 0, args⟩ (frontEval t₂) true = (fs', .completed) ∧ fs'.instr = fs2.instr := by
    intro fs2 h2
    obtain ⟨j, hj⟩ := hdirect
    have hp' : ∀ t, Front.mnemonic name = some t → ∀ p ∈ List.zip (Front.kinds t) args, p.1.shape = true →
        noDeferredIn t₁ p.2 = true := by
      intro t ht; rw [hm] at ht; cases ht; exact hp
    have hi := stmt_order_independent_deferred_partial hs hT i.st.addr name args hlit c i.st h1 hp' fs2 j h2 hj
    obtain ⟨fs', hg, hfj⟩ := (Front.build_completed_assemble hm).mp hj
    exact ⟨fs', hg, by rw [hfj, hi]⟩
  obtain ⟨l', h1, h2, h3, h4, h5, _⟩ := Multi.runTask_sim_instr henc ts env henv i lt tpl args hpl haddr hdeps hfinal
    hag hok h
  exact ⟨l', h1, h2, h3, h4, h5⟩

/-- C05 (handed-up `.du*` task)  A `.du*` task with `global = true` — a statement of an included file that was still waiting
for an imported name when its file ended, now run by the includer's queue (over the includer's table) or by `finalize` (over
the global table): it returns `Ok` only if the tree it carries evaluates over that table `T` to a value `v` in range, and
then it wrote the little-endian bytes of `v` at the statement's address (`write_at` into the active region, or the output
map) — nothing else of the state changes. -/
theorem handed_up_data_task {d : DataExpr} {env : Env} {st st' : St} {T : Table} (ht : evalTable env st = .ok T)
    (h : runDataTask d true env st = .ok (st', .ok)) :
    ∃ v, evalIn T d.arg = .ok (.complete (.const v)) ∧ 0 ≤ v ∧ v ≤ d.du.max ∧
      ∃ s' p, writeStmt st.seg d.placed d.addr (leBytes d.du.size v.toNat) = .ok (s', p, none) ∧
        st' = { st with seg := s' } := by
  rcases Multi.runDataTask_ok ht h with h | ⟨hg, _⟩
  · exact h
  · cases hg

/-- C05 (handed-up instruction task)  The same for an instruction statement: `Ok` only if `assemble` from the queued state
completes over the table `T` it now runs over and the encoder accepts the instruction; the encoding is written at the
statement's address. -/
theorem handed_up_instr_task {enc : Encoder} {i : ArmInstr} {env : Env} {st st' : St} {T : Table}
    (ht : evalTable env st = .ok T) (h : runInstrTask enc i true env st = .ok (st', .ok)) :
    ∃ fs2 b, Front.assemble i.st (frontEval T) false = (fs2, .completed) ∧ enc fs2.instr = .ok b ∧
      ∃ s' p, writeStmt st.seg i.placed fs2.addr b = .ok (s', p, none) ∧ st' = { st with seg := s' } := by
  rcases Multi.runInstrTask_ok ht h with h | ⟨hg, _⟩
  · exact h
  · cases hg

/-! ## non-vacuity: the two programs, evaluated -/

/-- forward declaration, single file: `.global x; .addr 16; .du16 x + 1; B x; x:` — both statements meet `x` as `Deferred` -/
def exFwdText : Bytes := bytesOf ".global x;\n.addr 16;\n.du16 x + 1;\nB x;\nx:\n"
def exFwdFs : Bytes → Option Bytes := fun p => if p = bytesOf "m" then some exFwdText else none

/-- `Asm.run`: success, no diagnostic; `x + 1` = 21 at 16, `B x` (to 20 from 18: `E7FF`) at 18 -/
theorem exFwd_run : (match run exFwdFs (bytesOf "m") with
    | .done o => o.success && o.diags.isEmpty && o.image == [(16, [0x15, 0x00, 0xFF, 0xE7])]
    | _ => false) = true := by decide +kernel

/-- the two-file variant: the included file imports the still unvalued `x`; its two statements are handed to the includer's
queue and resolved when the main file ends -/
def exFwdMain : Bytes := bytesOf ".global x;\n.addr 16;\n.include \"i\";\nx:\n"
def exFwdInc : Bytes := bytesOf ".import x;\n.du16 x + 1;\nB x;\n"
def exFwd2Fs : Bytes → Option Bytes := fun p =>
  if p = bytesOf "m" then some exFwdMain else if p = bytesOf "i" then some exFwdInc else none

theorem exFwd2_run : (match run exFwd2Fs (bytesOf "m") with
    | .done o => o.success && o.diags.isEmpty && o.image == [(16, [0x15, 0x00, 0xFF, 0xE7])]
    | _ => false) = true := by decide +kernel

/-- the flattened programs the unproved refinement theorem (header) would name (single file: `x` = 11, global table `x` = 1; two files: main `x` = 11,
included file `x` = 21 aliased to the includer's), and their reference layout: the image of both runs -/
example :
    Layout.Ref.layout [.addr 16, .emit 2 [11] [0x15, 0x00], .emit 2 [11] [0xFF, 0xE7], .label 11, .const 1 [11] 20] =
      some [(18, 0xFF), (19, 0xE7), (16, 0x15), (17, 0x00)] ∧
    Layout.Ref.layout [.addr 16, .const 21 [11] 20, .emit 2 [21] [0x15, 0x00], .emit 2 [21] [0xFF, 0xE7], .label 11,
        .const 1 [11] 20] = some [(18, 0xFF), (19, 0xE7), (16, 0x15), (17, 0x00)] := ⟨by rfl, by rfl⟩

/-- the statement-level theorem at work on the first example: `.du16 x + 1` met `x` Deferred, the first attempt left the tree
as it was, the task evaluated it over `{x ↦ 20}` to 21: the reference bytes are `15 00` -/
example : DuGen [([120], some 20)] .u16 (.bin .add (.ident [120]) (.const 1)) ∧
    duFinal [([120], some 20)] .u16 (.bin .add (.ident [120]) (.const 1)) = [0x15, 0x00] :=
  ⟨⟨21, by rfl, by decide, by decide⟩, by rfl⟩

end Trion.Asm
