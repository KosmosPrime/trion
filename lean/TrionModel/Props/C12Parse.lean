import TrionModel.Lemmas.ParseAll
/-!
# C12 (parser clause) — a parsed statement carries the position of its first token

`Parse.all lo` models iterating `Parser::new(bytes)`; `lo.toks` are the tokens with the positions the
tokenizer gave them (C12's `tok_pos` says these are the positions in the text).
-/
namespace Trion.Parse

/-- C12.stmt_pos (one statement)  `do_next(first)`: a successfully parsed statement has the line and
column of its first token, which is a directive mark or an identifier. -/
theorem stmt_pos_element (lo : LexOut) (t : Token) (r : List Token) (el : Element) (r' : List Token)
    (h : element lo t r = .ok (el, r')) :
    el.line = t.line ∧ el.col = t.col ∧ (t.val = .dirMark ∨ ∃ s, t.val = .ident s) :=
  ⟨(element_ok h).2.1, (element_ok h).2.2.1, (element_ok h).2.2.2⟩

/-- C12.stmt_pos  Every element of a parser run is a statement read by `do_next` from the token where
the previous statement ended (the first one from the first token of the file), and carries the line
and column of that token (`Stmts`, see `Lemmas/ParseAll.lean`). -/
theorem stmt_pos (lo : LexOut) (els : List Element) (err : Option ParseErr) (h : all lo = .done els err) :
    Stmts lo lo.toks els := by
  obtain ⟨_, hs, _⟩ := allLoop_segs h
  exact hs.stmts

/-- … hence the element positions are the positions of tokens of the input, in input order, each a
directive mark or an identifier, the first one being the first token. -/
theorem stmt_pos_tokens (lo : LexOut) (els : List Element) (err : Option ParseErr) (h : all lo = .done els err) :
    ∃ firsts : List Token, firsts.Sublist lo.toks ∧
      els.map (fun e => (e.line, e.col)) = firsts.map (fun t => (t.line, t.col)) ∧
      (∀ t ∈ firsts, t.val = .dirMark ∨ ∃ s, t.val = .ident s) ∧
      (els ≠ [] → firsts.head? = lo.toks.head?) := by
  obtain ⟨_, hs, _⟩ := allLoop_segs h
  exact hs.pos

/-- non-vacuity: `N ;` at 3:4 -/
example : element ⟨[], none, 3, 9⟩ ⟨3, 4, .ident [78]⟩ [⟨3, 8, .term⟩] =
    .ok (⟨3, 4, .instruction [78] .nil⟩, []) := rfl

/-- non-vacuity: two statements `x : N ;` -/
example : ∃ e1 e2, all ⟨[⟨1, 1, .ident [120]⟩, ⟨1, 3, .labelMark⟩, ⟨2, 5, .ident [78]⟩, ⟨2, 6, .term⟩], none, 2, 7⟩ =
    .done [e1, e2] none ∧ (e1.line, e1.col) = (1, 1) ∧ (e2.line, e2.col) = (2, 5) := ⟨_, _, rfl, rfl, rfl⟩

end Trion.Parse
