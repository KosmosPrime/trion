import TrionModel.Lemmas.AsmFlatEls
import TrionModel.Props.C05Multi
import TrionModel.Props.C01
import TrionModel.Props.C04
import TrionModel.Props.C05AsmFull
/-!
# C05 (pipeline clause, projects with `.include`, `.global`, `.export`, `.import`) — stage 3, partial

Models as in Props/C05Multi.lean / C05Multi2.lean.  Stage 3 adds
* `.export x` — publishes the file's (valued) `x` to its includer's table exactly like `.global x` below the definition
  does (no side condition: an `.export` of an unvalued name is a diagnostic);
* `.import x` of a name the includer holds VALUED where it includes the file — from there on `x` in the file denotes the
  includer's symbol.
The flattened program is `Xfer.XFlat` (Lemmas/AsmXferRun.lean, whose header describes it; `XFlatS`: every statement genuine).
Names travel DOWN (`.import`) and UP (`.export/.global`, also re-published up a chain) across any number of levels.

Side condition `Xfer.XferProject fs fuel avail path data`: `Xfer.ElsOk` (its docstring) of every file of the include tree;
`avail` = the names the includer holds valued at the `.include` statement, `[]` for the main file — the real global table is
empty when the main file starts.

Proved: `layout_refines_asm_scope_strong`, from `run_flat` at `XFlatS.flat` — success ⇒ the flattening is `XFlatS`, the image
is the `pass2` image of the reference on the flattened program (with import and publication aliases); every emitting
statement stands with its reference bytes at its reference address; `E` is the layout core's own symbol table, which restricts
to every file instance's final table and to the final global table, and if no label stands at 2^32 it is `Ref.pass1` of that
program.  The other theorems of the file are read off it: `layout_refines_asm_scope_partial` is its projection to `XFlat`,
without `la` and `Table.NoDef t`; `every_statement_placed_asm_scope_*`, `label_value_position_independent_asm`;
`layout_refines_asm_full_strong` (one file, `XFlatS.single`); `layout_refines_asm_global_of_scope` (the stage-2 conclusion under
the stage-2 side condition).

PARTIAL — excluded, stated as the side condition above:
(a) `.import x` of a name the includer holds UNVALUED (declared by `.global`/`.import` there, defined later): the file's
    `x` stays `Deferred`, its uses are simplified around `x`, the retry is handed to the includer's queue (and, for the
    main file, to `finalize`) — needs the retry theory for `Deferred` lookups (Props/C08Deferred.lean) and a `TaskRel`
    for `global = true` tasks; what is proved about it: Props/C05Multi4.lean;
(b) `.global x` above the definition of `x` (same reason; witness in Props/C05Multi2.lean);
(c) `.import` in the main file can never succeed in this fragment (nothing is in the global table before the main
    file ends), so the `finalize` queue stays empty.
-/
namespace Trion.Asm
open Trion Trion.SegLayout Trion.Asm.Multi Trion.Asm.Glob Trion.Asm.Xfer
open Trion.Layout (MRun withTasks)

/-- C05 (pipeline, program level, STRONG form, `.include` + `.global` + `.export` + `.import` of valued names): the theorem
of this stage.  Beside the `pass2` image it has three clauses that make "no placeholder survives" and "the bytes are the
encodings" part of the STATEMENT:
* the flattening is `XFlatS`: every ordinary source statement is GENUINE over its file's final table (`ElGen`): for an
  instruction the fresh assembly `Front.assemble ⟨c, tpl, 0, args⟩ (frontEval t) true` completes and `encoder` accepts the
  instruction (`InstrGen`; then `instrFinal` IS that encoding, `InstrGen.final`, and `encoder_ok_encode` gives
  `Codec.encode i = .ok hws` with bytes `toBytes hws`); for `.du*` the operand evaluates to `v` with `0 ≤ v ≤ max` and the
  bytes are `leBytes size v` (`DuGen.final`); `.dhex/.dstr/.dfile` carry the decoded / literal / file bytes; `.addr/.align/
  .const` operands evaluate (`.align n` with `0 < n < 2^32`, so its reference bytes are 0xBE × (next multiple − cursor));
* `E` is determined WITHOUT `NoLabelAtTop`: it is the symbol table `la.env` of the layout core's own execution `MRun {} … la` of
  the flattened program; * the main file's final table has no unvalued entry (`Table.NoDef t`). -/
theorem layout_refines_asm_scope_strong {num : Nat → Bytes → Nat} (hinj : NumInj num) (fs : Bytes → Option Bytes)
    (main data : Bytes) (hfs : fs main = some data) (hglob : XferProject fs maxDepth [] main data) (o : Outcome)
    (h : run fs main = .done o) (hs : o.success = true) :
    ∃ (els : List Element) (perr : Option ParseErr) (p : List Layout.Stmt) (E : Layout.Env) (t : Table) (n : Nat)
      (A : List (Bytes × Int)) (im' : Layout.Img) (la : Layout.State),
      parseFile data = .ok (els, perr) ∧
      EnvRel (num 1) t E ∧ Table.NoDef t ∧ XFlatS num fs encoder E 0 1 main t 2 none els p n ∧
      MRun ({} : Layout.State) (p ++ aliases (num 0) (num 1) A) la ∧ la.env = E ∧
      A.map Prod.fst = els.filterMap pubName ∧ (∀ xv ∈ A, t.val xv.1 = some xv.2) ∧
      EnvRel (num 0) (pub [] A) E ∧
      (∀ s ∈ p ++ aliases (num 0) (num 1) A, s.wf = true) ∧
      Layout.Ref.pass2 none [] (p ++ aliases (num 0) (num 1) A) = some im' ∧ (∀ a, Map.abs o.image a = im'.get a) ∧
      (∀ q s r, p ++ aliases (num 0) (num 1) A = q ++ s :: r → s.emits = true →
        ∃ x, Layout.Ref.cursorAfter none q = some x ∧
          ∀ i, i < (Layout.Ref.bytes x s).length → im'.get (x + i) = (Layout.Ref.bytes x s)[i]?) ∧
      (Layout.NoLabelAtTop (p ++ aliases (num 0) (num 1) A) →
        Layout.Ref.pass1 none [] (p ++ aliases (num 0) (num 1) A) = some E) := by
  obtain ⟨els, perr, p, t, n, A, im', la, h1, h2, hnd, h3, _, hrun, h4, h5, h6, h7, h8, h9, h10, h11⟩ :=
    run_flat hinj fs (XFlatS.flat num fs encoder) (XferProject fs)
      (fun _ _ _ _ hp els perr hpf => ⟨hp els perr hpf, fun _ _ => trivial⟩) main data hfs hglob o h hs
  exact ⟨els, perr, p, la.env, t, n, A, im', la, h1, h2, hnd, h3, hrun, rfl, h4, h5, h6, h7, h8, h9, h10, h11⟩

/-- C05 (pipeline, program level, `.include` + `.global` + `.export` + `.import` of valued names): the projection of
`layout_refines_asm_scope_strong` to `XFlat`, without `la` and `Table.NoDef t` -/
theorem layout_refines_asm_scope_partial {num : Nat → Bytes → Nat} (hinj : NumInj num) (fs : Bytes → Option Bytes)
    (main data : Bytes) (hfs : fs main = some data) (hglob : XferProject fs maxDepth [] main data) (o : Outcome)
    (h : run fs main = .done o) (hs : o.success = true) :
    ∃ (els : List Element) (perr : Option ParseErr) (p : List Layout.Stmt) (E : Layout.Env) (t : Table) (n : Nat)
      (A : List (Bytes × Int)) (im' : Layout.Img),
      parseFile data = .ok (els, perr) ∧
      EnvRel (num 1) t E ∧ XFlat num fs encoder E 0 1 main t 2 none els p n ∧
      A.map Prod.fst = els.filterMap pubName ∧ (∀ xv ∈ A, t.val xv.1 = some xv.2) ∧
      EnvRel (num 0) (pub [] A) E ∧
      (∀ s ∈ p ++ aliases (num 0) (num 1) A, s.wf = true) ∧
      Layout.Ref.pass2 none [] (p ++ aliases (num 0) (num 1) A) = some im' ∧ (∀ a, Map.abs o.image a = im'.get a) ∧
      (∀ q s r, p ++ aliases (num 0) (num 1) A = q ++ s :: r → s.emits = true →
        ∃ x, Layout.Ref.cursorAfter none q = some x ∧
          ∀ i, i < (Layout.Ref.bytes x s).length → im'.get (x + i) = (Layout.Ref.bytes x s)[i]?) ∧
      (Layout.NoLabelAtTop (p ++ aliases (num 0) (num 1) A) →
        Layout.Ref.pass1 none [] (p ++ aliases (num 0) (num 1) A) = some E) := by
  obtain ⟨els, perr, p, E, t, n, A, im', la, h1, h2, _, h3, _, _, h4, h5, h6, h7, h8, h9, h10, h11⟩ :=
    layout_refines_asm_scope_strong hinj fs main data hfs hglob o h hs
  exact ⟨els, perr, p, E, t, n, A, im', h1, h2, h3.toXFlat, h4, h5, h6, h7, h8, h9, h10, h11⟩

/-- C05 (every statement's bytes at its address) and C08 (pipeline clause: above, below, or IN ANOTHER FILE) for projects with
`.include/.global/.export/.import`.  In the image of a successful run every emitting statement `s` of the flattened
program stands with its reference bytes at its reference address, and `s` is the abstraction `absStmt … t' c' el` of a
source statement of some file instance over that instance's FINAL table `t'` (= `E` at the instance).  A name of that file
may be defined in the file itself (above or below the statement), in a file it includes that publishes it (`.global` /
`.export`, the `.include` above or below the statement) or in its includer (`.import`): in every case the name's value in
`t'` is the value of the defining symbol (the alias statements), so the bytes are those of the statement evaluated with
the definitions wherever they stand. -/
theorem every_statement_placed_asm_scope_partial {num : Nat → Bytes → Nat} (hinj : NumInj num) (fs : Bytes → Option Bytes)
    (main data : Bytes) (hfs : fs main = some data) (hglob : XferProject fs maxDepth [] main data) (o : Outcome)
    (h : run fs main = .done o) (hs : o.success = true) :
    ∃ (els : List Element) (perr : Option ParseErr) (p : List Layout.Stmt) (E : Layout.Env) (t : Table) (n : Nat)
      (A : List (Bytes × Int)),
      parseFile data = .ok (els, perr) ∧ EnvRel (num 1) t E ∧ XFlat num fs encoder E 0 1 main t 2 none els p n ∧
      ∀ q s r, p ++ aliases (num 0) (num 1) A = q ++ s :: r → s.emits = true →
        (∃ c, Layout.Ref.cursorAfter none q = some c ∧
          ∀ i, i < (Layout.Ref.bytes c s).length → Map.abs o.image (c + i) = (Layout.Ref.bytes c s)[i]?) ∧
        ∃ id' path' t' c' el, EnvRel (num id') t' E ∧ isInclude el = false ∧
          s = absStmt (num id') fs encoder path' t' c' el := by
  obtain ⟨els, perr, p, E, t, n, A, im', la, h1, h2, _, h3, _, _, _, _, _, _, _, h9, h10, _⟩ :=
    layout_refines_asm_scope_strong hinj fs main data hfs hglob o h hs
  refine ⟨els, perr, p, E, t, n, A, h1, h2, h3.toXFlat, fun q s r hp hse => ⟨?_, ?_⟩⟩
  · obtain ⟨x, hx, hb⟩ := h10 q s r hp hse
    exact ⟨x, hx, fun i hi => by rw [h9]; exact hb i hi⟩
  · obtain ⟨id', path', t', c', el, g1, g2, _, g4⟩ := h3.emitting h2 hp hse
    exact ⟨id', path', t', c', el, g1, g2, g4⟩

/-- what `encoder` accepts: the instruction has an ARMv6-M encoding `hws` (`Codec.encode`, C01) and the bytes are its
little-endian halfwords -/
theorem encoder_ok_encode {i : Instr} {b : Bytes} (h : encoder i = .ok b) :
    ∃ hws, Codec.encode i = .ok hws ∧ b = (Codec.toBytes hws).map (·.toUInt8) := by
  unfold encoder at h
  cases hi : Codec.encodeInto 4 i with
  | error e => rw [hi] at h; cases e <;> cases h
  | ok bs =>
    rw [hi] at h
    simp only [Except.ok.injEq] at h
    unfold Codec.encodeInto at hi
    cases he : Codec.encode i with
    | error e => rw [he] at hi; cases hi
    | ok hws =>
      rw [he] at hi
      simp only at hi
      split at hi
      · cases hi
      · cases hi
        exact ⟨hws, rfl, h.symm⟩

/-- … and, for a well-formed instruction, decoding the halfwords gives the instruction back (C01) -/
theorem encoder_ok_decode {i : Instr} {b : Bytes} (h : encoder i = .ok b) (wf : i.wf) :
    ∃ hws, Codec.encode i = .ok hws ∧ b = (Codec.toBytes hws).map (·.toUInt8) ∧ Arm.decode hws = some i := by
  obtain ⟨hws, h1, h2⟩ := encoder_ok_encode h
  exact ⟨hws, h1, h2, Codec.enc_sound i hws h1 wf⟩

/-- C05 ∘ C04 ∘ C01  What `InstrGen` means at SPECIFICATION level.  `InstrGen` itself is a statement about the MODEL: the
model's fresh assembly over the final table completes and the model's `encoder` accepts.  Composed with C04 (`build_wf`: an
instruction the front end completes is well-formed) and C01 (`enc_sound`: the encoding of a well-formed instruction decodes,
by the architecture's own decoder `Arm.decode`, to that instruction): the reference bytes `instrFinal` are the little-endian
halfwords `hws` of an ARMv6-M encoding that DECODES to the instruction the statement denotes over the final table. -/
theorem InstrGen.spec {t : Table} {addr : Nat} {name : Bytes} {tpl : Instr} {args : List Arg}
    (hm : Front.mnemonic name = some tpl) (h : InstrGen encoder t addr tpl args) :
    ∃ fs2 hws, Front.assemble ⟨addr, tpl, 0, args⟩ (frontEval t) true = (fs2, .completed) ∧
      Codec.encode fs2.instr = .ok hws ∧
      instrFinal encoder t addr tpl args = (Codec.toBytes hws).map (·.toUInt8) ∧ Arm.decode hws = some fs2.instr := by
  obtain ⟨fs2, b, h1, h2, h3⟩ := h.final
  have hb : Front.build addr name args (frontEval t) true = .completed fs2.instr := by
    simp only [Front.build, hm, h1]
  have wf := Front.build_wf addr name args (frontEval t) true fs2.instr hb
  obtain ⟨hws, e1, e2, e3⟩ := encoder_ok_decode h2 wf
  exact ⟨fs2, hws, h1, e1, by rw [h3, e2], e3⟩

/-- C05 (no placeholder survives; the bytes ARE the encodings — STRONG form of `every_statement_placed_asm_scope_partial`).
Every emitting statement `s` of the flattened program stands with its reference bytes at its reference address, `s` is the
abstraction of an ordinary source statement `el` of a file instance over that instance's final table `t'`, AND `el` is
genuine over `t'` (`ElGen`): the reference bytes are the encoder's output for the completed fresh assembly / the
little-endian value in range / the literal bytes — never the 0xBE fallback of `instrFinal` / `duFinal`. -/
theorem every_statement_placed_asm_scope_strong {num : Nat → Bytes → Nat} (hinj : NumInj num) (fs : Bytes → Option Bytes)
    (main data : Bytes) (hfs : fs main = some data) (hglob : XferProject fs maxDepth [] main data) (o : Outcome)
    (h : run fs main = .done o) (hs : o.success = true) :
    ∃ (els : List Element) (perr : Option ParseErr) (p : List Layout.Stmt) (E : Layout.Env) (t : Table) (n : Nat)
      (A : List (Bytes × Int)),
      parseFile data = .ok (els, perr) ∧ EnvRel (num 1) t E ∧ XFlatS num fs encoder E 0 1 main t 2 none els p n ∧
      ∀ q s r, p ++ aliases (num 0) (num 1) A = q ++ s :: r → s.emits = true →
        (∃ c, Layout.Ref.cursorAfter none q = some c ∧
          ∀ i, i < (Layout.Ref.bytes c s).length → Map.abs o.image (c + i) = (Layout.Ref.bytes c s)[i]?) ∧
        ∃ id' path' t' c' el, EnvRel (num id') t' E ∧ isInclude el = false ∧ ElGen fs encoder path' t' c' el ∧
          s = absStmt (num id') fs encoder path' t' c' el := by
  obtain ⟨els, perr, p, E, t, n, A, im', la, h1, h2, _, h3, _, _, _, _, _, _, _, h9, h10, _⟩ :=
    layout_refines_asm_scope_strong hinj fs main data hfs hglob o h hs
  refine ⟨els, perr, p, E, t, n, A, h1, h2, h3, fun q s r hp hse => ⟨?_, ?_⟩⟩
  · obtain ⟨x, hx, hb⟩ := h10 q s r hp hse
    exact ⟨x, hx, fun i hi => by rw [h9]; exact hb i hi⟩
  · exact h3.emitting h2 hp hse

/-- C05 (a label / constant has ONE value) at the pipeline level — a corollary of `layout_refines_asm_scope_strong` (with
`XFlatS.emitting`), stated so that everything is tied to the run `o`: `E` is the symbol table of the layout core's own
execution of the flattened program, the image is its `pass2`, and every emitting statement's bytes in the image are the genuine
(`ElGen`) fresh assembly of its source statement over a table `t'` with `t'.val x = E (num id' x)` for all `x`.
So within the one run every reference to a name — before or after its definition, before or after an `.include`, in any
file of the tree — is assembled over the one value `E` gives it, and those bytes are in the image.  (A table that gives `x`
another value is refuted by the `MRun`/`EnvRel` clauses: example below.)  The Layout-level theorems
`forward_equals_backward`, … of Props/C05.lean are about `Layout.Stmt`, where the final value is an INPUT. -/
theorem label_value_position_independent_asm {num : Nat → Bytes → Nat} (hinj : NumInj num) (fs : Bytes → Option Bytes)
    (main data : Bytes) (hfs : fs main = some data) (hglob : XferProject fs maxDepth [] main data) (o : Outcome)
    (h : run fs main = .done o) (hs : o.success = true) :
    ∃ (els : List Element) (perr : Option ParseErr) (p : List Layout.Stmt) (E : Layout.Env) (t : Table) (n : Nat)
      (A : List (Bytes × Int)) (im' : Layout.Img) (la : Layout.State),
      parseFile data = .ok (els, perr) ∧ EnvRel (num 1) t E ∧ Table.NoDef t ∧
      XFlatS num fs encoder E 0 1 main t 2 none els p n ∧
      MRun ({} : Layout.State) (p ++ aliases (num 0) (num 1) A) la ∧ la.env = E ∧
      Layout.Ref.pass2 none [] (p ++ aliases (num 0) (num 1) A) = some im' ∧ (∀ a, Map.abs o.image a = im'.get a) ∧
      (∀ q s r, p ++ aliases (num 0) (num 1) A = q ++ s :: r → s.emits = true →
        (∃ c, Layout.Ref.cursorAfter none q = some c ∧
          ∀ i, i < (Layout.Ref.bytes c s).length → Map.abs o.image (c + i) = (Layout.Ref.bytes c s)[i]?) ∧
        ∃ id' path' t' c' el, s = absStmt (num id') fs encoder path' t' c' el ∧ isInclude el = false ∧
          ElGen fs encoder path' t' c' el ∧ ∀ x, t'.val x = E.get (num id' x)) ∧
      (Layout.NoLabelAtTop (p ++ aliases (num 0) (num 1) A) →
        Layout.Ref.pass1 none [] (p ++ aliases (num 0) (num 1) A) = some E) := by
  obtain ⟨els, perr, p, E, t, n, A, im', la, h1, h2, hnd, h3, hrun, hla, _, _, _, _, h8, h9, h10, h11⟩ :=
    layout_refines_asm_scope_strong hinj fs main data hfs hglob o h hs
  refine ⟨els, perr, p, E, t, n, A, im', la, h1, h2, hnd, h3, hrun, hla, h8, h9, fun q s r hp hse => ⟨?_, ?_⟩, h11⟩
  · obtain ⟨x, hx, hb⟩ := h10 q s r hp hse
    exact ⟨x, hx, fun i hi => by rw [h9]; exact hb i hi⟩
  · obtain ⟨id', path', t', c', el, g1, g2, g3, g4⟩ := h3.emitting h2 hp hse
    exact ⟨id', path', t', c', el, g4, g2, g3, fun x => (g1 x).symm⟩

/-- every statement of a single file is genuine over the table `t` (the reference cursor threaded as in `abstract`) -/
def AllGen (num : Bytes → Nat) (fs : Bytes → Option Bytes) (enc : Encoder) (path : Bytes) (t : Table) :
    Option Nat → List Element → Prop
  | _, [] => True
  | c, el :: els => ElGen fs enc path t c el ∧
      AllGen num fs enc path t (Layout.Ref.next c (absStmt num fs enc path t c el)) els

theorem Xfer.XFlatS.single {num : Nat → Bytes → Nat} {fs : Bytes → Option Bytes} {enc : Encoder} {E : Layout.Env} {pid id : Nat}
    {path : Bytes} {t : Table} {nxt : Nat} {c : Option Nat} {els : List Element} {p : List Layout.Stmt} {nxt' : Nat}
    (h : XFlatS num fs enc E pid id path t nxt c els p nxt') (hok : ∀ el ∈ els, okEl el = true) :
    p = abstract (num id) fs enc path t c els ∧ AllGen (num id) fs enc path t c els := by
  induction h with
  | nil => exact ⟨rfl, trivial⟩
  | stmt _ _ _ _ hg _ ih =>
    obtain ⟨e1, e2⟩ := ih (fun x hx => hok x (List.mem_cons_of_mem _ hx))
    exact ⟨by simp only [abstract, e1], hg, e2⟩
  | @pubs _ _ _ _ _ _ el _ _ _ hp _ _ =>
    have := okEl_iff4.mp (hok el List.mem_cons_self)
    rcases hp with hp | hp
    · rw [this.2.1] at hp; cases hp
    · rw [this.2.2.1] at hp; cases hp
  | @imp _ _ _ _ _ _ el _ _ _ _ _ hi _ _ _ =>
    have := okEl_iff4.mp (hok el List.mem_cons_self)
    rw [importName_none this.2.2.2] at hi; cases hi
  | @inc _ _ _ _ _ _ el _ _ _ _ _ _ _ _ _ _ _ ht _ _ _ _ _ _ _ _ =>
    have := okEl_iff4.mp (hok el List.mem_cons_self)
    rw [incTarget_none this.1] at ht; cases ht

theorem elsOk_of_okEl (fs : Bytes → Option Bytes) (path : Bytes) (proj : List Bytes → Bytes → Bytes → Prop) (avail : List Bytes)
    (els : List Element) (seen : List Bytes) (h : ∀ el ∈ els, okEl el = true) : ElsOk fs path proj avail seen els :=
  elsOk_of_okInc fs path proj avail els seen fun el hel =>
    ⟨(okInc_of_okEl (h el hel)).1, fun p' d' ht => by rw [incTarget_none (okInc_of_okEl (h el hel)).2] at ht; cases ht⟩

theorem filterMap_pubName_nil (els : List Element) (h : ∀ el ∈ els, okEl el = true) : els.filterMap pubName = [] :=
  filterMap_pubName_okInc els fun el hel => (okInc_of_okEl (h el hel)).1

/-- C05 (pipeline, ONE file, STRONG form of `layout_refines_asm_full` / `every_statement_placed_asm_full`).  For a single-file
project (`SingleFileFull`) and any jointly injective numbering (`num 1` numbers the file's names): a successful run has a
final table `t₂` with no unvalued entry, `abstract (num 1) … t₂ none els` is executed by the layout core (`Layout.steps`)
into a state whose symbol table IS `t₂` (`EnvRel`, unconditionally — also when a label stands at the cursor 2^32, where
`Ref.pass1` is undefined), EVERY statement is genuine over `t₂` (`AllGen`: the fresh assembly completes and is encoded, every
`.du*` value is in range, …, so no reference byte is a fallback), the image is the `pass2` image with every emitting
statement's bytes at its address, and under `NoLabelAtTop` the reference's pass-1 table is that symbol table. -/
theorem layout_refines_asm_full_strong {num : Nat → Bytes → Nat} (hinj : NumInj num) (fs : Bytes → Option Bytes)
    (main data : Bytes) (hfs : fs main = some data) (els : List Element) (perr : Option ParseErr)
    (hparse : parseFile data = .ok (els, perr)) (hsf : SingleFileFull els) (o : Outcome) (h : run fs main = .done o)
    (hs : o.success = true) :
    ∃ (t₂ : Table) (E : Layout.Env) (la : Layout.State) (im' : Layout.Img),
      Table.NoDef t₂ ∧ EnvRel (num 1) t₂ E ∧ AllGen (num 1) fs encoder main t₂ none els ∧
      MRun ({} : Layout.State) (abstract (num 1) fs encoder main t₂ none els) la ∧ la.env = E ∧
      Layout.Ref.pass2 none [] (abstract (num 1) fs encoder main t₂ none els) = some im' ∧
      (∀ a, Map.abs o.image a = im'.get a) ∧
      (∀ q s r, abstract (num 1) fs encoder main t₂ none els = q ++ s :: r → s.emits = true →
        ∃ x, Layout.Ref.cursorAfter none q = some x ∧
          ∀ i, i < (Layout.Ref.bytes x s).length → Map.abs o.image (x + i) = (Layout.Ref.bytes x s)[i]?) ∧
      (Layout.NoLabelAtTop (abstract (num 1) fs encoder main t₂ none els) →
        Layout.Ref.pass1 none [] (abstract (num 1) fs encoder main t₂ none els) = some E) := by
  have hproj : XferProject fs maxDepth [] main data := by
    -- `XferProject` recurses on the depth: `maxDepth` = 64 written as a successor
    have hmd : maxDepth = 63 + 1 := rfl
    rw [hmd]
    intro els' perr' hp'
    rw [hparse] at hp'; cases hp'
    exact elsOk_of_okEl fs main _ [] els [] hsf
  obtain ⟨els', perr', p, E, t, n, A, im', la, h1, h2, hnd, h3, hrun, hla, h4, _, _, _, h8, h9, h10, h11⟩ :=
    layout_refines_asm_scope_strong hinj fs main data hfs hproj o h hs
  rw [hparse] at h1; cases h1
  have hA : A = [] := by
    have := h4; rw [filterMap_pubName_nil els hsf] at this
    exact List.map_eq_nil_iff.mp this
  subst hA
  obtain ⟨hp, hgen⟩ := h3.single hsf
  simp only [aliases, List.map_nil, List.append_nil] at hrun h8 h10 h11
  subst hp
  exact ⟨t, E, la, im', hnd, h2, hgen, hrun, hla, h8, h9,
    fun q s r hq hse => by
      obtain ⟨x, hx, hb⟩ := h10 q s r hq hse
      exact ⟨x, hx, fun i hi => by rw [h9]; exact hb i hi⟩, h11⟩

theorem xferProject_of_global (fs : Bytes → Option Bytes) : ∀ (fuel : Nat) (avail : List Bytes) (path data : Bytes),
    GlobalProject fs fuel path data → XferProject fs fuel avail path data := by
  intro fuel
  induction fuel with
  | zero => intro _ _ _ _; trivial
  | succ fuel ih =>
    intro avail path data h els perr hp
    obtain ⟨hd, hels⟩ := h els perr hp
    exact elsOk_of_declOk fs path _ avail els [] [] (fun el hel => ⟨(hels el hel).1, fun p' d' ht a => ih a p' d' ((hels el hel).2 p' d' ht)⟩)
      hd (fun _ hx => hx)

/-- Stage 2 from stage 3: under the hypotheses of `layout_refines_asm_global_partial` (no `.import/.export`) the stage-3
theorem applies, and the published names are the operands of the main file's `.global` statements. -/
theorem layout_refines_asm_global_of_scope {num : Nat → Bytes → Nat} (hinj : NumInj num) (fs : Bytes → Option Bytes)
    (main data : Bytes) (hfs : fs main = some data) (hglob : GlobalProject fs maxDepth main data) (o : Outcome)
    (h : run fs main = .done o) (hs : o.success = true) :
    ∃ (els : List Element) (perr : Option ParseErr) (p : List Layout.Stmt) (E : Layout.Env) (t : Table) (n : Nat)
      (A : List (Bytes × Int)) (im' : Layout.Img),
      parseFile data = .ok (els, perr) ∧
      EnvRel (num 1) t E ∧ XFlat num fs encoder E 0 1 main t 2 none els p n ∧
      A.map Prod.fst = els.filterMap globalName ∧ (∀ xv ∈ A, t.val xv.1 = some xv.2) ∧
      EnvRel (num 0) (pub [] A) E ∧
      Layout.Ref.pass2 none [] (p ++ aliases (num 0) (num 1) A) = some im' ∧ (∀ a, Map.abs o.image a = im'.get a) ∧
      (Layout.NoLabelAtTop (p ++ aliases (num 0) (num 1) A) →
        Layout.Ref.pass1 none [] (p ++ aliases (num 0) (num 1) A) = some E) := by
  obtain ⟨els, perr, p, E, t, n, A, im', h1, h2, h3, h4, h5, h6, _, h8, h9, _, h11⟩ :=
    layout_refines_asm_scope_partial hinj fs main data hfs (xferProject_of_global fs _ [] main data hglob) o h hs
  refine ⟨els, perr, p, E, t, n, A, im', h1, h2, h3, ?_, h5, h6, h8, h9, h11⟩
  rw [h4]
  have hmd : maxDepth = 63 + 1 := rfl
  rw [hmd] at hglob
  obtain ⟨_, hels⟩ := hglob els perr h1
  exact filterMap_pubName_of_okGlob els (fun el hel => (hels el hel).1)

/-- the side condition of stage 1 (`.include` with file-local names) is an instance of the side condition of stage 3: the
strong theorems apply to every project covered by `layout_refines_asm_includes_partial` -/
theorem xferProject_of_local (fs : Bytes → Option Bytes) : ∀ (fuel : Nat) (avail : List Bytes) (path data : Bytes),
    LocalProject fs fuel path data → XferProject fs fuel avail path data := by
  intro fuel
  induction fuel with
  | zero => intro _ _ _ _; trivial
  | succ fuel ih =>
    intro avail path data h els perr hp
    exact elsOk_of_okInc fs path _ avail els []
      (fun el hel => ⟨(h els perr hp el hel).1, fun p' d' ht a => ih a p' d' ((h els perr hp el hel).2 p' d' ht)⟩)

def elsOkB (fs : Bytes → Option Bytes) (path : Bytes) (projB : List Bytes → Bytes → Bytes → Bool) (avail : List Bytes) :
    List Bytes → List Element → Bool
  | _, [] => true
  | seen, el :: els =>
    (if isGlobal el then (match globalName el with | some x => seen.contains x | none => false) else true) &&
    (if isImport el then (match importName el with | some x => avail.contains x | none => false) else true) &&
    (match incTarget fs path el with | some (p', d') => projB seen p' d' | none => true) &&
    elsOkB fs path projB avail (xNames fs path el ++ seen) els

def xferProjectB (fs : Bytes → Option Bytes) : Nat → List Bytes → Bytes → Bytes → Bool
  | 0, _, _, _ => true
  | fuel + 1, avail, path, data =>
    match parseFile data with
    | .ok (els, _) => elsOkB fs path (xferProjectB fs fuel) avail [] els
    | .stop _ => true

theorem elsOk_of_B (fs : Bytes → Option Bytes) (path : Bytes) (projB : List Bytes → Bytes → Bytes → Bool)
    (proj : List Bytes → Bytes → Bytes → Prop) (hp : ∀ a p d, projB a p d = true → proj a p d) (avail : List Bytes) :
    ∀ (els : List Element) (seen : List Bytes), elsOkB fs path projB avail seen els = true → ElsOk fs path proj avail seen els := by
  intro els
  induction els with
  | nil => intro _ _; trivial
  | cons el els ih =>
    intro seen h
    simp only [elsOkB, Bool.and_eq_true] at h
    obtain ⟨⟨⟨h1, h2⟩, h3⟩, h4⟩ := h
    refine ⟨fun hg => ?_, fun hm => ?_, fun p' d' ht => ?_, ih _ h4⟩
    · rw [if_pos hg] at h1
      cases hgn : globalName el with
      | none => rw [hgn] at h1; cases h1
      | some x => rw [hgn] at h1; exact ⟨x, rfl, by simpa using h1⟩
    · rw [if_pos hm] at h2
      cases hgn : importName el with
      | none => rw [hgn] at h2; cases h2
      | some x => rw [hgn] at h2; exact ⟨x, rfl, by simpa using h2⟩
    · rw [ht] at h3; exact hp _ _ _ h3

theorem xferProject_of_B (fs : Bytes → Option Bytes) : ∀ (fuel : Nat) (avail : List Bytes) (path data : Bytes),
    xferProjectB fs fuel avail path data = true → XferProject fs fuel avail path data := by
  intro fuel
  induction fuel with
  | zero => intro _ _ _ _; trivial
  | succ fuel ih =>
    intro avail path data h els perr hp
    simp only [xferProjectB, hp] at h
    exact elsOk_of_B fs path _ _ (fun a p d => ih a p d) avail els [] h

/-- three files: `m` defines `k` and includes `i`; `i` imports `k` (DOWN), uses it, includes `j` and re-exports `j`'s `z` (UP);
`j` imports `k` from `i` (down a second level), defines `z` and exports it; `m` uses `z` ABOVE and BELOW its `.include` -/
def exXMain : Bytes := bytesOf ".addr 16;\n.const k, 5;\n.du16 z;\n.include \"i\";\n.du16 z;\n"
def exXMid : Bytes := bytesOf ".import k;\n.du8 k;\n.include \"j\";\n.export z;\n"
def exXLeaf : Bytes := bytesOf ".import k;\nz:\n.du8 k + 1;\n.export z;\n"
def exXFs : Bytes → Option Bytes := fun p =>
  if p = bytesOf "m" then some exXMain else if p = bytesOf "i" then some exXMid
  else if p = bytesOf "j" then some exXLeaf else none

theorem exXProject_ok : XferProject exXFs maxDepth [] (bytesOf "m") exXMain :=
  xferProject_of_B _ _ _ _ _ (by decide +kernel)

/-- `Asm.run` on the project: success, no diagnostic; `z` = 19 (the label in `j`) above and below the `.include` in `m`,
`k` = 5 in `i`, `k + 1` = 6 in `j` -/
theorem exXProject_run : (match run exXFs (bytesOf "m") with
    | .done o => o.success && o.diags.isEmpty && o.image == [(16, [0x13, 0x00, 0x05, 0x06, 0x13, 0x00])]
    | _ => false) = true := by decide +kernel

/-- the hypotheses of `layout_refines_asm_scope_partial` hold of the project, so its conclusion does -/
example : ∃ o, run exXFs (bytesOf "m") = .done o ∧ o.success = true ∧
    ∃ (els : List Element) (perr : Option ParseErr) (p : List Layout.Stmt) (E : Layout.Env) (t : Table) (n : Nat)
      (A : List (Bytes × Int)) (im' : Layout.Img),
      parseFile exXMain = .ok (els, perr) ∧ XFlat exNum2 exXFs encoder E 0 1 (bytesOf "m") t 2 none els p n ∧
      Layout.Ref.pass2 none [] (p ++ aliases (exNum2 0) (exNum2 1) A) = some im' ∧ ∀ a, Map.abs o.image a = im'.get a := by
  have hr := exXProject_run
  cases hrun : run exXFs (bytesOf "m") with
  | done o =>
    rw [hrun] at hr
    simp only [Bool.and_eq_true] at hr
    obtain ⟨els, perr, p, E, t, n, A, im', h1, _, h3, _, _, _, _, h8, h9, _⟩ :=
      layout_refines_asm_scope_partial exNum2_inj exXFs (bytesOf "m") exXMain rfl exXProject_ok o hrun hr.1.1
    exact ⟨o, rfl, hr.1.1, els, perr, p, E, t, n, A, im', h1, h3, h8, h9⟩
  | noMain => rw [hrun] at hr; cases hr
  | panic => rw [hrun] at hr; cases hr
  | fuel => rw [hrun] at hr; cases hr
  | loop => rw [hrun] at hr; cases hr

/-- the flattened program of the project (main: `k` = 10, `z` = 11; `i`: `k` = 20, `z` = 21; `j`: `k` = 30, `z` = 31) with the
import aliases (`20 := 10`, `30 := 20`) at the `.import` statements and the publication aliases (`21 := 31` behind `j`,
`11 := 21` behind `i`), and its reference layout: the image `Asm.run` produces -/
example : Layout.Ref.layout [.addr 16, .const 10 [] 5, .emit 2 [11] [0x13, 0x00], .const 20 [10] 5, .emit 1 [20] [0x05],
        .const 30 [20] 5, .label 31, .emit 1 [30] [0x06], .const 21 [31] 19, .const 11 [21] 19, .emit 2 [11] [0x13, 0x00]] =
      some [(20, 0x13), (21, 0x00), (19, 0x06), (18, 0x05), (16, 0x13), (17, 0x00)] := by rfl

/-- the strong theorem applies to the three-file project: every statement genuine, `E` the layout core's own table -/
example : ∃ o, run exXFs (bytesOf "m") = .done o ∧
    ∃ (els : List Element) (p : List Layout.Stmt) (E : Layout.Env) (t : Table) (n : Nat),
      XFlatS exNum2 exXFs encoder E 0 1 (bytesOf "m") t 2 none els p n ∧ Table.NoDef t := by
  have hr := exXProject_run
  cases hrun : run exXFs (bytesOf "m") with
  | done o =>
    rw [hrun] at hr
    simp only [Bool.and_eq_true] at hr
    obtain ⟨els, _, p, E, t, n, _, _, _, _, _, h3, h4, _⟩ :=
      layout_refines_asm_scope_strong exNum2_inj exXFs (bytesOf "m") exXMain rfl exXProject_ok o hrun hr.1.1
    exact ⟨o, rfl, els, p, E, t, n, h4, h3⟩
  | noMain => rw [hrun] at hr; cases hr
  | panic => rw [hrun] at hr; cases hr
  | fuel => rw [hrun] at hr; cases hr
  | loop => rw [hrun] at hr; cases hr

/-- a label at the cursor 2^32 (`NoLabelAtTop` fails, `Ref.pass1` is undefined), referenced from another
region: the run succeeds (`x` = 0xFFFFFFFF, saturated) and the strong theorem still pins the symbol table -/
def exTopText : Bytes := bytesOf ".addr 0xFFFFFFFF;\n.du8 0;\nx:\n.addr 0;\n.du32 x;\n"
def exTopFs : Bytes → Option Bytes := fun p => if p = bytesOf "m" then some exTopText else none

set_option maxRecDepth 100000 in
example : XferProject exTopFs maxDepth [] (bytesOf "m") exTopText ∧
    (match run exTopFs (bytesOf "m") with
      | .done o => o.success && o.diags.isEmpty && o.image == [(0, [0xFF, 0xFF, 0xFF, 0xFF]), (0xFFFFFFFF, [0x00])]
      | _ => false) = true :=
  ⟨xferProject_of_B _ _ _ _ _ (by decide +kernel), by decide +kernel⟩

/-- `.addr 16; x: ; .du8 x`, parsed -/
def exPinEls : List Element :=
  [⟨1, 1, .directive (bytesOf "addr") (.cons (.const 16) .nil)⟩,
   ⟨2, 1, .label [120]⟩,
   ⟨3, 1, .directive (bytesOf "du8") (.cons (.ident [120]) .nil)⟩]

/-- the clauses `XFlatS`, `MRun {} p la`, `la.env = E`, `EnvRel (num 1) t E` PIN the table: for the program
`.addr 16; x: ; .du8 x` every `t` that satisfies them gives `x` the value 16 — -/
theorem exPin_value {num : Nat → Bytes → Nat} (fs : Bytes → Option Bytes) (E : Layout.Env) (t : Table)
    (p : List Layout.Stmt) (n : Nat) (la : Layout.State)
    (hf : XFlatS num fs encoder E 0 1 (bytesOf "m") t 2 none exPinEls p n) (hrun : MRun ({} : Layout.State) p la)
    (hla : la.env = E) (hE : EnvRel (num 1) t E) : t.val [120] = some 16 := by
  have hp : p = [.addr 16, .label (num 1 [120]), .emit 1 [num 1 [120]] (duFinal t .u8 (.ident [120]))] := by
    rw [(hf.single (by decide)).1]
    rfl
  subst hp
  have hwf : ∀ s ∈ [Layout.Stmt.addr 16, .label (num 1 [120]), .emit 1 [num 1 [120]] (duFinal t .u8 (.ident [120]))],
      s.wf = true := by
    intro s hs
    simp only [List.mem_cons, List.not_mem_nil, or_false] at hs
    rcases hs with rfl | rfl | rfl
    · rfl
    · rfl
    · simp [Layout.Stmt.wf, duFinal_length, DU.size]
  have rel0 : Layout.Rel ({} : Layout.State) ([] ++ ({} : Layout.State).tasks) none [] := Layout.rel_init
  obtain ⟨_, _, _, p1⟩ := Layout.mrun_rel hrun [] none [] rel0 hwf
  have hnt : Layout.NoTop none [Layout.Stmt.addr 16, .label (num 1 [120]),
      .emit 1 [num 1 [120]] (duFinal t .u8 (.ident [120]))] := by
    intro x m hx
    simp [Layout.Ref.trace, Layout.Ref.next] at hx
    obtain ⟨rfl, _⟩ := hx
    decide
  have := p1 hnt []
  simp [Layout.Ref.pass1, Layout.Env.get, Layout.top] at this
  have hx := hE [120]
  rw [← hla, ← this] at hx
  simp [Layout.Env.get] at hx
  exact hx.symm

/-- — so a table with `t.val x = some 7` is refuted -/
example {num : Nat → Bytes → Nat} (fs : Bytes → Option Bytes) (E : Layout.Env) (t : Table)
    (p : List Layout.Stmt) (n : Nat) (la : Layout.State) :
    ¬ (XFlatS num fs encoder E 0 1 (bytesOf "m") t 2 none exPinEls p n ∧ MRun ({} : Layout.State) p la ∧
        la.env = E ∧ EnvRel (num 1) t E ∧ t.val [120] = some 7) := by
  rintro ⟨hf, hrun, hla, hE, h7⟩
  have := exPin_value fs E t p n la hf hrun hla hE
  rw [this] at h7
  cases h7

end Trion.Asm
