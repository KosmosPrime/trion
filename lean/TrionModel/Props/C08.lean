import TrionModel.Lemmas.SimpSound
/-!
# C08 — an expression's value does not depend on when its symbols become known

Model: `Trion.Simp.neutralizeRaw / neutralize / simplifyRaw / simplify / evaluate`
(`Model/Simp.lean`), mirroring `src/asm/simplify/mod.rs` and `eval.rs`, which have merge arms for `& | ^` (F15 in
DESIGN.md), no neutral element for `%` (F16) and collapse a double modulo by magnitude (F17).
-/
namespace Trion.Simp
open Trion

/-- C08.a  `simplify` never panics: neither `assert!(.., "missed simplification ..")` of `search`
can fire, for any tree (all 18 node kinds, any nesting). -/
theorem simp_no_panic (a : Arg) : simplify a ≠ .panic := by
  rw [(simplify_eq_evaluate_both (fun _ => false)).1, ← evaluateE_is_evaluate]
  cases h : evaluateE deferAll (fun _ => false) a with
  | nosuch n t => exact absurd h (evaluateE_deferAll_not_nosuch _ a n t)
  | panic => exact absurd h ((evaluateE_ne_panic_both _ _).1 a)
  | _ => simp [EvE.toT, EvT.toERes, ERes.toRes]

/-- C08.a'  `evaluate` never panics, for any constant table and register predicate. -/
theorem eval_no_panic (lk : Bytes → Lookup) (isReg : Bytes → Bool) (a : Arg) :
    evaluate lk isReg a ≠ .panic := evaluate_ne_panic lk isReg a

/-- C08.b  (`chain_one_const`, in the form the `assert!`s need)  Every tree that `simplify` or
`evaluate` returns satisfies `nb`: no binary node has two constant operands and no negation has a
constant operand — at every depth, inside addresses, sequences and function arguments as well.  Hence
in every operator chain `search` walks, the node it stops at holds exactly one constant. -/
theorem chain_one_const (a : Arg) (c : Bool) (a' : Arg) (h : simplify a = .ok (c, a')) : nb a' = true := by
  obtain ⟨ev, he, _⟩ := (simplify_ok_iff (fun _ => false)).1 h
  exact (evaluateE_nb_both _ _).1 a ev a' he

theorem chain_one_const_eval (lk : Bytes → Lookup) (isReg : Bytes → Bool) (a : Arg) (ev : Ev) (a' : Arg)
    (h : evaluate lk isReg a = .ok (ev, a')) : nb a' = true :=
  (evaluateE_nb_both lk isReg).1 a ev a' (evaluate_ok_iff.1 h)

/-- C08.b'  … and on such a tree `search` cannot hit its `assert!`, whatever family and inversion. -/
theorem search_no_assert (a : Arg) (h : nb a = true) (ty : BinOp) (i : Bool) : findC ty a i ≠ .panic :=
  findC_ne_panic ty a h i

/-- the invariant is what the asserts need and not more: a tree with a two-constant node makes `search`
panic (this is what a missing merge arm or a skipped child simplification would cause) -/
example : findC .add (.bin .add (.bin .add (.const 1) (.const 2)) (.ident [120])) false = .panic := rfl

/-- non-vacuity: a tree on which both `search` calls find a constant and the merge fires -/
example :
    simplify (.bin .sub (.bin .add (.ident [120]) (.const 2)) (.bin .sub (.ident [121]) (.const 3)))
      = .ok (true, .bin .sub (.bin .add (.ident [120]) (.const 5)) (.ident [121])) := rfl

/-! ## the value does not depend on the order

`valZ ρ a` is the value of `a` over the ideal integers (exact `+ - *`, truncating `/ %`, machine
bit operators on `i64` operands); `valC ρ a` is the checked value: what the code computes when every
identifier is replaced by its value first — `none` as soon as a leaf or an intermediate result is not an
`i64`, a divisor is zero or a shift count is outside `0..63` (theorem `evaluate_const_valC`, Lemmas/SimpSound.lean, ties
it to `evaluate`; C07 ties it to the arithmetic specification). -/

/-- C08.c  `simplify` preserves the ideal value of every expression that has one: every rewrite
(neutral elements, `±` normalisation, negation push-down, modulo collapse, direct folding, and the
merge of two constants across an additive, multiplicative, division or bitwise chain followed by the
deep re-neutralisation) is an identity over the integers. -/
theorem simp_sound_ideal (ρ : Env) (a : Arg) (c : Bool) (a' : Arg) (v : Int)
    (h : simplify a = .ok (c, a')) (hv : valZ ρ a = some v) : valZ ρ a' = some v :=
  simplify_val ρ a c a' v h hv

/-- C08.d  (`simp_sound`)  Simplifying first and substituting later gives the same value as substituting
everything first, whenever both produce a value — for every tree, every environment. -/
theorem simp_sound (ρ : Env) (a : Arg) (c : Bool) (a' : Arg) (v w : Int)
    (h : simplify a = .ok (c, a')) (hv : valC ρ a = some v) (hw : valC ρ a' = some w) : v = w := by
  have h1 := simplify_val ρ a c a' v h (valC_sub_valZ ρ a hv)
  have h2 := valC_sub_valZ ρ a' hw
  rw [h1] at h2; exact Option.some.inj h2

/-- C08.e  The same for partial evaluation: `evaluate` with a table that knows only some of the names
(the others deferred or registers) preserves the value under every completion `ρ` of the table. -/
theorem eval_sound (lk : Bytes → Lookup) (isReg : Bytes → Bool) (ρ : Env) (hρ : consistent lk isReg ρ)
    (a : Arg) (ev : Ev) (a' : Arg) (v w : Int)
    (h : evaluate lk isReg a = .ok (ev, a')) (hv : valC ρ a = some v) (hw : valC ρ a' = some w) : v = w := by
  have h1 := evaluate_val lk isReg ρ hρ a ev a' v h (valC_sub_valZ ρ a hv)
  have h2 := valC_sub_valZ ρ a' hw
  rw [h1] at h2; exact Option.some.inj h2

/-- C08.f  (`eval_commutes`)  Evaluate `a` while only the table `lk₁` is known, later evaluate the
residual tree with `lk₂`: if that yields the number `v`, and evaluating `a` directly with a table
`lk` that contains both yields the number `w`, then `v = w`. -/
theorem eval_commutes (lk₁ lk₂ lk : Bytes → Lookup) (isReg : Bytes → Bool)
    (h₁ : ∀ s v, lk₁ s = .found v → lk s = .found v) (h₂ : ∀ s v, lk₂ s = .found v → lk s = .found v)
    (hT : tableOk lk) (a : Arg) (hlit : litsOk a = true)
    (ev₁ ev₂ ev : Ev) (a₁ : Arg) (v w : Int)
    (e₁ : evaluate lk₁ isReg a = .ok (ev₁, a₁))
    (e₂ : evaluate lk₂ isReg a₁ = .ok (ev₂, .const v))
    (e : evaluate lk isReg a = .ok (ev, .const w)) : v = w :=
  numbers_agree h₁ h₂ hT hlit (.inl ⟨ev₁, evaluate_ok_iff.1 e₁⟩) (evaluate_ok_iff.1 e₂) (evaluate_ok_iff.1 e)

/-- C08.g  `simplify` first (no name known), `evaluate` on its result later: the number is the one the direct `evaluate` gives.
(`simplify` is a public function of the crate that no caller inside it uses; arm6m and the directives call `evaluate` only.) -/
theorem simp_then_eval (lk : Bytes → Lookup) (isReg : Bytes → Bool) (hT : tableOk lk)
    (a : Arg) (hlit : litsOk a = true) (c : Bool) (ev₂ ev : Ev) (a₁ : Arg) (v w : Int)
    (e₁ : simplify a = .ok (c, a₁))
    (e₂ : evaluate lk isReg a₁ = .ok (ev₂, .const v))
    (e : evaluate lk isReg a = .ok (ev, .const w)) : v = w := by
  obtain ⟨ev₁, he, _⟩ := (simplify_ok_iff isReg).1 e₁
  exact numbers_agree (lk₁ := deferAll) (fun _ _ h => by cases h) (fun _ _ h => h) hT hlit (.inl ⟨ev₁, he⟩)
    (evaluate_ok_iff.1 e₂) (evaluate_ok_iff.1 e)

/-- C08.h  What "produce a value" means: a constant delivered by `evaluate` is the checked value of the
expression under the table's environment. -/
theorem eval_const_is_value (lk : Bytes → Lookup) (isReg : Bytes → Bool) (hT : tableOk lk)
    (a : Arg) (hlit : litsOk a = true) (ev : Ev) (w : Int)
    (e : evaluate lk isReg a = .ok (ev, .const w)) : valC (envOf lk) a = some w :=
  evaluate_const_valC lk isReg (envOf lk) (consistent_of_sub isReg (fun _ _ h => h)) hT a ev w hlit e

theorem evaluateT_is_evaluate (lk : Bytes → Lookup) (isReg : Bytes → Bool) (a : Arg) :
    (evaluateT lk isReg a).toERes = evaluate lk isReg a := (evaluateT_proj_both lk isReg).1 a

/-- C08.i  Constants defined *below* the statement in the same file: the first `evaluate` stops with
`NoSuchVariable` and leaves a partly evaluated tree behind (`evaluateT … = .nosuch n a₁`; `evaluateT`
is `evaluate` plus that tree, theorem `evaluateT_is_evaluate`); the retry on that tree with the complete
table gives the same number as evaluating the original expression with the complete table. -/
theorem retry_commutes (lk₁ lk : Bytes → Lookup) (isReg : Bytes → Bool)
    (h₁ : ∀ s v, lk₁ s = .found v → lk s = .found v)
    (hT : tableOk lk) (a : Arg) (hlit : litsOk a = true)
    (n : Bytes) (ev₂ ev : Ev) (a₁ : Arg) (v w : Int)
    (e₁ : evaluateT lk₁ isReg a = .nosuch n a₁)
    (e₂ : evaluate lk isReg a₁ = .ok (ev₂, .const v))
    (e : evaluate lk isReg a = .ok (ev, .const w)) : v = w :=
  numbers_agree h₁ (fun _ _ h => h) hT hlit (.inr ⟨n, evaluateT_nosuch_iff.1 e₁⟩) (evaluate_ok_iff.1 e₂)
    (evaluate_ok_iff.1 e)

def exX : Arg := .ident [120]
def exTblX (v : Int) : Bytes → Lookup := fun s => if s = [120] then .found v else .notFound
def exTblDefer : Bytes → Lookup := fun s => if s = [120] then .deferred else .notFound

/-- `eval_commutes` is exercised: `(x + 2) - (x - 3)` deferred, then `x = 10`, against direct evaluation -/
example :
    evaluate exTblDefer (fun _ => false) (.bin .sub (.bin .add exX (.const 2)) (.bin .sub exX (.const 3)))
      = .ok (⟨true, some [120]⟩, .bin .sub (.bin .add exX (.const 5)) exX) ∧
    evaluate (exTblX 10) (fun _ => false) (.bin .sub (.bin .add exX (.const 5)) exX) = .ok (⟨true, none⟩, .const 5) ∧
    evaluate (exTblX 10) (fun _ => false) (.bin .sub (.bin .add exX (.const 2)) (.bin .sub exX (.const 3)))
      = .ok (⟨true, none⟩, .const 5) := ⟨rfl, rfl, rfl⟩

/-- `retry_commutes` is exercised: `(2 + 3) * y + x` with only `y` known stops at `x` with `5 * y ↦ 20` done -/
example :
    evaluateT (fun s => if s = [121] then .found 4 else .notFound) (fun _ => false)
      (.bin .add (.bin .mul (.bin .add (.const 2) (.const 3)) (.ident [121])) exX)
      = .nosuch [120] (.bin .add (.const 20) exX) := rfl

/-- F16: `x % 1` is not rewritten to `x`; both orders give 0 for `x = 7` -/
example :
    simplify (.bin .mod exX (.const 1)) = .ok (false, .bin .mod exX (.const 1)) ∧
    evaluate (exTblX 7) (fun _ => false) (.bin .mod exX (.const 1)) = .ok (⟨true, none⟩, .const 0) := ⟨rfl, rfl⟩

/-- F17: `(x % -5) % 3` is not collapsed (|−5| > |3|), `(x % 10) % 11` is -/
example :
    simplify (.bin .mod (.bin .mod exX (.const (-5))) (.const 3))
      = .ok (false, .bin .mod (.bin .mod exX (.const (-5))) (.const 3)) ∧
    simplify (.bin .mod (.bin .mod exX (.const 10)) (.const 11)) = .ok (true, .bin .mod exX (.const 10)) ∧
    evaluate (exTblX 4) (fun _ => false) (.bin .mod (.bin .mod exX (.const (-5))) (.const 3))
      = .ok (⟨true, none⟩, .const 1) := ⟨rfl, rfl, rfl⟩

/-- F15: the bitwise merge arms -/
example :
    simplify (.bin .bor (.bin .bor exX (.const 3)) (.const 4)) = .ok (true, .bin .bor exX (.const 7)) ∧
    simplify (.bin .bxor (.bin .bxor exX (.const 3)) (.const 5)) = .ok (true, .bin .bxor exX (.const 6)) := ⟨rfl, rfl⟩

/-- the division spine: `(x / 3) / -2 ↦ x / -6`, `(100 / x) / 7 ↦ 14 / x` -/
example :
    simplify (.bin .div (.bin .div exX (.const 3)) (.const (-2))) = .ok (true, .bin .div exX (.const (-6))) ∧
    simplify (.bin .div (.bin .div (.const 100) exX) (.const 7)) = .ok (true, .bin .div (.const 14) exX) := ⟨rfl, rfl⟩

end Trion.Simp
