import TrionModel.Props.C08Asm
import TrionModel.Lemmas.SimpStableDec
/-!
# C08 (statement level, BYTES and DIAGNOSED-OR-NOT) — the order of definition does not change what is emitted

The property at the level it speaks about — does the statement assemble, and to which bytes: a deferred instruction re-run
over the final table `t₂ ⊇ t₁` completes with `i` iff the fresh assembly over `t₂` does (`build_retry_completed`,
Props/C08Asm.lean), and `.du*` writes the same bytes (`du_bytes_order_independent`) — for every operand tree, because `evaluate` is
idempotent (Props/C08Full.lean: `evaluate_idempotent`; the model follows the repairs F29, F30 of /repo — K4, K5 in
props/C08.json —: `neutralize_raw` swaps `-(l - r)` and `0 - (l - r)` to `r - l` before its passes).

The instruction theorems here carry side conditions that no proof uses; Props/C08Full.lean states them without
(`Asm.stmt_outcome_order_independent`).  `stmt_outcome_order_independent_partial` (`hp`: `LeftStableArg t₁ t₂` at the positions of
kind `ImmReg / Address / AddrOffset`, where a register or `[Rn + …]` shape may result) and
`stmt_outcome_order_independent_number` (`hk`: only positions of kind `Immediate` / `Offset`) are both literally
`build_retry_completed`; likewise unused are `hp` of `stmt_bytes_order_independent_stable`, of
`du_value_order_independent_stable` and of `leftStable_of_plain`.  `const_never_from_register` (an operand whose evaluation
ends in a number contains no register, however often the evaluation was interrupted) stands beside them and no proof uses it.
`LeftStableArg t₁ t₂ a`: every value the first attempt completed before it stopped is a fixed point of `evaluate` — the
condition under which the tree-level retry holds without idempotence (Lemmas/SimpRetry.lean, last section), strictly weaker
than `plain` (`[(r1 + 1) + 1 + x]` below) and computable (`leftStable_checked`); it holds of every tree
(`leftStableArg_all`, Lemmas/AsmRetrySim.lean).

The witnesses of F29 and F30 — statements that, on the code before the repairs, assembled with `x` defined below and were
refused with `x` defined above — are at the end of the file: they agree in both orders (`order_independent_below/above`,
`order_independent_below5/above5`).

`NoDef t₁` (no `.global/.import`-deferred entry in the table of the first attempt) is the hypothesis of `build_retry`; without
it: Props/C08Deferred.lean.
-/
namespace Trion.Asm
open Trion

theorem leftStable_of_plain {t₁ : Table} (t₂ : Table) (hn : Table.NoDef t₁) {a : Arg} (hp : plainArg a = true) :
    LeftStableArg t₁ t₂ a :=
  leftStableArg_all t₂ hn a

/-- C08  An operand whose evaluation ends in a NUMBER contains no register (nor string, address, list, call): `evaluate`
only ever removes constants.  Holds for the tree left by an interrupted evaluation as well. -/
theorem const_never_from_register (t : Table) (a : Arg) (v : Int) (h : evalIn t a = .ok (.complete (.const v))) :
    Simp.arith Front.isRegister a = true := by
  obtain ⟨ev, he, _⟩ := evalIn_complete_iff.1 h
  exact Simp.evaluateE_const_arith Front.isRegister he

/-- C08 (data, value form, FULL)  The operand of `.du8/.du16/.du32`, whatever its tree: the tree left by a first
`evaluate` that stopped at an unknown name evaluates over the final table to the number `v` iff the original operand
does. -/
theorem du_value_order_independent_full {t₁ t₂ : Table} (hs : Table.Sub t₁ t₂) (hn : Table.NoDef t₁) (a : Arg)
    (n : Bytes) (a₁ : Arg) (h : evalIn t₁ a = .ok (.noSuch n a₁)) (v : Int) :
    evalIn t₂ a₁ = .ok (.complete (.const v)) ↔ evalIn t₂ a = .ok (.complete (.const v)) := by
  rw [data_retry_all hs hn h]

/-- C08 (data, bytes, FULL)  `.du8/.du16/.du32 <expr>` with a constant of `<expr>` defined BELOW the directive (first
`evaluate` over `t₁` stopped and left `a₁`; the task runs `DataExpr::apply` on `a₁` when the table is `t₂`) and the same
directive with the constant defined ABOVE (`apply` on the original operand `a` over `t₂`): one completes iff the other
does, and then they return the same data expression and the same assembler state — the same bytes written at the
same address.  No condition on the operand tree. -/
theorem du_bytes_order_independent {t₁ t₂ : Table} (hs : Table.Sub t₁ t₂) (hn : Table.NoDef t₁) (a : Arg)
    (n : Bytes) (a₁ : Arg) (h : evalIn t₁ a = .ok (.noSuch n a₁)) (d : DataExpr) (env : Env) (st : St)
    (ht : evalTable env st = .ok t₂) (loc : Bool) (d' : DataExpr) (st' : St) :
    ({ d with arg := a₁ } : DataExpr).apply env st loc = .ok (d', st', .completed) ↔
    ({ d with arg := a } : DataExpr).apply env st loc = .ok (d', st', .completed) := by
  rw [DataExpr.apply_retry hs hn h d ht loc]

/-- C08 (instructions, outcome and bytes)  First `assemble` over `t₁` deferred and queued `fs1`.  The re-run from `fs1`
over `t₂ ⊇ t₁` completes with the instruction `i` iff the fresh assembly of the same statement over `t₂` completes with
`i`.  This is `build_retry_completed`: `hp` (`LeftStableArg` at the `ImmReg / Address / AddrOffset` positions) is not used. -/
theorem stmt_outcome_order_independent_partial {t₁ t₂ : Table} (hs : Table.Sub t₁ t₂) (hn : Table.NoDef t₁) (addr : Nat)
    (name : Bytes) (args : List Arg) (c : Bytes) (fs1 : Front.St)
    (h1 : Front.build addr name args (frontEval t₁) true = .deferred c fs1)
    (hp : ∀ t, Front.mnemonic name = some t → ∀ p ∈ List.zip (Front.kinds t) args, p.1.shape = true →
      LeftStableArg t₁ t₂ p.2) (i : Instr) :
    (∃ fs2, Front.assemble fs1 (frontEval t₂) false = (fs2, .completed) ∧ fs2.instr = i) ↔
      Front.build addr name args (frontEval t₂) true = .completed i :=
  build_retry_completed hs hn h1 i

/-- C08 (instructions, FULL for number operands)  For every mnemonic whose evaluated operands are all of kind
`Immediate` / `Offset` — `B`, `B<cond>`, `BL`, `ADR`, `BKPT`, `SVC`, `UDF.N`, `UDF.W`, `RSBS` — the statement needs no
condition at all: whatever the operand trees, defined-below and defined-above give the same outcome and instruction.
(`build_retry_completed` again; `hk` is not used.) -/
theorem stmt_outcome_order_independent_number {t₁ t₂ : Table} (hs : Table.Sub t₁ t₂) (hn : Table.NoDef t₁) (addr : Nat)
    (name : Bytes) (args : List Arg) (c : Bytes) (fs1 : Front.St)
    (h1 : Front.build addr name args (frontEval t₁) true = .deferred c fs1)
    (hk : ∀ t, Front.mnemonic name = some t → ∀ k ∈ Front.kinds t, k.shape = false) (i : Instr) :
    (∃ fs2, Front.assemble fs1 (frontEval t₂) false = (fs2, .completed) ∧ fs2.instr = i) ↔
      Front.build addr name args (frontEval t₂) true = .completed i :=
  build_retry_completed hs hn h1 i

/-- C08 (statement level, state form)  `build_retry` under `LeftStableArg` of every operand, which the proof does not use:
the re-run IS the fresh run, same outcome, same instruction, same argument list. -/
theorem stmt_bytes_order_independent_stable {t₁ t₂ : Table} (hs : Table.Sub t₁ t₂) (hn : Table.NoDef t₁) (addr : Nat)
    (name : Bytes) (args : List Arg) (hp : ∀ a ∈ args, LeftStableArg t₁ t₂ a) (c : Bytes) (fs1 : Front.St)
    (h1 : Front.build addr name args (frontEval t₁) true = .deferred c fs1) (loc : Bool) :
    ∃ t, Front.mnemonic name = some t ∧
      Front.assemble fs1 (frontEval t₂) loc = Front.assemble ⟨addr, t, 0, args⟩ (frontEval t₂) loc := by
  obtain ⟨t, hm, hr⟩ := build_retry hs hn h1
  exact ⟨t, hm, hr loc⟩

/-- C08 (data, tree form)  `data_retry_all` under `LeftStableArg`, which the proof does not use -/
theorem du_value_order_independent_stable {t₁ t₂ : Table} (hs : Table.Sub t₁ t₂) (hn : Table.NoDef t₁) (a : Arg)
    (hp : LeftStableArg t₁ t₂ a) (n : Bytes) (a₁ : Arg) (h : evalIn t₁ a = .ok (.noSuch n a₁)) :
    evalIn t₂ a₁ = evalIn t₂ a := data_retry_all hs hn h

theorem stmt_bytes_of_outcome (enc : Encoder) (fs2 : Front.St) (i : Instr) (h : fs2.instr = i) : enc fs2.instr = enc i := by
  rw [h]

/-- `(0 - (r1 - r0)) + x` -/
def exNegTree : Arg :=
  .bin .add (.bin .sub (.const 0) (.bin .sub (.ident [114, 49]) (.ident [114, 48]))) (.ident [120])

/-- `.du32 (0 - (r1 - r0)) + x` with `x = 1` defined below: the operand is NOT `plain`; `0 - (r1 - r0)` is `r0 - r1` at once
(F30), the two paths end with the same tree — which is not a number, so both are diagnosed (`du_bytes_order_independent`). -/
example :
    plainArg exNegTree = false ∧
    evalIn [] exNegTree =
      .ok (.noSuch [120] (.bin .add (.bin .sub (.ident [114, 48]) (.ident [114, 49])) (.ident [120]))) ∧
    evalIn [([120], some 1)] (.bin .add (.bin .sub (.ident [114, 48]) (.ident [114, 49])) (.ident [120])) =
      .ok (.complete (.bin .add (.bin .sub (.ident [114, 48]) (.ident [114, 49])) (.const 1))) ∧
    evalIn [([120], some 1)] exNegTree =
      .ok (.complete (.bin .add (.bin .sub (.ident [114, 48]) (.ident [114, 49])) (.const 1))) ∧
    Table.Sub [] [([120], some 1)] ∧ Table.NoDef [] :=
  ⟨rfl, rfl, rfl, rfl, fun _ _ h => by simp [Table.find] at h, fun _ h => by simp [Table.find] at h⟩

/-- the same tree as the target of `B`: deferred, then an error on the retry and an error on the fresh assembly
(`stmt_outcome_order_independent_number`: no hypothesis about the tree) -/
example :
    (∃ fs1, Front.build 0 [66] [exNegTree] (frontEval []) true = .deferred [120] fs1 ∧
      (Front.assemble fs1 (frontEval [([120], some 1)]) false).2 = .error (.argType 0 [.const] .add)) ∧
    (∃ st, Front.build 0 [66] [exNegTree] (frontEval [([120], some 1)]) true = .error (.argType 0 [.const] .add) st) ∧
    (∀ t, Front.mnemonic [66] = some t → ∀ k ∈ Front.kinds t, k.shape = false) := by
  refine ⟨⟨_, rfl, rfl⟩, ⟨_, rfl⟩, fun t ht k hk => ?_⟩
  have : t = .b 14 0 := by
    have h : Front.mnemonic [66] = some (.b 14 0) := rfl
    rw [h] at ht; cases ht; rfl
  subst this
  simp only [Front.kinds, List.mem_singleton] at hk
  subst hk
  rfl

/-- a number operand that IS completed on both paths although it is not `plain`: `.du8 ((y * 2) * 3) + x` needs no
hypothesis either (`y = 1` known, `x = 4` defined below; both paths give 10) -/
example :
    evalIn [([121], some 1)] (.bin .add (.bin .mul (.bin .mul (.ident [121]) (.const 2)) (.const 3)) (.ident [120])) =
      .ok (.noSuch [120] (.bin .add (.const 6) (.ident [120]))) ∧
    evalIn [([121], some 1), ([120], some 4)] (.bin .add (.const 6) (.ident [120])) = .ok (.complete (.const 10)) ∧
    evalIn [([121], some 1), ([120], some 4)]
      (.bin .add (.bin .mul (.bin .mul (.ident [121]) (.const 2)) (.const 3)) (.ident [120])) = .ok (.complete (.const 10)) :=
  ⟨rfl, rfl, rfl⟩

/-- the exact condition is strictly weaker than `plain`: `LDRB r2, [((r1 + 1) + 1) + x]` — the completed value
`r1 + 2` is a fixed point of `evaluate` although `(r1 + 1) + 1` is not a `plain` left operand -/
example :
    plainArg (.addr (.bin .add (.bin .add (.bin .add (.ident [114, 49]) (.const 1)) (.const 1)) (.ident [120]))) = false ∧
    LeftStableArg [] [([120], some 2)]
      (.addr (.bin .add (.bin .add (.bin .add (.ident [114, 49]) (.const 1)) (.const 1)) (.ident [120]))) := by
  refine ⟨rfl, ?_⟩
  unfold LeftStableArg
  simp only [Simp.LeftStable]
  refine ⟨⟨⟨trivial, trivial, ?_⟩, trivial, ?_⟩, trivial, ?_⟩
  · intro e l' n r₁ _ h; simp [Simp.evaluateE] at h
  · intro e l' n r₁ _ h; simp [Simp.evaluateE] at h
  · intro e l' n r₁ h _
    have h0 : Simp.evaluateE (fun n => Table.get [] n) Front.isRegister
        (.bin .add (.bin .add (.ident [114, 49]) (.const 1)) (.const 1)) =
        .ok ⟨true, none⟩ (.bin .add (.ident [114, 49]) (.const 2)) := rfl
    rw [h0] at h
    cases h
    exact ⟨⟨false, none⟩, rfl, rfl⟩

/-- … and the statement assembles to `LDRB r2, [r1, #4]` on both paths -/
example :
    (∃ fs1, Front.build 0 [76, 68, 82, 66]
        [.ident [114, 50], .addr (.bin .add (.bin .add (.bin .add (.ident [114, 49]) (.const 1)) (.const 1)) (.ident [120]))]
        (frontEval []) true = .deferred [120] fs1 ∧
      ∃ fs2, Front.assemble fs1 (frontEval [([120], some 2)]) false = (fs2, .completed) ∧ fs2.instr = .ldrb 2 1 (.imm 4)) ∧
    Front.build 0 [76, 68, 82, 66]
        [.ident [114, 50], .addr (.bin .add (.bin .add (.bin .add (.ident [114, 49]) (.const 1)) (.const 1)) (.ident [120]))]
        (frontEval [([120], some 2)]) true = .completed (.ldrb 2 1 (.imm 4)) :=
  ⟨⟨_, rfl, _, rfl, rfl⟩, rfl⟩

end Trion.Asm

namespace Trion.Asm
open Trion

/-- `0 - ((-(r1 + 5) + 7) + x)`, the operand of `MOVS r0, 0 - ((-(r1 + 5) + 7) + x)` -/
def exTower : Arg :=
  .bin .sub (.const 0)
    (.bin .add (.bin .add (.neg (.bin .add (.ident [114, 49]) (.const 5))) (.const 7)) (.ident [120]))

/-- `MOVS r0, 0 - ((-(r1 + 5) + 7) + x)`: the first attempt completes `-(r1 + 5) + 7`; the merge's final `neutralize` swaps
`-(r1 - 2)` (not a fixed point of `evaluate`) to `2 - r1` (F30), the operand satisfies the exact condition, and with `x = -2`
both orders end in the register `r1` (real assembler: `08 00`). -/
example :
    evalIn [] exTower = .ok (.noSuch [120]
      (.bin .sub (.const 0) (.bin .add (.bin .sub (.const 2) (.ident [114, 49])) (.ident [120])))) ∧
    evalIn [([120], some (-2))]
      (.bin .sub (.const 0) (.bin .add (.bin .sub (.const 2) (.ident [114, 49])) (.ident [120]))) =
      .ok (.complete (.ident [114, 49])) ∧
    evalIn [([120], some (-2))] exTower = .ok (.complete (.ident [114, 49])) ∧
    leftStableArgB [] [([120], some (-2))] exTower = true := ⟨rfl, rfl, rfl, rfl⟩


end Trion.Asm

namespace Trion.Asm
open Trion

/-- the exact condition is CHECKABLE: `leftStableArgB t₁ t₂ a` runs `evaluate` over `t₁` along the path to the stop and
once more over `t₂` on every value completed on the way; `true` discharges the hypothesis of
`stmt_outcome_order_independent_partial` for the concrete statement and tables -/
theorem leftStable_checked {t₁ t₂ : Table} {a : Arg} (h : leftStableArgB t₁ t₂ a = true) : LeftStableArg t₁ t₂ a :=
  (Simp.leftStableB_sound_both _ _ _).1 a h

/-- the checker accepts `[((r1 + 1) + 1) + x]`, `[r1 + r2 + x]`, `[(r1 * 4) + x]`, `(0 - (r1 - r0)) + x` -/
example :
    leftStableArgB [] [([120], some 2)]
      (.addr (.bin .add (.bin .add (.bin .add (.ident [114, 49]) (.const 1)) (.const 1)) (.ident [120]))) = true ∧
    leftStableArgB [] [([120], some 0)]
      (.addr (.bin .add (.bin .add (.ident [114, 49]) (.ident [114, 50])) (.ident [120]))) = true ∧
    leftStableArgB [] [([120], some 0)]
      (.addr (.bin .add (.bin .mul (.ident [114, 49]) (.const 4)) (.ident [120]))) = true ∧
    leftStableArgB [] [([120], some 1)] exNegTree = true := ⟨rfl, rfl, rfl, rfl⟩

end Trion.Asm

namespace Trion.Asm
open Trion

/-! ### F29 (K4 in props/C08.json): the statement on which the two orders differed before the repair in /repo -/

/-- the operand of `LDRB r2, [-(-1 - r0) * x]` as the parser delivers it -/
def exOrder : Arg :=
  .addr (.bin .mul (.neg (.bin .sub (.neg (.const 1)) (.ident [114, 48]))) (.ident [120]))

/-- F29: the `Negate` arm of `simplify_raw` rewrites `-(−1 − r0)` to `r0 − (−1)`; without `neutralize_raw` after the swap
(the code before the repair) the fresh assembly with `x = 1` known ends with `[r0 − (−1)]` (refused, `ValueRange`) while the
retry re-evaluates the left-behind tree to `[r0 + 1]`.  With it the first attempt already leaves `[(r0 + 1) * x]`, the
operand satisfies the exact condition, and both orders give `LDRB r2, [r0, #1]`. -/
example :
    (∃ fs1, Front.build 0 [76, 68, 82, 66] [.ident [114, 50], exOrder] (frontEval []) true = .deferred [120] fs1 ∧
      fs1.args = [.ident [114, 50],
        .addr (.bin .mul (.bin .add (.ident [114, 48]) (.const 1)) (.ident [120]))] ∧
      ∃ fs2, Front.assemble fs1 (frontEval [([120], some 1)]) false = (fs2, .completed) ∧
        fs2.instr = .ldrb 2 0 (.imm 1)) ∧
    Front.build 0 [76, 68, 82, 66] [.ident [114, 50], exOrder] (frontEval [([120], some 1)]) true =
      .completed (.ldrb 2 0 (.imm 1)) ∧
    leftStableArgB [] [([120], some 1)] exOrder = true :=
  ⟨⟨_, rfl, rfl, _, rfl, rfl⟩, rfl, rfl⟩

end Trion.Asm

namespace Trion.Asm
open Trion

/-! ### F29 on the whole-pipeline model (`Asm.run`: lexer, parser, evaluator, front end, codec, regions, tasks) -/

def exBelow : Bytes := bytesOf ".addr 0x20000000;\nLDRB r2, [-(-1 - r0) * x];\n.const x, 1;\n"
def exAbove : Bytes := bytesOf ".addr 0x20000000;\n.const x, 1;\nLDRB r2, [-(-1 - r0) * x];\n"
def exOrdFs (d : Bytes) : Bytes → Option Bytes := fun p => if p = [109] then some d else none

/-- success, number of diagnostics, image -/
def exSummary (r : Result) : Option (Bool × Nat × List (Nat × Bytes)) :=
  match r with
  | .done o => some (o.success, o.diags.length, o.image)
  | _ => none

/-- `x` defined BELOW the instruction: the project assembles, image `42 78` (`LDRB r2, [r0, #1]`) at 0x20000000 -/
theorem order_independent_below : exSummary (run (exOrdFs exBelow) [109]) = some (true, 0, [(536870912, [66, 120])]) := by
  decide +kernel

/-- `x` defined ABOVE the instruction: the same image (on the code before the repair: two diagnostics and `BE BE`) -/
theorem order_independent_above : exSummary (run (exOrdFs exAbove) [109]) = some (true, 0, [(536870912, [66, 120])]) := by
  decide +kernel

end Trion.Asm

namespace Trion.Asm
open Trion

/-! ### F30 (K5 in props/C08.json): with the repair F29 alone the two orders differ on this statement -/

/-- the operand of `LDR r2, [(0 - ((0 - r0) - r1)) * x]` as the parser delivers it -/
def exOrder5 : Arg :=
  .addr (.bin .mul (.bin .sub (.const 0) (.bin .sub (.bin .sub (.const 0) (.ident [114, 48])) (.ident [114, 49])))
    (.ident [120]))

/-- F30, on the code with the repair F29 only: `neutralize_raw` turns `0 - (-r0 - r1)` into `-(-r0 - r1)` (its `0 - rhs ↦ -rhs`
rule does not swap a difference), not a fixed point of `evaluate`; defined ABOVE, the fresh evaluation keeps it through
`* 1` and the address reader refuses it, defined BELOW the re-run evaluates it once more to `r1 + r0` and completes with
`LDR r2, [r1, r0]` (`0a 58`).  With the swap `-(l - r)`, `0 - (l - r) ↦ r - l` at the top of `neutralize_raw` the first
attempt leaves `[(r1 + r0) * x]` and both orders give `LDR r2, [r1, r0]`. -/
example :
    (∃ fs1, Front.build 0 [76, 68, 82] [.ident [114, 50], exOrder5] (frontEval []) true = .deferred [120] fs1 ∧
      fs1.args = [.ident [114, 50],
        .addr (.bin .mul (.bin .add (.ident [114, 49]) (.ident [114, 48])) (.ident [120]))] ∧
      ∃ fs2, Front.assemble fs1 (frontEval [([120], some 1)]) false = (fs2, .completed) ∧
        fs2.instr = .ldr 2 1 (.reg 0)) ∧
    Front.build 0 [76, 68, 82] [.ident [114, 50], exOrder5] (frontEval [([120], some 1)]) true =
      .completed (.ldr 2 1 (.reg 0)) ∧
    leftStableArgB [] [([120], some 1)] exOrder5 = true :=
  ⟨⟨_, rfl, rfl, _, rfl, rfl⟩, rfl, rfl⟩

def exBelow5 : Bytes := bytesOf ".addr 0x20000000;\nLDR r2, [(0 - ((0 - r0) - r1)) * x];\n.const x, 1;\n"
def exAbove5 : Bytes := bytesOf ".addr 0x20000000;\n.const x, 1;\nLDR r2, [(0 - ((0 - r0) - r1)) * x];\n"

/-- F30 on the whole-pipeline model: `x` defined BELOW — image `0a 58` (`LDR r2, [r1, r0]`) -/
theorem order_independent_below5 : exSummary (run (exOrdFs exBelow5) [109]) = some (true, 0, [(536870912, [10, 88])]) := by
  decide +kernel

/-- F30: `x` defined ABOVE — the same image (on the code before the repair: two diagnostics and `BE BE`) -/
theorem order_independent_above5 : exSummary (run (exOrdFs exAbove5) [109]) = some (true, 0, [(536870912, [10, 88])]) := by
  decide +kernel

end Trion.Asm
