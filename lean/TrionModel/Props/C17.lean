import TrionModel.Lemmas.Crc
/-!
# C17 — the checksum is CRC-32/MPEG-2

Specification (`Trion.Crc.Spec`): MSB-first 32-bit shift register, polynomial 0x04C11DB7,
initial value 0xFFFFFFFF, no reflection, no final XOR.  Model: `buildTable`/`update`/
`updateSlice`/`crc`, mirroring `Crc::TABLE`, `Crc::update`, `Crc::update_slice`.
-/
namespace Trion.Crc
open Spec

/-- C17.a  All 256 entries of `Crc::TABLE` are the bit-serial register run on the index byte. -/
theorem table_spec (i : Nat) (h : i < 256) : table[i]! = stepN 8 (BitVec.ofNat 32 i <<< 24) :=
  table_entries ⟨i, h⟩

/-- C17.b  For **every** 32-bit state and next byte, the table-driven `Crc::update` equals the
bit-serial CRC-32/MPEG-2 step. -/
theorem update_eq_spec (s : W) (b : BitVec 8) : update s b = Spec.byte s b := by
  unfold update Spec.byte
  rw [stepN8_eq, shl8, top_byte]

/-- C17.c  For every byte string and every start state, `update_slice` equals the specification run. -/
theorem updateSlice_eq_spec (s : W) (bs : List (BitVec 8)) : updateSlice s bs = Spec.run s bs := by
  unfold updateSlice Spec.run
  induction bs generalizing s with
  | nil => rfl
  | cons b bs ih => simp [List.foldl, update_eq_spec, ih]

/-- C17.d  The checksum of every byte string is its CRC-32/MPEG-2 value. -/
theorem crc_eq_spec (bs : List (BitVec 8)) : crc bs = Spec.crc bs :=
  updateSlice_eq_spec init bs

/-- C17.e  From any start state, `update_slice` fed a string in two pieces gives the same result as fed it whole
(`crc` is the start state `init`). -/
theorem crc_append (s : W) (xs ys : List (BitVec 8)) :
    updateSlice s (xs ++ ys) = updateSlice (updateSlice s xs) ys := by
  simp [updateSlice, List.foldl_append]

/-- C17.e'  The same for any number of pieces, from any start state. -/
theorem crc_pieces (s : W) (pieces : List (List (BitVec 8))) :
    updateSlice s pieces.flatten = pieces.foldl updateSlice s := by
  induction pieces generalizing s with
  | nil => rfl
  | cons p ps ih => simp [List.flatten_cons, crc_append, ih]

/-- C17.f  Standard check value: CRC-32/MPEG-2("123456789") = 0x0376E6E7, for model and spec. -/
theorem check_value :
    crc ("123456789".toUTF8.toList.map fun b => BitVec.ofNat 8 b.toNat) = 0x0376E6E7#32 ∧
    Spec.crc ("123456789".toUTF8.toList.map fun b => BitVec.ofNat 8 b.toNat) = 0x0376E6E7#32 := by
  -- only the bit-serial side is evaluated (72 register steps); the table-driven side follows from C17.d
  have h : Spec.crc ("123456789".toUTF8.toList.map fun b => BitVec.ofNat 8 b.toNat) = 0x0376E6E7#32 := by
    decide +kernel
  exact ⟨(crc_eq_spec _).trans h, h⟩

/-- non-vacuity: the update step is not constant and the table is not trivially zero -/
example : update init 0x31#8 ≠ init ∧ table[1]! = poly ∧ table[255]! ≠ 0 := by
  rw [update_eq_spec, table_spec 1 (by decide), table_spec 255 (by decide)]
  decide +kernel

end Trion.Crc
