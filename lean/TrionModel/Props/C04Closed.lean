import TrionModel.Lemmas.C04Enc
import TrionModel.Props.C04
/-!
# C04 closed — an instruction statement assembles to the encoding of what was written, with the REAL evaluator

`Props/C04.lean` is parametric in the evaluator.  Here the evaluator is `Simp.evaluate` (C07/C08) — as the pipeline
model hands it to the front end (`Asm.frontEval tbl`) or as the plain `Show.simpEval lk` — and the statement is compared
with a specification of what it MEANS, `C04.means T A name args` (`Spec/C04.lean`): mnemonic lookup, operand count,
operand meanings (`denote`: constant expressions by exact arithmetic with the i64 overflow rule, registers by name in any
case with aliases, `[Rn]`/`[Rn + Rm]`/`[Rn + e]`/`[e + Rn]`, `{…}`, option names), PC-relative operands as
`target − (A + 4)` resp. `target − (align4 A + 4)`.

Hypotheses of the tree-level theorems, besides `EvalSimp eval lk` (the evaluator is `Simp.evaluate` over `lk`; the two
concrete evaluators satisfy it: `evaluators_are_simp`):
* `NoDef lk`, `Simp.tableOk lk`: the table has no `.import`-deferred entry and holds `i64` values;
* `wellFormed T (sig t) args`: every operand in an *evaluated* slot mentions only defined names, has `i64` literals, and
  is an operand form of the documented syntax (`doc`: not an arithmetic mixture of register names and numbers such as
  `R1 + 0`, which the simplifier would rewrite to `R1`);
* `¬ svQuirk`: not `DMB/DSB/ISB SV` (finding: accepted like `SY`, see the `example` below).
-/
namespace Trion.C04
open Trion Trion.Front Trion.Simp

/-- C04c.a  **Soundness (never a wrapped / truncated / neighbouring encoding).**  Whenever the front end completes the
statement and the encoder accepts the instruction, the instruction IS the statement's meaning `means T A name args`, it
fits its field types, and the emitted halfwords are — in the ARMv6-M table `Arm.decode` — the encoding of exactly that
instruction; the decoder model reads the emitted bytes back as it. -/
theorem stmt_sound {lk : Bytes → Lookup} (hn : NoDef lk) (hT : Simp.tableOk lk) {eval : Arg → EvalOut} (hE : EvalSimp eval lk)
    (loc : Bool) (A : Nat) (name : Bytes) (args : List Arg) (t : Instr) (hm : mnemonic name = some t)
    (hw : wellFormed (tab lk) (sig t) args)
    (hq : ∀ vs, denoteAll (tab lk) (sig t) args = some vs → ¬ svQuirk t vs)
    (i : Instr) (hb : build A name args eval loc = .completed i) (hws : List Nat) (he : Codec.encode i = .ok hws) :
    means (tab lk) A name args = some i ∧ i.wf ∧ Arm.decode hws = some i ∧
      ∀ rest, Codec.decode (Codec.toBytes hws ++ rest) = .ok (2 * hws.length, i) := by
  obtain ⟨h1, h2⟩ := build_sound hn hT hE loc A name args t hm hw i hb hq
  exact ⟨h1, h2, Codec.enc_sound i hws he h2, fun rest => Codec.dec_enc i hws rest he h2⟩

/-- C04c.b  **Completeness.**  If the statement means the instruction `i`, `i` fits its field types and the encoder
accepts it (equivalently, by C01 `enc_complete`/`enc_sound`, the ARMv6-M table has an encoding of `i`: every operand
is in range and aligned for the instruction), then the front end completes the statement to exactly `i`. -/
theorem stmt_complete {lk : Bytes → Lookup} (hn : NoDef lk) {eval : Arg → EvalOut} (hE : EvalSimp eval lk)
    (loc : Bool) (A : Nat) (name : Bytes) (args : List Arg) (i : Instr)
    (hmeans : means (tab lk) A name args = some i) (hwf : i.wf) (hws : List Nat) (he : Codec.encode i = .ok hws) :
    build A name args eval loc = .completed i ∧ Arm.decode hws = some i :=
  ⟨build_complete hn hE loc A name args i hmeans hwf hws he, Codec.enc_sound i hws he hwf⟩

/-- C04c.c  **Totality.**  With every name defined, the first `assemble` either completes or reports a diagnostic
(never a deferral, never a panic). -/
theorem stmt_total {lk : Bytes → Lookup} (hn : NoDef lk) (hT : Simp.tableOk lk) {eval : Arg → EvalOut} (hE : EvalSimp eval lk)
    (loc : Bool) (A : Nat) (name : Bytes) (args : List Arg) (t : Instr) (hm : mnemonic name = some t)
    (hw : wellFormed (tab lk) (sig t) args) :
    (∃ i, build A name args eval loc = .completed i) ∨ (∃ d st, build A name args eval loc = .error d st) :=
  build_total hn hE loc A name args t hm hw

/-- C04c.d  **The closed form of C04 on trees.**  Bytes are emitted (front end completes AND encoder accepts) exactly
when the statement has a meaning that fits the field types and is encodable — and then they are the encoding of that
meaning; in every other case the statement is diagnosed (by the front end, or by the encoder: `Unrepresentable`). -/
theorem stmt_iff {lk : Bytes → Lookup} (hn : NoDef lk) (hT : Simp.tableOk lk) {eval : Arg → EvalOut} (hE : EvalSimp eval lk)
    (loc : Bool) (A : Nat) (name : Bytes) (args : List Arg) (t : Instr) (hm : mnemonic name = some t)
    (hw : wellFormed (tab lk) (sig t) args)
    (hq : ∀ vs, denoteAll (tab lk) (sig t) args = some vs → ¬ svQuirk t vs) (i : Instr) (hws : List Nat) :
    (build A name args eval loc = .completed i ∧ Codec.encode i = .ok hws) ↔
      (means (tab lk) A name args = some i ∧ i.wf ∧ Codec.encode i = .ok hws) := by
  constructor
  · rintro ⟨hb, he⟩
    obtain ⟨h1, h2, _⟩ := stmt_sound hn hT hE loc A name args t hm hw hq i hb hws he
    exact ⟨h1, h2, he⟩
  · rintro ⟨h1, h2, he⟩
    exact ⟨(stmt_complete hn hE loc A name args i h1 h2 hws he).1, he⟩

/-- C04c.d'  … and otherwise a diagnostic: if the statement has no encodable meaning, then the front end reports a
diagnostic, or it completes to an instruction the encoder refuses (`EncodeError::Unrepresentable`, reported by
`write_instr` at the statement). -/
theorem stmt_diagnosed {lk : Bytes → Lookup} (hn : NoDef lk) (hT : Simp.tableOk lk) {eval : Arg → EvalOut} (hE : EvalSimp eval lk)
    (loc : Bool) (A : Nat) (name : Bytes) (args : List Arg) (t : Instr) (hm : mnemonic name = some t)
    (hw : wellFormed (tab lk) (sig t) args)
    (hq : ∀ vs, denoteAll (tab lk) (sig t) args = some vs → ¬ svQuirk t vs)
    (hno : ∀ i hws, ¬ (means (tab lk) A name args = some i ∧ i.wf ∧ Codec.encode i = .ok hws)) :
    (∃ d st, build A name args eval loc = .error d st) ∨
    (∃ i e, build A name args eval loc = .completed i ∧ Codec.encode i = .error e) := by
  rcases stmt_total hn hT hE loc A name args t hm hw with ⟨i, hb⟩ | h
  · right
    cases he : Codec.encode i with
    | error e => exact ⟨i, e, hb, he⟩
    | ok hws => exact absurd ((stmt_iff hn hT hE loc A name args t hm hw hq i hws).1 ⟨hb, he⟩) (hno i hws)
  · exact .inl h

/-- the two concrete evaluators are instances: the pipeline's `Asm.frontEval tbl` and the plain `Show.simpEval lk` -/
theorem evaluators_are_simp (tbl : Asm.Table) (lk : Bytes → Lookup) :
    EvalSimp (Asm.frontEval tbl) (fun n => tbl.get n) ∧ EvalSimp (Show.simpEval lk) lk :=
  ⟨evalSimp_frontEval tbl, evalSimp_simpEval lk⟩

/-- C04c.e  Register, system-register and mnemonic lookup ignore letter case; a name denotes register `r` iff its
upper-case form is one of the documented names of `r` (`R13`/`SP`, `R14`/`LR`, `R15`/`PC`); the specification's `denote`
inherits both. -/
theorem names_case_alias (s : Bytes) (r : Reg) (T : SymTable) :
    (regl s = some r ↔ upper s ∈ names r) ∧ regl (upper s) = regl s ∧ sysl (upper s) = sysl s ∧
    mnemonic (upper s) = mnemonic s ∧ denote T .register (.ident (upper s)) = denote T .register (.ident s) :=
  ⟨reg_names s r, regl_upper s, sysl_upper s, mnemonic_upper s, by simp [denote, regl_upper]⟩

/-- C04c.e'  The mnemonic table is complete w.r.t. the names the disassembler prints (`getName`), plus exactly three
alias spellings: every entry is the canonical name of its own template (with the flags bit of `MOV`/`MOVS` from the
name), or one of `BCS`=`BHS`, `BCC`=`BLO`, `BICS`=`BIC`. -/
theorem mnemonic_table_names : ∀ p ∈ mnemonicTable,
    (mnemonic p.1).isSome = true ∧
    ((mnemonic p.1).map fun t => bytesOf (getName t)) ∈
      [some p.1, (if p.1 = bytesOf "BCS" then some (bytesOf "BHS") else none),
       (if p.1 = bytesOf "BCC" then some (bytesOf "BLO") else none),
       (if p.1 = bytesOf "BICS" then some (bytesOf "BIC") else none)] := by decide

def exLk : Bytes → Lookup := fun s => if s = bytesOf "label" then .found 0x20000100 else .notFound
theorem exLk_nodef : NoDef exLk := by intro s; unfold exLk; split <;> simp
theorem exLk_ok : Simp.tableOk exLk := by
  intro s v h; unfold exLk at h; split at h <;> simp at h; subst h; decide

/-- `ldr r0, [4 + sp]` — lower case, alias, offset first -/
example : means (tab exLk) 0 (bytesOf "ldr") [.ident (bytesOf "r0"), .addr (.bin .add (.const 4) (.ident (bytesOf "sp")))]
    = some (.ldr 0 13 (.imm 4)) ∧ Codec.encode (.ldr 0 13 (.imm 4)) = .ok [0x9801] ∧
    build 0 (bytesOf "ldr") [.ident (bytesOf "r0"), .addr (.bin .add (.const 4) (.ident (bytesOf "sp")))]
      (Show.simpEval exLk) true = .completed (.ldr 0 13 (.imm 4)) := by
  refine ⟨by decide, rfl, ?_⟩
  exact (stmt_complete exLk_nodef (evalSimp_simpEval exLk) true 0 _ _ _ (by decide) (by decide) [0x9801] rfl).1

/-- `ADDS R1, 300` (wrong operand count) and `ADDS R1, R1, 300` (out of range) have no encodable meaning -/
example : means (tab exLk) 0 (bytesOf "ADDS") [.ident (bytesOf "R1"), .const 300] = none ∧
    means (tab exLk) 0 (bytesOf "ADDS") [.ident (bytesOf "R1"), .ident (bytesOf "R1"), .const 300] = some (.add true 1 1 (.imm 300)) ∧
    Codec.encode (.add true 1 1 (.imm 300)) = .error .unrepresentable := by
  refine ⟨by decide, by decide, rfl⟩

/-- `B label` backward and forward, `ADR`: offsets from the statement's own address -/
example : means (tab exLk) 0x20000200 (bytesOf "B") [.ident (bytesOf "label")] = some (.b 14 (-260)) ∧
    means (tab exLk) 0x20000000 (bytesOf "b") [.ident (bytesOf "label")] = some (.b 14 252) ∧
    means (tab exLk) 0x200000F2 (bytesOf "ADR") [.ident (bytesOf "R2"), .bin .add (.ident (bytesOf "label")) (.const 8)]
      = some (.adr 2 20) := by
  refine ⟨by decide, by decide, by decide⟩

/-- the hypotheses are satisfiable: `LDRB R1, [R2 + label - label + 3]` is not `doc`, `[R2 + 3]` is -/
example : wellFormed (tab exLk) (sig (.ldrb 0 0 (.imm 0))) [.ident (bytesOf "R1"), .addr (.bin .add (.ident (bytesOf "R2")) (.const 3))] := by
  refine ⟨fun h => by simp [evaluated] at h, fun _ => ⟨by decide, by decide, by decide⟩, trivial⟩

/-- **finding (barrier option)**: `DMB SV` — `SV` is no barrier option — is accepted by the front end like `DMB SY`
(`src/arm6m/mod.rs`: `eq_ignore_ascii_case("SY") && …("SV")`), the specification gives it no meaning -/
example : build 0 (bytesOf "DMB") [.ident (bytesOf "SV")] (Show.simpEval exLk) true = .completed .dmb ∧
    means (tab exLk) 0 (bytesOf "DMB") [.ident (bytesOf "SV")] = none := by
  refine ⟨rfl, by decide⟩

/-- C04c.f  **Pipeline, statement level (any symbol table).**  In the pipeline model, an instruction statement
`name args` met while the constant table of the file is `tbl` (whatever `.const`/label statements built it; no
`.import`-deferred entry) and the open region's cursor is at `A = seg.cur`: if the statement MEANS `i`
(`means (tabOf tbl) A name args = some i`), `i` fits its field types and the encoder accepts it (`hws`), and the bytes
fit the region, then `Asm.statement` appends exactly the little-endian bytes of `hws` at `A`, records the statement as
placed, and reports no diagnostic. -/
theorem stmt_placed (fs : Bytes → Option Bytes) (inc : Asm.Inc) (env : Asm.Env) (st : Asm.St) (tbl : Asm.Table)
    (hnd : Asm.Table.NoDef tbl) (henv : env.paths ≠ []) (hl : st.locals = some tbl) (l c : Nat) (name : Bytes) (args : Args)
    (map : Map.Segs) (seg : Seg.Active) (pending : List (Nat × Nat)) (hs : st.seg = ⟨map, some seg, pending⟩)
    (i : Instr) (hmeans : means (tabOf tbl) seg.cur name args.toList = some i) (hwf : i.wf)
    (hws : List Nat) (he : Codec.encode i = .ok hws)
    (hfit : seg.buf.length + 2 * hws.length ≤ seg.maxLen) :
    Asm.statement fs Asm.encoder inc env st ⟨l, c, .instruction name args⟩ =
      .ok ({ st with seg := ⟨map, some { seg with buf := seg.buf ++ (Codec.toBytes hws).map (·.toUInt8) },
                              (seg.cur, 2 * hws.length) :: pending⟩ }, .ok) ∧
    Arm.decode hws = some i :=
  stmt_placed_of_build fs inc env st tbl henv hl l c name args map seg pending hs i
    (stmt_complete (Asm.Table.nodef_get hnd) (evalSimp_frontEval tbl) true seg.cur name args.toList i hmeans hwf hws he).1
    hws he hfit

/-- non-vacuity of `stmt_placed`: a table defining `label`, `B label` at 0x20000200 -/
example : Asm.Table.NoDef [(bytesOf "label", some 0x20000100)] ∧
    means (tabOf [(bytesOf "label", some 0x20000100)]) 0x20000200 (bytesOf "B") [.ident (bytesOf "label")] = some (.b 14 (-260)) := by
  refine ⟨?_, by decide⟩
  intro n; simp only [Asm.Table.find]; split <;> simp

/-- C04c.g  **Text level, through the whole pipeline model** (`_partial`: symbol-free statements).
For every program text that the tokenizer and parser models read as the two statements `.addr A;` and ONE instruction
statement `name args` (any spelling, spacing, radix, comments — whatever `Lex`/`Parse` accept; C09–C12 tie text, tokens,
trees and positions): if the statement means `i` over the empty symbol table, `i` fits its field types, the encoder
accepts it and the bytes fit below 2^32, then `Asm.run` succeeds, records NO diagnostic, and the image is exactly the
encoding of `i` at `A` — which the ARMv6-M table reads as `i`. -/
theorem run_addr_stmt_partial (fs : Bytes → Option Bytes) (main data : Bytes) (hfs : fs main = some data)
    (els : List Element) (hp : Asm.parseFile data = .ok (els, none)) (A : Nat) (name : Bytes) (args : Args)
    (hels : els.map (·.val) = [.directive (bytesOf "addr") (Args.ofList [.const A]), .instruction name args])
    (i : Instr) (hmeans : means (tabOf []) A name args.toList = some i) (hwf : i.wf)
    (hws : List Nat) (he : Codec.encode i = .ok hws) (hfit : A + 2 * hws.length ≤ 4294967296) :
    Asm.run fs main = .done ⟨true, none, true, [], [(A, (Codec.toBytes hws).map (·.toUInt8))]⟩ ∧
    Arm.decode hws = some i :=
  run_defs_stmt_of_build fs main data hfs els hp A [] name args hels [] rfl i
    (stmt_complete (Asm.Table.nodef_get nodef_nil) (evalSimp_frontEval []) true A name args.toList i hmeans hwf hws he).1
    hws he hfit

end Trion.C04
