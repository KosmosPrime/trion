import TrionModel.Lemmas.C04MixAsm
import TrionModel.Lemmas.C04Dich
import TrionModel.Props.C04Closed
/-!
# C04 closed, extension — operands that mix one register name with numbers (`R1 + 0`, `[R1 + 2 + 3]`, `[4 + R1 + 4]`)

`Spec/C04Mix.lean`: `sumForm`, `mem2`, `denote2`, `means2`, `doc2`: an address `[x]` where `x` is a sum of ONE register
name and register-free expressions (by `+`, and `−` of register-free expressions) means "base register + the integer
value of the rest" (exact integer arithmetic over the checked values of the register-free parts); a register-or-integer
operand of that form with rest 0 means the register.  The proof is semantic (C08): `evaluate` preserves the ideal value
under every assignment of integers to the register names.

Soundness (`stmt_sound2`) holds for every operand of the extended forms the operand readers accept.  Completeness is NOT
claimed for the extended forms: the simplifier folds constants in its own association order with checked `i64` arithmetic, so
`[R1 + 9223372036854775807 + 1 - 9223372036854775807]` is diagnosed (overflow) although its exact meaning is `[R1 + 1]`
(example below); `stmt_complete` (Props/C04Closed) remains the completeness statement, on `doc`.
-/
namespace Trion.C04
open Trion Trion.Front Trion.Simp

/-- C04m.a  **Extended soundness.**  As `stmt_sound`, with `wellFormed2` (operands of the documented forms OR sums with
one register name) and the extended meaning `means2`. -/
theorem stmt_sound2 {lk : Bytes → Lookup} (hn : NoDef lk) (hT : Simp.tableOk lk) {eval : Arg → EvalOut} (hE : EvalSimp eval lk)
    (loc : Bool) (A : Nat) (name : Bytes) (args : List Arg) (t : Instr) (hm : mnemonic name = some t)
    (hw : wellFormed2 (tab lk) (sig t) args)
    (hq : ∀ vs, denoteAll2 (tab lk) (sig t) args = some vs → ¬ svQuirk t vs)
    (i : Instr) (hb : build A name args eval loc = .completed i) (hws : List Nat) (he : Codec.encode i = .ok hws) :
    means2 (tab lk) A name args = some i ∧ i.wf ∧ Arm.decode hws = some i ∧
      ∀ rest, Codec.decode (Codec.toBytes hws ++ rest) = .ok (2 * hws.length, i) := by
  obtain ⟨h1, h2⟩ := build_sound2 hn hT hE loc A name args t hm hw i hb hq
  exact ⟨h1, h2, Codec.enc_sound i hws he h2, fun rest => Codec.dec_enc i hws rest he h2⟩

/-- C04m.b  The extension is conservative: a documented operand is an extended one, and where the meaning of
Props/C04Closed is defined the extended meaning is the same. -/
theorem doc_doc2 (a : Arg) (h : doc a = true) : doc2 a = true := by
  cases a with
  | addr x => simp only [doc] at h; simp [doc2, h]
  | bin op l r => simp only [doc] at h; simp [doc2, h]
  | _ => exact h

theorem denoteAll2_of_denoteAll {T : SymTable} : ∀ {ks : List Kind} {as : List Arg} {vs : List Val},
    denoteAll T ks as = some vs → denoteAll2 T ks as = some vs :=
  (reads_denote T).mono (reads_denote2 T) denote2_of_denote

theorem means2_of_means {T : SymTable} {A : Nat} {name : Bytes} {args : List Arg} {i : Instr}
    (h : means T A name args = some i) : means2 T A name args = some i := by
  unfold means at h
  unfold means2
  cases hm : mnemonic name with
  | none => simp [hm] at h
  | some t =>
    simp only [hm] at h ⊢
    cases hd : denoteAll T (sig t) args with
    | none => simp [hd] at h
    | some vs => simp only [hd] at h; simp only [denoteAll2_of_denoteAll hd]; exact h

/-- `LDR R0, [R1 + 2 + 3]`, `LDR R0, [4 + R1 + 4]`, `LDR R0, [R1 + (2 * 4)]`, `MOVS R0, R1 + 0` -/
example :
    doc2 (.addr (.bin .add (.bin .add (.ident (bytesOf "R1")) (.const 2)) (.const 3))) = true ∧
    doc (.addr (.bin .add (.bin .add (.ident (bytesOf "R1")) (.const 2)) (.const 3))) = false ∧
    means2 (tab exLk) 0 (bytesOf "LDR") [.ident (bytesOf "R0"), .addr (.bin .add (.bin .add (.ident (bytesOf "R1")) (.const 2)) (.const 3))]
      = some (.ldr 0 1 (.imm 5)) ∧
    means2 (tab exLk) 0 (bytesOf "LDR") [.ident (bytesOf "R0"), .addr (.bin .add (.bin .add (.const 4) (.ident (bytesOf "R1"))) (.const 4))]
      = some (.ldr 0 1 (.imm 8)) ∧
    means2 (tab exLk) 0 (bytesOf "LDR") [.ident (bytesOf "R0"), .addr (.bin .add (.ident (bytesOf "R1")) (.bin .mul (.const 2) (.const 4)))]
      = some (.ldr 0 1 (.imm 8)) ∧
    means2 (tab exLk) 0 (bytesOf "MOVS") [.ident (bytesOf "R0"), .bin .add (.ident (bytesOf "R1")) (.const 0)]
      = some (.mov true 0 (.reg 1)) := by
  refine ⟨by decide, by decide, by decide, by decide, by decide, by decide⟩

/-- … and the assembler accepts them with exactly these meanings -/
example :
    build 0 (bytesOf "LDR") [.ident (bytesOf "R0"), .addr (.bin .add (.bin .add (.ident (bytesOf "R1")) (.const 2)) (.const 3))]
      (Show.simpEval exLk) true = .completed (.ldr 0 1 (.imm 5)) ∧
    build 0 (bytesOf "LDR") [.ident (bytesOf "R0"), .addr (.bin .add (.bin .add (.const 4) (.ident (bytesOf "R1"))) (.const 4))]
      (Show.simpEval exLk) true = .completed (.ldr 0 1 (.imm 8)) ∧
    build 0 (bytesOf "MOVS") [.ident (bytesOf "R0"), .bin .add (.ident (bytesOf "R1")) (.const 0)]
      (Show.simpEval exLk) true = .completed (.mov true 0 (.reg 1)) := ⟨rfl, rfl, rfl⟩

/-- why completeness is not claimed for the sums: exact meaning `[R1 + 1]`, but the assembler's own folding order overflows -/
example :
    means2 (tab exLk) 0 (bytesOf "LDRB") [.ident (bytesOf "R0"),
      .addr (.bin .sub (.bin .add (.bin .add (.ident (bytesOf "R1")) (.const 9223372036854775807)) (.const 1)) (.const 9223372036854775807))]
      = some (.ldrb 0 1 (.imm 1)) ∧
    ∃ d st, build 0 (bytesOf "LDRB") [.ident (bytesOf "R0"),
      .addr (.bin .sub (.bin .add (.bin .add (.ident (bytesOf "R1")) (.const 9223372036854775807)) (.const 1)) (.const 9223372036854775807))]
      (Show.simpEval exLk) true = .error d st := ⟨by decide, _, _, rfl⟩

/-- C04m.c  **Through the whole pipeline model, extended operands: assembled to the meaning, or diagnosed at the statement.**
For every program text read as `.addr A;`, definitions building `tbl`, and ONE instruction statement `name args` with a
known mnemonic whose evaluated operands are of the documented forms OR sums with one register name (`wellFormed2`):
EITHER the statement has the extended meaning `i` (`means2`), `i` fits its field types, the encoder accepts it (`hws`, the
ARMv6-M table's encoding of `i`), and — if the bytes fit below 2^32 — `Asm.run` succeeds without a diagnostic with exactly
those bytes at `A`; OR `Asm.run` does not succeed, records at least one diagnostic, and every diagnostic is at the
statement.  Never a third case: no wrong, wrapped or neighbouring encoding is placed. -/
theorem run_defs_stmt2 (fs : Bytes → Option Bytes) (main data : Bytes) (hfs : fs main = some data)
    (els : List Element) (hp : Asm.parseFile data = .ok (els, none)) (A : Nat) (hA : A < 4294967296)
    (defs : List (Bytes × Arg)) (name : Bytes) (args : Args) (hels : els.map (·.val) = progVals A defs name args)
    (tbl : Asm.Table) (hdefs : defsTable defs [] = some tbl)
    (t : Instr) (hm : mnemonic name = some t) (hw : wellFormed2 (tabOf tbl) (sig t) args.toList)
    (hq : ∀ vs, denoteAll2 (tabOf tbl) (sig t) args.toList = some vs → ¬ svQuirk t vs) :
    (∃ i hws, means2 (tabOf tbl) A name args.toList = some i ∧ i.wf ∧ Codec.encode i = .ok hws ∧ Arm.decode hws = some i ∧
      (A + 2 * hws.length ≤ 4294967296 →
        Asm.run fs main = .done ⟨true, none, true, [], [(A, (Codec.toBytes hws).map (·.toUInt8))]⟩)) ∨
    (∃ el o, el ∈ els ∧ el.val = .instruction name args ∧ Asm.run fs main = .done o ∧ o.success = false ∧ o.diags ≠ [] ∧
      ∀ d ∈ o.diags, d.file = main ∧ d.line = el.line ∧ d.col = el.col) := by
  have hn := Asm.Table.nodef_get (defsTable_nodef defs [] tbl nodef_nil hdefs)
  have hTk := tableOk_of_tblI64 (defsTable_i64 defs [] tbl tblI64_nil hdefs)
  rcases build_cases2 hn hTk (evalSimp_frontEval tbl) true A name args.toList t hm hw hq with
    ⟨i, hws, hb, he, h1, h2, h3⟩ | hne
  · exact .inl ⟨i, hws, h1, h2, he, h3, fun hfit =>
      (run_defs_stmt_of_build fs main data hfs els hp A defs name args hels tbl hdefs i hb hws he hfit).1⟩
  · exact .inr (run_defs_stmt_diag_build fs main data hfs els hp A hA defs name args hels tbl hdefs t hm hne)

end Trion.C04