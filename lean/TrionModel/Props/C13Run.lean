import TrionModel.Lemmas.AsmHist
import TrionModel.Lemmas.AsmEnc
import TrionModel.Props.C13
import TrionModel.Lemmas.AsmFile
/-!
# C13 on whole programs — every region operation `Asm.run` issues is legal

Props/C13.lean proves the property (regions never overlap or overflow silently; a deferred rewrite lands exactly on its
placeholder) about `Seg.step` on LEGAL histories (`Seg.Legal`: every operation well-formed in the state it is issued in —
addresses `u32`, alignments positive, a rewrite only of a statement that was placed, with the length it was placed with).
The property itself quantifies over PROGRAMS.  This file states the bridge as theorems about the whole-pipeline model:
`run_ops_legal` says the regions of EVERY finished run (successful or not, any include tree) are legally REACHABLE — its `ops`
is related to the run through the final map alone —, so all theorems of Props/C13.lean apply to them; `run_trace` and
`bodyStates_traced` tie the history to the states the run actually passes through.
The pipeline never issues `Seg.Op.align` (`Asm.alignDirective` computes the padding itself and issues `.append`), so the
`align` cases below are about the region machine alone.
-/
namespace Trion.Asm
open Trion

theorem path_legal {s s' : Seg.State} {tr : List (Seg.Op × Seg.Out)} (hp : Path s tr s') :
    Seg.Legal s (tr.map Prod.fst) ∧ Seg.run s (tr.map Prod.fst) = s' ∧ Seg.outs s (tr.map Prod.fst) = tr.map Prod.snd ∧
      (Seg.Inv s → Seg.Inv s') := by
  induction hp with
  | nil s => exact ⟨trivial, rfl, rfl, fun h => h⟩
  | @cons s s1 s' op o tr inv wf hs hnp _ ih =>
    obtain ⟨i1, i2, i3, i4⟩ := ih
    have e1 : (Seg.step s op).1 = s1 := by rw [hs]
    have e2 : (Seg.step s op).2 = o := by rw [hs]
    refine ⟨⟨wf, by rw [e1]; exact i1⟩, ?_, ?_, fun _ => i4 ?_⟩
    · simp only [List.map_cons, Seg.run_cons, e1]; exact i2
    · simp only [List.map_cons, Seg.outs, e1, e2, i3]
    · have := (Seg.legal_step inv op wf).2
      rw [e1] at this; exact this

/-! ## the history is tied to the states the run actually passes through

`run_ops_legal` alone says that the image is LEGALLY REACHABLE (its `ops` is existential and related to the run only through
the final map).  What the invariant proofs of C06 carry is more: every function of the model, run from a good state, ends in
a state whose regions are reached FROM ITS OWN START STATE by a legal history (`Traced`), and the whole `Seg.State` is
compared — including the ghost list `pending` of placed statements, so a `place` cannot be traded for an `append` — with
every refused operation accounted for by a recorded diagnostic (none on success).  The model does not log its operations, so
the history between two consecutive OBSERVABLE states stays existential; the theorems below fix the observable states:
the state after every statement of a file (`bodyStates`, a function of the run), after the main file, after
`close_segment`, after `finalize`. -/

theorem write_refused {seg : Seg.Active} {d : List UInt8} {e : Seg.Diag} (h : (seg.write d).2 = .diag e) :
    (seg.write d).1 = seg := by
  unfold Seg.Active.write at h ⊢
  cases hr : seg.remaining with
  | none => simp [hr] at h
  | some rem =>
    simp only [hr] at h ⊢
    by_cases hfit : d.length ≤ rem
    · simp [hfit] at h
    · simp only [hfit, if_false]

/-- an append, place or align that is refused leaves the whole state as it was: each of them changes the state only
through `ActiveSegment::write` -/
theorem refused_state (s : Seg.State) (op : Seg.Op) (e : Seg.Diag) (h : (Seg.step s op).2 = .diag e)
    (hop : (∃ d, op = .append d) ∨ (∃ d, op = .place d) ∨ ∃ n, op = .align n) : (Seg.step s op).1 = s := by
  cases ha : s.active with
  | none => rcases hop with ⟨d, rfl⟩ | ⟨d, rfl⟩ | ⟨n, rfl⟩ <;> simp only [Seg.step, ha]
  | some seg =>
    have key : ∀ d, (seg.write d).2 = .diag e → ({ s with active := some (seg.write d).1 } : Seg.State) = s :=
      fun d hd => by rw [write_refused hd]; exact Seg.eta_active ha
    rcases hop with ⟨d, rfl⟩ | ⟨d, rfl⟩ | ⟨n, rfl⟩ <;> simp only [Seg.step, ha] at h ⊢
    · exact key d h
    · cases hw : seg.write d with
      | mk seg' o =>
        rw [hw] at h
        cases o <;> first | cases h | skip
        have := key d (by rw [hw])
        rwa [hw] at this
    · by_cases hoff : (seg.base + seg.buf.length) % n = 0
      · simp only [hoff, if_true]
      · simp only [hoff, if_false] at h ⊢
        cases hr : seg.remaining with
        | none => rfl
        | some rem =>
          simp only [hr] at h ⊢
          by_cases hfit : n - (seg.base + seg.buf.length) % n ≤ rem
          · simp only [hfit, if_true] at h ⊢
            exact key _ h
          · simp only [hfit, if_false]

/-- C13 (whole programs)  A refused operation changes nothing one can observe: the image (closed map and active buffer) and
the list of placed statements are as before.  (An append / place / align that does not fit leaves the whole state as it
was; `.addr` onto an occupied address does close the previous region first, as `change_segment` does — the image is the
same; `close` and a legal `rewrite` are never refused.) -/
theorem refused_keeps_image (s : Seg.State) (op : Seg.Op) (inv : Seg.Inv s) (wf : Seg.Op.wf s op) (e : Seg.Diag)
    (h : (Seg.step s op).2 = .diag e) : Seg.image (Seg.step s op).1 = Seg.image s ∧ (Seg.step s op).1.pending = s.pending := by
  cases op with
  | select a =>
    obtain ⟨_, h2, h3, _⟩ := Seg.select_spec inv a wf
    exact ⟨h2, h3⟩
  | close =>
    have := (Seg.close_spec inv).1
    have e' : (Seg.step s .close).2 = (Seg.closeSegment s).2 := rfl
    rw [e', this] at h; cases h
  | rewrite addr d =>
    have := (Seg.rewrite_spec inv addr d wf).1
    have e' : (Seg.step s (.rewrite addr d)).2 = (Seg.rewrite s addr d).2 := rfl
    rw [e', this] at h; cases h
  | append d => rw [refused_state s _ e h (.inl ⟨d, rfl⟩)]; exact ⟨rfl, rfl⟩
  | place d => rw [refused_state s _ e h (.inr (.inl ⟨d, rfl⟩))]; exact ⟨rfl, rfl⟩
  | align n => rw [refused_state s _ e h (.inr (.inr ⟨n, rfl⟩))]; exact ⟨rfl, rfl⟩

theorem bodyStates_safe {enc : Encoder} (henc : EncLen enc) {inc : Inc} (hinc : IncOk inc) {env : Env}
    (hb : env.paths.isEmpty = false) (fs : Bytes → Option Bytes) (els : List Element) (st : St) (g : Good true st) :
    (∀ b ∈ bodyStates fs enc inc env els st, Good true b ∧ Ext st b) ∧
    List.Pairwise Ext (bodyStates fs enc inc env els st) :=
  have w := (safeRung true).bodyStates_spec (g := ()) (els₀ := els)
    (fun el _ _ h1 => (safe_spec_iff h1.2).mpr (statement_safe henc hinc h1.1 hb fs el)) els st (fun _ m => m) ⟨g, hb⟩
  ⟨fun b hb' => ⟨(w.1 b hb').1.1, (w.1 b hb').2⟩, w.2⟩

/-- C13 (whole programs)  The states a file passes through between its statements are linked by legal histories: for ANY file
activation (main file or included, any depth) started in a good state, each two consecutive entries of `bodyStates` — the
state before a statement and the state after it, whatever the statement did, a complete `.include` with everything the
included tree does included — are related by `Traced`: a legal history from the regions of the first to the regions of the
second (whole `Seg.State`), whose refused operations are covered by newly recorded diagnostics. -/
theorem bodyStates_traced_from {enc : Encoder} (henc : EncLen enc) {inc : Inc} (hinc : IncOk inc) {env : Env}
    (hb : env.paths.isEmpty = false) (fs : Bytes → Option Bytes) :
    ∀ (els : List Element) (st : St), Good true st → ∀ b ∈ bodyStates fs enc inc env els st, Traced st b :=
  fun els st g b hb' => ((bodyStates_safe henc hinc hb fs els st g).1 b hb').2.2.2

theorem bodyStates_traced {enc : Encoder} (henc : EncLen enc) {inc : Inc} (hinc : IncOk inc) {env : Env}
    (hb : env.paths.isEmpty = false) (fs : Bytes → Option Bytes) :
    ∀ (els : List Element) (st : St), Good true st → List.Pairwise Traced (bodyStates fs enc inc env els st) :=
  fun els st g => (bodyStates_safe henc hinc hb fs els st g).2.imp (·.2.2)

/-- the statement of `run_trace` for any encoder that reports the lengths it writes -/
theorem runWith_trace {enc : Encoder} (henc : EncLen enc) (fs : Bytes → Option Bytes) (main data : Bytes) (hfs : fs main = some data) (o : Outcome)
    (h : runWith enc fs main = .done o) :
    ∃ (st st' : St) (res : Res) (fin : Bool) (s1 : Seg.State) (tr1 tr2 : List (Seg.Op × Seg.Out)),
      assembleFile fs enc maxDepth Env.init St.init data main = .ok (st, res) ∧
      Path Seg.init tr1 st.seg ∧ diags tr1 ≤ st.errors.length ∧
      Seg.closeSegment st.seg = (s1, .ok) ∧
      finalize enc Env.init { st with seg := s1 } = .ok (st', fin) ∧
      Path s1 tr2 st'.seg ∧ st.errors.length + diags tr2 ≤ st'.errors.length ∧
      o = ⟨res = .ok, none, fin, st'.errors.reverse, st'.seg.map⟩ ∧
      (o.success = true → diags tr1 = 0 ∧ diags tr2 = 0) := by
  obtain ⟨data', st, res, st', fin, hdata, ha, _, e, hc, hf, _, e', rfl⟩ := (runWith_safe henc fs main).2 o h
  rw [hfs] at hdata; cases hdata
  obtain ⟨tr1, p1, c1⟩ := e.2.2
  obtain ⟨tr2, p2, c2⟩ := e'.2.2
  have c1' : diags tr1 ≤ st.errors.length := by simpa [St.init] using c1
  refine ⟨st, st', res, fin, _, tr1, tr2, ha, p1, c1', Prod.ext rfl hc, hf, p2, c2, rfl, fun hs => ?_⟩
  have herr : st'.errors = [] := (finalize_grew hf).2.mp (by simpa [Outcome.success] using hs)
  rw [herr] at c2
  simp only [List.length_nil] at c2
  omega

/-- C13 (whole programs)  **`run_trace`**: the history of a finished run, tied to the model's own intermediate states (where
`Context::assemble` of the main file returned, after `close_segment`, after `finalize`): legal histories lead from each to the
next, their refused operations number at most the diagnostics recorded, and on a successful run NO operation was refused
(`diags = 0`). -/
theorem run_trace (fs : Bytes → Option Bytes) (main data : Bytes) (hfs : fs main = some data) (o : Outcome)
    (h : run fs main = .done o) :
    ∃ (st st' : St) (res : Res) (fin : Bool) (s1 : Seg.State) (tr1 tr2 : List (Seg.Op × Seg.Out)),
      assembleFile fs encoder maxDepth Env.init St.init data main = .ok (st, res) ∧
      Path Seg.init tr1 st.seg ∧ diags tr1 ≤ st.errors.length ∧
      Seg.closeSegment st.seg = (s1, .ok) ∧
      finalize encoder Env.init { st with seg := s1 } = .ok (st', fin) ∧
      Path s1 tr2 st'.seg ∧ st.errors.length + diags tr2 ≤ st'.errors.length ∧
      o = ⟨res = .ok, none, fin, st'.errors.reverse, st'.seg.map⟩ ∧
      (o.success = true → diags tr1 = 0 ∧ diags tr2 = 0) :=
  runWith_trace encoder_len fs main data hfs o h

theorem run_path {enc : Encoder} (henc : EncLen enc) (fs : Bytes → Option Bytes) (main : Bytes) (o : Outcome)
    (h : runWith enc fs main = .done o) :
    ∃ (tr : List (Seg.Op × Seg.Out)) (s' : Seg.State), Path Seg.init tr s' ∧ s'.map = o.image ∧ o.closeErr = none :=
  have ⟨tr, s', hp, hm, hc, _⟩ := runWith_path henc fs main o h
  ⟨tr, s', hp, hm, hc⟩

/-- C13 (whole programs)  **`run_ops_legal`**: every region operation a finished run of the whole pipeline issued was legal
(in particular: every `.rewrite addr d` found `(addr, |d|)` among the placed statements — a deferred value overwrites exactly
its own placeholder), so the theorems of Props/C13.lean apply to the image of the run. -/
theorem run_ops_legal (fs : Bytes → Option Bytes) (main : Bytes) (o : Outcome) (h : run fs main = .done o) :
    ∃ ops : List Seg.Op, Seg.Legal Seg.init ops ∧ (∀ out ∈ Seg.outs Seg.init ops, out ≠ .panic) ∧
      Seg.Inv (Seg.run Seg.init ops) ∧ (Seg.run Seg.init ops).map = o.image := by
  obtain ⟨tr, s', hp, hm, _⟩ := run_path encoder_len fs main o h
  obtain ⟨l1, l2, _, l4⟩ := path_legal hp
  refine ⟨tr.map Prod.fst, l1, Seg.history_no_panic _ l1, ?_, ?_⟩
  · rw [l2]; exact l4 Seg.inv_init
  · rw [l2]; exact hm

/-- C13 (whole programs)  `close_segment` at the end of a finished run never fails -/
theorem run_close_never_fails (fs : Bytes → Option Bytes) (main : Bytes) (o : Outcome) (h : run fs main = .done o) :
    o.closeErr = none := by
  obtain ⟨_, _, _, _, hc⟩ := run_path encoder_len fs main o h
  exact hc

end Trion.Asm
