import TrionModel.Props.C02
import TrionModel.Lemmas.CodecOut32
import TrionModel.Lemmas.ArmAgree
/-!
# C01 — emitted machine code is the ARMv6-M encoding of the instruction

Specification: `Trion.Arm.table` / `Trion.Arm.decode` (`Spec/Arm.lean`), the ARMv6-M encoding diagrams as
bit-pattern rows with their UNPREDICTABLE side conditions; `Arm.decode hws` = the first row (in table order)
of the right width whose fixed bits agree.  The table shares no code with the model `Trion.Codec.encode`.

Proof route: the table and the decoder model read every bit pattern alike (`arm_decode_iff`; how: DESIGN.md §16,
`Lemmas/ArmSpec.lean`, `Lemmas/ArmAgree16.lean`).  Through that agreement `enc_sound` is the C02 round trip `rt_all` and
`enc_complete` is C03's canonicity (`decode16_out`, `decode32_out`); `enc_reject` is the contrapositive of `enc_complete`.

"Operand tuple" always means an instruction value in the crate's canonical operand order; the one place where the
manual prints a second, commuted spelling for the same bits is stated explicitly in `add_sp_commuted_alias`
(see also the header of `Spec/Arm.lean`).
-/
namespace Trion.Codec
open Trion

/-- The diagram strings of the table are not just documentation: every row's arithmetic reading
(`n`, `fixed`, `fields`, which is what `Arm.decode` evaluates) is `Arm.compile` of its diagram. -/
theorem table_reads_diagrams : ∀ rw ∈ Arm.table, Arm.readsDiagram rw = true := by decide +kernel

/-- C01.a  Soundness: whatever the encoder emits is, in the ARMv6-M table, the encoding of exactly that
instruction (mnemonic and every operand). -/
theorem enc_sound (i : Instr) (hws : List Nat) (h : encode i = .ok hws) (wf : i.wf) : Arm.decode hws = some i :=
  (arm_decode_iff hws i).mpr (rt_all i hws h wf)

/-- C01.b  Completeness: every operand tuple that some bit pattern encodes in the table is accepted by the
encoder, and what the encoder emits for it is again an encoding of that tuple (possibly the alias row:
`ADDS Rd,Rd,#imm3` is emitted in the two-operand form). -/
theorem enc_complete (i : Instr) (hws : List Nat) (h : Arm.decode hws = some i) :
    ∃ hws', encode i = .ok hws' ∧ Arm.decode hws' = some i := by
  rcases (arm_decode_iff hws i).mp h with ⟨w, rfl, _, ht, hd⟩ | ⟨w0, w1, rfl, _, _, _, hd⟩
  · have o := decode16_out w ht
    rw [hd] at o
    cases o with
    | ok _ hws' he _ wf => exact ⟨hws', he, enc_sound i _ he wf⟩
  · have o := decode32_out w0 w1
    rw [hd] at o
    cases o with
    | ok _ hws' he _ wf => exact ⟨hws', he, enc_sound i _ he wf⟩

/-- C01.c  Rejection is justified: an operand tuple the encoder rejects has no encoding in the table at all —
nothing is emitted as the encoding of some other instruction, and nothing encodable is refused. -/
theorem enc_reject (i : Instr) (e : EncErr) (h : encode i = .error e) : ∀ hws, Arm.decode hws ≠ some i := by
  intro hws hd
  obtain ⟨hws', he, _⟩ := enc_complete i hws hd
  rw [h] at he
  cases he

/-- C01.d  Every accepted instruction is emitted as one or two halfwords, each below 2^16; two halfwords
exactly when the first one lies in the architecture's 32-bit space (`Arm.wide`). -/
theorem enc_len (i : Instr) (hws : List Nat) (h : encode i = .ok hws) (wf : i.wf) :
    (hws.length = 1 ∨ hws.length = 2) ∧ (∀ w ∈ hws, w < 65536) ∧
    (∀ w0 ∈ hws.head?, (hws.length = 2 ↔ Arm.wide w0 = true)) := by
  rcases enc_shape i hws h wf with ⟨w, rfl, a, b⟩ | ⟨w0, w1, rfl, a, b, c⟩
  · exact ⟨.inl rfl, by simpa using a, by simp [Arm.wide]; omega⟩
  · exact ⟨.inr rfl, by simpa using ⟨a, b⟩, by simpa [Arm.wide] using c⟩

/-- C01.e  Serialisation is little-endian, first halfword first — for any number of halfwords, in
particular the one or two that `enc_len` says the encoder emits. -/
theorem bytes_le (hws : List Nat) : toBytes hws = hws.flatMap fun h => [h % 256, h / 256] := by
  induction hws with
  | nil => rfl
  | cons h t ih => simp [toBytes, ih]

example (h0 : Nat) : toBytes [h0] = [h0 % 256, h0 / 256] := rfl
example (h0 h1 : Nat) : toBytes [h0, h1] = [h0 % 256, h0 / 256, h1 % 256, h1 / 256] := rfl

/-- C01.f  The commuted spelling `ADD <Rdm>, SP, <Rdm>` (ADD (SP plus register) T1, `01000100 DM 1101 Rdm`).
For every register `d` these bits — `0x4468 + DM·128 + Rdm` with `DM:Rdm = d` — are what the encoder emits for
the instruction value in canonical operand order, `add dst=d lhs=d rhs=SP`; the table and the decoder read them
back as that value.  The commuted value `add dst=d lhs=SP rhs=d` (d ≠ SP), which the manual prints for the same
bits, is *not* a value of the table: the encoder rejects it and `enc_reject` applies to it.  So "has no
encoding" in `enc_reject` is relative to operand tuples in the crate's canonical order (`dst = lhs` for the
two-register ADD); accepting the commuted value as well would give two instruction values one encoding, which
C02 (`enc_inj`) forbids. -/
theorem add_sp_commuted_alias (d : Reg) :
    encode (.add false d d (.reg Reg.sp)) = .ok [0x4468 + d.val / 8 * 128 + d.val % 8] ∧
    Arm.decode [0x4468 + d.val / 8 * 128 + d.val % 8] = some (.add false d d (.reg Reg.sp)) ∧
    decode (toBytes [0x4468 + d.val / 8 * 128 + d.val % 8]) = .ok (2, .add false d d (.reg Reg.sp)) ∧
    (d ≠ Reg.sp → encode (.add false d Reg.sp (.reg d)) = .error .unrepresentable ∧
      ∀ hws, Arm.decode hws ≠ some (.add false d Reg.sp (.reg d))) := by
  have hd := d.isLt
  have hsp : (Reg.sp : Reg).val = 13 := rfl
  have he : encode (.add false d d (.reg Reg.sp)) = .ok [0x4468 + d.val / 8 * 128 + d.val % 8] := by
    rw [encode, if_pos (Or.inl rfl), if_neg (by simp [hsp]), hsp]
    congr 2; omega
  have wf : (Instr.add false d d (.reg Reg.sp)).wf := by simp [Instr.wf, ImmReg.wf]
  refine ⟨he, enc_sound _ _ he wf, decode_toBytes_nil _ _ he wf, ?_⟩
  · intro hne
    have hr : encode (.add false d Reg.sp (.reg d)) = .error .unrepresentable := by
      have h13 : d.val ≠ 13 := fun h => hne (Fin.ext h)
      rw [encode, if_pos (Or.inl rfl), if_pos (Or.inr (Or.inl (by rw [hsp]; omega)))]
      rfl
    exact ⟨hr, enc_reject _ _ hr⟩

/-- the table and the decoder agree on every pattern (the alias clause of C03: what the decoder returns is
the architectural reading of the bytes) -/
theorem dec_alias (hws : List Nat) (i : Instr) :
    Arm.decode hws = some i ↔ ∃ n, decode (toBytes hws) = .ok (n, i) ∧ (hws.length = 1 ∨ hws.length = 2) ∧
      (∀ w ∈ hws, w < 65536) ∧ 2 * hws.length = n := by
  rw [arm_decode_iff]
  constructor
  · rintro (⟨w, rfl, b, t, hd⟩ | ⟨w0, w1, rfl, b0, b1, t, hd⟩)
    · exact ⟨2, by rw [decode_single_nil w t, hd], .inl rfl, by simpa using b, rfl⟩
    · exact ⟨4, by rw [decode_double_nil w0 w1 t (by omega), hd], .inr rfl, by simpa using ⟨b0, b1⟩, rfl⟩
  · rintro ⟨n, hd, hl, hb, rfl⟩
    match hws, hl with
    | [w], _ =>
      have hlt : w < 65536 := hb w (by simp)
      by_cases ht : w / 2048 < 29
      · rw [decode_single_nil w ht] at hd
        exact .inl ⟨w, rfl, hlt, ht, hd⟩
      · -- a lone halfword in the 32-bit space underflows
        cases hd.symm.trans (decode_short (rest := []) (le16 w) (by omega) (by omega) (by decide))
    | [w0, w1], _ =>
      have b0 : w0 < 65536 := hb w0 (by simp)
      have b1 : w1 < 65536 := hb w1 (by simp)
      by_cases ht : 29 ≤ w0 / 2048
      · rw [decode_double_nil w0 w1 ht (by omega)] at hd
        exact .inr ⟨w0, w1, rfl, b0, b1, ht, hd⟩
      · -- below the 32-bit space only the first halfword is read, as an instruction of two bytes
        have o := decode16_out w0 (by omega)
        rw [← decode_single w0 (toBytes [w1]) (by omega), show toBytes [w0] ++ toBytes [w1] = toBytes [w0, w1] from rfl,
          hd] at o
        cases o

example : encode (.cps true) = .ok [0xB662] ∧ Arm.decode [0xB662] = some (.cps true) := ⟨rfl, by decide +kernel⟩
example : encode (.add false 8 13 (.reg 8)) = .error .unrepresentable := rfl
example : Arm.decode [0x4487] = some (.add false 15 15 (.reg 0)) := by decide +kernel
example : Arm.decode [0x44FF] = none := by decide +kernel
-- LDM/STM of nothing: DDI 0419 says UNPREDICTABLE (BitCount(registers) < 1); the crate accepts it in both directions and its
-- own test suite pins that (test_default_instruction encodes Ldm/Stm with the default, empty set), so the table reads the
-- pattern as the instruction (the reading is recorded in props/C01.json; PUSH/POP of nothing ARE rejected)
example : encode (.ldm 0 0) = .ok [0xC800] ∧ Arm.decode [0xC800] = some (.ldm 0 0) := ⟨rfl, by decide +kernel⟩
example : encode (.ldm 0 1) = .ok [0xC801] ∧ Arm.decode [0xC801] = some (.ldm 0 1) := ⟨rfl, by decide +kernel⟩
example : encode (.bl (-4)) = .ok [0xF7FF, 0xFFFE] ∧ Arm.decode [0xF7FF, 0xFFFE] = some (.bl (-4)) :=
  ⟨rfl, by decide +kernel⟩
-- the alias allowed by `enc_complete`: the three-operand diagram with Rd = Rn is read as the same tuple
example : Arm.decode [0x1C40] = some (.add true 0 0 (.imm 1)) ∧ encode (.add true 0 0 (.imm 1)) = .ok [0x3001] :=
  ⟨by decide +kernel, rfl⟩

end Trion.Codec
