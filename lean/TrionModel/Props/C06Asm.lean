import TrionModel.Lemmas.AsmFile
import TrionModel.Lemmas.AsmEnc
import TrionModel.Lemmas.ParsePos
import TrionModel.Lemmas.AsmWithin
import TrionModel.Lemmas.AsmNoLoop
/-!
# C06 — every input yields success or diagnostics, never a crash: the whole pipeline

Model: `Trion.Asm.run fs main` (Model/Asm.lean) — `Context::assemble` of the main file (tokenizer, parser, every
directive, the instruction front end and encoder, the output regions, the constant tables, nested `.include`s,
the local task loop), `close_segment`, `finalize` (the global task loop).  Every logic-level panic site of the
Rust code is an explicit `Stop.panic` of the model (list in the header of Model/Asm.lean).

`run_no_panic` is THE theorem of the property: for every file system and every main path the outcome is not
`Result.panic`.  The other non-`done` outcomes are named exclusions, not panics of the code:
  * `Result.fuel`  — more than `maxDepth` nested includes (cyclic includes: known finding K2);
  * `Result.loop`  — the round counter of a task loop ran out: model artefact, proved unreachable (`run_no_loop`);
  * `Result.noMain`— `fs main = none` (the binary reports an I/O error before creating a `Context`).

The proof is the whole-state invariant `Good` (Lemmas/AsmBase.lean) — region invariant of C13, every queued task
refers to a statement placed with the length it is rewritten with (the encoder's output length depends on the
constructor only: `encoder_len`), no register name is a table key, `locals`/`local_tasks` are `Some` exactly
inside a file, no `.global` closure waits in the outermost global queue — preserved by every statement, by both
task loops and across `.include` (Lemmas/AsmPrim, AsmStmt, AsmDir, AsmFile), composed with the totality lemmas of the
stages: `Lex.tokens_run` and `Parse.allLoop_spec` (`parseFile_cases`), `Simp.evaluateE_ne_panic_both`,
`Front.assemble_no_panic_proof`, `Seg.step_nonrewrite`, `Seg.rewrite_spec`.  (Props/C06.lean states the same stage facts
as theorems of the property; this file does not import it.)
-/
namespace Trion.Asm
open Trion

/-- the general form: any encoder whose output length depends only on the instruction's constructor -/
theorem runWith_no_panic (enc : Encoder) (henc : EncLen enc) (fs : Bytes → Option Bytes) (main : Bytes) :
    runWith enc fs main ≠ .panic :=
  (runWith_safe henc fs main).1

/-- C06.run_no_panic  THE theorem: for every file system and every main file, the whole pipeline — tokenizer,
parser, every directive, the instruction front end and encoder, output regions, constant tables, nested
includes, both task loops, `close_segment`, `finalize` — never reaches a panic site of the Rust code. -/
theorem run_no_panic (fs : Bytes → Option Bytes) (main : Bytes) : run fs main ≠ .panic :=
  runWith_no_panic encoder encoder_len fs main

/-- C06.run_no_loop  The round counters of the task loops never run out: a task never queues a local task, and
what it queues globally is a retry with `global = true`, which queues nothing (Lemmas/AsmNoLoop.lean). -/
theorem run_no_loop (fs : Bytes → Option Bytes) (main : Bytes) : run fs main ≠ .loop :=
  runWith_no_loop encoder fs main

/-- C06.run_cases  Every run ends in an outcome (success or diagnostics, `run_outcome`), unless the main file does
not exist or the include depth exceeds the model's bound (cyclic includes, known finding K2). -/
theorem run_cases (fs : Bytes → Option Bytes) (main : Bytes) :
    (∃ o, run fs main = .done o) ∨ run fs main = .noMain ∨ run fs main = .fuel := by
  cases h : run fs main with
  | done o => exact .inl ⟨o, rfl⟩
  | noMain => exact .inr (.inl rfl)
  | fuel => exact .inr (.inr rfl)
  | panic => exact absurd h (run_no_panic fs main)
  | loop => exact absurd h (run_no_loop fs main)

/-- C06.run_outcome  The shape of every outcome: success (close succeeded and `finalize` returned true) means that
`assemble` returned `Ok` and that not a single diagnostic was recorded; a failure always shows as at least one
recorded diagnostic or as the error of `close_segment`.  (Lemmas/AsmWithin.lean: diagnostics are only ever added,
and every `Err` result of a statement, task, file or loop comes with a new diagnostic.) -/
theorem run_outcome (fs : Bytes → Option Bytes) (main : Bytes) (o : Outcome) (h : run fs main = .done o) :
    (o.success = true → o.diags = [] ∧ o.assembleOk = true) ∧
    (o.success = false → o.diags ≠ [] ∨ o.closeErr ≠ none) := by
  obtain ⟨st', hd, e, h1, h2⟩ := runWith_within (covers_src fs) h
  refine ⟨fun hs => ⟨by rw [hd, h1 hs]; rfl, ?_⟩, fun hs => ?_⟩
  · have := e.length
    rw [h1 hs] at this
    cases ha : o.assembleOk <;> simp [ha] at this ⊢
  · by_cases hc : o.closeErr = none
    · exact .inl (by rw [hd]; simpa using h2 hc hs)
    · exact .inr hc

/-- a weaker form, corollary of `run_outcome` -/
theorem run_outcome_partial (fs : Bytes → Option Bytes) (main : Bytes) (o : Outcome) (h : run fs main = .done o) :
    (o.success = true → o.diags = [] ∧ o.closeErr = none) ∧
    (o.success = false → o.closeErr ≠ none ∨ o.finalize = false) := by
  have ro := run_outcome fs main o h
  refine ⟨fun hs => ⟨(ro.1 hs).1, ?_⟩, fun hs => ?_⟩
  · simp only [Outcome.success, Bool.and_eq_true, Option.isNone_iff_eq_none] at hs
    exact hs.1
  · simp only [Outcome.success, Bool.and_eq_false_iff, Option.isNone_eq_false_iff, Option.isSome_iff_ne_none] at hs
    exact hs

/-- C06.diag_has_pos  Every recorded diagnostic names a file and carries a line ≥ 1 and a column ≥ 1.
Hypothesis (necessary): the empty path is not a file — an `.include ""` next to a file without directory part
would otherwise assemble a file whose name is the empty string; it also makes `main ≠ []` (the main file exists).
(Lemmas/ParsePos.lean: every token, tokenizer error, end position, parser error and element has line, col ≥ 1;
`runWith_dblame`, Lemmas/AsmWithin.lean: every diagnostic names a file of the project and sits at an element or at the parse error of that file.) -/
theorem diag_has_pos (fs : Bytes → Option Bytes) (main : Bytes) (hfs : fs [] = none)
    (o : Outcome) (h : run fs main = .done o) : ∀ d ∈ o.diags, d.file ≠ [] ∧ 1 ≤ d.line ∧ 1 ≤ d.col := by
  intro d hd
  obtain ⟨text, lo, els, err, h1, h2, h3, hb⟩ := runWith_dblame h d hd
  have hp := Parse.all_p1 h2 h3
  refine ⟨fun e => (by rw [e, hfs] at h1; cases h1), ?_⟩
  rcases hb with ⟨el, hel, hl, hc, _⟩ | ⟨e, he, hl, hc, _⟩
  · rw [hl, hc]; exact hp.1 el hel
  · rw [hl, hc]; exact hp.2 e he

/-- non-vacuity: the panic outcome is a real outcome of the model's primitives outside the invariant
("no local scope"), the initial state satisfies the invariant, and the main file need not exist -/
example : getConstant St.init [120] .loc = .stop .panic := rfl
example : addTask St.init (.globalCopy [120] 1 1) .loc = .stop .panic := rfl
example : Good false St.init := good_init
example : ∃ fs main, run fs main ≠ .panic ∧ fs main = none := ⟨fun _ => none, [], run_no_panic _ _, rfl⟩

end Trion.Asm
