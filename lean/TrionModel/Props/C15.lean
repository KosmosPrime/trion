import TrionModel.Lemmas.MapPut
import TrionModel.Lemmas.MapErase
import TrionModel.Lemmas.MapCount
import TrionModel.Lemmas.MapRuns
import TrionModel.Lemmas.MapOpsPut
import TrionModel.Lemmas.MapOpsRemove
/-!
# C15 — the sparse memory map behaves as an address-to-byte dictionary

Model: `Trion.Map` (Model/Map.lean), mirroring `MemoryMap`. Specification: `Trion.Dict` (Spec/Dict.lean),
`Dict = Nat → Option UInt8`. `abs ps` (Lemmas/Map.lean) is the dictionary denoted by the segment list `ps`;
`MInv ps` = segments ascending, non-empty, last address ≤ 0xFFFFFFFF, a gap of at least one address
between neighbours (non-overlapping and maximally merged).

`put` and `remove_range` exist in two forms: the recursive, proof-friendly `put` / `removeRange` of
Model/Map.lean, about which the refinement theorems are stated, and the OPERATIONAL `putOps` /
`removeRangeOps` of Model/MapOps.lean, which mirror the Rust functions statement by statement with an
explicit `.panic` at every index / slice / `splice` / `drain` / `split_at_mut` / `insert` / `assert!` /
overflow-checked arithmetic site (and `.desync` if a written `range.last` disagreed with the data).
`putOps_eq` / `removeRangeOps_eq` show that on every `MInv` state the operational forms return `.ok` of
exactly what the recursive forms compute, so every refinement theorem transfers (`ops_no_panic`,
`ops_history`).
-/
namespace Trion.Map
open Trion.Dict

/-- C15 (put): a fitting put keeps the invariant, overwrites exactly the range in the dictionary, and returns
the number of previously unoccupied addresses it filled. -/
theorem put_refines (ps : Segs) (a : Nat) (d : List UInt8) (inv : MInv ps)
    (h : a + d.length ≤ 4294967296) :
    (put ps a d).1 = .ok (fresh (abs ps) a d.length) ∧
    MInv (put ps a d).2 ∧ abs (put ps a d).2 = Dict.put (abs ps) a d := by
  exact put_spec ps a d inv h

example : put [(2, [9, 9])] 1 [1, 2, 3, 4] = (.ok 2, [(1, [1, 2, 3, 4])]) := by rfl

/-- C15 (overflow clause): data running past 0xFFFFFFFF is rejected and the map is unchanged. -/
theorem put_overflow (ps : Segs) (a : Nat) (d : List UInt8) (ha : a ≤ u32Max)
    (h : a + d.length > 4294967296) :
    put ps a d = (.error (.overflow d.length (4294967296 - a)), ps) := by
  unfold put u32Max at *
  have hd : d.isEmpty = false := by
    cases d with
    | nil => simp at h; omega
    | cons _ _ => rfl
  rw [hd]
  simp only [Bool.false_eq_true, if_false]
  rw [if_pos (by omega)]
  congr 3
  omega

example : put [(4294967295, [1])] 4294967294 [1, 2, 3] = (.error (.overflow 3 2), [(4294967295, [1])]) := by
  rfl

/-- C15 (remove): `remove a` deletes exactly the maximal run of occupied addresses containing `a` and
returns that run (range and bytes); if `a` is unoccupied nothing changes and `None` is returned.
It never panics. -/
theorem remove_refines (ps : Segs) (a : Nat) (inv : MInv ps) :
    MInv (remove ps a).2 ∧ abs (remove ps a).2 = Dict.remove (abs ps) a ∧
    (((remove ps a).1 = .ok none ∧ abs ps a = none) ∨
     (∃ f d, (remove ps a).1 = .ok (some ((f, f + d.length - 1), d)) ∧ d ≠ [] ∧ f ≤ a ∧ a < f + d.length ∧
        (∀ k, f ≤ k → k < f + d.length → abs ps k = d[k - f]?) ∧ abs ps (f + d.length) = none ∧
        (∀ k, k + 1 = f → abs ps k = none))) :=
  remove_spec inv a

example : remove [(1, [1, 2]), (5, [3])] 2 = (.ok (some ((1, 2), [1, 2])), [(5, [3])]) := by rfl

/-- C15 (remove_range): `remove_range(lo..=hi)` keeps the invariant and empties exactly the addresses `lo..=hi`;
every other address keeps its byte. -/
theorem removeRange_refines (ps : Segs) (lo hi : Nat) (inv : MInv ps) (h : lo ≤ hi) :
    MInv (removeRange ps lo hi) ∧ abs (removeRange ps lo hi) = Dict.removeRange (abs ps) lo hi :=
  ⟨(removeRange_spec ps 0 lo hi inv h).1, funext (removeRange_spec ps 0 lo hi inv h).2⟩

example : removeRange [(1, [1, 2, 3, 4])] 2 3 = [(1, [1]), (4, [4])] := by rfl

/-- C15 (clear): `clear` leaves the empty map, the dictionary with no address occupied. -/
theorem clear_refines (ps : Segs) : MInv (clear ps) ∧ abs (clear ps) = Dict.clear (abs ps) :=
  ⟨trivial, rfl⟩

/-- C15 (binary search): on every well-formed map, for every address (including 0 and 0xFFFFFFFF) and all
three modes, the binary search returns what a linear scan returns, and never panics: Exact = index of the
segment containing `a`; Below = that, else the last segment entirely below `a`; Above = that, else the
first segment entirely above `a` (`locLin`, Lemmas/MapLocate.lean). -/
theorem locate_spec (ps : Segs) (a : Nat) (m : Search) (inv : MInv ps) :
    locate ps a m = locLin a m ps 0 ∧ locate ps a m ≠ .panic := by
  have h := locate_eq_locLin inv a m
  refine ⟨h, ?_⟩
  rw [h]
  exact locLin_ne_panic a m ps 0

example : locate [(1, [1, 2]), (5, [3]), (9, [4])] 4 .below = .idx 0 ∧
    locate [(1, [1, 2]), (5, [3]), (9, [4])] 4 .above = .idx 1 ∧
    locate [(1, [1, 2]), (5, [3]), (9, [4])] 4 .exact = .none := by decide

/-- C15 (find, Exact): `None` iff the address is unoccupied; otherwise the maximal run containing it. -/
theorem find_exact_agrees (ps : Segs) (a : Nat) (inv : MInv ps) :
    (find ps a .exact = .ok none ∧ abs ps a = none) ∨
    (∃ f l, find ps a .exact = .ok (some (f, l)) ∧ f ≤ a ∧ a ≤ l ∧ IsRun (abs ps) f l) := by
  rcases find_agrees inv a .exact with h | ⟨f, l, h1, h2, ⟨h3, h4⟩ | h3⟩
  · exact .inl h
  · exact .inr ⟨f, l, h1, h3, h4, h2⟩
  · exact h3.elim

/-- C15 (find, Above): the run containing the address, else the nearest run above it (nothing occupied in
between), else `None` when nothing at or above the address is occupied. -/
theorem find_above_agrees (ps : Segs) (a : Nat) (inv : MInv ps) :
    (find ps a .above = .ok none ∧ ∀ k, a ≤ k → abs ps k = none) ∨
    (∃ f l, find ps a .above = .ok (some (f, l)) ∧ IsRun (abs ps) f l ∧
      ((f ≤ a ∧ a ≤ l) ∨ (a < f ∧ ∀ k, a ≤ k → k < f → abs ps k = none))) :=
  find_agrees inv a .above

/-- C15 (find, Below): the run containing the address, else the nearest run below it (the maximal run with the
greatest last address `< a`: nothing is occupied between its end and `a`), else `None` when nothing at or below
the address is occupied. -/
theorem find_below_agrees (ps : Segs) (a : Nat) (inv : MInv ps) :
    (find ps a .below = .ok none ∧ ∀ k, k ≤ a → abs ps k = none) ∨
    (∃ f l, find ps a .below = .ok (some (f, l)) ∧ IsRun (abs ps) f l ∧
      ((f ≤ a ∧ a ≤ l) ∨ (l < a ∧ ∀ k, l < k → k ≤ a → abs ps k = none))) :=
  find_agrees inv a .below

example : MInv [(10, [1, 2, 3]), (20, [4]), (30, [5, 6])] ∧
    find [(10, [1, 2, 3]), (20, [4]), (30, [5, 6])] 25 .below = .ok (some (20, 20)) ∧
    find [(10, [1, 2, 3]), (20, [4]), (30, [5, 6])] 11 .below = .ok (some (10, 12)) ∧
    find [(10, [1, 2, 3]), (20, [4]), (30, [5, 6])] 5 .below = .ok none := by
  refine ⟨by simp [MInv, Ok], by decide, by decide, by decide⟩

/-- C15 (get, Exact): `None` iff unoccupied; otherwise the run and the bytes from `a` to the end of the run. -/
theorem get_exact_agrees (ps : Segs) (a : Nat) (inv : MInv ps) :
    (get ps a .exact = .ok none ∧ abs ps a = none) ∨
    (∃ f l d, get ps a .exact = .ok (some ((f, l), d)) ∧ f ≤ a ∧ a ≤ l ∧ IsRun (abs ps) f l ∧
      d.length = l + 1 - a ∧ ∀ i, i < d.length → abs ps (a + i) = d[i]?) := by
  rcases find_exact_spec inv a with ⟨hl, _, h2⟩ | ⟨j, s, h1, hl', _, h4, h5⟩
  · left; unfold get; rw [hl]; exact ⟨rfl, h2⟩
  · obtain ⟨a1, _⟩ := abs_of_idx inv h1
    obtain ⟨hr, hl⟩ := isRun_of_idx inv h1
    have hle := (hl a).mp h5
    right
    refine ⟨s.1, segLast s, s.2.drop (a - s.1), ?_, h4, hle, hr, ?_, fun i hi => ?_⟩
    · unfold get; rw [hl']; simp only [h1]
      rw [if_neg (by omega), if_neg (by omega)]
    · rw [List.length_drop]; unfold segLast at hle ⊢; omega
    · rw [List.length_drop] at hi
      rw [a1 (a + i) (by omega) (by omega), List.getElem?_drop]
      congr 1; omega

/-- C15 (count): never panics; (number of occupied addresses, saturated at u32::MAX, number of segments —
which by `MInv` are the maximal runs). -/
theorem count_agrees (ps : Segs) (inv : MInv ps) :
    count ps = .ok (min (occupied (abs ps) 0 4294967296) u32Max, ps.length) :=
  count_spec inv

/-- C15 (count_range): never panics; (number of occupied addresses in `lo..=hi`, number of segments meeting
the range). -/
theorem countRange_agrees (ps : Segs) (lo hi : Nat) (inv : MInv ps) (h : lo ≤ hi) (hh : hi ≤ u32Max) :
    countRange ps lo hi =
      .ok (min (occupied (abs ps) lo (hi + 1 - lo)) u32Max, (ps.filter (meets lo hi)).length) :=
  countRange_spec inv lo hi h hh

/-- C15 (iter_range): never panics; exactly the segments meeting `lo..=hi`, in order, each clipped to the
range (range and bytes). -/
theorem iterRange_agrees (ps : Segs) (lo hi : Nat) (inv : MInv ps) (h : lo ≤ hi) (hh : hi ≤ u32Max) :
    iterRange ps lo hi = .ok ((ps.filter (meets lo hi)).map fun s =>
      ((max s.1 lo, min (segLast s) hi),
        (s.2.take (min (segLast s) hi + 1 - s.1)).drop (max s.1 lo - s.1))) :=
  iterRange_spec inv lo hi h

example : countRange [(1, [1, 2, 3]), (7, [4])] 2 7 = .ok (3, 2) ∧
    iterRange [(1, [1, 2, 3]), (7, [4])] 2 7 = .ok [((2, 3), [2, 3]), ((7, 7), [4])] := by decide

/-- C15 (canonical representation): two well-formed segment lists denoting the same dictionary are equal, so
"the segments" of a map are a function of the dictionary alone (its maximal runs). -/
theorem minv_canonical {ps qs : Segs} (hp : MInv ps) (hq : MInv qs) (h : abs ps = abs qs) : ps = qs :=
  ok_canonical (l := 0) hp hq (fun k => congrFun h k)

/-- the run starts counted by `Dict.runs` are exactly the first addresses of the maximal runs -/
theorem runs_counts_isRun {ps : Segs} (inv : MInv ps) (k : Nat) :
    startsAt (abs ps) 0 k = true ↔ ∃ l, IsRun (abs ps) k l := by
  have ok : Ok 0 ps := inv
  constructor
  · intro hs
    simp only [startsAt, Bool.and_eq_true, Bool.or_eq_true, beq_iff_eq] at hs
    obtain ⟨h1, h2⟩ := hs
    rcases find_exact_spec ok k with ⟨_, _, hn⟩ | ⟨j, s, hj, _, _, hlo, hhi⟩
    · rw [hn] at h1; exact absurd h1 (by simp)
    · obtain ⟨i1, i2, i3, i4, i5⟩ := abs_of_idx ok hj
      have hx : 0 < s.2.length := List.length_pos_iff.mpr i4
      have hk : k = s.1 := by
        by_cases c : k = s.1
        · exact c
        · exfalso
          have a := i1 (k - 1) (by omega) (by omega)
          rcases h2 with h2 | h2
          · omega
          · rw [a, List.getElem?_eq_getElem (by omega)] at h2
            exact absurd h2 (by simp)
      rw [hk]; exact ⟨_, (isRun_of_idx ok hj).1⟩
  · rintro ⟨l, r1, r2, r3, _⟩
    simp only [startsAt, Bool.and_eq_true, Bool.or_eq_true, beq_iff_eq]
    refine ⟨r2 k (Nat.le_refl k) r1, ?_⟩
    by_cases c : k = 0
    · exact Or.inl c
    · right; rw [r3 (k - 1) (by omega)]; rfl

/-- C15 (count, dictionary level): never panics; (number of occupied u32 addresses saturated at u32::MAX,
number of maximal runs of the dictionary — `Dict.runs`, Spec/DictRuns.lean). -/
theorem count_runs (ps : Segs) (inv : MInv ps) :
    count ps = .ok (min (occupied (abs ps) 0 4294967296) u32Max, runs (abs ps)) := by
  rw [count_spec inv, length_eq_runs inv]

/-- C15 (count_range, dictionary level): never panics; (number of occupied addresses in `lo..=hi` saturated at
u32::MAX, number of maximal runs of the dictionary meeting `lo..=hi` — `Dict.runsIn`). -/
theorem countRange_runs (ps : Segs) (lo hi : Nat) (inv : MInv ps) (h : lo ≤ hi) (hh : hi ≤ u32Max) :
    countRange ps lo hi =
      .ok (min (occupied (abs ps) lo (hi + 1 - lo)) u32Max, runsIn (abs ps) lo (hi + 1 - lo)) := by
  rw [countRange_spec inv lo hi h hh, meets_eq_runsIn inv lo hi h]

example : runsIn (abs [(1, [1, 2, 3]), (7, [4])]) 2 6 = 2 ∧ countRange [(1, [1, 2, 3]), (7, [4])] 2 7 = .ok (3, 2) := by
  decide

/-- the dictionary after one operation (a put that would run past 0xFFFFFFFF is rejected) -/
def dictStep (D : Dict) : Op → Dict
  | .put a d => if a + d.length ≤ 4294967296 then Dict.put D a d else D
  | .remove a => Dict.remove D a
  | .removeRange lo hi => Dict.removeRange D lo hi
  | .clear => Dict.clear D

theorem step_refines (ps : Segs) (op : Op) (inv : MInv ps) (wf : op.wf) :
    MInv (step ps op) ∧ abs (step ps op) = dictStep (abs ps) op := by
  cases op with
  | put a d =>
    simp only [step, dictStep]
    by_cases h : a + d.length ≤ 4294967296
    · rw [if_pos h]; exact (put_refines ps a d inv h).2
    · rw [if_neg h, put_overflow ps a d wf (by omega)]; exact ⟨inv, rfl⟩
  | remove a => exact ⟨(remove_refines ps a inv).1, (remove_refines ps a inv).2.1⟩
  | removeRange lo hi => exact removeRange_refines ps lo hi inv wf.1
  | clear => exact clear_refines ps

/-- C15 (history): after ANY finite sequence of put / remove / remove_range / clear on a new map, the
state satisfies the invariant (ascending, non-empty, non-overlapping, maximally merged segments) and holds
exactly the bytes the dictionary holds after the same operations; a further put returns the number of
previously unoccupied addresses it fills. -/
theorem history (ops : List Op) (wf : ∀ op ∈ ops, op.wf) :
    MInv (run ops) ∧ abs (run ops) = ops.foldl dictStep Dict.empty ∧
    ∀ a d, a + d.length ≤ 4294967296 → (put (run ops) a d).1 = .ok (fresh (abs (run ops)) a d.length) := by
  have gen : ∀ (ops : List Op) (ps : Segs), MInv ps → (∀ op ∈ ops, op.wf) →
      MInv (ops.foldl step ps) ∧ abs (ops.foldl step ps) = ops.foldl dictStep (abs ps) := by
    intro ops
    induction ops with
    | nil => intro ps inv _; exact ⟨inv, rfl⟩
    | cons op r ih =>
      intro ps inv wf
      obtain ⟨s1, s2⟩ := step_refines ps op inv (wf op (List.mem_cons_self ..))
      have := ih (step ps op) s1 (fun o ho => wf o (List.mem_cons_of_mem _ ho))
      simp only [List.foldl_cons]
      rw [← s2]; exact this
  obtain ⟨g1, g2⟩ := gen ops [] trivial wf
  exact ⟨g1, g2, fun a d h => (put_refines _ a d g1 h).1⟩

example : run [.put 4294967295 [1], .put 0 [2, 3], .removeRange 1 1, .remove 4294967295] = [(0, [2])] := by
  rfl

/-- C15 (put, operational): on every well-formed map and for every `u32` address, the statement-by-statement
model of `MemoryMap::put` reaches none of its panic sites (index, `splice`, slice, `split_at_mut`, `insert`,
`drain`, `added -= …`, `addr + (len-1) as u32`, …), writes no inconsistent range, and returns exactly the result
and state of the recursive `put`. -/
theorem putOps_refines (ps : Segs) (a : Nat) (d : List UInt8) (inv : MInv ps) (ha : a ≤ u32Max) :
    putOps ps a d = .ok (put ps a d) :=
  putOps_eq inv ha d

/-- C15 (remove_range, operational): likewise for `MemoryMap::remove_range` (`parts[first_idx]`,
`data.drain(..n)`, `range.last + 1`, `range.first - 1`, `parts.insert`, `parts.drain(a..b)`, `parts.remove`,
`assert!(!remove_first)`, the second `locate` on the already modified vector). -/
theorem removeRangeOps_refines (ps : Segs) (lo hi : Nat) (inv : MInv ps) (h : lo ≤ hi) (hh : hi ≤ u32Max) :
    removeRangeOps ps lo hi = .ok (removeRange ps lo hi) :=
  removeRangeOps_eq inv h hh

example : putOps [(2, [9, 9]), (6, [7]), (9, [5, 5])] 1 [1, 2, 3, 4, 5, 6, 7, 8, 9] = .ok (.ok 5, [(1, [1, 2, 3, 4, 5, 6, 7, 8, 9, 5])]) ∧
    removeRangeOps [(1, [1, 2, 3, 4])] 2 3 = .ok [(1, [1]), (4, [4])] ∧
    removeRangeOps [(1, [1, 2]), (5, [3]), (8, [4, 5])] 2 8 = .ok [(1, [1]), (9, [5])] :=
  ⟨rfl, rfl, rfl⟩

theorem stepOps_eq (ps : Segs) (op : Op) (inv : MInv ps) (wf : op.wf) : stepOps ps op = .ok (step ps op) := by
  cases op with
  | put a d => simp only [stepOps, step, putOps_eq inv wf d, Out.bind_ok]
  | remove a =>
    have h := (remove_refines ps a inv).2.2
    simp only [stepOps, step]
    generalize remove ps a = r at h
    obtain ⟨r1, r2⟩ := r
    rcases h with ⟨h, _⟩ | ⟨f, d, h, _⟩ <;> (simp only at h; subst h; rfl)
  | removeRange lo hi => exact removeRangeOps_eq inv wf.1 wf.2
  | clear => rfl

theorem runOps_eq (ops : List Op) (wf : ∀ op ∈ ops, op.wf) : runOps ops = .ok (run ops) := by
  have gen : ∀ (ops : List Op) (ps : Segs), MInv ps → (∀ op ∈ ops, op.wf) →
      ops.foldl (fun (st : Out Segs) op => st.bind fun ps => stepOps ps op) (Out.ok ps) =
        Out.ok (ops.foldl step ps) := by
    intro ops
    induction ops with
    | nil => intro ps _ _; rfl
    | cons op r ih =>
      intro ps inv wf
      have w := wf op (List.mem_cons_self ..)
      simp only [List.foldl_cons, Out.bind_ok, stepOps_eq ps op inv w]
      exact ih _ (step_refines ps op inv w).1 (fun o ho => wf o (List.mem_cons_of_mem _ ho))
  exact gen ops [] trivial wf

/-- C15 (no index panic): no finite sequence of put / remove / remove_range / clear on a new map reaches a
panic site of the statement-by-statement models (nor an inconsistent range), whatever the arguments
(`u32` addresses, valid ranges, any data). -/
theorem ops_no_panic (ops : List Op) (wf : ∀ op ∈ ops, op.wf) : ∃ ps, runOps ops = .ok ps :=
  ⟨run ops, runOps_eq ops wf⟩

/-- C15 (history, operational): every state reachable from the empty map THROUGH THE OPERATIONAL FUNCTIONS
satisfies the invariant and equals the dictionary run; a further operational put of data that fits returns the
number of previously unoccupied addresses it fills. -/
theorem ops_history (ops : List Op) (wf : ∀ op ∈ ops, op.wf) :
    ∃ ps, runOps ops = .ok ps ∧ MInv ps ∧ abs ps = ops.foldl dictStep Dict.empty ∧
      ∀ a d, a ≤ u32Max → a + d.length ≤ 4294967296 →
        ∃ ps', putOps ps a d = .ok (.ok (fresh (abs ps) a d.length), ps') ∧ MInv ps' ∧
          abs ps' = Dict.put (abs ps) a d := by
  obtain ⟨g1, g2, _⟩ := history ops wf
  refine ⟨run ops, runOps_eq ops wf, g1, g2, fun a d ha h => ?_⟩
  obtain ⟨p1, p2, p3⟩ := put_refines (run ops) a d g1 h
  refine ⟨(put (run ops) a d).2, ?_, p2, p3⟩
  rw [putOps_eq g1 ha d, ← p1]

example : runOps [.put 4294967295 [1], .put 0 [2, 3], .removeRange 1 1, .remove 4294967295] = .ok [(0, [2])] := by
  rfl

end Trion.Map
