import TrionModel.Lemmas.LexFrame
import TrionModel.Props.C04Fit
/-!
# C04 closed on text — the statement is ANY layout: arbitrary separators (white space, `//` and `/* */` comments) and any
token spellings the tokenizer knows

`Props/C04Any.lean` takes the statement as a list of pieces (white space + punctuation / identifiers / numbers).  With the
lexer's exact layout theorem (C12 `Lex.tokens_layout`, `Lex.lok_append`) the statement is a LAYOUT `x :: r` with trailing
text `trail` (`Lex.LOk`): every separator may contain line and block comments, every token spelling is what `Lex.Spell`
admits.  Hypothesis on the statement: its token VALUES are `name <operands> ;` with the operands any parenthesisation of
trees (`as : PArgs`).  The program text is `.addr A;⏎`, the `.const` lines (canonical spelling), then the statement's text.

Remaining gap to "whatever `Parse` reads as one instruction statement": the converse of C09 (a parsed statement's token
values are such a rendering) is not proved, and the `.const` lines stay in canonical spelling.
-/
namespace Trion.C04
open Trion Trion.Front

def progTextL (A : Nat) (defs : List (Bytes × Arg)) (x : Lex.LTok) (r : List Lex.LTok) (trail : Bytes) : Bytes :=
  ((preStmts A defs).map fun p => bytesOf "." ++ Show.render p ++ [10]).flatten ++ Lex.ltext (x :: r) trail

/-- C04l.a  the tokenizer and parser read the program text as the program, for any layout of the statement -/
theorem parseFile_layout (A : Nat) (hA : A < 4294967296) (defs : List (Bytes × Arg))
    (hdefs : ∀ d ∈ defs, Lex.identOk d.1 = true ∧ Show.Opnd d.2) (x : Lex.LTok) (r : List Lex.LTok) (trail : Bytes)
    (hL : Lex.LOk (x :: r) trail) (name : Bytes) (as : PArgs) (haswf : as.wf)
    (hvals : (x :: r).map (·.tok) = .ident name :: Render.pargs as ++ [.term]) :
    ∃ els, Asm.parseFile (progTextL A defs x r trail) = .ok (els, none) ∧
      els.map (·.val) = progVals A defs name as.erase := by
  have hpre := preStmts_ok A hA defs hdefs
  obtain ⟨P, hP⟩ := Show.reads_flat _ hpre (Lex.Reads.nil (x.sep ++ x.spell ++ Lex.ltext r trail).head?)
  rw [List.append_nil, List.append_nil] at hP
  obtain ⟨ts, hlex, hts⟩ := Lex.tokens_pieces_layout P x r trail hP.valid hL
  rw [hP.text] at hlex
  exact parseFile_of_tokens A hA defs hdefs _ ts _ _ hlex name as haswf (by rw [hts, hP.vals, hvals])

/-- C04l.b  **Trichotomy on text, any layout of the statement** (comments, any spacing, any spellings): assembled to the
(extended) meaning with exactly those bytes; OR encodable but no room below 2^32 (one `Overflow` diagnostic at the statement,
empty image); OR diagnosed at the statement. -/
theorem run_layout3 (fs : Bytes → Option Bytes) (main : Bytes) (A : Nat) (hA : A < 4294967296) (defs : List (Bytes × Arg))
    (hdefsok : ∀ d ∈ defs, Lex.identOk d.1 = true ∧ Show.Opnd d.2) (x : Lex.LTok) (r : List Lex.LTok) (trail : Bytes)
    (hL : Lex.LOk (x :: r) trail) (name : Bytes) (as : PArgs) (haswf : as.wf)
    (hvals : (x :: r).map (·.tok) = .ident name :: Render.pargs as ++ [.term])
    (hfs : fs main = some (progTextL A defs x r trail))
    (tbl : Asm.Table) (hdefs : defsTable defs [] = some tbl)
    (t : Instr) (hm : mnemonic name = some t) (hw : wellFormed2 (tabOf tbl) (sig t) as.erase.toList)
    (hq : ∀ vs, denoteAll2 (tabOf tbl) (sig t) as.erase.toList = some vs → ¬ svQuirk t vs) :
    ∃ els, Asm.parseFile (progTextL A defs x r trail) = .ok (els, none) ∧
    ((∃ i hws, means2 (tabOf tbl) A name as.erase.toList = some i ∧ i.wf ∧ Codec.encode i = .ok hws ∧ Arm.decode hws = some i ∧
      A + 2 * hws.length ≤ 4294967296 ∧
      Asm.run fs main = .done ⟨true, none, true, [], [(A, (Codec.toBytes hws).map (·.toUInt8))]⟩) ∨
    (∃ i hws el o, means2 (tabOf tbl) A name as.erase.toList = some i ∧ i.wf ∧ Codec.encode i = .ok hws ∧
      ¬ (A + 2 * hws.length ≤ 4294967296) ∧ el ∈ els ∧ el.val = .instruction name as.erase ∧
      Asm.run fs main = .done o ∧ o.success = false ∧
      o.diags = [⟨main, el.line, el.col, .instrAssemble (.asmWrite (.overflow (2 * hws.length) (4294967296 - A)))⟩] ∧
      o.image = []) ∨
    (∃ el o, el ∈ els ∧ el.val = .instruction name as.erase ∧ Asm.run fs main = .done o ∧ o.success = false ∧ o.diags ≠ [] ∧
      ∀ d ∈ o.diags, d.file = main ∧ d.line = el.line ∧ d.col = el.col)) := by
  obtain ⟨els, hp, hels⟩ := parseFile_layout A hA defs hdefsok x r trail hL name as haswf hvals
  exact ⟨els, hp, run_defs_stmt3 fs main _ hfs els hp A hA defs name as.erase hels tbl hdefs t hm hw hq⟩

/-- C04l.c  unknown mnemonic, any layout -/
theorem run_layout_unknown (fs : Bytes → Option Bytes) (main : Bytes) (A : Nat) (hA : A < 4294967296) (defs : List (Bytes × Arg))
    (hdefsok : ∀ d ∈ defs, Lex.identOk d.1 = true ∧ Show.Opnd d.2) (x : Lex.LTok) (r : List Lex.LTok) (trail : Bytes)
    (hL : Lex.LOk (x :: r) trail) (name : Bytes) (as : PArgs) (haswf : as.wf)
    (hvals : (x :: r).map (·.tok) = .ident name :: Render.pargs as ++ [.term])
    (hfs : fs main = some (progTextL A defs x r trail))
    (tbl : Asm.Table) (hdefs : defsTable defs [] = some tbl) (hm : mnemonic name = none) :
    ∃ els el o, Asm.parseFile (progTextL A defs x r trail) = .ok (els, none) ∧ el ∈ els ∧
      el.val = .instruction name as.erase ∧ Asm.run fs main = .done o ∧ o.success = false ∧ o.diags ≠ [] ∧
      ∀ d ∈ o.diags, d.file = main ∧ d.line = el.line ∧ d.col = el.col := by
  obtain ⟨els, hp, hels⟩ := parseFile_layout A hA defs hdefsok x r trail hL name as haswf hvals
  obtain ⟨el, o, h⟩ := run_defs_stmt_unknown fs main _ hfs els hp A hA defs name as.erase hels tbl hdefs hm
  exact ⟨els, el, o, hp, h⟩

end Trion.C04
