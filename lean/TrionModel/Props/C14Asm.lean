import TrionModel.Lemmas.AsmScopeRel
import TrionModel.Lemmas.AsmScopeProv
import TrionModel.Lemmas.AsmScopeSim
/-!
# C14 on the whole-pipeline model — constant visibility follows file scope

Model: `Trion.Asm` (Model/Asm.lean), the model of the WHOLE assembler (`Asm.run`: tokenizer, parser, every directive,
instructions, regions, `.include` recursion, both task loops, `finalize`), tied to the real code by exact
correspondence (`model.asm.run`).  Props/C14.lean proves the property on the dedicated scope machine `Trion.Scope`;
here the same statements are proved directly about `Asm`'s own tables (`St.globals`, `St.locals`), its own `.include`
recursion (`assembleFile`, `enterFile`/`leaveFile` = the `mem::replace` swaps of `Context::assemble` / `PathFrame`) and
its own statements with REAL operands (`.const n, <any expression>`, labels at the region cursor, `.du*`/instructions
with any expression, retried at the end of the file and in the includer).

`Table.le`, `Upd`, `Rel`, `Quiet`: Lemmas/AsmScope.lean, Lemmas/AsmScopeRel.lean.  `Rel N st st'` relates two states of
ONE activation of `Context::assemble` (one file): its own table only grew, its includer's table changed only at the
names `N` with the file's own values.  `inc` is the recursive call of `.include`; every theorem with the hypothesis
`IncRel inc` holds for `inc = assembleFile fs enc fuel` at every depth (`assembleFile_rel`).
-/
namespace Trion.Asm
open Trion

/-- both visible tables of an activation only grew: valued entries keep their value -/
def TabLe (a b : St) : Prop :=
  a.globals.le b.globals ∧ ∃ Ca Cb, a.locals = some Ca ∧ b.locals = some Cb ∧ Ca.le Cb

theorem Rel.tabLe {N : List Bytes} {a b : St} (h : Rel N a b) : TabLe a b := by
  obtain ⟨C, C', hC, hC', le, u⟩ := h.tabs
  exact ⟨u.le, C, C', hC, hC', le⟩

/-- C14.siblings_asm  `Context::assemble` — the main file and every `.include`d file alike, at every depth, whatever
its includer or its siblings defined before — runs the file (`fileBody`: `do_assemble` and the local task loop) from
the EMPTY table and an empty task list of its own; what it sees as `globals` is its includer's table (the real global
table for the main file); afterwards `leaveFile` undoes the swap.  Nothing reaches an included file sideways or
downwards except through `.import`. -/
theorem siblings_asm (fs : Bytes → Option Bytes) (enc : Encoder) (fuel : Nat) (env : Env) (st : St) (data path : Bytes) :
    ∃ savedC savedT st2, enterFile st = (savedC, savedT, st2) ∧
      st2.locals = some [] ∧ st2.localTasks = some [] ∧
      st2.globals = (match st.locals with | some l => l | none => st.globals) ∧
      assembleFile fs enc (fuel + 1) env st data path =
        match fileBody fs enc (assembleFile fs enc fuel) ⟨path :: env.paths, path⟩ data st2 with
        | .ok (st4, res) => .ok (leaveFile savedC savedT st4, res)
        | .stop r => .stop r := by
  refine ⟨(enterFile st).1, (enterFile st).2.1, (enterFile st).2.2, rfl, ?_, ?_, ?_, ?_⟩
  · rw [enterFile_eq]
  · rw [enterFile_eq]
  · rw [enterFile_eq]; cases st.locals <;> rfl
  · exact assembleFile_succ ..

/-! ## monotone — a constant's value never changes once defined -/

/-- C14.monotone_asm (one statement)  Whatever a statement of a file does — a definition, `.global/.import/.export`,
a `.du*` or an instruction with its padding and its queued retry, or a complete `.include` with everything the
included tree does — every valued entry of the file's own table and of its includer's table keeps its value. -/
theorem monotone_asm_statement {fs : Bytes → Option Bytes} {enc : Encoder} {fuel : Nat} {env : Env} {st st' : St}
    {C : Table} {el : Element} {r : Res} (hC : st.locals = some C)
    (h : statement fs enc (assembleFile fs enc fuel) env st el = .ok (st', r)) : TabLe st st' :=
  (statement_rel (assembleFile_rel fs enc fuel) hC _ _ h).tabLe

/-- C14.monotone_asm  THE monotonicity statement on the whole-pipeline model.  Take any activation of
`Context::assemble` — any file at any include depth, `inc` the recursive call — and any two of the states it passes
through between its statements, the earlier `a` and the later `b`, with arbitrarily many statements, complete nested
`.include`s (each with its own task loop and the tasks it reschedules) and failed files in between: every valued
entry of the file's own table in `a` has the same value in `b`, and likewise for the includer's table.
(Instantiated below for `inc = assembleFile fs enc fuel`; by `assembleFile_rel` the hypothesis holds at every depth,
so the statement applies recursively to every file of the include tree.) -/
theorem monotone_asm_general {fs : Bytes → Option Bytes} {enc : Encoder} {inc : Inc} (hinc : IncRel inc) {env : Env} :
    ∀ (els : List Element) (st : St) (C : Table), st.locals = some C →
      List.Pairwise TabLe (bodyStates fs enc inc env els st) :=
  fun els st C hC => ((relRung false).bodyStates_spec (g := (fileNames els, st)) (els₀ := els) (statement_relRung hinc)
    els st (fun _ m => m) ⟨.refl _ hC, nofun⟩).2.imp Rel.tabLe

theorem monotone_asm (fs : Bytes → Option Bytes) (enc : Encoder) (fuel : Nat) (env : Env) (els : List Element) (st : St)
    (C : Table) (hC : st.locals = some C) :
    List.Pairwise TabLe (bodyStates fs enc (assembleFile fs enc fuel) env els st) :=
  monotone_asm_general (assembleFile_rel fs enc fuel) els st C hC

/-- C14.monotone_asm (the end of a file)  … and through the rest of the activation: `do_assemble` as a whole followed
by the file's local task loop (the closures of `.global`, the retries of `.du*` and instructions). -/
theorem monotone_asm_file {fs : Bytes → Option Bytes} {enc : Encoder} {fuel : Nat} {env : Env} {data : Bytes}
    {st st' : St} {C : Table} {r : Res} (hC : st.locals = some C) (hq : st.localTasks = some [])
    (h : fileBody fs enc (assembleFile fs enc fuel) env data st = .ok (st', r)) : TabLe st st' := by
  obtain ⟨_, _, _, w⟩ := fileBody_rel (assembleFile_rel fs enc fuel) hC hq _ _ h
  exact w.tabLe

/-- C14.monotone_asm (across `.include`, seen from the includer)  A complete `Context::assemble` call from inside a
file leaves the includer's `globals` literally as it was, and every valued entry of the includer's own table keeps
its value. -/
theorem monotone_asm_include {fs : Bytes → Option Bytes} {enc : Encoder} {fuel : Nat} {env : Env} {st st' : St}
    {data path : Bytes} {r : Res} {L : Table} (hL : st.locals = some L)
    (h : assembleFile fs enc fuel env st data path = .ok (st', r)) :
    st'.globals = st.globals ∧ ∃ L', st'.locals = some L' ∧ L.le L' := by
  obtain ⟨w, hg⟩ := assembleFile_rel fs enc fuel _ _ _ _ _ _ _ hL h
  obtain ⟨C, C', hC, hC', le, _⟩ := w.tabs
  rw [hL] at hC; cases hC
  exact ⟨hg, C', hC', le⟩

/-- C14.monotone_asm (the main file and `finalize`)  Outside any file: assembling the main file only adds to the
real global table (valued entries keep their value), and `finalize` — whose task list holds retries of statements
only (`Good false`, Lemmas/AsmBase.lean) — changes no table at all. -/
theorem monotone_asm_main {fs : Bytes → Option Bytes} {enc : Encoder} {fuel : Nat} {env : Env} {st st' : St}
    {data path : Bytes} {r : Res} (hl : st.locals = none) (hlt : st.localTasks = none)
    (h : assembleFile fs enc fuel env st data path = .ok (st', r)) :
    st.globals.le st'.globals ∧ st'.locals = none := by
  cases fuel with
  | zero => simp [assembleFile] at h
  | succ fuel =>
    obtain ⟨_, _, _, _, _, _, _, _, h5, _, _, u, _⟩ := assembleFile_outside hl hlt h
    exact ⟨u.le, h5⟩

theorem monotone_asm_finalize {enc : Encoder} {env : Env} {st st' : St} {ok : Bool}
    (hg : ∀ t ∈ st.globalTasks, t.notCopy = true) (h : finalize enc env st = .ok (st', ok)) :
    st'.globals = st.globals ∧ st'.locals = st.locals := by
  obtain ⟨ab, hl, _⟩ := finalize_ok h
  exact globalLoop_quiet rounds st.globalTasks { st with globalTasks := [] } hg (fun t ht => by cases ht) _ _ hl

/-! ## dup_reserved — the five collision classes: a diagnostic is recorded and no table changes

Each theorem gives the EXACT outcome of the statement: the old context with one more diagnostic (`St.push` touches
`errors` only), and the level of the error (`fatal`: `do_assemble` stops, the includer reports `AssemblyFailed`). -/

/-- C14.dup_reserved_asm (1a)  second definition in one scope, `.const n, e` (`e` any expression with a value) -/
theorem dup_const_asm {fs : Bytes → Option Bytes} {enc : Encoder} {inc : Inc} {env : Env} {st : St} {el : Element}
    {args : Args} {n : Bytes} {e : Arg} {v w : Int} {l : Table}
    (hv : el.val = .directive (bytesOf "const") args) (ha : args.toList = [.ident n, e])
    (he : evalStrict "const" env st el.line el.col e = .ok (.ok (.const v)))
    (hl : st.locals = some l) (hdef : l.find n = some (some w)) (hr : Front.isRegister n = false) :
    statement fs enc inc env st el =
      .ok (st.push env el.line el.col (.dirApply "const" (.constDirDuplicate n)), .err .fatal) := by
  simp [statement, hv, directive_const, constDirective, arity, ha, he, insertConstant, hr, hl, hdef]

/-- C14.dup_reserved_asm (1b)  second definition in one scope, a label -/
theorem dup_label_asm {fs : Bytes → Option Bytes} {enc : Encoder} {inc : Inc} {env : Env} {st : St} {el : Element}
    {n : Bytes} {a : Nat} {w : Int} {l : Table} (hv : el.val = .label n) (hc : currAddr st = some a)
    (hl : st.locals = some l) (hdef : l.find n = some (some w)) (hr : Front.isRegister n = false) :
    statement fs enc inc env st el =
      .ok (st.push env el.line el.col (.label (.constDuplicate n .loc)), .err .fatal) := by
  simp [statement, hv, hc, insertConstant, hr, hl, hdef, CErr.inner]

/-- C14.dup_reserved_asm (1c)  second definition in one scope, `.import` of a name the file already has -/
theorem dup_import_asm {fs : Bytes → Option Bytes} {enc : Encoder} {inc : Inc} {env : Env} {st : St} {el : Element}
    {args : Args} {n : Bytes} {v w : Int} {l : Table}
    (hv : el.val = .directive (bytesOf "import") args) (ha : args.toList = [.ident n])
    (hg : st.globals.find n = some (some v)) (hl : st.locals = some l) (hdef : l.find n = some (some w))
    (hr : Front.isRegister n = false) :
    statement fs enc inc env st el =
      .ok (st.push env el.line el.col (.dirApply "import" (.globalDuplicate n .loc)), .err .fatal) := by
  simp [statement, hv, directive_import, globalDirective, arity, ha, getConstant, Table.get, hg, insertConstant, hr, hl,
    hdef, GDir.name]

/-- C14.dup_reserved_asm (2a)  `.export` over a name the includer already has with a value -/
theorem dup_export_existing_asm {fs : Bytes → Option Bytes} {enc : Encoder} {inc : Inc} {env : Env} {st : St}
    {el : Element} {args : Args} {n : Bytes} {v w : Int} {l : Table}
    (hv : el.val = .directive (bytesOf "export") args) (ha : args.toList = [.ident n])
    (hl : st.locals = some l) (hdef : l.find n = some (some v)) (hg : st.globals.find n = some (some w))
    (hr : Front.isRegister n = false) :
    statement fs enc inc env st el =
      .ok (st.push env el.line el.col (.dirApply "export" (.globalDuplicate n .global)), .err .fatal) := by
  simp [statement, hv, directive_export, globalDirective, arity, ha, getConstant, Table.get, hg, insertConstant, hr, hl,
    hdef, GDir.name]

/-- C14.export_fills_announced_asm  … whereas `.export` over an includer entry that is only ANNOUNCED (present, no value)
is accepted on the whole-pipeline model too: no diagnostic, the includer's entry receives the file's value.  (The reading
of "exporting a name the includer already has" that `dup_export_existing_asm` proves is "has with a value".) -/
theorem export_fills_announced_asm {fs : Bytes → Option Bytes} {enc : Encoder} {inc : Inc} {env : Env} {st : St}
    {el : Element} {args : Args} {n : Bytes} {v : Int} {l : Table}
    (hv : el.val = .directive (bytesOf "export") args) (ha : args.toList = [.ident n])
    (hl : st.locals = some l) (hdef : l.find n = some (some v)) (hg : st.globals.find n = some none)
    (hr : Front.isRegister n = false) :
    statement fs enc inc env st el = .ok ({ st with globals := st.globals.set n (some v) }, .ok) := by
  simp [statement, hv, directive_export, globalDirective, arity, ha, getConstant, Table.get, hg, insertConstant, hr, hl,
    hdef]

/-- C14.dup_reserved_asm (2b)  `.global` of a name the includer already has (valued or announced) -/
theorem dup_global_existing_asm {fs : Bytes → Option Bytes} {enc : Encoder} {inc : Inc} {env : Env} {st : St}
    {el : Element} {args : Args} {n : Bytes} {e : Option Int}
    (hv : el.val = .directive (bytesOf "global") args) (ha : args.toList = [.ident n])
    (hg : st.globals.find n = some e) (hr : Front.isRegister n = false) :
    statement fs enc inc env st el =
      .ok (st.push env el.line el.col (.dirApply "global" (.globalDuplicate n .global)), .err .fatal) := by
  simp [statement, hv, directive_global, globalDirective, arity, ha, deferConstant, hr, hg, GDir.name]

/-- C14.dup_reserved_asm (3)  `.import` of a name the includer lacks -/
theorem dup_import_missing_asm {fs : Bytes → Option Bytes} {enc : Encoder} {inc : Inc} {env : Env} {st : St}
    {el : Element} {args : Args} {n : Bytes}
    (hv : el.val = .directive (bytesOf "import") args) (ha : args.toList = [.ident n])
    (hg : st.globals.find n = none) :
    statement fs enc inc env st el =
      .ok (st.push env el.line el.col (.dirApply "import" (.globalNotFound n .global)), .err .fatal) := by
  simp [statement, hv, directive_import, globalDirective, arity, ha, getConstant, Table.get, hg, GDir.name]

/-- C14.dup_reserved_asm (4a)  `.export` of a name the file does not have -/
theorem dup_export_missing_asm {fs : Bytes → Option Bytes} {enc : Encoder} {inc : Inc} {env : Env} {st : St}
    {el : Element} {args : Args} {n : Bytes} {l : Table}
    (hv : el.val = .directive (bytesOf "export") args) (ha : args.toList = [.ident n])
    (hl : st.locals = some l) (hdef : l.find n = none) :
    statement fs enc inc env st el =
      .ok (st.push env el.line el.col (.dirApply "export" (.globalNotFound n .loc)), .err .fatal) := by
  simp [statement, hv, directive_export, globalDirective, arity, ha, getConstant, Table.get, hl, hdef, GDir.name]

/-- C14.dup_reserved_asm (4b)  `.export` of an unvalued (announced) name -/
theorem dup_export_unvalued_asm {fs : Bytes → Option Bytes} {enc : Encoder} {inc : Inc} {env : Env} {st : St}
    {el : Element} {args : Args} {n : Bytes} {l : Table}
    (hv : el.val = .directive (bytesOf "export") args) (ha : args.toList = [.ident n])
    (hl : st.locals = some l) (hdef : l.find n = some none) :
    statement fs enc inc env st el =
      .ok (st.push env el.line el.col (.dirApply "export" (.globalDeferred n .loc)), .err .fatal) := by
  simp [statement, hv, directive_export, globalDirective, arity, ha, getConstant, Table.get, hl, hdef, GDir.name]

/-- C14.dup_reserved_asm (4c)  `.global` of a name that never receives a value in the file: the closure it queued
records the diagnostic when the file ends and changes no table -/
theorem dup_global_unvalued_asm {enc : Encoder} {env : Env} {st : St} {n : Bytes} {line col : Nat} {l : Table}
    (hl : st.locals = some l) (hdef : l.find n = some none) :
    runTask enc env st (.globalCopy n line col) =
      .ok (st.push env line col (.dirApply "global" (.globalDeferred n .loc)), .err .trivial) := by
  simp [runTask, runGlobalCopy, getConstant, Table.get, hl, hdef]

/-- C14.dup_reserved_asm (5)  a register name is refused by `.const`, by a label and by `.global` -/
theorem dup_reserved_asm {fs : Bytes → Option Bytes} {enc : Encoder} {inc : Inc} {env : Env} {st : St} {n : Bytes}
    (hr : Front.isRegister n = true) :
    (∀ {el : Element} {args : Args} {e : Arg} {v : Int}, el.val = .directive (bytesOf "const") args →
      args.toList = [.ident n, e] → evalStrict "const" env st el.line el.col e = .ok (.ok (.const v)) →
      statement fs enc inc env st el =
        .ok (st.push env el.line el.col (.dirApply "const" (.constReserved n)), .err .fatal)) ∧
    (∀ {el : Element} {a : Nat}, el.val = .label n → currAddr st = some a →
      statement fs enc inc env st el = .ok (st.push env el.line el.col (.label (.constReserved n)), .err .fatal)) ∧
    (∀ {el : Element} {args : Args}, el.val = .directive (bytesOf "global") args → args.toList = [.ident n] →
      statement fs enc inc env st el =
        .ok (st.push env el.line el.col (.dirApply "global" (.constReserved n)), .err .fatal)) := by
  refine ⟨fun hv ha he => ?_, fun hv hc => ?_, fun hv ha => ?_⟩
  · simp [statement, hv, directive_const, constDirective, arity, ha, he, insertConstant, hr]
  · simp [statement, hv, hc, insertConstant, hr, CErr.inner]
  · simp [statement, hv, directive_global, globalDirective, arity, ha, deferConstant, hr, GDir.name]

theorem push_tables (st : St) (env : Env) (line col : Nat) (k : Kind) :
    (st.push env line col k).globals = st.globals ∧ (st.push env line col k).locals = st.locals ∧
    (st.push env line col k).errors = ⟨env.curName, line, col, k⟩ :: st.errors := ⟨rfl, rfl, rfl⟩

/-! ## frame — what a complete `.include` does to the includer's table -/

/-- C14.frame_asm (the main file)  `frame_asm` (Lemmas/AsmScopeProv.lean) for the main file, assembled from outside any
file: the "includer's table" is the real global table. -/
theorem frame_asm_main {fs : Bytes → Option Bytes} {enc : Encoder} {fuel : Nat} {env : Env} {st st' : St}
    {data path : Bytes} {r : Res} (hl : st.locals = none) (hlt : st.localTasks = none)
    (h : assembleFile fs enc (fuel + 1) env st data path = .ok (st', r)) :
    ∃ els perr st4 C, parseFile data = .ok (els, perr) ∧
      fileBody fs enc (assembleFile fs enc fuel) ⟨path :: env.paths, path⟩ data
        { st with locals := some [], localTasks := some [] } = .ok (st4, r) ∧
      st4.locals = some C ∧ st'.locals = none ∧ Upd (fileNames els) st.globals st'.globals C := by
  obtain ⟨st4, els, perr, C, h1, h2, _, h4, h5, _, _, u, _⟩ := assembleFile_outside hl hlt h
  exact ⟨els, perr, st4, C, h2, h1, h4, h5, u⟩

/-- C14.frame_asm (a file's body, from inside)  While a file is assembled — statements, complete nested includes, its
task loop — its own table only grows and its includer's table changes only at names the file itself exports or
declares global, with the file's own (final) values; new in its task list are only retries of statements and the
closures of its own `.global`s; new in its includer's list only retries of statements. -/
theorem frame_asm_body {fs : Bytes → Option Bytes} {enc : Encoder} {fuel : Nat} {env : Env} {data : Bytes} {st st' : St}
    {C : Table} {r : Res} (hC : st.locals = some C) (hq : st.localTasks = some [])
    (h : fileBody fs enc (assembleFile fs enc fuel) env data st = .ok (st', r)) :
    ∃ els perr, parseFile data = .ok (els, perr) ∧ Rel (fileNames els) st st' :=
  fileBody_rel (assembleFile_rel fs enc fuel) hC hq _ _ h

/-- C14.isolation_asm (what an expression can see)  While a file is open (`has_curr_file`), the evaluation of ANY
operand — of `.const`, `.addr`, `.align`, `.du*`, of an instruction, immediately or in a retry — reads the current file's
own table and nothing else: not the includer's table, not a sibling's. -/
theorem isolation_asm_eval {env : Env} {st : St} {l : Table} (hp : env.paths.isEmpty = false) (hl : st.locals = some l)
    (a : Arg) : evalArg env st a = evalIn l a ∧ evalTable env st = .ok l := by
  simp [evalArg, evalTable, hp, hl]

/-- … and outside any file (`finalize`) the real global table. -/
theorem isolation_asm_eval_top {env : Env} {st : St} (hp : env.paths.isEmpty = true) (a : Arg) :
    evalArg env st a = evalIn st.globals a := by
  simp [evalArg, evalTable, hp]

/-- C14.isolation_asm (uses never write)  `.du8/.du16/.du32` and every instruction — with any operands, deferred or not — and
the retries they queue change no table.  (`.addr`, `.align`, `.dhex/.dstr/.dfile`: `addrDirective_quiet` … of
Lemmas/AsmScope.lean.) -/
theorem isolation_asm_use {enc : Encoder} {env : Env} {st st' : St} {line col : Nat} {args : List Arg} {r : Res}
    {du : DU} {name : Bytes} :
    (duDirective du env st line col args = .ok (st', r) → st'.globals = st.globals ∧ st'.locals = st.locals) ∧
    (instruction enc env st line col name args = .ok (st', r) → st'.globals = st.globals ∧ st'.locals = st.locals) ∧
    (∀ d g, runDataTask d g env st = .ok (st', r) → st'.globals = st.globals ∧ st'.locals = st.locals) ∧
    (∀ i g, runInstrTask enc i g env st = .ok (st', r) → st'.globals = st.globals ∧ st'.locals = st.locals) :=
  ⟨fun h => ⟨(duDirective_quiet _ _ h).globals, (duDirective_quiet _ _ h).locals⟩,
   fun h => ⟨(instruction_quiet _ _ h).globals, (instruction_quiet _ _ h).locals⟩,
   fun _ _ h => ⟨(runDataTask_quiet _ _ h).globals, (runDataTask_quiet _ _ h).locals⟩,
   fun _ _ h => ⟨(runInstrTask_quiet _ _ h).globals, (runInstrTask_quiet _ _ h).locals⟩⟩

/-- C14.isolation_asm (upwards only by `.export` / `.global`, whole include)  After a complete `.include` every valued
entry `(m, v)` of the includer's table was there before, or `m` is an operand of a `.export`/`.global` statement of the
included file's own text and `v` is the value `m` has in the included file's own final table. -/
theorem isolation_asm_include {fs : Bytes → Option Bytes} {enc : Encoder} {fuel : Nat} {env : Env} {st st' : St}
    {line col : Nat} {args : List Arg} {r : Res} {L : Table} (hL : st.locals = some L)
    (h : includeDirective fs (assembleFile fs enc fuel) env st line col args = .ok (st', r)) :
    ∃ L', st'.locals = some L' ∧ ∀ m v, L'.find m = some (some v) → L.find m = some (some v) ∨
      ∃ fuel' path data els perr st2 st4 r4 C, fuel = fuel' + 1 ∧ fs path = some data ∧
        parseFile data = .ok (els, perr) ∧ st2.locals = some [] ∧ st2.globals = L ∧
        fileBody fs enc (assembleFile fs enc fuel') ⟨path :: env.paths, path⟩ data st2 = .ok (st4, r4) ∧
        st4.locals = some C ∧ m ∈ fileNames els ∧ C.find m = some (some v) := by
  obtain ⟨L', hL', hm⟩ := include_aux hL h
  exact ⟨L', hL', fun m v hv => (hm m v hv).imp id (fun ⟨a, b, c, d, e, f, g, r4, i, h1, h2, h3, h4, h5, _, h6, h7, h8, h9⟩ =>
    ⟨a, b, c, d, e, f, g, r4, i, h1, h2, h3, h4, h5, h6, h7, h8, h9⟩)⟩

/-- C14.isolation_asm (a file's own table, whole file)  Take any file of the include tree — the main file or an
included one at any depth — assembled by `fileBody` from the empty table, with all its statements, complete nested
includes and its task loop, and let `C'` be its own table at the end.  Then every valued entry `m = v` of `C'` has an
origin in a statement of the file's OWN text `els` (what `data` parses into):

* a definition `m:` / `.const m, e`; or
* an `.import m` — and the includer's table (the file's `globals`) has `m = v`; or
* an `.include` statement whose file sent `m` up (`SentUp`): that file was itself assembled from the empty table, its own
  text has `.export m` / `.global m`, and its own final table has `m = v` — to which this theorem applies again.

So a file sees only what it defines, what it imports from its includer, and what the files it includes export or declare
global; following `SentUp` downwards and `.import` upwards yields the chain that ends at a definition `m = v`. -/
theorem isolation_asm_file {fs : Bytes → Option Bytes} {enc : Encoder} {fuel : Nat} {env : Env} {data : Bytes}
    {st st' : St} {r : Res} {C' : Table} (hC : st.locals = some []) (hq : st.localTasks = some [])
    (h : fileBody fs enc (assembleFile fs enc fuel) env data st = .ok (st', r)) (hC' : st'.locals = some C') :
    ∃ els perr, parseFile data = .ok (els, perr) ∧ ∀ m v, C'.find m = some (some v) →
      (∃ el ∈ els, defines m el) ∨ ((∃ el ∈ els, imports m el) ∧ st'.globals.find m = some (some v)) ∨
      (∃ el ∈ els, isInclude el ∧ ∃ L, SentUp fs enc fuel env L m v) := by
  obtain ⟨els, perr, st3, res, hpf, hd, hrest⟩ := fileBody_ok h
  refine ⟨els, perr, hpf, fun m v hv => ?_⟩
  have w1 := doAssemble_rel (assembleFile_rel fs enc fuel) perr els st [] hC _ _ hd
  obtain ⟨C3, hC3⟩ := w1.locals_some
  have fromBody : ∀ {G : Table}, st3.globals.le G → C3.find m = some (some v) → Origin fs enc fuel env els G m v := by
    intro G hle hv3
    rcases doAssemble_origin perr els st [] hC st3 res C3 hd hC3 m v hv3 with e | ho
    · simp [Table.find] at e
    · exact ho.mono (fun _ hx => hx) hle
  rcases hrest with ⟨_, rfl, _⟩ | ⟨_, tasks, ht, hl⟩
  · cases hC3.symm.trans hC'
    exact fromBody (Table.le_refl _) hv
  · -- the task loop leaves the file's own table alone and only adds to the includer's
    cases ((localLoop_locals rounds tasks _ res _ _ hl).trans hC3).symm.trans hC'
    exact fromBody (fileLoop_rel hq w1 ht hl).tabLe.1 hv

/-- … and the end-of-file tasks (closures of `.global`, retries) never touch the file's own table. -/
theorem isolation_asm_tasks {enc : Encoder} {env : Env} {n : Nat} {ts : List Task} {st st' : St} {res r : Res}
    (h : localLoop enc env n ts st res = .ok (st', r)) : st'.locals = st.locals :=
  localLoop_locals n ts st res _ _ h

/-- C14.isolation_asm (whole tree: the chain ends at a definition)  If NO file of the project has a label `m:` or a
`.const m, …` (`NoDef fs m`), then `m` never has a value anywhere: for every file of the include tree, at every depth
(`fuel` = remaining include depth), assembled from the empty table by an includer whose table has no value for `m` —
the file's own final table has no value for `m`, and neither has the includer's table afterwards.  (Induction on the
include depth over `isolation_asm_statement`: `.import` needs the includer's value, `.include` needs the child's, and
`.export`/`.global` copy only the file's own value.)  Contrapositive: wherever a name resolves, a chain of
`.import` / `.export` / `.global` edges leads to a file that defines it. -/
theorem isolation_asm_undefined {fs : Bytes → Option Bytes} {enc : Encoder} {m : Bytes} (hnd : NoDef fs m) (fuel : Nat)
    {env : Env} {data path : Bytes} {st st' : St} {r : Res} (hfs : fs path = some data) (hC : st.locals = some [])
    (hq : st.localTasks = some []) (hg : ∀ w, st.globals.find m ≠ some (some w))
    (h : fileBody fs enc (assembleFile fs enc fuel) env data st = .ok (st', r)) :
    (∀ C', st'.locals = some C' → ∀ w, C'.find m ≠ some (some w)) ∧ ∀ w, st'.globals.find m ≠ some (some w) :=
  nodef_file hnd fuel env data path st st' r hfs hC hq hg h

/-- … in particular after the main file of a project the real global table has no value for such a name -/
theorem isolation_asm_undefined_main {fs : Bytes → Option Bytes} {enc : Encoder} {m : Bytes} (hnd : NoDef fs m)
    {fuel : Nat} {data main : Bytes} {st' : St} {r : Res} (hfs : fs main = some data)
    (h : assembleFile fs enc fuel Env.init St.init data main = .ok (st', r)) :
    ∀ w, st'.globals.find m ≠ some (some w) := by
  cases fuel with
  | zero => simp [assembleFile] at h
  | succ fuel =>
    obtain ⟨st4, _, _, _, hb, _, _, _, _, _, hg4, _, _⟩ := assembleFile_outside (st := St.init) rfl rfl h
    rw [hg4]
    exact (nodef_file hnd fuel _ data main _ st4 r hfs rfl rfl (fun w hw => by simp [St.init, Table.find] at hw) hb).2

/-! ## simulation — the scope machine of Props/C14.lean is the scope-relevant projection of `Asm`

`scopeOf`, `outOf`, `exOf`: Lemmas/AsmScopeSim.lean (header).  The frame stack of `Scope` corresponds to the activations of
`assembleFile` and is not part of `St`: the squares below are those of ONE activation; entering and leaving a file are the
last theorem. -/

/-- C14.simulation_asm (primitives)  `Arm6M::is_register`, `get_constant`, `insert_constant`, `defer_constant` and
`add_task` of the two models commute with `scopeOf`: same table effect, same `ConstantError`, same panic condition. -/
theorem simulation_asm_primitives (st : St) (env : Env) (n : Bytes) (v : Int) (r : Realm) (t : Task) :
    Scope.isReg n = Front.isRegister n ∧
    (Scope.getConstant (scopeOf st env) n (realmOf r) =
      match getConstant st n r with
      | .ok lk => .ok (lookupOf lk)
      | .stop _ => .error .noLocalScope) ∧
    (Scope.insertConstant (scopeOf st env) n v (realmOf r) =
      match insertConstant st n v r with
      | .ok (st', x) => .ok (scopeOf st' env, exceptOf x)
      | .stop _ => .error .noLocalScope) ∧
    (Scope.deferConstant (scopeOf st env) n (realmOf r) =
      match deferConstant st n r with
      | .ok (st', x) => .ok (scopeOf st' env, exceptOf x)
      | .stop _ => .error .noLocalScope) ∧
    (Scope.addTask (scopeOf st env) (taskOf t) (realmOf r) =
      match addTask st t r with
      | .ok st' => .ok (scopeOf st' env)
      | .stop _ => .error .noLocalScope) :=
  ⟨isReg_eq n, sim_getConstant st env n r, sim_insertConstant st env n v r, sim_deferConstant st env n r,
   sim_addTask st env t r⟩

/-- C14.simulation_asm (statements)  Each scope-relevant statement of `Asm` — a label at the region cursor, `.const n, e`
with the value of `e`, `.global n`, `.import n`, `.export n` — and the closure `.global` queues, run on a context `st`,
does to `scopeOf st` exactly what the corresponding op of the scope machine does: the same new tables and queues, the
same result level (`Ok` / trivial / fatal), the same diagnostic class recorded (or none), and a panic exactly when the
scope machine panics. -/
theorem simulation_asm_statements {fs : Bytes → Option Bytes} {enc : Encoder} {inc : Inc} (st : St) (env : Env)
    (line col : Nat) (n : Bytes) :
    (∀ (el : Element) (a : Nat), el.val = .label n → currAddr st = some a →
      exOf (Scope.doLabel (scopeOf st env) n a 0) = outOf env (statement fs enc inc env st el)) ∧
    (∀ (e : Arg) (v : Int), evalStrict "const" env st line col e = .ok (.ok (.const v)) →
      exOf (Scope.doConst (scopeOf st env) n v 0) = outOf env (constDirective env st line col [.ident n, e])) ∧
    exOf (Scope.doGlobal (scopeOf st env) n 0) = outOf env (globalDirective .global env st line col [.ident n]) ∧
    exOf (Scope.doImport (scopeOf st env) n 0) = outOf env (globalDirective .import_ env st line col [.ident n]) ∧
    exOf (Scope.doExport (scopeOf st env) n 0) = outOf env (globalDirective .export_ env st line col [.ident n]) ∧
    exOf (Scope.runGlobalCopy (scopeOf st env) n 0) = outOf env (runGlobalCopy n line col env st) :=
  ⟨fun el a hv hc => sim_label st env el n a hv hc, fun e v he => sim_const st env line col n e v he,
   sim_global st env line col n, sim_import st env line col n, sim_export st env line col n,
   sim_globalCopy st env line col n⟩

/-- C14.simulation_asm (entering and leaving a file)  The `mem::replace` swaps: `Scope.enterFile` on `scopeOf st` yields the
tables and queues of `Asm.enterFile st` and a `PathFrame` holding what `Asm.enterFile` returns for `leaveFile`; and
`Scope.intoInner` on such a frame restores what `Asm.leaveFile` restores. -/
theorem simulation_asm_swap (st st4 : St) (env : Env) (tag : Nat) (path : Bytes) (fs : List Scope.Saved) :
    (let s' := Scope.enterFile (scopeOf st env) tag
     let st2 := (enterFile st).2.2
     s'.globals = st2.globals ∧ s'.locals = st2.locals ∧ s'.globalTasks = st2.globalTasks.map taskOf ∧
     s'.localTasks = st2.localTasks.map (·.map taskOf) ∧
     s'.depth = (⟨path :: env.paths, path⟩ : Env).paths.length ∧
     (s'.frames.head?.map (·.constants)) = some (enterFile st).1 ∧
     (s'.frames.head?.map (·.tasks)) = some ((enterFile st).2.1.map (·.map taskOf))) ∧
    ∃ s', Scope.intoInner { scopeOf st4 ⟨path :: env.paths, path⟩ with
        frames := ⟨env.paths.length + 1, (enterFile st).1, (enterFile st).2.1.map (·.map taskOf), tag⟩ :: fs }
        ⟨env.paths.length + 1, (enterFile st).1, (enterFile st).2.1.map (·.map taskOf), tag⟩ fs = .ok s' ∧
      s'.globals = (leaveFile (enterFile st).1 (enterFile st).2.1 st4).globals ∧
      s'.locals = (leaveFile (enterFile st).1 (enterFile st).2.1 st4).locals ∧
      s'.globalTasks = (leaveFile (enterFile st).1 (enterFile st).2.1 st4).globalTasks.map taskOf ∧
      s'.localTasks = (leaveFile (enterFile st).1 (enterFile st).2.1 st4).localTasks.map (·.map taskOf) ∧
      s'.depth = env.paths.length ∧ s'.frames = fs :=
  ⟨sim_enterFile st env tag path, sim_leaveFile st4 path env.paths _ _ fs tag⟩

private def x : Bytes := bytesOf "x"

/-- the hypotheses of the `dup_*_asm` theorems are satisfiable: inside a file whose table has `x = 1` -/
example : ∃ (st : St) (l : Table), st.locals = some l ∧ l.find x = some (some 1) ∧ Front.isRegister x = false ∧
    st.globals.find x = none :=
  ⟨{ St.init with locals := some [(x, some 1)], localTasks := some [] }, [(x, some 1)], rfl, by decide, by decide,
   by decide⟩

/-- `.const x, 2` in that state: exactly the duplicate diagnostic -/
example : statement (fun _ => none) encoder (fun _ _ _ _ => .stop .fuel) ⟨[[109]], [109]⟩
      { St.init with locals := some [(x, some 1)], localTasks := some [] }
      ⟨3, 5, .directive (bytesOf "const") (.cons (.ident x) (.cons (.const 2) .nil))⟩ =
    .ok (({ St.init with locals := some [(x, some 1)], localTasks := some [] } : St).push ⟨[[109]], [109]⟩ 3 5
      (.dirApply "const" (.constDirDuplicate x)), .err .fatal) :=
  dup_const_asm (v := 2) (w := 1) rfl rfl (by rfl) rfl (by decide) (by decide)

/-- the hypotheses of `frame_asm` / `monotone_asm_include` / `isolation_asm_include` are satisfiable in their interesting
branch: a file whose table has `x = 1` includes an (empty) file; the `.include` runs the recursion and returns -/
example : ∃ st' r, includeDirective (fun _ => some []) (assembleFile (fun _ => some []) encoder 1) ⟨[[109]], [109]⟩
      { St.init with locals := some [(x, some 1)], localTasks := some [] } 1 1 [.str [120]] = .ok (st', r) ∧
    st'.locals = some [(x, some 1)] := ⟨_, _, rfl, rfl⟩

/-- register names are reserved, ordinary names are not -/
example : Front.isRegister (bytesOf "r0") = true ∧ Front.isRegister (bytesOf "SP") = true ∧
    Front.isRegister x = false := by decide

end Trion.Asm
