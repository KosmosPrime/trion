import TrionModel.Props.C20
/-!
# C20 (pipeline clause) — the listing TEXT re-assembles to the file, backward and forward branches

`listing_roundtrip` is `Listing.roundtrip` (`Lemmas/TridasRun.lean`, whose header tells the path of a line whose label is
defined LATER: 0xBE placeholder of the final length, queued task, `write_at` at the end of the file);
`listing_roundtrip_backward` (`Props/C20.lean`) is its special case with every branch at or before itself.
-/
namespace Trion.Tridas
open Trion Trion.Show

/-- C20.roundtrip on text, **in full** (backward and forward branches).  Under the property's hypothesis
(`WellFormed`, gap-free `Chain`), for a canonically encoded file (`EntryOk`: K3 excludes alias encodings, see
`alias_not_reproduced`) without PC-relative data references (`hpc`) in which every direct branch goes to an
instruction boundary inside the file (`hin`): the listing is produced, and `Asm.run` — the whole pipeline model —
on its text succeeds, records no diagnostic, and its image is exactly the input file at 0x20000000. -/
theorem listing_roundtrip {decode : Decoder} {b : List UInt8} {es : List Entry}
    (wf : WellFormed decode b es) (hc : Chain es BASE (BASE + b.length)) (hok : ∀ e ∈ es, EntryOk b e)
    (hpc : ∀ e ∈ es, Show.targetOf e.instr e.addr = getBranch e.instr e.addr)
    (hin : ∀ e ∈ es, ∀ d, getBranch e.instr e.addr = some d → inFile b.length d) :
    ∃ ls, listing decode b = .ok ls ∧
      ∀ (fs : Bytes → Option Bytes) (main : Bytes), fs main = some (listingText ls) →
        Asm.run fs main = .done ⟨true, none, true, [], [(BASE, b)]⟩ :=
  Listing.roundtrip ⟨wf, hc, rfl, hok, hpc, hin⟩

end Trion.Tridas
