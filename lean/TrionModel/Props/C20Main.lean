import TrionModel.Props.C20Asm
import TrionModel.Props.C18Main
/-!
# C20 composed with C18 — from the listing `tridas` prints to the UF2 file `trias` writes

`listing_roundtrip` (Props/C20Asm.lean) ends at the image of the assembler run; `Props/C18Main.lean` models `trias`
from its arguments to the output file. Composed (`listing_to_uf2`): under the hypotheses of C20 the listing is produced,
`trias` run on its text WRITES a file (`post_single_ok`: the UF2 writer accepts a single region at 0x20000000 that ends
inside the address space), and the independent UF2 reader decodes that file to blocks whose memory image holds every
input byte at 0x20000000 + its offset.  `listing_to_uf2_partial` is a corollary whose statement also allows the writer's
refusal `refused (post (uf2 e))`.
-/
namespace Trion.Tridas
open Trion Trion.Asm Trion.Trias Trion.Uf2

theorem writeSegs_error_kind : ∀ (st : Uf2.St) (segs : List Seg) (e : Msg), writeSegs st segs = .error e →
    (∃ u, e = .uf2 u) ∨ (∃ s, e = .panic s)
  | _, [], e, h => by simp [writeSegs] at h
  | st, (f, d) :: r, e, h => by
    simp only [writeSegs] at h
    split at h
    · exact writeSegs_error_kind _ r e h
    · cases h; exact .inl ⟨_, rfl⟩
    · cases h; exact .inr ⟨_, rfl⟩

theorem lookup_single (base : Nat) (b : List UInt8) (i : Nat) (hi : i < b.length) :
    Trias.lookup [(base, b)] (base + i) = some b[i] := by
  simp only [Trias.lookup]
  have : base ≤ base + i ∧ base + i < base + b.length := ⟨by omega, by omega⟩
  rw [if_pos this]
  simp [hi]

/-- a region at 0x20000000 does not touch the boot sector, so no CRC is patched in -/
theorem bootCrc_single (b : List UInt8) : bootCrc [(BASE, b)] = .ok [(BASE, b)] := by
  have h0 : (Trias.lookup [(BASE, b)] 0x10000000).isSome = false := by
    have : ¬ (BASE ≤ 0x10000000 ∧ 0x10000000 < BASE + b.length) := by unfold BASE; omega
    simp only [Trias.lookup, if_neg this]
    rfl
  unfold bootCrc
  rw [h0]
  rfl

/-- the image of a listing — one region at 0x20000000 — is neither empty nor a boot sector: the post-processing can only
deliver a file or a UF2 writer error (or the panic that `post_no_panic` of `Props/C18Main.lean` excludes) -/
theorem post_single_cases (b : List UInt8) :
    (∃ f, post [(BASE, b)] = .ok f) ∨ (∃ e, post [(BASE, b)] = .error (.uf2 e)) ∨ (∃ s, post [(BASE, b)] = .error (.panic s)) := by
  rw [post_eq, bootCrc_single b]
  simp only [List.isEmpty_cons, Bool.false_eq_true, if_false]
  cases hw : writeSegs st0 (padAll [(BASE, b)]) with
  | error e =>
    simp only
    rcases writeSegs_error_kind st0 (padAll [(BASE, b)]) e hw with ⟨u, rfl⟩ | ⟨s, rfl⟩
    · exact .inr (.inl ⟨u, rfl⟩)
    · exact .inr (.inr ⟨s, rfl⟩)
  | ok st' =>
    simp only
    cases hf : finish st' with
    | ok out => exact .inl ⟨out, rfl⟩
    | err e => exact .inr (.inl ⟨e, rfl⟩)
    | panic s => exact .inr (.inr ⟨s, rfl⟩)

theorem post_single_not_refused (b : List UInt8) :
    post [(BASE, b)] ≠ .error .empty ∧ post [(BASE, b)] ≠ .error .crcOverwrite := by
  rcases post_single_cases b with ⟨f, h⟩ | ⟨e, h⟩ | ⟨s, h⟩ <;> rw [h] <;> simp

theorem post_single_ok (b : List UInt8) (hne : b ≠ []) (hsmall : BASE + b.length < 4294967296) :
    ∃ f, post [(BASE, b)] = .ok f := by
  have hb := bootCrc_single b
  have hpad : padAll [(BASE, b)] = [(BASE, b)] := by
    simp [padAll, padGo, BASE, zeros]
  have hrej : ¬ WriteAllRejects st0 BASE b := by
    have hR : roundUp b.length 256 ≤ b.length + 255 ∧ roundUp b.length 256 % 256 = 0 := by
      unfold roundUp; split <;> omega
    have hC : ceilDiv (roundUp b.length 256) 256 ≤ roundUp b.length 256 / 256 + 1 := by
      unfold ceilDiv; split <;> omega
    unfold WriteAllRejects
    simp only [st0, BASE, if_true]
    unfold BASE at hsmall
    intro ⟨_, h⟩
    rcases h with h | h | h | h <;> omega
  have hw : ∃ st', writeSegs st0 [(BASE, b)] = .ok st' := by
    rcases writeAll_spec st0 st0_inv BASE (by unfold BASE; omega) b false with ⟨st1, h1, _, _, _⟩ | ⟨e, _, hr⟩
    · exact ⟨st1, by simp [writeSegs, h1]⟩
    · exact absurd hr hrej
  obtain ⟨st', hw⟩ := hw
  have ha2 : Trias.Addr32 [(BASE, b)] := by intro x hx; simp at hx; subst hx; unfold BASE; simp
  obtain ⟨hI, hE⟩ := writeSegs_spec [(BASE, b)] st0 st' st0_inv ha2 hw
  have f1 := (finish_of_extends (st0 := st0) rfl rfl hI hE).2.1
  refine ⟨encAll st'.cfg st'.count (segsBlks st0 [(BASE, b)]), ?_⟩
  rw [post_eq, hb]
  simp only [List.isEmpty_cons, Bool.false_eq_true, if_false, hpad, hw, f1]

/-- C20∘C18  Under the hypotheses of C20, `trias` run on the text of the listing WRITES a
file, and the independent UF2 reader decodes that file to an image that holds every input byte at 0x20000000 + offset. -/
theorem listing_to_uf2 {decode : Decoder} {b : List UInt8} {es : List Entry}
    (wf : WellFormed decode b es) (hc : Chain es BASE (BASE + b.length)) (hok : ∀ e ∈ es, EntryOk b e)
    (hpc : ∀ e ∈ es, Show.targetOf e.instr e.addr = getBranch e.instr e.addr)
    (hin : ∀ e ∈ es, ∀ d, getBranch e.instr e.addr = some d → inFile b.length d) :
    ∃ ls, listing decode b = .ok ls ∧
      ∀ (fs : Bytes → Option Bytes) (main : Bytes), fs main = some (listingText ls) →
        ∃ f bs, mainOut fs main = .written f ∧ read f = some bs ∧
          ∀ i (hi : i < b.length), image bs (BASE + i) = some b[i] := by
  obtain ⟨ls, hl, hrun⟩ := listing_roundtrip wf hc hok hpc hin
  refine ⟨ls, hl, fun fs main hfs => ?_⟩
  have hr := hrun fs main hfs
  obtain ⟨f, hp⟩ := post_single_ok b wf.ne_nil (by have := wf.small; unfold two32 at this; exact this)
  have hw : mainOut fs main = .written f := (main_written_iff fs main f).mpr ⟨_, hr, rfl, rfl, hp⟩
  obtain ⟨o, hro, _, ⟨bs, hread, himg⟩, _⟩ := main_written fs main f hw
  rw [hr] at hro
  cases hro
  exact ⟨f, bs, hw, hread, fun i hi => himg (BASE + i) b[i] (lookup_single BASE b i hi)⟩

/-- C20∘C18  corollary of `listing_to_uf2` whose statement also allows a refusal by the UF2 writer -/
theorem listing_to_uf2_partial {decode : Decoder} {b : List UInt8} {es : List Entry}
    (wf : WellFormed decode b es) (hc : Chain es BASE (BASE + b.length)) (hok : ∀ e ∈ es, EntryOk b e)
    (hpc : ∀ e ∈ es, Show.targetOf e.instr e.addr = getBranch e.instr e.addr)
    (hin : ∀ e ∈ es, ∀ d, getBranch e.instr e.addr = some d → inFile b.length d) :
    ∃ ls, listing decode b = .ok ls ∧
      ∀ (fs : Bytes → Option Bytes) (main : Bytes), fs main = some (listingText ls) →
        ((∃ f, mainOut fs main = .written f) ∨ (∃ e, mainOut fs main = .refused (.post (.uf2 e)))) ∧
        ∀ f, mainOut fs main = .written f →
          ∃ bs, read f = some bs ∧ ∀ i (hi : i < b.length), image bs (BASE + i) = some b[i] := by
  obtain ⟨ls, hl, h⟩ := listing_to_uf2 wf hc hok hpc hin
  refine ⟨ls, hl, fun fs main hfs => ?_⟩
  obtain ⟨f, bs, hw, hread, himg⟩ := h fs main hfs
  exact ⟨.inl ⟨f, hw⟩, fun f' hw' => by rw [hw] at hw'; cases hw'; exact ⟨bs, hread, himg⟩⟩

end Trion.Tridas
