import TrionModel.Lemmas.ParseStmt
/-!
# C09 — parsing respects precedence, associativity and grouping

Model: `Trion.Parse` (`Model/Parse.lean`), mirroring `parse_unary / parse_binary / parse_args / do_next`
of `src/text/parse/mod.rs` with `src/text/operator.rs`.
Specification: `Trion.Render` (`Spec/Render.lean`): the documented syntax as a printer that writes only
the parentheses which precedence and left associativity require; `PArg`/`Render.parg` add explicit
redundant parentheses.

All statements are about token lists `ts : List Token` with **arbitrary positions** whose values are the
rendered tokens (`ts.map (·.val) = Render.…`); `lo` is the tokenizer's ending (error / final position),
`st` the `expr_start` argument — both arbitrary, they only matter for error reports.
(A text with arbitrary spacing and comments lexes to such a token list: `parse_text`, `Props/C09Text.lean`.)
-/
namespace Trion.Parse

/-- C09.parens_redundant  Redundant parentheses do not change the tree: for every way `p` of adding
parentheses around sub-expressions (any number, anywhere, nested), the text is read back as the tree
without them (`p.erase`). -/
theorem parens_redundant (lo : LexOut) (st : Nat × Nat) (p : PArg) (hwf : p.wf) (ts : List Token)
    (hts : ts.map (·.val) = Render.parg 0 p) (stop : Token) (hstop : stop.val.isStop = true) (rest : List Token) :
    binary lo .bitOr st (ts ++ stop :: rest) = .ok (p.erase, stop :: rest) :=
  fits_inner (fits_parg lo p hwf 0 ts hts) st stop rest hstop

/-- C09.parse_render  Every well-formed argument tree, written with only the parentheses the
precedence table and left associativity require, followed by a token that ends an expression
(`,` `;` `)` `]` `}`), is read back by `parse_binary(BitOr)` — the entry point for a whole
expression — as exactly that tree, leaving the rest of the input untouched. -/
theorem parse_render (lo : LexOut) (st : Nat × Nat) (t : Arg) (hwf : t.wf) (ts : List Token)
    (hts : ts.map (·.val) = Render.arg 0 t) (stop : Token) (hstop : stop.val.isStop = true) (rest : List Token) :
    binary lo .bitOr st (ts ++ stop :: rest) = .ok (t, stop :: rest) := by
  have h := parens_redundant lo st (PArg.ofArg t) (wf_ofArg t hwf) ts (by rw [parg_ofArg]; exact hts) stop hstop rest
  rwa [erase_ofArg] at h

/-- … in particular a parenthesised variant of `t` and the minimal rendering of `t` parse to the same tree -/
theorem parens_same_tree (lo : LexOut) (st : Nat × Nat) (t : Arg) (hwf : t.wf) (p : PArg) (hp : p.wf) (he : p.erase = t)
    (ts ts' : List Token) (hts : ts.map (·.val) = Render.arg 0 t) (hts' : ts'.map (·.val) = Render.parg 0 p)
    (stop : Token) (hstop : stop.val.isStop = true) (rest : List Token) :
    binary lo .bitOr st (ts' ++ stop :: rest) = binary lo .bitOr st (ts ++ stop :: rest) := by
  rw [parse_render lo st t hwf ts hts stop hstop rest, parens_redundant lo st p hp ts' hts' stop hstop rest, he]

/-- the same for a sub-expression context of any binding strength `m` and any level `k ≤ m` at which
the parser may be when it meets the text (e.g. the right operand of `*` is parsed at level 6). -/
theorem parse_render_level (lo : LexOut) (p : PArg) (hwf : p.wf) (m : Nat) (ts : List Token)
    (hts : ts.map (·.val) = Render.parg m p) : Fits lo p.erase m ts := fits_parg lo p hwf m ts hts

/-- C09.stmt_roundtrip  Statement kind, name and arguments (in order) are preserved: a rendered label,
directive or instruction — with `more` tokens following — is read back by `do_next` as exactly that
statement, positioned at its first token, leaving `more`. -/
theorem stmt_roundtrip (lo : LexOut) (ev : ElemVal) (hwf : ev.wf) (first : Token) (body more : List Token)
    (hts : (first :: body).map (·.val) = Render.elemVal ev) :
    element lo first (body ++ more) = .ok (⟨first.line, first.col, ev⟩, more) :=
  element_render lo ev hwf first body more hts

/-- C09.program_roundtrip  A whole file: the statements of a rendered program (any number of labels,
directives and instructions, each given by its kind/name/arguments, its first token and its remaining
tokens) are read back by the batch model `all` of a parser run as exactly those statements, in order, each
positioned at its first token, with no error. That the `Parser` iterator yields what `all` computes is
`next_refines_all` (`Props/C10Parse.lean`). -/
theorem program_roundtrip (prog : List (ElemVal × Token × List Token))
    (h : ∀ x ∈ prog, x.1.wf ∧ (x.2.1 :: x.2.2).map (·.val) = Render.elemVal x.1) (endLine endCol : Nat) :
    all ⟨progToks prog, none, endLine, endCol⟩ = .done (progElems prog) none :=
  allLoop_render _ rfl prog h _ (Nat.lt_succ_self _)

/-- … and with redundant parentheses anywhere in the arguments -/
theorem stmt_roundtrip_parens (lo : LexOut) (name : Bytes) (as : PArgs) (hwf : as.wf) (first tt : Token)
    (ta more : List Token) (hf : first.val = .ident name) (hta : ta.map (·.val) = Render.pargs as) (htt : tt.val = .term) :
    element lo first (ta ++ tt :: more) = .ok (⟨first.line, first.col, .instruction name as.erase⟩, more) :=
  instruction_ok lo name as hwf first tt ta more hf hta htt

/-- C09.climb_no_panic  The precedence-climbing invariant: whatever the tokens, `parse_binary(g)` never
meets an operator of a higher group than `g` in its loop (an inner call has consumed it), i.e. the
`panic!("encountered operator … in group …")` is unreachable — for every group, every token list,
every tokenizer ending (and every fuel, `climb_no_panic_fuel`). -/
theorem climb_no_panic (lo : LexOut) (g : BinOpGroup) (st : Nat × Nat) (ts : List Token) :
    binary lo g st ts ≠ .panic := binary_ne_panic lo g st ts

theorem climb_no_panic_fuel (lo : LexOut) (n : Nat) (g : BinOpGroup) (st : Nat × Nat) (ts : List Token) :
    binaryF lo n g st ts ≠ .panic := ((noPanicAt lo n).binary g st ts).1

/-- the fuel of the model is an artefact: it never runs out -/
theorem fuel_enough (lo : LexOut) (g : BinOpGroup) (st : Nat × Nat) (ts : List Token) :
    binary lo g st ts ≠ .fuel ∧ unary lo ts ≠ .fuel ∧ args lo ts ≠ .fuel :=
  ⟨binary_ne_fuel lo g st ts, unary_ne_fuel lo ts, args_ne_fuel lo ts⟩

/-- the loop alone does panic when it is entered in front of a higher operator — the invariant is what
excludes this, not the shape of the function -/
example : binLoopF ⟨[], none, 1, 1⟩ 3 .bitOr (1, 1) (.const 1) [⟨1, 1, .mul⟩, ⟨1, 2, .num 2⟩] = .panic := rfl

/-- `1 - (2 - 3) * 4` : the hypotheses of `parse_render` are satisfiable by a tree that needs parentheses -/
example : (Arg.bin .sub (.const 1) (.bin .mul (.bin .sub (.const 2) (.const 3)) (.const 4))).wf ∧
    Render.arg 0 (Arg.bin .sub (.const 1) (.bin .mul (.bin .sub (.const 2) (.const 3)) (.const 4))) =
      [.num 1, .minus, .lparen, .num 2, .minus, .num 3, .rparen, .mul, .num 4] := by
  refine ⟨?_, rfl⟩
  simp [Arg.wf, i64Max]

/-- left associativity is visible: `1 - 2 - 3` is `(1 - 2) - 3`, and `1 - (2 - 3)` keeps its parentheses -/
example : Render.arg 0 (Arg.bin .sub (.bin .sub (.const 1) (.const 2)) (.const 3)) = [.num 1, .minus, .num 2, .minus, .num 3] ∧
    Render.arg 0 (Arg.bin .sub (.const 1) (.bin .sub (.const 2) (.const 3))) =
      [.num 1, .minus, .lparen, .num 2, .minus, .num 3, .rparen] := ⟨rfl, rfl⟩

/-- redundant parentheses: `((1) - 2) - (3)` is a parenthesisation of `1 - 2 - 3` -/
example : (PArg.bin .sub (.paren (.bin .sub (.paren (.const 1)) (.const 2))) (.paren (.const 3))).erase =
      Arg.bin .sub (.bin .sub (.const 1) (.const 2)) (.const 3) ∧
    Render.parg 0 (PArg.bin .sub (.paren (.bin .sub (.paren (.const 1)) (.const 2))) (.paren (.const 3))) =
      [.lparen, .lparen, .num 1, .rparen, .minus, .num 2, .rparen, .minus, .lparen, .num 3, .rparen] := ⟨rfl, rfl⟩

/-- a program of a label, a directive and an instruction satisfies the hypotheses of `program_roundtrip` -/
example : ∀ x ∈ [((ElemVal.label [108]), (⟨1, 1, .ident [108]⟩ : Token), [(⟨1, 2, .labelMark⟩ : Token)]),
      (.directive [100] (.cons (.const 1) (.cons (.const 2) .nil)), ⟨2, 1, .dirMark⟩,
        [⟨2, 2, .ident [100]⟩, ⟨2, 4, .num 1⟩, ⟨2, 5, .sep⟩, ⟨2, 6, .num 2⟩, ⟨2, 7, .term⟩]),
      (.instruction [78] .nil, ⟨3, 1, .ident [78]⟩, [⟨3, 2, .term⟩])],
    x.1.wf ∧ (x.2.1 :: x.2.2).map (·.val) = Render.elemVal x.1 := by
  simp [ElemVal.wf, Args.wf, Arg.wf, i64Max, Render.elemVal, Render.args, Render.arg]

/-- the model really computes: `1 - 2 * 3 ;` -/
example : binary ⟨[], none, 1, 1⟩ .bitOr (1, 1)
      [⟨1, 1, .num 1⟩, ⟨1, 2, .minus⟩, ⟨1, 3, .num 2⟩, ⟨1, 4, .mul⟩, ⟨1, 5, .num 3⟩, ⟨1, 6, .term⟩] =
    .ok (.bin .sub (.const 1) (.bin .mul (.const 2) (.const 3)), [⟨1, 6, .term⟩]) := by
  simp [binary_eq, operand, BinOpGroup.higher, unary_cons, binLoop_cons, Tok.isStop, Tok.binOp, BinOp.group,
    BinOpGroup.toNat]

end Trion.Parse
