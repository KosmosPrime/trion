import TrionModel.Lemmas.LexLayout
import TrionModel.Props.C11
/-!
# C11 — literals denote the written value, whatever text follows

The theorems of `Props/C11.lean` take the literal as the whole input. Here the literal is followed by ANY
well-formed UTF-8 text `rest` (for integers: text that does not directly continue the number, `Follow`).
`Spell` (`Lemmas/LexLayoutDef.lean`) lists every accepted spelling; `Props/C12Layout.lean` does the same with
separator text in front.
-/
namespace Trion.Lex

/-- C11.ctx1  Any spelling of any token, followed by any well-formed text: the first `next()` yields that token
at 1:1 and leaves exactly the rest, at the specified position after the literal; hence the token stream begins
with it. -/
theorem spelling_then (lit rest : Bytes) (t : Tok) (hs : Spell lit t rest.head?) (hur : Utf8 rest) :
    nextToken ⟨lit ++ rest, false, 1, 1⟩ = .tok ⟨1, 1, t⟩ ⟨rest, false, (Pos.of lit).1, (Pos.of lit).2⟩ ∧
    ∃ o more, tokens (lit ++ rest) = .ok o ∧ o.toks = ⟨1, 1, t⟩ :: more :=
  ⟨nextToken_spell lit rest t hs hur, tokens_spell lit rest t hs hur⟩

/-- C11.ctx2 `int_lit_then`  An integer literal below 2^63 in radix 2, 8, 10 or 16 (any digit case, any leading
zeros) followed by any text that does not continue it: the stream begins with the number token carrying the
positional value. -/
theorem int_lit_then (r : Nat) (hr : r = 2 ∨ r = 8 ∨ r = 10 ∨ r = 16) (ds : Bytes) (hne : ds ≠ [])
    (hds : ∀ b ∈ ds, isDigit r b = true) (hv : valueFrom r ds 0 < 2 ^ 63) (rest : Bytes) (hf : Follow rest.head?)
    (hur : Utf8 rest) :
    ∃ o more, tokens (radixPrefix r ++ ds ++ rest) = .ok o ∧
      o.toks = ⟨1, 1, .num (Int.ofNat (valueFrom r ds 0))⟩ :: more := by
  have hval : i64FromStrRadix ds r = some (Int.ofNat (valueFrom r ds 0)) := by
    rw [i64FromStrRadix_eq r (by omega) ds hne hds]; simp [hv]
  exact tokens_spell _ rest _ (Spell.num r ds _ _ hr hne hds hval hf) hur

/-- C11.ctx3 `int_big_then`  A literal of 2^63 or more is rejected with `BadNumber` at 1:1 and no token, also
when text follows (it is not wrapped, and the following text does not rescue it). -/
theorem int_big_then (r : Nat) (hr : r = 2 ∨ r = 8 ∨ r = 10 ∨ r = 16) (ds : Bytes) (hne : ds ≠ [])
    (hds : ∀ b ∈ ds, isDigit r b = true) (hv : 2 ^ 63 ≤ valueFrom r ds 0) (rest : Bytes) (hf : Follow rest.head?)
    (hur : Utf8 rest) :
    tokens (radixPrefix r ++ ds ++ rest) = .ok ⟨[], some ⟨1, 1, .badNumber⟩, 1, 1⟩ := by
  have hnext := number_next r hr ds hds (fun _ => hne) rest hf hur
  rw [i64FromStrRadix_eq r (by omega) ds hne hds, if_neg (by omega)] at hnext
  exact tokens_error _ (utf8_number r ds hds hur) _ _ hnext

/-- C11.ctx4 `char_lit_then`  A character literal of any scalar value that may be written raw (multi-byte
included), followed by any text: the stream begins with the number token carrying that value. -/
theorem char_lit_then (c : Nat) (hc : RawChar c) (rest : Bytes) (hur : Utf8 rest) :
    ∃ o more, tokens (39 :: encodeChar c ++ [39] ++ rest) = .ok o ∧ o.toks = ⟨1, 1, .num (Int.ofNat c)⟩ :: more :=
  tokens_spell _ rest _ (Spell.chr c _ hc) hur

/-- C11.ctx4 `char_lit_then` (escapes)  A character literal of one of the six escapes (`charEsc`), followed by any
text: the stream begins with the number token carrying the escape's value. -/
theorem char_esc_then (e : UInt8) (v : Nat) (he : charEsc e.toNat = some v) (rest : Bytes) (hur : Utf8 rest) :
    ∃ o more, tokens ([39, 92, e, 39] ++ rest) = .ok o ∧ o.toks = ⟨1, 1, .num (Int.ofNat v)⟩ :: more :=
  tokens_spell _ rest _ (Spell.chrEsc e v _ he) hur

/-- C11.ctx5 `str_lit_tokens_then`  A string literal (raw characters, escapes, `\u{…}`) followed by any text:
the stream begins with the string token carrying exactly the characters denoted. (`str_lit_then` of
`Props/C11.lean` is the `next()`-level statement.) -/
theorem str_lit_tokens_then (items : List StrItem) (hok : ∀ it ∈ items, it.Ok) (rest : Bytes) (hur : Utf8 rest) :
    ∃ o more, tokens (34 :: renderAll items ++ [34] ++ rest) = .ok o ∧ o.toks = ⟨1, 1, .str (denoteAll items)⟩ :: more :=
  tokens_spell _ rest _ (Spell.str items _ hok) hur

/-! non-vacuity: a literal in the middle of a statement, followed by a comment with a multi-byte character -/
example : Follow (bytesOf ", R0; // é").head? := by intro b hb; cases hb; decide
example : tokens (bytesOf "0x00fF, R0;") =
    .ok ⟨[⟨1, 1, .num 255⟩, ⟨1, 7, .sep⟩, ⟨1, 9, .ident (bytesOf "R0")⟩, ⟨1, 11, .term⟩], none, 1, 12⟩ := by decide
example : tokens (bytesOf "9223372036854775808;") = .ok ⟨[], some ⟨1, 1, .badNumber⟩, 1, 1⟩ := by decide
example : charEsc 110 = some 10 ∧ charEsc 48 = none := by decide

end Trion.Lex
