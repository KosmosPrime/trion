import TrionModel.Lemmas.C04Arith
import TrionModel.Props.C04Closed
/-!
# C04 — the name tables against an independent list, and `value` against the arithmetic specification

* `regTable_doc`, `sysTable_doc`, `mnemonicTable_doc`, `branches_doc`: the model's register / special-register / mnemonic
  tables (which `C04.means` reads through `Front.regl`, `Front.sysl`, `Front.mnemonic`) ARE the documented names written out
  in `Spec/C04.lean` (`docRegisters`, `docSysRegisters`, `docMnemonics`, `docBranches`), checked by evaluation in the kernel.
  What remains tied to the model: which instruction FORM (template) a mnemonic selects — `mnemonic_table_names` ties it to the
  name the disassembler prints (`getName`), and C19 ties that to the decoder.
* `value_is_arith`: `C04.value T e` is C07's arithmetic specification `Arith.eval` applied to `e` with the defined names
  replaced by their values (`subst`), for register-free expressions over defined names, away from the corners C07 leaves
  open (`Arith.inScope`).
-/
namespace Trion.C04
open Trion Trion.Front

theorem regTable_doc : regTable = docRegisters.map fun p => (bytesOf p.1, Fin.ofNat 16 p.2) := by decide

theorem sysTable_doc : (sysTable.map fun p => (p.1, p.2.toNat)) = docSysRegisters.map fun p => (bytesOf p.1, p.2) := by decide

theorem mnemonicTable_doc : mnemonicTable.map (·.1) = docMnemonics.map bytesOf := by decide

theorem branches_doc : ∀ p ∈ docBranches, mnemonic (bytesOf p.1) = some (.b (Fin.ofNat 15 p.2) 0) := by decide

theorem value_is_arith (T : SymTable) (hT : ∀ s v, T s = some v → inI64 v = true) (e : Arg) (he : expr e = true)
    (hv : valued T e = true) (hl : lits e = true) (hs : Arith.inScope (subst T e) = true) :
    (∀ v, value T e = some v ↔ Arith.eval (subst T e) = .ok v) ∧
    (value T e = none ↔ ∃ err, Arith.eval (subst T e) = .error err) :=
  value_arith T e (closed_subst T hT e he hv hl) hs

/-- non-vacuity: `(label + 8) * 2` with `label = 0x20000100` -/
example : subst (tab exLk) (.bin .mul (.bin .add (.ident (bytesOf "label")) (.const 8)) (.const 2)) =
      .bin .mul (.bin .add (.const 0x20000100) (.const 8)) (.const 2) ∧
    Arith.eval (.bin .mul (.bin .add (.const 0x20000100) (.const 8)) (.const 2)) = .ok 0x40000210 ∧
    value (tab exLk) (.bin .mul (.bin .add (.ident (bytesOf "label")) (.const 8)) (.const 2)) = some 0x40000210 := by
  refine ⟨rfl, rfl, by decide⟩

end Trion.C04
