import TrionModel.Lemmas.FrontRetry
import TrionModel.Lemmas.SimpErrorAgain
import TrionModel.Props.C08Bytes
/-!
# C08 — the retry of a statement whose first attempt ended with a DIAGNOSTIC

An instruction or `.du*` statement whose first attempt fails with a trivial error records the diagnostic, writes the 0xBE
placeholder, queues itself with the tree left behind, and is run again at the end of the file.

* Front-end diagnostics (argument count, operand type / range / register / address form, branch and literal range and
  alignment — `B 5000` at address 0): the re-run does not evaluate anything and reports the SAME diagnostic, whatever the
  table is by then (`stmt_error_again`, first alternative of `Front.assemble_retry_error`).
* Evaluation errors (`EvalError::BadType` / `Overflow` — `.du8 1/0`): the re-run evaluates the tree left behind.  For an
  operand with `Simp.ErrAgain` (proved for arithmetic all of whose names have a value, `Simp.errAgain_closed`) it fails with
  exactly the same error over every table.
* So the task of such a statement pushes the same kind of diagnostic at the statement's position again, returns a trivial
  error, and leaves the regions — in particular the placeholder — untouched (`instr_task_error_again`, `du_task_error_again`).

NOT true without a condition on the operand (`error_then_success`; K7 in props/C08.json): with a `.global`-declared
(Deferred) name in the operand the first attempt can fail with an overflow raised by the simplifier's constant merge around that name, and the re-run, with
the name's value known, can succeed and overwrite the placeholder: `.global x; .du32 (x - MAX - 1) + MAX; .const x, 2`
— the run is a failure all the same (one diagnostic).
-/
namespace Trion.Asm
open Trion

/-- closed arithmetic over the table: every name has a value, no register -/
def ClosedArith (t : Table) (a : Arg) : Prop :=
  Simp.arith (Simp.unknown (fun n => t.get n) Front.isRegister) a = true

abbrev ErrAgainT (t : Table) (a : Arg) : Prop := Simp.ErrAgain (fun n => t.get n) Front.isRegister a

theorem errAgainT_closed {t : Table} {a : Arg} (h : ClosedArith t a) : ErrAgainT t a := Simp.errAgain_closed h

theorem evalIn_error_again {t₁ : Table} {a aL : Arg} {e : EvalE} (hE : ErrAgainT t₁ a)
    (h : evalIn t₁ a = .ok (.err e aL)) (t₂ : Table) : evalIn t₂ aL = .ok (.err e aL) := by
  obtain ⟨e', he, rfl⟩ := evalIn_err_iff.1 h
  exact evalIn_err_iff.2 ⟨e', hE e' aL he (fun n => t₂.get n), rfl⟩

theorem frontEval_error_again {t₁ : Table} {a aL : Arg} {er : Front.EvalErr} (hE : ErrAgainT t₁ a)
    (h : frontEval t₁ a = .error er aL) (t₂ : Table) : frontEval t₂ aL = .error er aL := by
  obtain ⟨ev, hev, -⟩ := (evalIn_ret t₁ a).get
  simp only [frontEval, hev] at h
  cases ev with
  | err e x =>
    cases e with
    | noSuch n => cases h
    | _ => cases h; simp only [frontEval, evalIn_error_again hE hev t₂]
  | _ => cases h

/-- C08 (instruction statement, first attempt DIAGNOSED)  The first `assemble` over `t₁` ended with the diagnostic `d`
(state `fs1` queued).  If every operand satisfies `ErrAgainT t₁` (needed only when `d` is an evaluation error), the re-run
over ANY table `t₂`, with either `local` flag, ends with the same diagnostic `d` and leaves the state as it is: it never
completes, and the instruction it holds is never encoded in place of the placeholder. -/
theorem stmt_error_again {t₁ : Table} (addr : Nat) (name : Bytes) (args : List Arg)
    (hE : ∀ a ∈ args, ErrAgainT t₁ a) (d : Front.Diag) (fs1 : Front.St)
    (h1 : Front.build addr name args (frontEval t₁) true = .error d fs1) (t₂ : Table) (loc : Bool) :
    Front.assemble fs1 (frontEval t₂) loc = (fs1, .error d) := by
  obtain ⟨t, hm, ha⟩ := Front.build_error_inv h1
  rcases Front.assemble_retry_error (frontEval t₁) true _ fs1 d ha with hfront | ⟨p, a, aL, preL, restL, hmem, hev, hA, hre⟩
  · exact hfront (frontEval t₂) loc
  · -- the diagnostic came out of the evaluation of `a`
    obtain ⟨hdone, ⟨c, _, hr⟩ | ⟨n, _, hr⟩ | ⟨er, hfe, hr⟩⟩ := Front.evalArg_error_inv hev
    · cases hr
    · cases hr
    · cases hr
      have h3 : Front.evalArg (frontEval t₂) loc p fs1.argsDone aL = .error (aL, .error (.evalErr er)) := by
        unfold Front.evalArg
        rw [if_pos hdone, frontEval_error_again (hE a hmem) hfe t₂]
      rw [hre (frontEval t₂) loc aL _ h3, ← hA]

theorem instr_diagnosed (fs : Bytes → Option Bytes) (enc : Encoder) (inc : Inc) (env : Env) (st : St) (tbl : Table)
    (q : List Task) (henv : env.paths ≠ []) (hl : st.locals = some tbl) (hq : st.localTasks = some q)
    (l c : Nat) (name : Bytes) (args : Args) (map : Map.Segs) (seg : Seg.Active) (pending : List (Nat × Nat))
    (hs : st.seg = ⟨map, some seg, pending⟩) (t : Instr) (hm : Front.mnemonic name = some t)
    (fs1 : Front.St) (d : Front.Diag)
    (ha : Front.assemble ⟨seg.cur, t, 0, args.toList⟩ (frontEval tbl) true = (fs1, .error d))
    (ph : Bytes) (he : enc fs1.instr = .ok ph) (hfit : seg.buf.length + ph.length ≤ seg.maxLen) :
    statement fs enc inc env st ⟨l, c, .instruction name args⟩ =
      .ok ({ st with
              errors := ⟨env.curName, l, c, frontKind d⟩ :: st.errors,
              seg := ⟨map, some { seg with buf := seg.buf ++ List.replicate ph.length 0xBE }, (seg.cur, ph.length) :: pending⟩,
              localTasks := some (q ++ [.instr ⟨env.curName, l, c, fs1, true⟩ false]) }, .ok) := by
  have hpaths := paths_nonempty henv
  have hrem : seg.remaining = some (seg.maxLen - seg.buf.length) := by
    simp [Seg.Active.remaining]; omega
  have hle : ph.length ≤ seg.maxLen - seg.buf.length := by omega
  simp only [statement, hs, Option.isNone_some, Bool.false_eq_true, if_false, instruction, currAddr, Option.map_some,
    hm, ArmInstr.assemble, evalTable, hpaths, hl, evalPanics_false, ha, ArmInstr.writeInstr, he, writeStmt, St.pushIn,
    Bool.not_false, Option.isSome_some, Bool.and_self, if_true, segStep, Seg.step, Seg.Active.write, hrem,
    List.length_replicate, hle, ArmInstr.schedule, addTask, hq]

theorem instr_task_diagnosed (enc : Encoder) (env : Env) (st : St) (t₂ : Table) (hT : evalTable env st = .ok t₂)
    (j : ArmInstr) (g : Bool) (fs2 : Front.St) (d : Front.Diag)
    (h : Front.assemble j.st (frontEval t₂) false = (fs2, .error d)) :
    runTask enc env st (.instr j g) = .ok (st.pushIn j.file j.line j.col (frontKind d), .err .trivial) := by
  simp only [runTask, runInstrTask, ArmInstr.assemble, hT, evalPanics_false, Bool.false_eq_true, if_false, h]

/-- C08 (pipeline, instruction DIAGNOSED at its first attempt)  The statement's first `assemble` over `t₁` ended with the
diagnostic `d` and queued `fs1`; every operand has `ErrAgainT t₁`.  Whatever the state and table are when the task runs
(end of the file, or the global round), the task records the diagnostic of the SAME kind `frontKind d` at the statement's
position, returns a trivial error, and leaves the regions — hence the 0xBE placeholder at the statement's address — and
the tables as they are. -/
theorem instr_task_error_again {t₁ : Table} (addr : Nat) (name : Bytes) (args : List Arg)
    (hE : ∀ a ∈ args, ErrAgainT t₁ a) (d : Front.Diag) (fs1 : Front.St)
    (h1 : Front.build addr name args (frontEval t₁) true = .error d fs1)
    (enc : Encoder) (env : Env) (st : St) (t₂ : Table) (hT : evalTable env st = .ok t₂)
    (file : Bytes) (l c : Nat) (placed g : Bool) :
    ∃ st', runTask enc env st (.instr ⟨file, l, c, fs1, placed⟩ g) = .ok (st', .err .trivial) ∧
      st'.errors = ⟨file, l, c, frontKind d⟩ :: st.errors ∧ st'.seg = st.seg ∧
      st'.globals = st.globals ∧ st'.locals = st.locals ∧ st'.localTasks = st.localTasks ∧ st'.globalTasks = st.globalTasks := by
  have h2 := stmt_error_again addr name args hE d fs1 h1 t₂ false
  exact ⟨_, instr_task_diagnosed enc env st t₂ hT ⟨file, l, c, fs1, placed⟩ g fs1 d h2, rfl, rfl, rfl, rfl, rfl, rfl⟩

theorem evalIn_complete_again {t₁ : Table} {a a' : Arg} (h : evalIn t₁ a = .ok (.complete a')) (t₂ : Table) :
    evalIn t₂ a' = .ok (.complete a') := by
  obtain ⟨ev, he, hc⟩ := evalIn_complete_iff.1 h
  exact evalIn_complete_iff.2 ⟨_, Simp.evaluateE_idempotent he hc (fun n => t₂.get n), rfl⟩

/-- C08 (`.du*`, first attempt DIAGNOSED with a trivial error)  The first `apply` (over the table `t₁`) recorded a
diagnostic of kind `k` at the statement's position and left `d'`.  If the operand has `ErrAgainT t₁`, the re-run of `d'`
(with whatever `placed` flag the placeholder write left) over ANY state and table records a diagnostic of the same kind
`k` at the same position, returns a trivial error, and changes nothing else: the value is never written. -/
theorem du_error_again (d : DataExpr) (env₁ : Env) (st₁ : St) (t₁ : Table) (hT₁ : evalTable env₁ st₁ = .ok t₁)
    (hE : ErrAgainT t₁ d.arg) (d' : DataExpr) (st₁' : St)
    (h : d.apply env₁ st₁ true = .ok (d', st₁', .err .trivial)) :
    ∃ k, st₁' = st₁.pushIn d.file d.line d.col k ∧
      ∀ (env₂ : Env) (st₂ : St) (t₂ : Table) (b : Bool), evalTable env₂ st₂ = .ok t₂ →
        ({ d' with placed := b } : DataExpr).apply env₂ st₂ false =
          .ok ({ d' with placed := b }, st₂.pushIn d.file d.line d.col k, .err .trivial) := by
  have hA : ∀ a, evalArg env₁ st₁ a = evalIn t₁ a := fun a => by simp only [evalArg, hT₁]
  rcases apply_trivial h with ⟨e, a', hev⟩ | ⟨a', hev, hbad⟩
  · rw [apply_evalErr d env₁ st₁ true hev] at h
    cases h
    rw [hA] at hev
    exact ⟨_, rfl, fun env₂ st₂ t₂ b hT₂ =>
      apply_evalErr _ env₂ st₂ false (by simp only [evalArg, hT₂]; exact evalIn_error_again hE hev t₂)⟩
  · rw [apply_bad d env₁ st₁ true a' hev hbad] at h
    cases h
    rw [hA] at hev
    exact ⟨_, rfl, fun env₂ st₂ t₂ b hT₂ =>
      apply_bad _ env₂ st₂ false a' (by simp only [evalArg, hT₂]; exact evalIn_complete_again hev t₂) hbad⟩

theorem du_task_error_again (d : DataExpr) (env₁ : Env) (st₁ : St) (t₁ : Table) (hT₁ : evalTable env₁ st₁ = .ok t₁)
    (hE : ErrAgainT t₁ d.arg) (d' : DataExpr) (st₁' : St)
    (h : d.apply env₁ st₁ true = .ok (d', st₁', .err .trivial)) :
    ∃ k, st₁'.errors = ⟨d.file, d.line, d.col, k⟩ :: st₁.errors ∧
      ∀ (enc : Encoder) (env₂ : Env) (st₂ : St) (t₂ : Table) (b g : Bool), evalTable env₂ st₂ = .ok t₂ →
        ∃ st', runTask enc env₂ st₂ (.data { d' with placed := b } g) = .ok (st', .err .trivial) ∧
          st'.errors = ⟨d.file, d.line, d.col, k⟩ :: st₂.errors ∧ st'.seg = st₂.seg ∧
          st'.globals = st₂.globals ∧ st'.locals = st₂.locals ∧ st'.localTasks = st₂.localTasks ∧
          st'.globalTasks = st₂.globalTasks := by
  obtain ⟨k, h1, h2⟩ := du_error_again d env₁ st₁ t₁ hT₁ hE d' st₁' h
  refine ⟨k, by rw [h1]; rfl, fun enc env₂ st₂ t₂ b g hT₂ => ?_⟩
  refine ⟨st₂.pushIn d.file d.line d.col k, ?_, rfl, rfl, rfl, rfl, rfl, rfl⟩
  simp only [runTask, runDataTask, h2 env₂ st₂ t₂ b hT₂]

/-! ## tables without Deferred names (up to `MergeNeut`) -/

/-- over a table without Deferred names every operand has `ErrAgainT`, unless its evaluation fails inside the deep
`neutralize` that follows a constant merge (`Simp.MergeNeut`; no such failure changes on re-evaluation in 12.6M searched
cases, but it is not proved) -/
theorem errAgainT_nodef_partial {t : Table} (hn : Table.NoDef t) (a : Arg) :
    ErrAgainT t a ∨
    ∃ e t', Simp.evaluateE (fun n => t.get n) Front.isRegister a = .err e t' ∧ Simp.MergeNeut Front.isRegister e := by
  cases h : Simp.evaluateE (fun n => t.get n) Front.isRegister a with
  | err e t' =>
    rcases Simp.evaluateE_error_again_partial (Table.nodef_get hn) h with ok | mn
    · left; intro e2 t2 h2 lk₂
      rw [h] at h2
      simp only [Simp.EvE.err.injEq] at h2
      obtain ⟨rfl, rfl⟩ := h2
      exact ok lk₂
    · exact .inr ⟨e, t', rfl, mn⟩
  | _ => exact .inl fun e2 t2 h2 => by rw [h] at h2; cases h2

/-- C08 (instruction statement DIAGNOSED at its first attempt, table without Deferred names, `_partial`)  The re-run over
ANY table ends with the same diagnostic and the same state — never completes — unless the evaluation of one operand failed
inside the deep `neutralize` after a constant merge. -/
theorem stmt_error_again_nodef_partial {t₁ : Table} (hn : Table.NoDef t₁) (addr : Nat) (name : Bytes) (args : List Arg)
    (d : Front.Diag) (fs1 : Front.St)
    (h1 : Front.build addr name args (frontEval t₁) true = .error d fs1) (t₂ : Table) (loc : Bool) :
    Front.assemble fs1 (frontEval t₂) loc = (fs1, .error d) ∨
    ∃ a ∈ args, ∃ e t', Simp.evaluateE (fun n => t₁.get n) Front.isRegister a = .err e t' ∧
      Simp.MergeNeut Front.isRegister e := by
  by_cases hall : ∀ a ∈ args, ErrAgainT t₁ a
  · exact .inl (stmt_error_again addr name args hall d fs1 h1 t₂ loc)
  · right
    have : ∃ a, a ∈ args ∧ ¬ ErrAgainT t₁ a := by
      apply Classical.byContradiction
      intro hne
      exact hall fun a ha => Classical.byContradiction fun hna => hne ⟨a, ha, hna⟩
    obtain ⟨a, ha, hna⟩ := this
    rcases errAgainT_nodef_partial hn a with h | h
    · exact absurd h hna
    · exact ⟨a, ha, h⟩

def exDiv : Bytes := bytesOf ".addr 0x20000000;\n.du8 1/0;\n"
def exFar : Bytes := bytesOf ".addr 0x20000000;\nB 5000;\n"
def exMix : Bytes := bytesOf ".addr 0x20000000;\nLDR r0, [r1 + 1/0];\n"

/-- `.du8 1/0`: diagnosed at the statement and again by its task; the placeholder stays -/
theorem du_div_zero_twice : exSummary (run (exOrdFs exDiv) [109]) = some (false, 2, [(536870912, [190])]) := by
  decide +kernel

/-- `B 5000` at 0x20000000 (front-end range diagnostic): twice, the placeholder stays -/
theorem branch_far_twice : exSummary (run (exOrdFs exFar) [109]) = some (false, 2, [(536870912, [190, 190])]) := by
  decide +kernel

/-- an evaluation error inside a register-mixed operand: twice, the placeholder stays -/
theorem mixed_div_zero_twice : exSummary (run (exOrdFs exMix) [109]) = some (false, 2, [(536870912, [190, 190])]) := by
  decide +kernel

def exK7 : Bytes :=
  bytesOf ".global x;\n.addr 0x20000000;\n.du32 (x - 9223372036854775807 - 1) + 9223372036854775807;\n.const x, 2;\n"
def exK7above : Bytes :=
  bytesOf ".global x;\n.addr 0x20000000;\n.const x, 2;\n.du32 (x - 9223372036854775807 - 1) + 9223372036854775807;\n"

/-- K7 in props/C08.json: with a `.global`-declared name in the operand the first attempt fails (the simplifier merges `MAX` and `1`
around the deferred `x`: overflow), the diagnostic is recorded — ONE diagnostic —, and the re-run with `x = 2` known
succeeds and writes `01 00 00 00` over the placeholder.  The run is a failure.  (`trias` prints the error once and writes no
UF2.) -/
theorem error_then_success : exSummary (run (exOrdFs exK7) [109]) = some (false, 1, [(536870912, [1, 0, 0, 0])]) := by
  decide +kernel

/-- the same statement with the definition above it assembles -/
theorem error_then_success_above : exSummary (run (exOrdFs exK7above) [109]) = some (true, 0, [(536870912, [1, 0, 0, 0])]) := by
  decide +kernel

end Trion.Asm
