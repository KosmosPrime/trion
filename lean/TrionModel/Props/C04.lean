import TrionModel.Lemmas.FrontTargets
import TrionModel.Lemmas.FrontReject
import TrionModel.Lemmas.ShowAsm
import TrionModel.Lemmas.FrontWf
import TrionModel.Lemmas.C04Asm
import TrionModel.Props.C02
import TrionModel.Props.C01
/-!
# C04 — an instruction statement assembles to the encoding of what was written

Model: `Front.build` = `ArmInstr::new` + `ArmInstr::assemble` of `src/arm6m/mod.rs`, parametric in the
expression evaluator `eval` (C07/C08) and followed by `Instruction::encode` (C01/C02). Statements are
mnemonic + argument trees; text → trees is C09–C11.
-/
namespace Trion.Front
open Trion.Show

/-- C04.a  `i32::try_from(i64)` succeeds exactly on the `i32` range and returns the value unchanged
(never a wrapped or truncated one); likewise `u32`, `u16`, `u8`. -/
theorem narrow_exact_i32 (v w : Int) : narrowI32 v = some w ↔ (-2147483648 ≤ v ∧ v ≤ 2147483647 ∧ w = v) :=
  narrow_iff
theorem narrow_exact_u32 (v w : Int) : narrowU32 v = some w ↔ (0 ≤ v ∧ v ≤ 4294967295 ∧ w = v) :=
  narrow_iff
theorem narrow_exact_u16 (v w : Int) : narrowU16 v = some w ↔ (0 ≤ v ∧ v ≤ 65535 ∧ w = v) :=
  narrow_iff
theorem narrow_exact_u8 (v w : Int) : narrowU8 v = some w ↔ (0 ≤ v ∧ v ≤ 255 ∧ w = v) :=
  narrow_iff

example : narrowU8 255 = some 255 ∧ narrowU8 256 = none ∧ narrowI32 (-2147483649) = none := by decide

/-- C04.b  A name denotes register `r` iff its ASCII-upper-case form is one of `r`'s documented names. -/
theorem reg_names (s : Bytes) (r : Reg) : regl s = some r ↔ upper s ∈ names r := by
  unfold regl names
  constructor
  · intro h
    split at h
    · have := mem_of_lookup_some _ _ _ h
      exact List.mem_map.mpr ⟨(upper s, r), List.mem_filter.mpr ⟨this, by simp⟩, rfl⟩
    · cases h
  · intro h
    obtain ⟨p, hp, hk⟩ := List.mem_map.mp h
    obtain ⟨hp1, hv⟩ := List.mem_filter.mp hp
    have hlen : s.length ≤ 4 := by
      have := regTable_len p hp1
      rw [hk] at this
      simpa [upper] using this
    rw [if_pos hlen]
    apply lookup_some_of_mem _ _ _ regTable_nodup
    obtain ⟨k, v⟩ := p
    simp at hv hk
    subst hv; subst hk
    exact hp1

example : names 13 = [bytesOf "R13", bytesOf "SP"] ∧ names 15 = [bytesOf "R15", bytesOf "PC"] ∧ names 3 = [bytesOf "R3"] := by decide
example : regl (bytesOf "lR") = some 14 ∧ regl (bytesOf "R16") = none := by decide

/-- C04.b'  Letter case is irrelevant for register, system-register and mnemonic lookup. -/
theorem names_any_case (s : Bytes) :
    regl (upper s) = regl s ∧ sysl (upper s) = sysl s ∧ mnemonic (upper s) = mnemonic s ∧ isRegister (upper s) = isRegister s :=
  ⟨regl_upper s, sysl_upper s, mnemonic_upper s, isRegister_upper s⟩

/-- C04.c  `B<c> target` at `a`: accepted iff the target is a `u32` and `target − (a + 4)` (`pcOf a`, not wrapped) is within
the range of the condition and even; the offset stored is exactly that difference. -/
theorem b_target (a : Nat) (name : Bytes) (c : Cond) (x : Arg) (tgt : Int) (eval : Arg → EvalOut) (loc : Bool) (off : Int)
    (hm : mnemonic name = some (.b c 0)) (he : eval x = .complete (.const tgt)) :
    build a name [x] eval loc = .completed (.b c off) ↔
      (0 ≤ tgt ∧ tgt ≤ 4294967295) ∧ off = tgt - (pcOf a : Nat) ∧ bLo c ≤ off ∧ off ≤ bHi c ∧ off % 2 = 0 := by
  rw [branch_target (f := .b c) (lo := bLo c) (hi := bHi c) hm rfl (fun _ => rfl)
    (fun w n => by by_cases hc : c.val = 14 <;> simp only [finish, bLo, bHi, hc, if_true, if_false] <;> rfl) he]
  constructor
  · rintro ⟨hr, o, h, ho⟩; cases ho; exact ⟨hr, h⟩
  · rintro ⟨hr, h⟩; exact ⟨hr, off, h, rfl⟩

/-- C04.c'  `BL target`. -/
theorem bl_target (a : Nat) (name : Bytes) (x : Arg) (tgt : Int) (eval : Arg → EvalOut) (loc : Bool) (off : Int)
    (hm : mnemonic name = some (.bl 0)) (he : eval x = .complete (.const tgt)) :
    build a name [x] eval loc = .completed (.bl off) ↔
      (0 ≤ tgt ∧ tgt ≤ 4294967295) ∧ off = tgt - (pcOf a : Nat) ∧ -16777216 ≤ off ∧ off ≤ 16777215 ∧ off % 2 = 0 := by
  rw [branch_target (f := .bl) hm rfl (fun _ => rfl) (fun w n => rfl) he]
  constructor
  · rintro ⟨hr, o, h, ho⟩; cases ho; exact ⟨hr, h⟩
  · rintro ⟨hr, h⟩; exact ⟨hr, off, h, rfl⟩

/-- C04.d  `ADR Rd, target`: the offset stored is `target − ((a & ~3) + 4)` (`alPc a`, not wrapped), accepted iff it is in
`0 … 1020` and a multiple of 4. -/
theorem adr_target (a : Nat) (name s : Bytes) (d d' : Reg) (x : Arg) (tgt : Int) (eval : Arg → EvalOut) (loc : Bool) (off : Int)
    (hm : mnemonic name = some (.adr 0 0)) (hs : regl s = some d) (he : eval x = .complete (.const tgt)) :
    build a name [.ident s, x] eval loc = .completed (.adr d' off) ↔
      d' = d ∧ (0 ≤ tgt ∧ tgt ≤ 4294967295) ∧ off = tgt - (alPc a : Nat) ∧ 0 ≤ off ∧ off ≤ 1020 ∧ off % 4 = 0 := by
  rw [literal_target (f := .adr d) hm rfl (.inl rfl) rfl (fun _ => rfl) (fun w n => rfl) hs he]
  constructor
  · rintro ⟨hr, o, h, ho⟩; cases ho; exact ⟨rfl, hr, h⟩
  · rintro ⟨rfl, hr, h⟩; exact ⟨hr, off, h, rfl⟩

/-- C04.d'  `LDR Rd, target` (literal): base register PC and the same offset rule. -/
theorem ldr_target (a : Nat) (name s : Bytes) (d d' ad : Reg) (x : Arg) (tgt : Int) (eval : Arg → EvalOut) (loc : Bool) (o : ImmReg)
    (hm : mnemonic name = some (.ldr 0 0 (.imm 0))) (hs : regl s = some d) (he : eval x = .complete (.const tgt)) :
    build a name [.ident s, x] eval loc = .completed (.ldr d' ad o) ↔
      d' = d ∧ ad = Reg.pc ∧ (0 ≤ tgt ∧ tgt ≤ 4294967295) ∧
        ∃ off, o = .imm off ∧ off = tgt - (alPc a : Nat) ∧ 0 ≤ off ∧ off ≤ 1020 ∧ off % 4 = 0 := by
  rw [literal_target (f := fun o => .ldr d Reg.pc (.imm o)) hm rfl (.inr rfl) rfl (fun _ => rfl) (fun w n => rfl) hs he]
  constructor
  · rintro ⟨hr, off, h, ho⟩; cases ho; exact ⟨rfl, rfl, hr, off, rfl, h⟩
  · rintro ⟨rfl, rfl, hr, off, rfl, h⟩; exact ⟨hr, off, h, rfl⟩

/-- non-vacuity: the four templates exist, and `BEQ` at 0x20000000 to 0x1FFFFF04 stores −256 -/
example : mnemonic (bytesOf "beq") = some (.b 0 0) ∧ mnemonic (bytesOf "Adr") = some (.adr 0 0) ∧
    mnemonic (bytesOf "LDR") = some (.ldr 0 0 (.imm 0)) ∧ mnemonic (bytesOf "bl") = some (.bl 0) := by decide
example : build 0x20000000 (bytesOf "BEQ") [.const 0x1FFFFF04] (fun a => .complete a) true = .completed (.b 0 (-256)) := by
  have hm : mnemonic (bytesOf "BEQ") = some (.b 0 0) := by decide
  exact (b_target 0x20000000 _ 0 _ 0x1FFFFF04 _ true (-256) hm rfl).mpr (by simp [pcOf, bLo, bHi])

/-- at the top of the address space a backward branch is accepted (offset −16 from 0xFFFFFFFC + 4 = 2^32) and
`ADR R0, 8` is refused (8 is not "after" 2^32) -/
example : build 0xFFFFFFFC (bytesOf "B") [.const 0xFFFFFFF0] (fun a => .complete a) true = .completed (.b 14 (-16)) := by
  have hm : mnemonic (bytesOf "B") = some (.b 14 0) := by decide
  exact (b_target 0xFFFFFFFC _ 14 _ 0xFFFFFFF0 _ true (-16) hm rfl).mpr (by simp [pcOf, bLo, bHi]; decide)
example (d : Reg) (off : Int) :
    build 0xFFFFFFFC (bytesOf "ADR") [.ident (bytesOf "R0"), .const 8] (fun a => .complete a) true ≠ .completed (.adr d off) := by
  have hm : mnemonic (bytesOf "ADR") = some (.adr 0 0) := by decide
  have hs : regl (bytesOf "R0") = some 0 := by decide
  intro h
  have := (adr_target 0xFFFFFFFC _ _ 0 d _ 8 _ true off hm hs rfl).mp h
  simp [alPc] at this
  omega

/-- C04.e  A wrong operand count is a diagnostic (`TooManyArguments` / `NotEnoughArguments`), whatever the
operands are; the instruction is left at its template. -/
theorem arity_rejected (a : Nat) (name : Bytes) (args : List Arg) (eval : Arg → EvalOut) (loc : Bool) (t : Instr)
    (hm : mnemonic name = some t) (h : args.length ≠ (kinds t).length) :
    build a name args eval loc =
      .error (if args.length > (kinds t).length then .tooMany (kinds t).length args.length
              else .notEnough (kinds t).length args.length)
        { addr := a, instr := t, argsDone := 0, args := args } :=
  arity_rejected_proof a name args eval loc t hm h

/-- C04.e'  A getter yields a value only from an (evaluated) argument of a kind it accepts; any other kind ends
`assemble` with a diagnostic or a deferral — never with a value. -/
theorem kind_rejected {k : Kind} {eval : Arg → EvalOut} {loc : Bool} {pos done : Nat} {a a' : Arg} {d : Nat} {v : Val}
    (h : get k eval loc pos done a = .ok v a' d) : a'.ty ∈ accepts k := by
  cases (get_ok h).1 with
  | addr hk | off hk => rcases hk with rfl | rfl <;> simp [accepts, Arg.ty]
  | _ => simp [accepts, Arg.ty]

example : get .register (fun a => .complete a) true 0 0 (.const 5) = .stop (.const 5) 0 (.error (.argType 0 [.ident] .const)) := by
  simp [get, Arg.ty]

/-- C04.e''  Whatever the operands and the evaluator: an instruction that `build` completes has every field
inside the range of its Rust type (`i32` immediates and offsets, `u16` ADR offset / UDF.W payload, `u8`
BKPT/SVC/UDF payload) — an operand outside its type's range has produced a diagnostic, never a wrapped or
truncated field. (Encodability of the in-type value is then the encoder's decision, C01.) -/
theorem build_wf (a : Nat) (name : Bytes) (args : List Arg) (eval : Arg → EvalOut) (loc : Bool) (i : Instr)
    (h : build a name args eval loc = .completed i) : i.wf :=
  build_wf_proof a name args eval loc i h

/-- C04.f  `assemble` never reaches the `self.args[arg_pos]` index panic (the only panic site of the function). -/
theorem assemble_no_panic (st : St) (eval : Arg → EvalOut) (loc : Bool) : (assemble st eval loc).2 ≠ .panic :=
  assemble_no_panic_proof st eval loc

/-- C04.g  `[R + k]` and `[k + R]` denote the same address operand. -/
theorem addr_order (idx : Nat) (r : Bytes) (k : Int) :
    addrOff idx (.bin .add (.ident r) (.const k)) = addrOff idx (.bin .add (.const k) (.ident r)) := by
  simp [addrOff]

/-- C04.h  The canonical spelling of every (printable) instruction assembles to that instruction. -/
theorem front_canonical (i : Instr) (a : Nat) (eval : Arg → EvalOut) (loc : Bool)
    (hp : Printable i a) (he : EvalOK eval i a) :
    build a (parts i a).1 (parts i a).2 eval loc = .completed i :=
  show_assembles_proof i a eval loc hp he

/-- C04.i  Composition with the codec, against ANY encoder/decoder pair that has the soundness property of
C01/C02 (`encode i = ok hws → decode hws = some i`): the bytes emitted for an accepted statement decode to
exactly the instruction the front end built (whose operands are characterised by the theorems above). -/
theorem front_then_enc {Hws Err : Type} (encode : Instr → Except Err Hws) (decode : Hws → Option Instr)
    (sound : ∀ i hws, encode i = .ok hws → decode hws = some i)
    (a : Nat) (name : Bytes) (args : List Arg) (eval : Arg → EvalOut) (loc : Bool) (i : Instr) (hws : Hws)
    (hb : build a name args eval loc = .completed i) (he : encode i = .ok hws) :
    decode hws = some i ∧ ∃ t, mnemonic name = some t ∧ args.length = (kinds t).length := by
  refine ⟨sound i hws he, ?_⟩
  cases hm : mnemonic name with
  | none => simp [build, hm] at hb
  | some t =>
    refine ⟨t, rfl, ?_⟩
    by_cases hl : args.length = (kinds t).length
    · exact hl
    · rw [arity_rejected_proof a name args eval loc t hm hl] at hb; cases hb

/-- C04.j  **Concrete end to end**: composition with the codec model of C01–C03 (`Codec.encode`, `Codec.toBytes`,
`Codec.decode`). Whenever the front end completes a statement and the encoder accepts the instruction, the
emitted bytes — followed by anything — decode to exactly the instruction the front end built, consuming exactly
the emitted bytes; the instruction's operands are the ones written (`b_target` … `ldr_target`, `reg_names`,
`narrow_exact_*`, `build_wf`), the mnemonic is in the table and the operand count is the mnemonic's.
(`front_then_arm` below states the same against the specification table `Arm.decode`.) -/
theorem front_then_codec (a : Nat) (name : Bytes) (args : List Arg) (eval : Arg → EvalOut) (loc : Bool) (i : Instr)
    (hws rest : List Nat) (hb : build a name args eval loc = .completed i) (he : Codec.encode i = .ok hws) :
    Codec.decode (Codec.toBytes hws ++ rest) = .ok (2 * hws.length, i) ∧ i.wf ∧
      ∃ t, mnemonic name = some t ∧ args.length = (kinds t).length := by
  have wf := build_wf a name args eval loc i hb
  refine ⟨Codec.dec_enc i hws rest he wf, wf, ?_⟩
  exact (front_then_enc (fun j => if j = i then (Except.ok hws : Except Unit (List Nat)) else .error ())
    (fun _ => some i) (by intro j w h; split at h <;> simp_all) a name args eval loc i hws hb (by simp)).2

/-- the canonical spelling of every decoded instruction goes through the whole chain: printed operands → front
end → encoder → decoder gives the instruction back -/
theorem canonical_then_codec (i : Instr) (a : Nat) (eval : Arg → EvalOut) (loc : Bool)
    (hp : Printable i a) (hev : EvalOK eval i a) (hws : List Nat) (he : Codec.encode i = .ok hws) :
    build a (parts i a).1 (parts i a).2 eval loc = .completed i ∧
      Codec.decode (Codec.toBytes hws) = .ok (2 * hws.length, i) := by
  have hb := front_canonical i a eval loc hp hev
  have := (front_then_codec a _ _ eval loc i hws [] hb he).1
  rw [List.append_nil] at this
  exact ⟨hb, this⟩

/-- C04.k  **Against the architecture table**: composition with C01 `enc_sound`. Whenever the front end completes
a statement to `i` and the encoder accepts `i`, the halfwords placed are — in the ARMv6-M encoding table
`Arm.table` / `Arm.decode` of `Spec/Arm.lean`, which shares no code with the encoder or decoder model — the
encoding of exactly `i`: that mnemonic with exactly those operand values (which `b_target` … `ldr_target`,
`reg_names`, `narrow_exact_*` tie to what was written). The emitted bytes are one or two little-endian halfwords
below 2^16, two exactly when the first halfword lies in the 32-bit space, and the decoder model reads them back. -/
theorem front_then_arm (a : Nat) (name : Bytes) (args : List Arg) (eval : Arg → EvalOut) (loc : Bool) (i : Instr)
    (hws : List Nat) (hb : build a name args eval loc = .completed i) (he : Codec.encode i = .ok hws) :
    Arm.decode hws = some i ∧ i.wf ∧ (hws.length = 1 ∨ hws.length = 2) ∧ (∀ w ∈ hws, w < 65536) ∧
      (∀ w0 ∈ hws.head?, (hws.length = 2 ↔ Arm.wide w0 = true)) ∧
      (∀ rest, Codec.decode (Codec.toBytes hws ++ rest) = .ok (2 * hws.length, i)) ∧
      ∃ t, mnemonic name = some t ∧ args.length = (kinds t).length := by
  have wf := build_wf a name args eval loc i hb
  have hl := Codec.enc_len i hws he wf
  exact ⟨Codec.enc_sound i hws he wf, wf, hl.1, hl.2.1, hl.2.2,
    fun rest => (front_then_codec a name args eval loc i hws rest hb he).1,
    (front_then_codec a name args eval loc i hws [] hb he).2.2⟩

/-- C04.k'  The canonical spelling (`Show.parts`, what the disassembler prints) of every printable instruction the
encoder accepts assembles to halfwords that the architecture table reads as that instruction. -/
theorem canonical_then_arm (i : Instr) (a : Nat) (eval : Arg → EvalOut) (loc : Bool)
    (hp : Printable i a) (hev : EvalOK eval i a) (hws : List Nat) (he : Codec.encode i = .ok hws) :
    build a (parts i a).1 (parts i a).2 eval loc = .completed i ∧ Arm.decode hws = some i :=
  ⟨front_canonical i a eval loc hp hev,
   (front_then_arm a _ _ eval loc i hws (front_canonical i a eval loc hp hev) he).1⟩

/-- C04.k''  Conversely nothing encodable is lost between front end and table: if the table has an encoding of the
instruction the front end built, the encoder accepts it and emits an encoding of it (C01 `enc_complete`). -/
theorem front_arm_complete (a : Nat) (name : Bytes) (args : List Arg) (eval : Arg → EvalOut) (loc : Bool) (i : Instr)
    (hws : List Nat) (_hb : build a name args eval loc = .completed i) (hd : Arm.decode hws = some i) :
    ∃ hws', Codec.encode i = .ok hws' ∧ Arm.decode hws' = some i := Codec.enc_complete i hws hd

/-- non-vacuity: `ADDS R1, R2, 5` at 0 with the identity evaluator -/
example : build 0 (bytesOf "ADDS") [.ident (bytesOf "R1"), .ident (bytesOf "R2"), .const 5] (fun x => .complete x) false =
      .completed (.add true 1 2 (.imm 5)) ∧
    Codec.encode (.add true 1 2 (.imm 5)) = .ok [0x1D51] ∧ Arm.decode [0x1D51] = some (.add true 1 2 (.imm 5)) :=
  ⟨rfl, rfl, (front_then_arm 0 (bytesOf "ADDS") [.ident (bytesOf "R1"), .ident (bytesOf "R2"), .const 5]
    (fun x => .complete x) false _ _ rfl rfl).1⟩

/-- non-vacuity: the same statement, its bytes read back by the decoder model -/
example : build 0 (bytesOf "ADDS") [.ident (bytesOf "R1"), .ident (bytesOf "R2"), .const 5] (fun x => .complete x) false =
      .completed (.add true 1 2 (.imm 5)) ∧
    Codec.encode (.add true 1 2 (.imm 5)) = .ok [0x1D51] ∧ Codec.decode (Codec.toBytes [0x1D51]) = .ok (2, .add true 1 2 (.imm 5)) := by
  refine ⟨rfl, rfl, rfl⟩

end Trion.Front
