import TrionModel.Props.C19
import TrionModel.Lemmas.ShowProg
/-!
# C19 (pipeline clause, forward reference) — the disassembly text assembles back when its label is defined LATER

`Props/C19.lean` `show_run` runs `Asm.run` on `.addr a; .const l_X, t; <text>` (label known before use).  Here the
label is defined AFTER the statement: `progTextFwd i a t` = `.addr <a>;` ⏎ `<Show.text i a>` ⏎ `.const l_XXXXXXXX, <t>;`.
The statement takes the DEFERRED path of the assembler: the first pass stops at the unknown label
(`Show.show_defers`), the statement is placed as a 0xBE placeholder of the final length and queued
(`Asm.instr_deferred`, `Show.encode_pre`), the definition is processed, and at the end of the file the task re-runs
`Front.assemble` over the complete table (`Show.show_retry`) and `write_at` replaces the placeholder with the final
bytes (`Asm.instr_task_active`).
-/
namespace Trion.Show
open Trion Trion.Front

/-- C19.m  **Forward reference through the whole pipeline model.** For bytes that decode to an instruction `i` whose
text mentions a label (`targetOf i a = some t`: `ADR`, `B<cond>`, `BL`, literal `LDR`), an address `a` at which the
target lies inside the address space and `a + n ≤ 2^32`: `Asm.run` on the program that defines the label AFTER the
statement succeeds, records no diagnostic, and its image is exactly the canonical encoding of `i` at `a` — no
placeholder byte survives. -/
theorem show_run_forward (bs : List Nat) (hb : Codec.IsBytes bs) (n : Nat) (i : Instr)
    (h : Codec.decode bs = .ok (n, i)) (a t : Nat) (htgt : targetOf i a = some t) (ht : targetInRange i a)
    (hfit : a + n ≤ 4294967296)
    (fs : Bytes → Option Bytes) (main : Bytes) (hfs : fs main = some (progTextFwd i a t)) :
    ∃ hws, Codec.encode i = .ok hws ∧ 2 * hws.length = n ∧ Codec.decode (Codec.toBytes hws) = .ok (n, i) ∧
      Arm.decode hws = some i ∧
      Asm.run fs main = .done ⟨true, none, true, [], [(a, (Codec.toBytes hws).map (·.toUInt8))]⟩ := by
  obtain ⟨wf, hws0, he0⟩ := Codec.decode_wf bs hb n i h
  obtain ⟨hws, he, hn, hd⟩ := Codec.dec_canon bs hb n i h
  have hlen := (Codec.enc_len i hws he wf).1
  have hp : Printable i a := printable_of_encode i a hws0 he0 wf ht
  have hev : EvalOK (Asm.frontEval [(label t, some (t : Int))]) i a := by
    refine evalOK_frontEval _ i a hws0 he0 wf (fun t' ht' => ?_)
    rw [htgt] at ht'
    cases ht'
    simp [Asm.Table.get, Asm.Table.find]
  exact ⟨hws, he, hn, hd, Codec.enc_sound i hws he wf,
    run_progFwd i a t htgt (decoded_litOk bs hb n i h) hws he hlen (by omega) hp hev fs main hfs⟩

/-- non-vacuity: `BNE` forward, `0x01 0xD1` at 0x20000000 with target 0x20000006 -/
example : Codec.decode [0x01, 0xD1] = .ok (2, .b 1 2) ∧ targetOf (.b 1 2) 0x20000000 = some 0x20000006 ∧
    targetInRange (.b 1 2) 0x20000000 := by
  refine ⟨rfl, rfl, ?_⟩
  simp [targetInRange, Front.pcOf]
example : progTextFwd (.b 1 2) 0x20000000 0x20000006 =
    bytesOf ".addr 536870912;\nBNE l_20000006;\n.const l_20000006, 536870918;" := by decide

end Trion.Show
