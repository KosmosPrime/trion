import TrionModel.Lemmas.AsmHist
import TrionModel.Lemmas.AsmEnc
import TrionModel.Props.C05
import TrionModel.Lemmas.AsmRefineRun
/-!
# C05 (pipeline clause) — the image of the whole pipeline is an image of the layout core

Models: `Trion.Asm.run` (the whole `Context` pipeline, Model/Asm.lean), `Trion.Seg` (the region machine over the
`MemoryMap` model that `Asm.run` drives, C13) and `Trion.Layout` (the layout core of C05, whose `run` is proved
to refine the two-pass reference `Ref.layout` — `Layout.layout_refines`).

Region level: under the region invariant every region operation of `Seg` that does not end in a diagnostic (`.addr`, an
append, the padding of `.align`, the first write of a statement, the rewrite of a placed statement, `close_segment`) is
matched by the operation of the layout core, which succeeds too and leaves the same closed image and the same active
region (`SegLayout.step_sim`, Lemmas/AsmLayout.lean).  The regions of a successful run — ANY project: includes,
`.global`, forward references — are reached from the empty regions by a history of such operations
(`run_history`, Lemmas/AsmHist.lean).  Hence `image_is_layout_core`.

Program level (`layout_of_run`; `layout_refines_asm` here and `layout_refines_asm_full` of Props/C05AsmFull.lean are its
instances): `abstract` (Lemmas/AsmAbs.lean, whose header says what each statement becomes) turns the parsed statements into
`Layout.Stmt`s given the file's FINAL symbol table `t₂` and the reference cursor.  The last
clause of the theorem closes the loop: `t₂` is, name by name, the symbol table `Ref.pass1` computes for that very program.
One statement of `Asm` is one `Layout.step` on its abstraction, the local queue of `Asm` and the task list of the layout
core related entry by entry (`statement_sim_fate`, Lemmas/AsmMultiStmt.lean; `run_sim`, Lemmas/AsmRefineRun.lean); a retried
statement gives the bytes over `t₂` by `Front.assemble_retry` (Lemmas/FrontRetry.lean) / `Asm.data_retry_all`
(Lemmas/AsmRetrySim.lean; property level: Props/C08Asm.lean).
`SingleFile` asks for `okEl` and for `plain` operand trees; no proof uses the second conjunct (`evaluate` is idempotent on
its own output, F29 and F30 in DESIGN.md §11, so the retry theorem holds for every tree); `SingleFileFull` of
Props/C05AsmFull.lean is `SingleFile` without it.
`NoLabelAtTop` is needed for `Ref.layout` (pass 1) only, exactly as in `Layout.ref_defined`.
-/
namespace Trion.Asm
open Trion Trion.SegLayout

/-- C05 (pipeline, region level)  The image of every successful run of the whole pipeline is the closed image the
layout core computes by replaying the run's region operations: there is a history `tr` of legal region
operations from the empty regions, none ending in a diagnostic, whose replay on `Layout` (`lfold`) succeeds and
yields, address by address, the output image. -/
theorem image_is_layout_core (fs : Bytes → Option Bytes) (main : Bytes) (o : Outcome) (h : run fs main = .done o)
    (hs : o.success = true) :
    ∃ (tr : List (Seg.Op × Seg.Out)) (l : Layout.State), diags tr = 0 ∧ lfold {} tr = .ok l ∧
      ∀ a, l.closed.get a = Map.abs o.image a := by
  obtain ⟨tr, s', hp, hd, hm⟩ := run_history encoder_len fs main o h hs
  have r0 : R Seg.init ({} : Layout.State) := ⟨fun _ => rfl, rfl⟩
  obtain ⟨l, hl, r, _, _⟩ := path_sim hp hd r0
  exact ⟨tr, l, hd, hl, fun a => by rw [← hm]; exact (r.1 a).symm⟩

theorem lstep_is_step (l : Layout.State) :
    (∀ a, lstep l (.select a) = Layout.step l (.addr a)) ∧ (∀ d, lstep l (.append d) = Layout.step l (.raw d)) ∧
    (∀ d, lstep l (.place d) = Layout.step l (.raw d)) := ⟨fun _ => rfl, fun _ => rfl, fun _ => rfl⟩

-- non-vacuity: a history with a region switch replays on the layout core
example : lfold {} [(.select 4, .ok), (.append [1, 2], .ok), (.select 0, .ok), (.append [9], .ok), (.close, .ok)] =
    .ok { closed := [(0, 9), (4, 1), (5, 2)], active := none } := rfl

def SingleFile (els : List Element) : Prop := ∀ el ∈ els, okEl el = true ∧ plainEl el = true

theorem abstract_wf (num : Bytes → Nat) (fs : Bytes → Option Bytes) (path : Bytes) (t : Table) :
    ∀ (els : List Element) (c : Option Nat), ∀ s ∈ abstract num fs encoder path t c els, s.wf = true := by
  intro els
  induction els with
  | nil => intro c s hs; simp [abstract] at hs
  | cons el els ih =>
    intro c s hs
    simp only [abstract, List.mem_cons] at hs
    rcases hs with rfl | hs
    · exact absStmt_wf encoder_len ..
    · exact ih _ s hs

theorem layout_of_run {num : Bytes → Nat} (hinj : Function.Injective num) (fs : Bytes → Option Bytes) (main data : Bytes)
    (hfs : fs main = some data) (els : List Element) (perr : Option ParseErr) (hparse : parseFile data = .ok (els, perr))
    (hok : ∀ el ∈ els, okEl el = true) (o : Outcome) (h : run fs main = .done o) (hs : o.success = true) :
    ∃ t₂ : Table,
      (∀ s ∈ abstract num fs encoder main t₂ none els, s.wf = true) ∧
      (∃ img, Layout.run (abstract num fs encoder main t₂ none els) = .ok img ∧ ∀ a, Map.abs o.image a = img.get a) ∧
      (∃ img', Layout.Ref.pass2 none [] (abstract num fs encoder main t₂ none els) = some img' ∧
        ∀ a, Map.abs o.image a = img'.get a) ∧
      (Layout.NoLabelAtTop (abstract num fs encoder main t₂ none els) →
        ∃ img'' env, Layout.Ref.layout (abstract num fs encoder main t₂ none els) = some img'' ∧
          (∀ a, Map.abs o.image a = img''.get a) ∧
          Layout.Ref.pass1 none [] (abstract num fs encoder main t₂ none els) = some env ∧ EnvRel num t₂ env) := by
  obtain ⟨t₂, img, lst, _, hsteps, henvr, hrun, himg⟩ := run_sim hinj fs main data hfs els perr hparse hok o h hs
  have hwf := abstract_wf num fs main t₂ els none
  refine ⟨t₂, hwf, ⟨img, hrun, himg⟩, ?_, fun hl => ?_⟩
  · obtain ⟨img', p1, p2⟩ := Layout.run_is_pass2 _ img hrun hwf
    exact ⟨img', p1, fun a => by rw [himg a, p2 a]⟩
  · have hdef := Layout.ref_defined _ img hrun hwf hl
    cases hr : Layout.Ref.layout (abstract num fs encoder main t₂ none els) with
    | none => exact absurd hr hdef
    | some img'' =>
      have heq := Layout.layout_refines _ img img'' hrun hwf hr
      exact ⟨img'', lst.env, rfl, fun a => by rw [himg a, heq a], Layout.symbols_agree _ lst hsteps hwf hl, henvr⟩

theorem placed_of_run {num : Bytes → Nat} (hinj : Function.Injective num) (fs : Bytes → Option Bytes)
    (main data : Bytes) (hfs : fs main = some data) (els : List Element) (perr : Option ParseErr)
    (hparse : parseFile data = .ok (els, perr)) (hok : ∀ el ∈ els, okEl el = true) (o : Outcome)
    (h : run fs main = .done o) (hs : o.success = true) :
    ∃ t₂ : Table, ∀ q r s, abstract num fs encoder main t₂ none els = q ++ s :: r → s.emits = true →
      ∃ c, Layout.Ref.cursorAfter none q = some c ∧
        ∀ i, i < (Layout.Ref.bytes c s).length → Map.abs o.image (c + i) = (Layout.Ref.bytes c s)[i]? := by
  obtain ⟨t₂, img, lst, _, _, _, hrun, himg⟩ := run_sim hinj fs main data hfs els perr hparse hok o h hs
  refine ⟨t₂, fun q r s hp hs' => ?_⟩
  obtain ⟨c, h1, h2⟩ := Layout.every_statement_placed _ q r s img hrun (abstract_wf num fs main t₂ els none) hp hs'
  exact ⟨c, h1, fun i hi => by rw [himg]; exact h2 i hi⟩

/-- C05 (pipeline, program level)  A single-file project (`SingleFile` on the parsed
elements of the main file), any numbering `num` of the symbol names: if the whole pipeline `Asm.run` succeeds, then
there is a symbol table `t₂` — the file's final table — such that for the program `p = abstract … t₂ none els`
(every value-dependent statement carrying the bytes it has when all names are taken from `t₂`):
* `p` is well formed and `Layout.run p` succeeds with, address by address, the output image;
* the image is the `pass2` image of the two-pass reference (every statement's bytes at its address, in source order);
* if no label stands at the cursor 2^32, `Ref.layout p` is defined and equals the image, and `t₂` is the symbol
  table of the reference's pass 1 (so the bytes of `p` are the bytes in the reference's own final table). -/
theorem layout_refines_asm {num : Bytes → Nat} (hinj : Function.Injective num) (fs : Bytes → Option Bytes) (main data : Bytes)
    (hfs : fs main = some data) (els : List Element) (perr : Option ParseErr) (hparse : parseFile data = .ok (els, perr))
    (hsf : SingleFile els) (o : Outcome) (h : run fs main = .done o) (hs : o.success = true) :
    ∃ t₂ : Table,
      (∀ s ∈ abstract num fs encoder main t₂ none els, s.wf = true) ∧
      (∃ img, Layout.run (abstract num fs encoder main t₂ none els) = .ok img ∧ ∀ a, Map.abs o.image a = img.get a) ∧
      (∃ img', Layout.Ref.pass2 none [] (abstract num fs encoder main t₂ none els) = some img' ∧
        ∀ a, Map.abs o.image a = img'.get a) ∧
      (Layout.NoLabelAtTop (abstract num fs encoder main t₂ none els) →
        ∃ img'' env, Layout.Ref.layout (abstract num fs encoder main t₂ none els) = some img'' ∧
          (∀ a, Map.abs o.image a = img''.get a) ∧
          Layout.Ref.pass1 none [] (abstract num fs encoder main t₂ none els) = some env ∧ EnvRel num t₂ env) :=
  layout_of_run hinj fs main data hfs els perr hparse (fun el hel => (hsf el hel).1) o h hs

/-- C05 (no placeholder survives, program level): in the image of a successful single-file run every statement of the
abstraction stands with its final bytes at its reference address — in particular every instruction / `.du*` that was
written as 0xBE… when it was met and rewritten by the task queue. -/
theorem every_statement_placed_asm {num : Bytes → Nat} (hinj : Function.Injective num) (fs : Bytes → Option Bytes)
    (main data : Bytes) (hfs : fs main = some data) (els : List Element) (perr : Option ParseErr)
    (hparse : parseFile data = .ok (els, perr)) (hsf : SingleFile els) (o : Outcome) (h : run fs main = .done o)
    (hs : o.success = true) :
    ∃ t₂ : Table, ∀ q r s, abstract num fs encoder main t₂ none els = q ++ s :: r → s.emits = true →
      ∃ c, Layout.Ref.cursorAfter none q = some c ∧
        ∀ i, i < (Layout.Ref.bytes c s).length → Map.abs o.image (c + i) = (Layout.Ref.bytes c s)[i]? := by
  exact placed_of_run hinj fs main data hfs els perr hparse (fun el hel => (hsf el hel).1) o h hs

/-! ### non-vacuity

The statements `.addr 16; B x; .du16 y + 1; x: ; .const y, 6` (forward references in an instruction and in a data
directive): the predicate `SingleFile` holds, the abstraction over the final table `{x ↦ 20, y ↦ 6}` is the expected
program of the layout core, and `Layout.run` and the reference agree on it.  (That `Asm.run` succeeds on sources like
this one — forward branches, labels, data — is C19 `show_run_forward` / C20 `listing_roundtrip`; the correspondence run
evaluates `Asm.run`, `Layout.run` of this abstraction and the reference on every generated program.) -/

def exEls : List Element :=
  [⟨1, 1, .directive (bytesOf "addr") (.cons (.const 16) .nil)⟩,
   ⟨2, 1, .instruction [66] (.cons (.ident [120]) .nil)⟩,
   ⟨3, 1, .directive (bytesOf "du16") (.cons (.bin .add (.ident [121]) (.const 1)) .nil)⟩,
   ⟨4, 1, .label [120]⟩,
   ⟨5, 1, .directive (bytesOf "const") (.cons (.ident [121]) (.cons (.const 6) .nil))⟩]

def exNum : Bytes → Nat := fun b => b.foldl (fun n x => n * 257 + x.toNat + 1) 0

example : SingleFile exEls := by
  intro el hel
  simp only [exEls, List.mem_cons, List.not_mem_nil, or_false] at hel
  rcases hel with rfl | rfl | rfl | rfl | rfl <;> exact ⟨by decide, by rfl⟩

example : abstract exNum (fun _ => none) encoder [109] [([120], some 20), ([121], some 6)] none exEls =
      [.addr 16, .emit 2 [121] [0, 224], .emit 2 [122] [7, 0], .label 121, .const 122 [] 6] ∧
    Layout.run [.addr 16, .emit 2 [121] [0, 224], .emit 2 [122] [7, 0], .label 121, .const 122 [] 6] =
      .ok [(16, 0), (17, 224), (18, 7), (19, 0)] ∧
    Layout.Ref.layout [.addr 16, .emit 2 [121] [0, 224], .emit 2 [122] [7, 0], .label 121, .const 122 [] 6] =
      some [(18, 7), (19, 0), (16, 0), (17, 224)] := ⟨by rfl, by rfl, by rfl⟩

end Trion.Asm
