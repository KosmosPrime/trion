import TrionModel.Lemmas.C06Deep
/-!
# C06, third clause — an invalid statement at ANY include depth

The nesting is arbitrary (`invalid_in_included`, Props/C06Then.lean, is depth one written out).
`C04.FailsIn fs fuel env data st D` (Lemmas/C06Deep.lean) describes a chain: the file `data` — read in
environment `env` (path stack, current name), entered with state `st` — parses to `pre ++ el :: post`, `pre` returns no
error result, and `el` is

* (`here`) a statement that records the diagnostics `D` and returns an error result — every invalid-construct class of
  Props/C06Invalid.lean §(a)–(g) has this form with `D = [⟨file, el.line, el.col, k⟩]` —, or
* (`inc`) `.include "p";` of an existing file that itself `FailsIn` one level deeper with `D'`; then
  `D = ⟨file, l, c, IncludeFailed path⟩ :: D'`.

`invalid_at_any_depth`: if the main file `FailsIn … D` then every finished run is not a success and ALL of `D` are among
its diagnostics: the invalid statement's own diagnostic, in the innermost file at its line and column, and one
`IncludeFailed` per level, each in the including file at its `.include` statement.  (By `run_cases` a run is finished unless
the include depth exceeds `maxDepth`, K2; the chain is at most `maxDepth - 1` includes deep by construction.)
`invalid_in_included_twice` spells the chain out for depth 2 (main → b → c).
-/
namespace Trion.C06
open Trion Trion.Asm Trion.Front Trion.C04

/-- C06d.1  **Invalid statement at any include depth** -/
theorem invalid_at_any_depth (fs : Bytes → Option Bytes) (main data : Bytes) (hfs : fs main = some data) (D : List Asm.Diag)
    (hD : D ≠ []) (h : FailsIn fs (Asm.maxDepth - 1) ⟨[main], main⟩ data init2 D) :
    ∀ o, Asm.run fs main = .done o → o.success = false ∧ ∀ d ∈ D, d ∈ o.diags :=
  run_failsIn fs main data hfs D hD h

/-- C06d.2  depth 2: `main` includes `b = sibling main p`, `b` includes `c = sibling b q`, and `c` contains (after statements
that return no error result) a statement `el3` whose effect is one diagnostic `k` and an error result.  Every finished run
reports `k` in `c` at `el3`, `IncludeFailed c` in `b` at its `.include`, and `IncludeFailed b` in `main` at its `.include`.
(`61 + 1` and `61` are `maxDepth - 2` and `maxDepth - 3`, the levels at which `b` and `c` are read; `FailsIn.inc` takes the
includer's level as a successor.) -/
theorem invalid_in_included_twice {fs : Bytes → Option Bytes} {main : Bytes} {S : Asm.St} {l c : Nat} {p : Bytes}
    (h : AtAny fs main ⟨l, c, .directive (bytesOf "include") (Args.ofList [.str p])⟩ S)
    {data2 : Bytes} (hfs2 : fs (Asm.sibling main p) = some data2) {els2 : List Element} {perr2 : Option ParseErr}
    (hp2 : Asm.parseFile data2 = .ok (els2, perr2)) {pre2 post2 : List Element} {l2 c2 : Nat} {q : Bytes}
    (hels2 : els2 = pre2 ++ ⟨l2, c2, .directive (bytesOf "include") (Args.ofList [.str q])⟩ :: post2) {S2 : Asm.St}
    (hpre2 : ∀ rest perr', Asm.doAssemble fs Asm.encoder (Asm.assembleFile fs Asm.encoder (61 + 1))
        ⟨[Asm.sibling main p, main], Asm.sibling main p⟩ (pre2 ++ rest) perr' (Asm.enterFile S).2.2 =
      Asm.doAssemble fs Asm.encoder (Asm.assembleFile fs Asm.encoder (61 + 1))
        ⟨[Asm.sibling main p, main], Asm.sibling main p⟩ rest perr' S2)
    {data3 : Bytes} (hfs3 : fs (Asm.sibling (Asm.sibling main p) q) = some data3) {els3 : List Element}
    {perr3 : Option ParseErr} (hp3 : Asm.parseFile data3 = .ok (els3, perr3)) {pre3 post3 : List Element} {el3 : Element}
    (hels3 : els3 = pre3 ++ el3 :: post3) {S3 : Asm.St}
    (hpre3 : ∀ rest perr', Asm.doAssemble fs Asm.encoder (Asm.assembleFile fs Asm.encoder 61)
        ⟨[Asm.sibling (Asm.sibling main p) q, Asm.sibling main p, main], Asm.sibling (Asm.sibling main p) q⟩
        (pre3 ++ rest) perr' (Asm.enterFile S2).2.2 =
      Asm.doAssemble fs Asm.encoder (Asm.assembleFile fs Asm.encoder 61)
        ⟨[Asm.sibling (Asm.sibling main p) q, Asm.sibling main p, main], Asm.sibling (Asm.sibling main p) q⟩
        rest perr' S3)
    {k : Asm.Kind} {lv : Asm.Level}
    (hel3 : Asm.statement fs Asm.encoder (Asm.assembleFile fs Asm.encoder 61)
        ⟨[Asm.sibling (Asm.sibling main p) q, Asm.sibling main p, main], Asm.sibling (Asm.sibling main p) q⟩ S3 el3 =
      .ok (S3.push ⟨[Asm.sibling (Asm.sibling main p) q, Asm.sibling main p, main], Asm.sibling (Asm.sibling main p) q⟩
        el3.line el3.col k, .err lv)) :
    ∀ o, Asm.run fs main = .done o → o.success = false ∧
      (⟨Asm.sibling (Asm.sibling main p) q, el3.line, el3.col, k⟩ : Asm.Diag) ∈ o.diags ∧
      (⟨Asm.sibling main p, l2, c2, .dirApply "include" (.includeFailed (Asm.sibling (Asm.sibling main p) q))⟩ : Asm.Diag)
        ∈ o.diags ∧
      (⟨main, l, c, .dirApply "include" (.includeFailed (Asm.sibling main p))⟩ : Asm.Diag) ∈ o.diags := by
  intro o ho
  obtain ⟨data, els, perr, pre, post, hfs, hp, hels, hpre⟩ := h
  have f3 : FailsIn fs 61 ⟨[Asm.sibling (Asm.sibling main p) q, Asm.sibling main p, main], Asm.sibling (Asm.sibling main p) q⟩
      data3 (Asm.enterFile S2).2.2 [⟨Asm.sibling (Asm.sibling main p) q, el3.line, el3.col, k⟩] :=
    .here_push ⟨hels3 ▸ hp3, hpre3⟩ hel3
  have f2 := FailsIn.inc (fs := fs) (fuel := 61) (env := ⟨[Asm.sibling main p, main], Asm.sibling main p⟩)
    (st := (Asm.enterFile S).2.2) els2 perr2 hp2 pre2 post2 l2 c2 q hels2 S2 hpre2 data3 hfs3 f3
  have f1 := FailsIn.inc (fs := fs) (fuel := 62) (env := ⟨[main], main⟩) (st := init2) els perr hp pre post l c p hels S hpre
    data2 hfs2 f2
  obtain ⟨hs, hall⟩ := run_failsIn fs main data hfs _ (by simp) f1 o ho
  exact ⟨hs, hall _ (by simp [incPath]), hall _ (by simp [incPath]), hall _ (by simp [incPath])⟩

end Trion.C06
