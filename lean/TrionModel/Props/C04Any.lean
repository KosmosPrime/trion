import TrionModel.Props.C04Text
import TrionModel.Props.C04Mix
/-!
# C04 closed on text — ANY spelling of the statement that is a sequence of white space and tokens

`Props/C04Text.lean` closes C04 on the canonical spelling `Show.render`.  Here the instruction statement is ANY list of
pieces `ps` (`Lex.Piece`: runs of white space — blanks, tabs, line feeds — and single tokens: punctuation, identifiers in
any letter case, numbers in any radix `0b… 0o… 0x…`) that is `Lex.Valid` and whose token values are
`name <operands> ;` where the operands are ANY way of writing trees with redundant parentheses (`as : PArgs`,
`Render.pargs`, C09): general expressions, `( … )` anywhere, `[ … ]`, `{ … }`.  The text is
`progTextP A defs ps` = `.addr A;⏎`, the definitions, then the bytes of the pieces.

Outside: statement texts with comments, character literals or strings (they are not `Piece`s) — Props/C04Layout.lean
(`parseFile_layout`) has them; and the formulation "whatever `Parse` reads as one instruction statement" (here: the token
values are a rendering of some parenthesised operand trees — which every parsed statement is, but that converse of C09 is
not proved).
-/
namespace Trion.C04
open Trion Trion.Front

def progTextP (A : Nat) (defs : List (Bytes × Arg)) (ps : List Lex.Piece) : Bytes :=
  ((preStmts A defs).map fun p => bytesOf "." ++ Show.render p ++ [10]).flatten ++ Lex.pbytes ps

/-- C04a.a  **The tokenizer and parser read the program text as the program**, for any spelling of the statement by
pieces (see the header). -/
theorem parseFile_pieces (A : Nat) (hA : A < 4294967296) (defs : List (Bytes × Arg))
    (hdefs : ∀ d ∈ defs, Lex.identOk d.1 = true ∧ Show.Opnd d.2) (ps : List Lex.Piece) (hv : Lex.Valid ps none)
    (name : Bytes) (as : PArgs) (haswf : as.wf)
    (hvals : Lex.tokVals ps = .ident name :: Render.pargs as ++ [.term]) :
    ∃ els, Asm.parseFile (progTextP A defs ps) = .ok (els, none) ∧
      els.map (·.val) = progVals A defs name as.erase := by
  obtain ⟨ts, l, c, hlex, hts⟩ := tokens_pre A hA defs hdefs (Lex.Reads.of_valid hv)
  exact parseFile_of_tokens A hA defs hdefs _ ts l c hlex name as haswf (by rw [hts, hvals])

/-- C04a.b  **Success, any spelling.** -/
theorem run_any (fs : Bytes → Option Bytes) (main : Bytes) (A : Nat) (defs : List (Bytes × Arg))
    (hdefsok : ∀ d ∈ defs, Lex.identOk d.1 = true ∧ Show.Opnd d.2) (ps : List Lex.Piece) (hv : Lex.Valid ps none)
    (name : Bytes) (as : PArgs) (haswf : as.wf)
    (hvals : Lex.tokVals ps = .ident name :: Render.pargs as ++ [.term])
    (hfs : fs main = some (progTextP A defs ps))
    (tbl : Asm.Table) (hdefs : defsTable defs [] = some tbl)
    (i : Instr) (hmeans : means (tabOf tbl) A name as.erase.toList = some i) (hwf : i.wf)
    (hws : List Nat) (he : Codec.encode i = .ok hws) (hfit : A + 2 * hws.length ≤ 4294967296) :
    Asm.run fs main = .done ⟨true, none, true, [], [(A, (Codec.toBytes hws).map (·.toUInt8))]⟩ ∧
    Arm.decode hws = some i := by
  have hlen := (Codec.enc_len i hws he hwf).1
  obtain ⟨els, hp, hels⟩ := parseFile_pieces A (by omega) defs hdefsok ps hv name as haswf hvals
  exact run_defs_stmt fs main _ hfs els hp A defs name as.erase hels tbl hdefs i hmeans hwf hws he hfit

/-- C04a.c  **Diagnosed, any spelling** (known or unknown mnemonic). -/
theorem run_any_diag (fs : Bytes → Option Bytes) (main : Bytes) (A : Nat) (hA : A < 4294967296) (defs : List (Bytes × Arg))
    (hdefsok : ∀ d ∈ defs, Lex.identOk d.1 = true ∧ Show.Opnd d.2) (ps : List Lex.Piece) (hv : Lex.Valid ps none)
    (name : Bytes) (as : PArgs) (haswf : as.wf)
    (hvals : Lex.tokVals ps = .ident name :: Render.pargs as ++ [.term])
    (hfs : fs main = some (progTextP A defs ps))
    (tbl : Asm.Table) (hdefs : defsTable defs [] = some tbl)
    (hw : ∀ t, mnemonic name = some t → wellFormed (tabOf tbl) (sig t) as.erase.toList ∧
      ∀ vs, denoteAll (tabOf tbl) (sig t) as.erase.toList = some vs → ¬ svQuirk t vs)
    (hno : ∀ i hws, ¬ (means (tabOf tbl) A name as.erase.toList = some i ∧ i.wf ∧ Codec.encode i = .ok hws)) :
    ∃ els el o, Asm.parseFile (progTextP A defs ps) = .ok (els, none) ∧ el ∈ els ∧
      el.val = .instruction name as.erase ∧ Asm.run fs main = .done o ∧ o.success = false ∧ o.diags ≠ [] ∧
      ∀ d ∈ o.diags, d.file = main ∧ d.line = el.line ∧ d.col = el.col := by
  obtain ⟨els, hp, hels⟩ := parseFile_pieces A hA defs hdefsok ps hv name as haswf hvals
  obtain ⟨el, o, h1, h2, h3⟩ := run_defs_stmt_diag_any fs main _ hfs els hp A hA defs name as.erase hels tbl hdefs hw hno
  exact ⟨els, el, o, hp, h1, h2, h3⟩

/-! ## non-vacuity: `LDR\tr0 ,[(0x4) + sp]` then a line feed and `;` — tab, hex literal, redundant parentheses, odd spacing -/

def exPieces : List Lex.Piece :=
  [.tok (bytesOf "LDR") (.ident (bytesOf "LDR")), .ws [9], .tok (bytesOf "r0") (.ident (bytesOf "r0")), .ws [32],
   .tok [44] .sep, .tok [91] .lbrack, .tok [40] .lparen, .tok (bytesOf "0x4") (.num 4), .tok [41] .rparen, .ws [32],
   .tok [43] .plus, .ws [32], .tok (bytesOf "sp") (.ident (bytesOf "sp")), .tok [93] .rbrack, .ws [10], .tok [59] .term]

def exPArgs : PArgs :=
  .cons (.ident (bytesOf "r0")) (.cons (.addr (.bin .add (.paren (.const 4)) (.ident (bytesOf "sp")))) .nil)

example : Lex.pbytes exPieces = bytesOf "LDR\tr0 ,[(0x4) + sp]\n;" ∧
    Lex.tokVals exPieces = .ident (bytesOf "LDR") :: Render.pargs exPArgs ++ [.term] ∧
    exPArgs.erase = Args.ofList [.ident (bytesOf "r0"), .addr (.bin .add (.const 4) (.ident (bytesOf "sp")))] := by
  refine ⟨by decide, by decide, rfl⟩

theorem exPieces_valid : Lex.Valid exPieces none := by
  have F : ∀ (c : UInt8), Lex.isIdentByte c = false → Lex.Follow (some c) := fun c hc b hb => by cases hb; exact hc
  refine ⟨.ident _ _ (by decide) (F 9 (by decide)), by decide,
    .ident _ _ (by decide) (F 32 (by decide)), by decide,
    .punct 44 _ _ (by decide) (by decide), .punct 91 _ _ (by decide) (by decide), .punct 40 _ _ (by decide) (by decide),
    ?_, .punct 41 _ _ (by decide) (by decide), by decide, .punct 43 _ _ (by decide) (by decide), by decide,
    .ident _ _ (by decide) (F 93 (by decide)), .punct 93 _ _ (by decide) (by decide), by decide,
    .punct 59 _ _ (by decide) (by decide), trivial⟩
  exact Lex.TokOk.num 16 (bytesOf "4") 4 _ (by decide) (by decide) (by decide) (by decide) (F 41 (by decide))

theorem exPArgs_wf : exPArgs.wf := by
  refine ⟨?_, ⟨⟨?_, ?_⟩, ?_⟩, trivial⟩
  · show bytesOf "r0" ≠ []; decide
  · show (0 : Int) ≤ 4; decide
  · show (4 : Int) ≤ i64Max; decide
  · show bytesOf "sp" ≠ []; decide

/-- the file `.addr 0;⏎LDR⇥r0 ,[(0x4) + sp]⏎;` assembles to `01 98` at 0 -/
example : Asm.run (fun _ => some (bytesOf ".addr 0;\nLDR\tr0 ,[(0x4) + sp]\n;")) [] =
    .done ⟨true, none, true, [], [(0, (Codec.toBytes [0x9801]).map (·.toUInt8))]⟩ := by
  have ht : progTextP 0 [] exPieces = bytesOf ".addr 0;\nLDR\tr0 ,[(0x4) + sp]\n;" := by decide
  exact (run_any (fun _ => some (bytesOf ".addr 0;\nLDR\tr0 ,[(0x4) + sp]\n;")) [] 0 [] (by simp) exPieces exPieces_valid
    (bytesOf "LDR") exPArgs exPArgs_wf (by decide) (by rw [ht]) [] rfl
    (.ldr 0 13 (.imm 4)) (by decide) (by decide) [0x9801] rfl (by decide)).1

/-- C04a.d  **Any spelling, extended operands: assembled to the meaning or diagnosed at the statement** (`run_defs_stmt2`
on the program text `progTextP A defs ps`). -/
theorem run_any2 (fs : Bytes → Option Bytes) (main : Bytes) (A : Nat) (hA : A < 4294967296) (defs : List (Bytes × Arg))
    (hdefsok : ∀ d ∈ defs, Lex.identOk d.1 = true ∧ Show.Opnd d.2) (ps : List Lex.Piece) (hv : Lex.Valid ps none)
    (name : Bytes) (as : PArgs) (haswf : as.wf)
    (hvals : Lex.tokVals ps = .ident name :: Render.pargs as ++ [.term])
    (hfs : fs main = some (progTextP A defs ps))
    (tbl : Asm.Table) (hdefs : defsTable defs [] = some tbl)
    (t : Instr) (hm : mnemonic name = some t) (hw : wellFormed2 (tabOf tbl) (sig t) as.erase.toList)
    (hq : ∀ vs, denoteAll2 (tabOf tbl) (sig t) as.erase.toList = some vs → ¬ svQuirk t vs) :
    (∃ i hws, means2 (tabOf tbl) A name as.erase.toList = some i ∧ i.wf ∧ Codec.encode i = .ok hws ∧ Arm.decode hws = some i ∧
      (A + 2 * hws.length ≤ 4294967296 →
        Asm.run fs main = .done ⟨true, none, true, [], [(A, (Codec.toBytes hws).map (·.toUInt8))]⟩)) ∨
    (∃ els el o, Asm.parseFile (progTextP A defs ps) = .ok (els, none) ∧ el ∈ els ∧ el.val = .instruction name as.erase ∧
      Asm.run fs main = .done o ∧ o.success = false ∧ o.diags ≠ [] ∧
      ∀ d ∈ o.diags, d.file = main ∧ d.line = el.line ∧ d.col = el.col) := by
  obtain ⟨els, hp, hels⟩ := parseFile_pieces A hA defs hdefsok ps hv name as haswf hvals
  rcases run_defs_stmt2 fs main _ hfs els hp A hA defs name as.erase hels tbl hdefs t hm hw hq with h | ⟨el, o, h⟩
  · exact .inl h
  · exact .inr ⟨els, el, o, hp, h⟩

end Trion.C04