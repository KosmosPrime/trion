import TrionModel.Props.C10
import TrionModel.Props.C10Parse
import TrionModel.Props.C08
import TrionModel.Props.C04
import TrionModel.Props.C13
/-!
# C06 — every input yields success or diagnostics, never a crash

The pipeline is `bytes → Lex.tokens → Parse.all → (per statement) Simp.evaluate → Front.assemble →
Layout/Seg region machine → task queues → close`.  Every logic-level panic site of the Rust code is an
explicit `panic` outcome of the corresponding model; this file states, for every stage, that the outcome
is unreachable, and composes the first two stages (any byte string → elements or one terminal error).

The statement for the whole `Context` (directive dispatch, arity/kind checks, scopes, includes, both task loops,
`close_segment`, `finalize`) is `Asm.run_no_panic` in Props/C06Asm.lean:

    theorem run_no_panic (fs : Bytes → Option Bytes) (main : Bytes) : run fs main ≠ .panic

with include cycles (known finding K2) ending in the separate outcome `Result.fuel`.  The theorems below STATE the
stage-by-stage facts; the proof of `run_no_panic` does not import this file, it takes the same facts from the lemmas
underneath (named in the header of Props/C06Asm.lean).
-/
namespace Trion.C06
open Trion

/-- C06.a  Text to statements never panics: for EVERY byte string (valid UTF-8 or not) the tokenizer model
returns a token stream and the parser model, run on it, returns statements followed by at most one
terminal error — neither stage panics or runs out of fuel. -/
theorem text_to_elements_total (bs : Bytes) :
    ∃ lo els err, Lex.tokens bs = .ok lo ∧ Parse.all lo = .done els err := by
  obtain ⟨lo, hlo⟩ := Lex.lex_total bs
  obtain ⟨els, err, h⟩ := Parse.parse_shape lo
  exact ⟨lo, els, err, hlo, h⟩

/-- C06.b  A text the tokenizer rejects is never reported as success by the parser. -/
theorem lex_error_is_reported (bs : Bytes) (lo : LexOut) (e : LexErr)
    (h : Lex.tokens bs = .ok lo) (he : lo.err = some e) :
    ∃ els pe, Parse.all lo = .done els (some pe) :=
  Parse.parse_sees_lex_error lo e he

/-- C06.c  Expression evaluation never panics (the `assert!`s of `search`, the merge arms), for any tree,
any constant table and any register predicate. -/
theorem evaluate_total (lk : Bytes → Simp.Lookup) (isReg : Bytes → Bool) (a : Arg) :
    Simp.evaluate lk isReg a ≠ .panic ∧ Simp.simplify a ≠ .panic :=
  ⟨Simp.eval_no_panic lk isReg a, Simp.simp_no_panic a⟩

/-- C06.d  The instruction front end never panics (the `self.args[arg_pos]` index), for any mnemonic,
any argument list and any behaviour of the evaluator. -/
theorem front_total (st : Front.St) (eval : Arg → Front.EvalOut) (loc : Bool) :
    (Front.assemble st eval loc).2 ≠ .panic :=
  Front.assemble_no_panic st eval loc

/-- C06.e  The region machine never panics on a non-rewrite operation in any state satisfying the region
invariant (the three `assert_eq!` on put counts, `remaining()` underflow). Rewrites: `Seg.step_no_panic`, `Seg.history_no_panic`
and `Layout.run_no_panic` (Props/C05.lean). -/
theorem region_step_total (s : Seg.State) (op : Seg.Op) (inv : Seg.Inv s) (wf : Seg.Op.wf s op)
    (nr : ∀ a d, op ≠ .rewrite a d) : (Seg.step s op).2 ≠ .panic :=
  Seg.step_no_panic_nonrewrite s op inv wf nr

example : ∃ lo els err, Lex.tokens (bytesOf "NOP;") = .ok lo ∧ Parse.all lo = .done els err :=
  text_to_elements_total _

end Trion.C06
