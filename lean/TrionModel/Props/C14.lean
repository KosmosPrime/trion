import TrionModel.Lemmas.ScopeRetry
/-!
# C14 — constant visibility follows file scope

The vocabulary of the statements is defined in `Lemmas/ScopeDefs.lean` (`alive` and `diagnosed`: below).
Model: `Trion.Scope` (`Model/Scope.lean`), a literal
mirror of `Context::{assemble, get_constant, insert_constant, defer_constant, add_task, finalize}`, `PathFrame`,
`.global/.import/.export/.const`, labels, `.du32 <name>` and `.include`.
-/
namespace Trion.Scope

/-! ## swap_balanced — the `mem::replace` swaps implement a stack of tables -/

/-- C14.swap (a)  Entering a file pushes one empty table (and one empty task list) onto the stack; nothing else
moves.  No hypothesis on the state: this is what the two `mem::replace`s of `Context::assemble` do. -/
theorem swap_balanced_enter (s : State) (tag : Nat) :
    tables (enterFile s tag) = [] :: tables s ∧ taskStack (enterFile s tag) = [] :: taskStack s ∧
    (enterFile s tag).depth = s.depth + 1 :=
  ⟨tables_enterFile s tag, taskStack_enterFile s tag, rfl⟩

/-- C14.swap (b)  `enter` immediately followed by `exit` restores the state exactly: depth, both tables, both task
lists and the frame stack are those from before (identity of `locals`/`globals` restored). -/
theorem swap_balanced_roundtrip {s s1 : State} {tag : Nat} (hm : s.mode = .running)
    (h : step s (.enter tag) = .ok s1) : step s1 .exit = .ok s := by
  simp only [step, hm] at h
  cases h
  obtain ⟨depth, globals, locals, globalTasks, localTasks, frames, mode, log⟩ := s
  simp only at hm
  subst hm
  cases locals <;> cases localTasks <;>
    simp [step, enterFile, exitFile, localLoop, intoInner]

/-- C14.swap (c)  Every `exit` of an open file — after a clean file (`running`), after a trivial or a fatal failure
(`stopped l 0`) — first lets the file's pending tasks act on the two visible tables (`Eff`: entries are only added or
given a value), then pops exactly the innermost table and one frame; the depth goes down by one.  Together with (a):
stack depth and table identity are restored on every exit, also on failure. -/
theorem swap_balanced_exit {s s' : State} {f : Saved} {fs : List Saved}
    (hl : s.locals.isSome) (hf : s.frames = f :: fs)
    (hm : s.mode = .running ∨ ∃ l, s.mode = .stopped l 0) (h : step s .exit = .ok s') :
    ∃ mid, Eff s mid ∧ tables s' = (tables mid).tail ∧ s'.depth + 1 = s.depth ∧ s'.frames = fs := by
  obtain ⟨r, he⟩ := step_exit hm h
  exact exitFile_stack hl hf he

/-- C14.swap (c')  … and after a FATAL failure no task runs: the tables below the popped one are untouched. -/
theorem swap_balanced_exit_fatal {s s' : State} {f : Saved} {fs : List Saved} {t : Table}
    (hl : s.locals = some t) (hf : s.frames = f :: fs) (hm : s.mode = .stopped .fatal 0)
    (h : step s .exit = .ok s') : tables s' = (tables s).tail ∧ s'.depth + 1 = s.depth := by
  simp only [step, hm] at h
  obtain ⟨mid, s2, hmid, hin, hs'⟩ := exitFile_cases hf h
  rcases hmid with ⟨_, rfl⟩ | ⟨_, _, _, hne, _⟩
  · have ht := tables_intoInner hf (by simp [hl]) hin
    obtain ⟨d, hd, _, e2⟩ := intoInner_eq hin
    have hd' : s2.depth + 1 = mid.depth := by rw [hd, e2]
    rcases hs' with ⟨_, rfl⟩ | rfl <;> exact ⟨ht, hd'⟩
  · exact absurd rfl hne

/-- skipped ops (after `do_assemble` of the current file returned) never touch a table -/
theorem skipped_untouched {s s' : State} {l : Level} {k : Nat} {op : Op} (hm : s.mode = .stopped l k)
    (hop : op ≠ .exit ∨ k ≠ 0) (h : step s op = .ok s') : tables s' = tables s ∧ s'.depth = s.depth := by
  cases op <;> cases k <;> simp_all [step] <;> (cases h; exact ⟨rfl, rfl⟩)

/-- C14.siblings  Every included file starts from the empty table (and an empty task list), whatever its siblings or
its includer defined before: nothing leaks sideways or downwards without `.import`. -/
theorem siblings {s s' : State} {tag : Nat} (hm : s.mode = .running) (h : step s (.enter tag) = .ok s') :
    s'.locals = some [] ∧ s'.localTasks = some [] ∧ tables s' = [] :: tables s := by
  simp only [step, hm] at h
  cases h
  exact ⟨rfl, rfl, tables_enterFile s tag⟩

/-! ## monotone — a constant's value never changes once defined -/

/-- C14.stack  How one step acts on the stack of tables: statements (and `finalize`) keep the height and are
monotone level by level; `enter` pushes an empty table; `exit` pops the innermost one after a monotone change. -/
theorem step_stack {s s' : State} {op : Op} (hl : s.frames ≠ [] → s.locals.isSome) (h : step s op = .ok s') :
    stackLe (tables s) (tables s') ∨ tables s' = [] :: tables s ∨
    ∃ mid, stackLe (tables s) mid ∧ tables s' = mid.tail := by
  rcases step_cases h with ⟨m, rfl⟩ | ⟨tag, _, _, rfl⟩ | ⟨r, _, he⟩ | ⟨_, _, hfin⟩ | ⟨s1, r, _, _, _, hst, hs'⟩
  · exact .inl (stackLe_refl _)
  · exact .inr (.inl (tables_enterFile s tag))
  · cases hf : s.frames with
    | nil => rw [exitFile_nil r hf] at he; cases he; exact .inl (stackLe_refl _)
    | cons f fs =>
      obtain ⟨mid, e, ht, _⟩ := exitFile_stack (hl (by simp [hf])) hf he
      exact .inr (.inr ⟨tables mid, stackLe_of_eff e, ht⟩)
  · exact .inl (stackLe_of_eff (eff_finalize hfin))
  · have e := stackLe_of_eff (eff_stmt hst)
    rcases hs' with ⟨_, rfl⟩ | ⟨l, _, rfl⟩ <;> exact .inl e

/-- C14.monotone  One step never changes a valued entry of any table that is on the stack before and after the step
(tables are indexed from the outermost = global table, so index `i` denotes the same scope in both states):
`table[n] = some v` stays `some v`. -/
theorem monotone {s s' : State} {op : Op} (hl : s.frames ≠ [] → s.locals.isSome) (h : step s op = .ok s')
    (i : Nat) (t t' : Table) (hi : (tables s).reverse[i]? = some t) (hi' : (tables s').reverse[i]? = some t')
    (n : Bytes) (v : Int) (hv : t.find n = some (some v)) : t'.find n = some (some v) := by
  rcases step_stack hl h with hle | hpush | ⟨mid, hle, hpop⟩
  · exact stackLe_get_rev hle i t t' hi hi' n v hv
  · rw [hpush] at hi'
    obtain ⟨hlt, _⟩ := List.getElem?_eq_some_iff.1 hi
    rw [List.reverse_cons, List.getElem?_append_left hlt, hi] at hi'
    cases hi'; exact hv
  · cases mid with
    | nil => rw [hpop] at hi'; simp at hi'
    | cons m ms =>
      rw [hpop, List.tail_cons] at hi'
      obtain ⟨hlt, _⟩ := List.getElem?_eq_some_iff.1 hi'
      exact stackLe_get_rev hle i t t' hi (by rw [List.reverse_cons, List.getElem?_append_left hlt]; exact hi') n v hv

/-- the scope with index `i` (counted from the global table) stays open during `ops` -/
def alive (i : Nat) (s : State) : List Op → Prop
  | [] => True
  | op :: ops =>
    match step s op with
    | .ok s1 => i < (tables s1).length ∧ alive i s1 ops
    | .error _ => True

/-- C14.reachable  In every state reachable from `Context::new()`, `locals` is `Some` exactly while an `assemble` call is
active, and each `PathFrame` saved a table exactly when it has an outer frame — the side conditions of
`swap_balanced_exit`, `step_stack` and `monotone` hold in every reachable state. -/
theorem reachable_open {ops : List Op} {s : State} (h : run init ops = .ok s) : Open s :=
  open_run ops open_init h

/-- C14.monotone (runs)  From any reachable state, along any op sequence during which a scope stays open, every valued
entry of that scope's table keeps its value: a constant's value never changes once defined. -/
theorem monotone_run (i : Nat) : ∀ (ops : List Op) {s s' : State}, Open s → run s ops = .ok s' → alive i s ops →
    ∀ (t t' : Table), (tables s).reverse[i]? = some t → (tables s').reverse[i]? = some t' →
    ∀ (n : Bytes) (v : Int), t.find n = some (some v) → t'.find n = some (some v)
  | [], s, s', _, hr, _, t, t', ht, ht', n, v, hv => by
    simp only [run] at hr
    cases hr
    rw [ht] at ht'; cases ht'; exact hv
  | op :: ops, s, s', ho, hr, ha, t, t', ht, ht', n, v, hv => by
    simp only [run] at hr
    split at hr
    · cases hr
    · rename_i s1 hs
      simp only [alive, hs] at ha
      have hlen : i < (tables s1).reverse.length := by simpa using ha.1
      have ht1 : (tables s1).reverse[i]? = some ((tables s1).reverse[i]'hlen) := List.getElem?_eq_getElem hlen
      have hv1 := monotone (fun hf => ho.locals.2 hf) hs i t _ ht ht1 n v hv
      exact monotone_run i ops (open_step ho hs) hr ha.2 _ t' ht1 ht' n v hv1

/-! ## panic freedom — no `no local scope`, `unwrap`, `assert!`, `unreachable!` from `Context::new()`

`Inv s` is the invariant of reachable states; its clauses (`Open`, `framesInv`, `Vis`; `depth` is `path_stack.len()`):
`Lemmas/ScopeDefs.lean`. -/

/-- C14.panic_free (invariant)  Every state reachable from `Context::new()` over any op history satisfies `Inv`. -/
theorem reachable_inv {ops : List Op} {s : State} (h : run init ops = .ok s) : Inv s := by
  obtain ⟨s', h', i'⟩ := run_ok ops inv_init
  rw [h] at h'; cases h'; exact i'

/-- C14.panic_free (one step)  From a state satisfying the invariant no op reaches a panic site: `step` never returns
`no local scope` / `unwrap` / `assert!` / `unreachable!` nor the model's own loop bound, and the invariant holds again. -/
theorem panic_free_step {s : State} (hi : Inv s) (op : Op) : ∃ s', step s op = .ok s' ∧ Inv s' :=
  step_ok op hi

/-- C14.panic_free  Over ANY operation history from `Context::new()` — well bracketed or not, with `finalize` anywhere,
with failed files, with tasks rescheduled through several includers — the model never takes one of its panic outcomes:
not `panic!("no local scope")` of `get_constant`/`insert_constant`/`defer_constant`/`add_task`, not an `unwrap`
(`.global`'s `insert_constant(..).unwrap()` / `defer_constant(..).unwrap()`, `local_tasks.replace(..).unwrap()`,
`local_tasks.as_mut().unwrap()`, `path_stack.pop().unwrap()`), not an `assert!` (`.global`'s `assert!(!inserted)`,
`assert_eq!(path_stack.len(), count)` of `into_inner`), not an `unreachable!` (the `Reserved` arms of `.import`, `.export`
and the `.global` closure), and not the loop bound `Panic.fuel` of the model's `while !tasks.is_empty()` loops (2 rounds
for `assemble`, 3 for `finalize`). -/
theorem panic_free (ops : List Op) : ∃ s, run init ops = .ok s :=
  let ⟨s, h, _⟩ := run_ok ops inv_init
  ⟨s, h⟩

theorem panic_free_ne (ops : List Op) (p : Panic) : run init ops ≠ .error p := by
  obtain ⟨s, h⟩ := panic_free ops
  rw [h]; intro e; cases e

/-- the guards of the individual panic sites, read off `Inv`: inside a file both `locals` and `local_tasks` are there;
`into_inner` finds `path_stack.len() == count ≥ 1`; a name found in a visible table is not a register name -/
theorem panic_guards {ops : List Op} {s : State} (h : run init ops = .ok s) :
    (s.frames ≠ [] → s.locals.isSome ∧ s.localTasks.isSome) ∧
    (∀ f fs, s.frames = f :: fs → s.depth = f.count ∧ s.depth ≠ 0) ∧
    (∀ n e, s.globals.find n = some e → isReg n = false) ∧
    (∀ l n e, s.locals = some l → l.find n = some e → isReg n = false) ∧
    (s.depth = 0 → ∀ t ∈ s.globalTasks, ∃ n c tag, t = .use n c tag true) := by
  have i := reachable_inv h
  refine ⟨fun hf => ⟨(i.inFile hf).locals, (i.inFile hf).ltasks⟩, ?_, ?_, ?_, ?_⟩
  · intro f fs hf
    have hfr := i.fr
    rw [hf] at hfr
    have hd : s.depth = fs.length + 1 := by rw [i.depth, hf]; rfl
    exact ⟨by rw [hd, hfr.1], by omega⟩
  · exact fun n e hf => Table.keysOk_found i.vis.kg hf
  · exact fun l n e hl hf => Table.keysOk_found (i.vis.kl l hl) hf
  · exact fun hd t ht => Task.isGU_iff.1 (i.root_gtasks hd t ht)

/-! ## dup_reserved — the five collision classes are diagnosed and leave every table unchanged -/

/-- the state after a fatal diagnostic of statement `tag`: the log grows by one entry, `do_assemble` stops, and
nothing else (in particular no table) changes -/
def diagnosed (s : State) (tag : Nat) (k : Kind) : State := { (s.err tag k) with mode := .stopped .fatal 0 }

theorem diagnosed_tables (s : State) (tag : Nat) (k : Kind) : tables (diagnosed s tag k) = tables s := rfl

/-- C14.dup (1a)  second definition in one scope, `.const` -/
theorem dup_const {s : State} {f : Saved} {fs : List Saved} {l : Table} {n : Bytes} {v w : Int} {tag : Nat}
    (hm : s.mode = .running) (hf : s.frames = f :: fs) (hl : s.locals = some l)
    (hdef : l.find n = some (some w)) (hr : isReg n = false) :
    step s (.const n v tag) = .ok (diagnosed s tag .dupConst) := by
  simp [step, hm, hf, stmt, doConst, insertConstant, hr, hl, hdef, diagnosed]

/-- C14.dup (1b)  second definition in one scope, label -/
theorem dup_label {s : State} {f : Saved} {fs : List Saved} {l : Table} {n : Bytes} {v w : Int} {tag : Nat}
    (hm : s.mode = .running) (hf : s.frames = f :: fs) (hl : s.locals = some l)
    (hdef : l.find n = some (some w)) (hr : isReg n = false) :
    step s (.label n v tag) = .ok (diagnosed s tag .dupLocal) := by
  simp [step, hm, hf, stmt, doLabel, insertConstant, hr, hl, hdef, diagnosed, dupKind]

/-- C14.dup (1c)  second definition in one scope, `.import` of a name the file already has with a value -/
theorem dup_import {s : State} {f : Saved} {fs : List Saved} {l : Table} {n : Bytes} {v w : Int} {tag : Nat}
    (hm : s.mode = .running) (hf : s.frames = f :: fs) (hl : s.locals = some l)
    (hg : s.globals.find n = some (some v)) (hdef : l.find n = some (some w)) (hr : isReg n = false) :
    step s (.import n tag) = .ok (diagnosed s tag .dupLocal) := by
  simp [step, hm, hf, stmt, doImport, getConstant, Table.get, hg, insertConstant, hr, hl, hdef, diagnosed, dupKind]

/-- C14.dup (2a)  `.export` over a name the includer already has with a value -/
theorem dup_export_existing {s : State} {f : Saved} {fs : List Saved} {l : Table} {n : Bytes} {v w : Int}
    {tag : Nat} (hm : s.mode = .running) (hf : s.frames = f :: fs) (hl : s.locals = some l)
    (hdef : l.find n = some (some v)) (hg : s.globals.find n = some (some w)) (hr : isReg n = false) :
    step s (.export n tag) = .ok (diagnosed s tag .dupGlobal) := by
  simp [step, hm, hf, stmt, doExport, getConstant, Table.get, hl, hdef, insertConstant, hr, hg, diagnosed, dupKind]

/-- C14.dup (2b)  `.global` of a name the includer already has (valued or announced) -/
theorem dup_global_existing {s : State} {f : Saved} {fs : List Saved} {n : Bytes} {e : Option Int} {tag : Nat}
    (hm : s.mode = .running) (hf : s.frames = f :: fs)
    (hg : s.globals.find n = some e) (hr : isReg n = false) :
    step s (.global n tag) = .ok (diagnosed s tag .dupGlobal) := by
  simp [step, hm, hf, stmt, doGlobal, deferConstant, hr, hg, diagnosed, dupKind]

/-- C14.dup (3)  `.import` of a name the includer lacks -/
theorem dup_import_missing {s : State} {f : Saved} {fs : List Saved} {n : Bytes} {tag : Nat}
    (hm : s.mode = .running) (hf : s.frames = f :: fs) (hg : s.globals.find n = none) :
    step s (.import n tag) = .ok (diagnosed s tag .nfGlobal) := by
  simp [step, hm, hf, stmt, doImport, getConstant, Table.get, hg, diagnosed]

/-- C14.dup (4a)  `.export` of a name the file does not have -/
theorem dup_export_missing {s : State} {f : Saved} {fs : List Saved} {l : Table} {n : Bytes} {tag : Nat}
    (hm : s.mode = .running) (hf : s.frames = f :: fs) (hl : s.locals = some l) (hdef : l.find n = none) :
    step s (.export n tag) = .ok (diagnosed s tag .nfLocal) := by
  simp [step, hm, hf, stmt, doExport, getConstant, Table.get, hl, hdef, diagnosed]

/-- C14.dup (4b)  `.export` of an unvalued (announced, deferred) name -/
theorem dup_export_unvalued {s : State} {f : Saved} {fs : List Saved} {l : Table} {n : Bytes} {tag : Nat}
    (hm : s.mode = .running) (hf : s.frames = f :: fs) (hl : s.locals = some l) (hdef : l.find n = some none) :
    step s (.export n tag) = .ok (diagnosed s tag .defLocal) := by
  simp [step, hm, hf, stmt, doExport, getConstant, Table.get, hl, hdef, diagnosed]

/-- C14.dup (4c)  `.global` of a name that never receives a value in the file: the closure it scheduled pushes the
diagnostic at the end of the file and changes no table -/
theorem dup_global_unvalued {s : State} {l : Table} {n : Bytes} {tag : Nat}
    (hl : s.locals = some l) (hdef : l.find n = some none) :
    runTask s (.globalCopy n tag) = .ok (s.err tag .defLocal, some .trivial) := by
  simp [runTask, runGlobalCopy, getConstant, Table.get, hl, hdef]

/-- C14.dup (5)  a register name is refused by `.const`, a label and `.global` -/
theorem dup_reserved {s : State} {f : Saved} {fs : List Saved} {n : Bytes} {v : Int} {tag : Nat}
    (hm : s.mode = .running) (hf : s.frames = f :: fs) (hr : isReg n = true) :
    step s (.const n v tag) = .ok (diagnosed s tag .reserved) ∧
    step s (.label n v tag) = .ok (diagnosed s tag .reserved) ∧
    step s (.global n tag) = .ok (diagnosed s tag .reserved) := by
  refine ⟨?_, ?_, ?_⟩
  · simp [step, hm, hf, stmt, doConst, insertConstant, hr, diagnosed]
  · simp [step, hm, hf, stmt, doLabel, insertConstant, hr, diagnosed]
  · simp [step, hm, hf, stmt, doGlobal, deferConstant, hr, diagnosed]

/-! ## isolation and frame — what one statement (or end-of-file task) can do to the two visible tables

`stmt s op = .ok (s', r)` is the statement itself; `step` only adds the mode change (`do_assemble` stops on `r = some _`),
which touches no table.  `l` is the current file's table, `s.globals` its includer's table (the real global table for
the root file). -/

/-- C14.isolation (own definitions)  `.const n, v` / `n:` change nothing but the entry `n` of the file's own table, which
becomes `v`; the includer's table is untouched: a definition is visible only in the file that makes it. -/
theorem isolation_define {s s' : State} {l : Table} {n : Bytes} {v : Int} {tag : Nat} {r : Option Level}
    (hl : s.locals = some l) (h : stmt s (.const n v tag) = .ok (s', r) ∨ stmt s (.label n v tag) = .ok (s', r)) :
    s'.globals = s.globals ∧
    ∃ l', s'.locals = some l' ∧ ∀ m, l'.find m = l.find m ∨ (m = n ∧ l'.find m = some (some v)) :=
  define_frame hl h

/-- C14.isolation (downwards only by `.import`)  `.import n` changes nothing but the entry `n` of the file's own table,
which becomes the includer's entry for `n` (same value, or still unvalued); the includer's table is untouched. -/
theorem isolation_import {s s' : State} {l : Table} {n : Bytes} {tag : Nat} {r : Option Level}
    (hl : s.locals = some l) (h : stmt s (.import n tag) = .ok (s', r)) :
    s'.globals = s.globals ∧
    ∃ l', s'.locals = some l' ∧ ∀ m, l'.find m = l.find m ∨ (m = n ∧ l'.find m = s.globals.find n) :=
  doImport_frame hl h

/-- C14.isolation (uses change no table)  `.du32 n` never changes a table.  That, while a file is open, its immediate
evaluation looks `n` up in that file's table only — a valued entry in range is written at once, and nothing else is
read — is `isolation_use_local` and `isolation_use_resolves`. -/
theorem isolation_use {s s' : State} {n : Bytes} {tag : Nat} {r : Option Level}
    (h : stmt s (.use n tag) = .ok (s', r)) : s'.locals = s.locals ∧ s'.globals = s.globals := by
  simp only [stmt] at h
  exact use_tables (.inr h)

theorem isolation_use_local {s : State} {l : Table} {n : Bytes} {v : Int} {tag : Nat}
    (hd : s.depth ≠ 0) (hl : s.locals = some l) (hr : isReg n = false) (hv : l.find n = some (some v))
    (h0 : 0 ≤ v) (h1 : v < 4294967296) :
    stmt s (.use n tag) = .ok ({ s with log := .value tag v 0 :: s.log }, none) := by
  simp [stmt, doUse, applyUse, hr, State.hasCurrFile, hd, getConstant, hl, Table.get, hv, writeVal, h0, h1]

/-- C14.frame (upwards only by `.export`)  `.export n` leaves the file's own table alone and changes the includer's
table at most at `n`, where a previously unvalued or absent entry receives the file's own value of `n`. -/
theorem frame_export {s s' : State} {l : Table} {n : Bytes} {tag : Nat} {r : Option Level}
    (hl : s.locals = some l) (h : stmt s (.export n tag) = .ok (s', r)) :
    s'.locals = s.locals ∧ ∀ m, s'.globals.find m = s.globals.find m ∨
      (m = n ∧ (∀ w, s.globals.find n ≠ some (some w)) ∧
        ∃ v, l.find n = some (some v) ∧ s'.globals.find m = some (some v)) :=
  copyUp_frame hl (.inl h)

/-- C14.frame (upwards by `.global`, end of file)  the closure scheduled by `.global n` leaves the file's own table
alone and changes the includer's table at most at `n`, where an unvalued entry receives the file's own value. -/
theorem frame_global_task {s s' : State} {l : Table} {n : Bytes} {tag : Nat} {r : Option Level}
    (hl : s.locals = some l) (h : runTask s (.globalCopy n tag) = .ok (s', r)) :
    s'.locals = s.locals ∧ ∀ m, s'.globals.find m = s.globals.find m ∨
      (m = n ∧ (∀ w, s.globals.find n ≠ some (some w)) ∧
        ∃ v, l.find n = some (some v) ∧ s'.globals.find m = some (some v)) :=
  copyUp_frame hl (.inr h)

/-- C14.frame (upwards by `.global`, the statement)  `.global n` changes the file's own table at most at `n` (an absent
entry becomes "announced") and the includer's table at most at `n`, and only if the includer had no entry: it becomes
"announced", or at once the file's own value if the file already has one. -/
theorem frame_global {s s' : State} {l : Table} {n : Bytes} {tag : Nat} {r : Option Level}
    (hl : s.locals = some l) (h : stmt s (.global n tag) = .ok (s', r)) :
    (∃ l', s'.locals = some l' ∧ ∀ m, l'.find m = l.find m ∨ (m = n ∧ l.find n = none ∧ l'.find m = some none)) ∧
    (∀ m, s'.globals.find m = s.globals.find m ∨ (m = n ∧ s.globals.find n = none ∧
      (s'.globals.find m = some none ∨ ∃ v, l.find n = some (some v) ∧ s'.globals.find m = some (some v)))) :=
  doGlobal_frame hl h

/-- C14.frame (the other end-of-file task)  a rescheduled `.du32` never changes a table. -/
theorem frame_use_task {s s' : State} {n : Bytes} {c : Option Int} {tag : Nat} {g : Bool} {r : Option Level}
    (h : runTask s (.use n c tag g) = .ok (s', r)) : s'.locals = s.locals ∧ s'.globals = s.globals := by
  simp only [runTask] at h
  exact use_tables (.inl ⟨c, g, h⟩)

/-- C14.frame (deep tables)  no statement reaches below the two visible tables: the tables of the
includer's includer and further out are literally unchanged (`Eff.frames`; for a task: `eff_runTask`), so after
`enter … exit` only the includer's own table can differ (`frame_include`). -/
theorem frame_deep {s s' : State} {op : Op} {r : Option Level} (h : stmt s op = .ok (s', r)) :
    s'.frames = s.frames ∧ s'.depth = s.depth :=
  ⟨(eff_stmt h).frames, (eff_stmt h).depth⟩

/-! ## frame — a whole `enter … exit` run with nested includes

The include tree `Body` with `Body.flatten`, `Body.wf`, `Body.names`: `Lemmas/ScopeDefs.lean`. -/

/-- C14.frame (whole include)  A complete `.include` — `enter`, the included file's whole body with arbitrarily nested
includes, failed files and skipped statements, `exit` with the end-of-file tasks — from a running state of an open file
whose table is `L`.  With `C` the included file's own table when it is left, the includer's table afterwards is
`L ∪ {exported/global names with the child's values}`: every entry of `L'` is the entry of `L`, except at names the child
itself exports or declares global, where an absent or unvalued entry of `L` received the child's value `C[m]` (or an
absent entry became "announced": a `.global` whose value never arrived).  Nothing below moves: the includer's includer's
table, the frame stack, the depth and `global_tasks` are exactly as before (`tables s' = L' :: (tables s).tail`), and
`local_tasks` only received `.du32`s rescheduled by the child. -/
theorem frame_include {b : Body} (hw : b.wf) {s mid s' : State} {tag : Nat} {L : Table}
    (hi : Inv s) (hm : s.mode = .running) (hf : s.frames ≠ []) (hL : s.locals = some L)
    (h1 : run s (.enter tag :: b.flatten) = .ok mid) (h2 : step mid .exit = .ok s') :
    ∃ C L', mid.locals = some C ∧ s'.locals = some L' ∧
      (∀ m, L'.find m = L.find m ∨ (m ∈ b.names ∧ (∀ w, L.find m ≠ some (some w)) ∧
        ((∃ v, C.find m = some (some v) ∧ L'.find m = some (some v)) ∨ (L.find m = none ∧ L'.find m = some none)))) ∧
      s'.globals = s.globals ∧ s'.frames = s.frames ∧ s'.depth = s.depth ∧ tables s' = L' :: (tables s).tail ∧
      s'.globalTasks = s.globalTasks ∧
      (∃ add, s'.localTasks = s.localTasks.map (· ++ add) ∧ ∀ x ∈ add, ∃ n c t, x = .use n c t true) ∧
      (s'.mode = .running ∨ s'.mode = .stopped .fatal 0) := by
  obtain ⟨C, hC, ir⟩ := include_nested b (fun i' f' m' h' => body_rel b hw i' f' m' h') hi hf hm h1 h2
  obtain ⟨L0, L', hL0, hL', hu⟩ := ir.tabs
  rw [hL] at hL0; cases hL0
  obtain ⟨lt, add, hlt, hadd, hgu⟩ := ir.ltasks
  refine ⟨C, L', hC, hL', hu, ir.globals, ir.frames, ir.depth, ?_, ir.gtasks, ⟨add, by rw [hadd, hlt]; rfl, ?_⟩, ir.mode⟩
  · unfold tables; rw [hL', hL, ir.globals, ir.frames]; rfl
  · exact fun x hx => Task.isGU_iff.1 (hgu x hx)

/-- C14.frame (the root file)  The same for a file assembled from outside any file: the "includer's table" is the global
table, `locals` is `None` again afterwards. -/
theorem frame_include_root {b : Body} (hw : b.wf) {s mid s' : State} {tag : Nat}
    (hi : Inv s) (hm : s.mode = .running) (hf : s.frames = [])
    (h1 : run s (.enter tag :: b.flatten) = .ok mid) (h2 : step mid .exit = .ok s') :
    ∃ C, mid.locals = some C ∧ s'.locals = none ∧ s'.frames = [] ∧ s'.depth = s.depth ∧ s'.mode = .running ∧
      (∀ m, s'.globals.find m = s.globals.find m ∨ (m ∈ b.names ∧ (∀ w, s.globals.find m ≠ some (some w)) ∧
        ((∃ v, C.find m = some (some v) ∧ s'.globals.find m = some (some v)) ∨
          (s.globals.find m = none ∧ s'.globals.find m = some none)))) ∧
      ∃ add, s'.globalTasks = s.globalTasks ++ add ∧ ∀ x ∈ add, ∃ n c t, x = .use n c t true := by
  obtain ⟨C, hC, h3, h4, h5, h6, hu, add, hadd, hgu⟩ := include_root b hw hi hf hm h1 h2
  exact ⟨C, hC, h5, h3, h4, h6, hu, add, hadd, fun x hx => Task.isGU_iff.1 (hgu x hx)⟩

/-- C14.frame (a file's body, from inside)  Running the body of the current file (or the rest of it) — statements and
complete nested includes — keeps the frame stack, the depth and `global_tasks`; the file's own table only grows; the
includer's table (`globals`) changes only at names this file itself exports or declares global, as in `frame_include`. -/
theorem frame_body {b : Body} (hw : b.wf) {t t' : State} {C G : Table} (hi : Inv t) (hf : t.frames ≠ [])
    (hm : t.mode = .running ∨ ∃ l, t.mode = .stopped l 0) (hC : t.locals = some C) (hG : t.globals = G)
    (h : run t b.flatten = .ok t') :
    ∃ C', t'.locals = some C' ∧ C.le C' ∧
      (∀ m, t'.globals.find m = G.find m ∨ (m ∈ b.names ∧ (∀ w, G.find m ≠ some (some w)) ∧
        ((∃ v, C'.find m = some (some v) ∧ t'.globals.find m = some (some v)) ∨
          (G.find m = none ∧ t'.globals.find m = some none)))) ∧
      t'.frames = t.frames ∧ t'.depth = t.depth ∧ t'.globalTasks = t.globalTasks := by
  have br := body_rel b hw hi hf hm h
  obtain ⟨C0, C', hC0, hC', hle, hu⟩ := br.tabs
  rw [hC] at hC0; cases hC0
  subst hG
  exact ⟨C', hC', hle, hu, br.frames, br.depth, br.gtasks⟩

/-! ## isolation — whole runs: where a value in a file's table can come from

The chains `Up`, positions in a project `Reach`, the licence `Lic`, and `Body.imports`, `visible`: `Lemmas/ScopeDefs.lean`. -/

/-- C14.isolation (upwards, whole include)  After a complete `.include` every valued entry `(m, v)` of the includer's
table was there before, or the included file itself exports / declares global `m` and an `Up` chain of export/global
edges leads from it down to a file that defines `m = v`: values travel upwards only along such chains. -/
theorem isolation_include {b : Body} (hw : b.wf) {s mid s' : State} {tag : Nat} {L : Table}
    (hi : Inv s) (hm : s.mode = .running) (hf : s.frames ≠ []) (hL : s.locals = some L)
    (h1 : run s (.enter tag :: b.flatten) = .ok mid) (h2 : step mid .exit = .ok s') :
    ∃ L', s'.locals = some L' ∧ ∀ m v, L'.find m = some (some v) →
      L.find m = some (some v) ∨ (m ∈ b.names ∧ Up m v b) := by
  obtain ⟨C, L', hC, hL', hu, _⟩ := frame_include hw hi hm hf hL h1 h2
  exact ⟨L', hL', upd_prov b hw hi hm h1 hC (by simp [visible, hL]) hu⟩

/-- C14.isolation (upwards, the root file)  The same for the global table after a root file. -/
theorem isolation_include_root {b : Body} (hw : b.wf) {s mid s' : State} {tag : Nat}
    (hi : Inv s) (hm : s.mode = .running) (hf : s.frames = [])
    (h1 : run s (.enter tag :: b.flatten) = .ok mid) (h2 : step mid .exit = .ok s') :
    ∀ m v, s'.globals.find m = some (some v) →
      s.globals.find m = some (some v) ∨ (m ∈ b.names ∧ Up m v b) := by
  obtain ⟨C, hC, hl', _, _, _, hu, _⟩ := frame_include_root hw hi hm hf h1 h2
  have hl : s.locals = none := hi.locals_none hf
  exact upd_prov b hw hi hm h1 hC (by simp [visible, hl]) hu

/-- C14.isolation (a file's own table, whole body)  At any point of a file (after the part `b` of its body, with nested
includes), every valued entry `(m, v)` of its table is imported — the file has `.import m` and its includer had `m = v`
when the file was entered — or is the end of an `Up` chain starting in the file: a file sees only what it defines, what it
imports, and what the files it includes send up. -/
theorem isolation_file {b : Body} (hw : b.wf) {s mid : State} {tag : Nat} {C : Table} (hi : Inv s)
    (hm : s.mode = .running) (h1 : run s (.enter tag :: b.flatten) = .ok mid) (hC : mid.locals = some C)
    (m : Bytes) (v : Int) (hv : C.find m = some (some v)) :
    (b.imports m ∧ (visible s).find m = some (some v)) ∨ Up m v b :=
  file_prov b hw hi hm h1 hC m v hv

/-- C14.isolation (provenance, whole run)  At any position of a project — files `ctx` open one inside the other, each
with the part of its body run so far, started from a state `s0` outside any file — a name has a value in the current
file's table only via a chain of `.import` edges (upwards through the open includers, each at the time its file was
entered) followed by a chain of `.export`/`.global` edges (downwards through completed includes) ending at a definition
of that name with that value, or via `.import` edges all the way up to an entry of the initial global table.  So a name
defined only in file `F` resolves in a file `G ≠ F` only via such a chain from `G` to `F`. -/
theorem isolation_chain {s0 s : State} {ctx : List (Nat × Body)} (h0 : Inv s0) (hf0 : s0.frames = [])
    (hw : ∀ p ∈ ctx, p.2.wf) (hr : Reach s0 ctx s) (n : Bytes) (v : Int)
    (hv : (visible s).find n = some (some v)) : Lic n v s0.globals ctx :=
  (reach_lic h0 hf0 n v ctx hw hr).2 hv

/-- … from `Context::new()` the global table is empty: the chain always ends at a definition -/
theorem isolation_chain_init {s : State} {ctx : List (Nat × Body)} (hw : ∀ p ∈ ctx, p.2.wf)
    (hr : Reach init ctx s) (n : Bytes) (v : Int) (hv : (visible s).find n = some (some v)) :
    Lic n v [] ctx :=
  isolation_chain inv_init rfl hw hr n v hv

/-- C14.isolation (uses, converse of `isolation_use_local`)  Inside a file a `.du32 n` statement leaves the log alone,
pushes one diagnostic, or writes at once exactly the current file's valued entry for `n` — nothing else is read. -/
theorem isolation_use_resolves {s s' : State} {l : Table} {n : Bytes} {tag : Nat} {r : Option Level}
    (hd : s.depth ≠ 0) (hl : s.locals = some l) (h : stmt s (.use n tag) = .ok (s', r)) :
    s'.log = s.log ∨ (∃ k, s'.log = .diag tag k :: s.log) ∨
      (∃ v, l.find n = some (some v) ∧ s'.log = .value tag v 0 :: s.log) :=
  use_resolves hd hl h

/-- C14.isolation (resolution, whole run)  If at some position of a project started from `Context::new()` a `.du32 n`
statement of the current file writes the value `v` at once, then the chain condition `Lic n v [] ctx` holds: `n`
resolves only via `.import` edges upwards and `.export`/`.global` edges downwards to a definition `n = v`. -/
theorem isolation_resolve {s s' : State} {ctx : List (Nat × Body)} (hw : ∀ p ∈ ctx, p.2.wf) (hne : ctx ≠ [])
    (hr : Reach init ctx s) {n : Bytes} {tag : Nat} {r : Option Level} {v : Int}
    (h : stmt s (.use n tag) = .ok (s', r)) (hlog : s'.log = .value tag v 0 :: s.log) : Lic n v [] ctx := by
  obtain ⟨_, _, hd, l, _, hl, _, hvis⟩ := reach_inside hw hne hr
  rcases use_resolves hd hl h with h1 | ⟨k, h1⟩ | ⟨v', hv', h1⟩
  · rw [h1] at hlog
    have := congrArg List.length hlog
    simp at this
  · rw [h1] at hlog; cases hlog
  · rw [h1] at hlog; cases hlog
    exact isolation_chain_init hw hr n v (by rw [hvis]; exact hv')

/-! ## isolation — the RETRIES of a `.du32` (stage 1: the end of its file; stage 2: the includer's end / `finalize`)

`isolation_resolve` covers the value a `.du32 n` writes at once (stage 0).  A `.du32 n` whose name is not yet valued is
queued as a local task and retried when its file ends (stage 1); still unvalued, it is rescheduled into the includer's
list and retried once more when the INCLUDER's file ends — or, from the root file, by `finalize` (stage 2).
`Lemmas/ScopeRetry.lean`: a task never touches the table it reads; a cached value is one `u32::try_from` refused, in
every reachable state (`CInv`), so a retry that writes a value has just read it from the table. -/

/-- C14.reachable (cached values)  In every state reachable from `Context::new()` every queued `.du32` that carries a
cached value — in `global_tasks`, `local_tasks` or a list saved in a live `PathFrame` — caches a value out of `u32` range. -/
theorem reachable_cinv {ops : List Op} {s : State} (h : run init ops = .ok s) : CInv s :=
  cinv_run ops cinv_init h

/-- C14.isolation (retries, the end of a file)  At any position of a project started from `Context::new()` — files `ctx`
open one inside the other — let the current file end (`exit`: after a clean body, or after a trivial or fatal failure).
Everything this adds to the log is a diagnostic, or a value `v` written by the retry of a `.du32 n` statement `tag` of the
file's task list: at stage 1 if it was queued by the file itself, at stage 2 if an included file rescheduled it.  In both
cases the chain condition `Lic n v [] ctx` holds FOR THE FILE BEING LEFT: the retry resolves `n` in that file's own table,
so `n = v` reached it only via `.import` edges upwards and `.export`/`.global` edges downwards to a definition `n = v`. -/
theorem isolation_retry_exit {s s' : State} {ctx : List (Nat × Body)} (hw : ∀ p ∈ ctx, p.2.wf) (hne : ctx ≠ [])
    (hr : Reach init ctx s) (hm : s.mode = .running ∨ ∃ l, s.mode = .stopped l 0) (h : step s .exit = .ok s') :
    ∃ ts add, s.localTasks = some ts ∧ s'.log = add ++ s.log ∧ ∀ e ∈ add, (∃ tag k, e = .diag tag k) ∨
      ∃ n tag g v, Task.use n none tag g ∈ ts ∧ e = .value tag v (if g then 2 else 1) ∧ Lic n v [] ctx := by
  have hc := cinv_reach cinv_init ctx hr
  obtain ⟨_, _, hd, l, ts, hl, hts, hvis⟩ := reach_inside hw hne hr
  obtain ⟨res, hex⟩ := step_exit hm h
  obtain ⟨add, hadd, hev⟩ := retried_exit hd hl hts hex
  refine ⟨ts, add, hts, hadd, fun e he => ?_⟩
  rcases (hev e he).resolved (hc.ltasks ts hts) with hdg | ⟨n, tag, g, v, hmem, hval, hfind⟩
  · exact .inl hdg
  · exact .inr ⟨n, tag, g, v, hmem, hval, isolation_chain_init hw hr n v (by rw [hvis]; exact hfind)⟩

/-- C14.isolation (retries, `finalize`)  Outside any file, in a state reached from `Context::new()`: before its verdict
`finalize` adds to the log only diagnostics and the values of `.du32 n` statements rescheduled into the real global list,
each resolved in the GLOBAL table — whose valued entries come from `.export`/`.global` chains of the root files
(`isolation_include_root`). -/
theorem isolation_retry_finalize {ops : List Op} {s s' : State} (hrun : run init ops = .ok s) (hd : s.depth = 0)
    (hm : s.mode = .running) (h : step s .finalize = .ok s') :
    ∃ add b, s'.log = .done b :: (add ++ s.log) ∧ ∀ e ∈ add, (∃ tag k, e = .diag tag k) ∨
      ∃ n tag v, Task.use n none tag true ∈ s.globalTasks ∧ e = .value tag v 2 ∧
        s.globals.find n = some (some v) := by
  have hi := reachable_inv hrun
  have hc := reachable_cinv hrun
  have hfin : finalize s = .ok s' := by simpa only [step, hm] using h
  obtain ⟨add, b, hlog, hev⟩ := retried_finalize hi hd hfin
  refine ⟨add, b, hlog, fun e he => ?_⟩
  rcases (hev e he).resolved hc.gtasks with hdg | ⟨n, tag, g, v, hmem, hval, hfind⟩
  · exact .inl hdg
  · obtain ⟨_, _, _, e⟩ := Task.isGU_iff.1 (hi.root_gtasks hd _ hmem)
    cases e
    exact .inr ⟨n, tag, v, hmem, hval, hfind⟩

/-! ## isolation — what a file may hand UP to its includer

`isolation_retry_exit` says that a stage-2 retry resolves in the table of the file being left — which for a task handed
up by an included file is the INCLUDER of the file that contains the `.du32`.  The theorems below close the gap from the
other side: a file hands a `.du32 n` to its includer only if its OWN table has `n` announced (an entry without a value),
an entry arises announced only from the file's own `.import n` (of a name the includer has announced) or `.global n`
(or from a `.global` of a file it includes, `frame_global`), and a name the file has no entry for is `no such local
constant` at the end of the file — never looked up in the includer.  So the licence chain of a handed-up use starts at
the using file. -/

/-- C14.isolation (retries: unknown names stay in the file)  The retry of `.du32 n` at the end of its file (or in the
includer), for a name the table it reads has NO entry for, is the diagnostic `no such local constant`; nothing is handed
up, no table is read further out. -/
theorem isolation_retry_unannounced {s : State} {l : Table} {n : Bytes} {tag : Nat} {g : Bool}
    (hd : s.depth ≠ 0) (hl : s.locals = some l) (hr : isReg n = false) (hn : l.find n = none) :
    runTask s (.use n none tag g) = .ok (s.err tag .nfLocal, some .trivial) := by
  simp [runTask, runUse, applyUse, hr, State.hasCurrFile, hd, getConstant, hl, Table.get, hn]

/-- C14.isolation (retries: what is handed up)  At any position of a project started from `Context::new()`, let the
current file — table `l`, task list `ts` — end.  The list that receives what the file hands up (its includer's
`local_tasks`; the real global list for a root file) afterwards holds what it held before (`s.globalTasks`: while the
file is open the includer's list sits there) plus only tasks `use n _ tag true` that are the stage-2 form of one of the
file's OWN `.du32 n` retries, for names the file's own table has ANNOUNCED (`l.find n = some none`).  Together with
`isolation_retry_exit` (the value such a task later writes is licensed for the includer): a use handed up to the includer
resolves only to a name the using file had announced — imported or declared global — itself. -/
theorem isolation_retry_handed_up {s s' : State} {ctx : List (Nat × Body)} (hw : ∀ p ∈ ctx, p.2.wf) (hne : ctx ≠ [])
    (hr : Reach init ctx s) (hm : s.mode = .running ∨ ∃ l, s.mode = .stopped l 0) (h : step s .exit = .ok s') :
    ∃ l ts, s.locals = some l ∧ s.localTasks = some ts ∧
      ∀ t ∈ outTasks s', t ∈ s.globalTasks ∨
        ∃ n c c0 tag, t = .use n c tag true ∧ Task.use n c0 tag false ∈ ts ∧ l.find n = some none := by
  obtain ⟨_, hf, hd, l, ts, hl, hts, _⟩ := reach_inside hw hne hr
  obtain ⟨res, hex⟩ := step_exit hm h
  exact ⟨l, ts, hl, hts, handUp_exit hd hl hts hf hex⟩

/-- C14.isolation (where an announced entry comes from)  A statement of the file makes an entry of the file's own table
"announced" (present, no value) only if it is `.import m` of a name the includer has announced, or `.global m`. -/
theorem announce_origin {s s' : State} {l l' : Table} {op : Op} {r : Option Level} {m : Bytes}
    (hl : s.locals = some l) (h : stmt s op = .ok (s', r)) (hl' : s'.locals = some l') (hm : l'.find m = some none) :
    l.find m = some none ∨ (∃ tag, op = .import m tag ∧ s.globals.find m = some none) ∨ (∃ tag, op = .global m tag) := by
  obtain ⟨l'', e, hx⟩ := stmt_local hl h
  rw [hl'] at e; cases e
  rcases hx m with h1 | ⟨v, _, h1⟩ | ⟨hi, h1⟩ | ⟨tag, rfl, _, _⟩
  · exact .inl (h1 ▸ hm)
  · rw [h1] at hm; cases hm
  · cases op with
    | «import» n tag => cases (show n = m from hi); exact .inr (.inl ⟨tag, rfl, h1 ▸ hm⟩)
    | _ => exact False.elim hi
  · exact .inr (.inr ⟨tag, rfl⟩)

/-! ## export over an ANNOUNCED includer entry succeeds

`dup_export_existing` is the diagnostic for exporting over a VALUED entry of the includer.  If the includer's entry is
only announced (declared by `.global`, or imported while unvalued: present, no value) the export is accepted and fills
it — the README's "deferred constant receives its value".  Reading of the property's "exporting a name the includer
already has … always a diagnostic" that is proved: "already has WITH A VALUE". -/

/-- C14.export_fills_announced  `.export n` of a valued name over an includer entry that is announced but unvalued
succeeds without diagnostic: the includer's entry receives the file's value, the file continues, nothing else changes. -/
theorem export_fills_announced {s : State} {f : Saved} {fs : List Saved} {l : Table} {n : Bytes} {v : Int} {tag : Nat}
    (hm : s.mode = .running) (hf : s.frames = f :: fs) (hl : s.locals = some l)
    (hdef : l.find n = some (some v)) (hg : s.globals.find n = some none) (hr : isReg n = false) :
    step s (.export n tag) = .ok { s with globals := s.globals.set n (some v) } := by
  simp [step, hm, hf, stmt, doExport, getConstant, Table.get, hl, hdef, insertConstant, hr, hg]

/-- the names of the register file are reserved, case-insensitively; ordinary names are not -/
example : isReg (bytesOf "R0") = true ∧ isReg (bytesOf "sp") = true ∧ isReg (bytesOf "Control") = true ∧
    isReg (bytesOf "x") = false ∧ isReg (bytesOf "R16") = false := by decide

private def x : Bytes := bytesOf "x"

/-- a child exports `x`; the includer sees it with the child's value; a sibling starts empty and imports it -/
example : (run init [.enter 0, .enter 1, .const x 7 2, .export x 3, .exit, .use x 4, .enter 5, .use x 6, .exit,
      .exit, .finalize]).toOption.map (·.log.reverse) =
    some [.value 4 7 0, .diag 6 .nfLocal, .diag 5 .asmFailed, .done false] := by decide

example : (run init [.enter 0, .enter 1, .const x 7 2, .global x 3, .exit, .enter 5, .import x 6, .use x 7,
      .exit, .use x 8, .exit, .finalize]).toOption.map (·.log.reverse) =
    some [.value 7 7 0, .value 8 7 0, .done true] := by decide

/-- the hypotheses of the `dup_*` theorems are satisfiable (state after `enter; const x 1`) -/
example : ∃ s f fs l, run init [.enter 0, .const x 1 1] = .ok s ∧ s.mode = .running ∧ s.frames = f :: fs ∧
    s.locals = some l ∧ l.find x = some (some 1) ∧ isReg x = false :=
  ⟨{ depth := 1, globals := [], locals := some [(x, some 1)], globalTasks := [], localTasks := some [],
     frames := [{ count := 1, constants := none, tasks := none, tag := 0 }], mode := .running, log := [] },
   { count := 1, constants := none, tasks := none, tag := 0 }, [], [(x, some 1)],
   by rfl, rfl, rfl, rfl, by decide, by decide⟩

/-- panic freedom is not vacuous: histories that do reach the guarded sites run through — `.global` before and after
the value (the `unwrap`/`assert!` pair), a `.global` closure at the end of a file, a failed child, a `.du32` rescheduled
once by a `finalize` inside an open file and run in the loop's second round (`nfGlobal`, not queued again), an unbalanced
`exit` -/
example : (run init [.enter 0, .enter 1, .global x 2, .use x 3, .const x 7 4, .global (bytesOf "y") 5, .exit,
      .use x 6, .exit, .finalize]).toOption.map (·.log.reverse) =
    some [.value 3 7 1, .diag 5 .defLocal, .diag 1 .asmFailed, .done false] := by decide

example : (run init [.enter 0, .global x 1, .use x 2, .enter 3, .import x 4, .finalize, .exit, .exit, .exit,
      .finalize]).toOption.map (·.log.reverse) =
    some [.diag 1 .defLocal, .diag 2 .nfGlobal, .done false, .done false] := by decide

example : ∃ s, run init [.enter 0, .enter 1, .global x 2, .use x 3, .const x 7 4, .exit, .exit, .exit, .finalize] = .ok s :=
  panic_free _

/-- the hypotheses of `frame_include` / `frame_include_root` are satisfiable for EVERY include tree from every reachable
running state (panic freedom gives the two runs) … -/
example (b : Body) (tag : Nat) {s : State} (hi : Inv s) :
    ∃ mid s', run s (.enter tag :: b.flatten) = .ok mid ∧ step mid .exit = .ok s' := by
  obtain ⟨mid, h1, i1⟩ := run_ok (.enter tag :: b.flatten) hi
  obtain ⟨s', h2, _⟩ := step_ok .exit i1
  exact ⟨mid, s', h1, h2⟩

private def y : Bytes := bytesOf "y"
private def z : Bytes := bytesOf "z"

/-- … and a concrete tree: the child defines `x`, includes a grandchild that exports `y` to the child (not to the
includer), exports `x`, declares `z` global without ever defining it, and re-exports nothing else: the includer, which had
announced `x`, ends with `x = 7` from the child, `z` announced, and no `y` -/
private def child : Body :=
  .stmt (.const x 7 2) (.incl 10 (.stmt (.const y 5 11) (.stmt (.export y 12) .nil))
    (.stmt (.export x 3) (.stmt (.global z 4) (.stmt (.use y 5) .nil))))

example : child.wf ∧ child.names = [x, z] := by simp [child, Body.wf, Body.names, Op.isStmt, Op.names]

example : (run init ([.enter 0, .global x 1, .enter 1] ++ child.flatten ++ [.exit])).toOption.map (·.locals) =
      some (some [(x, some 7), (z, none)]) ∧
    (run init ([.enter 0, .global x 1, .enter 1] ++ child.flatten ++ [.exit])).toOption.map (·.globals) =
      some [(x, none)] := by decide

/-- provenance is not vacuous: the root defines `x`, includes a file that defines and exports `y`; a second included
file (still open) imports `y`: its table has `y = 5`, licensed by the chain import ↑ root ↓ export ↓ definition -/
private def rootPre : Body :=
  .stmt (.const x 7 1) (.incl 2 (.stmt (.const y 5 3) (.stmt (.export y 4) .nil)) .nil)
private def childPre : Body := .stmt (.import y 6) .nil
private def st (ops : List Op) : State :=
  match run init ops with
  | .ok s => s
  | .error _ => init

example : Reach init [(5, childPre), (0, rootPre)]
      (st (.enter 0 :: rootPre.flatten ++ .enter 5 :: childPre.flatten)) ∧
    (visible (st (.enter 0 :: rootPre.flatten ++ .enter 5 :: childPre.flatten))).find y = some (some 5) ∧
    Lic y 5 [] [(5, childPre), (0, rootPre)] ∧ ¬ Lic x 7 [] [(5, childPre), (0, rootPre)] ∧
    (∃ s' r, stmt (st (.enter 0 :: rootPre.flatten ++ .enter 5 :: childPre.flatten)) (.use y 9) = .ok (s', r) ∧
      s'.log = .value 9 5 0 :: (st (.enter 0 :: rootPre.flatten ++ .enter 5 :: childPre.flatten)).log) := by
  refine ⟨⟨st (.enter 0 :: rootPre.flatten), ⟨init, rfl, rfl, by rfl⟩, by rfl, by rfl⟩, by decide, ?_, ?_,
    ⟨_, _, by rfl, by rfl⟩⟩
  · exact .inr ⟨.inl rfl, .inl (.later (.child (by simp [Body.names, Op.names]) (.here ⟨rfl, rfl⟩)))⟩
  · intro h
    rcases h with h | ⟨h, _⟩
    · cases h with
      | here h => exact h
      | later h => cases h
    · rcases h with h | h
      · have h : y = x := h
        exact absurd h (by decide)
      · exact h

/-- the retries are not vacuous: the child's `.du32 x` is written at stage 1 once the child defined `x` later in the same
file; the child's `.du32 y` (with `y` imported while the includer has only announced it) at stage 2, by the includer's
task loop, after the includer defined `y` below the `.include` -/
example : (run init [.enter 0, .global y 9, .enter 1, .use x 2, .import y 8, .use y 3, .const x 7 4, .exit,
      .const y 5 5, .exit, .finalize]).toOption.map (·.log.reverse) =
    some [.value 2 7 1, .value 3 5 2, .done true] := by decide

private def q : Bytes := bytesOf "q"

/-- a local of the includer is not visible below: `q` is defined only in the includer; the included file's `.du32 q` is
`no such local constant` at the end of that file (stage 1), it is never handed up -/
example : (run init [.enter 0, .const q 5 1, .enter 2, .use q 3, .exit, .use q 4, .exit, .finalize]).toOption.map
      (·.log.reverse) = some [.diag 3 .nfLocal, .diag 2 .asmFailed, .done false] := by decide

/-- handing up needs an announced entry: the includer announces `q` (`.global`), the included file imports it while
unvalued and uses it, the includer defines it afterwards — the use is written at stage 2 -/
example : (run init [.enter 0, .global q 1, .enter 2, .import q 3, .use q 4, .exit, .const q 9 5, .exit,
      .finalize]).toOption.map (·.log.reverse) = some [.value 4 9 2, .done true] := by decide

/-- `export_fills_announced` on a run: the includer announces `q`, the included file defines and exports it: accepted,
the includer sees the child's value -/
example : (run init [.enter 0, .global q 1, .enter 2, .const q 7 3, .export q 4, .exit, .use q 5, .exit,
      .finalize]).toOption.map (·.log.reverse) = some [.value 5 7 0, .done true] := by decide

end Trion.Scope
