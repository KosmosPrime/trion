import TrionModel.Lemmas.ParseStmt
import TrionModel.Props.C09
import TrionModel.Props.C12Layout
/-!
# C09 at TEXT level — every layout of a rendered tree parses to the tree

`Props/C09.lean` proves the parser theorems on token lists whose VALUES are the rendering of a tree. Here they
are composed with the exact layout theorem of the tokenizer (`Lex.layout_tokens`, `Props/C12Layout.lean`):
the input is a TEXT — any well-formed layout `L`/`trail` (`Lex.LOk`: any separator text incl. line comments and
nested block comments between the tokens, any accepted spelling of each token: zero-padded / any-radix numbers,
character literals for numbers, strings with escapes …) whose token values are the rendering — and the result
is `Parse.all (Lex.tokens text)`.
-/
namespace Trion.Parse
open Trion.Lex (LTok LOk ltext ltoks Spell Exact)

/-- C09.T1 `parse_text`  **Every token spacing.** For every list of well-formed statements `evs` and EVERY
layout of their rendered token values, tokenizing the text and parsing the result yields exactly those statements
in order, without error. (The last conjunct is a WEAK position statement: it only says that
each element sits at some offset where a `.`/identifier spelling starts; the exact statement is `parse_text_exact`.) -/
theorem parse_text (evs : List ElemVal) (hwf : ∀ ev ∈ evs, ev.wf) (L : List LTok) (trail : Bytes) (hL : LOk L trail)
    (hv : L.map (·.tok) = (evs.map Render.elemVal).flatten) :
    ∃ out els, Lex.tokens (ltext L trail) = .ok out ∧ all out = .done els none ∧ els.map (·.val) = evs ∧
      ∀ el ∈ els, ∃ o e, o < e ∧ e ≤ (ltext L trail).length ∧
        (∃ t, Spell (((ltext L trail).take e).drop o) t (ltext L trail)[e]? ∧ (t = .dirMark ∨ ∃ s, t = .ident s)) ∧
        (el.line, el.col) = Pos.of ((ltext L trail).take o) := by
  have hlex := Lex.layout_tokens L trail hL
  have hvals : (ltoks [] L).map (·.val) = (evs.map Render.elemVal).flatten := by rw [Lex.ltoks_vals, hv]
  obtain ⟨els, hall, hels⟩ := all_of_vals evs hwf (ltoks [] L) hvals (Pos.of (ltext L trail)).1 (Pos.of (ltext L trail)).2
  refine ⟨_, els, hlex, hall, hels, ?_⟩
  have hex : Exact (ltext L trail) 0 (ltoks [] L) := by simpa using Lex.layout_exact L trail hL []
  obtain ⟨firsts, _, h2, _, h4⟩ := Lex.stmt_pos_exact _ _ hex els none hall
  intro el hel
  have : (el.line, el.col) ∈ els.map (fun e => (e.line, e.col)) := List.mem_map.mpr ⟨el, hel, rfl⟩
  rw [h2] at this
  obtain ⟨t, ht, hpos⟩ := List.mem_map.mp this
  obtain ⟨hkind, o, e, h5, h6, h7, h8⟩ := h4 t ht
  exact ⟨o, e, h5, h6, ⟨t.val, h7, hkind⟩, by rw [← hpos]; exact h8⟩

/-- C09.T1' `parse_text_exact`  **Every token spacing, exact positions.** As `parse_text`, and the elements are
located exactly (`Parse.StmtsAt`, `Lemmas/ParseSegs.lean`; see `Lex.stmt_pos_segments`): the run cuts the tokens into
consecutive segments that cover ALL tokens of the layout (leftover `[]`), element `i` is read from segment `i`, whose
first token — the `.` or the name / label identifier — is spelled by `text[oᵢ, eᵢ)` after separator text, and element
`i` carries `Pos.of (text.take oᵢ)`; this segmentation is unique (`Lex.stmt_pos_determined`). -/
theorem parse_text_exact (evs : List ElemVal) (hwf : ∀ ev ∈ evs, ev.wf) (L : List LTok) (trail : Bytes) (hL : LOk L trail)
    (hv : L.map (·.tok) = (evs.map Render.elemVal).flatten) :
    ∃ out els, Lex.tokens (ltext L trail) = .ok out ∧ all out = .done els none ∧ els.map (·.val) = evs ∧
      StmtsAt (ltext L trail) out 0 out.toks els [] := by
  have hlex := Lex.layout_tokens L trail hL
  have hvals : (ltoks [] L).map (·.val) = (evs.map Render.elemVal).flatten := by rw [Lex.ltoks_vals, hv]
  obtain ⟨els, hall, hels⟩ := all_of_vals evs hwf (ltoks [] L) hvals (Pos.of (ltext L trail)).1 (Pos.of (ltext L trail)).2
  have hex : Exact (ltext L trail) 0 (ltoks [] L) := by simpa using Lex.layout_exact L trail hL []
  obtain ⟨left, hs, hl⟩ := Lex.stmt_pos_segments _ _ hex els none hall
  rw [hl rfl] at hs
  exact ⟨_, els, hlex, hall, hels, hs⟩

/-- C09.T2 `parens_text`  **Redundant parentheses, at text level.** For every way `p` of adding parentheses to an
expression and every layout of `Render.parg 0 p` followed by a token that ends an expression and anything else,
`parse_binary(BitOr)` on the tokenizer's output reads back the tree without the redundant parentheses and stops
at that token. -/
theorem parens_text (p : PArg) (hwf : p.wf) (stopv : Tok) (hstop : stopv.isStop = true) (restv : List Tok)
    (L : List LTok) (trail : Bytes) (hL : LOk L trail) (hv : L.map (·.tok) = Render.parg 0 p ++ stopv :: restv)
    (st : Nat × Nat) :
    ∃ out ts stop rest, Lex.tokens (ltext L trail) = .ok out ∧ out.toks = ts ++ stop :: rest ∧
      ts.map (·.val) = Render.parg 0 p ∧ stop.val = stopv ∧ rest.map (·.val) = restv ∧
      binary out .bitOr st out.toks = .ok (p.erase, stop :: rest) := by
  have hlex := Lex.layout_tokens L trail hL
  have hvals : (ltoks [] L).map (·.val) = Render.parg 0 p ++ stopv :: restv := by rw [Lex.ltoks_vals, hv]
  obtain ⟨ts, tb, hsplit, hts, htb⟩ := exists_of_map_eq_append hvals
  cases tb with
  | nil => simp at htb
  | cons stop rest =>
    simp only [List.map_cons, List.cons.injEq] at htb
    refine ⟨_, ts, stop, rest, hlex, hsplit, hts, htb.1, htb.2, ?_⟩
    show binary _ .bitOr st (ltoks [] L) = _
    rw [hsplit]
    exact parens_redundant _ st p hwf ts hts stop (by rw [htb.1]; exact hstop) rest

/-- C09.T3  the minimal rendering is the special case without redundant parentheses -/
theorem expr_text (t : Arg) (hwf : t.wf) (stopv : Tok) (hstop : stopv.isStop = true) (restv : List Tok)
    (L : List LTok) (trail : Bytes) (hL : LOk L trail) (hv : L.map (·.tok) = Render.arg 0 t ++ stopv :: restv)
    (st : Nat × Nat) :
    ∃ out ts stop rest, Lex.tokens (ltext L trail) = .ok out ∧ out.toks = ts ++ stop :: rest ∧
      binary out .bitOr st out.toks = .ok (t, stop :: rest) := by
  obtain ⟨out, ts, stop, rest, hlex, hsplit, _, _, _, hbin⟩ :=
    parens_text (PArg.ofArg t) (wf_ofArg t hwf) stopv hstop restv L trail hL (by rw [parg_ofArg]; exact hv) st
  rw [erase_ofArg] at hbin
  exact ⟨out, ts, stop, rest, hlex, hsplit, hbin⟩

/-- C09.T4 `instruction_text_parens`  An instruction statement written with redundant parentheses anywhere in
its arguments, in any layout: `do_next` on the tokenizer's output reads the instruction with the parentheses
erased, positioned at the specified position of its name. -/
theorem instruction_text_parens (name : Bytes) (as : PArgs) (hwf : as.wf) (x : LTok) (r : List LTok) (trail : Bytes)
    (hL : LOk (x :: r) trail) (hx : x.tok = .ident name) (hv : r.map (·.tok) = Render.pargs as ++ [.term]) :
    ∃ out first rest, Lex.tokens (ltext (x :: r) trail) = .ok out ∧ out.toks = first :: rest ∧
      (first.line, first.col) = Pos.of x.sep ∧
      element out first rest = .ok (⟨first.line, first.col, .instruction name as.erase⟩, []) := by
  have hlex := Lex.layout_tokens (x :: r) trail hL
  have hvals : (ltoks ([] ++ x.sep ++ x.spell) r).map (·.val) = Render.pargs as ++ [.term] := by rw [Lex.ltoks_vals, hv]
  obtain ⟨ta, tb, hsplit, hta, htb⟩ := exists_of_map_eq_append hvals
  match tb, htb with
  | [tt], htb =>
    simp only [List.map_cons, List.map_nil, List.cons.injEq, and_true] at htb
    refine ⟨_, ⟨(Pos.of ([] ++ x.sep)).1, (Pos.of ([] ++ x.sep)).2, x.tok⟩, ltoks ([] ++ x.sep ++ x.spell) r, hlex, rfl,
      by simp, ?_⟩
    rw [hsplit]
    exact stmt_roundtrip_parens _ name as hwf _ tt ta [] hx hta htb
  | [], htb => simp at htb
  | _ :: _ :: _, htb => simp at htb

/-! ### non-vacuity: `ADD R0, (1 + 2) * 3;` with comments, zero-padded / hexadecimal / character-literal numbers -/

def addL : List LTok :=
  [⟨47 :: 42 :: ([32, 0xC3, 0xA9, 32, 42, 47] : Bytes) ++ [32], bytesOf "ADD", .ident (bytesOf "ADD")⟩,
   ⟨[32], bytesOf "R0", .ident (bytesOf "R0")⟩,
   ⟨[], bytesOf ",", .sep⟩,
   ⟨47 :: 47 :: bytesOf " x" ++ [10], bytesOf "(", .lparen⟩,
   ⟨[], Lex.radixPrefix 10 ++ bytesOf "001", .num 1⟩,
   ⟨[], bytesOf "+", .plus⟩,
   ⟨[], Lex.radixPrefix 16 ++ bytesOf "2", .num 2⟩,
   ⟨[], bytesOf ")", .rparen⟩,
   ⟨[], bytesOf "*", .mul⟩,
   ⟨47 :: 42 :: bytesOf "*/", [39, 92, 39, 39], .num 39⟩,
   ⟨[], bytesOf ";", .term⟩]

example : addL.map (·.tok) = (.ident (bytesOf "ADD")) ::
    Render.pargs (.cons (.ident (bytesOf "R0")) (.cons (.bin .mul (.paren (.bin .add (.const 1) (.const 2))) (.const 39)) .nil))
      ++ [.term] := by decide

theorem addL_ok : LOk addL [] := by
  have fsp : Lex.Follow (some 32) := by intro b hb; cases hb; decide
  refine ⟨?_, Spell.ident _ _ (by decide) fsp, Lex.isSep_ws [32] (by decide),
    Spell.ident _ _ (by decide) (by intro b hb; cases hb; decide), Lex.IsSep.nil,
    Spell.punct 44 _ _ (by decide) (by decide), Lex.isSep_line _ (by decide) (Lex.utf8_of_ascii _ (by decide)),
    Spell.punct 40 _ _ (by decide) (by decide), Lex.IsSep.nil,
    Spell.num 10 _ 1 _ (by omega) (by decide) (by decide) (by decide) (by intro b hb; cases hb; decide), Lex.IsSep.nil,
    Spell.punct 43 _ _ (by decide) (by decide), Lex.IsSep.nil,
    Spell.num 16 _ 2 _ (by omega) (by decide) (by decide) (by decide) (by intro b hb; cases hb; decide), Lex.IsSep.nil,
    Spell.punct 41 _ _ (by decide) (by decide), Lex.IsSep.nil,
    Spell.punct 42 _ _ (by decide) (by decide),
    Lex.isSep_block _ (Lex.inside_of_insideB _ 0 (by decide)) (Lex.utf8_of_ascii _ (by decide)),
    Spell.chrEsc 39 39 _ (by decide), Lex.IsSep.nil, Spell.punct 59 _ _ (by decide) (by decide), Or.inl Lex.IsSep.nil⟩
  exact Lex.isSep_append (Lex.isSep_block [32, 0xC3, 0xA9, 32, 42, 47] (Lex.inside_of_insideB _ 0 (by decide))
    (Lex.utf8_ascii_cons 32 (by decide) (Lex.utf8_e9 [32, 42, 47] (Lex.utf8_of_ascii [32, 42, 47] (by decide)))))
    (Lex.isSep_ws [32] (by decide))

/-- the text `/* é */ ADD R0,// x␊(001+0x2)*/**/'\'';` is read as `ADD R0, (1 + 2) * 39` at 1:9 -/
example : ∃ out first rest, Lex.tokens (ltext addL []) = .ok out ∧ out.toks = first :: rest ∧
    (first.line, first.col) = (1, 9) ∧
    element out first rest = .ok (⟨first.line, first.col, .instruction (bytesOf "ADD")
      (.cons (.ident (bytesOf "R0")) (.cons (.bin .mul (.bin .add (.const 1) (.const 2)) (.const 39)) .nil))⟩, []) := by
  obtain ⟨out, first, rest, h1, h2, h3, h4⟩ := instruction_text_parens (bytesOf "ADD")
    (.cons (.ident (bytesOf "R0")) (.cons (.bin .mul (.paren (.bin .add (.const 1) (.const 2))) (.const 39)) .nil))
    (by simp [PArgs.wf, PArg.wf, i64Max]; decide) _ _ [] addL_ok rfl (by decide)
  exact ⟨out, first, rest, h1, h2, by rw [h3]; decide, h4⟩

end Trion.Parse
