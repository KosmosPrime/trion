import TrionModel.Props.C07
import TrionModel.Props.C09Text
/-!
# C07 at TEXT level — "according to the documented precedence"

`Props/C07.lean` is about argument TREES; `Props/C09Text.lean` is about texts and trees. This file closes the
remaining clause of C07 — *an expression over integer literals evaluates … according to the documented
precedence* — by composing the two, and by tying the printer's precedence table to an INDEPENDENT transcription
of the list in `/repo/README.md` ("in order of highest precedence first": unary `-` `!`; `* / %`; `+ -`; `<< >>`;
`&`; `^`; `|`):

* `Doc.level` is that list, written out operator by operator (it mentions neither `BinOp.group` nor the parser);
  `doc_level_is_group` proves that the parser model's / printer's table `BinOp.group` IS that list, and
  `doc_render_eq` that the printer `Render.arg` is the printer `Doc.render` defined from `Doc.level` alone.
-/
namespace Trion.Doc

/-- the README's list, highest precedence first, as binding strengths: `* / %` 5, `+ -` 4, `<< >>` 3, `&` 2,
`^` 1, `|` 0 (unary operators, literals and bracketed forms bind tighter than any binary operator: 6) -/
def level : BinOp → Nat
  | .mul => 5 | .div => 5 | .mod => 5
  | .add => 4 | .sub => 4
  | .shl => 3 | .shr => 3
  | .band => 2
  | .bxor => 1
  | .bor => 0

/-- the table used by the parser model and by `Render` is the documented one -/
theorem doc_level_is_group (op : BinOp) : op.group.toNat = level op := by
  cases op <;> rfl

/-- the documented table is strictly ordered as the README lists it -/
example : level .mul = level .div ∧ level .div = level .mod ∧ level .mod > level .add ∧ level .add = level .sub ∧
    level .sub > level .shl ∧ level .shl = level .shr ∧ level .shr > level .band ∧ level .band > level .bxor ∧
    level .bxor > level .bor := by decide

mutual
/-- the minimal-parentheses printer of an expression, from `level` alone: a binary node of level `g` is put in
parentheses iff the context requires more than `g`; it requires `g` of its left and `g + 1` of its right operand
(left associativity); unary operators require 6 -/
def render (m : Nat) : Arg → List Tok
  | .const v => [.num v]
  | .ident s => [.ident s]
  | .str s => [.str s]
  | .bin op l r =>
    Render.paren (decide (level op < m)) (render (level op) l ++ op.tok :: render (level op + 1) r)
  | .neg a => .minus :: render 6 a
  | .not a => .not :: render 6 a
  | .addr a => .lbrack :: render 0 a ++ [.rbrack]
  | .seq as => .lbrace :: renders as ++ [.rbrace]
  | .func name as => .ident name :: .lparen :: renders as ++ [.rparen]
def renders : Args → List Tok
  | .nil => []
  | .cons a .nil => render 0 a
  | .cons a (.cons b bs) => render 0 a ++ .sep :: renders (.cons b bs)
end

mutual
theorem doc_render_eq (m : Nat) (t : Arg) : render m t = Render.arg m t := by
  cases t with
  | const v => simp [render, Render.arg]
  | ident s => simp [render, Render.arg]
  | str s => simp [render, Render.arg]
  | bin op l r =>
    simp only [render, Render.arg, doc_level_is_group]
    rw [doc_render_eq (level op) l, doc_render_eq (level op + 1) r]
  | neg a => simp only [render, Render.arg]; rw [doc_render_eq 6 a]
  | not a => simp only [render, Render.arg]; rw [doc_render_eq 6 a]
  | addr a => simp only [render, Render.arg]; rw [doc_render_eq 0 a]
  | seq as => simp only [render, Render.arg]; rw [doc_renders_eq as]
  | func name as => simp only [render, Render.arg]; rw [doc_renders_eq as]
theorem doc_renders_eq (as : Args) : renders as = Render.args as := by
  match as with
  | .nil => simp [renders, Render.args]
  | .cons a .nil => simp only [renders, Render.args]; exact doc_render_eq 0 a
  | .cons a (.cons b bs) =>
    simp only [renders, Render.args]
    rw [doc_render_eq 0 a, doc_renders_eq (.cons b bs)]
end

end Trion.Doc

namespace Trion.Arith
/-- every literal of the tree is non-negative: what a text can write (`-5` is the tree `neg (const 5)`) -/
def nonnegLits : Arg → Bool
  | .const v => decide (0 ≤ v)
  | .bin _ l r => nonnegLits l && nonnegLits r
  | .neg a => nonnegLits a
  | .not a => nonnegLits a
  | _ => true
end Trion.Arith

namespace Trion.Simp
open Trion
open Trion.Lex (LTok LOk ltext)

theorem wf_of_closed_nonneg : ∀ (t : Arg), Arith.closed t = true → Arith.nonnegLits t = true → t.wf
  | .const v, hc, hn => by
    simp only [Arith.closed, Arith.fits, Bool.and_eq_true, decide_eq_true_eq] at hc
    simp only [Arith.nonnegLits, decide_eq_true_eq] at hn
    simp only [Arg.wf, i64Max]; omega
  | .bin _ l r, hc, hn => by
    simp only [Arith.closed, Bool.and_eq_true] at hc
    simp only [Arith.nonnegLits, Bool.and_eq_true] at hn
    exact ⟨wf_of_closed_nonneg l hc.1 hn.1, wf_of_closed_nonneg r hc.2 hn.2⟩
  | .neg a, hc, hn => by
    simp only [Arith.closed] at hc; simp only [Arith.nonnegLits] at hn
    exact wf_of_closed_nonneg a hc hn
  | .not a, hc, hn => by
    simp only [Arith.closed] at hc; simp only [Arith.nonnegLits] at hn
    exact wf_of_closed_nonneg a hc hn
  | .ident _, hc, _ => by simp [Arith.closed] at hc
  | .str _, hc, _ => by simp [Arith.closed] at hc
  | .addr _, hc, _ => by simp [Arith.closed] at hc
  | .seq _, hc, _ => by simp [Arith.closed] at hc
  | .func _ _, hc, _ => by simp [Arith.closed] at hc

/-- C07.T1  **Documented precedence.** Every text that writes the literal expression `t` with exactly
the parentheses the documented precedence table (`Doc.level`, left associative) requires — in any layout — is read
and evaluated to `t`'s exact value, or to an overflow error exactly when exact arithmetic errs. -/
theorem text_value (lk : Bytes → Lookup) (isReg : Bytes → Bool) (t : Arg)
    (hc : Arith.closed t = true) (hn : Arith.nonnegLits t = true) (hs : Arith.inScope t = true)
    (stopv : Tok) (hstop : stopv.isStop = true) (restv : List Tok)
    (L : List LTok) (trail : Bytes) (hL : LOk L trail) (hv : L.map (·.tok) = Doc.render 0 t ++ stopv :: restv)
    (st : Nat × Nat) (v : Int) :
    ∃ out a rest, Lex.tokens (ltext L trail) = .ok out ∧ Parse.binary out .bitOr st out.toks = .ok (a, rest) ∧
      ((∃ ch, evaluate lk isReg a = .ok (⟨ch, none⟩, .const v)) ↔ Arith.eval t = .ok v) ∧
      ((∃ k, evaluate lk isReg a = .err (.simp (.overflow k))) ↔ ∃ e, Arith.eval t = .error e) := by
  rw [Doc.doc_render_eq] at hv
  obtain ⟨out, ts, stop, rest, hlex, _, hbin⟩ :=
    Parse.expr_text t (wf_of_closed_nonneg t hc hn) stopv hstop restv L trail hL hv st
  exact ⟨out, t, stop :: rest, hlex, hbin, closed_eval lk isReg t hc hs v⟩

/-- C07.T2  The same for every way `p` of adding redundant parentheses to `t`. -/
theorem text_value_parens (lk : Bytes → Lookup) (isReg : Bytes → Bool) (p : PArg) (hwf : p.wf)
    (hc : Arith.closed p.erase = true) (hs : Arith.inScope p.erase = true)
    (stopv : Tok) (hstop : stopv.isStop = true) (restv : List Tok)
    (L : List LTok) (trail : Bytes) (hL : LOk L trail) (hv : L.map (·.tok) = Render.parg 0 p ++ stopv :: restv)
    (st : Nat × Nat) (v : Int) :
    ∃ out a rest, Lex.tokens (ltext L trail) = .ok out ∧ Parse.binary out .bitOr st out.toks = .ok (a, rest) ∧
      ((∃ ch, evaluate lk isReg a = .ok (⟨ch, none⟩, .const v)) ↔ Arith.eval p.erase = .ok v) ∧
      ((∃ k, evaluate lk isReg a = .err (.simp (.overflow k))) ↔ ∃ e, Arith.eval p.erase = .error e) := by
  obtain ⟨out, ts, stop, rest, hlex, _, _, _, _, hbin⟩ :=
    Parse.parens_text p hwf stopv hstop restv L trail hL hv st
  exact ⟨out, p.erase, stop :: rest, hlex, hbin, closed_eval lk isReg p.erase hc hs v⟩

/-! ### non-vacuity: the text `1+ 0x2*3;` (no parentheses needed: `*` binds tighter than `+`) -/

def exL : List LTok :=
  [⟨[], Lex.radixPrefix 10 ++ bytesOf "1", .num 1⟩,
   ⟨[], bytesOf "+", .plus⟩,
   ⟨[32], Lex.radixPrefix 16 ++ bytesOf "2", .num 2⟩,
   ⟨[], bytesOf "*", .mul⟩,
   ⟨[], Lex.radixPrefix 10 ++ bytesOf "3", .num 3⟩,
   ⟨[], bytesOf ";", .term⟩]

def exT : Arg := .bin .add (.const 1) (.bin .mul (.const 2) (.const 3))

example : exL.map (·.tok) = Doc.render 0 exT ++ [.term] := by decide

theorem exL_ok : LOk exL [] := by
  open Trion.Lex in
  exact ⟨IsSep.nil, Spell.num 10 _ 1 _ (by omega) (by decide) (by decide) (by decide) (by intro b hb; cases hb; decide),
    IsSep.nil, Spell.punct 43 _ _ (by decide) (by decide), isSep_ws [32] (by decide),
    Spell.num 16 _ 2 _ (by omega) (by decide) (by decide) (by decide) (by intro b hb; cases hb; decide),
    IsSep.nil, Spell.punct 42 _ _ (by decide) (by decide), IsSep.nil,
    Spell.num 10 _ 3 _ (by omega) (by decide) (by decide) (by decide) (by intro b hb; cases hb; decide),
    IsSep.nil, Spell.punct 59 _ _ (by decide) (by decide), Or.inl IsSep.nil⟩

/-- `1+ 0x2*3;` is read and evaluated to 7 = 1 + (2 * 3), not (1 + 2) * 3 = 9 -/
example : ∃ out a rest, Lex.tokens (ltext exL []) = .ok out ∧ Parse.binary out .bitOr (1, 1) out.toks = .ok (a, rest) ∧
    ∃ ch, evaluate (fun _ => .notFound) (fun _ => false) a = .ok (⟨ch, none⟩, .const 7) := by
  obtain ⟨out, a, rest, h1, h2, h3, _⟩ := text_value (fun _ => .notFound) (fun _ => false) exT rfl rfl rfl
    .term rfl [] exL [] exL_ok (by decide) (1, 1) 7
  exact ⟨out, a, rest, h1, h2, h3.mpr rfl⟩

end Trion.Simp
