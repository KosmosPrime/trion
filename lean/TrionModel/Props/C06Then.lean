import TrionModel.Lemmas.C06Deep
import TrionModel.Lemmas.C06InstrUndef
import TrionModel.Lemmas.C06Retry
import TrionModel.Props.C06Kind
/-!
# C06, third clause — the diagnosed statement may be FOLLOWED BY ANYTHING and PRECEDED by any statements that returned `Ok`

`AtAny fs main el S`: the main file parses to `pre ++ el :: post`, `pre` ran without an error result to `S` (which may hold
queued tasks and diagnostics of Trivial level … anything).  `ReportedIn fs main el`: every finished run is NOT a success and
has a diagnostic in file `main` at the line and column of `el` (later statements may add their own); both are defined in
Lemmas/C06Run.lean.  A recorded diagnostic is never removed (`Keeps`, Lemmas/AsmAdds.lean; through statements, `.include`,
tasks, both task loops and `finalize`: `fileBody_through`, `run_keeps`).  The theorems for the single classes are those of Props/C06Kind.lean
without the kind.  By C06 `run_cases` a run is finished unless the include depth is exceeded (`.fuel`, K2).
-/
namespace Trion.C06
open Trion Trion.Asm Trion.Front Trion.C04

theorem At.any {fs : Bytes → Option Bytes} {main : Bytes} {el : Element} {S : Asm.St} (h : At fs main el S) : AtAny fs main el S := by
  obtain ⟨data, els, perr, pre, post, h1, h2, h3, h4, _⟩ := h
  exact ⟨data, els, perr, pre, post, h1, h2, h3, h4⟩

/-- C06t.0  the generic statement -/
theorem reportedIn_of {fs : Bytes → Option Bytes} {main : Bytes} {el : Element} {S : Asm.St} (h : AtAny fs main el S)
    (hK : ∀ S1 r1, Asm.statement fs Asm.encoder (incOf fs) (envOf main) S el = .ok (S1, r1) →
      ∃ d ∈ S1.errors, d.file = main ∧ d.line = el.line ∧ d.col = el.col) : ReportedIn fs main el := by
  obtain ⟨data, els, perr, pre, post, hfs, hp, hels, hpre⟩ := h
  exact run_stmt_reported fs main data hfs els perr hp pre post el hels S hpre hK

/-- C06t.1  every class of `Props/C06Invalid.lean` whose statement just records one diagnostic: the prefix need not be
quiet -/
theorem reportedIn_of_push {fs : Bytes → Option Bytes} {main : Bytes} {el : Element} {S : Asm.St} (h : AtAny fs main el S)
    {k : Asm.Kind} {r : Asm.Res}
    (hel : Asm.statement fs Asm.encoder (incOf fs) (envOf main) S el = .ok (S.push (envOf main) el.line el.col k, r)) :
    ReportedIn fs main el :=
  reportedIn_of h (fun S1 r1 hX => by
    rw [hel] at hX
    cases hX
    exact ⟨_, List.mem_cons_self, rfl, rfl, rfl⟩)

section
variable {fs : Bytes → Option Bytes} {main : Bytes} {S : Asm.St} {l c : Nat}

/-- C06t.2  an instruction statement (known mnemonic) that the front end does not complete to an encodable instruction —
anywhere in the main file -/
theorem invalid_instruction_of {tbl : Asm.Table} (hl : S.locals = some tbl) (hnd : Asm.Table.NoDef tbl) (hi64 : tblI64 tbl)
    {map : Map.Segs} {seg : Seg.Active} {pending : List (Nat × Nat)} (hs : S.seg = ⟨map, some seg, pending⟩)
    {name : Bytes} {args : Args} {t : Instr} (hm : mnemonic name = some t)
    (htot : (∃ i, build seg.cur name args.toList (Asm.frontEval tbl) true = .completed i) ∨
      (∃ d st, build seg.cur name args.toList (Asm.frontEval tbl) true = .error d st))
    (henc0 : ∀ i hws, build seg.cur name args.toList (Asm.frontEval tbl) true = .completed i → Codec.encode i ≠ .ok hws)
    (h : AtAny fs main ⟨l, c, .instruction name args⟩ S) : ReportedIn fs main ⟨l, c, .instruction name args⟩ :=
  (invalid_instruction_of_kind hl hnd hi64 hs hm htot henc0 h).reportedIn

/-- C06t.3  **wrong operand count, instructions** — anywhere, followed by anything -/
theorem invalid_instruction_count {tbl : Asm.Table} (hl : S.locals = some tbl) (hnd : Asm.Table.NoDef tbl) (hi64 : tblI64 tbl)
    {map : Map.Segs} {seg : Seg.Active} {pending : List (Nat × Nat)} (hs : S.seg = ⟨map, some seg, pending⟩)
    {name : Bytes} {args : Args} {t : Instr} (hm : mnemonic name = some t) (hn : args.toList.length ≠ (kinds t).length)
    (h : AtAny fs main ⟨l, c, .instruction name args⟩ S) : ReportedIn fs main ⟨l, c, .instruction name args⟩ :=
  (invalid_instruction_count_kind hl hnd hi64 hs hm hn h).reportedIn

/-- C06t.4  **wrong operand kind / out-of-range or misaligned value / overflow, instructions** — anywhere, followed by anything -/
theorem invalid_instruction {tbl : Asm.Table} (hl : S.locals = some tbl) (hnd : Asm.Table.NoDef tbl) (hi64 : tblI64 tbl)
    {map : Map.Segs} {seg : Seg.Active} {pending : List (Nat × Nat)} (hs : S.seg = ⟨map, some seg, pending⟩)
    {name : Bytes} {args : Args} {t : Instr} (hm : mnemonic name = some t)
    (hw : wellFormed (tabOf tbl) (sig t) args.toList)
    (hq : ∀ vs, denoteAll (tabOf tbl) (sig t) args.toList = some vs → ¬ svQuirk t vs)
    (hno : ∀ i hws, ¬ (means (tabOf tbl) seg.cur name args.toList = some i ∧ i.wf ∧ Codec.encode i = .ok hws))
    (h : AtAny fs main ⟨l, c, .instruction name args⟩ S) : ReportedIn fs main ⟨l, c, .instruction name args⟩ :=
  (invalid_instruction_kind hl hnd hi64 hs hm hw hq hno h).reportedIn

/-- C06t.5  **`.du8 / .du16 / .du32` with a value outside the type, or with a string** — anywhere, followed by anything -/
theorem invalid_du {tbl : Asm.Table} (hl : S.locals = some tbl) (hnd : Asm.Table.NoDef tbl) (hact : S.seg.active.isSome = true)
    (du : Asm.DU) (dn : Bytes) (hdn : dn = bytesOf du.name) {b : Arg}
    (hb : (∃ v, value (tabOf tbl) b = some v ∧ ¬ (0 ≤ v ∧ v ≤ du.max)) ∨ (∃ s, b = .str s))
    (h : AtAny fs main ⟨l, c, .directive dn (Args.ofList [b])⟩ S) :
    ReportedIn fs main ⟨l, c, .directive dn (Args.ofList [b])⟩ :=
  (invalid_du_kind hl hnd hact du dn hdn hb h).reportedIn

end

/-- C06t.6  **Invalid statement in an included file.**  The main file contains `.include "p";` (anywhere, after statements
that returned `Ok`); the included file `sibling main p` parses to `pre2 ++ el2 :: post2`, `pre2` runs there without an error
result (from the state the include enters the file with, `enterFile S`), and `el2` is an invalid statement of one of the
classes whose effect is one recorded diagnostic `k` and an error result (every class of `Props/C06Invalid.lean` §(a)–(g)).
Then every finished run is not a success and reports BOTH: `k` in the INCLUDED file at `el2`'s line and column, and
`IncludeFailed` in the main file at the `.include` statement. -/
theorem invalid_in_included {fs : Bytes → Option Bytes} {main : Bytes} {S : Asm.St} {l c : Nat} {p data2 : Bytes}
    (h : AtAny fs main ⟨l, c, .directive (bytesOf "include") (Args.ofList [.str p])⟩ S)
    (hfs2 : fs (Asm.sibling main p) = some data2) {els2 : List Element} {perr2 : Option ParseErr}
    (hp2 : Asm.parseFile data2 = .ok (els2, perr2)) {pre2 post2 : List Element} {el2 : Element}
    (hels2 : els2 = pre2 ++ el2 :: post2) {S2 : Asm.St}
    (hpre2 : ∀ rest perr', Asm.doAssemble fs Asm.encoder (Asm.assembleFile fs Asm.encoder (Asm.maxDepth - 2))
        ⟨[Asm.sibling main p, main], Asm.sibling main p⟩ (pre2 ++ rest) perr' (Asm.enterFile S).2.2 =
      Asm.doAssemble fs Asm.encoder (Asm.assembleFile fs Asm.encoder (Asm.maxDepth - 2))
        ⟨[Asm.sibling main p, main], Asm.sibling main p⟩ rest perr' S2)
    {k : Asm.Kind} {lv : Asm.Level}
    (hel2 : Asm.statement fs Asm.encoder (Asm.assembleFile fs Asm.encoder (Asm.maxDepth - 2))
        ⟨[Asm.sibling main p, main], Asm.sibling main p⟩ S2 el2 =
      .ok (S2.push ⟨[Asm.sibling main p, main], Asm.sibling main p⟩ el2.line el2.col k, .err lv)) :
    ∀ o, Asm.run fs main = .done o → o.success = false ∧
      (⟨Asm.sibling main p, el2.line, el2.col, k⟩ : Asm.Diag) ∈ o.diags ∧
      (⟨main, l, c, .dirApply "include" (.includeFailed (Asm.sibling main p))⟩ : Asm.Diag) ∈ o.diags := by
  intro o ho
  obtain ⟨data, els, perr, pre, post, hfs, hp, hels, hpre⟩ := h
  -- 62 = `maxDepth - 2`, the level at which the included file is read; `FailsIn.inc` takes the includer's level as `62 + 1`
  have f2 : FailsIn fs 62 ⟨[Asm.sibling main p, main], Asm.sibling main p⟩ data2 (Asm.enterFile S).2.2
      [⟨Asm.sibling main p, el2.line, el2.col, k⟩] :=
    .here_push ⟨hels2 ▸ hp2, hpre2⟩ hel2
  have f1 := FailsIn.inc (fs := fs) (fuel := 62) (env := ⟨[main], main⟩) (st := init2) els perr hp pre post l c p hels S hpre
    data2 hfs2 f2
  obtain ⟨hs, hall⟩ := run_failsIn fs main data hfs _ (by simp) f1 o ho
  exact ⟨hs, hall _ (by simp [incPath]), hall _ (by simp [incPath])⟩

/-- C06t.7  **Undefined name used by an instruction.**  The instruction statement is the last statement of the main file; its
first attempt (`local = true`) is DEFERRED at the name `n` — `Front.assemble … = (fs1, Deferred n)`: some operand mentions
`n`, which is not defined (with a table without `.import`-deferred entries `Deferred` can only come from `NoSuchVariable`).
(`hp`, the operands are `plain`, is not used by the proof: over an unchanged table without Deferred entries the retry is the
fresh run for every operand, `Asm.assemble_retry_tables_all`.)  Then `Asm.run` is not a
success, and every diagnostic is at the statement: the end-of-file retry (`local = false`) reports `NoSuchVariable n`.
Restriction to the last statement is essential for the position claim: a later statement with a Fatal error skips the
task loop, so the undefined name would not be reported at all (the run fails with that other diagnostic). -/
theorem invalid_instruction_undefined_partial {fs : Bytes → Option Bytes} {main : Bytes} {S : Asm.St} {l c : Nat}
    {tbl : Asm.Table} (hl : S.locals = some tbl) (hnd : Asm.Table.NoDef tbl)
    {map : Map.Segs} {seg : Seg.Active} {pending : List (Nat × Nat)} (hs : S.seg = ⟨map, some seg, pending⟩)
    {name : Bytes} {args : Args} {t : Instr} (hm : mnemonic name = some t)
    (hp : ∀ a ∈ args.toList, Asm.plainArg a = true) {fs1 : Front.St} {n : Bytes}
    (hdef : Front.assemble ⟨seg.cur, t, 0, args.toList⟩ (Asm.frontEval tbl) true = (fs1, .deferred n))
    (h : AtLast fs main ⟨l, c, .instruction name args⟩ S) : ReportedAt fs main ⟨l, c, .instruction name args⟩ := by
  obtain ⟨data, pre, hfs, hR, hq⟩ := h.reaches
  refine .of_kind (run_last_instr hfs hR hq (by simp [hs]) fun S1 r1 hX => ?_)
  rcases instr_undef_stmt (envOf main) S tbl (by simp) hl hq.2.2 map seg pending hs l c name args.toList t hm fs1 n hdef S1 r1 hX
    with hE | ⟨rfl, hl1, _, i', hlt1, hi'⟩
  · exact .inl hE
  · exact .inr ⟨rfl, _, hlt1,
      instr_undef_task (envOf main) { S1 with localTasks := some [] } tbl hnd (by simp) hl1 seg.cur t args.toList fs1 n hdef i' hi'⟩

end Trion.C06