import TrionModel.Lemmas.LexLayout
/-!
# C11 — literals denote exactly the written value

`radixPrefix r` is what selects radix `r` (nothing, `0b`, `0o`, `0x` — lower case only, as in the code);
`isDigit r b` is `char::is_digit(r)` of the byte (decimal digits and letters of either case below `r`);
`valueFrom r ds 0` is positional notation: `ds.foldl (fun a b => a * r + digit b) 0`.
Quantifying over all digit strings `ds` covers every digit case and any number of leading zeros.
-/
namespace Trion.Lex

theorem number_next (r : Nat) (hr : r = 2 ∨ r = 8 ∨ r = 10 ∨ r = 16) (ds : Bytes)
    (hds : ∀ b ∈ ds, isDigit r b = true) (hne : r = 10 → ds ≠ []) (rest : Bytes) (hf : Follow rest.head?)
    (hur : Utf8 rest) :
    nextToken ⟨radixPrefix r ++ ds ++ rest, false, 1, 1⟩ = match i64FromStrRadix ds r with
      | some v => .tok ⟨1, 1, .num v⟩ ⟨rest, false, 1, 1 + (radixPrefix r ++ ds).length⟩
      | none => .err ⟨1, 1, .badNumber⟩ ⟨[], false, 1, 1⟩ := by
  obtain ⟨b0, tl, hd, h0⟩ := number_head r ds hr hne hds
  rw [nextToken_doNext _ b0 (tl ++ rest) (by simp [hd]) (by simp [isSpace]; omega) (by omega),
    doNext_number _ b0 (tl ++ rest) (by simp [hd]) h0, lexNumber_follow r ds rest hr hne hds hf (utf8_head? hur) 1 1]
  cases i64FromStrRadix ds r <;> rfl

theorem number_tokens (r : Nat) (hr : r = 2 ∨ r = 8 ∨ r = 10 ∨ r = 16) (ds : Bytes)
    (hds : ∀ b ∈ ds, isDigit r b = true) (hne : r = 10 → ds ≠ []) :
    tokens (radixPrefix r ++ ds) = match i64FromStrRadix ds r with
      | some v => .ok ⟨[⟨1, 1, .num v⟩], none, 1, 1 + (radixPrefix r ++ ds).length⟩
      | none => .ok ⟨[], some ⟨1, 1, .badNumber⟩, 1, 1⟩ := by
  have hu := utf8_number r ds hds Utf8.nil
  have hnext := number_next r hr ds hds hne [] (by intro b hb; cases hb) Utf8.nil
  rw [List.append_nil] at hu hnext
  cases hv : i64FromStrRadix ds r with
  | none => rw [hv] at hnext; exact tokens_error _ hu ⟨1, 1, .badNumber⟩ ⟨[], false, 1, 1⟩ hnext
  | some v => rw [hv] at hnext; exact tokens_single _ hu _ _ _ hnext

theorem i64FromStrRadix_eq (r : Nat) (hr : 1 ≤ r) (ds : Bytes) (hne : ds ≠ []) (hds : ∀ b ∈ ds, isDigit r b = true) :
    i64FromStrRadix ds r =
      if valueFrom r ds 0 < 2 ^ 63 then some (Int.ofNat (valueFrom r ds 0)) else none := by
  cases ds with
  | nil => exact absurd rfl hne
  | cons a ds' =>
    simp only [i64FromStrRadix]
    rw [parseDigits_eq r _ hr _ 0 hds (by omega)]
    by_cases h : valueFrom r (a :: ds') 0 < 2 ^ 63
    · have : valueFrom r (a :: ds') 0 ≤ 9223372036854775807 := by omega
      simp [h, this]
    · have : ¬ valueFrom r (a :: ds') 0 ≤ 9223372036854775807 := by omega
      simp [h, this]

/-- C11.a `int_lit`  Every integer literal below 2^63 — radix 2, 8, 10 or 16, digits in either letter
case, any number of leading zeros — yields exactly one number token carrying the value written, at 1:1,
and the stream ends without error at the column after the literal. -/
theorem int_lit (r : Nat) (hr : r = 2 ∨ r = 8 ∨ r = 10 ∨ r = 16) (ds : Bytes) (hne : ds ≠ [])
    (hds : ∀ b ∈ ds, isDigit r b = true) (hv : valueFrom r ds 0 < 2 ^ 63) :
    tokens (radixPrefix r ++ ds) =
      .ok ⟨[⟨1, 1, .num (Int.ofNat (valueFrom r ds 0))⟩], none, 1, 1 + (radixPrefix r ++ ds).length⟩ := by
  rw [number_tokens r hr ds hds (fun _ => hne), i64FromStrRadix_eq r (by omega) ds hne hds]
  simp [hv]

/-- C11.b `int_big`  A literal of 2^63 or more is rejected with `BadNumber`, never wrapped. -/
theorem int_big (r : Nat) (hr : r = 2 ∨ r = 8 ∨ r = 10 ∨ r = 16) (ds : Bytes) (hne : ds ≠ [])
    (hds : ∀ b ∈ ds, isDigit r b = true) (hv : 2 ^ 63 ≤ valueFrom r ds 0) :
    tokens (radixPrefix r ++ ds) = .ok ⟨[], some ⟨1, 1, .badNumber⟩, 1, 1⟩ := by
  rw [number_tokens r hr ds hds (fun _ => hne), i64FromStrRadix_eq r (by omega) ds hne hds]
  have : ¬ valueFrom r ds 0 < 2 ^ 63 := by omega
  simp [this]

/-- C11.c `lit_reject` (prefix without digits)  `0b`, `0o`, `0x` alone are rejected with `BadNumber`. -/
theorem bare_prefix_reject (r : Nat) (hr : r = 2 ∨ r = 8 ∨ r = 16) :
    tokens (radixPrefix r) = .ok ⟨[], some ⟨1, 1, .badNumber⟩, 1, 1⟩ := by
  have := number_tokens r (by omega) [] (by simp) (by omega)
  simpa [i64FromStrRadix] using this

-- non-vacuity: a radix-16 literal with both letter cases and leading zeros; the decimals 2^63 - 1 and 2^63; `0x` alone
example : isDigit 16 70 = true ∧ isDigit 16 102 = true ∧ isDigit 8 56 = false ∧ isDigit 2 49 = true := by decide
example : valueFrom 16 (bytesOf "00fF") 0 = 255 := by decide
example : tokens (bytesOf "0x00fF") = .ok ⟨[⟨1, 1, .num 255⟩], none, 1, 7⟩ := by decide
example : tokens (bytesOf "9223372036854775807") = .ok ⟨[⟨1, 1, .num 9223372036854775807⟩], none, 1, 20⟩ := by decide
example : tokens (bytesOf "9223372036854775808") = .ok ⟨[], some ⟨1, 1, .badNumber⟩, 1, 1⟩ := by decide
example : tokens (bytesOf "0x") = .ok ⟨[], some ⟨1, 1, .badNumber⟩, 1, 1⟩ := by decide


/-- C11.e `char_lit` (escapes)  `'\t' '\n' '\r' '\"' '\'' '\\'` yield 9, 10, 13, 34, 39, 92. -/
theorem char_lit_escape :
    ∀ p ∈ [(116, 9), (110, 10), (114, 13), (34, 34), (39, 39), (92, 92)],
      tokens [39, 92, (p.1 : Nat).toUInt8, 39] = .ok ⟨[⟨1, 1, .num (Int.ofNat p.2)⟩], none, 1, 5⟩ := by
  decide +kernel

/-- C11.g `str_lit` (each escape)  `"\0" "\t" "\n" "\r" "\"" "\'" "\\"` yield the one-character strings
NUL, TAB, LF, CR, `"`, `'`, `\`. -/
theorem str_lit_escape :
    ∀ p ∈ [(48, 0), (116, 9), (110, 10), (114, 13), (34, 34), (39, 39), (92, 92)],
      tokens [34, 92, (p.1 : Nat).toUInt8, 34] = .ok ⟨[⟨1, 1, .str [(p.2 : Nat).toUInt8]⟩], none, 1, 5⟩ := by
  decide +kernel

/-- C11.i `lit_reject` (witnesses; each class has its general theorem below: `char_unclosed`, `str_unclosed_any`,
`str_reject_uni`, `str_reject_uni_long`, `str_reject_u_nobrace`)  missing closing quote; surrogate,
out-of-range, non-hex, empty, signed and over-long `\u{…}`; `\u` without brace; and one accepted
`\u{…}` in each digit case for contrast. -/
theorem lit_reject_witnesses :
    tokens (bytesOf "\"abc") = .ok ⟨[], some ⟨1, 1, .badString⟩, 1, 1⟩ ∧
    tokens (bytesOf "'a") = .ok ⟨[], some ⟨1, 1, .badCharacter⟩, 1, 1⟩ ∧
    tokens (bytesOf "\"\\u{D800}\"") = .ok ⟨[], some ⟨1, 1, .badString⟩, 1, 1⟩ ∧
    tokens (bytesOf "\"\\u{dfff}\"") = .ok ⟨[], some ⟨1, 1, .badString⟩, 1, 1⟩ ∧
    tokens (bytesOf "\"\\u{110000}\"") = .ok ⟨[], some ⟨1, 1, .badString⟩, 1, 1⟩ ∧
    tokens (bytesOf "\"\\u{4G}\"") = .ok ⟨[], some ⟨1, 1, .badString⟩, 1, 1⟩ ∧
    tokens (bytesOf "\"\\u{}\"") = .ok ⟨[], some ⟨1, 1, .badString⟩, 1, 1⟩ ∧
    tokens (bytesOf "\"\\u{+41}\"") = .ok ⟨[], some ⟨1, 1, .badString⟩, 1, 1⟩ ∧
    tokens (bytesOf "\"\\u{-41}\"") = .ok ⟨[], some ⟨1, 1, .badString⟩, 1, 1⟩ ∧
    tokens (bytesOf "\"\\u{0000041}\"") = .ok ⟨[], some ⟨1, 1, .badString⟩, 1, 1⟩ ∧
    tokens (bytesOf "\"\\u41\"") = .ok ⟨[], some ⟨1, 1, .badString⟩, 1, 1⟩ ∧
    tokens (bytesOf "\"\\u{e9}\\u{20AC}\"") = .ok ⟨[⟨1, 1, .str [0xC3, 0xA9, 0xE2, 0x82, 0xAC]⟩], none, 1, 17⟩ := by
  decide +kernel


/-- C11.j `utf8_roundtrip`  `chars().next()` undoes `String::push`: for every Unicode scalar value `c` (one to
four bytes) and any following text, decoding the encoding gives back `c` and the encoded length. -/
theorem utf8_roundtrip (c : Nat) (hs : isScalar c = true) (rest : Bytes) :
    decodeChar (encodeChar c ++ rest) = some (c, (encodeChar c).length) :=
  decodeChar_encodeChar c hs rest

theorem char_bad (body : Bytes) (hu : Utf8 body) (hb : lexCharBody false body = .err false) :
    tokens (39 :: body) = .ok ⟨[], some ⟨1, 1, .badCharacter⟩, 1, 1⟩ := by
  refine tokens_error _ (utf8_ascii_cons 39 (by decide) hu) _ ⟨[], false, 1, 1⟩ ?_
  rw [nextToken_doNext _ 39 body rfl (by decide) (by decide), doNext_char _ 39 body rfl (by decide),
    lexChar_err _ body rfl (utf8_ascii_cons 39 (by decide) hu) false hb]
  rfl

/-- C11.k `char_lit`  For EVERY Unicode scalar value `c` that may be written raw — TAB, the printable ASCII
characters other than the backslash, and everything from U+0080 on — the literal `'c'` (UTF-8 encoded) yields
exactly one number token with value `c` at 1:1, and the stream ends at column 4. -/
theorem char_lit (c : Nat) (hc : RawChar c) :
    tokens (39 :: encodeChar c ++ [39]) = .ok ⟨[⟨1, 1, .num (Int.ofNat c)⟩], none, 1, 4⟩ := by
  have hs : Spell (39 :: encodeChar c ++ [39]) (.num (Int.ofNat c)) ([] : Bytes).head? := Spell.chr c _ hc
  have h := nextToken_spell _ [] _ hs Utf8.nil
  rw [List.append_nil, Pos.of_eq_adv, adv_charLit c hc] at h
  exact tokens_single _ (by simpa using utf8_spell hs Utf8.nil) _ _ _ h

/-- C11.d `char_lit` (one-byte characters)  `'c'` for every ASCII character that may be written raw —
TAB and the printable characters other than the backslash (the apostrophe included: `'''`) — yields the
number `c`. -/
theorem char_lit_ascii : ∀ n, n < 256 → (n = 9 ∨ (32 ≤ n ∧ n ≤ 126 ∧ n ≠ 92)) →
    tokens [39, n.toUInt8, 39] = .ok ⟨[⟨1, 1, .num (Int.ofNat n)⟩], none, 1, 4⟩ := by
  intro n _ hn
  have hc : RawChar n := ⟨by simp only [isScalar, Bool.or_eq_true, decide_eq_true_eq]; omega, by omega⟩
  simpa [encodeChar_ascii n (by omega)] using char_lit n hc

/-- C11.l `lit_reject` (characters, every scalar value)  A scalar value that may not be written raw — a control
character other than TAB, DEL, the lone backslash — between apostrophes is rejected with `BadCharacter`. -/
theorem char_reject (c : Nat) (hs : isScalar c = true) (hc : ¬ RawChar c) :
    tokens (39 :: encodeChar c ++ [39]) = .ok ⟨[], some ⟨1, 1, .badCharacter⟩, 1, 1⟩ := by
  have hno : ¬ (c = 9 ∨ (32 ≤ c ∧ c ≤ 126 ∧ c ≠ 92) ∨ 128 ≤ c) := fun h => hc ⟨hs, h⟩
  rw [List.cons_append]
  refine char_bad _ (utf8_encodeChar c hs (utf8_ascii_cons 39 (by decide) Utf8.nil)) ?_
  by_cases h92 : c = 92
  · -- the lone backslash takes the apostrophe for its escape letter, and then the text ends
    subst h92; rfl
  · have h1 : (c == 92) = false := by simpa using h92
    have h2 : (c == 9 || (decide (32 ≤ c) && decide (c ≤ 126)) || decide (128 ≤ c)) = false := by
      simp only [Bool.or_eq_false_iff, Bool.and_eq_false_iff, beq_eq_false_iff_ne, ne_eq, decide_eq_false_iff_not]
      omega
    simp only [lexCharBody, lexCharFirst, decodeChar_encodeChar c hs, h1, h2, Bool.false_eq_true, if_false]

/-- any escape letter other than the six, ASCII or not -/
theorem char_reject_escape_any (e : Nat) (hs : isScalar e = true) (he : e ∉ [116, 110, 114, 34, 39, 92]) :
    tokens (39 :: 92 :: encodeChar e ++ [39]) = .ok ⟨[], some ⟨1, 1, .badCharacter⟩, 1, 1⟩ := by
  rw [List.cons_append, List.cons_append]
  refine char_bad _ (utf8_ascii_cons 92 (by decide)
    (utf8_encodeChar e hs (utf8_ascii_cons 39 (by decide) Utf8.nil))) ?_
  simp only [List.mem_cons, List.not_mem_nil, or_false, not_or] at he
  have hce : charEsc e = none := by simp [charEsc, he]
  rw [lexCharBody, lexCharFirst_esc false _ e _ (decodeChar_encodeChar e hs _), hce]

/-- C11.f `lit_reject` (characters)  Any other single ASCII byte between apostrophes — control
characters, DEL, the lone backslash — is rejected with `BadCharacter` and no token. -/
theorem char_reject_ascii : ∀ n, n < 128 → ¬ (n = 9 ∨ (32 ≤ n ∧ n ≤ 126 ∧ n ≠ 92)) →
    tokens [39, n.toUInt8, 39] = .ok ⟨[], some ⟨1, 1, .badCharacter⟩, 1, 1⟩ := by
  intro n hn hbad
  have hs : isScalar n = true := by simp only [isScalar, Bool.or_eq_true, decide_eq_true_eq]; omega
  simpa [encodeChar_ascii n hn] using char_reject n hs (fun h => hbad (by have := h.2; omega))

/-- C11.f `lit_reject` (characters)  Any ASCII escape letter other than the six of `char_lit_escape` is rejected with
`BadCharacter` and no token. -/
theorem char_reject_escape : ∀ n, n < 128 → n ∉ [116, 110, 114, 34, 39, 92] →
    tokens [39, 92, n.toUInt8, 39] = .ok ⟨[], some ⟨1, 1, .badCharacter⟩, 1, 1⟩ := by
  intro n hn he
  have hs : isScalar n = true := by simp only [isScalar, Bool.or_eq_true, decide_eq_true_eq]; omega
  simpa [encodeChar_ascii n hn] using char_reject_escape_any n hs he

/-- C11.l'  `lit_reject` (characters): a character literal whose closing apostrophe is missing — the text ends
after the character — is rejected with `BadCharacter`, for every scalar value that may be written raw. -/
theorem char_unclosed (c : Nat) (hc : RawChar c) :
    tokens (39 :: encodeChar c) = .ok ⟨[], some ⟨1, 1, .badCharacter⟩, 1, 1⟩ := by
  refine char_bad _ (by simpa using utf8_encodeChar c hc.1 Utf8.nil) ?_
  have := lexCharFirst_raw false c hc []
  rw [List.append_nil] at this
  simp [lexCharBody, this, decodeChar]

/-- C11.w  a well-formed string literal followed by ANY text: the first call of `next()` yields the string
token with the denoted text and leaves exactly the rest -/
theorem str_lit_then (items : List StrItem) (hok : ∀ it ∈ items, it.Ok) (rest : Bytes) (hrest : Utf8 rest) :
    nextToken ⟨34 :: renderAll items ++ 34 :: rest, false, 1, 1⟩ =
      .tok ⟨1, 1, .str (denoteAll items)⟩
        ⟨rest, false, (Pos.of (34 :: renderAll items ++ [34])).1, (Pos.of (34 :: renderAll items ++ [34])).2⟩ := by
  simpa using nextToken_spell _ rest _ (Spell.str items _ hok) hrest

/-- C11.m `str_lit`  **Every string literal.** A body is any list of items, each either a scalar value written
raw (`RawStrChar`: TAB, printable ASCII other than `"` and `\`, anything from U+0080 on; UTF-8 encoded), or one
of the escapes `\0 \t \n \r \" \' \\`, or `\u{hex}` with 1–6 hexadecimal digits of either case that denote
a scalar value (`HexOk`). The literal yields exactly one string token whose payload is the concatenated UTF-8
encoding of the characters the items denote — whether the tokenizer borrows the payload from the source (no
escape) or builds it in its `escaped` buffer — and the stream ends without error at the position after the
literal. -/
theorem str_lit (items : List StrItem) (hok : ∀ it ∈ items, it.Ok) :
    tokens (34 :: renderAll items ++ [34]) =
      .ok ⟨[⟨1, 1, .str (denoteAll items)⟩], none,
        (Pos.of (34 :: renderAll items ++ [34])).1, (Pos.of (34 :: renderAll items ++ [34])).2⟩ := by
  have hu : Utf8 ((34 : UInt8) :: renderAll items ++ [34]) :=
    utf8_ascii_cons 34 (by decide) (utf8_renderAll items hok utf8_quote)
  exact tokens_single _ hu _ _ _ (str_lit_then items hok [] Utf8.nil)

/-- the escape-free case: a body of characters written raw (TAB, printable ASCII other than `"` and `\`, anything
from U+0080 on) is its own payload -/
theorem str_lit_raw (cs : List Nat) (h : ∀ c ∈ cs, RawStrChar c) :
    tokens (34 :: renderAll (cs.map .raw) ++ [34]) =
      .ok ⟨[⟨1, 1, .str (renderAll (cs.map .raw))⟩], none,
        (Pos.of (34 :: renderAll (cs.map .raw) ++ [34])).1, (Pos.of (34 :: renderAll (cs.map .raw) ++ [34])).2⟩ := by
  have hraw : (cs.map StrItem.raw).all StrItem.isRaw = true := by simp [StrItem.isRaw]
  rw [str_lit _ (by intro it hit; simp at hit; obtain ⟨c, hc, rfl⟩ := hit; exact h c hc), renderAll_raw _ hraw]

/-- C11.n `lit_reject` (strings, general form)  After ANY well-formed beginning of a body, a tail at which the
scanner gives up (`BadTail`, instances below) makes the whole literal the single error `BadString` at 1:1 with
no token. Since the first offending place of a body is always preceded by a well-formed beginning, the
instances cover the offence *anywhere* in the body. -/
theorem str_reject (items : List StrItem) (hok : ∀ it ∈ items, it.Ok) (tail : Bytes) (hut : Utf8 tail)
    (hroom : endsWithEsc items = true → tail ≠ []) (hbad : BadTail tail) :
    tokens (34 :: renderAll items ++ tail) = .ok ⟨[], some ⟨1, 1, .badString⟩, 1, 1⟩ := by
  have hu : Utf8 ((34 : UInt8) :: renderAll items ++ tail) :=
    utf8_ascii_cons 34 (by decide) (utf8_renderAll items hok hut)
  have hnext : nextToken ⟨34 :: renderAll items ++ tail, false, 1, 1⟩ = .err ⟨1, 1, .badString⟩ ⟨[], false, 1, 1⟩ := by
    rw [nextToken_doNext _ 34 (renderAll items ++ tail) (by simp) (by decide) (by decide),
      doNext_string _ 34 (renderAll items ++ tail) (by simp) (by decide)]
    rcases lexString_reject items hok tail hut hroom hbad ⟨_, false, 1, 1⟩ rfl with h | h <;> rw [h] <;> rfl
  exact tokens_error _ hu _ _ hnext

/-- C11.o  missing closing quote: a well-formed body that simply ends (a body that ends in a one-letter escape
is the next theorem's case `rest = [e]`) -/
theorem str_unclosed (items : List StrItem) (hok : ∀ it ∈ items, it.Ok) (hend : endsWithEsc items = false) :
    tokens (34 :: renderAll items) = .ok ⟨[], some ⟨1, 1, .badString⟩, 1, 1⟩ := by
  have := str_reject items hok [] Utf8.nil (by simp [hend]) badTail_nil
  simpa using this

/-- C11.p  a backslash with fewer than two bytes after it (the text ends inside the escape, or right after a
one-letter escape: the closing quote is missing) -/
theorem str_unclosed_escape (items : List StrItem) (hok : ∀ it ∈ items, it.Ok)
    (rest : Bytes) (hr : Utf8 rest) (hlen : rest.length < 2) :
    tokens (34 :: renderAll items ++ 92 :: rest) = .ok ⟨[], some ⟨1, 1, .badString⟩, 1, 1⟩ :=
  str_reject items hok _ (utf8_ascii_cons 92 (by decide) hr) (by simp) (badTail_short rest hlen)

theorem endsWithEsc_split : ∀ (items : List StrItem), endsWithEsc items = true →
    ∃ init e, items = init ++ [.esc e] := by
  intro items
  induction items with
  | nil => intro h; simp [endsWithEsc] at h
  | cons it r ih =>
    intro h
    cases r with
    | nil =>
      cases it with
      | esc e => exact ⟨[], e, rfl⟩
      | raw c => simp [endsWithEsc, StrItem.isEsc] at h
      | uni x => simp [endsWithEsc, StrItem.isEsc] at h
    | cons a b =>
      obtain ⟨init, e, he⟩ := ih (by simpa [endsWithEsc] using h)
      exact ⟨it :: init, e, by rw [he]; rfl⟩

theorem renderAll_append (xs ys : List StrItem) : renderAll (xs ++ ys) = renderAll xs ++ renderAll ys := by
  induction xs with
  | nil => rfl
  | cons x r ih => simp [renderAll, ih]

/-- C11.p'  **Missing closing quote, every well-formed body**: the opening quote followed by any list of items
and then the end of the text is the single error `BadString`. -/
theorem str_unclosed_any (items : List StrItem) (hok : ∀ it ∈ items, it.Ok) :
    tokens (34 :: renderAll items) = .ok ⟨[], some ⟨1, 1, .badString⟩, 1, 1⟩ := by
  cases hend : endsWithEsc items with
  | false => exact str_unclosed items hok hend
  | true =>
    obtain ⟨init, e, rfl⟩ := endsWithEsc_split items hend
    have he : (escValue e.toNat).isSome = true := hok (.esc e) (by simp)
    obtain ⟨v, hv⟩ := Option.isSome_iff_exists.mp he
    have := str_unclosed_escape init (fun it hit => hok it (by simp [hit])) [e]
      (utf8_ascii_cons e (escValue_ascii hv).1 Utf8.nil) (by simp)
    rw [renderAll_append]
    simpa [renderAll, StrItem.render] using this

/-- C11.q  a raw control character other than TAB, or DEL, anywhere in the body, whatever follows -/
theorem str_reject_control_any (items : List StrItem) (hok : ∀ it ∈ items, it.Ok) (b : UInt8) (rest : Bytes)
    (hr : Utf8 rest) (hb : (b.toNat < 32 ∧ b.toNat ≠ 9) ∨ b.toNat = 127) :
    tokens (34 :: renderAll items ++ b :: rest) = .ok ⟨[], some ⟨1, 1, .badString⟩, 1, 1⟩ :=
  str_reject items hok _ (utf8_ascii_cons b (by omega) hr) (by simp) (badTail_control b rest hb)

/-- C11.r  an unknown escape letter (anything but `0 t n r " ' \ u`), anywhere, whatever follows -/
theorem str_reject_unknown_escape (items : List StrItem) (hok : ∀ it ∈ items, it.Ok) (e : UInt8) (rest : Bytes)
    (hr : Utf8 (e :: rest)) (hv : escValue e.toNat = none) (hu : e.toNat ≠ 117) :
    tokens (34 :: renderAll items ++ 92 :: e :: rest) = .ok ⟨[], some ⟨1, 1, .badString⟩, 1, 1⟩ :=
  str_reject items hok _ (utf8_ascii_cons 92 (by decide) hr) (by simp) (badTail_unknown e rest hv hu)

/-- C11.h `lit_reject` (strings)  An unknown ASCII escape letter (anything but `0 t n r " ' \ u`) is rejected with
`BadString` and no token. -/
theorem str_reject_escape : ∀ n, n < 128 → n ∉ [48, 116, 110, 114, 34, 39, 92, 117] →
    tokens [34, 92, n.toUInt8, 34] = .ok ⟨[], some ⟨1, 1, .badString⟩, 1, 1⟩ := by
  intro n hn he
  simp only [List.mem_cons, List.not_mem_nil, or_false, not_or] at he
  have hv : escValue n.toUInt8.toNat = none := by
    rw [toNat_toUInt8 n (by omega)]; unfold escValue
    rw [if_neg (by omega), if_neg (by omega), if_neg (by omega), if_neg (by omega), if_neg (by omega)]
  exact str_reject_unknown_escape [] (by simp) n.toUInt8 [34]
    (utf8_ascii_cons _ (by rw [toNat_toUInt8 n (by omega)]; exact hn) (utf8_ascii_cons 34 (by decide) Utf8.nil)) hv
    (by rw [toNat_toUInt8 n (by omega)]; omega)

/-- C11.h `lit_reject` (strings)  A raw control character other than TAB, or DEL, inside a string is rejected with
`BadString` and no token. -/
theorem str_reject_control : ∀ n, n < 128 → (n < 32 ∧ n ≠ 9) ∨ n = 127 →
    tokens [34, 97, n.toUInt8, 98, 34] = .ok ⟨[], some ⟨1, 1, .badString⟩, 1, 1⟩ := by
  intro n hn hb
  exact str_reject_control_any [.raw 97] (by intro it hit; simp at hit; subst hit; exact ⟨rfl, by omega⟩) n.toUInt8 [98, 34]
    (utf8_ascii_append [98, 34] (by decide) Utf8.nil) (by rw [toNat_toUInt8 n (by omega)]; exact hb)

/-- C11.s  `\u` not followed by an opening brace -/
theorem str_reject_u_nobrace (items : List StrItem) (hok : ∀ it ∈ items, it.Ok) (g : UInt8) (rest : Bytes)
    (hr : Utf8 (g :: rest)) (hg : g.toNat ≠ 123) :
    tokens (34 :: renderAll items ++ 92 :: 117 :: g :: rest) = .ok ⟨[], some ⟨1, 1, .badString⟩, 1, 1⟩ :=
  str_reject items hok _ (utf8_ascii_cons 92 (by decide) (utf8_ascii_cons 117 (by decide) hr)) (by simp)
    (badTail_nobrace g rest hg)

/-- C11.t  `\u{` without a closing brace among the next seven bytes: more than six digits, or unterminated -/
theorem str_reject_uni_long (items : List StrItem) (hok : ∀ it ∈ items, it.Ok) (r3 : Bytes) (hr : Utf8 r3)
    (hno : ∀ b ∈ r3.take 7, b.toNat ≠ 125) :
    tokens (34 :: renderAll items ++ 92 :: 117 :: 123 :: r3) = .ok ⟨[], some ⟨1, 1, .badString⟩, 1, 1⟩ :=
  str_reject items hok _
    (utf8_ascii_cons 92 (by decide) (utf8_ascii_cons 117 (by decide) (utf8_ascii_cons 123 (by decide) hr))) (by simp)
    (badTail_uni_open r3 hr hno)

/-- C11.u  `\u{text}` (closing brace within seven bytes) is rejected whenever `text` is NOT 1–6 hexadecimal
digits denoting a scalar value: empty, signed (`+`/`-`), any non-hex byte, a surrogate D800–DFFF, a value above
10FFFF. Together with `str_lit` (which accepts every `HexOk` text): accepted iff `HexOk`. -/
theorem str_reject_uni (items : List StrItem) (hok : ∀ it ∈ items, it.Ok) (text more : Bytes)
    (hr : Utf8 (text ++ 125 :: more)) (hno : ∀ b ∈ text, b.toNat ≠ 125) (hlen : text.length ≤ 6) (hbad : ¬ HexOk text) :
    tokens (34 :: renderAll items ++ 92 :: 117 :: 123 :: (text ++ 125 :: more)) =
      .ok ⟨[], some ⟨1, 1, .badString⟩, 1, 1⟩ :=
  str_reject items hok _
    (utf8_ascii_cons 92 (by decide) (utf8_ascii_cons 117 (by decide) (utf8_ascii_cons 123 (by decide) hr))) (by simp)
    (badTail_uni_bad text more hr hno hlen hbad)

/-- C11.v  the converse of `utf8_roundtrip`: whatever `chars().next()` returns is a scalar value and the bytes
consumed are its encoding -/
theorem utf8_roundtrip_inv (d : Bytes) (c n : Nat) (h : decodeChar d = some (c, n)) :
    isScalar c = true ∧ d = encodeChar c ++ d.drop n := decodeChar_inv h

/-- C11.x  **Dichotomy: the reject classes are exhaustive.** For EVERY well-formed UTF-8 text after an opening
quote: either it begins with a well-formed body and its closing quote (then `str_lit_then` gives the token), or
the whole input is the single error `BadString` at 1:1 with no token. In particular every body without an
unescaped closing quote is rejected. -/
theorem str_dichotomy (body : Bytes) (hu : Utf8 body) :
    (∃ items rest, (∀ it ∈ items, StrItem.Ok it) ∧ Utf8 rest ∧ body = renderAll items ++ 34 :: rest) ∨
    tokens (34 :: body) = .ok ⟨[], some ⟨1, 1, .badString⟩, 1, 1⟩ := by
  rcases bodyCases_all body.length body (Nat.le_refl _) hu with h | ⟨items, tail, h1, h2, h3, h4, rfl⟩
  · exact .inl h
  · exact .inr (str_reject items h1 tail h2 h3 h4)

/-! non-vacuity: items of every kind, multi-byte characters, both payload routes; of the reject conditions, instances of
`¬ HexOk` and values of `isRawStrByte` -/
example : RawChar 0x20AC ∧ RawChar 0x1F600 ∧ RawChar 9 ∧ ¬ RawChar 92 ∧ ¬ RawChar 127 := by
  refine ⟨⟨rfl, by omega⟩, ⟨rfl, by omega⟩, ⟨rfl, by omega⟩, ?_, ?_⟩ <;> (intro ⟨_, h⟩; omega)
example : encodeChar 0x20AC = [0xE2, 0x82, 0xAC] ∧ encodeChar 0x1F600 = [0xF0, 0x9F, 0x98, 0x80] := by decide
example : tokens [39, 0xE2, 0x82, 0xAC, 39] = .ok ⟨[⟨1, 1, .num 0x20AC⟩], none, 1, 4⟩ := by decide +kernel
example : (StrItem.uni (bytesOf "1F600")).Ok ∧ (StrItem.uni (bytesOf "e9")).Ok ∧ (StrItem.esc 110).Ok ∧ (StrItem.raw 0xE9).Ok := by
  refine ⟨⟨by decide, by decide, by decide, by decide⟩, ⟨by decide, by decide, by decide, by decide⟩, ?_, ⟨rfl, by omega⟩⟩
  show (escValue 110).isSome = true
  decide
example : renderAll [.raw 97, .esc 110, .raw 0xE9, .uni (bytesOf "20AC")] =
    bytesOf "a\\n" ++ [0xC3, 0xA9] ++ bytesOf "\\u{20AC}" := by decide
example : denoteAll [.raw 97, .esc 110, .raw 0xE9, .uni (bytesOf "20AC")] =
    [97, 10, 0xC3, 0xA9, 0xE2, 0x82, 0xAC] := by decide
example : ¬ HexOk (bytesOf "D800") ∧ ¬ HexOk (bytesOf "110000") ∧ ¬ HexOk (bytesOf "+41") ∧ ¬ HexOk [] ∧ ¬ HexOk (bytesOf "4G") := by
  refine ⟨?_, ?_, ?_, ?_, ?_⟩ <;> intro ⟨h1, h2, h3, h4⟩
  · revert h4; decide
  · revert h4; decide
  · exact absurd (h3 43 (by decide)) (by decide)
  · exact h1 rfl
  · exact absurd (h3 71 (by decide)) (by decide)
example : isRawStrByte 9 = true ∧ isRawStrByte 126 = true ∧ isRawStrByte 34 = false ∧ isRawStrByte 10 = false := by
  decide
example : tokens (bytesOf "\"a\tb c\"") = .ok ⟨[⟨1, 1, .str (bytesOf "a\tb c")⟩], none, 1, 8⟩ := by decide

end Trion.Lex
