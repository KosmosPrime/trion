import TrionModel.Lemmas.LexFrame
import TrionModel.Lemmas.ParseSegs
import TrionModel.Props.C12Parse
/-!
# C12 — exact token positions for every source layout

Vocabulary: `Lemmas/LexLayoutDef.lean` (`IsSep`, `IsSepEnd`, `Spell`, `LTok`/`ltext`/`LOk`/`ltoks`) and
`Lemmas/LexExact.lean` (`Exact`). The position the specification assigns to a token is `Pos.of (text before its
spelling)` — line = 1 + line feeds before it, column = 1 + Unicode scalar values since the last line feed (`Spec/Pos.lean`).

`tok_pos` (Props/C12.lean) only bounds the offsets of a token: here the token's extent IS its text
and everything between extents is separator text, and `exact_determines` shows that such a placement is unique
— it is the tokenizer's output.
-/
namespace Trion.Lex
open Trion.Pos (adv)

/-- C12.L1 `layout_tokens`  **Exact layout theorem.** For every well-formed layout — any separator text
(white space, line comments, nested block comments, multi-byte characters in comments) before each token and
at the end, any accepted spelling of each token — the tokenizer yields exactly the specified tokens: the value
of each spelling at the specified position of the text before that spelling, no error, and its final position
is the specified position of the end of the text. -/
theorem layout_tokens (L : List LTok) (trail : Bytes) (h : LOk L trail) :
    tokens (ltext L trail) =
      .ok ⟨ltoks [] L, none, (Pos.of (ltext L trail)).1, (Pos.of (ltext L trail)).2⟩ :=
  tokens_layout L trail h

/-- C12.L2 `tok_pos_exact`  On every layout, every token of the output sits at `Pos.of` of the byte offset
where ITS spelling starts; the spellings' extents are in order and disjoint, and everything between them (and
after the last) is separator text (`Exact`). -/
theorem tok_pos_exact (L : List LTok) (trail : Bytes) (h : LOk L trail) :
    ∃ out, tokens (ltext L trail) = .ok out ∧ out.err = none ∧ Exact (ltext L trail) 0 out.toks ∧
      (out.endLine, out.endCol) = Pos.of (ltext L trail) := by
  refine ⟨_, tokens_layout L trail h, rfl, ?_, rfl⟩
  have := layout_exact L trail h []
  simpa using this

/-- C12.L3 `exact_determines`  **The placement determines the output** (the description is not satisfiable by a
wrong answer): if tokens `ts` — values AND positions — can be placed in `text` with separator text in the gaps
and spellings in the extents, then `ts` is exactly what the tokenizer yields for `text`. -/
theorem exact_determines (text : Bytes) (ts : List Token) (h : Exact text 0 ts) :
    tokens text = .ok ⟨ts, none, (Pos.of text).1, (Pos.of text).2⟩ := tokens_of_exact text ts h

/-- … hence two placements of tokens in the same text are the same tokens at the same positions. -/
theorem exact_unique (text : Bytes) (ts ts' : List Token) (h : Exact text 0 ts) (h' : Exact text 0 ts') : ts = ts' := by
  have := (tokens_of_exact text ts h).symm.trans (tokens_of_exact text ts' h')
  simpa using this

/-- C12.L4  every token of a placed text, with its extent: `[o, e)` spells the token and the token carries the
specified position of `o`. -/
theorem exact_token (text : Bytes) (ts : List Token) (h : Exact text 0 ts) :
    ∀ t ∈ ts, ∃ o e, o < e ∧ e ≤ text.length ∧ Spell ((text.take e).drop o) t.val text[e]? ∧
      (t.line, t.col) = Pos.of (text.take o) := by
  intro t ht
  obtain ⟨o, e, _, h2, h3, h4, h5⟩ := exact_mem h t ht
  exact ⟨o, e, h2, h3, h4, h5⟩

/-- C12.L5 `stmt_pos_exact`  Statements: on every layout, every element the parser produces from the
tokenizer's output carries the specified position `Pos.of (text.take o)` of the offset `o` at which the
spelling of its first token — a `.` or an identifier — starts; the elements follow the order of the tokens.
WHICH tokens the elements start at is not said here; `stmt_pos_segments` below says it. -/
theorem stmt_pos_exact (text : Bytes) (ts : List Token) (h : Exact text 0 ts) (els : List Element)
    (err : Option ParseErr) (hp : Parse.all ⟨ts, none, (Pos.of text).1, (Pos.of text).2⟩ = .done els err) :
    ∃ firsts : List Token, firsts.Sublist ts ∧
      els.map (fun e => (e.line, e.col)) = firsts.map (fun t => (t.line, t.col)) ∧
      (els ≠ [] → firsts.head? = ts.head?) ∧
      ∀ t ∈ firsts, (t.val = .dirMark ∨ ∃ s, t.val = .ident s) ∧
        ∃ o e, o < e ∧ e ≤ text.length ∧ Spell ((text.take e).drop o) t.val text[e]? ∧
          (t.line, t.col) = Pos.of (text.take o) := by
  obtain ⟨firsts, h1, h2, h3, h4⟩ := Parse.stmt_pos_tokens _ els err hp
  refine ⟨firsts, h1, h2, h4, ?_⟩
  intro t ht
  exact ⟨h3 t ht, exact_token text ts h t (h1.subset ht)⟩

/-- … in the form that starts from the text: the tokenizer's output on a layout, fed to the parser. -/
theorem stmt_pos_layout (L : List LTok) (trail : Bytes) (h : LOk L trail) :
    ∃ out, tokens (ltext L trail) = .ok out ∧ Exact (ltext L trail) 0 out.toks ∧
      ∀ els err, Parse.all out = .done els err →
        ∃ firsts : List Token, firsts.Sublist out.toks ∧
          els.map (fun e => (e.line, e.col)) = firsts.map (fun t => (t.line, t.col)) ∧
          ∀ t ∈ firsts, ∃ o e, o < e ∧ e ≤ (ltext L trail).length ∧
            Spell (((ltext L trail).take e).drop o) t.val (ltext L trail)[e]? ∧
            (t.line, t.col) = Pos.of ((ltext L trail).take o) := by
  have hex : Exact (ltext L trail) 0 (ltoks [] L) := by simpa using layout_exact L trail h []
  refine ⟨_, tokens_layout L trail h, hex, ?_⟩
  intro els err hp
  obtain ⟨firsts, h1, h2, _, h4⟩ := stmt_pos_exact _ _ hex els err hp
  exact ⟨firsts, h1, h2, fun t ht => (h4 t ht).2⟩

/-- C12.L6 `layout_frame`  **Framing.** A layout placed in front of another layout (`LOkTo`: the same conditions,
the last token's follow condition referring to the first byte of the back part) is a layout, and the tokens are
those of the front part followed by those of the back part at the positions specified after the front text —
a statement's tokens and positions do not depend on what follows it, and what precedes it only shifts the
positions as `Pos.of` prescribes. -/
theorem layout_frame (L1 L2 : List LTok) (trail : Bytes) (h1 : LOkTo L1 (ltext L2 trail)) (h2 : LOk L2 trail) :
    tokens (ltext L1 [] ++ ltext L2 trail) =
      .ok ⟨ltoks [] L1 ++ ltoks (ltext L1 []) L2, none,
        (Pos.of (ltext L1 [] ++ ltext L2 trail)).1, (Pos.of (ltext L1 [] ++ ltext L2 trail)).2⟩ := by
  have := tokens_layout (L1 ++ L2) trail (lok_append h1 h2)
  rw [ltext_append, ltext_split L1, ltoks_append] at this
  simpa using this

/-- C12.L7  The piece lists of `Lex.tokens_pieces` (ASCII white space between the spellings `punct`, `ident`, `num` of `TokOk`) are layouts:
same text, same tokens — `layout_tokens` subsumes `tokens_pieces`. -/
theorem pieces_are_layouts (ps : List Piece) (hv : Valid ps none) :
    ∃ L trail, LOk L trail ∧ ltext L trail = pbytes ps ∧ ltoks [] L = lexed (1, 1) ps := by
  refine ⟨(toLayout ps []).1, (toLayout ps []).2, toLayout_ok ps hv [] (by simp), ?_, ?_⟩
  · simpa using toLayout_text ps []
  · exact toLayout_toks ps [] []

/-- C12.L8 `stmt_pos_segments`  **Exact statement positions.** For a text with an exact token placement, the
parser run cuts the token list into consecutive segments, one per element, followed by a leftover that is empty
when the run ends without error (`Parse.StmtsAt`, `Lemmas/ParseSegs.lean`). For the `i`-th element: after the
offset `stopᵢ₋₁` where the previous segment's last token ended (`0` for the first) comes separator text up to
`oᵢ`; `[oᵢ, eᵢ)` spells the first token of segment `i`, a `.` or the name / label identifier; the remaining tokens of
the segment are placed exactly from `eᵢ` to `stopᵢ`; `do_next` reads element `i` from exactly this segment; and
element `i` carries `Pos.of (text.take oᵢ)`. Nothing is left to choose: see `stmt_pos_determined`. -/
theorem stmt_pos_segments (text : Bytes) (ts : List Token) (h : Exact text 0 ts) (els : List Element)
    (err : Option ParseErr) (hp : Parse.all ⟨ts, none, (Pos.of text).1, (Pos.of text).2⟩ = .done els err) :
    ∃ left, Parse.StmtsAt text ⟨ts, none, (Pos.of text).1, (Pos.of text).2⟩ 0 ts els left ∧ (err = none → left = []) := by
  obtain ⟨left, hs, hst⟩ := Parse.allLoop_segs hp
  exact ⟨left, Parse.stmtsAt_of_segs hs h, fun he => (Parse.stops_none (he ▸ hst)).1⟩

/-- C12.L9 `stmt_pos_determined`  The located segmentation is determined by the text and its tokens: any elements
that satisfy it (as many as the parser produced) ARE the parser's elements, positions included — a wrong position
list has no such segmentation (examples below). -/
theorem stmt_pos_determined (text : Bytes) (lo : LexOut) (ts : List Token) (els els' : List Element)
    (left left' : List Token) (start start' : Nat)
    (h : Parse.StmtsAt text lo start ts els left) (h' : Parse.StmtsAt text lo start' ts els' left')
    (hlen : els'.length = els.length) : els' = els :=
  Parse.segs_det (Parse.segs_of_stmtsAt h') (Parse.segs_of_stmtsAt h) hlen

/-- C12.L10  The statement offsets: strictly increasing, one per element, each element at the specified position of
its offset. (A corollary of `stmt_pos_segments`; on its own it would not fix the offsets.) -/
theorem stmt_pos_offsets (text : Bytes) (ts : List Token) (h : Exact text 0 ts) (els : List Element)
    (err : Option ParseErr) (hp : Parse.all ⟨ts, none, (Pos.of text).1, (Pos.of text).2⟩ = .done els err) :
    ∃ offs : List Nat, offs.length = els.length ∧ offs.Pairwise (· < ·) ∧ (∀ o ∈ offs, o < text.length) ∧
      els.map (fun e => (e.line, e.col)) = offs.map (fun o => Pos.of (text.take o)) := by
  obtain ⟨left, hs, _⟩ := stmt_pos_segments text ts h els err hp
  obtain ⟨offs, h1, h2, h3, h4⟩ := Parse.stmtsAt_offsets hs
  exact ⟨offs, h1, h2, fun o ho => (h3 o ho).2, h4⟩

theorem follow_none : Follow none := by intro b hb; cases hb

/-- `/* m */ mov` as a layout -/
def auditL : List LTok := [⟨bytesOf "/* m */ ", bytesOf "mov", .ident (bytesOf "mov")⟩]

theorem auditL_ok : LOk auditL [] := by
  refine ⟨?_, ?_, Or.inl IsSep.nil⟩
  · exact isSep_append (isSep_block (bytesOf " m */") (inside_of_insideB _ 0 (by decide)) (utf8_of_ascii _ (by decide)))
      (isSep_ws (bytesOf " ") (by decide))
  · exact Spell.ident _ _ (by decide) follow_none

example : ltext auditL [] = bytesOf "/* m */ mov" := by decide

/-- the real output: the identifier at 1:9 … -/
example : tokens (bytesOf "/* m */ mov") = .ok ⟨[⟨1, 9, .ident (bytesOf "mov")⟩], none, 1, 12⟩ :=
  (layout_tokens auditL [] auditL_ok).trans (by decide)

/-- … and the position inside the comment, which the conclusion of `tok_pos` allows, is refuted: the token
`mov` at 1:4 has no exact placement in this text. -/
example : ¬ Exact (bytesOf "/* m */ mov") 0 [⟨1, 4, .ident (bytesOf "mov")⟩] := by
  intro h
  have h1 := exact_determines _ _ h
  have h2 : tokens (bytesOf "/* m */ mov") = .ok ⟨[⟨1, 9, .ident (bytesOf "mov")⟩], none, 1, 12⟩ :=
    (layout_tokens auditL [] auditL_ok).trans (by decide)
  rw [h2] at h1
  revert h1
  decide

/-- a CRLF file with `é` in a line comment, a nested multi-line block comment with `€`, a trailing comment
without line feed:  `x:␍␊// é␍␊/* a /* € */␊ */␉NOP;␍␊// end` -/
def crlfL : List LTok :=
  [⟨[], bytesOf "x", .ident (bytesOf "x")⟩,
   ⟨[], bytesOf ":", .labelMark⟩,
   ⟨[13, 10] ++ (47 :: 47 :: [32, 0xC3, 0xA9, 13] ++ [10]) ++ (47 :: 42 :: ([32, 97, 32, 47, 42, 32, 0xE2, 0x82, 0xAC, 32, 42, 47, 10, 32, 42, 47])) ++ [9],
      bytesOf "NOP", .ident (bytesOf "NOP")⟩,
   ⟨[], bytesOf ";", .term⟩]

def crlfTrail : Bytes := [13, 10] ++ 47 :: 47 :: bytesOf " end"

theorem utf8_e9 (rest : Bytes) (h : Utf8 rest) : Utf8 (0xC3 :: 0xA9 :: rest) := utf8_encodeChar 0xE9 rfl h
theorem utf8_20ac (rest : Bytes) (h : Utf8 rest) : Utf8 (0xE2 :: 0x82 :: 0xAC :: rest) := utf8_encodeChar 0x20AC rfl h

theorem crlfL_ok : LOk crlfL crlfTrail := by
  refine ⟨IsSep.nil, Spell.ident _ _ (by decide) (by intro b hb; cases hb; decide), IsSep.nil,
    Spell.punct 58 _ _ (by decide) (by decide), ?_, Spell.ident _ _ (by decide) (by intro b hb; cases hb; decide),
    IsSep.nil, Spell.punct 59 _ _ (by decide) (by decide), ?_⟩
  · refine isSep_append (isSep_append (isSep_append (isSep_ws [13, 10] (by decide)) (isSep_line _ (by decide) ?_))
      (isSep_block _ (inside_of_insideB _ 0 (by decide)) ?_)) (isSep_ws [9] (by decide))
    · exact utf8_ascii_cons 32 (by decide) (utf8_e9 _ (utf8_of_ascii [13] (by decide)))
    · exact utf8_ascii_append [32, 97, 32, 47, 42, 32] (by decide)
        (utf8_20ac _ (utf8_of_ascii [32, 42, 47, 10, 32, 42, 47] (by decide)))
  · exact Or.inr ⟨[13, 10], bytesOf " end", rfl, isSep_ws _ (by decide), by decide, utf8_of_ascii _ (by decide)⟩

example : tokens (ltext crlfL crlfTrail) =
    .ok ⟨[⟨1, 1, .ident (bytesOf "x")⟩, ⟨1, 2, .labelMark⟩, ⟨4, 5, .ident (bytesOf "NOP")⟩, ⟨4, 8, .term⟩], none, 5, 7⟩ :=
  (layout_tokens crlfL crlfTrail crlfL_ok).trans (by decide)

/-- a string containing `;` and `*/` (and an escape and `é`), a character literal, `<<`, a division directly
before white space: `.d "a;*/\n` `é" , 'é' << 0x0F / 2 ;` -/
def strL : List LTok :=
  [⟨[], bytesOf ".", .dirMark⟩,
   ⟨[], bytesOf "d", .ident (bytesOf "d")⟩,
   ⟨[32], 34 :: renderAll [.raw 97, .raw 59, .raw 42, .raw 47, .esc 110, .raw 0xE9] ++ [34],
      .str (denoteAll [.raw 97, .raw 59, .raw 42, .raw 47, .esc 110, .raw 0xE9])⟩,
   ⟨[32], bytesOf ",", .sep⟩,
   ⟨[32], 39 :: encodeChar 0xE9 ++ [39], .num 0xE9⟩,
   ⟨[32], [60, 60], .shl⟩,
   ⟨[32], radixPrefix 16 ++ bytesOf "0F", .num 15⟩,
   ⟨[32], [47], .div⟩,
   ⟨[32], radixPrefix 10 ++ bytesOf "2", .num 2⟩,
   ⟨[32], bytesOf ";", .term⟩]

theorem strL_ok : LOk strL [] := by
  have sp : IsSep [32] := isSep_ws [32] (by decide)
  have fsp : Follow (some 32) := by intro b hb; cases hb; decide
  refine ⟨IsSep.nil, Spell.punct 46 _ _ (by decide) (by decide), IsSep.nil, Spell.ident _ _ (by decide) fsp,
    sp, Spell.str _ _ ?_, sp, Spell.punct 44 _ _ (by decide) (by decide), sp, Spell.chr 0xE9 _ ⟨rfl, by omega⟩,
    sp, Spell.shl _, sp, Spell.num 16 _ 15 _ (by omega) (by decide) (by decide) (by decide) fsp,
    sp, Spell.div _ (by intro b hb; cases hb; decide), sp,
    Spell.num 10 _ 2 _ (by omega) (by decide) (by decide) (by decide) fsp,
    sp, Spell.punct 59 _ _ (by decide) (by decide), Or.inl IsSep.nil⟩
  intro it hit
  simp only [List.mem_cons, List.mem_nil_iff, or_false] at hit
  rcases hit with rfl | rfl | rfl | rfl | rfl | rfl
  · exact ⟨rfl, by omega⟩
  · exact ⟨rfl, by omega⟩
  · exact ⟨rfl, by omega⟩
  · exact ⟨rfl, by omega⟩
  · show (escValue 110).isSome = true; decide
  · exact ⟨rfl, by omega⟩

example : ltext strL [] = bytesOf ".d \"a;*/\\n" ++ [0xC3, 0xA9] ++ bytesOf "\" , '" ++ [0xC3, 0xA9] ++ bytesOf "' << 0x0F / 2 ;" := by
  decide

example : tokens (ltext strL []) =
    .ok ⟨[⟨1, 1, .dirMark⟩, ⟨1, 2, .ident (bytesOf "d")⟩, ⟨1, 4, .str [97, 59, 42, 47, 10, 0xC3, 0xA9]⟩, ⟨1, 14, .sep⟩,
      ⟨1, 16, .num 0xE9⟩, ⟨1, 20, .shl⟩, ⟨1, 23, .num 15⟩, ⟨1, 28, .div⟩, ⟨1, 30, .num 2⟩, ⟨1, 32, .term⟩], none, 1, 33⟩ :=
  (layout_tokens strL [] strL_ok).trans (by decide)

/-! ### wrong element positions are refuted -/

/-- `mov r0; nop;` -/
def movL : List LTok :=
  [⟨[], bytesOf "mov", .ident (bytesOf "mov")⟩, ⟨[32], bytesOf "r0", .ident (bytesOf "r0")⟩, ⟨[], bytesOf ";", .term⟩,
   ⟨[32], bytesOf "nop", .ident (bytesOf "nop")⟩, ⟨[], bytesOf ";", .term⟩]

theorem movL_ok : LOk movL [] := by
  refine ⟨IsSep.nil, Spell.ident _ _ (by decide) (by intro b hb; cases hb; decide), isSep_ws [32] (by decide),
    Spell.ident _ _ (by decide) (by intro b hb; cases hb; decide), IsSep.nil, Spell.punct 59 _ _ (by decide) (by decide),
    isSep_ws [32] (by decide), Spell.ident _ _ (by decide) (by intro b hb; cases hb; decide), IsSep.nil,
    Spell.punct 59 _ _ (by decide) (by decide), Or.inl IsSep.nil⟩

example : ltext movL [] = bytesOf "mov r0; nop;" := by decide

def movLo : LexOut := ⟨ltoks [] movL, none, (Pos.of (ltext movL [])).1, (Pos.of (ltext movL [])).2⟩

theorem mov_all : Parse.all movLo =
    .done [⟨1, 1, .instruction (bytesOf "mov") (.cons (.ident (bytesOf "r0")) .nil)⟩, ⟨1, 9, .instruction (bytesOf "nop") .nil⟩] none := by
  rfl

/-- the true positions are (1,1) and (1,9); the list [(1,1),(1,5)] (1:5 is the operand `r0`), which the weak
`stmt_pos_exact` conclusion allows, has no located segmentation -/
example : ∀ (els' : List Element) (left' : List Token) (start' : Nat),
    Parse.StmtsAt (ltext movL []) movLo start' movLo.toks els' left' →
    els'.map (fun e => (e.line, e.col)) ≠ [(1, 1), (1, 5)] := by
  intro els' left' start' h' hpos
  have hex : Exact (ltext movL []) 0 (ltoks [] movL) := by simpa using layout_exact movL [] movL_ok []
  obtain ⟨left, hs, _⟩ := stmt_pos_segments _ _ hex _ none mov_all
  have hlen : els'.length = 2 := by simpa using congrArg List.length hpos
  have := stmt_pos_determined _ _ _ _ els' _ _ _ _ hs h' (by simpa using hlen)
  subst this
  revert hpos
  decide

/-- `mov r0;`: the position 1:2 (where the identifier-like substring `ov` starts), which the per-element conjunct
of `parse_text` allows, is refuted: the only element sits at 1:1 -/
def mov1L : List LTok :=
  [⟨[], bytesOf "mov", .ident (bytesOf "mov")⟩, ⟨[32], bytesOf "r0", .ident (bytesOf "r0")⟩, ⟨[], bytesOf ";", .term⟩]

theorem mov1L_ok : LOk mov1L [] := by
  refine ⟨IsSep.nil, Spell.ident _ _ (by decide) (by intro b hb; cases hb; decide), isSep_ws [32] (by decide),
    Spell.ident _ _ (by decide) (by intro b hb; cases hb; decide), IsSep.nil, Spell.punct 59 _ _ (by decide) (by decide),
    Or.inl IsSep.nil⟩

def mov1Lo : LexOut := ⟨ltoks [] mov1L, none, (Pos.of (ltext mov1L [])).1, (Pos.of (ltext mov1L [])).2⟩

theorem mov1_all : Parse.all mov1Lo = .done [⟨1, 1, .instruction (bytesOf "mov") (.cons (.ident (bytesOf "r0")) .nil)⟩] none := by
  rfl

example : ∀ (els' : List Element) (left' : List Token) (start' : Nat),
    Parse.StmtsAt (ltext mov1L []) mov1Lo start' mov1Lo.toks els' left' →
    els'.map (fun e => (e.line, e.col)) ≠ [(1, 2)] := by
  intro els' left' start' h' hpos
  have hex : Exact (ltext mov1L []) 0 (ltoks [] mov1L) := by simpa using layout_exact mov1L [] mov1L_ok []
  obtain ⟨left, hs, _⟩ := stmt_pos_segments _ _ hex _ none mov1_all
  have hlen : els'.length = 1 := by simpa using congrArg List.length hpos
  have := stmt_pos_determined _ _ _ _ els' _ _ _ _ hs h' (by simpa using hlen)
  subst this
  revert hpos
  decide

end Trion.Lex
