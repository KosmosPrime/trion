import TrionModel.Model.Asm
import TrionModel.Props.C12Parse
import TrionModel.Lemmas.AsmWithin
/-!
# C12 (pipeline clause) — a diagnostic raised for a statement carries the statement's file, line and column

Model: `Trion.Asm` (Model/Asm.lean).  `Parse.stmt_pos` (Props/C12Parse.lean) says an element carries the line and
column of its first token; `Asm.statement` hands exactly `el.line`/`el.col` to every directive and to
`Arm6M::assemble`, and `push_error` adds the name of the file being read (`env.curName`).

A `.global` closure stores line and column only and reports in the file whose loop runs it, which is the file that queued
it (`hf` of `diag_pos_task`).
-/
namespace Trion.Asm
open Trion

def AtMostOneAt (file : Bytes) (line col : Nat) (st st' : St) : Prop :=
  st'.errors = st.errors ∨ ∃ k, st'.errors = ⟨file, line, col, k⟩ :: st.errors

theorem evalStrict_pos {dir : String} {env : Env} {st st' : St} {line col : Nat} {a : Arg} {r : Res}
    (h : evalStrict dir env st line col a = .ok (.error (st', r))) : AtMostOneAt env.curName line col st st' := by
  unfold evalStrict at h
  repeat' split at h
  all_goals (first | (cases h; done) | (cases h; exact .inr ⟨_, rfl⟩))

/-- C12.diag_pos, `.addr` -/
theorem addr_diag_pos {env : Env} {st st' : St} {line col : Nat} {args : List Arg} {r : Res}
    (h : addrDirective env st line col args = .ok (st', r)) : AtMostOneAt env.curName line col st st' := by
  unfold addrDirective at h
  repeat' split at h
  all_goals (first | (cases h; done) | (cases h; exact .inr ⟨_, rfl⟩) | (cases h; exact .inl rfl) | (cases h; exact evalStrict_pos ‹evalStrict _ _ _ _ _ _ = _›))

/-- C12.diag_pos, `.const` -/
theorem const_diag_pos {env : Env} {st st' : St} {line col : Nat} {args : List Arg} {r : Res}
    (h : constDirective env st line col args = .ok (st', r)) : AtMostOneAt env.curName line col st st' := by
  unfold constDirective at h
  repeat' split at h
  all_goals (first | (cases h; done) | (cases h; exact .inr ⟨_, rfl⟩) | (cases h; exact .inl rfl) | (cases h; exact evalStrict_pos ‹evalStrict _ _ _ _ _ _ = _›) | (cases h; exact .inl (insertConstant_errs ‹insertConstant _ _ _ _ = _›)) | (cases h; exact .inr ⟨_, congrArg (List.cons _) (insertConstant_errs ‹insertConstant _ _ _ _ = _›)⟩))

theorem appendData_pos {dir : String} {env : Env} {st st' : St} {line col : Nat} {d : Bytes} {r : Res}
    (h : appendData dir env st line col d = .ok (st', r)) : AtMostOneAt env.curName line col st st' := by
  unfold appendData at h
  repeat' split at h
  all_goals (first | (cases h; done) | (cases h; exact .inr ⟨_, rfl⟩) | (cases h; exact .inl rfl))

/-- C12.diag_pos, `.dhex` / `.dstr` / `.dfile` -/
theorem string_diag_pos {fs : Bytes → Option Bytes} {dir : String} {env : Env} {st st' : St} {line col : Nat}
    {args : List Arg} {r : Res}
    (h : stringDirective fs dir env st line col args = .ok (st', r)) : AtMostOneAt env.curName line col st st' := by
  unfold stringDirective at h
  repeat' split at h
  all_goals (first | (cases h; done) | exact appendData_pos h | (cases h; exact .inr ⟨_, rfl⟩) | (cases h; exact .inl rfl))

/-- C12.diag_pos (partial), whole statements: a label, an instruction outside a region, an unknown directive and
the directives `.addr .const .dhex .dstr .dfile` raise at most one diagnostic, and it carries the name
of the file being read and the line and column of the element — which by `Parse.stmt_pos` are the line and
column of the statement's first token. -/
theorem diag_pos_partial {fs : Bytes → Option Bytes} {enc : Encoder} {inc : Inc} {env : Env} {st st' : St}
    {el : Element} {r : Res} (h : statement fs enc inc env st el = .ok (st', r))
    (hk : (∃ n, el.val = .label n) ∨ (∃ n as, el.val = .instruction n as ∧ st.seg.active.isNone = true) ∨
      ∃ n as, el.val = .directive n as ∧
        n ∉ [bytesOf "align", bytesOf "du8", bytesOf "du16", bytesOf "du32", bytesOf "global", bytesOf "import",
              bytesOf "export", bytesOf "include"]) :
    AtMostOneAt env.curName el.line el.col st st' := by
  unfold statement at h
  rcases hk with ⟨n, hn⟩ | ⟨n, as, hn, ha⟩ | ⟨n, as, hn, hnot⟩
  · rw [hn] at h
    simp only at h
    repeat' split at h
    all_goals (first | (cases h; done) | (cases h; exact .inr ⟨_, rfl⟩) | (cases h; exact .inl (insertConstant_errs ‹insertConstant _ _ _ _ = _›)) | (cases h; exact .inr ⟨_, congrArg (List.cons _) (insertConstant_errs ‹insertConstant _ _ _ _ = _›)⟩))
  · rw [hn] at h
    simp only [ha, if_true] at h
    cases h
    exact .inr ⟨_, rfl⟩
  · rw [hn] at h
    simp only at h
    simp only [List.mem_cons, List.not_mem_nil, or_false, not_or] at hnot
    obtain ⟨hal, h1, h2, h3, h4, h5, h6, h7⟩ := hnot
    exact directive_cases (P := fun o => o = .ok (st', r) → AtMostOneAt env.curName el.line el.col st st')
      (addr := fun _ h => addr_diag_pos h) (align := fun e => absurd e hal) (const := fun _ h => const_diag_pos h)
      (du := fun du e => match du, e with | .u8, e => absurd e h1 | .u16, e => absurd e h2 | .u32, e => absurd e h3)
      (str := fun _ _ _ h => string_diag_pos h)
      (glob := fun g e => match g, e with
        | .global, e => absurd e h4 | .import_, e => absurd e h5 | .export_, e => absurd e h6)
      (incl := fun e => absurd e h7) (unk := fun h => by cases h; exact .inr ⟨_, rfl⟩) h

/-- C12.diag_pos, the parser's error: `do_assemble` reports it at the position the parser gave it -/
theorem parse_error_pos {fs : Bytes → Option Bytes} {enc : Encoder} {inc : Inc} {env : Env} {st : St} (e : ParseErr) :
    doAssemble fs enc inc env [] (some e) st = .ok (st.push env e.line e.col (.parse e.kind), .err .fatal) := rfl

def DataExpr.samePos (d d' : DataExpr) : Prop := d'.file = d.file ∧ d'.line = d.line ∧ d'.col = d.col

/-- a retried statement keeps the position it was created with (`DataExpr`): `apply` changes `arg` and `placed` only -/
theorem data_keeps_pos {d d' : DataExpr} {env : Env} {st st' : St} {loc : Bool} {op : Op}
    (h : d.apply env st loc = .ok (d', st', op)) : d.samePos d' := by
  exact (apply_addsK (m := .stmt) ⟨rfl, rfl, rfl⟩ _ _ _ h).2.1

/-- C12.diag_pos  Every diagnostic that is recorded and every task that is queued while a statement other than
`.include` is processed carries the name of the file being read and the line and column of the element, which
(`Parse.stmt_pos`) are the line and column of the statement's first token.  (`Eff f l c st st'`: every diagnostic
of `st'` is one of `st` or is at `(f, l, c)`; likewise for both task queues.) -/
theorem diag_pos {fs : Bytes → Option Bytes} {enc : Encoder} {inc : Inc} {env : Env} {st st' : St} {el : Element} {r : Res}
    (hni : ∀ as, el.val ≠ .directive (bytesOf "include") as)
    (h : statement fs enc inc env st el = .ok (st', r)) : Eff env.curName el.line el.col st st' :=
  (statement_addsK hni _ _ h).eff

/-- C12.diag_pos, deferred statements: when a queued task runs (end of the file, end of the includer, `finalize`),
every diagnostic it records and the task it re-queues carry the position stored in the task — by `diag_pos` the
position of the statement that queued it. -/
theorem diag_pos_task {enc : Encoder} {env : Env} {st st' : St} {t : Task} {f : Bytes} {l c : Nat} {r : Res}
    (ht : t.at f l c) (hf : ∀ n l' c', t = .globalCopy n l' c' → f = env.curName)
    (h : runTask enc env st t = .ok (st', r)) : Eff f l c st st' :=
  (runTask_effK ht hf _ _ h).toEff

/-- C12.diag_pos, `.include`: apart from what the included file records itself, the statement adds at most the
final diagnostic at its own position. -/
theorem diag_pos_include {fs : Bytes → Option Bytes} {inc : Inc} {env : Env} {st st' : St} {line col : Nat}
    {args : List Arg} {r : Res} (h : includeDirective fs inc env st line col args = .ok (st', r)) :
    Eff env.curName line col st st' ∨
    ∃ data path st1 r1, fs path = some data ∧ inc env st data path = .ok (st1, r1) ∧ Eff env.curName line col st1 st' :=
  (includeDirective_effK _ _ h).imp EffK.toEff fun ⟨data, path, st1, r1, h1, h2, h3⟩ =>
    ⟨data, path, st1, r1, h1, h2, h3.toEff⟩

-- non-vacuity: a `.du8` with an unknown name queues a task at the statement's position
example : (Task.data ⟨.u8, [109], 3, 5, 0, .ident [120], true⟩ false).at [109] 3 5 := ⟨rfl, rfl, rfl⟩

-- non-vacuity: `.addr "x";` at 3:5 of file `m` raises exactly one diagnostic there
example : ∃ k, (addrDirective ⟨[[109]], [109]⟩ { St.init with locals := some [], localTasks := some [] } 3 5 [.str [120]]) =
    .ok (({ St.init with locals := some [], localTasks := some [] } : St).pushIn [109] 3 5 k, .err .trivial) := ⟨_, rfl⟩

/-- C12.diag_pos_run  The whole-run statement, aggregated from `diag_pos` (statements), `diag_pos_task` (retries and the
closures of `.global`, run by the loop of the file that queued them or — rescheduled — by the includer's loop or
`finalize`) and `diag_pos_include` (the recursion), over every include depth, both task loops and `finalize`
(`runWith_dblame`: the rule of Lemmas/AsmWithin.lean at the statements of the project, of which this is the position part):
EVERY recorded diagnostic names a file of the project and sits at the position of one of that file's statements (by
`Parse.stmt_pos` the position of the statement's first token), or is the report of the tokenizer / parser error that ended
the file, at the error's own position (`parse_error_pos`). -/
theorem diag_pos_run (fs : Bytes → Option Bytes) (main : Bytes) (o : Outcome) (h : run fs main = .done o) :
    ∀ d ∈ o.diags, ∃ text lo els err, fs d.file = some text ∧ Lex.tokens text = .ok lo ∧ Parse.all lo = .done els err ∧
      ((∃ el ∈ els, d.line = el.line ∧ d.col = el.col) ∨
       ∃ e, err = some e ∧ d.line = e.line ∧ d.col = e.col ∧ ∃ k, d.kind = .parse k) := by
  intro d hd
  obtain ⟨text, lo, els, err, h1, h2, h3, hb⟩ := runWith_dblame h d hd
  exact ⟨text, lo, els, err, h1, h2, h3, hb.pos⟩

-- non-vacuity of `diag_pos_run`: the parse error that ends a file is reported at its own position, with kind `parse`
example (fs : Bytes → Option Bytes) (enc : Encoder) (inc : Inc) (env : Env) (st : St) (e : ParseErr) :
    ∃ st', doAssemble fs enc inc env [] (some e) st = .ok (st', .err .fatal) ∧
      st'.errors = ⟨env.curName, e.line, e.col, .parse e.kind⟩ :: st.errors := ⟨_, rfl, rfl⟩

end Trion.Asm
