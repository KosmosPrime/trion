import TrionModel.Lemmas.C04Dich
import TrionModel.Props.C04Layout
/-!
# C04 — the diagnosed case with KIND, exclusivity and (where proved) the IMAGE clause

The third disjunct of `run_defs_stmt3` / `run_any3` / `run_layout3` says only "not a success, some diagnostic, every
diagnostic at the statement".  `Diagnosed` (below) adds:

* KIND: every diagnostic `d` satisfies `Asm.Pushes el d.kind` for the instruction statement `el` — `d.kind` is one of
  `inactive`, `instrNotFound`, `instrTooMany`, `instrNotEnough`, `instrArgType`, `instrAssemble _` (never a directive,
  label or parse kind): `run_last` (Lemmas/C06Run.lean) at the site of `el`, through the first attempt, the queued retry,
  both task loops and `finalize`;
* EXCLUSIVITY: the front end does not complete the statement to an instruction the encoder accepts
  (`∀ i hws, ¬ (build … = completed i ∧ encode i = ok hws)`), whereas in the first two cases it does — the three cases are
  mutually exclusive.  (Stated on `build`, not on `means2`: for one-register sums `means2` uses exact integers while the
  simplifier's checked i64 folding can overflow, so "diagnosed although `means2` is `some`" is possible; for operands
  `wellFormed` in the sense of Spec/C04.lean `stmt_iff` turns this into `means`.)
* IMAGE, first sub-case: if the front end completes (`build … = completed i`) and the ENCODER refuses, the run has exactly
  one diagnostic `instrAssemble (asmEncode e')` at the statement and the image is EMPTY — no byte is placed.

NOT proved (`_partial` in the names below refers to this): the image clause of the second sub-case, a front-end error at the
first attempt (`build … = error d st`, e.g. `.addr 0; B 5000;`).  There the model (like the code) writes the placeholder
(0xBE × the length of the partially filled instruction) at `A`, queues the retry, and the retry reports again; that the
final image is nothing but that placeholder is not derived here; the retry theorem for ERROR outcomes it needs is
Props/C08Error.lean (`instr_task_error_again`: for operands with `ErrAgainT` the task reports again and leaves the placeholder).
-/
namespace Trion.C04
open Trion Trion.Front Trion.Asm

theorem instr_encfail (fs : Bytes → Option Bytes) (inc : Asm.Inc) (env : Asm.Env) (st : Asm.St) (tbl : Asm.Table)
    (henv : env.paths ≠ []) (hl : st.locals = some tbl) (l c : Nat) (name : Bytes) (args : Args)
    (map : Map.Segs) (seg : Seg.Active) (pending : List (Nat × Nat)) (hs : st.seg = ⟨map, some seg, pending⟩)
    (i : Instr) (hb : Front.build seg.cur name args.toList (Asm.frontEval tbl) true = .completed i)
    (e : Codec.EncErr) (he : Codec.encode i = .error e) :
    ∃ e', Asm.statement fs Asm.encoder inc env st ⟨l, c, .instruction name args⟩ =
      .ok (st.push env l c (.instrAssemble (.asmEncode e')), .err .fatal) := by
  obtain ⟨e', he'⟩ := encoder_err he
  refine ⟨e', ?_⟩
  obtain ⟨fst, hi, heq⟩ := instruction_of_build env st tbl henv hl l c name args.toList map seg pending hs i hb
  simp only [Asm.statement, hs, Option.isNone_some, Bool.false_eq_true, if_false, heq, Asm.ArmInstr.writeInstr, hi, he',
    Asm.St.push, Asm.St.pushIn]

/-- the third case: diagnosed — at the statement, with an instruction kind, the front end not completing to an encodable
instruction; and, when the refusal is the encoder's, exactly one diagnostic and an empty image -/
def Diagnosed (fs : Bytes → Option Bytes) (main : Bytes) (els : List Element) (tbl : Asm.Table) (A : Nat) (name : Bytes)
    (args : Args) : Prop :=
  ∃ el o, el ∈ els ∧ el.val = .instruction name args ∧ Asm.run fs main = .done o ∧ o.success = false ∧ o.diags ≠ [] ∧
    (∀ d ∈ o.diags, (d.file = main ∧ d.line = el.line ∧ d.col = el.col) ∧ Asm.Pushes el d.kind) ∧
    (∀ i hws, ¬ (build A name args.toList (Asm.frontEval tbl) true = .completed i ∧ Codec.encode i = .ok hws)) ∧
    (∀ i, build A name args.toList (Asm.frontEval tbl) true = .completed i →
      o.image = [] ∧ ∃ e', o.diags = [⟨main, el.line, el.col, .instrAssemble (.asmEncode e')⟩])

/-- the third disjunct of `run_defs_stmt3` follows -/
theorem Diagnosed.old {fs : Bytes → Option Bytes} {main : Bytes} {els : List Element} {tbl : Asm.Table} {A : Nat}
    {name : Bytes} {args : Args} (h : Diagnosed fs main els tbl A name args) :
    ∃ el o, el ∈ els ∧ el.val = .instruction name args ∧ Asm.run fs main = .done o ∧ o.success = false ∧ o.diags ≠ [] ∧
      ∀ d ∈ o.diags, d.file = main ∧ d.line = el.line ∧ d.col = el.col := by
  obtain ⟨el, o, h1, h2, h3, h4, h5, h6, _⟩ := h
  exact ⟨el, o, h1, h2, h3, h4, h5, fun d hd => (h6 d hd).1⟩

/-- the three cases exclude each other: in the first two the front end completes to an encodable instruction -/
theorem Diagnosed.exclusive {fs : Bytes → Option Bytes} {main : Bytes} {els : List Element} {tbl : Asm.Table} {A : Nat}
    {name : Bytes} {args : Args} (h : Diagnosed fs main els tbl A name args) :
    ¬ Assembled fs main tbl A name args ∧ ¬ NoRoom fs main els tbl A name args := by
  obtain ⟨el, o, _, _, _, _, _, _, hno, _⟩ := h
  constructor
  · rintro ⟨i, hws, hb, _, _, he, _⟩
    exact hno i hws ⟨hb, he⟩
  · rintro ⟨i, hws, el', o', hb, _, _, he, _⟩
    exact hno i hws ⟨hb, he⟩

/-- C04k.a  **Completed by the front end, refused by the encoder** (out of range, misaligned, high register …): anywhere in
the main file after `.addr A;` and definitions (followed by anything) — exactly one diagnostic `instrAssemble (asmEncode _)`
at the statement and an EMPTY image -/
theorem run_stmt_encfail (fs : Bytes → Option Bytes) (main data : Bytes) (hfs : fs main = some data)
    (els : List Element) (perr : Option ParseErr) (hp : Asm.parseFile data = .ok (els, perr)) (A : Nat) (hA : A < 4294967296)
    (defs : List (Bytes × Arg)) (tbl : Asm.Table) (hdefs : defsTable defs [] = some tbl)
    (pre post : List Element) (l c : Nat) (name : Bytes) (args : Args)
    (hels : els = pre ++ ⟨l, c, .instruction name args⟩ :: post)
    (hpre : pre.map (·.val) = .directive (bytesOf "addr") (Args.ofList [.const A]) :: defs.map constStmt)
    (i : Instr) (hb : build A name args.toList (Asm.frontEval tbl) true = .completed i)
    (e : Codec.EncErr) (he : Codec.encode i = .error e) :
    ∃ o e', Asm.run fs main = .done o ∧ o.success = false ∧
      o.diags = [⟨main, l, c, .instrAssemble (.asmEncode e')⟩] ∧ o.image = [] := by
  obtain ⟨e', hst⟩ := instr_encfail fs (C06.incOf fs) (C06.envOf main) (C06.stateAt A tbl) tbl (by simp) rfl l c name args []
    ⟨A, [], Map.u32Max - A + 1⟩ [] rfl i (by rw [Show.cur_empty A _ hA]; exact hb) e he
  obtain ⟨o, h⟩ := run_stmt_single fs main data hfs els perr hp A hA defs tbl hdefs pre post _ hels hpre hst
  exact ⟨o, e', h⟩

/-- C04k.b  **Unknown mnemonic**: exactly one `instrNotFound` diagnostic (with the case-folded name) at the statement, empty
image -/
theorem run_stmt_unknown_exact (fs : Bytes → Option Bytes) (main data : Bytes) (hfs : fs main = some data)
    (els : List Element) (perr : Option ParseErr) (hp : Asm.parseFile data = .ok (els, perr)) (A : Nat) (hA : A < 4294967296)
    (defs : List (Bytes × Arg)) (tbl : Asm.Table) (hdefs : defsTable defs [] = some tbl)
    (pre post : List Element) (l c : Nat) (name : Bytes) (args : Args)
    (hels : els = pre ++ ⟨l, c, .instruction name args⟩ :: post)
    (hpre : pre.map (·.val) = .directive (bytesOf "addr") (Args.ofList [.const A]) :: defs.map constStmt)
    (hm : mnemonic name = none) :
    ∃ o, Asm.run fs main = .done o ∧ o.success = false ∧
      o.diags = [⟨main, l, c, .instrNotFound (foldName name)⟩] ∧ o.image = [] := by
  exact run_stmt_single fs main data hfs els perr hp A hA defs tbl hdefs pre post ⟨l, c, .instruction name args⟩ hels hpre
    (k := .instrNotFound (foldName name)) (lv := .fatal) (by simp [Asm.statement, C06.stateAt, Asm.instruction, Asm.currAddr, hm])

/-- C04k.c  **Trichotomy through the whole pipeline model, third case with kind / exclusivity / image** (`run_defs_stmt3`
is its projection by `Diagnosed.old`; `_partial`: no image clause when the FIRST ATTEMPT ends in a front-end error, see the header) -/
theorem run_defs_stmt4_partial (fs : Bytes → Option Bytes) (main data : Bytes) (hfs : fs main = some data)
    (els : List Element) (hp : Asm.parseFile data = .ok (els, none)) (A : Nat) (hA : A < 4294967296)
    (defs : List (Bytes × Arg)) (name : Bytes) (args : Args) (hels : els.map (·.val) = progVals A defs name args)
    (tbl : Asm.Table) (hdefs : defsTable defs [] = some tbl)
    (t : Instr) (hm : mnemonic name = some t) (hw : wellFormed2 (tabOf tbl) (sig t) args.toList)
    (hq : ∀ vs, denoteAll2 (tabOf tbl) (sig t) args.toList = some vs → ¬ svQuirk t vs) :
    Assembled fs main tbl A name args ∨ NoRoom fs main els tbl A name args ∨ Diagnosed fs main els tbl A name args := by
  rcases run_defs_stmt_cases fs main data hfs els hp A hA defs name args hels tbl hdefs t hm hw hq with
    h | h | hne
  · exact .inl h
  · exact .inr (.inl h)
  rcases hne.cases with ⟨i, e, hb, he⟩ | ⟨d, st, hb⟩
  · obtain ⟨pre, l, c, hel, hpre⟩ := progVals_split hels
    obtain ⟨o, e', ho1, ho2, ho3, ho4⟩ := run_stmt_encfail fs main data hfs els none hp A hA defs tbl hdefs pre [] l c name args
      hel hpre i hb e he
    refine .inr (.inr ⟨⟨l, c, .instruction name args⟩, o, by simp [hel], rfl, ho1, ho2, by rw [ho3]; simp, ?_,
      fun i' hws h => hne.refused i' hws h.1 h.2, fun _ _ => ⟨ho4, e', ho3⟩⟩)
    intro d hd
    rw [ho3] at hd
    rw [List.mem_singleton.mp hd]
    exact ⟨⟨rfl, rfl, rfl⟩, rfl⟩
  · obtain ⟨el, o, h1, h2, h3, h4, h5, h6⟩ := run_defs_stmt_diag_buildK fs main data hfs els hp A hA defs name args hels tbl
      hdefs t hm hne
    refine .inr (.inr ⟨el, o, h1, h2, h3, h4, h5, fun d' hd' => ⟨(h6 d' hd').1, ?_⟩,
      fun i' hws h => hne.refused i' hws h.1 h.2, fun i' hb' => by rw [hb] at hb'; cases hb'⟩)
    unfold Asm.Pushes
    rw [h2]
    exact (h6 d' hd').2

/-- C04k.d  the same on text, any piece spelling of the statement (it implies `run_any3`) -/
theorem run_any4_partial (fs : Bytes → Option Bytes) (main : Bytes) (A : Nat) (hA : A < 4294967296) (defs : List (Bytes × Arg))
    (hdefsok : ∀ d ∈ defs, Lex.identOk d.1 = true ∧ Show.Opnd d.2) (ps : List Lex.Piece) (hv : Lex.Valid ps none)
    (name : Bytes) (as : PArgs) (haswf : as.wf)
    (hvals : Lex.tokVals ps = .ident name :: Render.pargs as ++ [.term])
    (hfs : fs main = some (progTextP A defs ps))
    (tbl : Asm.Table) (hdefs : defsTable defs [] = some tbl)
    (t : Instr) (hm : mnemonic name = some t) (hw : wellFormed2 (tabOf tbl) (sig t) as.erase.toList)
    (hq : ∀ vs, denoteAll2 (tabOf tbl) (sig t) as.erase.toList = some vs → ¬ svQuirk t vs) :
    ∃ els, Asm.parseFile (progTextP A defs ps) = .ok (els, none) ∧
      (Assembled fs main tbl A name as.erase ∨ NoRoom fs main els tbl A name as.erase ∨
        Diagnosed fs main els tbl A name as.erase) := by
  obtain ⟨els, hp, hels⟩ := parseFile_pieces A hA defs hdefsok ps hv name as haswf hvals
  exact ⟨els, hp, run_defs_stmt4_partial fs main _ hfs els hp A hA defs name as.erase hels tbl hdefs t hm hw hq⟩

/-- C04k.e  the same on text, ANY lexer layout of the statement (it implies `run_layout3`) -/
theorem run_layout4_partial (fs : Bytes → Option Bytes) (main : Bytes) (A : Nat) (hA : A < 4294967296)
    (defs : List (Bytes × Arg))
    (hdefsok : ∀ d ∈ defs, Lex.identOk d.1 = true ∧ Show.Opnd d.2) (x : Lex.LTok) (r : List Lex.LTok) (trail : Bytes)
    (hL : Lex.LOk (x :: r) trail) (name : Bytes) (as : PArgs) (haswf : as.wf)
    (hvals : (x :: r).map (·.tok) = .ident name :: Render.pargs as ++ [.term])
    (hfs : fs main = some (progTextL A defs x r trail))
    (tbl : Asm.Table) (hdefs : defsTable defs [] = some tbl)
    (t : Instr) (hm : mnemonic name = some t) (hw : wellFormed2 (tabOf tbl) (sig t) as.erase.toList)
    (hq : ∀ vs, denoteAll2 (tabOf tbl) (sig t) as.erase.toList = some vs → ¬ svQuirk t vs) :
    ∃ els, Asm.parseFile (progTextL A defs x r trail) = .ok (els, none) ∧
      (Assembled fs main tbl A name as.erase ∨ NoRoom fs main els tbl A name as.erase ∨
        Diagnosed fs main els tbl A name as.erase) := by
  obtain ⟨els, hp, hels⟩ := parseFile_layout A hA defs hdefsok x r trail hL name as haswf hvals
  exact ⟨els, hp, run_defs_stmt4_partial fs main _ hfs els hp A hA defs name as.erase hels tbl hdefs t hm hw hq⟩

/-- C04k.f  unknown mnemonic, any layout: exactly one `instrNotFound` diagnostic at the statement, empty image
(it implies `run_layout_unknown`) -/
theorem run_layout_unknown_exact (fs : Bytes → Option Bytes) (main : Bytes) (A : Nat) (hA : A < 4294967296)
    (defs : List (Bytes × Arg))
    (hdefsok : ∀ d ∈ defs, Lex.identOk d.1 = true ∧ Show.Opnd d.2) (x : Lex.LTok) (r : List Lex.LTok) (trail : Bytes)
    (hL : Lex.LOk (x :: r) trail) (name : Bytes) (as : PArgs) (haswf : as.wf)
    (hvals : (x :: r).map (·.tok) = .ident name :: Render.pargs as ++ [.term])
    (hfs : fs main = some (progTextL A defs x r trail))
    (tbl : Asm.Table) (hdefs : defsTable defs [] = some tbl) (hm : mnemonic name = none) :
    ∃ els el o, Asm.parseFile (progTextL A defs x r trail) = .ok (els, none) ∧ el ∈ els ∧
      el.val = .instruction name as.erase ∧ Asm.run fs main = .done o ∧ o.success = false ∧
      o.diags = [⟨main, el.line, el.col, .instrNotFound (foldName name)⟩] ∧ o.image = [] := by
  obtain ⟨els, hp, hels⟩ := parseFile_layout A hA defs hdefsok x r trail hL name as haswf hvals
  obtain ⟨pre, l, c, hel, hpre⟩ := progVals_split hels
  obtain ⟨o, h1, h2, h3, h4⟩ := run_stmt_unknown_exact fs main _ hfs els none hp A hA defs tbl hdefs pre [] l c name as.erase
    hel hpre hm
  exact ⟨els, ⟨l, c, .instruction name as.erase⟩, o, hp, by simp [hel], rfl, h1, h2, h3, h4⟩

-- non-vacuity of the encoder-refusal sub-case: `ADDS R1, R1, 300` has the meaning `add true 1 1 (imm 300)` (C04Text) and the
-- encoder refuses it
example : means (tabOf []) 0 (bytesOf "ADDS") [.ident (bytesOf "R1"), .ident (bytesOf "R1"), .const 300] =
      some (.add true 1 1 (.imm 300)) ∧ Codec.encode (.add true 1 1 (.imm 300)) = .error .unrepresentable :=
  ⟨by decide, rfl⟩

end Trion.C04
