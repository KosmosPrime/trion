import TrionModel.Props.C08Bytes
import TrionModel.Lemmas.SimpArithFwd
import TrionModel.Lemmas.AsmRetryAgree
/-!
# C08 (statement level) with `Deferred` names in the table of the first attempt

`Table.NoDef t₁` is the one hypothesis of Props/C08Full.lean.  Without it — a name declared by `.global` (or imported
while unvalued) is `Lookup::Deferred` — the first attempt does not stop at the name: `evaluate` SIMPLIFIES AROUND it
(merges constants across it, removes neutral elements, swaps negated differences) and the statement is deferred with the
simplified tree.  The re-run then substitutes the value into that tree, the fresh assembly substitutes first.

What is true and proved here: if both routes deliver a NUMBER it is the same number, and they differ in ACCEPTANCE at most
by an arithmetic overflow (`EvalError::Overflow`: the last section has the witness); for an instruction statement deferred
by an unknown or a Deferred name the same (`stmt_acceptance_deferred`: whenever the re-run or the fresh assembly completes,
the other completes with the same instruction or reports an overflow) — no condition at number positions, operands free
of Deferred names at the register / address positions.
The model follows the repair F31 of /repo (DESIGN.md §11; K6 in props/C08.json, which in DESIGN.md names a C15 finding):
`neutralize_raw` strips double negations,
`-(-v) ↦ v`.  Without that rule acceptance differs WITHOUT any overflow: the witness is below (`deferred_below6/above6`).
-/
namespace Trion.Asm
open Trion

/-- the table has only `i64` values (not `TableOk` of Lemmas/AsmBase.lean: no register name is a key) -/
def Table.Ok (t : Table) : Prop := Simp.tableOk (fun n => t.get n)

/-- what a first `evaluate` over `t₁` leaves in place of the operand `a` -/
def LeftByT (t₁ : Table) (a a₁ : Arg) : Prop := Simp.LeftBy (fun n => t₁.get n) Front.isRegister a a₁

/-- C08 (numbers, Deferred names allowed in `t₁`)  The operand of `.du*` / an immediate / a branch target: whatever the
first attempt over `t₁` did to the tree (simplified around Deferred names, or stopped at an unknown name), if the
re-evaluation over `t₂ ⊇ t₁` and the fresh evaluation over `t₂` both deliver a number, it is the same number. -/
theorem du_number_order_independent {t₁ t₂ : Table} (hs : Table.Sub t₁ t₂) (hT : Table.Ok t₂) (a : Arg)
    (hlit : Simp.litsOk a = true) (a₁ : Arg) (hl : LeftByT t₁ a a₁) (v w : Int)
    (h₂ : evalIn t₂ a₁ = .ok (.complete (.const v))) (h : evalIn t₂ a = .ok (.complete (.const w))) : v = w := by
  obtain ⟨ev₂, e₂, _⟩ := evalIn_complete_iff.1 h₂
  obtain ⟨ev, e, _⟩ := evalIn_complete_iff.1 h
  exact Simp.number_order_independent (Table.sub_get hs) hT hlit hl e₂ e

/-- C08 (numbers, acceptance)  If the FRESH evaluation over `t₂` delivers the number `w`, the re-evaluation of what the
first attempt left delivers `w` as well, or it is diagnosed with an ARITHMETIC OVERFLOW (`EvalError::Overflow`) — nothing
else can happen.  (`.global x; .du32 x + MAX - MAX; x:` is the other direction: the first attempt cancels `MAX - MAX`.) -/
theorem du_retry_of_fresh {t₁ t₂ : Table} (hs : Table.Sub t₁ t₂) (hT : Table.Ok t₂) (a : Arg)
    (hlit : Simp.litsOk a = true) (a₁ : Arg) (hl : LeftByT t₁ a a₁) (w : Int)
    (h : evalIn t₂ a = .ok (.complete (.const w))) :
    evalIn t₂ a₁ = .ok (.complete (.const w)) ∨ ∃ k y, evalIn t₂ a₁ = .ok (.err (.overflow k) y) :=
  evalIn_retry_of_fresh hs hT hlit hl h

/-- C08 (numbers, acceptance, the other direction)  If the RE-EVALUATION delivers the number `v`, the fresh evaluation over
`t₂` delivers `v` as well or is diagnosed with an arithmetic overflow. -/
theorem du_fresh_of_retry {t₁ t₂ : Table} (hs : Table.Sub t₁ t₂) (hT : Table.Ok t₂) (a : Arg)
    (hlit : Simp.litsOk a = true) (a₁ : Arg) (hl : LeftByT t₁ a a₁) (v : Int)
    (h : evalIn t₂ a₁ = .ok (.complete (.const v))) :
    evalIn t₂ a = .ok (.complete (.const v)) ∨ ∃ k y, evalIn t₂ a = .ok (.err (.overflow k) y) :=
  evalIn_fresh_of_retry hs hT hlit hl h

/-- C08 (data, bytes, Deferred names allowed)  `DataExpr::apply` on the tree the first attempt left and on the original
operand, over `t₂`: if BOTH complete, they return the same data expression and the same assembler state — the same bytes
at the same address. -/
theorem du_bytes_order_independent_deferred {t₁ t₂ : Table} (hs : Table.Sub t₁ t₂) (hT : Table.Ok t₂) (a : Arg)
    (hlit : Simp.litsOk a = true) (a₁ : Arg) (hl : LeftByT t₁ a a₁) (d : DataExpr) (env : Env) (st : St)
    (ht : evalTable env st = .ok t₂) (loc : Bool) (d₁ d₂ : DataExpr) (st₁ st₂ : St)
    (h₁ : ({ d with arg := a₁ } : DataExpr).apply env st loc = .ok (d₁, st₁, .completed))
    (h₂ : ({ d with arg := a } : DataExpr).apply env st loc = .ok (d₂, st₂, .completed)) : d₁ = d₂ ∧ st₁ = st₂ := by
  obtain ⟨v₁, e₁, w₁⟩ := DataExpr.apply_completed ht h₁
  obtain ⟨v₂, e₂, w₂⟩ := DataExpr.apply_completed ht h₂
  cases du_number_order_independent hs hT a hlit a₁ hl v₁ v₂ e₁ e₂
  rw [w₁] at w₂
  simp only [Out.ok.injEq, Prod.mk.injEq] at w₂
  exact ⟨w₂.1, w₂.2.1⟩

/-- C08 (instructions, Deferred names allowed in `t₁`, ACCEPTANCE)  First `assemble` over `t₁` deferred and queued `fs1`; at
the `ImmReg / Address / AddrOffset` positions the operand mentions no Deferred name of `t₁`.  Over `t₂ ⊇ t₁`, whenever the
fresh assembly or the re-run completes, the other completes with the same instruction or ends with an arithmetic-overflow
diagnostic. -/
theorem stmt_acceptance_deferred {t₁ t₂ : Table} (hs : Table.Sub t₁ t₂) (hT : Table.Ok t₂) (addr : Nat)
    (name : Bytes) (args : List Arg) (hlit : ∀ a ∈ args, Simp.litsOk a = true) (c : Bytes) (fs1 : Front.St)
    (h1 : Front.build addr name args (frontEval t₁) true = .deferred c fs1)
    (hp : ∀ t, Front.mnemonic name = some t → ∀ p ∈ List.zip (Front.kinds t) args, p.1.shape = true →
      noDeferredIn t₁ p.2 = true) :
    (∀ i, Front.build addr name args (frontEval t₂) true = .completed i →
      (∃ fs2, Front.assemble fs1 (frontEval t₂) false = (fs2, .completed) ∧ fs2.instr = i) ∨
      (Front.assemble fs1 (frontEval t₂) false).2.isOverflow) ∧
    (∀ fs2, Front.assemble fs1 (frontEval t₂) false = (fs2, .completed) →
      Front.build addr name args (frontEval t₂) true = .completed fs2.instr ∨
      ∃ st w, Front.build addr name args (frontEval t₂) true = .error (.evalErr (.overflow w)) st) := by
  obtain ⟨t, hm, ha⟩ := Front.build_deferred_inv h1
  have ov := Front.assemble_retry_ov (frontEval t₁) (frontEval t₂) addr t args
    (fun p hpz => growsO_any hs hT p.1 p.2 (hlit p.2 (List.of_mem_zip hpz).2) (hp t hm p hpz)) fs1 c ha false
  refine ⟨fun i hb => ?_, fun fs2 h2 => ?_⟩
  · -- fresh completed
    obtain ⟨fsT, hg, rfl⟩ := (Front.build_completed_assemble hm).1 hb
    have hf := assemble_completed_loc false hg
    rcases ov.1 (by rw [hf]) with ⟨q1, q2⟩ | q
    · left
      cases hr : Front.assemble fs1 (frontEval t₂) false with
      | mk fs2 r2 =>
        rw [hr] at q1 q2
        simp only at q1
        subst q1
        rw [hf] at q2
        exact ⟨fs2, rfl, q2⟩
    · exact .inr q
  · -- retry completed
    rcases ov.2 (by rw [h2]) with ⟨q1, q2⟩ | q
    · left
      cases hf : Front.assemble ⟨addr, t, 0, args⟩ (frontEval t₂) false with
      | mk fsF rF =>
        rw [hf] at q1 q2
        simp only at q1
        subst q1
        rw [h2] at q2
        exact (Front.build_completed_assemble hm).2 ⟨fsF, assemble_completed_loc true hf, q2⟩
    · right
      -- an overflow diagnostic does not depend on `local` either
      cases hf : Front.assemble ⟨addr, t, 0, args⟩ (frontEval t₂) false with
      | mk fsF rF =>
        rw [hf] at q
        obtain ⟨w, rfl⟩ := Front.Res.isOverflow_iff.1 q
        rw [Front.build_front name hm (Front.assemble_loc hf q.locFree true)]
        exact ⟨_, _, rfl⟩

/-- C08 (instructions, Deferred names allowed in `t₁`)  First `assemble` over `t₁` deferred — by an unknown name or by a
name declared `.global` and not yet valued — and queued `fs1`.  If the re-run from `fs1` over `t₂ ⊇ t₁` AND the fresh
assembly over `t₂` both complete, they give the same instruction (same address: the same bytes).
No condition at the operand positions that need a number (`Immediate`, `Offset`: branch / `BL` / `ADR` targets, `SVC`,
`BKPT`, `UDF`, `RSBS`'s `#0`), whatever the operand mentions.  At the `ImmReg / Address / AddrOffset` positions the operand
must not MENTION a Deferred name of `t₁` (`noDeferredIn`).

FULL-STRENGTH STATEMENT, not proved: the same without `hp`.  What is missing is "both accepted ⇒ same register / address
shape" for a register-mixed operand that was simplified around a Deferred name; no counter-example was found (650k
statements over `{r0, r1, x, ±1, 5}`); on the code before the repair F31 ACCEPTANCE itself is order dependent for such
operands (witness below). -/
theorem stmt_order_independent_deferred_partial {t₁ t₂ : Table} (hs : Table.Sub t₁ t₂) (hT : Table.Ok t₂) (addr : Nat)
    (name : Bytes) (args : List Arg) (hlit : ∀ a ∈ args, Simp.litsOk a = true) (c : Bytes) (fs1 : Front.St)
    (h1 : Front.build addr name args (frontEval t₁) true = .deferred c fs1)
    (hp : ∀ t, Front.mnemonic name = some t → ∀ p ∈ List.zip (Front.kinds t) args, p.1.shape = true →
      noDeferredIn t₁ p.2 = true)
    (fs2 : Front.St) (i : Instr) (h2 : Front.assemble fs1 (frontEval t₂) false = (fs2, .completed))
    (h3 : Front.build addr name args (frontEval t₂) true = .completed i) : fs2.instr = i := by
  rcases (stmt_acceptance_deferred hs hT addr name args hlit c fs1 h1 hp).2 fs2 h2 with h | ⟨_, _, h⟩ <;> rw [h3] at h <;>
    cases h
  rfl

/-- C08 (instructions whose evaluated operands are all numbers, Deferred names allowed): no condition on the operands -/
theorem stmt_order_independent_deferred_number {t₁ t₂ : Table} (hs : Table.Sub t₁ t₂) (hT : Table.Ok t₂) (addr : Nat)
    (name : Bytes) (args : List Arg) (hlit : ∀ a ∈ args, Simp.litsOk a = true) (c : Bytes) (fs1 : Front.St)
    (h1 : Front.build addr name args (frontEval t₁) true = .deferred c fs1)
    (hk : ∀ t, Front.mnemonic name = some t → ∀ k ∈ Front.kinds t, k.shape = false)
    (fs2 : Front.St) (i : Instr) (h2 : Front.assemble fs1 (frontEval t₂) false = (fs2, .completed))
    (h3 : Front.build addr name args (frontEval t₂) true = .completed i) : fs2.instr = i := by
  refine stmt_order_independent_deferred_partial hs hT addr name args hlit c fs1 h1 ?_ fs2 i h2 h3
  intro t hm p hpz hsh
  have := hk t hm p.1 (List.of_mem_zip hpz).1
  rw [this] at hsh
  cases hsh

/-- C08 (instructions whose evaluated operands are all numbers — `B`, `B<cond>`, `BL`, `ADR`, `BKPT`, `SVC`, `UDF`, `RSBS` —,
Deferred names allowed in `t₁`, ACCEPTANCE)  First `assemble` over `t₁` deferred.  Over `t₂ ⊇ t₁`:
* if the FRESH assembly completes with `i`, the re-run completes with `i` or ends with an arithmetic-overflow diagnostic;
* if the RE-RUN completes with `i`, the fresh assembly completes with `i` or ends with an arithmetic-overflow diagnostic.
So the two orders give the same bytes or one of them reports `EvalError::Overflow` — nothing else. -/
theorem stmt_number_acceptance_deferred {t₁ t₂ : Table} (hs : Table.Sub t₁ t₂) (hT : Table.Ok t₂) (addr : Nat)
    (name : Bytes) (args : List Arg) (hlit : ∀ a ∈ args, Simp.litsOk a = true) (c : Bytes) (fs1 : Front.St)
    (h1 : Front.build addr name args (frontEval t₁) true = .deferred c fs1)
    (hk : ∀ t, Front.mnemonic name = some t → ∀ k ∈ Front.kinds t, k.shape = false) :
    (∀ i, Front.build addr name args (frontEval t₂) true = .completed i →
      (∃ fs2, Front.assemble fs1 (frontEval t₂) false = (fs2, .completed) ∧ fs2.instr = i) ∨
      (Front.assemble fs1 (frontEval t₂) false).2.isOverflow) ∧
    (∀ fs2, Front.assemble fs1 (frontEval t₂) false = (fs2, .completed) →
      Front.build addr name args (frontEval t₂) true = .completed fs2.instr ∨
      ∃ st w, Front.build addr name args (frontEval t₂) true = .error (.evalErr (.overflow w)) st) :=
  stmt_acceptance_deferred hs hT addr name args hlit c fs1 h1 fun t hm p hpz hsh => by
    rw [hk t hm p.1 (List.of_mem_zip hpz).1] at hsh
    cases hsh

/-- non-vacuity: `B x + 2` at address 0 with `x` declared `.global` (Deferred) at the statement, `x = 6` later: deferred with
the operand unchanged, the re-run completes with `B +4`, as does the fresh assembly -/
example :
    Front.build 0 [66] [.bin .add (.ident [120]) (.const 2)] (frontEval [([120], none)]) true =
      .deferred [120] ⟨0, .b 14 0, 0, [.bin .add (.ident [120]) (.const 2)]⟩ ∧
    Front.assemble ⟨0, .b 14 0, 0, [.bin .add (.ident [120]) (.const 2)]⟩ (frontEval [([120], some 6)]) false =
      (⟨0, .b 14 4, 1, [.const 8]⟩, .completed) ∧
    Front.build 0 [66] [.bin .add (.ident [120]) (.const 2)] (frontEval [([120], some 6)]) true = .completed (.b 14 4) :=
  ⟨rfl, rfl, rfl⟩

/-- non-vacuity, and the known acceptance difference by overflow: `.du32 (x + MAX) - MAX` with `x` Deferred is simplified
to `x`; over `x = 5` the re-run gives 5, the fresh evaluation overflows in `5 + MAX` -/
example :
    evalIn [([120], none)] (.bin .sub (.bin .add (.ident [120]) (.const 9223372036854775807)) (.const 9223372036854775807)) =
      .ok (.deferred [120] (.ident [120])) ∧
    evalIn [([120], some 5)] (.ident [120]) = .ok (.complete (.const 5)) ∧
    evalIn [([120], some 5)]
      (.bin .sub (.bin .add (.ident [120]) (.const 9223372036854775807)) (.const 9223372036854775807)) =
      .ok (.err (.overflow .add) (.bin .sub (.bin .add (.const 5) (.const 9223372036854775807)) (.const 9223372036854775807))) :=
  ⟨rfl, rfl, rfl⟩

/-! ### F31: without the rule `-(-v) ↦ v` acceptance differs without any overflow -/

/-- the operand `-(x - r0)` -/
def exNegNeg : Arg := .neg (.bin .sub (.ident [120]) (.ident [114, 48]))

/-- `ADDS r1, r2, -(x - r0)` with `x` declared `.global` (Deferred) at the statement and `x = 0` later is deferred with the
operand simplified to `r0 - x`, and the re-run completes with `ADDS r1, r2, r0` (`11 18`); with `x = 0` known at the statement
the fresh assembly, on the code before the repair F31, ends with `-(-r0)` and is refused (`ArgumentType`, no overflow
involved).  With the rule both routes end in `r0`. -/
example :
    (∃ fs1, Front.build 0 (bytesOf "ADDS") [.ident [114, 49], .ident [114, 50], exNegNeg] (frontEval [([120], none)]) true =
        .deferred [120] fs1 ∧
      fs1.args = [.ident [114, 49], .ident [114, 50], .bin .sub (.ident [114, 48]) (.ident [120])] ∧
      ∃ fs2, Front.assemble fs1 (frontEval [([120], some 0)]) false = (fs2, .completed) ∧
        fs2.instr = .add true 1 2 (.reg 0)) ∧
    Front.build 0 (bytesOf "ADDS") [.ident [114, 49], .ident [114, 50], exNegNeg] (frontEval [([120], some 0)]) true =
      .completed (.add true 1 2 (.reg 0)) :=
  ⟨⟨_, rfl, rfl, _, rfl, rfl⟩, rfl⟩

def exBelow6 : Bytes := bytesOf ".global x;\n.addr 0x20000000;\nADDS r1, r2, -(x - r0);\n.const x, 0;\n"
def exAbove6 : Bytes := bytesOf ".global x;\n.addr 0x20000000;\n.const x, 0;\nADDS r1, r2, -(x - r0);\n"

/-- on the whole-pipeline model: declared, used, then defined — `11 18` -/
theorem deferred_below6 : exSummary (run (exOrdFs exBelow6) [109]) = some (true, 0, [(536870912, [17, 24])]) := by
  decide +kernel

/-- declared, defined, then used — the same image (on the code before the repair: refused twice, placeholder left) -/
theorem deferred_above6 : exSummary (run (exOrdFs exAbove6) [109]) = some (true, 0, [(536870912, [17, 24])]) := by
  decide +kernel

/-! ## the remaining difference: arithmetic overflow only

`stmt_number_acceptance_deferred` allows exactly one difference between the two orders, an `EvalError::Overflow`; it does
occur: with `x` Deferred the simplifier folds `(x + MAX) - MAX` to `x` without ever adding, with `x = 1` known it adds
first.  Replayed on `trias`: BELOW assembles `01 DF`, ABOVE reports `overflow in 1 plus 9223372036854775807`. -/

def exOvB : Bytes :=
  bytesOf ".global x;\n.addr 0x20000000;\nSVC (x + 9223372036854775807) - 9223372036854775807;\n.const x, 1;\n"
def exOvA : Bytes :=
  bytesOf ".global x;\n.addr 0x20000000;\n.const x, 1;\nSVC (x + 9223372036854775807) - 9223372036854775807;\n"

/-- declared, used, then defined: `SVC 1` (`01 DF`) -/
theorem overflow_only_below : exSummary (run (exOrdFs exOvB) [109]) = some (true, 0, [(536870912, [1, 223])]) := by
  decide +kernel

/-- declared, defined, then used: arithmetic overflow, diagnosed (twice), the placeholder stays -/
theorem overflow_only_above : exSummary (run (exOrdFs exOvA) [109]) = some (false, 2, [(536870912, [190, 190])]) := by
  decide +kernel

end Trion.Asm
