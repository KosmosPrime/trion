import TrionModel.Lemmas.SimpClosed
/-!
# C07 — constant expressions follow checked signed 64-bit arithmetic

The specification `Arith.eval` with `closed` and `inScope` is in `Spec/Arith.lean`. It is compared here
with the model `Trion.Simp.evaluate` / `simplify` (`Model/Simp.lean`, mirroring eval.rs / simplify/mod.rs).
The constant table and the register predicate are arbitrary: a closed tree has no identifiers.
-/
namespace Trion.Simp
open Trion

/-- C07.a  On an in-scope expression over literals `evaluate` delivers the constant `v` exactly when
the specification's value is `v`, and reports an overflow error exactly when the specification errs. -/
theorem closed_eval (lk : Bytes → Lookup) (isReg : Bytes → Bool) (t : Arg)
    (hc : Arith.closed t = true) (hs : Arith.inScope t = true) (v : Int) :
    ((∃ ch, evaluate lk isReg t = .ok (⟨ch, none⟩, .const v)) ↔ Arith.eval t = .ok v) ∧
    ((∃ k, evaluate lk isReg t = .err (.simp (.overflow k))) ↔ ∃ e, Arith.eval t = .error e) := by
  rw [evaluate_closed lk isReg t hc, folded]
  rcases agree_cases (valM_agree t hc hs) with ⟨w, hv, he⟩ | ⟨k, e, hv, he⟩ <;> simp [hv, he]

/-- C07.b  The same for `simplify` (public in the crate; no caller inside it). -/
theorem closed_simplify (t : Arg) (hc : Arith.closed t = true) (hs : Arith.inScope t = true) (v : Int) :
    ((∃ ch, simplify t = .ok (ch, .const v)) ↔ Arith.eval t = .ok v) ∧
    ((∃ k, simplify t = .err (.overflow k)) ↔ ∃ e, Arith.eval t = .error e) := by
  rw [simplify_closed t hc, folded]
  rcases agree_cases (valM_agree t hc hs) with ⟨w, hv, he⟩ | ⟨k, e, hv, he⟩ <;> simp [hv, he, ERes.toRes]

/-- C07.c  Totality: on every expression over literals (in scope or not) `evaluate` either delivers a
constant or reports an overflow error — never a panic, a type error, a missing-name error, a deferral
or a partly folded tree; and a delivered constant is an `i64`. -/
theorem closed_eval_total (lk : Bytes → Lookup) (isReg : Bytes → Bool) (t : Arg) (hc : Arith.closed t = true) :
    (∃ ch v, evaluate lk isReg t = .ok (⟨ch, none⟩, .const v) ∧ inI64 v = true) ∨
    (∃ k, evaluate lk isReg t = .err (.simp (.overflow k))) := by
  rw [evaluate_closed lk isReg t hc, folded]
  cases hv : valM t with
  | ok w => exact .inl ⟨_, w, rfl, valM_range t hc hv⟩
  | error k => exact .inr ⟨k, rfl⟩

/-- C07.d  The error is never a wrapped value: whenever the specification errs, no constant comes out. -/
theorem closed_eval_no_wrap (lk : Bytes → Lookup) (isReg : Bytes → Bool) (t : Arg)
    (hc : Arith.closed t = true) (hs : Arith.inScope t = true) (e : Arith.Err) (he : Arith.eval t = .error e)
    (ev : Ev) (a : Arg) : evaluate lk isReg t ≠ .ok (ev, a) := by
  obtain ⟨k, hk⟩ := ((closed_eval lk isReg t hc hs 0).2).2 ⟨e, he⟩
  simp [hk]

/-! ### non-vacuity: the hypotheses are satisfiable and the conclusions are exercised -/

/-- `(3 + 4) * -(2 << 3)` -/
def exTree : Arg := .bin .mul (.bin .add (.const 3) (.const 4)) (.neg (.bin .shl (.const 2) (.const 3)))

/-- it is closed, in scope, and evaluates to −112 in model and specification -/
example :
    Arith.closed exTree = true ∧ Arith.inScope exTree = true ∧ Arith.eval exTree = .ok (-112) ∧
      evaluate (fun _ => .notFound) (fun _ => false) exTree = .ok (⟨true, none⟩, .const (-112)) :=
  ⟨rfl, rfl, rfl, rfl⟩

/-- `MAX + 1`, `MIN / -1`, `1 / 0`, `1 << 64` are errors in the specification and in `simplify` -/
example :
    (Arith.eval (.bin .add (.const i64Max) (.const 1)) = .error .overflow ∧
     simplify (.bin .add (.const i64Max) (.const 1)) = .err (.overflow .add)) ∧
    (Arith.eval (.bin .div (.const i64Min) (.const (-1))) = .error .overflow ∧
     simplify (.bin .div (.const i64Min) (.const (-1))) = .err (.overflow .div)) ∧
    (Arith.eval (.bin .div (.const 1) (.const 0)) = .error .divZero ∧
     simplify (.bin .div (.const 1) (.const 0)) = .err (.overflow .divZero)) ∧
    (Arith.eval (.bin .shl (.const 1) (.const 64)) = .error .shiftCount ∧
     simplify (.bin .shl (.const 1) (.const 64)) = .err (.overflow .shl)) :=
  ⟨⟨rfl, rfl⟩, ⟨rfl, rfl⟩, ⟨rfl, rfl⟩, ⟨rfl, rfl⟩⟩

/-- the open corners are really outside `inScope`, and there model and ideal arithmetic differ:
`1 << 63` wraps to `MIN` in the code, `MIN % -1` is an error in the code -/
example :
    Arith.inScope (.bin .shl (.const 1) (.const 63)) = false ∧
    simplify (.bin .shl (.const 1) (.const 63)) = .ok (true, .const i64Min) ∧
    Arith.inScope (.bin .mod (.const i64Min) (.const (-1))) = false ∧
    simplify (.bin .mod (.const i64Min) (.const (-1))) = .err (.overflow .mod) :=
  ⟨rfl, rfl, rfl, rfl⟩

end Trion.Simp
