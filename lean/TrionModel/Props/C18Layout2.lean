import TrionModel.Props.C18Layout
import TrionModel.Props.C05Multi3
/-!
# C18 composed with C05, projects with `.global` / `.import` / `.export`

`layout_refines_asm_scope_strong` (Props/C05Multi3.lean) is the layout refinement for projects whose files hand names to
each other (`XferProject`). Composed with `main_written`: whenever `trias` writes a file for such a project, the bytes
the two-pass reference layout places (over the flattened statement list with its alias statements) are the bytes of the
decoded file.
-/
namespace Trion.Trias
open Trion Trion.Asm Trion.Uf2 Trion.Asm.Multi Trion.Asm.Glob Trion.Asm.Xfer

/-- C18∘C05  The same for a project with `XferProject`, over its flattened program with the aliases of the main file. -/
theorem trias_file_is_layout_scope {num : Nat → Bytes → Nat} (hinj : NumInj num) (fs : Bytes → Option Bytes)
    (main data : Bytes) (hfs : fs main = some data) (hglob : XferProject fs maxDepth [] main data)
    (f : List UInt8) (hm : mainOut fs main = .written f) :
    ∃ (p : List Layout.Stmt) (A : List (Bytes × Int)) (im' : Layout.Img),
      Layout.Ref.pass2 none [] (p ++ aliases (num 0) (num 1) A) = some im' ∧
      ∃ bs, read f = some bs ∧ ∀ a v, im'.get a = some v → image bs a = some v := by
  obtain ⟨o, hr, hs, bs, hread, hb⟩ := written_run fs main f hm
  obtain ⟨els, perr, p, E, t, n, A, im', la, _, _, _, _, _, _, _, _, _, _, hp2, himg, _⟩ :=
    layout_refines_asm_scope_strong hinj fs main data hfs hglob o hr hs
  exact ⟨p, A, im', hp2, bs, hread, hb im' himg⟩

end Trion.Trias
