import TrionModel.Props.C06Invalid
import TrionModel.Props.C04Any
/-!
# C04 — the near-wrap case: an encodable statement whose bytes do not fit below 2^32

`run_defs_stmt`/`run_text`/`run_any` need `A + 2·hws.length ≤ 2^32`; the `*_diag*` theorems need "no encodable meaning".
Here the third case: the statement has an encodable meaning but the region cannot take its bytes
(e.g. `.addr 0xFFFFFFFE; BL 0xFFFFFFF0;`): `write_instr` reports `SegmentError::Overflow`, `Asm.run` does not succeed, the
only diagnostic is that one, at the statement, and nothing is placed (the image is empty).  `run_defs_stmt3`, `run_any3`
state the three cases as a disjunction; in `run_defs_stmt2`, `run_any2` the success case has the fit as a premise.
-/
namespace Trion.C04
open Trion Trion.Front Trion.Asm

theorem instr_nofit (fs : Bytes → Option Bytes) (inc : Asm.Inc) (env : Asm.Env) (st : Asm.St) (tbl : Asm.Table)
    (henv : env.paths ≠ []) (hl : st.locals = some tbl) (l c : Nat) (name : Bytes) (args : Args)
    (map : Map.Segs) (seg : Seg.Active) (pending : List (Nat × Nat)) (hs : st.seg = ⟨map, some seg, pending⟩)
    (i : Instr) (hb : Front.build seg.cur name args.toList (Asm.frontEval tbl) true = .completed i)
    (hws : List Nat) (he : Codec.encode i = .ok hws) (hle : seg.buf.length ≤ seg.maxLen)
    (hnofit : ¬ (seg.buf.length + 2 * hws.length ≤ seg.maxLen)) :
    Asm.statement fs Asm.encoder inc env st ⟨l, c, .instruction name args⟩ =
      .ok (st.push env l c (.instrAssemble (.asmWrite (.overflow (2 * hws.length) (seg.maxLen - seg.buf.length)))), .err .fatal) := by
  have hwf : i.wf := build_wf_proof _ _ _ _ _ i hb
  have hlen := (Codec.enc_len i hws he hwf).1
  have henc := Asm.encoder_run i hws he (by omega)
  have hbl : ((Codec.toBytes hws).map (·.toUInt8)).length = 2 * hws.length := by simp [Asm.toBytes_length]
  have hrem : seg.remaining = some (seg.maxLen - seg.buf.length) := by simp [Seg.Active.remaining, hle]
  have hgt : ¬ 2 * hws.length ≤ seg.maxLen - seg.buf.length := by omega
  obtain ⟨fst, hi, heq⟩ := instruction_of_build env st tbl henv hl l c name args.toList map seg pending hs i hb
  simp only [Asm.statement, hs, Option.isNone_some, Bool.false_eq_true, if_false, heq, Asm.ArmInstr.writeInstr, hi, henc,
    Asm.writeStmt, Bool.not_false, Option.isSome_some, Bool.and_self, if_true, Asm.segStep, Seg.step, Seg.Active.write,
    hrem, hgt, hbl, Asm.St.push, Asm.St.pushIn]

theorem run_stmt_single (fs : Bytes → Option Bytes) (main data : Bytes) (hfs : fs main = some data)
    (els : List Element) (perr : Option ParseErr) (hp : Asm.parseFile data = .ok (els, perr)) (A : Nat) (hA : A < 4294967296)
    (defs : List (Bytes × Arg)) (tbl : Asm.Table) (hdefs : defsTable defs [] = some tbl)
    (pre post : List Element) (el : Element) (hels : els = pre ++ el :: post)
    (hpre : pre.map (·.val) = .directive (bytesOf "addr") (Args.ofList [.const A]) :: defs.map constStmt)
    {k : Asm.Kind} {lv : Asm.Level}
    (hst : Asm.statement fs Asm.encoder (C06.incOf fs) (C06.envOf main) (C06.stateAt A tbl) el =
      .ok ((C06.stateAt A tbl).push (C06.envOf main) el.line el.col k, .err lv)) :
    ∃ o, Asm.run fs main = .done o ∧ o.success = false ∧ o.diags = [⟨main, el.line, el.col, k⟩] ∧ o.image = [] := by
  obtain ⟨o, h1, h2, h3, h4⟩ := run_single_diag_image hfs
    ⟨hels ▸ hp, (C06.prefixOk_addr_defs fs main A hA defs tbl hdefs hpre).1⟩ ⟨rfl, rfl, rfl⟩ hst
  exact ⟨o, h1, h2, h3, by rw [h4]; simp [C06.stateAt, Seg.closeSegment, Map.put]⟩

/-- C04f.a  **Encodable but no room.**  Anywhere in the main file after `.addr A;` and definitions (followed by anything):
an instruction statement that the front end completes to `i` and the encoder accepts (`hws`), with
`A + 2·hws.length > 2^32`: `Asm.run` does not succeed, the ONLY diagnostic is `SegmentError::Overflow` at the statement,
and the image is empty — no byte of the encoding is placed. -/
theorem run_stmt_nofit (fs : Bytes → Option Bytes) (main data : Bytes) (hfs : fs main = some data)
    (els : List Element) (perr : Option ParseErr) (hp : Asm.parseFile data = .ok (els, perr)) (A : Nat) (hA : A < 4294967296)
    (defs : List (Bytes × Arg)) (tbl : Asm.Table) (hdefs : defsTable defs [] = some tbl)
    (pre post : List Element) (l c : Nat) (name : Bytes) (args : Args)
    (hels : els = pre ++ ⟨l, c, .instruction name args⟩ :: post)
    (hpre : pre.map (·.val) = .directive (bytesOf "addr") (Args.ofList [.const A]) :: defs.map constStmt)
    (i : Instr) (hb : build A name args.toList (Asm.frontEval tbl) true = .completed i)
    (hws : List Nat) (he : Codec.encode i = .ok hws) (hnofit : ¬ (A + 2 * hws.length ≤ 4294967296)) :
    ∃ o, Asm.run fs main = .done o ∧ o.success = false ∧
      o.diags = [⟨main, l, c, .instrAssemble (.asmWrite (.overflow (2 * hws.length) (4294967296 - A)))⟩] ∧ o.image = [] := by
  have hst := instr_nofit fs (C06.incOf fs) (C06.envOf main) (C06.stateAt A tbl) tbl (by simp) rfl l c name args []
    ⟨A, [], Map.u32Max - A + 1⟩ [] rfl i (by rw [Show.cur_empty A _ hA]; exact hb) hws he (by simp)
    (by simp only [List.length_nil, Map.u32Max]; omega)
  have hk : (Map.u32Max - A + 1 - ([] : Bytes).length) = 4294967296 - A := by simp [Map.u32Max]; omega
  rw [hk] at hst
  exact run_stmt_single fs main data hfs els perr hp A hA defs tbl hdefs pre post _ hels hpre hst

/-- the first case: assembled to the (extended) meaning, success, exactly those bytes -/
def Assembled (fs : Bytes → Option Bytes) (main : Bytes) (tbl : Asm.Table) (A : Nat) (name : Bytes) (args : Args) : Prop :=
  ∃ i hws, build A name args.toList (Asm.frontEval tbl) true = .completed i ∧
    means2 (tabOf tbl) A name args.toList = some i ∧ i.wf ∧ Codec.encode i = .ok hws ∧ Arm.decode hws = some i ∧
    A + 2 * hws.length ≤ 4294967296 ∧
    Asm.run fs main = .done ⟨true, none, true, [], [(A, (Codec.toBytes hws).map (·.toUInt8))]⟩

/-- the second case: encodable but no room below 2^32 — one `Overflow` diagnostic at the statement, empty image -/
def NoRoom (fs : Bytes → Option Bytes) (main : Bytes) (els : List Element) (tbl : Asm.Table) (A : Nat) (name : Bytes)
    (args : Args) : Prop :=
  ∃ i hws el o, build A name args.toList (Asm.frontEval tbl) true = .completed i ∧
    means2 (tabOf tbl) A name args.toList = some i ∧ i.wf ∧ Codec.encode i = .ok hws ∧
    ¬ (A + 2 * hws.length ≤ 4294967296) ∧ el ∈ els ∧ el.val = .instruction name args ∧
    Asm.run fs main = .done o ∧ o.success = false ∧
    o.diags = [⟨main, el.line, el.col, .instrAssemble (.asmWrite (.overflow (2 * hws.length) (4294967296 - A)))⟩] ∧
    o.image = []

theorem run_defs_stmt_cases (fs : Bytes → Option Bytes) (main data : Bytes) (hfs : fs main = some data)
    (els : List Element) (hp : Asm.parseFile data = .ok (els, none)) (A : Nat) (hA : A < 4294967296)
    (defs : List (Bytes × Arg)) (name : Bytes) (args : Args) (hels : els.map (·.val) = progVals A defs name args)
    (tbl : Asm.Table) (hdefs : defsTable defs [] = some tbl)
    (t : Instr) (hm : mnemonic name = some t) (hw : wellFormed2 (tabOf tbl) (sig t) args.toList)
    (hq : ∀ vs, denoteAll2 (tabOf tbl) (sig t) args.toList = some vs → ¬ svQuirk t vs) :
    Assembled fs main tbl A name args ∨ NoRoom fs main els tbl A name args ∨
    NotEncoded (build A name args.toList (Asm.frontEval tbl) true) := by
  have hn := Asm.Table.nodef_get (defsTable_nodef defs [] tbl nodef_nil hdefs)
  have hTk := tableOk_of_tblI64 (defsTable_i64 defs [] tbl tblI64_nil hdefs)
  rcases build_cases2 hn hTk (evalSimp_frontEval tbl) true A name args.toList t hm hw hq with
    ⟨i, hws, hb, he, h1, h2, h3⟩ | h
  · by_cases hfit : A + 2 * hws.length ≤ 4294967296
    · exact .inl ⟨i, hws, hb, h1, h2, he, h3, hfit,
        (run_defs_stmt_of_build fs main data hfs els hp A defs name args hels tbl hdefs i hb hws he hfit).1⟩
    · obtain ⟨pre, l, c, hel, hpre⟩ := progVals_split hels
      obtain ⟨o, ho1, ho2, ho3, ho4⟩ := run_stmt_nofit fs main data hfs els none hp A hA defs tbl hdefs pre [] l c name args
        hel hpre i hb hws he hfit
      exact .inr (.inl ⟨i, hws, ⟨l, c, .instruction name args⟩, o, hb, h1, h2, he, hfit, by simp [hel], rfl, ho1, ho2, ho3, ho4⟩)
  · exact .inr (.inr h)

/-- C04f.b  **Trichotomy through the whole pipeline model** (the cases of `run_defs_stmt2`, the first split by whether the bytes fit): the
statement is assembled to its (extended) meaning and the run succeeds with exactly those bytes; OR it has an encodable
meaning but no room below 2^32 — one `Overflow` diagnostic at the statement, empty image; OR it has no encodable meaning —
diagnosed at the statement. -/
theorem run_defs_stmt3 (fs : Bytes → Option Bytes) (main data : Bytes) (hfs : fs main = some data)
    (els : List Element) (hp : Asm.parseFile data = .ok (els, none)) (A : Nat) (hA : A < 4294967296)
    (defs : List (Bytes × Arg)) (name : Bytes) (args : Args) (hels : els.map (·.val) = progVals A defs name args)
    (tbl : Asm.Table) (hdefs : defsTable defs [] = some tbl)
    (t : Instr) (hm : mnemonic name = some t) (hw : wellFormed2 (tabOf tbl) (sig t) args.toList)
    (hq : ∀ vs, denoteAll2 (tabOf tbl) (sig t) args.toList = some vs → ¬ svQuirk t vs) :
    (∃ i hws, means2 (tabOf tbl) A name args.toList = some i ∧ i.wf ∧ Codec.encode i = .ok hws ∧ Arm.decode hws = some i ∧
      A + 2 * hws.length ≤ 4294967296 ∧
      Asm.run fs main = .done ⟨true, none, true, [], [(A, (Codec.toBytes hws).map (·.toUInt8))]⟩) ∨
    (∃ i hws el o, means2 (tabOf tbl) A name args.toList = some i ∧ i.wf ∧ Codec.encode i = .ok hws ∧
      ¬ (A + 2 * hws.length ≤ 4294967296) ∧ el ∈ els ∧ el.val = .instruction name args ∧
      Asm.run fs main = .done o ∧ o.success = false ∧
      o.diags = [⟨main, el.line, el.col, .instrAssemble (.asmWrite (.overflow (2 * hws.length) (4294967296 - A)))⟩] ∧
      o.image = []) ∨
    (∃ el o, el ∈ els ∧ el.val = .instruction name args ∧ Asm.run fs main = .done o ∧ o.success = false ∧ o.diags ≠ [] ∧
      ∀ d ∈ o.diags, d.file = main ∧ d.line = el.line ∧ d.col = el.col) := by
  rcases run_defs_stmt_cases fs main data hfs els hp A hA defs name args hels tbl hdefs t hm hw hq with
    ⟨i, hws, _, h⟩ | ⟨i, hws, el, o, _, h⟩ | hne
  · exact .inl ⟨i, hws, h⟩
  · exact .inr (.inl ⟨i, hws, el, o, h⟩)
  · exact .inr (.inr (run_defs_stmt_diag_build fs main data hfs els hp A hA defs name args hels tbl hdefs t hm hne))

/-- C04f.c  **Trichotomy on text, any spelling** (`run_defs_stmt3` on the program text `progTextP A defs ps`). -/
theorem run_any3 (fs : Bytes → Option Bytes) (main : Bytes) (A : Nat) (hA : A < 4294967296) (defs : List (Bytes × Arg))
    (hdefsok : ∀ d ∈ defs, Lex.identOk d.1 = true ∧ Show.Opnd d.2) (ps : List Lex.Piece) (hv : Lex.Valid ps none)
    (name : Bytes) (as : PArgs) (haswf : as.wf)
    (hvals : Lex.tokVals ps = .ident name :: Render.pargs as ++ [.term])
    (hfs : fs main = some (progTextP A defs ps))
    (tbl : Asm.Table) (hdefs : defsTable defs [] = some tbl)
    (t : Instr) (hm : mnemonic name = some t) (hw : wellFormed2 (tabOf tbl) (sig t) as.erase.toList)
    (hq : ∀ vs, denoteAll2 (tabOf tbl) (sig t) as.erase.toList = some vs → ¬ svQuirk t vs) :
    ∃ els, Asm.parseFile (progTextP A defs ps) = .ok (els, none) ∧
    ((∃ i hws, means2 (tabOf tbl) A name as.erase.toList = some i ∧ i.wf ∧ Codec.encode i = .ok hws ∧ Arm.decode hws = some i ∧
      A + 2 * hws.length ≤ 4294967296 ∧
      Asm.run fs main = .done ⟨true, none, true, [], [(A, (Codec.toBytes hws).map (·.toUInt8))]⟩) ∨
    (∃ i hws el o, means2 (tabOf tbl) A name as.erase.toList = some i ∧ i.wf ∧ Codec.encode i = .ok hws ∧
      ¬ (A + 2 * hws.length ≤ 4294967296) ∧ el ∈ els ∧ el.val = .instruction name as.erase ∧
      Asm.run fs main = .done o ∧ o.success = false ∧
      o.diags = [⟨main, el.line, el.col, .instrAssemble (.asmWrite (.overflow (2 * hws.length) (4294967296 - A)))⟩] ∧
      o.image = []) ∨
    (∃ el o, el ∈ els ∧ el.val = .instruction name as.erase ∧ Asm.run fs main = .done o ∧ o.success = false ∧ o.diags ≠ [] ∧
      ∀ d ∈ o.diags, d.file = main ∧ d.line = el.line ∧ d.col = el.col)) := by
  obtain ⟨els, hp, hels⟩ := parseFile_pieces A hA defs hdefsok ps hv name as haswf hvals
  exact ⟨els, hp, run_defs_stmt3 fs main _ hfs els hp A hA defs name as.erase hels tbl hdefs t hm hw hq⟩

/-- non-vacuity: `.addr 0xFFFFFFFE; BL 0xFFFFFFF0;` — `BL` back by 18 is encodable (4 bytes) but only 2 bytes are left -/
example : means (tabOf []) 0xFFFFFFFE (bytesOf "BL") [.const 0xFFFFFFF0] = some (.bl (-18)) ∧
    Codec.encode (.bl (-18)) = .ok [0xF7FF, 0xFFF7] ∧ ¬ (0xFFFFFFFE + 2 * 2 ≤ 4294967296) := by
  refine ⟨by decide, rfl, by decide⟩

end Trion.C04
