import TrionModel.Props.C05Asm
import TrionModel.Props.C08Bytes
/-!
# C05 (pipeline clause, FULL) — `layout_refines_asm` without the side condition `plain`

`layout_of_run` / `placed_of_run` (Props/C05Asm.lean) for `SingleFileFull`: `SingleFile` without its conjunct `plainEl`, which
no proof uses — the retry theorem (a deferred instruction / `.du*` re-run by the task queue gives the bytes of the statement
over the final table) holds for every operand tree, since `evaluate` is idempotent (Props/C08Full.lean: `evaluate_idempotent`,
`retry_is_fresh`).
-/
namespace Trion.Asm
open Trion Trion.SegLayout

def SingleFileFull (els : List Element) : Prop := ∀ el ∈ els, okEl el = true

theorem SingleFile.full {els : List Element} (h : SingleFile els) : SingleFileFull els := fun el hel => (h el hel).1

/-- C05 (pipeline, program level, FULL)  `layout_refines_asm` for every single-file project, whatever its operand
expressions. -/
theorem layout_refines_asm_full {num : Bytes → Nat} (hinj : Function.Injective num) (fs : Bytes → Option Bytes)
    (main data : Bytes) (hfs : fs main = some data) (els : List Element) (perr : Option ParseErr)
    (hparse : parseFile data = .ok (els, perr)) (hsf : SingleFileFull els) (o : Outcome) (h : run fs main = .done o)
    (hs : o.success = true) :
    ∃ t₂ : Table,
      (∀ s ∈ abstract num fs encoder main t₂ none els, s.wf = true) ∧
      (∃ img, Layout.run (abstract num fs encoder main t₂ none els) = .ok img ∧ ∀ a, Map.abs o.image a = img.get a) ∧
      (∃ img', Layout.Ref.pass2 none [] (abstract num fs encoder main t₂ none els) = some img' ∧
        ∀ a, Map.abs o.image a = img'.get a) ∧
      (Layout.NoLabelAtTop (abstract num fs encoder main t₂ none els) →
        ∃ img'' env, Layout.Ref.layout (abstract num fs encoder main t₂ none els) = some img'' ∧
          (∀ a, Map.abs o.image a = img''.get a) ∧
          Layout.Ref.pass1 none [] (abstract num fs encoder main t₂ none els) = some env ∧ EnvRel num t₂ env) := by
  exact layout_of_run hinj fs main data hfs els perr hparse hsf o h hs

/-- C05 (no placeholder survives, program level, FULL)  `every_statement_placed_asm` for `SingleFileFull` -/
theorem every_statement_placed_asm_full {num : Bytes → Nat} (hinj : Function.Injective num) (fs : Bytes → Option Bytes)
    (main data : Bytes) (hfs : fs main = some data) (els : List Element) (perr : Option ParseErr)
    (hparse : parseFile data = .ok (els, perr)) (hsf : SingleFileFull els) (o : Outcome) (h : run fs main = .done o)
    (hs : o.success = true) :
    ∃ t₂ : Table, ∀ q r s, abstract num fs encoder main t₂ none els = q ++ s :: r → s.emits = true →
      ∃ c, Layout.Ref.cursorAfter none q = some c ∧
        ∀ i, i < (Layout.Ref.bytes c s).length → Map.abs o.image (c + i) = (Layout.Ref.bytes c s)[i]? := by
  exact placed_of_run hinj fs main data hfs els perr hparse hsf o h hs

/-! ### non-vacuity: a program with a non-`plain` operand -/

/-- `.addr 16; LDR r2, [(0 - ((0 - r0) - r1)) * x]; .const x, 1` — the statement of F30 (Props/C08Bytes.lean), with `x` defined below -/
def exElsFull : List Element :=
  [⟨1, 1, .directive (bytesOf "addr") (.cons (.const 16) .nil)⟩,
   ⟨2, 1, .instruction [76, 68, 82] (.cons (.ident [114, 50]) (.cons exOrder5 .nil))⟩,
   ⟨3, 1, .directive (bytesOf "const") (.cons (.ident [120]) (.cons (.const 1) .nil))⟩]

example : SingleFileFull exElsFull ∧ ¬ SingleFile exElsFull := by
  refine ⟨fun el hel => ?_, fun h => ?_⟩
  · simp only [exElsFull, List.mem_cons, List.not_mem_nil, or_false] at hel
    rcases hel with rfl | rfl | rfl <;> decide
  · have := (h ⟨2, 1, .instruction [76, 68, 82] (.cons (.ident [114, 50]) (.cons exOrder5 .nil))⟩ (by simp [exElsFull])).2
    revert this
    decide

end Trion.Asm
