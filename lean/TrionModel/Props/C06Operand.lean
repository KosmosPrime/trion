import TrionModel.Lemmas.C06InstrMention
import TrionModel.Lemmas.AsmScopeProv
import TrionModel.Props.C06Then
import TrionModel.Props.C06Undef
/-!
# C06, third clause — an undefined name in an instruction operand, SYNTACTIC hypothesis

`invalid_instruction_undefined_partial` (Props/C06Then.lean) assumes that the first attempt of the statement is `Deferred`.
Here the hypothesis is about the text of the statement: the operand at an EVALUATING position `j` of the mnemonic's signature
(`(kinds t)[j]? = some k`, `k.evals`: immediate / immReg / address / offset / addrOffset — register, system-register,
register-list and identifier-keyword positions are never evaluated, a name there is a register spelling or a keyword like
`SY`) MENTIONS a name `n` (`Simp.mentions`) that is not a register name and has no entry in the file's table.  Then
(`Front.assemble_completed_evals`, `Simp.evaluateE_mentions`) the front end cannot complete the statement: the first attempt is
`Deferred` — placeholder, retry at the end of the file, the retry reports `NoSuchVariable` — or an error (of an earlier
operand, an operand count, or an evaluation error met before the name) reported at once.  Either way the run is not a
success and every diagnostic is at the statement.

`invalid_instruction_operand_undefined_file_partial` makes the table hypotheses syntactic for files without `.include`:
no statement before defines or declares `n` (`n:`, `.const n, …`, `.global n`, `.import n` — Lemmas/AsmScopeProv.lean proves
these are the only statements that create an entry of the file's own table, each for its operand name), and no statement
before is `.global` / `.import` (so no entry is pending).

`_partial`: the statement is the LAST one of the main file and the statements before returned `Ok` without queueing tasks or
recording diagnostics (`AtLast`): a later Fatal statement, or an earlier queued task that aborts the task loop, would
prevent the retry, and the undefined name would not be reported at all.  The KIND of the diagnostic is not in the
conclusion (it is `NoSuchVariable` only in the `Deferred` sub-case).  The hypothesis `hp` (operands `plain`) is handed to
`invalid_instruction_undefined_partial`, whose proof does not use it.
-/
namespace Trion.C06
open Trion Trion.Asm Trion.Front Trion.C04

/-- C06o.1  **Undefined name in an evaluating instruction operand** (table hypotheses: no entry for `n`, no pending entry) -/
theorem invalid_instruction_operand_undefined_partial {fs : Bytes → Option Bytes} {main : Bytes} {S : Asm.St} {l c : Nat}
    {tbl : Asm.Table} (hl : S.locals = some tbl) (hnd : Asm.Table.NoDef tbl)
    {map : Map.Segs} {seg : Seg.Active} {pending : List (Nat × Nat)} (hs : S.seg = ⟨map, some seg, pending⟩)
    {name : Bytes} {args : Args} {t : Instr} (hm : mnemonic name = some t)
    (hp : ∀ a ∈ args.toList, Asm.plainArg a = true) {n : Bytes} (hr : isRegister n = false) (hf : tbl.find n = none)
    {j : Nat} {k : Front.Kind} {a : Arg} (hk : (kinds t)[j]? = some k) (hev : k.evals = true)
    (ha : args.toList[j]? = some a) (hmen : Simp.mentions n a = true)
    (h : AtLast fs main ⟨l, c, .instruction name args⟩ S) : ReportedAt fs main ⟨l, c, .instruction name args⟩ := by
  rcases assemble_mentions tbl n hr hf seg.cur t args.toList j k a hk ha hev hmen with ⟨fs1, m, hdef⟩ | ⟨fs1, d, herr⟩
  · exact invalid_instruction_undefined_partial hl hnd hs hm hp hdef h
  · obtain ⟨data, pre, hfs, hR, hq⟩ := h.reaches
    refine .of_kind (run_last_instr hfs hR hq (by simp [hs]) fun S1 r1 hX => .inl ?_)
    rw [instruction_front (envOf main) S tbl (by simp) hl hs l c name args.toList t hm herr] at hX
    exact (instrPlaceholder_spec hX).2.1

/-- C06o.2  the same with SYNTACTIC hypotheses on the file (no `.include`): no statement before the instruction defines or
declares `n`, none is `.global` / `.import` -/
theorem invalid_instruction_operand_undefined_file_partial {fs : Bytes → Option Bytes} {main data : Bytes}
    (hfs : fs main = some data) {pre : List Element} {l c : Nat} {name : Bytes} {args : Args}
    (hpf : Asm.parseFile data = .ok (pre ++ [⟨l, c, .instruction name args⟩], none))
    {S : Asm.St} (hpre : PrefixOk fs main pre S) (hq : QuietSt S) {tbl : Asm.Table} (hl : S.locals = some tbl)
    {map : Map.Segs} {seg : Seg.Active} {pending : List (Nat × Nat)} (hs : S.seg = ⟨map, some seg, pending⟩)
    {n : Bytes} (hr : isRegister n = false)
    (hsyn : ∀ el ∈ pre, ¬ Asm.isInclude el ∧ ¬ Asm.touches n el ∧ ∀ m, ¬ Asm.writesD m el)
    {t : Instr} (hm : mnemonic name = some t) (hp : ∀ a ∈ args.toList, Asm.plainArg a = true)
    {j : Nat} {k : Front.Kind} {a : Arg} (hk : (kinds t)[j]? = some k) (hev : k.evals = true)
    (ha : args.toList[j]? = some a) (hmen : Simp.mentions n a = true) :
    ReportedAt fs main ⟨l, c, .instruction name args⟩ := by
  have hf : tbl.find n = none :=
    Asm.doAssemble_absent none n pre init2 (fun el hel => ⟨(hsyn el hel).1, (hsyn el hel).2.1⟩)
      (fun C hC => by cases hC; rfl) S .ok hpre.run tbl hl
  have hnd : Asm.Table.NoDef tbl :=
    Asm.doAssemble_nodef none pre init2 (fun el hel => ⟨(hsyn el hel).1, (hsyn el hel).2.2⟩)
      (fun C hC => by cases hC; intro k; simp [Asm.Table.find]) S .ok hpre.run tbl hl
  exact invalid_instruction_operand_undefined_partial hl hnd hs hm hp hr hf hk hev ha hmen ⟨data, pre, hfs, hpf, hpre, hq⟩

/-- C06o.3  `.du8/.du16/.du32 e` with `e` mentioning a name that no earlier statement of the (include-free) file defines or
declares — syntactic form of `invalid_du_expr_undefined_partial` for ANY quiet prefix -/
theorem invalid_du_expr_undefined_file_partial {fs : Bytes → Option Bytes} {main data : Bytes}
    (hfs : fs main = some data) {pre : List Element} {l c : Nat} (du : Asm.DU) (dn : Bytes) (hdn : dn = bytesOf du.name)
    {e : Arg} (hpf : Asm.parseFile data = .ok (pre ++ [⟨l, c, .directive dn (Args.ofList [e])⟩], none))
    {S : Asm.St} (hpre : PrefixOk fs main pre S) (hq : QuietSt S) {tbl : Asm.Table} (hl : S.locals = some tbl)
    {n : Bytes} (hr : isRegister n = false) (hsyn : ∀ el ∈ pre, ¬ Asm.isInclude el ∧ ¬ Asm.touches n el)
    (hmen : Simp.mentions n e = true) :
    ReportedAt fs main ⟨l, c, .directive dn (Args.ofList [e])⟩ := by
  have hf : tbl.find n = none :=
    Asm.doAssemble_absent none n pre init2 hsyn (fun C hC => by cases hC; rfl) S .ok hpre.run tbl hl
  exact invalid_du_expr_undefined_partial hl du dn hdn hr hf hmen ⟨data, pre, hfs, hpf, hpre, hq⟩

-- non-vacuity: the operand of `B` and the second operand of `MOVS` are evaluating positions; `x + 4` mentions `x`
example : ((mnemonic (bytesOf "B")).bind (fun t => (kinds t)[0]?)).map Front.Kind.evals = some true := by decide
example : ((mnemonic (bytesOf "MOVS")).bind (fun t => (kinds t)[1]?)).map Front.Kind.evals = some true := by decide
example : ((mnemonic (bytesOf "MOVS")).bind (fun t => (kinds t)[0]?)).map Front.Kind.evals = some false := by decide
example : Simp.mentions (bytesOf "x") (.bin .add (.ident (bytesOf "x")) (.const 4)) = true := by decide

end Trion.C06
