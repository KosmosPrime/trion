import TrionModel.Lemmas.LayoutCor
/-!
# C05 — the program image equals the sequential layout of its statements (layout core)

Model: `Trion.Layout` (Model/Layout.lean): `run` = the statement loop of
`Context::do_assemble`, `change_segment` / `close_segment`, `ActiveSegment::{write, write_at, curr_addr,
remaining}`, the placeholder / deferred-rewrite mechanics of `write_instr` / `write_data`, and the local task
queue of `Context::assemble`; `Ref.layout` = the two-pass reference layout. The model is tied to the real
`Context` pipeline on every run by harness/src/asm.rs (`layout run` / `layout ref`).
-/
namespace Trion.Layout

/-- C06 for the layout core (the three `assert_eq!` on put counts in `close_segment` and in the deferred
rewrite, the `remaining()` underflow of `ActiveSegment::write` / `write_at`, the `write_at` index check):
NONE of them can fire, for EVERY program whose value-dependent statements have a value-independent length
(`Stmt.wf`: `emit len deps final` has `final.length = len`; the real encoders guarantee this — C01/C04/C11). -/
theorem run_no_panic (p : List Stmt) (hwf : ∀ s ∈ p, s.wf) : run p ≠ .error .panic :=
  (run_spec p hwf).no_panic

/-- non-vacuity: a well-formed program with a forward reference across a region switch, into a region that
ends exactly where the deferred statement begins, assembles. -/
example : (∀ s ∈ [Stmt.addr 260, .emit 2 [1] [7, 0], .addr 256, .raw [1, 2, 3, 4], .const 1 [] 7], s.wf) ∧
    run [Stmt.addr 260, .emit 2 [1] [7, 0], .addr 256, .raw [1, 2, 3, 4], .const 1 [] 7]
      = .ok [(256, 1), (257, 2), (258, 3), (259, 4), (260, 7), (261, 0), (260, 190), (261, 190)] :=
  ⟨by decide, rfl⟩

/-- `wf` cannot be dropped: a deferred statement whose final bytes are longer than its placeholder hits the
`assert_eq!(n, 0)` of the rewrite once its region is closed. -/
example : run [Stmt.addr 0, .emit 1 [1] [0, 0], .addr 16, .const 1 [] 0] = .error .panic := rfl


/-! ## The image of a successful run is the sequential layout

`Align::apply` computes its padding from the true cursor `base + len` (fix F26 of the repository), not from the saturated
`curr_addr()`, and the model follows; with the saturated cursor `.addr 0xFFFFFFFF; .du8 0; .align 3;` would assemble
without padding and the theorem would need a side condition on `.align`. -/

/-- C05 (main theorem): for EVERY program — any number of regions in any address order, any mix of forward and
backward references, labels, constants, alignment, zero-length statements, regions ending exactly at 2^32 —
on success the image is, address by address, the image of the two-pass reference: every statement's bytes at
its address in source order, nothing else, no placeholder left. -/
theorem layout_refines (p : List Stmt) (img img' : Img) (h : run p = .ok img) (hwf : ∀ s ∈ p, s.wf)
    (href : Ref.layout p = some img') : ∀ a, img.get a = img'.get a := by
  obtain ⟨im, e1, hg⟩ := run_pass2 p img h hwf
  rw [(layout_some p img' href).2] at e1
  cases e1
  exact hg

/-- alignment at the top of the address space: the padding `.align 3` directly behind 0xFFFFFFFF is an overflow
diagnostic, `.align 2` there (2 divides 2^32, no padding needed) is accepted, and the reference agrees. -/
example : run [Stmt.addr 4294967295, .raw [0], .align 3] = .error .overflow ∧
    run [Stmt.addr 4294967295, .raw [0], .align 2] = .ok [(4294967295, 0)] ∧
    Ref.layout [Stmt.addr 4294967295, .raw [0], .align 2] = some [(4294967295, 0)] := ⟨rfl, rfl, rfl⟩

/-- the same without reference to pass 1: the image of a successful run is the `pass2` image (`pass2` is
defined on every program that assembles) -/
theorem run_is_pass2 (p : List Stmt) (img : Img) (h : run p = .ok img) (hwf : ∀ s ∈ p, s.wf) :
    ∃ img', Ref.pass2 none [] p = some img' ∧ ∀ a, img.get a = img'.get a :=
  run_pass2 p img h hwf

/-- C05 / C13: the image of a successful run lies inside the 32-bit address space (hence so does the reference
image of every program that assembles). -/
theorem image_in_address_space (p : List Stmt) (img : Img) (h : run p = .ok img) (hwf : ∀ s ∈ p, s.wf) :
    ∀ a, top ≤ a → img.get a = none :=
  let ⟨_, _, _, _, _, ht, _⟩ := run_ref p img h hwf
  ht

example : (∃ img, run [Stmt.addr 4294967295, .raw [9]] = .ok img) ∧
    (∀ s ∈ [Stmt.addr 4294967295, .raw [9]], s.wf) := ⟨⟨_, rfl⟩, by decide⟩

/-- C05: success implies that the reference is defined, unless a label stands where the reference cursor is
2^32 (`Ref.pass1` is undefined there; the implementation gives such a label the value 0xFFFFFFFF). Together
with `layout_refines`: success under `NoLabelAtTop` means "equals the reference"; with no condition on labels
only `run_is_pass2` holds. -/
theorem ref_defined (p : List Stmt) (img : Img) (h : run p = .ok img) (hwf : ∀ s ∈ p, s.wf)
    (hl : NoLabelAtTop p) : Ref.layout p ≠ none := by
  obtain ⟨_, im', _, e2, _, _, e1, _⟩ := run_ref p img h hwf
  rw [layout_eq p (by rw [e1 hl]; simp), e2]
  simp

/-- `NoLabelAtTop` cannot be dropped: a label directly after a region filled through 0xFFFFFFFF -/
example : run [Stmt.addr 4294967295, .raw [0], .label 1] = .ok [(4294967295, 0)] ∧
    Ref.layout [Stmt.addr 4294967295, .raw [0], .label 1] = none := ⟨rfl, rfl⟩

/-- non-vacuity of `layout_refines` / `ref_defined`: forward reference, region switch downwards into a
region ending exactly at the deferred statement, an `.align 4` met at cursor 256 (it pads nothing), label -/
example : let p := [Stmt.addr 260, .emit 2 [1] [7, 0], .addr 255, .raw [1], .align 4, .label 2, .raw [2, 3, 4, 5],
      .const 1 [] 7]
    (∀ s ∈ p, s.wf) ∧ NoLabelAtTop p ∧ (∃ img, run p = .ok img) ∧ (∃ img', Ref.layout p = some img') := by
  refine ⟨by decide, ?_, ⟨_, rfl⟩, ⟨_, rfl⟩⟩
  · intro c n hc
    simp [Ref.trace, Ref.next, Ref.size] at hc
    rcases hc with ⟨rfl, rfl⟩
    decide

/-- C05 (no placeholder survives): for every value-dependent statement `emit len deps final` of a program
that assembles — whether its symbols were known when it was met or it was written as 0xBE… and rewritten
by the task queue, in the region still open or in one closed long before — the image holds `final` at the
statement's reference address. -/
theorem no_placeholder (p q r : List Stmt) (len : Nat) (deps : List Nat) (final : Bytes) (img : Img)
    (h : run p = .ok img) (hwf : ∀ s ∈ p, s.wf) (hp : p = q ++ .emit len deps final :: r) :
    ∃ c, Ref.cursorAfter none q = some c ∧ ∀ i, i < len → img.get (c + i) = final[i]? := by
  obtain ⟨c, h1, h2⟩ := stmt_in_image p q r _ img h hwf hp rfl
  have hw : final.length = len := by
    have := hwf (.emit len deps final) (by rw [hp]; exact List.mem_append_right _ List.mem_cons_self)
    simpa [Stmt.wf] using this
  exact ⟨c, h1, fun i hi => h2 i (by rw [← hw] at hi; exact hi)⟩

example : ∃ c, Ref.cursorAfter none [Stmt.addr 260] = some c ∧
    ∀ i, i < 2 → Img.get [(256, 1), (257, 2), (258, 3), (259, 4), (260, 7), (261, 0), (260, 190), (261, 190)] (c + i)
      = [(7 : UInt8), 0][i]? :=
  no_placeholder [Stmt.addr 260, .emit 2 [1] [7, 0], .addr 256, .raw [1, 2, 3, 4], .const 1 [] 7]
    [.addr 260] [.addr 256, .raw [1, 2, 3, 4], .const 1 [] 7] 2 [1] [7, 0] _ rfl (by decide) rfl

/-- C05 (every statement's bytes at its address): the same for every emitting statement (`raw`, `emit`,
padding): its reference bytes stand at its reference address in the image. -/
theorem every_statement_placed (p q r : List Stmt) (s : Stmt) (img : Img) (h : run p = .ok img)
    (hwf : ∀ s ∈ p, s.wf) (hp : p = q ++ s :: r) (hs : s.emits) :
    ∃ c, Ref.cursorAfter none q = some c ∧
      ∀ i, i < (Ref.bytes c s).length → img.get (c + i) = (Ref.bytes c s)[i]? :=
  stmt_in_image p q r s img h hwf hp hs

example : ∃ c, Ref.cursorAfter none [Stmt.addr 16] = some c ∧
    ∀ i, i < (Ref.bytes c (Stmt.raw [5, 6])).length → Img.get [(16, 5), (17, 6)] (c + i) = (Ref.bytes c (.raw [5, 6]))[i]? :=
  every_statement_placed [.addr 16, .raw [5, 6]] [.addr 16] [] _ _ rfl (by decide) rfl rfl

/-- C05 (a label is the address of the next emitted byte), reference level: the value `Ref.pass1` records
for a label is the reference cursor `c` at which the next statement after it (skipping further labels and
constants) is met — the address at which `Ref.pass2` puts that statement's first byte. -/
theorem label_is_next (p q mid r : List Stmt) (n : Nat) (s : Stmt) (e : Env)
    (h : Ref.pass1 none [] p = some e) (hp : p = q ++ .label n :: (mid ++ s :: r))
    (hmid : ∀ x ∈ mid, x.silent) :
    ∃ c, c < top ∧ e.get n = some (c : Int) ∧ Ref.cursorAfter none (q ++ .label n :: mid) = some c ∧
      (some c, s) ∈ Ref.trace none p := by
  subst hp
  obtain ⟨c, h1, h2, h3⟩ := pass1_label q _ none [] e n h
  have hcur : Ref.cursorAfter none (q ++ .label n :: mid) = some c := by
    rw [cursorAfter_append, h1]
    exact cursorAfter_silent mid _ hmid
  refine ⟨c, h2, h3, hcur, ?_⟩
  have : q ++ .label n :: (mid ++ s :: r) = (q ++ .label n :: mid) ++ s :: r := by simp
  rw [this, trace_append, hcur]
  exact List.mem_append_right _ List.mem_cons_self

example : ∃ c, c < top ∧ Env.get [(2, 256)] 2 = some (c : Int) ∧
    Ref.cursorAfter none ([Stmt.addr 255, .raw [1], .align 4] ++ .label 2 :: []) = some c ∧
    (some c, Stmt.raw [2, 3]) ∈ Ref.trace none [Stmt.addr 255, .raw [1], .align 4, .label 2, .raw [2, 3]] :=
  label_is_next [.addr 255, .raw [1], .align 4, .label 2, .raw [2, 3]] [.addr 255, .raw [1], .align 4] [] []
    2 (.raw [2, 3]) _ rfl rfl (fun _ hx => by cases hx)

/-- C05 (a label is the address of the next emitted byte), image level: in the image of a program that
assembles, the first byte of the next emitting statement stands at the label's value. -/
theorem label_is_next_image (p q mid r : List Stmt) (n : Nat) (s : Stmt) (e : Env) (img : Img)
    (hrun : run p = .ok img) (hwf : ∀ s ∈ p, s.wf)
    (h : Ref.pass1 none [] p = some e) (hp : p = q ++ .label n :: (mid ++ s :: r))
    (hmid : ∀ x ∈ mid, x.silent) (hs : s.emits) :
    ∃ c : Nat, e.get n = some (c : Int) ∧ ∀ b bs, Ref.bytes c s = b :: bs → img.get c = some b := by
  obtain ⟨c, _, h2, h3, _⟩ := label_is_next p q mid r n s e h hp hmid
  have hp' : p = (q ++ .label n :: mid) ++ s :: r := by rw [hp]; simp
  obtain ⟨c', g1, g2⟩ := stmt_in_image p _ r s img hrun hwf hp' hs
  rw [h3] at g1; cases g1
  refine ⟨c, h2, fun b bs hb => ?_⟩
  have := g2 0 (by rw [hb]; simp)
  rw [hb] at this
  simpa using this

example : ∃ c : Nat, Env.get [(2, 256)] 2 = some (c : Int) ∧
    ∀ b bs, Ref.bytes c (Stmt.raw [2, 3]) = b :: bs →
      Img.get [(255, 1), (256, 2), (257, 3)] c = some b :=
  label_is_next_image [.addr 255, .raw [1], .label 2, .raw [2, 3]] [.addr 255, .raw [1]] [] []
    2 (.raw [2, 3]) _ _ rfl (by decide) rfl rfl (fun _ hx => by cases hx) rfl

/-- C05 (position independence of constants, 1): `Ref.pass2` ignores `.const` statements -/
theorem const_ignored (q r : List Stmt) (c : Option Nat) (im : Img) (n : Nat) (d : List Nat) (v : Int) :
    Ref.pass2 c im (q ++ .const n d v :: r) = Ref.pass2 c im (q ++ r) :=
  pass2_const q r c im n d v

/-- C05 (position independence of constants, 2): moving a `.const` earlier or later — as long as pass 1
still succeeds (no duplicate definition) — does not change the reference layout. -/
theorem const_position_irrelevant (q r t : List Stmt) (n : Nat) (d : List Nat) (v : Int)
    (h1 : Ref.pass1 none [] (q ++ .const n d v :: (r ++ t)) ≠ none)
    (h2 : Ref.pass1 none [] (q ++ (r ++ .const n d v :: t)) ≠ none) :
    Ref.layout (q ++ .const n d v :: (r ++ t)) = Ref.layout (q ++ (r ++ .const n d v :: t)) := by
  have e2 : Ref.pass2 none [] (q ++ (r ++ .const n d v :: t)) = Ref.pass2 none [] (q ++ (r ++ t)) := by
    rw [← List.append_assoc, pass2_const, List.append_assoc]
  rw [layout_eq _ h1, layout_eq _ h2, pass2_const, e2]

example : Ref.layout ([Stmt.addr 0] ++ .const 1 [] 7 :: ([.emit 1 [1] [7]] ++ [.raw [9]]))
    = Ref.layout ([Stmt.addr 0] ++ ([.emit 1 [1] [7]] ++ .const 1 [] 7 :: [.raw [9]])) :=
  const_position_irrelevant _ _ _ _ _ _ (by decide) (by decide)

/-- C05 (forward = backward): two programs that differ only in whether a constant is defined before or
after its uses, and that both assemble, produce the same image. -/
theorem forward_equals_backward (q r t : List Stmt) (n : Nat) (d : List Nat) (v : Int) (i1 i2 : Img)
    (h1 : run (q ++ .const n d v :: (r ++ t)) = .ok i1) (h2 : run (q ++ (r ++ .const n d v :: t)) = .ok i2)
    (hwf : ∀ s ∈ q ++ (r ++ t), s.wf) : ∀ a, i1.get a = i2.get a := by
  have hwf1 : ∀ s ∈ q ++ .const n d v :: (r ++ t), s.wf = true := by
    intro s hs
    rcases List.mem_append.mp hs with h | h
    · exact hwf s (List.mem_append_left _ h)
    · rcases List.mem_cons.mp h with rfl | h
      · rfl
      · exact hwf s (List.mem_append_right _ h)
  have hwf2 : ∀ s ∈ q ++ (r ++ .const n d v :: t), s.wf = true := by
    intro s hs
    rcases List.mem_append.mp hs with h | h
    · exact hwf s (List.mem_append_left _ h)
    · rcases List.mem_append.mp h with h | h
      · exact hwf s (List.mem_append_right _ (List.mem_append_left _ h))
      · rcases List.mem_cons.mp h with rfl | h
        · rfl
        · exact hwf s (List.mem_append_right _ (List.mem_append_right _ h))
  obtain ⟨m1, e1, g1⟩ := run_pass2 _ i1 h1 hwf1
  obtain ⟨m2, e2, g2⟩ := run_pass2 _ i2 h2 hwf2
  rw [pass2_const] at e1
  rw [← List.append_assoc q r, pass2_const, List.append_assoc] at e2
  rw [e1] at e2; cases e2
  exact fun a => by rw [g1 a, g2 a]

example : ∀ a, Img.get [(8, 9), (0, 7)] a = Img.get [(8, 9), (0, 7), (0, 190)] a :=
  forward_equals_backward [.addr 0] [.emit 1 [1] [7], .addr 8] [.raw [9]] 1 [] 7 _ _ rfl rfl (by decide)

/-- C05 (forward = backward, general form): any two programs with the same reference layout that both
assemble produce the same image. -/
theorem same_reference_same_image (p1 p2 : List Stmt) (i1 i2 ref : Img)
    (h1 : run p1 = .ok i1) (h2 : run p2 = .ok i2) (hwf1 : ∀ s ∈ p1, s.wf) (hwf2 : ∀ s ∈ p2, s.wf)
    (hr1 : Ref.layout p1 = some ref) (hr2 : Ref.layout p2 = some ref) : ∀ a, i1.get a = i2.get a :=
  fun a => by
    rw [layout_refines p1 i1 ref h1 hwf1 hr1 a, layout_refines p2 i2 ref h2 hwf2 hr2 a]

example : ∀ a, Img.get [(0, 7)] a = Img.get [(0, 7)] a :=
  same_reference_same_image [.addr 0, .raw [7]] [.addr 0, .label 3, .raw [7]] _ _ _ rfl rfl (by decide) (by decide)
    rfl rfl

/-- C05 (symbol values): the symbol table the machine has built when the last statement has been processed
IS the table of `Ref.pass1` — every label has the reference address of the next byte, every constant its
value, and no value ever changes. -/
theorem symbols_agree (p : List Stmt) (st : State) (h : steps {} p = .ok st) (hwf : ∀ s ∈ p, s.wf)
    (hl : NoLabelAtTop p) : Ref.pass1 none [] p = some st.env :=
  let ⟨_, _, _, e, _⟩ := mrun_ref (MRun.of_steps h) [] none [] rel_init hwf
  by simpa [Ref.pass1] using e hl []

example : Ref.pass1 none [] [Stmt.addr 8, .raw [1], .label 4, .const 5 [4] 9] = some [(5, 9), (4, 9)] :=
  symbols_agree [.addr 8, .raw [1], .label 4, .const 5 [4] 9]
    { closed := [], active := some { base := 8, buf := [1], maxLen := 4294967288 }, env := [(5, 9), (4, 9)], tasks := [] }
    rfl (by decide)
    (fun c n hc => by
      simp [Ref.trace, Ref.next] at hc
      rcases hc with ⟨rfl, rfl⟩
      decide)

end Trion.Layout
