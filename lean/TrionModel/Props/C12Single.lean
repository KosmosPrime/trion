import TrionModel.Props.C12Blame
/-!
# C12 — single-file projects: every diagnostic is in the main file, at one of its statements

A corollary of `run_blames_single` (and so of `diag_pos_run`'s stronger form) for file systems that hold nothing but the main file (`∀ f ≠ main, fs f = none`; an
`.include` can then only fail or name `main` itself): every diagnostic of a finished run names `main`, and its line and
column are those of a statement the main file parses into (or it is the report of the parse error that ended the file).

The provenance statement (each diagnostic is blamed on a statement that can push its KIND, any include tree) is
`run_blames` / `run_blames_single` in Props/C12Blame.lean.
-/
namespace Trion.Asm
open Trion

theorem diag_pos_run_single (fs : Bytes → Option Bytes) (main : Bytes) (hsingle : ∀ f, f ≠ main → fs f = none)
    (o : Outcome) (h : run fs main = .done o) :
    ∀ d ∈ o.diags, d.file = main ∧ ∃ text lo els err, fs main = some text ∧ Lex.tokens text = .ok lo ∧
      Parse.all lo = .done els err ∧
      ((∃ el ∈ els, d.line = el.line ∧ d.col = el.col) ∨
       ∃ e, err = some e ∧ d.line = e.line ∧ d.col = e.col ∧ ∃ k, d.kind = .parse k) := by
  intro d hd
  obtain ⟨hf, text, lo, els, err, h1, h2, h3, h4⟩ := run_blames_single fs main hsingle o h d hd
  exact ⟨hf, text, lo, els, err, h1, h2, h3, h4.pos⟩

end Trion.Asm
