import TrionModel.Lemmas.SimpE
import TrionModel.Lemmas.ShowAsm
import TrionModel.Lemmas.ShowText
import TrionModel.Props.C03
import TrionModel.Model.Asm
import TrionModel.Lemmas.ShowParts
import TrionModel.Lemmas.ShowProg
import TrionModel.Props.C09
import TrionModel.Props.C01
import TrionModel.Props.C04Text
/-!
# C19 — the disassembly text of an instruction assembles back to that instruction

Models: `Show.text` (= `impl Display for InstrAt`, byte for byte), `Front.build` (= `ArmInstr::new` +
`ArmInstr::assemble`). `Show.parts i a` is the statement (mnemonic + argument trees) which the text denotes,
`Show.render` its concrete syntax. The step text → tokens → trees (that the parser reads `render p` back as
`p`) is `lex_show` / `parse_show` below; the canonical encoding of the resulting instruction is C01–C03's.

Hypotheses (`Printable`, `EvalOK`: `Spec/Front.lean`; `LitOk`, of `lex_show` / `parse_show`: `Lemmas/ShowEnc.lean`):
* `Printable i a` — every field fits its Rust type, PC-relative offsets are encodable, and the PC-relative
  target lies inside the 32-bit address space (the property's side condition `targetInRange`). All values
  returned by the decoder model satisfy the first two: `decoded_printable`.
* `EvalOK eval i a` — the label the text mentions is defined as the address it names; literals and register
  names evaluate to themselves; `[R + x]` evaluates to an address operand read the same way by `addr_off`.
  Discharged for the concrete evaluator (`Simp.evaluateT` over a table defining the label): `show_assembles_eval`.

`show_roundtrip` composes decoder → text parts → evaluator → front end → encoder → decoder on the models.

The side conditions on one instruction all follow from "well-formed and accepted by the encoder" (`i.wf`,
`Codec.encode i = .ok hws`: what `Codec.decode_wf` gives of a decoded instruction), by `Lemmas/ShowEnc.lean`: from the
walk `encode_lit_bounds`, `LitOk i` (no negative literal in the text: `litOk_of_encode`) and `MemNonneg i`
(no negative offset in `[R + x]`: `memNonneg_of_encode`); with the guards of the PC-relative forms (`encode_adr`, `encode_b`,
`encode_bl`, `encode_ldr_lit`) and the property's own `targetInRange i a`, `Printable i a` (`printable_of_encode`). `Tridas.LinesOk` is `LitOk` of every instruction line.

The PC is spelt three ways. `Show.alPc` / `Show.pcOf` (`Model/Show.lean`) are the printer's `wrapping_add`s, modulo 2^32,
and `Show.wrapAdd` adds the offset modulo 2^32 (`Tridas.wrap32` in `getBranch` is the same wrap). `Front.alPc` /
`Front.pcOf` (`Model/Front.lean`) are the assembler's `i64` values and do not wrap; `Printable` and `targetInRange`,
although in namespace `Show`, are stated with these, since they say when the assembler recomputes the printed offset.
`C04.pcAligned` / `C04.pc` (`Spec/C04.lean`) are the specification's, equal to the `Front` ones (`C04.pcAligned_eq`,
`C04.pc_eq`). `label_is_target` (C19.d) is where the first two meet.
-/
namespace Trion.Show
open Trion.Front

/-- C19.a  The statement printed for `i` at `a` assembles, at `a`, to exactly `i` (hence to its canonical
encoding): mnemonic known, operand count and kinds accepted, operand order as accepted, option names as
accepted, and the label names the address from which the assembler recomputes the same offset. -/
theorem show_assembles (i : Instr) (a : Nat) (eval : Arg → EvalOut) (loc : Bool)
    (hp : Printable i a) (he : EvalOK eval i a) :
    build a (parts i a).1 (parts i a).2 eval loc = .completed i :=
  show_assembles_proof i a eval loc hp he

/-- C19.b  The mnemonic printed is in the assembler's table and selects the right template (flags,
condition, enable bit are carried by the mnemonic). -/
theorem show_mnemonic (i : Instr) (a : Nat) : mnemonic (parts i a).1 = some (template i) :=
  mnemonic_parts i a

/-- C19.c  The text `Display` prints is exactly the concrete syntax (`NAME a, b, c;`, `[R + x]`, `{R0, R1}`,
decimal integers, `l_XXXXXXXX` identifiers) of the statement `parts i a`, byte for byte — so the statement
terminator, separators and operand order printed are those of the assembler's grammar. -/
theorem text_eq_render (i : Instr) (a : Nat) : text i a = render (parts i a) :=
  text_eq_render_proof i a

/-- C19.d  The printed label is the architectural target: the statement address plus 4 (word-aligned first for
ADR and literal LDR) plus the offset, in unbounded arithmetic (`Front.alPc` / `Front.pcOf` do not wrap),
whenever that lies inside the address space -/
theorem label_is_target (i : Instr) (a : Nat) (t : Nat) (h : targetOf i a = some t) (hp : Printable i a) :
    (t : Int) = (match i with
      | .adr _ off => (Front.alPc a : Int) + off
      | .ldr _ _ (.imm off) => (Front.alPc a : Int) + off
      | .b _ off | .bl off => (Front.pcOf a : Int) + off
      | _ => t) := by
  rcases targetOf_cases h with ⟨d, off, rfl, rfl⟩ | ⟨c, off, rfl, rfl⟩ | ⟨off, rfl, rfl⟩ | ⟨d, ad, off, rfl, h15, rfl⟩
  · obtain ⟨h0, h1, h4, ht⟩ := hp; exact wrapAdd_alPc _ _ (by omega) ht
  · obtain ⟨_, _, _, h0, ht⟩ := hp; exact wrapAdd_pcOf _ _ h0 ht
  · obtain ⟨_, _, _, h0, ht⟩ := hp; exact wrapAdd_pcOf _ _ h0 ht
  · simp only [Printable, h15, if_true] at hp
    obtain ⟨h0, h1, h4, ht⟩ := hp
    exact wrapAdd_alPc _ _ (by omega) ht

/-- C19.e  **Every decoded instruction is printable.** Whatever bytes the decoder accepts, the instruction it
returns satisfies the hypothesis of `show_assembles` at every address at which its PC-relative target lies
inside the address space (`targetInRange`, the property's own side condition; trivially true for the
instructions without a label). -/
theorem decoded_printable (bs : List Nat) (hb : Codec.IsBytes bs) (n : Nat) (i : Instr)
    (h : Codec.decode bs = .ok (n, i)) (a : Nat) (ht : targetInRange i a) : Printable i a := by
  obtain ⟨wf, hws, he⟩ := Codec.decode_wf bs hb n i h
  exact printable_of_encode i a hws he wf ht

/-- C19.f  The disassembly text of every decoded instruction assembles back to it — hypotheses only about the
address/target, as in the property text (and the abstract evaluator assumption, discharged below). -/
theorem show_assembles_decoded (bs : List Nat) (hb : Codec.IsBytes bs) (n : Nat) (i : Instr)
    (h : Codec.decode bs = .ok (n, i)) (a : Nat) (ht : targetInRange i a)
    (eval : Arg → EvalOut) (loc : Bool) (he : EvalOK eval i a) :
    build a (parts i a).1 (parts i a).2 eval loc = .completed i :=
  show_assembles i a eval loc (decoded_printable bs hb n i h a ht) he

/-- C19.g  **With the concrete evaluator.** `eval` is `evaluate` (model `Simp.evaluateT`, registers recognised
by `Arm6M::is_register`) over a symbol table `lk` in which the label the text mentions is defined as the
address it names. Then the printed statement assembles to `i` — no abstract `EvalOK`: literals and register
names evaluate to themselves, the label to its address, `[R + x]` to an address operand `addr_off` reads the
same way (`[R + 0]` becomes `[R]`). `hm : MemNonneg i` (`Spec/Front.lean`) holds of every encodable instruction
(`memNonneg_of_encode`). -/
theorem show_assembles_eval (i : Instr) (a : Nat) (lk : Bytes → Simp.Lookup) (eval : Arg → EvalOut)
    (hE : EvalIsSimp eval lk) (loc : Bool) (hp : Printable i a) (hm : MemNonneg i)
    (hl : ∀ t, targetOf i a = some t → lk (label t) = .found (t : Int)) :
    build a (parts i a).1 (parts i a).2 eval loc = .completed i :=
  show_assembles i a eval loc hp (evalOK_simp eval lk hE i a hl hm)

/-- `EvalIsSimp` holds of the evaluator of the assembler model (`Asm.frontEval`, what `Asm` hands to `Front.assemble`) and
of the plain `simpEval` -/
theorem frontEval_isSimp (t : Asm.Table) : EvalIsSimp (Asm.frontEval t) (fun n => t.get n) :=
  (C04.evalSimp_frontEval t).isSimp

theorem simpEval_isSimp (lk : Bytes → Simp.Lookup) : EvalIsSimp (simpEval lk) lk := (C04.evalSimp_simpEval lk).isSimp

/-- C19.h  **End to end on the models.** Bytes that decode to `i` (consuming `n` of them) → the text printed for
`i` at `a` → the concrete evaluator → `Front.build` gives `i` again → `Codec.encode` accepts it and emits `n`
bytes that decode to `i`: the canonical encoding (equal to the input up to alias encodings, C03 `dec_canon`). -/
theorem show_roundtrip (bs : List Nat) (hb : Codec.IsBytes bs) (n : Nat) (i : Instr)
    (h : Codec.decode bs = .ok (n, i)) (a : Nat) (ht : targetInRange i a)
    (lk : Bytes → Simp.Lookup) (eval : Arg → EvalOut) (hE : EvalIsSimp eval lk) (loc : Bool)
    (hl : ∀ t, targetOf i a = some t → lk (label t) = .found (t : Int)) :
    ∃ i' hws, build a (parts i a).1 (parts i a).2 eval loc = .completed i' ∧ i' = i ∧
      Codec.encode i' = .ok hws ∧ 2 * hws.length = n ∧ Codec.decode (Codec.toBytes hws) = .ok (n, i) := by
  obtain ⟨wf, hws0, he0⟩ := Codec.decode_wf bs hb n i h
  obtain ⟨hws, he, hl2, hd⟩ := Codec.dec_canon bs hb n i h
  exact ⟨i, hws, show_assembles_eval i a lk eval hE loc (printable_of_encode i a hws0 he0 wf ht)
    (memNonneg_of_encode i hws0 he0 wf) hl, rfl, he, hl2, hd⟩


/-! ## text → tokens → trees

`Lex.Piece`, `Lex.Valid`, `Lex.lexed` (`Lemmas/LexPieceDef.lean`), `Lex.tokens_pieces` (`Lemmas/LexFrame.lean`): a text cut into white space and
single tokens is read back by the tokenizer as exactly those tokens, each positioned (by `Pos.adv`, the position
specification of C12) at its first byte. `stmtPieces` (`Lemmas/ShowLex.lean`) cuts `render p` that way.
`LitOk i` (`Lemmas/ShowEnc.lean`) is true of everything the encoder accepts (`litOk_of_encode`). -/

/-- C19.i  **The tokenizer reads the disassembly text back.** `Tokenizer::new(text i a)` iterated to exhaustion
yields no error and exactly the tokens of the printed statement: the mnemonic as ONE identifier (`UDF.N`, `UDF.W`
included: `.` continues an identifier), register names and `l_XXXXXXXX` labels as identifiers, decimal integers as
numbers with their value, `,` `;` `[` `]` `{` `}` `+`; single blanks are skipped. Each token is positioned at its
first byte (`Lex.lexed (1, 1)`: line 1, column 1 + byte offset), the end position is that of the end of the text,
and the token values are `Render.elemVal` of the instruction statement `parts i a` — the rendering C09 parses back. -/
theorem lex_show (i : Instr) (a : Nat) (hl : LitOk i) :
    Lex.tokens (text i a) =
      .ok ⟨Lex.lexed (1, 1) (stmtPieces (parts i a)), none, (Pos.of (text i a)).1, (Pos.of (text i a)).2⟩ ∧
    (Lex.lexed (1, 1) (stmtPieces (parts i a))).map (·.val) =
      Render.elemVal (.instruction (parts i a).1 (Args.ofList (parts i a).2)) := by
  have hc := cuts_stmt (parts i a) (name_ok i a) (args_ok i a hl) none
  rw [← text_eq_render] at hc
  refine ⟨?_, ?_⟩
  · have := Lex.tokens_pieces _ hc.valid
    rw [hc.text] at this
    rw [this, Pos.of_eq_adv]
  · rw [Lex.lexed_vals, hc.vals]

/-- C19.j  **The parser reads the tokens back** (C09 `Parse.program_roundtrip` applied to `lex_show`):
lexing and parsing the disassembly text of `i` at `a` yields exactly one element, at 1:1, no error: the instruction
statement whose name is the printed mnemonic and whose argument trees are `Show.parts i a`. -/
theorem parse_show (i : Instr) (a : Nat) (hl : LitOk i) :
    ∃ lo, Lex.tokens (text i a) = .ok lo ∧ lo.err = none ∧
      Parse.all lo = .done [⟨1, 1, .instruction (parts i a).1 (Args.ofList (parts i a).2)⟩] none := by
  obtain ⟨h1, h2⟩ := lex_show i a hl
  refine ⟨_, h1, rfl, ?_⟩
  have hargs := args_ok i a hl
  -- the first token is the mnemonic at 1:1
  generalize hts : Lex.lexed (1, 1) (stmtPieces (parts i a)) = ts at h2
  have hfirst : ∃ body, ts = ⟨1, 1, .ident (parts i a).1⟩ :: body := by
    rw [← hts]; exact ⟨_, rfl⟩
  obtain ⟨body, rfl⟩ := hfirst
  have := Parse.program_roundtrip
    [(ElemVal.instruction (parts i a).1 (Args.ofList (parts i a).2), (⟨1, 1, .ident (parts i a).1⟩ : Token), body)]
    (by intro x hx; simp at hx; subst hx; exact ⟨stmt_wf _ (name_ok i a) hargs, h2⟩)
    (Pos.of (text i a)).1 (Pos.of (text i a)).2
  simpa [Parse.progToks, Parse.progElems] using this

/-- every instruction the encoder accepts — in particular every decoded one — satisfies `LitOk` -/
theorem decoded_litOk (bs : List Nat) (hb : Codec.IsBytes bs) (n : Nat) (i : Instr)
    (h : Codec.decode bs = .ok (n, i)) : LitOk i := by
  obtain ⟨wf, hws, he⟩ := Codec.decode_wf bs hb n i h
  exact litOk_of_encode i hws he wf

/-- C19.k  **End to end on text.** Bytes that decode to `i` → the text `Display` prints for `i` at `a` → the tokenizer
→ the parser give exactly one instruction statement `name args`; `Front.build` of that statement at `a`, with the
concrete evaluator over any symbol table that defines the label the text mentions as the address it names, gives
`i` again; the encoder accepts it and its bytes are the canonical encoding, which decodes to `i`. -/
theorem show_text_roundtrip (bs : List Nat) (hb : Codec.IsBytes bs) (n : Nat) (i : Instr)
    (h : Codec.decode bs = .ok (n, i)) (a : Nat) (ht : targetInRange i a)
    (lk : Bytes → Simp.Lookup) (eval : Arg → EvalOut) (hE : EvalIsSimp eval lk) (loc : Bool)
    (hl : ∀ t, targetOf i a = some t → lk (label t) = .found (t : Int)) :
    ∃ lo name args hws, Lex.tokens (text i a) = .ok lo ∧ lo.err = none ∧
      Parse.all lo = .done [⟨1, 1, .instruction name args⟩] none ∧
      build a name args.toList eval loc = .completed i ∧
      Codec.encode i = .ok hws ∧ 2 * hws.length = n ∧ Codec.decode (Codec.toBytes hws) = .ok (n, i) ∧
      Arm.decode hws = some i := by
  obtain ⟨lo, h1, h2, h3⟩ := parse_show i a (decoded_litOk bs hb n i h)
  obtain ⟨i', hws, hbld, hi, he, hn, hd⟩ := show_roundtrip bs hb n i h a ht lk eval hE loc hl
  subst hi
  obtain ⟨wf, _, _⟩ := Codec.decode_wf bs hb n i' h
  exact ⟨lo, _, _, hws, h1, h2, h3, by rw [toList_ofList]; exact hbld, he, hn, hd, Codec.enc_sound i' hws he wf⟩


/-- the definitions in front of the statement of `progText`, as `C04.progVals` takes them -/
def progDefs (i : Instr) (a : Nat) : List (Bytes × Arg) :=
  match targetOf i a with
  | none => []
  | some t => [(label t, .const t)]

theorem progText_eq (i : Instr) (a : Nat) : progText i a = C04.progText a (progDefs i a) (parts i a).1 (parts i a).2 := by
  have : preStmts i a = C04.preStmts a (progDefs i a) := by cases h : targetOf i a <;> simp [preStmts, C04.preStmts, progDefs, h]
  rw [progText, C04.progText, this, text_eq_render]

theorem progDefs_ok (i : Instr) (a : Nat) : ∀ d ∈ progDefs i a, Lex.identOk d.1 = true ∧ Opnd d.2 := by
  intro d hd
  cases h : targetOf i a with
  | none => simp [progDefs, h] at hd
  | some t =>
    simp only [progDefs, h, List.mem_singleton] at hd
    subst hd
    have := targetOf_lt i a t h
    exact ⟨identOk_label t, opnd_const _ ⟨by omega, by simp only [i64Max]; omega⟩⟩

theorem defsTable_prog (i : Instr) (a : Nat) : C04.defsTable (progDefs i a) [] = some (progTable i a) := by
  cases h : targetOf i a with
  | none => simp [progDefs, progTable, C04.defsTable, h]
  | some t =>
    have h64 : inI64 (t : Int) = true := by
      have := targetOf_lt i a t h
      exact Bool.and_eq_true_iff.2 ⟨decide_eq_true (by simp only [i64Min]; omega), decide_eq_true (by simp only [i64Max]; omega)⟩
    simp [progDefs, progTable, C04.defsTable, h, isRegister_label, Asm.Table.find, Asm.Table.set, C04.value, Simp.valC,
      Simp.checked, h64]

/-- C19.l  **Through the whole pipeline model.** `progText i a` (`Lemmas/ShowProg.lean`) is the program
`.addr <a>;` ⏎ [`.const l_XXXXXXXX, <target>;` ⏎ — only if the text mentions a label] `<Show.text i a>`.
For bytes that decode to `i` (`n` of them), an address `a` at which the PC-relative target lies inside the address
space and `a + n ≤ 2^32`: `Asm.run` — tokenizer, parser, `.addr`, `.const`, the instruction statement with the real
evaluator model over the real constant table, front end, encoder, output regions, local task loop, `close_segment`,
`finalize` — on any file system whose main file is that program SUCCEEDS, records NO diagnostic, and its image is
exactly one region: the canonical encoding of `i` (same length `n`, decodes to `i`, and is the ARMv6-M table's
encoding of `i`) at address `a`. -/
theorem show_run (bs : List Nat) (hb : Codec.IsBytes bs) (n : Nat) (i : Instr)
    (h : Codec.decode bs = .ok (n, i)) (a : Nat) (ht : targetInRange i a) (hfit : a + n ≤ 4294967296)
    (fs : Bytes → Option Bytes) (main : Bytes) (hfs : fs main = some (progText i a)) :
    ∃ hws, Codec.encode i = .ok hws ∧ 2 * hws.length = n ∧ Codec.decode (Codec.toBytes hws) = .ok (n, i) ∧
      Arm.decode hws = some i ∧
      Asm.run fs main = .done ⟨true, none, true, [], [(a, (Codec.toBytes hws).map (·.toUInt8))]⟩ := by
  obtain ⟨i', hws, hbld, hi, he, hn, hd⟩ := show_roundtrip bs hb n i h a ht (fun x => (progTable i a).get x)
    (Asm.frontEval (progTable i a)) (frontEval_isSimp _) true (progTable_get i a)
  subst hi
  have hlen := (Codec.enc_len i' hws he (Codec.decode_wf bs hb n i' h).1).1
  -- the program is `.addr a;`, the definitions `progDefs`, the printed statement: C04's program text
  rw [progText_eq] at hfs
  obtain ⟨els, hparse, hels⟩ := C04.parseFile_progText_partial a (by omega) _ (progDefs_ok i' a) _ (name_ok i' a) _
    (args_ok i' a (decoded_litOk bs hb n i' h))
  have hrun := C04.run_defs_stmt_of_build fs main _ hfs els hparse a (progDefs i' a) _ _ hels
    (progTable i' a) (defsTable_prog i' a) i' (by rw [toList_ofList]; exact hbld) hws he (by omega)
  exact ⟨hws, he, hn, hd, hrun.2, hrun.1⟩

/-- non-vacuity: the program for `BEQ` back to its own address (`0xFE 0xD0` at 0x20000000) -/
example : progText (.b 0 (-4)) 0x20000000 = bytesOf ".addr 536870912;\n.const l_20000000, 536870912;\nBEQ l_20000000;" ∧
    Codec.decode [0xFE, 0xD0] = .ok (2, .b 0 (-4)) ∧ targetInRange (.b 0 (-4)) 0x20000000 := by
  refine ⟨by decide, rfl, ?_⟩
  simp [targetInRange, Front.pcOf]
example : progText (.nop) 8 = bytesOf ".addr 8;\nNOP;" := by decide

/-- non-vacuity / the columns: `LDR R1, [SP + 8];` -/
example : text (.ldr 1 13 (.imm 8)) 0 = bytesOf "LDR R1, [SP + 8];" ∧
    Lex.lexed (1, 1) (stmtPieces (parts (.ldr 1 13 (.imm 8)) 0)) =
      [⟨1, 1, .ident (bytesOf "LDR")⟩, ⟨1, 5, .ident (bytesOf "R1")⟩, ⟨1, 7, .sep⟩, ⟨1, 9, .lbrack⟩,
       ⟨1, 10, .ident (bytesOf "SP")⟩, ⟨1, 13, .plus⟩, ⟨1, 15, .num 8⟩, ⟨1, 16, .rbrack⟩, ⟨1, 17, .term⟩] ∧
    LitOk (.ldr 1 13 (.imm 8)) := by
  refine ⟨by decide, by decide, ?_⟩
  intro v hv; simp [litOf] at hv; subst hv; decide
example : text (.udfw 300) 0 = bytesOf "UDF.W 300;" ∧
    Lex.lexed (1, 1) (stmtPieces (parts (.udfw 300) 0)) =
      [⟨1, 1, .ident (bytesOf "UDF.W")⟩, ⟨1, 7, .num 300⟩, ⟨1, 10, .term⟩] := by
  refine ⟨by decide, by decide⟩
/-- `LitOk` is needed: `ADDS R0, R0, -1;` lexes to `… , - 1 ;` and parses to `neg (const 1)`, not `const (-1)` -/
example : ¬ LitOk (.add true 0 0 (.imm (-1))) := by
  intro h; have := h (-1) rfl; omega

/-- non-vacuity of the decoded / concrete-evaluator forms: `LDR R1, [PC + 8]` at 2 (label l_0000000C), and a
table defining that label -/
example : Codec.decode [0x02, 0x49] = .ok (2, .ldr 1 15 (.imm 8)) ∧ targetInRange (.ldr 1 15 (.imm 8)) 2 ∧
    targetOf (.ldr 1 15 (.imm 8)) 2 = some 12 ∧
    Asm.Table.get [(label 12, some 12)] (label 12) = .found 12 := by
  refine ⟨rfl, ?_, rfl, by decide⟩
  simp [targetInRange, Front.alPc]
example : MemNonneg (.ldrb 0 1 (.imm 5)) ∧ ¬ MemNonneg (.ldrb 0 1 (.imm (-5))) := by
  constructor
  · intro ad v h; simp [memOf] at h; omega
  · intro h; have := h 1 (-5) rfl; omega

/-- non-vacuity: a backward conditional branch at 0x20000000, a PC-relative load and `PUSH` are `Printable`; so is `B` back
by 16 at 0xFFFFFFFC, where `Front.pcOf` is 2^32 (it does not wrap) -/
example : Printable (.b 0 (-4)) 0x20000000 ∧ Printable (.ldr 1 15 (.imm 8)) 2 ∧ Printable (.push 0x40F0) 0 ∧
    Printable (.b 14 (-16)) 0xFFFFFFFC := by
  refine ⟨?_, ?_, trivial, ?_⟩ <;> simp [Printable, bLo, bHi, Front.pcOf, Front.alPc] <;> decide

/-- the side condition excludes something: at 0 a branch by −8 has no target inside the address space -/
example : ¬ Printable (.b 14 (-8)) 0 := by simp [Printable, Front.pcOf]

end Trion.Show
