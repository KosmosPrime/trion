import TrionModel.Lemmas.TridasRun
import TrionModel.Lemmas.TridasLayout
/-!
# C20 — the tridas listing re-assembles to the code it was produced from

Model: `Trion.Tridas.listing` (`Model/Tridas.lean`), the work-list traversal and the printing loop of
`src/bin/disassembler.rs`, parametric in the decoder.
-/
namespace Trion.Tridas

/-- C20.labels (a)  In every listing, every label line is immediately followed by the instruction line of the address
the label names (no decoder hypothesis, any input file). -/
theorem labels_attached {decode : Decoder} {b : List UInt8} {ls : List Line} (h : listing decode b = .ok ls) :
    labelsAttached ls = true := by
  unfold listing at h
  split at h
  · cases h
  · cases h
    simp only [labelsAttached]
    exact labelsAttached_render _ _ _ _

/-- C20.labels (b)  An address gets exactly one label line if it is a recorded branch target and an
instruction was decoded at it, and none otherwise.  (`BTreeMap` keys are unique: `traverse_sorted`.) -/
theorem labels_unique {decode : Decoder} {b : List UInt8} {st : St} (h : traverse decode b = .ok st) (a : Nat) :
    labelCount a (Line.header :: render st.branches st.instrs false BASE) =
      if st.branches.contains a ∧ ∃ e ∈ st.instrs, e.addr = a then 1 else 0 :=
  labelCount_listing (traverse_sorted h) a

/-! ## under the property's hypothesis `WellFormed decode b es` (`Lemmas/Tridas.lean`)

For a gap-free segmentation `Chain es BASE (BASE + b.length)` of a non-empty file its fields `sorted`/`first`/`size`/`next`
follow: `WellFormed.of_chain`. -/

/-- C20.covers  Under the hypothesis the listing is produced — the decoder `unwrap()` and the two address additions do not
panic, and the loops terminate within the model's bounds (outer `2·len + 2`, inner `len`; `Lemmas/TridasFuel.lean`: the
measure `|queries| + #{instructions not yet recorded}` drops with every popped query) — and its instruction lines are
exactly the instructions of the file, each once, in address order. -/
theorem covers_all {decode : Decoder} {b : List UInt8} {es : List Entry} (wf : WellFormed decode b es) :
    ∃ ls, listing decode b = .ok ls ∧ instrLines ls = es.map (fun e => (e.addr, e.instr)) := by
  obtain ⟨br, hl, _⟩ := listing_of_wf wf
  exact ⟨_, hl, instrLines_render br es false BASE⟩

/-- C20.covers, error-free form: no outcome of `listing` is an error (in particular not the model's `Panic.fuel`). -/
theorem listing_no_error {decode : Decoder} {b : List UInt8} {es : List Entry} (wf : WellFormed decode b es)
    (p : Panic) : listing decode b ≠ .error p := by
  obtain ⟨ls, hl, _⟩ := covers_all wf
  rw [hl]; intro h; cases h

/-- C20.labels (c)  `labels_unique` under the hypothesis: every direct branch target inside the file is introduced by
exactly one label line (which by `labels_attached` sits immediately before the instruction at that address). -/
theorem labels_unique_wellFormed {decode : Decoder} {b : List UInt8} {es : List Entry}
    (wf : WellFormed decode b es) {ls : List Line} (hl : listing decode b = .ok ls)
    {e : Entry} (he : e ∈ es) {d : Nat} (hb : getBranch e.instr e.addr = some d) (hin : inFile b.length d) :
    labelCount d ls = 1 := by
  obtain ⟨br, hl', hbr⟩ := listing_of_wf wf
  rw [hl'] at hl
  cases hl
  rw [labelCount_listing wf.sorted, if_pos ⟨hbr e he d hb, wf.targets e he d hb hin⟩]

/-- C20.roundtrip (partial)  If additionally the entries are consecutive (`Chain es BASE (BASE + b.length)`: the
segmentation covers every byte) and `encode` inverts the decoder on them (`encode e.instr = the bytes of e in b`:
the file is CANONICALLY encoded — C03 `dec_canon` gives only "same length, decodes to the same instruction"; see
`alias_not_reproduced` below), then the listing is produced and its instruction lines, re-encoded in order,
concatenate to the input file.

Here the assembler is represented by `encode` applied to the instruction lines in order; the statement about the
assembler model `Asm.run` on the listing text is `listing_roundtrip` (`Props/C20Asm.lean`). -/
theorem listing_roundtrip_partial {decode : Decoder} {b : List UInt8} {es : List Entry}
    (wf : WellFormed decode b es) (hc : Chain es BASE (BASE + b.length))
    (encode : Instr → List UInt8) (henc : ∀ e ∈ es, encode e.instr = slice b e) :
    ∃ ls, listing decode b = .ok ls ∧ ((instrLines ls).map (fun x => encode x.2)).flatten = b := by
  obtain ⟨ls, hl, hi⟩ := covers_all wf
  refine ⟨ls, hl, ?_⟩
  rw [hi]
  have h1 : (es.map (fun e => (e.addr, e.instr))).map (fun x => encode x.2) = es.map (slice b) := by
    rw [List.map_map]
    apply List.map_congr_left
    intro e he
    exact henc e he
  rw [h1, chain_flatten b es BASE (BASE + b.length) hc (Nat.le_refl _)]
  simp

/-- C20.roundtrip at the level of the assembler's layout core (C05).  Read the listing as a program of
`Trion.Layout` (`lineStmts`: header = `.addr 0x20000000`, a label line defines the symbol numbered by its address,
an instruction line is a value-dependent statement with bytes `enc i` that needs the symbols `deps a i`). Under
the hypotheses of `listing_roundtrip_partial`:

1. pass 1 of the two-pass reference is defined, and its symbol table binds every in-file branch target to the
   address its label names — and binds no symbol to anything but its own address (so the operand values the
   instruction lines are assembled with are the ones they were printed from);
2. the reference layout of the program is exactly the input file at 0x20000000 — every byte, nothing else;
3. whenever the layout core (`Layout.run`: statement loop, placeholders for forward references, end-of-file
   task queue, `close_segment`) assembles the program, its image is exactly the input file at 0x20000000.

Not shown at this level: that `Layout.run` does succeed on this program (C05 has only the conditional
`layout_refines`). The round trip through the whole pipeline model `Asm.run` on the listing text does not go through
`Layout.run`: it is `listing_roundtrip` (`Props/C20Asm.lean`). -/
theorem listing_roundtrip_layout {decode : Decoder} {b : List UInt8} {es : List Entry}
    (wf : WellFormed decode b es) (hc : Chain es BASE (BASE + b.length))
    (enc : Instr → List UInt8) (deps : Nat → Instr → List Nat) (henc : ∀ e ∈ es, enc e.instr = slice b e) :
    ∃ ls, listing decode b = .ok ls ∧
      (∃ env, Layout.Ref.pass1 none [] (lineStmts enc deps ls) = some env ∧
        (∀ e ∈ es, ∀ d, getBranch e.instr e.addr = some d → inFile b.length d → env.get d = some (d : Int)) ∧
        (∀ n v, env.get n = some v → v = (n : Int))) ∧
      (∃ img', Layout.Ref.layout (lineStmts enc deps ls) = some img' ∧
        ∀ k, img'.get k = if BASE ≤ k ∧ k < BASE + b.length then b[k - BASE]? else none) ∧
      (∀ img, Layout.run (lineStmts enc deps ls) = .ok img →
        ∀ k, img.get k = if BASE ≤ k ∧ k < BASE + b.length then b[k - BASE]? else none) := by
  obtain ⟨br, hl, hbr⟩ := listing_of_wf wf
  obtain ⟨env, p1, p1e⟩ := pass1_render enc deps b br es BASE (BASE + b.length) false BASE [] hc
    (Nat.le_refl _) (Nat.le_refl _) wf.small henc (fun n hn => by simp [Layout.Env.get] at hn)
  obtain ⟨img', p2, p2e⟩ := pass2_render enc deps b br es BASE (BASE + b.length) false BASE [] hc
    (Nat.le_refl _) (Nat.le_refl _) henc
  have h1 : Layout.Ref.pass1 none [] (lineStmts enc deps (Line.header :: render br es false BASE)) = some env := p1
  have h2 : Layout.Ref.pass2 none [] (lineStmts enc deps (Line.header :: render br es false BASE)) = some img' := p2
  have himg : ∀ k, img'.get k = if BASE ≤ k ∧ k < BASE + b.length then b[k - BASE]? else none := by
    intro k; rw [p2e k]; rfl
  refine ⟨_, hl, ⟨env, h1, ?_, ?_⟩, ⟨img', ?_, himg⟩, ?_⟩
  · intro e he d hb hin
    rw [p1e d, if_pos ⟨hbr e he d hb, wf.targets e he d hb hin⟩]
  · intro n v hv
    rw [p1e n] at hv
    split at hv
    · cases hv; rfl
    · simp [Layout.Env.get] at hv
  · unfold Layout.Ref.layout
    rw [h1]; exact h2
  · intro img hrun k
    obtain ⟨im, e1, hg⟩ := Layout.run_pass2 _ img hrun (lineStmts_wf enc deps _)
    rw [h2] at e1
    cases e1
    rw [hg k, himg k]


/-! ## on the text, through the whole pipeline model

`listingText ls`: `Lemmas/TridasText.lean`; `EntryOk b e`: `Lemmas/TridasEntries.lean`. -/

/-- C20.text  The tokenizer and parser models read the whole listing text back as exactly the statements of its lines
(the `.addr` directive, one label statement per label line, one instruction statement `Show.parts` per instruction
line), without error — for every listing whose instructions carry no negative literal (every decoded instruction). -/
theorem listing_parses (ls : List Line) (h : LinesOk ls) :
    ∃ els, Asm.parseFile (listingText ls) = .ok (els, none) ∧ els.map (·.val) = ls.flatMap lineVals :=
  parseFile_listing ls h

/-- C20.roundtrip on text, **labels defined before use**.  Under the property's hypothesis (`WellFormed`, gap-free
`Chain`), for a canonically encoded file (`EntryOk`, see `alias_not_reproduced`) without PC-relative data references
(`hpc`: the label an instruction line mentions is its direct-branch target — excludes ADR / literal LDR, whose labels
tridas never defines) in which every direct branch goes to an instruction boundary inside the file AT OR BEFORE the
branch itself (`hback`): the listing is produced, and `Asm.run` — the whole pipeline model: tokenizer, parser, `.addr`,
label definitions, every instruction statement through evaluator / front end / encoder, output region, task loops,
`close_segment`, `finalize` — on its text succeeds, records no diagnostic, and its image is exactly the input file at
0x20000000.

This is the special case of `listing_roundtrip` (`Props/C20Asm.lean`: backward and forward branches); the proof does not
use the half `d ≤ e.addr` of `hback`. -/
theorem listing_roundtrip_backward {decode : Decoder} {b : List UInt8} {es : List Entry}
    (wf : WellFormed decode b es) (hc : Chain es BASE (BASE + b.length)) (hok : ∀ e ∈ es, EntryOk b e)
    (hpc : ∀ e ∈ es, Show.targetOf e.instr e.addr = getBranch e.instr e.addr)
    (hback : ∀ e ∈ es, ∀ d, getBranch e.instr e.addr = some d → d ≤ e.addr ∧ inFile b.length d) :
    ∃ ls, listing decode b = .ok ls ∧
      ∀ (fs : Bytes → Option Bytes) (main : Bytes), fs main = some (listingText ls) →
        Asm.run fs main = .done ⟨true, none, true, [], [(BASE, b)]⟩ :=
  Listing.roundtrip ⟨wf, hc, rfl, hok, hpc, fun e he d hd => (hback e he d hd).2⟩

/-- C20.roundtrip, semantic form — **no canonical-encoding hypothesis** (alias encodings allowed). Under the other
hypotheses of `listing_roundtrip_backward`, with every instruction of the file merely encodable in its own length
(`henc`; what C03 `dec_canon` gives for decoded instructions): the re-assembled image is a file `b'` of the same
length whose segmentation is the same `es` — same addresses, same instructions, same lengths — each instruction in
its canonical encoding (`EntryOk b' e`).  That `b' = b` for a canonically encoded `b` is `listing_roundtrip`.  As there,
the proof uses only the half `inFile` of `hback`. -/
theorem listing_roundtrip_semantic {decode : Decoder} {b : List UInt8} {es : List Entry}
    (wf : WellFormed decode b es) (hc : Chain es BASE (BASE + b.length))
    (henc : ∀ e ∈ es, ∃ hws, Codec.encode e.instr = .ok hws ∧ e.instr.wf ∧ Show.targetInRange e.instr e.addr ∧
      2 * hws.length = e.after - e.addr)
    (hpc : ∀ e ∈ es, Show.targetOf e.instr e.addr = getBranch e.instr e.addr)
    (hback : ∀ e ∈ es, ∀ d, getBranch e.instr e.addr = some d → d ≤ e.addr ∧ inFile b.length d) :
    ∃ ls b', listing decode b = .ok ls ∧ b'.length = b.length ∧ (∀ e ∈ es, EntryOk b' e) ∧
      ∀ (fs : Bytes → Option Bytes) (main : Bytes), fs main = some (listingText ls) →
        Asm.run fs main = .done ⟨true, none, true, [], [(BASE, b')]⟩ := by
  have hcl : ∀ e ∈ es, (canon e).length = e.after - e.addr := by
    intro e he
    obtain ⟨hws, h1, _, _, h4⟩ := henc e he
    simp [canon, h1, Asm.toBytes_length, h4]
  obtain ⟨hlen, hsl⟩ := canon_slices es BASE (BASE + b.length) [] hc (Nat.le_refl _) (by simp) hcl
  simp only [List.nil_append] at hlen hsl
  have hlen' : ((es.map canon).flatten).length = b.length := by omega
  have hok : ∀ e ∈ es, EntryOk ((es.map canon).flatten) e := by
    intro e he
    obtain ⟨hws, h1, h2, h3, _⟩ := henc e he
    exact ⟨hws, h1, h2, h3, by rw [hsl e he]; simp [canon, h1]⟩
  obtain ⟨ls, hl, hrun⟩ := Listing.roundtrip ⟨wf, hc, hlen', hok, hpc, fun e he d hd => (hback e he d hd).2⟩
  exact ⟨ls, _, hl, hlen', hok, hrun⟩

/-- **The property's "reproduces every input byte" fails for alias encodings** (known finding K3). `40 1C` is
`ADDS R0, R0, #1` in the three-operand form (T1) with Rd = Rn; the decoder returns `add true 0 0 (imm 1)`, tridas prints
`ADDS R0, R0, 1;`, and the encoder emits the two-operand form `01 30` (T2): the same instruction in the ARMv6-M table
(C01 `enc_complete`'s alias clause), but not the same bytes. Hence `EntryOk` (canonical encoding) in the theorems. -/
theorem alias_not_reproduced :
    Codec.decode [0x40, 0x1C] = .ok (2, .add true 0 0 (.imm 1)) ∧
    Codec.encode (.add true 0 0 (.imm 1)) = .ok [0x3001] ∧ Codec.toBytes [0x3001] = [0x01, 0x30] ∧
    Show.text (.add true 0 0 (.imm 1)) 0x20000000 = bytesOf "ADDS R0, R0, 1;" := ⟨rfl, rfl, rfl, by decide⟩

/-- the hypotheses `Chain`, `EntryOk`, `hpc` of `listing_roundtrip_backward` hold of the file `FE D0 70 47` = `l: BEQ l; BX LR`,
whose branch goes to itself (`WellFormed`, for a hand-made decoder, is shown of another file below) -/
example : Chain [⟨0x20000000, .b 0 (-4), 0x20000002⟩, ⟨0x20000002, .bx 14, 0x20000004⟩] BASE (BASE + 4) ∧
    (∀ e ∈ [(⟨0x20000000, .b 0 (-4), 0x20000002⟩ : Entry), ⟨0x20000002, .bx 14, 0x20000004⟩],
      EntryOk [0xFE, 0xD0, 0x70, 0x47] e) ∧
    Show.targetOf (.b 0 (-4)) 0x20000000 = getBranch (.b 0 (-4)) 0x20000000 ∧
    getBranch (.b 0 (-4)) 0x20000000 = some 0x20000000 := by
  refine ⟨by simp [Chain, BASE], ?_, by decide, by decide⟩
  intro e he
  simp at he
  rcases he with rfl | rfl
  · exact ⟨[0xD0FE], rfl, by simp [Instr.wf, inI32], by simp [Show.targetInRange, Front.pcOf], by decide⟩
  · exact ⟨[0x4770], rfl, trivial, trivial, by decide⟩

/-- a hand-made decoder for a two-instruction file `BEQ l_20000002; BX LR` -/
private def exDecode : Decoder := fun bs =>
  if bs.length = 4 then some (2, .b 0 (-2)) else if bs.length = 2 then some (2, .bx 14) else none

/-- non-vacuity: one label, attached to the instruction at its address -/
example : listing exDecode [0, 0, 0, 0] =
    .ok [.header, .instr 0x20000000 (.b 0 (-2)), .label 0x20000002, .instr 0x20000002 (.bx 14)] := by rfl

/-- the hypothesis is satisfiable: the two-instruction file above -/
example : WellFormed exDecode [0, 0, 0, 0]
    [⟨0x20000000, .b 0 (-2), 0x20000002⟩, ⟨0x20000002, .bx 14, 0x20000004⟩] ∧
    Chain [⟨0x20000000, .b 0 (-2), 0x20000002⟩, ⟨0x20000002, .bx 14, 0x20000004⟩] BASE (BASE + 4) := by
  refine ⟨⟨by decide, by simp [Sorted], ⟨_, List.mem_cons_self, rfl⟩, ?_, ?_, ?_, ?_, ?_⟩, by simp [Chain, BASE]⟩
  · intro e he; simp at he; rcases he with rfl | rfl <;> simp [BASE]
  · intro e he _ h; simp at he; rcases he with rfl | rfl
    · exact ⟨_, List.mem_cons_of_mem _ List.mem_cons_self, rfl⟩
    · simp [BASE] at h
  · intro e he; simp at he; rcases he with rfl | rfl <;> rfl
  · intro e he d hd _; simp at he; rcases he with rfl | rfl
    · have : d = 0x20000002 := by
        have h' : getBranch (.b 0 (-2)) 0x20000000 = some 0x20000002 := by rfl
        rw [h'] at hd; exact (Option.some.inj hd).symm
      exact ⟨_, List.mem_cons_of_mem _ List.mem_cons_self, this.symm⟩
    · have h' : getBranch (.bx 14) 0x20000002 = none := by rfl
      rw [h'] at hd; cases hd
  · intro e he; simp at he; rcases he with rfl | rfl
    · exact Reach.base
    · exact Reach.fall (e := ⟨0x20000000, .b 0 (-2), 0x20000002⟩) List.mem_cons_self Reach.base rfl (by simp [BASE])

/-- the remaining hypotheses are satisfiable on that file: an encoder inverting the decoder on its two instructions
(`listing_roundtrip_partial`), and an in-file branch target (`labels_unique_wellFormed`) -/
example : (∀ e ∈ [(⟨0x20000000, .b 0 (-2), 0x20000002⟩ : Entry), ⟨0x20000002, .bx 14, 0x20000004⟩],
      (fun _ => [0, 0]) e.instr = slice [0, 0, 0, 0] e) ∧
    getBranch (.b 0 (-2)) 0x20000000 = some 0x20000002 ∧ inFile 4 0x20000002 := by
  refine ⟨?_, rfl, by simp [inFile, BASE]⟩
  intro e he; simp at he; rcases he with rfl | rfl <;> rfl

/-- non-vacuity of `listing_roundtrip_layout`, clause 3: on the two-instruction file the layout core does assemble the
listing (the first instruction refers forward to the label, so it is placed as a placeholder and rewritten by the
end-of-file task) and yields the four input bytes at 0x20000000 -/
example : Layout.run (lineStmts (fun _ => [0, 0]) (fun a i => (getBranch i a).toList)
      [.header, .instr 0x20000000 (.b 0 (-2)), .label 0x20000002, .instr 0x20000002 (.bx 14)]) =
    .ok [(0x20000000, 0), (0x20000001, 0), (0x20000002, 0), (0x20000003, 0)] := by rfl

end Trion.Tridas
