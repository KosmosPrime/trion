import TrionModel.Props.C20Asm
import TrionModel.Lemmas.TridasCodec
/-!
# C20 with the REAL decoder

`Props/C20.lean` and `Props/C20Asm.lean` state the theorems for an arbitrary `decode : Decoder`.  Here the parameter is
`codecDecoder` (`Model/TridasCodec.lean`): `Codec.decode` — the decoder model of C01–C03 — on the byte values, `Err` ↦
`none`.  `listingCodec b = listing codecDecoder b` is `tridas` on the bytes `b`, decoder included.

What C02/C03 discharge:
* C02 `dec_enc`: for a gap-free chain of canonically encoded entries the decoder clause of `WellFormed` HOLDS
  (`wellFormed_of_entryOk`) — `listing_roundtrip_entries` has no hypothesis about the decoder;
* C03 `dec_canon` / `decode_wf`: whatever the real decoder returned is well-formed and re-encodable in its own length,
  and `targetInRange` follows from the branch being inside the file — so for a file that is `WellFormed` w.r.t. the real
  decoder the `EntryOk` hypothesis is implied by "the bytes are the canonical encoding" (`listing_roundtrip_codec`), and
  the semantic form needs no encoding hypothesis at all (`listing_roundtrip_semantic_codec`).
-/
namespace Trion.Tridas
open Trion Trion.Show

/-- the bytes of entry `e` in `b` are the canonical encoding of its instruction (K3: alias encodings are not) -/
def CanonicalAt (b : List UInt8) (e : Entry) : Prop :=
  ∀ hws, Codec.encode e.instr = .ok hws → (Codec.toBytes hws).map (·.toUInt8) = slice b e

/-- C20.codec (hypothesis)  With the real decoder the decoder clause of the hypothesis is a THEOREM for canonically
encoded files (C02): a gap-free chain of canonically encoded entries, in-file targets on boundaries, everything
reachable ⇒ `WellFormed codecDecoder b es`. -/
theorem wellFormed_of_entryOk {b : List UInt8} {es : List Entry}
    (small : BASE + b.length < two32) (nonempty : 0 < b.length) (hc : Chain es BASE (BASE + b.length))
    (hok : ∀ e ∈ es, EntryOk b e)
    (targets : ∀ e ∈ es, ∀ d, getBranch e.instr e.addr = some d → inFile b.length d → ∃ e' ∈ es, e'.addr = d)
    (reach : ∀ e ∈ es, Reach es b.length e.addr) : WellFormed codecDecoder b es :=
  WellFormed.of_chain small nonempty hc (fun e he => codec_dec_of_entryOk hc he (hok e he)) targets reach

/-- the hypothesis `henc` of `listing_roundtrip_semantic` at one entry, from C03; the target is in range because the branch
lies inside the file -/
theorem codec_entry_enc {b : List UInt8} {es : List Entry} (wf : WellFormed codecDecoder b es)
    (hc : Chain es BASE (BASE + b.length)) {e : Entry} (he : e ∈ es)
    (hpc : Show.targetOf e.instr e.addr = getBranch e.instr e.addr)
    (hin : ∀ d, getBranch e.instr e.addr = some d → BASE ≤ d) :
    ∃ hws, Codec.encode e.instr = .ok hws ∧ e.instr.wf ∧ Show.targetInRange e.instr e.addr ∧
      2 * hws.length = e.after - e.addr := by
  obtain ⟨hws, h1, h2, h3⟩ := codec_entry_canon wf he
  obtain ⟨_, hb, _⟩ := chain_facts es _ _ hc
  have hbe := hb e he
  have hsmall := wf.small
  unfold two32 at hsmall
  exact ⟨hws, h1, h2, targetInRange_of_branch e.instr e.addr hws h1 hbe.1 (by omega) hpc hin, h3⟩

/-- for a file that is well-formed w.r.t. the real decoder, canonicity of the bytes gives `EntryOk` (C03) -/
theorem entryOk_of_canonical {b : List UInt8} {es : List Entry} (wf : WellFormed codecDecoder b es)
    (hc : Chain es BASE (BASE + b.length))
    (hpc : ∀ e ∈ es, Show.targetOf e.instr e.addr = getBranch e.instr e.addr)
    (hin : ∀ e ∈ es, ∀ d, getBranch e.instr e.addr = some d → inFile b.length d)
    {e : Entry} (he : e ∈ es) (hcan : CanonicalAt b e) : EntryOk b e :=
  let ⟨hws, h1, h2, h3, _⟩ := codec_entry_enc wf hc he (hpc e he) fun d hd => (hin e he d hd).1
  ⟨hws, h1, h2, h3, hcan hws h1⟩

/-- C20.roundtrip with the REAL decoder.  For every binary `b` that is well-formed w.r.t. `Codec.decode` (`es` its
segmentation: the real decoder returns `e.instr` with length `e.after - e.addr` at every entry; in-file targets on
boundaries; everything reachable), gap-free, canonically encoded, without PC-relative data references, every direct
branch inside the file: `tridas` (decoder included) produces a listing, and `Asm.run` on its text succeeds without
diagnostic with image exactly `b` at 0x20000000. -/
theorem listing_roundtrip_codec {b : List UInt8} {es : List Entry}
    (wf : WellFormed codecDecoder b es) (hc : Chain es BASE (BASE + b.length))
    (hcan : ∀ e ∈ es, CanonicalAt b e)
    (hpc : ∀ e ∈ es, Show.targetOf e.instr e.addr = getBranch e.instr e.addr)
    (hin : ∀ e ∈ es, ∀ d, getBranch e.instr e.addr = some d → inFile b.length d) :
    ∃ ls, listingCodec b = .ok ls ∧
      ∀ (fs : Bytes → Option Bytes) (main : Bytes), fs main = some (listingText ls) →
        Asm.run fs main = .done ⟨true, none, true, [], [(BASE, b)]⟩ :=
  listing_roundtrip wf hc (fun e he => entryOk_of_canonical wf hc hpc hin he (hcan e he)) hpc hin

/-- C20.roundtrip with the real decoder, stated on the ENTRIES only — no hypothesis mentions a decoder: a non-empty
file cut into a gap-free chain of canonically encoded instructions (`EntryOk`), in-file targets on boundaries, everything
reachable, no PC-relative data references, every direct branch inside the file. -/
theorem listing_roundtrip_entries {b : List UInt8} {es : List Entry}
    (small : BASE + b.length < two32) (nonempty : 0 < b.length) (hc : Chain es BASE (BASE + b.length))
    (hok : ∀ e ∈ es, EntryOk b e)
    (targets : ∀ e ∈ es, ∀ d, getBranch e.instr e.addr = some d → inFile b.length d → ∃ e' ∈ es, e'.addr = d)
    (reach : ∀ e ∈ es, Reach es b.length e.addr)
    (hpc : ∀ e ∈ es, Show.targetOf e.instr e.addr = getBranch e.instr e.addr)
    (hin : ∀ e ∈ es, ∀ d, getBranch e.instr e.addr = some d → inFile b.length d) :
    ∃ ls, listingCodec b = .ok ls ∧
      ∀ (fs : Bytes → Option Bytes) (main : Bytes), fs main = some (listingText ls) →
        Asm.run fs main = .done ⟨true, none, true, [], [(BASE, b)]⟩ :=
  listing_roundtrip (wellFormed_of_entryOk small nonempty hc hok targets reach) hc hok hpc hin

/-- C20.roundtrip, semantic form, with the real decoder — NO encoding hypothesis (C03 supplies re-encodability in the
same length, well-formedness and the target condition): for every gap-free binary well-formed w.r.t. `Codec.decode`,
without PC-relative data references, direct branches to in-file boundaries at or before themselves, the re-assembled
image is a file of the same length with the same segmentation, every instruction in its canonical encoding.  (Of `hback`
the proof uses only `inFile`, not `d ≤ e.addr`.) -/
theorem listing_roundtrip_semantic_codec {b : List UInt8} {es : List Entry}
    (wf : WellFormed codecDecoder b es) (hc : Chain es BASE (BASE + b.length))
    (hpc : ∀ e ∈ es, Show.targetOf e.instr e.addr = getBranch e.instr e.addr)
    (hback : ∀ e ∈ es, ∀ d, getBranch e.instr e.addr = some d → d ≤ e.addr ∧ inFile b.length d) :
    ∃ ls b', listingCodec b = .ok ls ∧ b'.length = b.length ∧ (∀ e ∈ es, EntryOk b' e) ∧
      ∀ (fs : Bytes → Option Bytes) (main : Bytes), fs main = some (listingText ls) →
        Asm.run fs main = .done ⟨true, none, true, [], [(BASE, b')]⟩ :=
  listing_roundtrip_semantic wf hc
    (fun e he => codec_entry_enc wf hc he (hpc e he) fun d hd => (hback e he d hd).2.1) hpc hback

/-- C20.labels / C20.covers with the real decoder: the listing exists, its instruction lines are exactly the file's
instructions, and every in-file direct-branch target has exactly one label line (attached by `labels_attached`). -/
theorem labels_unique_codec {b : List UInt8} {es : List Entry} (wf : WellFormed codecDecoder b es) :
    ∃ ls, listingCodec b = .ok ls ∧ instrLines ls = es.map (fun e => (e.addr, e.instr)) ∧
      labelsAttached ls = true ∧
      ∀ e ∈ es, ∀ d, getBranch e.instr e.addr = some d → inFile b.length d → labelCount d ls = 1 := by
  obtain ⟨ls, hl, hi⟩ := covers_all wf
  exact ⟨ls, hl, hi, labels_attached hl, fun e he d hd hin => labels_unique_wellFormed wf hl he hd hin⟩

/-! ## a real little program, through the real decoder

```
l_20000000:  BNE l_20000008      02 D1          forward conditional branch
             BL  l_2000000A      00 F0 02 F8    forward call
             B   l_20000000      FB E7          backward branch
l_20000008:  NOP                 00 BF
l_2000000A:  POP {PC}            00 BD          terminal
```
-/

def demo : List UInt8 := [0x02, 0xD1, 0x00, 0xF0, 0x02, 0xF8, 0xFB, 0xE7, 0x00, 0xBF, 0x00, 0xBD]

def demoEntries : List Entry :=
  [⟨0x20000000, .b 1 4, 0x20000002⟩, ⟨0x20000002, .bl 4, 0x20000006⟩, ⟨0x20000006, .b 14 (-10), 0x20000008⟩,
   ⟨0x20000008, .nop, 0x2000000A⟩, ⟨0x2000000A, .pop 32768, 0x2000000C⟩]

def demoListing : List Line :=
  [.header, .label 0x20000000, .instr 0x20000000 (.b 1 4), .instr 0x20000002 (.bl 4), .instr 0x20000006 (.b 14 (-10)),
   .blank, .label 0x20000008, .instr 0x20000008 .nop, .label 0x2000000A, .instr 0x2000000A (.pop 32768)]

/-- kernel-checked: `tridas` with the codec model's decoder on the twelve bytes (work-list traversal from 0x20000000,
forward BNE and BL targets queued, backward B, blank line after the non-returning B) -/
theorem demo_listing : (listingCodec demo).toOption = some demoListing := by decide +kernel

/-- kernel-checked: the text `tridas` prints for it -/
example : listingText demoListing = bytesOf
    ".addr 0x20000000;\nl_20000000:\n\tBNE l_20000008;\n\tBL l_2000000A;\n\tB l_20000000;\n\nl_20000008:\n\tNOP;\nl_2000000A:\n\tPOP {PC};\n" := by
  decide +kernel

/-- the hypotheses of `listing_roundtrip_entries` hold for the program (each entry's bytes are the encoder's output) -/
theorem demo_hyps :
    Chain demoEntries BASE (BASE + demo.length) ∧ (∀ e ∈ demoEntries, EntryOk demo e) ∧
    (∀ e ∈ demoEntries, ∀ d, getBranch e.instr e.addr = some d → inFile demo.length d ∧ ∃ e' ∈ demoEntries, e'.addr = d) ∧
    (∀ e ∈ demoEntries, Reach demoEntries demo.length e.addr) ∧
    (∀ e ∈ demoEntries, Show.targetOf e.instr e.addr = getBranch e.instr e.addr) := by
  have g0 : getBranch (.b 1 4) 0x20000000 = some 0x20000008 := by rfl
  have g1 : getBranch (.bl 4) 0x20000002 = some 0x2000000A := by rfl
  have g2 : getBranch (.b 14 (-10)) 0x20000006 = some 0x20000000 := by rfl
  have g3 : getBranch .nop 0x20000008 = none := by rfl
  have g4 : getBranch (.pop 32768) 0x2000000A = none := by rfl
  have m0 : (⟨0x20000000, .b 1 4, 0x20000002⟩ : Entry) ∈ demoEntries := by simp [demoEntries]
  have m1 : (⟨0x20000002, .bl 4, 0x20000006⟩ : Entry) ∈ demoEntries := by simp [demoEntries]
  have m2 : (⟨0x20000006, .b 14 (-10), 0x20000008⟩ : Entry) ∈ demoEntries := by simp [demoEntries]
  have m3 : (⟨0x20000008, .nop, 0x2000000A⟩ : Entry) ∈ demoEntries := by simp [demoEntries]
  have m4 : (⟨0x2000000A, .pop 32768, 0x2000000C⟩ : Entry) ∈ demoEntries := by simp [demoEntries]
  have r0 : Reach demoEntries demo.length 0x20000000 := Reach.base
  have r1 : Reach demoEntries demo.length 0x20000002 := Reach.fall m0 r0 rfl (by simp [BASE, demo])
  have r2 : Reach demoEntries demo.length 0x20000006 := Reach.fall m1 r1 rfl (by simp [BASE, demo])
  have r3 : Reach demoEntries demo.length 0x20000008 := Reach.branch m0 r0 g0 (by simp [inFile, BASE, demo])
  have r4 : Reach demoEntries demo.length 0x2000000A := Reach.fall m3 r3 rfl (by simp [BASE, demo])
  refine ⟨by simp [Chain, demoEntries, BASE, demo], ?_, ?_, ?_, ?_⟩
  · intro e he
    simp [demoEntries] at he
    rcases he with rfl | rfl | rfl | rfl | rfl
    · exact ⟨[0xD102], rfl, by simp [Instr.wf, inI32], by simp [Show.targetInRange, Front.pcOf], by decide⟩
    · exact ⟨[0xF000, 0xF802], rfl, by simp [Instr.wf, inI32], by simp [Show.targetInRange, Front.pcOf], by decide⟩
    · exact ⟨[0xE7FB], rfl, by simp [Instr.wf, inI32], by simp [Show.targetInRange, Front.pcOf], by decide⟩
    · exact ⟨[0xBF00], rfl, trivial, trivial, by decide⟩
    · exact ⟨[0xBD00], rfl, trivial, trivial, by decide⟩
  · intro e he d hd
    simp [demoEntries] at he
    rcases he with rfl | rfl | rfl | rfl | rfl
    · rw [g0] at hd; cases hd; exact ⟨by simp [inFile, BASE, demo], _, m3, rfl⟩
    · rw [g1] at hd; cases hd; exact ⟨by simp [inFile, BASE, demo], _, m4, rfl⟩
    · rw [g2] at hd; cases hd; exact ⟨by simp [inFile, BASE, demo], _, m0, rfl⟩
    · rw [g3] at hd; cases hd
    · rw [g4] at hd; cases hd
  · intro e he
    simp [demoEntries] at he
    rcases he with rfl | rfl | rfl | rfl | rfl
    · exact r0
    · exact r1
    · exact r2
    · exact r3
    · exact r4
  · intro e he
    simp [demoEntries] at he
    rcases he with rfl | rfl | rfl | rfl | rfl
    · rw [g0]; decide
    · rw [g1]; decide
    · rw [g2]; decide
    · rfl
    · rfl

/-- the round trip on the program: the text above, fed to the whole-pipeline assembler model, yields the twelve bytes
at 0x20000000 without diagnostic (an application of `listing_roundtrip_entries`, i.e. of the theorem with the REAL
decoder; forward BNE / BL go through the placeholder + end-of-file task path, the backward B resolves at once) -/
theorem demo_roundtrip (fs : Bytes → Option Bytes) (main : Bytes) (h : fs main = some (listingText demoListing)) :
    Asm.run fs main = .done ⟨true, none, true, [], [(BASE, demo)]⟩ := by
  obtain ⟨hc, hok, ht, hr, hpc⟩ := demo_hyps
  obtain ⟨ls, hl, hrun⟩ := listing_roundtrip_entries (b := demo) (es := demoEntries) (by decide) (by decide) hc hok
    (fun e he d hd _ => (ht e he d hd).2) hr hpc (fun e he d hd => (ht e he d hd).1)
  have hd := demo_listing
  rw [hl] at hd
  have : ls = demoListing := Option.some.inj hd
  subst this
  exact hrun fs main h

/-- … and the program is well-formed w.r.t. the real decoder, so `listing_roundtrip_codec`,
`listing_roundtrip_semantic_codec` and `labels_unique_codec` are not vacuous -/
example : WellFormed codecDecoder demo demoEntries ∧ ∀ e ∈ demoEntries, CanonicalAt demo e := by
  obtain ⟨hc, hok, ht, hr, _⟩ := demo_hyps
  refine ⟨wellFormed_of_entryOk (by decide) (by decide) hc hok (fun e he d hd _ => (ht e he d hd).2) hr, ?_⟩
  intro e he hws henc
  obtain ⟨hws', h1, _, _, h4⟩ := hok e he
  rw [h1] at henc; cases henc; exact h4

end Trion.Tridas
