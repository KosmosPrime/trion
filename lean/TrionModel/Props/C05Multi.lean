import TrionModel.Lemmas.AsmFlatEls
/-!
# C05 (pipeline clause, projects with `.include`) — the image is the two-pass reference layout of the flattened project

Models: `Trion.Asm.run` (the whole `Context` pipeline with its `.include` recursion, Model/Asm.lean) and the two-pass
reference `Layout.Ref` of C05 (Model/Layout.lean).  Props/C05Asm.lean proves `layout_refines_asm` for ONE file; here the
project may consist of any number of files joined by `.include`, nested to any depth the model follows (`maxDepth`).

The flattened program is `Multi.FlatEls` (Lemmas/AsmMultiRun.lean, whose header describes it): every statement other than
`.include` abstracted as in the single-file theorem over its instance's own table, every `.include "f"` replaced by the
flattened program of `sibling path f`, a new instance with a scope of its own; the region and the cursor carry across the
boundary in both directions, as `Context::assemble` leaves `active` alone (src/asm/mod.rs; `Include::apply` in
src/asm/directive/include.rs).
Numbering: in this stage the main file is instance 0 and included files are numbered in preorder from 1; stages 2 and 3
(Props/C05Multi2.lean, C05Multi3.lean) number the main file 1 and keep `num 0` for the real global table (Lemmas/AsmFlatEls.lean
bridges the two conventions by a renaming of symbols).

Proved: `layout_refines_asm_includes_partial` — for a project whose include tree is free of `.global/.import/.export`
(operand trees arbitrary: `evaluate` is idempotent, Props/C08Full.lean) (`Multi.LocalProject`, the side condition of `layout_refines_asm_full` for every file
of the tree): if `Asm.run` succeeds, there are a flattened program `p` and a table `E` such that `p` is a flattening over
`E` (every instance's table IS `E` at that instance), `p` is well formed, the output image is address by address the
`pass2` image of the reference on `p`, and — if no label stands at the cursor 2^32 — `Ref.layout p` is defined, equals
the image, and `E` is the symbol table of the reference's pass 1 (so every label's final value is the address of the
byte that follows it in the flattened program, whichever file it stands in, and every statement's bytes are the bytes
in the reference's own final table of its file).
PARTIAL with respect to the full multi-file statement: `.global`, `.import`, `.export` (names crossing a file boundary;
the global task queue of `finalize`) are not covered here.  Props/C05Multi2.lean adds `.global` below the definition,
Props/C05Multi3.lean `.export` and `.import` of valued names; Props/C05Multi4.lean says what is proved and what is not
about names that are `Deferred` for a while.

Facts of the model (and of the implementation: replayed on `trias`) that the reference of those stages has to
respect — each is a point where "a name resolves to its definition wherever that stands" is FALSE as stated:
* inside an included file `globals` IS the includer's local table (`enterFile`): `.global/.export` of a file at depth ≥ 2
  publish to its includer only, `.import` reads the includer's table only; the real global table is visible to the
  main file alone.  Witness `m: .addr 16; .include "i"; .du32 x;`  `i: .include "j"; .du32 x;`  `j: .global x; .const x, 9;`
  — `i` sees 9, `m` gets "no such local constant x".
* a name imported while still deferred in the includer can be DEFINED again by the importing file, silently, and then
  has two values: `m: .addr 16; .global x; .include "i"; .const x, 7; .du32 x;`  `i: .import x; .du32 x; .const x, 9;`
  assembles to `09 00 00 00 07 00 00 00`; with `.const x, 7` moved above `.global x` the same project is rejected
  (duplicate constant).
* a statement handed to the includer (`global = true`) is not handed on: `m: .addr 16; .global x; .include "i"; .const x, 7;`
  `i: .import x; .include "j";`  `j: .import x; .du32 x;` is rejected ("no such global constant x", placeholder left in
  the failed image) although the same `.du32 x` one level up (in `i`) assembles, and although it assembles in `j` when
  `x` is defined above the `.include` in `m`.  None of these produces wrong bytes in a run that SUCCEEDS with a name
  denoting one definition; they restrict which projects succeed.
-/
namespace Trion.Asm
open Trion Trion.SegLayout Trion.Asm.Multi
open Trion.Layout (MRun withTasks Stmt.ren up)

theorem includes_ref {num : Nat → Bytes → Nat} (hinj : NumInj num) (fs : Bytes → Option Bytes)
    (main data : Bytes) (hfs : fs main = some data) (hloc : LocalProject fs maxDepth main data) (o : Outcome)
    (h : run fs main = .done o) (hs : o.success = true) :
    ∃ (els : List Element) (perr : Option ParseErr) (p : List Layout.Stmt) (E : Layout.Env) (t : Table) (n : Nat)
      (im' : Layout.Img),
      parseFile data = .ok (els, perr) ∧
      EnvRel (num 0) t E ∧ FlatEls num fs encoder E 0 main t 1 none els p n ∧
      (∀ s ∈ p, s.wf = true) ∧ Layout.Ref.pass2 none [] p = some im' ∧ (∀ a, Map.abs o.image a = im'.get a) ∧
      (∀ q s r, p = q ++ s :: r → s.emits = true →
        ∃ x, Layout.Ref.cursorAfter none q = some x ∧
          ∀ i, i < (Layout.Ref.bytes x s).length → im'.get (x + i) = (Layout.Ref.bytes x s)[i]?) ∧
      (Layout.NoLabelAtTop p → Layout.Ref.pass1 none [] p = some E) := by
  -- the generic simulation over the numbering `shift num`, whose flattenings are `up`-renamings of `FlatEls` ones (`FE`);
  -- the reference does not see the renaming
  obtain ⟨els, perr, p', t, n, A, im', la, h1, h2, _, h3, hok, _, h4, _, _, h7, h8, h9, h10, h11⟩ :=
    run_flat (shift_inj hinj) fs (FE.flat num fs encoder) (fun fuel _ p d => LocalProject fs fuel p d)
      (localProject_step fs) main data hfs hloc o h hs
  obtain rfl : A = [] := List.map_eq_nil_iff.mp (h4.trans (filterMap_pubName_okInc _ hok))
  obtain ⟨p, n₁, _, rfl, hfl⟩ := h3 0 1 rfl rfl
  simp only [Glob.aliases, List.map_nil, List.append_nil] at h7 h8 h10 h11
  rw [Layout.ren_pass2] at h8
  refine ⟨els, perr, p, la.env.down, t, n₁, im', h1, fun x => by rw [Layout.Env.get_down]; exact h2 x, hfl,
    fun s hs' => by rw [← Layout.ren_wf up]; exact h7 _ (List.mem_map_of_mem hs'), h8, h9, fun q s r hp hse => ?_, fun hl => ?_⟩
  · have := h10 (q.map (Stmt.ren up)) (s.ren up) (r.map (Stmt.ren up)) (by rw [hp]; simp) (by rw [Layout.ren_emits]; exact hse)
    simpa only [Layout.ren_cursorAfter, Layout.ren_bytes] using this
  · have := h11 (Layout.ren_noLabelAtTop up p none hl)
    rw [show ([] : Layout.Env) = Layout.Env.ren up [] from rfl, Layout.ren_pass1 Layout.up_inj] at this
    cases hp1 : Layout.Ref.pass1 none [] p with
    | none => rw [hp1] at this; cases this
    | some e =>
      rw [hp1] at this
      have he : la.env = Layout.Env.ren up e := (Option.some.inj this).symm
      rw [he, Layout.Env.down_ren]

/-- C05 (pipeline, program level, projects with `.include` and file-local names): the header, under "Proved" -/
theorem layout_refines_asm_includes_partial {num : Nat → Bytes → Nat} (hinj : NumInj num) (fs : Bytes → Option Bytes)
    (main data : Bytes) (hfs : fs main = some data) (hloc : LocalProject fs maxDepth main data) (o : Outcome)
    (h : run fs main = .done o) (hs : o.success = true) :
    ∃ (els : List Element) (perr : Option ParseErr) (p : List Layout.Stmt) (E : Layout.Env) (t : Table) (n : Nat),
      parseFile data = .ok (els, perr) ∧
      EnvRel (num 0) t E ∧ FlatEls num fs encoder E 0 main t 1 none els p n ∧
      (∀ s ∈ p, s.wf = true) ∧
      (∃ img', Layout.Ref.pass2 none [] p = some img' ∧ ∀ a, Map.abs o.image a = img'.get a) ∧
      (Layout.NoLabelAtTop p →
        ∃ img'', Layout.Ref.layout p = some img'' ∧ (∀ a, Map.abs o.image a = img''.get a) ∧
          Layout.Ref.pass1 none [] p = some E) := by
  obtain ⟨els, perr, p, E, t, n, im', h1, h2, h3, h4, h5, h6, _, h8⟩ := includes_ref hinj fs main data hfs hloc o h hs
  refine ⟨els, perr, p, E, t, n, h1, h2, h3, h4, ⟨im', h5, h6⟩, fun hl => ⟨im', ?_, h6, h8 hl⟩⟩
  rw [Layout.layout_eq p (by rw [h8 hl]; simp)]
  exact h5

theorem run_sim_includes {num : Nat → Bytes → Nat} (hinj : NumInj num) (fs : Bytes → Option Bytes)
    (main data : Bytes) (hfs : fs main = some data) (hloc : LocalProject fs maxDepth main data) (o : Outcome)
    (h : run fs main = .done o) (hs : o.success = true) :
    ∃ (els : List Element) (perr : Option ParseErr) (p : List Layout.Stmt) (E : Layout.Env) (t : Table) (n : Nat)
      (im' : Layout.Img),
      parseFile data = .ok (els, perr) ∧
      EnvRel (num 0) t E ∧ FlatEls num fs encoder E 0 main t 1 none els p n ∧
      (∀ s ∈ p, s.wf = true) ∧ Layout.Ref.pass2 none [] p = some im' ∧ (∀ a, Map.abs o.image a = im'.get a) ∧
      (∀ q s r, p = q ++ s :: r → s.emits = true →
        ∃ x, Layout.Ref.cursorAfter none q = some x ∧
          ∀ i, i < (Layout.Ref.bytes x s).length → im'.get (x + i) = (Layout.Ref.bytes x s)[i]?) := by
  obtain ⟨els, perr, p, E, t, n, im', h1, h2, h3, h4, h5, h6, h7, _⟩ := includes_ref hinj fs main data hfs hloc o h hs
  exact ⟨els, perr, p, E, t, n, im', h1, h2, h3, h4, h5, h6, h7⟩

/-- C05 (no placeholder survives; every statement's bytes at its address — projects with `.include`, file-local names) and
C08 (pipeline clause across include boundaries).  In the image of a successful run EVERY emitting statement `s` of the
flattened program (an instruction, `.du*`, `.dstr/.dhex/.dfile`, the padding of `.align`, of whichever file) stands with
its reference bytes at its reference address — in particular every statement that was written as 0xBE… when it was met
and rewritten when ITS file ended.  Moreover `s` is the abstraction `absStmt … t' c' el` of a source statement `el` of
some file instance over that instance's FINAL table `t'` (= the reference's final table `E` at that instance): its bytes
`Ref.bytes c s` are a function of the statement, its address and its file's final table only.  Hence a statement emits
the same bytes whether the constants it uses are defined above it or below it in its file, before or after an
`.include` statement of that file, with any amount of code of other files in between (the address, which `Ref.pass1`
computes from sizes alone, is the same).  PARTIAL: file-local names only (`LocalProject`); "defined in another file"
needs `.global/.import/.export` (Props/C05Multi2.lean, C05Multi3.lean). -/
theorem every_statement_placed_asm_includes_partial {num : Nat → Bytes → Nat} (hinj : NumInj num) (fs : Bytes → Option Bytes)
    (main data : Bytes) (hfs : fs main = some data) (hloc : LocalProject fs maxDepth main data) (o : Outcome)
    (h : run fs main = .done o) (hs : o.success = true) :
    ∃ (els : List Element) (perr : Option ParseErr) (p : List Layout.Stmt) (E : Layout.Env) (t : Table) (n : Nat),
      parseFile data = .ok (els, perr) ∧ EnvRel (num 0) t E ∧ FlatEls num fs encoder E 0 main t 1 none els p n ∧
      ∀ q s r, p = q ++ s :: r → s.emits = true →
        (∃ c, Layout.Ref.cursorAfter none q = some c ∧
          ∀ i, i < (Layout.Ref.bytes c s).length → Map.abs o.image (c + i) = (Layout.Ref.bytes c s)[i]?) ∧
        ∃ id' path' t' c' el, EnvRel (num id') t' E ∧ isInclude el = false ∧
          s = absStmt (num id') fs encoder path' t' c' el := by
  obtain ⟨els, perr, p, E, t, n, im', h1, h2, h3, _, _, h6, h7⟩ := run_sim_includes hinj fs main data hfs hloc o h hs
  refine ⟨els, perr, p, E, t, n, h1, h2, h3, fun q s r hp hse => ⟨?_, ?_⟩⟩
  · obtain ⟨x, hx, hb⟩ := h7 q s r hp hse
    exact ⟨x, hx, fun i hi => by rw [h6]; exact hb i hi⟩
  · exact h3.source h2 s (by rw [hp]; simp)

def localProjectB (fs : Bytes → Option Bytes) : Nat → Bytes → Bytes → Bool
  | 0, _, _ => true
  | fuel + 1, path, data =>
    match parseFile data with
    | .ok (els, _) => els.all fun el => okInc el &&
        match incTarget fs path el with
        | some (p', d') => localProjectB fs fuel p' d'
        | none => true
    | .stop _ => true

theorem localProject_of_B (fs : Bytes → Option Bytes) : ∀ (fuel : Nat) (path data : Bytes),
    localProjectB fs fuel path data = true → LocalProject fs fuel path data := by
  intro fuel
  induction fuel with
  | zero => intro _ _ _; trivial
  | succ fuel ih =>
    intro path data h els perr hp el hel
    simp only [localProjectB, hp, List.all_eq_true, Bool.and_eq_true] at h
    obtain ⟨h1, h3⟩ := h el hel
    refine ⟨h1, fun p' d' ht => ih p' d' ?_⟩
    rw [ht] at h3
    exact h3

/-- a numbering of (file instance, name): the instance in unary in front of the name, coded by `exCode` -/
def exNum2 : Nat → Bytes → Nat := fun i b => exCode (List.replicate i 1 ++ 0 :: b)

theorem exNum2_inj : NumInj exNum2 := by
  intro i j a b h
  have h' := exCode_inj _ _ h
  clear h
  induction i generalizing j with
  | zero =>
    cases j with
    | zero => simp only [List.replicate_zero, List.nil_append, List.cons.injEq, true_and] at h'; exact ⟨rfl, h'⟩
    | succ j => simp [List.replicate_succ] at h'
  | succ i ih =>
    cases j with
    | zero => simp [List.replicate_succ] at h'
    | succ j =>
      simp only [List.replicate_succ, List.cons_append, List.cons.injEq, true_and] at h'
      obtain ⟨e1, e2⟩ := ih j h'
      exact ⟨by rw [e1], e2⟩

/-- the project: `m` = `.addr 16; B x; .include "i"; x:` and `i` = `.du16 y + 1; y:` — the branch in the main file
refers forward across the included file (whose two bytes move the label), the included file has a forward reference
of its own -/
def exMainText : Bytes := bytesOf ".addr 16;\nB x;\n.include \"i\";\nx:\n"
def exIncText : Bytes := bytesOf ".du16 y + 1;\ny:\n"
def exFs : Bytes → Option Bytes := fun p =>
  if p = bytesOf "m" then some exMainText else if p = bytesOf "i" then some exIncText else none

theorem exProject_local : LocalProject exFs maxDepth (bytesOf "m") exMainText :=
  localProject_of_B _ _ _ _ (by decide +kernel)

/-- `Asm.run` on the project: success, no diagnostic, image `00 E0` (`B` to 20) `15 00` (`y + 1` = 21) at 16 -/
theorem exProject_run : (match run exFs (bytesOf "m") with
    | .done o => o.success && o.diags.isEmpty && o.image == [(16, [0x00, 0xE0, 0x15, 0x00])]
    | _ => false) = true := by decide +kernel

/-- the hypotheses of `layout_refines_asm_includes_partial` hold of the project, so its conclusion does -/
example : ∃ o, run exFs (bytesOf "m") = .done o ∧ o.success = true ∧
    ∃ (els : List Element) (perr : Option ParseErr) (p : List Layout.Stmt) (E : Layout.Env) (t : Table) (n : Nat),
      parseFile exMainText = .ok (els, perr) ∧ EnvRel (exNum2 0) t E ∧
      FlatEls exNum2 exFs encoder E 0 (bytesOf "m") t 1 none els p n ∧ (∀ s ∈ p, s.wf = true) ∧
      (∃ img', Layout.Ref.pass2 none [] p = some img' ∧ ∀ a, Map.abs o.image a = img'.get a) := by
  have hr := exProject_run
  cases hrun : run exFs (bytesOf "m") with
  | done o =>
    rw [hrun] at hr
    simp only [Bool.and_eq_true] at hr
    obtain ⟨els, perr, p, E, t, n, h1, h2, h3, h4, h5, _⟩ :=
      layout_refines_asm_includes_partial exNum2_inj exFs (bytesOf "m") exMainText rfl exProject_local o hrun hr.1.1
    exact ⟨o, rfl, hr.1.1, els, perr, p, E, t, n, h1, h2, h3, h4, h5⟩
  | noMain => rw [hrun] at hr; cases hr
  | panic => rw [hrun] at hr; cases hr
  | fuel => rw [hrun] at hr; cases hr
  | loop => rw [hrun] at hr; cases hr

/-- the flattened program of the project (`x` of the main file = symbol 1, `y` of the included file = symbol 2) and
its reference layout: the image `Asm.run` produces -/
example : Layout.Ref.layout [.addr 16, .emit 2 [1] [0x00, 0xE0], .emit 2 [2] [0x15, 0x00], .label 2, .label 1] =
      some [(18, 0x15), (19, 0x00), (16, 0x00), (17, 0xE0)] ∧
    Layout.Ref.pass1 none [] [.addr 16, .emit 2 [1] [0x00, 0xE0], .emit 2 [2] [0x15, 0x00], .label 2, .label 1] =
      some [(1, 20), (2, 20)] := ⟨by rfl, by rfl⟩

example : ∃ o, run exFs (bytesOf "m") = .done o ∧
    ∃ (p : List Layout.Stmt), ∀ q s r, p = q ++ s :: r → s.emits = true →
      ∃ c, Layout.Ref.cursorAfter none q = some c ∧
        ∀ i, i < (Layout.Ref.bytes c s).length → Map.abs o.image (c + i) = (Layout.Ref.bytes c s)[i]? := by
  have hr := exProject_run
  cases hrun : run exFs (bytesOf "m") with
  | done o =>
    rw [hrun] at hr
    simp only [Bool.and_eq_true] at hr
    obtain ⟨_, _, p, _, _, _, _, _, _, h4⟩ :=
      every_statement_placed_asm_includes_partial exNum2_inj exFs (bytesOf "m") exMainText rfl exProject_local o hrun hr.1.1
    exact ⟨o, rfl, p, fun q s r hp hs => (h4 q s r hp hs).1⟩
  | noMain => rw [hrun] at hr; cases hr
  | panic => rw [hrun] at hr; cases hr
  | fuel => rw [hrun] at hr; cases hr
  | loop => rw [hrun] at hr; cases hr

end Trion.Asm
