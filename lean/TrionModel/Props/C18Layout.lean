import TrionModel.Props.C18Main
import TrionModel.Props.C05Asm
import TrionModel.Props.C05Multi
/-!
# C18 composed with C05 — the file `trias` writes holds the sequential layout of the program

`layout_refines_asm` (C05) says that the image of a successful run is the two-pass reference layout of the program's
statements; `main_written` (C18) says that the file `trias` writes reproduces the image of the run. Composed, for a
single-file program: whenever `trias` writes a file, the independent UF2 reader decodes it, and every byte the
two-pass reference places at an address is the byte the decoded memory image holds at that address.
-/
namespace Trion.Trias
open Trion Trion.Asm Trion.Uf2 Trion.Asm.Multi

/-- a written file comes from a successful run, and the UF2 reader finds in it every byte of any layout image that
agrees with that run's image — whichever refinement theorem of C05 supplies the layout -/
theorem written_run (fs : Bytes → Option Bytes) (main : Bytes) (f : List UInt8) (hm : mainOut fs main = .written f) :
    ∃ o, run fs main = .done o ∧ o.success = true ∧
      ∃ bs, read f = some bs ∧ ∀ img : Layout.Img, (∀ a, Trion.Map.abs o.image a = img.get a) →
        ∀ a v, img.get a = some v → image bs a = some v := by
  obtain ⟨o, hr, hd, hc, hp⟩ := (main_written_iff fs main f).mp hm
  obtain ⟨⟨bs, hread, hb⟩, _⟩ := trias_of_run fs main o hr f hp
  exact ⟨o, hr, (success_iff fs main o hr).mpr ⟨hd, hc⟩, bs, hread,
    fun img himg a v hv => hb a v (by rw [lookup_is_map_abs, himg a]; exact hv)⟩

/-- C18∘C05  One file (`SingleFile`): every byte the reference's `pass2` places for `abstract … t₂ none els` is the byte the
UF2 reader finds at that address in the file `trias` wrote. -/
theorem trias_file_is_layout {num : Bytes → Nat} (hinj : Function.Injective num) (fs : Bytes → Option Bytes)
    (main data : Bytes) (hfs : fs main = some data) (els : List Element) (perr : Option ParseErr)
    (hparse : parseFile data = .ok (els, perr)) (hsf : SingleFile els)
    (f : List UInt8) (hm : mainOut fs main = .written f) :
    ∃ t₂ : Table, ∃ img', Layout.Ref.pass2 none [] (abstract num fs encoder main t₂ none els) = some img' ∧
      ∃ bs, read f = some bs ∧ ∀ a v, img'.get a = some v → image bs a = some v := by
  obtain ⟨o, hr, hs, bs, hread, hb⟩ := written_run fs main f hm
  obtain ⟨t₂, _, _, ⟨img', hp2, himg⟩, _⟩ := layout_refines_asm hinj fs main data hfs els perr hparse hsf o hr hs
  exact ⟨t₂, img', hp2, bs, hread, hb img' himg⟩

/-- C18∘C05 `trias_file_is_layout_includes`  The same for projects of any number of files (`LocalProject`: every file uses
its own names only — the hypothesis of `layout_refines_asm_includes_partial`): the flattened statement list `p` of the
whole project exists, and every byte its two-pass reference layout places is the byte of the decoded file. -/
theorem trias_file_is_layout_includes {num : Nat → Bytes → Nat} (hinj : NumInj num) (fs : Bytes → Option Bytes)
    (main data : Bytes) (hfs : fs main = some data) (hloc : LocalProject fs maxDepth main data)
    (f : List UInt8) (hm : mainOut fs main = .written f) :
    ∃ (els : List Element) (perr : Option ParseErr) (p : List Layout.Stmt) (E : Layout.Env) (t : Table) (n : Nat) (img' : Layout.Img),
      parseFile data = .ok (els, perr) ∧ FlatEls num fs encoder E 0 main t 1 none els p n ∧
      Layout.Ref.pass2 none [] p = some img' ∧
      ∃ bs, read f = some bs ∧ ∀ a v, img'.get a = some v → image bs a = some v := by
  obtain ⟨o, hr, hs, bs, hread, hb⟩ := written_run fs main f hm
  obtain ⟨els, perr, p, E, t, n, hparse, _, hflat, _, ⟨img', hp2, himg⟩, _⟩ :=
    layout_refines_asm_includes_partial hinj fs main data hfs hloc o hr hs
  exact ⟨els, perr, p, E, t, n, img', hparse, hflat, hp2, bs, hread, hb img' himg⟩

end Trion.Trias
