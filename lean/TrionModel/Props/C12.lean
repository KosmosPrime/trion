import TrionModel.Lemmas.LexRun
/-!
# C12 — reported source positions point at the item (tokenizer half)

Specification `Trion.Pos.of` (`Spec/Pos.lean`): the position of the item that follows the text `pre` is
`(1 + number of line feeds in pre, 1 + number of non-continuation bytes after the last line feed)`;
a non-continuation byte is the first byte of a Unicode scalar value.
-/
namespace Trion.Pos

/-- C12.a  `lastLine` is the text after the last line feed: it contains no line feed, and what precedes
it is empty or ends in a line feed. -/
theorem lastLine_spec (d : Bytes) :
    ∃ pre, d = pre ++ lastLine d ∧ countLF (lastLine d) = 0 ∧ (pre = [] ∨ ∃ p b, pre = p ++ [b] ∧ b.toNat = 10) := by
  induction d with
  | nil => exact ⟨[], rfl, rfl, Or.inl rfl⟩
  | cons b d ih =>
    obtain ⟨pre, hd, hc, hp⟩ := ih
    by_cases hd0 : countLF d > 0
    · refine ⟨b :: pre, ?_, ?_, ?_⟩
      · simp only [lastLine, hd0, if_true]; rw [List.cons_append, ← hd]
      · simpa [lastLine, hd0] using hc
      · right
        rcases hp with rfl | ⟨p, x, rfl, hx⟩
        · exfalso
          simp at hd; rw [← hd] at hc; omega
        · exact ⟨b :: p, x, by simp, hx⟩
    · have h0 : countLF d = 0 := by omega
      by_cases hb : b.toNat = 10
      · exact ⟨[b], by simp [lastLine, h0, hb], by simp [lastLine, h0, hb], Or.inr ⟨[], b, rfl, hb⟩⟩
      · refine ⟨[], by simp [lastLine, h0, hb], ?_, Or.inl rfl⟩
        simp only [lastLine, h0]
        simp [countLF_cons, hb, h0]

/-- C12.b  The specification composes: the position after `a ++ b` is the position after `a` advanced
byte-wise over `b` (`Pos.step`: line feed → next line, column 1; continuation byte → unchanged;
any other byte → next column). -/
theorem of_compose (a b : Bytes) : Pos.of (a ++ b) = adv (Pos.of a) b := of_append a b

example : Pos.of (bytesOf "ab\n\tc") = (2, 3) := by decide
example : Pos.of [0x61, 0xC3, 0xA9, 0x0A, 0xE2, 0x82, 0xAC, 0x20] = (2, 3) := by decide

end Trion.Pos

namespace Trion.Lex
open Trion.Pos (adv)

/-- C12.c  `Tokenizer::update_pos` on any piece of well-formed UTF-8 never panics (its inner `str` slice
is on a boundary) and advances `(line, col)` exactly as the specification does. -/
theorem update_pos_spec (a m z : Bytes) (h : Utf8 (a ++ m ++ z)) (l c : Nat) :
    updatePos l c m = some (adv (l, c) m) := updatePos_eq (good_of_utf8_infix h) l c

example : updatePos 3 7 (bytesOf "x\n  ") = some (4, 3) := by decide

theorem placed_take {bs : Bytes} {n start : Nat} {ts : List Token} (h : Placed (bs.take n) start ts) :
    Placed bs start ts := by
  induction h with
  | nil start => exact Placed.nil start
  | cons start o e t ts h1 h2 h3 h4 h5 _ ih =>
    have hlen : e ≤ n ∧ e ≤ bs.length := by simp at h3; omega
    refine Placed.cons start o e t ts h1 h2 hlen.2 ?_ ?_ ih
    · rw [h4, List.take_take]; congr 2; omega
    · obtain ⟨b, hb, hs⟩ := h5
      refine ⟨b, ?_, hs⟩
      rw [List.getElem?_take] at hb
      split at hb
      · exact hb
      · simp at hb

/-- C12.d `tok_pos`  For every byte string: the tokens produced by the tokenizer sit at strictly
increasing byte offsets `o` of the input (`Placed`, `Lemmas/LexRun.lean`: `start ≤ o < e ≤ length`, the
next token at `≥ e`), the byte at `o` is one a token of that kind begins with (`startsTok`), and the
token's `(line, col)` is `Pos.of (bs.take o)` — the specified position of offset `o`, whatever precedes
it (tabs, CR LF, multi-byte characters, line comments, nested block comments, strings). -/
theorem tok_pos (bs : Bytes) (o : LexOut) (h : tokens bs = .ok o) : Placed bs 0 o.toks := by
  exact placed_take (n := validUpTo bs) (by simpa [State.new] using (tokens_spec bs o h).1)

/-- C12.e  `tok_pos` token by token. -/
theorem tok_pos_mem (bs : Bytes) (o : LexOut) (h : tokens bs = .ok o) :
    ∀ t ∈ o.toks, ∃ off, off < bs.length ∧ (t.line, t.col) = Pos.of (bs.take off) ∧
      ∃ b, bs[off]? = some b ∧ startsTok t.val b = true := fun t ht =>
  let ⟨off, _, hoff⟩ := (tok_pos bs o h).mem t ht
  ⟨off, hoff⟩

/-- C12.f  The position left in the tokenizer at the end (`get_line`, `get_column`, which the parser
reports for `<eof>`): after a stream without error it is the position of the end of the input; after an
error it is the error's position. -/
theorem end_pos (bs : Bytes) (o : LexOut) (h : tokens bs = .ok o) :
    (o.err = none → (o.endLine, o.endCol) = Pos.of bs) ∧
    (∀ e, o.err = some e → (o.endLine, o.endCol) = (e.line, e.col)) := by
  obtain ⟨_, hend, herr⟩ := tokens_spec bs o h
  refine ⟨?_, fun e he => (herr e he).1⟩
  intro hn
  obtain ⟨h1, h2⟩ := hend hn
  have hv : validUpTo bs = bs.length := by simpa [State.new] using h2
  rw [h1]
  simp [State.new, hv]

-- non-vacuity
example : tokens (bytesOf "a /* x\n */\t'b' // c\n  \"s\" ;") =
    .ok ⟨[⟨1, 1, .ident (bytesOf "a")⟩, ⟨2, 5, .num 98⟩, ⟨3, 3, .str (bytesOf "s")⟩, ⟨3, 7, .term⟩], none, 3, 8⟩ := by
  decide
example : Pos.of ((bytesOf "a /* x\n */\t'b' // c\n  \"s\" ;").take 26) = (3, 7) := by decide

end Trion.Lex
