import TrionModel.Lemmas.AsmRetrySim
/-!
# C08 (statement level) — a statement emits the same bytes whether its constants are defined above or below it

Models: `Trion.Front.assemble` / `Front.build` (`ArmInstr::assemble`, `ArmInstr::new`), `Trion.Asm.frontEval` /
`Asm.evalIn` (= `evaluate(&mut arg, ctx)` over the constant table of the file, `Simp.evaluateE`), i.e. exactly the
functions `Asm.instruction`, `Asm.runInstrTask`, `Asm.duDirective`, `Asm.runDataTask` call.

"Defined below": when the statement is met the table is `t₁`; `assemble` stops at the first operand that needs an
unknown name (`Deferred`), the statement is placed as 0xBE bytes and queued with the front-end state `fs1` — operands
before the stop replaced by their values, the stopping operand partly evaluated and simplified IN PLACE, the
instruction filled in as far as the macro's stores went.  At the end of the file the task re-runs `assemble` from `fs1`
over the final table `t₂ ⊇ t₁`.
"Defined above": the statement is met when the table already is `t₂`.

`build_retry`: the re-run IS the fresh run — same outcome, same instruction, same argument list — for every mnemonic, every
operand count, every stop position and every operand tree: the re-run evaluates the already evaluated sub-trees once more,
and `evaluate` is idempotent on its own output (Lemmas/SimpNF.lean; the model follows the repairs F29, F30 of /repo, DESIGN.md
§11 — K4, K5 in props/C08.json).
`stmt_bytes_order_independent` and `du_value_order_independent` are `build_retry` / `data_retry_all` under the hypothesis
`plain` on the operand trees, which no proof uses; Props/C08Full.lean has the same statements without it
(`stmt_bytes_order_independent_full`, `du_value_order_independent_tree`).  `plain` (Lemmas/SimpRetry.lean: every sub-tree that
the first attempt completes before it stops is a leaf, register-free arithmetic or `Rn + c`) is the class for which the re-run
is the fresh run even without idempotence (`0 - (r1 - r0)` ↦ `-(r1 - r0)` ↦ `r0 - r1` is outside it).
-/
namespace Trion.Asm
open Trion

/-- The re-run of a deferred statement over a larger table is the fresh run, whatever the operand trees: `evaluate` is
idempotent, so re-evaluating what the first attempt left changes nothing (`assemble_retry_tables_all`). -/
theorem build_retry {t₁ t₂ : Table} (hs : Table.Sub t₁ t₂) (hn : Table.NoDef t₁) {addr : Nat} {name : Bytes}
    {args : List Arg} {c : Bytes} {fs1 : Front.St}
    (h1 : Front.build addr name args (frontEval t₁) true = .deferred c fs1) :
    ∃ t, Front.mnemonic name = some t ∧
      ∀ loc, Front.assemble fs1 (frontEval t₂) loc = Front.assemble ⟨addr, t, 0, args⟩ (frontEval t₂) loc := by
  obtain ⟨t, hm, ha⟩ := Front.build_deferred_inv h1
  exact ⟨t, hm, assemble_retry_tables_all hs hn addr t args fs1 c ha⟩

/-- … hence it completes with `i` exactly when the fresh `build` does. -/
theorem build_retry_completed {t₁ t₂ : Table} (hs : Table.Sub t₁ t₂) (hn : Table.NoDef t₁) {addr : Nat} {name : Bytes}
    {args : List Arg} {c : Bytes} {fs1 : Front.St}
    (h1 : Front.build addr name args (frontEval t₁) true = .deferred c fs1) (i : Instr) :
    (∃ fs2, Front.assemble fs1 (frontEval t₂) false = (fs2, .completed) ∧ fs2.instr = i) ↔
      Front.build addr name args (frontEval t₂) true = .completed i := by
  obtain ⟨t, hm, hr⟩ := build_retry hs hn h1
  rw [Front.build_completed_assemble hm, hr false]
  exact ⟨fun ⟨fs, h, hi⟩ => ⟨fs, assemble_completed_loc true h, hi⟩,
    fun ⟨fs, h, hi⟩ => ⟨fs, assemble_completed_loc false h, hi⟩⟩

/-- C08 (statement level)  An instruction statement whose constants are defined BELOW it in the file (first
`assemble` over `t₁` deferred, re-run from the queued state over the final table `t₂`) and the same statement with
the constants defined ABOVE it (one `assemble` over `t₂`) end with the same outcome and the same instruction, hence —
the address being the same — the same bytes. -/
theorem stmt_bytes_order_independent {t₁ t₂ : Table} (hs : Table.Sub t₁ t₂) (hn : Table.NoDef t₁) (addr : Nat)
    (name : Bytes) (args : List Arg) (hp : ∀ a ∈ args, plainArg a = true) (c : Bytes) (fs1 : Front.St)
    (h1 : Front.build addr name args (frontEval t₁) true = .deferred c fs1) :
    (∀ loc, ∃ t, Front.mnemonic name = some t ∧
      Front.assemble fs1 (frontEval t₂) loc = Front.assemble ⟨addr, t, 0, args⟩ (frontEval t₂) loc) ∧
    (∀ fs2, Front.assemble fs1 (frontEval t₂) false = (fs2, .completed) →
      Front.build addr name args (frontEval t₂) true = .completed fs2.instr) :=
  let ⟨t, hm, hr⟩ := build_retry hs hn h1
  ⟨fun loc => ⟨t, hm, hr loc⟩, fun fs2 h2 => (build_retry_completed hs hn h1 _).1 ⟨fs2, h2, rfl⟩⟩

/-- C08 (statement level, data)  The operand of `.du8/.du16/.du32`: the tree left by a first `evaluate` that stopped
at an unknown name (`DataExpr::apply` keeps it for the task) evaluates over the final table to exactly what the
original operand evaluates to over the final table — outcome, tree, everything `write_data` reads. -/
theorem du_value_order_independent {t₁ t₂ : Table} (hs : Table.Sub t₁ t₂) (hn : Table.NoDef t₁) (a : Arg)
    (hp : plainArg a = true) (n : Bytes) (a₁ : Arg) (h : evalIn t₁ a = .ok (.noSuch n a₁)) :
    evalIn t₂ a₁ = evalIn t₂ a := data_retry_all hs hn h

/-- C08 / C05  The placeholder written for a deferred instruction (0xBE × the length of the encoding of the partly
filled instruction) has the length of the bytes the task writes over it. -/
theorem placeholder_length {enc : Encoder} (henc : EncLen enc) (fs1 fs2 : Front.St) (e : Arg → Front.EvalOut) (loc : Bool)
    (r : Front.Res) (h : Front.assemble fs1 e loc = (fs2, r)) (ph bytes : Bytes) (h1 : enc fs1.instr = .ok ph)
    (h2 : enc fs2.instr = .ok bytes) : ph.length = bytes.length := by
  have := (Front.assemble_keeps fs1 e loc).2
  rw [h] at this
  rw [henc _ _ h1, henc _ _ h2, this]

/-- `B x + 2` at address 0 with `x` defined below (`x = 6`): deferred, then the re-run completes with `B +4`;
with `x` defined above the single run gives the same instruction. -/
example :
    Front.build 0 [66] [.bin .add (.ident [120]) (.const 2)] (frontEval []) true =
      .deferred [120] ⟨0, .b 14 0, 0, [.bin .add (.ident [120]) (.const 2)]⟩ ∧
    Front.assemble ⟨0, .b 14 0, 0, [.bin .add (.ident [120]) (.const 2)]⟩ (frontEval [([120], some 6)]) false =
      (⟨0, .b 14 4, 1, [.const 8]⟩, .completed) ∧
    Front.build 0 [66] [.bin .add (.ident [120]) (.const 2)] (frontEval [([120], some 6)]) true = .completed (.b 14 4) ∧
    Table.Sub [] [([120], some 6)] ∧ Table.NoDef [] ∧ plainArg (.bin .add (.ident [120]) (.const 2)) = true :=
  ⟨rfl, rfl, rfl, fun _ _ h => by simp [Table.find] at h, fun _ h => by simp [Table.find] at h, rfl⟩

/-- a three-operand statement that stops at its last operand, with a partly evaluated operand left behind:
`ADDS r1, r2, (2 + 3) * y + x` with `y = 1` known and `x` unknown -/
example :
    (Front.assemble ⟨0, .add true 0 0 (.imm 0), 0,
        [.ident [114, 49], .ident [114, 50], .bin .add (.bin .mul (.bin .add (.const 2) (.const 3)) (.ident [121])) (.ident [120])]⟩
      (frontEval [([121], some 1)]) true).2 = .deferred [120] ∧
    plainArg (.bin .add (.bin .mul (.bin .add (.const 2) (.const 3)) (.ident [121])) (.ident [120])) = true :=
  ⟨rfl, rfl⟩

/-- the class `plain` contains the usual operand shapes: `[r1 + 4 + x]`, `[r1 + x + 4]`, `[x + r1]`, `x - 2 * y` -/
example :
    plainArg (.addr (.bin .add (.bin .add (.ident [114, 49]) (.const 4)) (.ident [120]))) = true ∧
    plainArg (.addr (.bin .add (.bin .add (.ident [114, 49]) (.ident [120])) (.const 4))) = true ∧
    plainArg (.addr (.bin .add (.ident [120]) (.ident [114, 49]))) = true ∧
    plainArg (.bin .sub (.ident [120]) (.bin .mul (.const 2) (.ident [121]))) = true := ⟨rfl, rfl, rfl, rfl⟩

end Trion.Asm
