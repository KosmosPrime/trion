import TrionModel.Lemmas.C06DuDiag
import TrionModel.Lemmas.C06Stmt
import TrionModel.Lemmas.C06Run
import TrionModel.Props.C12Blame
/-!
# C06, third clause — the reported diagnostic WITH ITS KIND (statement anywhere, followed by anything)

`ReportedK fs main el K` (Lemmas/C06Run.lean): every finished run is not a success and has a diagnostic `d` in `main` at `el`'s
line and column WITH `K d.kind`.  `ReportedIn` is it without the kind: the theorems of Props/C06Then.lean are these followed
by `ReportedK.reportedIn`.

For an instruction statement `K` is `C04.InstrKind b` (Lemmas/C04Diag.lean), with `b` the outcome of the statement's first
attempt: the encoder's refusal `instrAssemble (asmEncode _)` of the completed instruction, or `frontKind fd` of the front
end's own diagnostic `fd`.

Hypotheses NOT discharged in general: `Asm.Table.NoDef tbl` (no pending `.global` / `.import` entry in the file's table — a
leading `.global main;` breaks it) and `tblI64 tbl` (every table value is an i64); both hold after `.addr A; .const …`
prefixes (`prefixOk_addr_defs`).  Only `invalid_instruction_kind` (through `no_meaning_fails`) and `invalid_du_kind`
(`NoDef`) use them; `invalid_instruction_of_kind` / `_count_kind` carry them unused.
-/
namespace Trion.C06
open Trion Trion.Asm Trion.Front Trion.C04

theorem ReportedK.reportedIn {fs : Bytes → Option Bytes} {main : Bytes} {el : Element} {K : Asm.Kind → Prop}
    (h : ReportedK fs main el K) : ReportedIn fs main el := fun o ho => by
  obtain ⟨h1, d, hd, h2, h3, h4, _⟩ := h o ho
  exact ⟨h1, d, hd, h2, h3, h4⟩

theorem reportedK_of {fs : Bytes → Option Bytes} {main : Bytes} {el : Element} {S : Asm.St} (h : AtAny fs main el S)
    {K : Asm.Kind → Prop}
    (hK : ∀ S1 r1, Asm.statement fs Asm.encoder (incOf fs) (envOf main) S el = .ok (S1, r1) →
      ∃ d ∈ S1.errors, d.file = main ∧ d.line = el.line ∧ d.col = el.col ∧ K d.kind) : ReportedK fs main el K := by
  obtain ⟨data, pre, post, perr, hfs, hR⟩ := h.reaches
  exact run_stmt_reportedP hfs hR hK

/-- C06k.1  the one-diagnostic classes: the diagnostic has exactly the kind `k` -/
theorem reportedK_of_push {fs : Bytes → Option Bytes} {main : Bytes} {el : Element} {S : Asm.St} (h : AtAny fs main el S)
    {k : Asm.Kind} {r : Asm.Res}
    (hel : Asm.statement fs Asm.encoder (incOf fs) (envOf main) S el = .ok (S.push (envOf main) el.line el.col k, r)) :
    ReportedK fs main el (· = k) :=
  reportedK_of h (fun S1 r1 hX => by
    rw [hel] at hX
    cases hX
    exact ⟨_, List.mem_cons_self, rfl, rfl, rfl, rfl⟩)

section
variable {fs : Bytes → Option Bytes} {main : Bytes} {S : Asm.St} {l c : Nat}

/-- C06k.2  an instruction statement (known mnemonic) that the front end does not complete to an encodable instruction -/
theorem invalid_instruction_of_kind {tbl : Asm.Table} (hl : S.locals = some tbl) (hnd : Asm.Table.NoDef tbl) (hi64 : tblI64 tbl)
    {map : Map.Segs} {seg : Seg.Active} {pending : List (Nat × Nat)} (hs : S.seg = ⟨map, some seg, pending⟩)
    {name : Bytes} {args : Args} {t : Instr} (hm : mnemonic name = some t)
    (htot : (∃ i, build seg.cur name args.toList (Asm.frontEval tbl) true = .completed i) ∨
      (∃ d st, build seg.cur name args.toList (Asm.frontEval tbl) true = .error d st))
    (henc0 : ∀ i hws, build seg.cur name args.toList (Asm.frontEval tbl) true = .completed i → Codec.encode i ≠ .ok hws)
    (h : AtAny fs main ⟨l, c, .instruction name args⟩ S) :
    ReportedK fs main ⟨l, c, .instruction name args⟩ (InstrKind (build seg.cur name args.toList (Asm.frontEval tbl) true)) := by
  refine reportedK_of h (fun S1 r1 hX => ?_)
  rw [statement_instr _ _ _ _ (by simp [hs])] at hX
  exact instr_diag_memK (envOf main) S tbl (by simp) hl map seg pending hs l c name args.toList t hm ⟨htot, henc0⟩ S1 r1 hX

/-- C06k.3  **wrong operand count, instructions**: exactly `TooManyArguments` / `NotEnoughArguments` with the two counts -/
theorem invalid_instruction_count_kind {tbl : Asm.Table} (hl : S.locals = some tbl) (hnd : Asm.Table.NoDef tbl)
    (hi64 : tblI64 tbl) {map : Map.Segs} {seg : Seg.Active} {pending : List (Nat × Nat)} (hs : S.seg = ⟨map, some seg, pending⟩)
    {name : Bytes} {args : Args} {t : Instr} (hm : mnemonic name = some t) (hn : args.toList.length ≠ (kinds t).length)
    (h : AtAny fs main ⟨l, c, .instruction name args⟩ S) :
    ReportedK fs main ⟨l, c, .instruction name args⟩ (· =
      if args.toList.length > (kinds t).length then .instrTooMany (kinds t).length args.toList.length
      else .instrNotEnough (kinds t).length args.toList.length) := by
  have hb := arity_rejected_proof seg.cur name args.toList (Asm.frontEval tbl) true t hm hn
  intro o ho
  have hf := arity_fails seg.cur name args.toList (Asm.frontEval tbl) true t hm hn
  obtain ⟨h1, d, hd, h2, h3, h4, hk⟩ := invalid_instruction_of_kind hl hnd hi64 hs hm hf.1 hf.2 h o ho
  refine ⟨h1, d, hd, h2, h3, h4, ?_⟩
  rw [hb] at hk
  rcases hk with ⟨i, e', hc, _⟩ | ⟨fd, st, hc, hk⟩
  · cases hc
  · simp only [BuildOut.error.injEq] at hc
    obtain ⟨rfl, _⟩ := hc
    rw [hk]
    split <;> rfl

/-- C06k.4  **wrong operand kind / out-of-range or misaligned value / overflow, instructions** -/
theorem invalid_instruction_kind {tbl : Asm.Table} (hl : S.locals = some tbl) (hnd : Asm.Table.NoDef tbl) (hi64 : tblI64 tbl)
    {map : Map.Segs} {seg : Seg.Active} {pending : List (Nat × Nat)} (hs : S.seg = ⟨map, some seg, pending⟩)
    {name : Bytes} {args : Args} {t : Instr} (hm : mnemonic name = some t)
    (hw : wellFormed (tabOf tbl) (sig t) args.toList)
    (hq : ∀ vs, denoteAll (tabOf tbl) (sig t) args.toList = some vs → ¬ svQuirk t vs)
    (hno : ∀ i hws, ¬ (means (tabOf tbl) seg.cur name args.toList = some i ∧ i.wf ∧ Codec.encode i = .ok hws))
    (h : AtAny fs main ⟨l, c, .instruction name args⟩ S) :
    ReportedK fs main ⟨l, c, .instruction name args⟩ (InstrKind (build seg.cur name args.toList (Asm.frontEval tbl) true)) := by
  have hf := no_meaning_fails hnd hi64 seg.cur name args.toList t hm hw hq hno
  exact invalid_instruction_of_kind hl hnd hi64 hs hm hf.1 hf.2 h

/-- an `InstrKind` is an instruction kind (`Asm.Kind.isInstr`, Props/C12Blame.lean) -/
theorem InstrKind.isInstr {b : BuildOut} {k : Asm.Kind} (h : InstrKind b k) : k.isInstr = true := by
  rcases h with ⟨_, _, _, rfl⟩ | ⟨fd, _, _, rfl⟩
  · rfl
  · cases fd <;> first | rfl | (rename_i e; cases e <;> first | rfl | (rename_i e2; cases e2 <;> rfl))

/-- C06k.5  **`.du8 / .du16 / .du32` with a value outside the type, or with a string**: the exact kind -/
theorem invalid_du_kind {tbl : Asm.Table} (hl : S.locals = some tbl) (hnd : Asm.Table.NoDef tbl) (hact : S.seg.active.isSome = true)
    (du : Asm.DU) (dn : Bytes) (hdn : dn = bytesOf du.name) {b : Arg}
    (hb : (∃ v, value (tabOf tbl) b = some v ∧ ¬ (0 ≤ v ∧ v ≤ du.max)) ∨ (∃ s, b = .str s))
    (h : AtAny fs main ⟨l, c, .directive dn (Args.ofList [b])⟩ S) :
    ReportedK fs main ⟨l, c, .directive dn (Args.ofList [b])⟩ (fun k =>
      (∃ v, value (tabOf tbl) b = some v ∧ k = .dirApply du.name (.dataRange 0 du.max v)) ∨
      (∃ s, b = .str s ∧ k = .dirArgType du.name 0 .const .str)) := by
  refine reportedK_of h (fun S1 r1 hX => ?_)
  rw [statement_du _ _ _ _ _ _ _ du hdn] at hX
  rcases hb with ⟨v, hv, hr⟩ | ⟨s, rfl⟩
  · obtain ⟨d, hd, h1, h2, h3, hk⟩ := du_diag_memK du (envOf main) S l c b (.const v) hact
      (evalArg_value (env := envOf main) (by simp) hl hnd hv) (fun w hw => by cases hw; exact hr) S1 r1 hX
    exact ⟨d, hd, h1, h2, h3, .inl ⟨v, hv, hk⟩⟩
  · obtain ⟨d, hd, h1, h2, h3, hk⟩ := du_diag_memK du (envOf main) S l c (.str s) (.str s) hact
      (evalArg_str (env := envOf main) (by simp) hl s) (fun w hw => by cases hw) S1 r1 hX
    exact ⟨d, hd, h1, h2, h3, .inr ⟨s, rfl, hk⟩⟩

end

end Trion.C06
