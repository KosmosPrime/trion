import TrionModel.Model.Syntax
/-!
# Specification of source positions (Layer A, import-free apart from the shared types)

A position is `(line, column)`, both 1-based. The line is one more than the number of line feeds in the
text that precedes the item; the column is one more than the number of Unicode scalar values since the
last line feed. In UTF-8 a scalar value is one non-continuation byte (`10xxxxxx` bytes continue one).
-/
namespace Trion.Pos

/-- UTF-8 continuation byte `10xxxxxx` -/
def isCont (b : UInt8) : Bool := decide (128 ≤ b.toNat) && decide (b.toNat < 192)

/-- number of line feeds -/
def countLF (d : Bytes) : Nat := (d.filter fun b => b.toNat == 10).length

/-- number of Unicode scalar values (= non-continuation bytes) -/
def scalars (d : Bytes) : Nat := (d.filter fun b => !isCont b).length

/-- the text after the last line feed (everything when there is none); characterised by
`Trion.Pos.lastLine_spec` in `Props/C12.lean` -/
def lastLine : Bytes → Bytes
  | [] => []
  | b :: d => if countLF d > 0 then lastLine d else if b.toNat == 10 then d else b :: d

/-- position of the item that follows the text `pre` -/
def of (pre : Bytes) : Nat × Nat := (1 + countLF pre, 1 + scalars (lastLine pre))

/-- the same, one byte at a time (used for composition; equal to `of`: `Pos.of_eq_adv`, `Lemmas/LexPos.lean`) -/
def step (p : Nat × Nat) (b : UInt8) : Nat × Nat :=
  if b.toNat == 10 then (p.1 + 1, 1) else if isCont b then p else (p.1, p.2 + 1)

/-- position after reading `d` starting at position `p` -/
def adv (p : Nat × Nat) (d : Bytes) : Nat × Nat := d.foldl step p

end Trion.Pos
