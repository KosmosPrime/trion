import TrionModel.Model.Front
import TrionModel.Model.Simp
import TrionModel.Spec.Front
/-!
# What an instruction statement MEANS (Layer A specification for C04, import-free)

Written from the property text, independent of how `ArmInstr::assemble` is organised (no getters, no
`args_done`, no evaluator, no stores into a template):

* `value T e` — an integer operand is a *constant expression*: integer literals, names of constants/labels
  (looked up in the symbol table `T`), the ten binary operators, unary `-` and `!`; its value is computed by
  exact integer arithmetic with the signed-64-bit overflow rule (`Simp.valC`, tied to the arithmetic
  specification `Arith.eval` by C07): no value as soon as a literal, a looked-up value or an intermediate
  result leaves `[-2^63, 2^63)`, a divisor is zero, or a shift count is outside `0..63`.  A register name has
  no value.
* `denote T k a` — what the operand tree `a` means in an operand slot of kind `k`:
  a register by name in any letter case with the aliases `SP`/`LR`/`PC` (`Front.names`, C04.b), a system
  register by name, an option name (kept as written), a register list `{…}`, an integer, a register-or-integer,
  and a memory operand `[Rn]`, `[Rn + Rm]`, `[Rn + e]`, `[e + Rn]`.
* `sig t` — the operand slots of a mnemonic (given by its template `t`, `Front.mnemonic`).
* `meaning A t vs` — the instruction the mnemonic denotes at address `A` with operand values `vs`:
  PC-relative operands are `target − (A + 4)`, for `ADR` and literal `LDR` `target − (align4 A + 4)`; a target
  must be an address (`0 … 2^32 − 1`).
* `means T A name args` — all of it: mnemonic lookup, operand count, operand meanings, instruction.
* that `i` is encodable — the ARMv6-M table has an encoding of exactly `i` — is not a definition here: Props state it as
  `Codec.encode i = .ok hws` and `Arm.decode hws = some i`.

Everything here is executable (`example`s in `Props/C04Closed.lean`).
-/
namespace Trion.C04
open Trion Trion.Front

/-- the symbol table: value of every defined constant / label -/
abbrev SymTable := Bytes → Option Int

/-- a register name (of either register file) is never a constant -/
def env (T : SymTable) : Simp.Env := fun s => if isRegister s then none else T s

/-- value of a constant expression: exact arithmetic, signed-64-bit overflow rule -/
def value (T : SymTable) (e : Arg) : Option Int := Simp.valC (env T) e

/-- `x` is (syntactically) a register-free arithmetic expression -/
def expr : Arg → Bool
  | .const _ => true
  | .ident s => !isRegister s
  | .bin _ l r => expr l && expr r
  | .neg a => expr a
  | .not a => expr a
  | _ => false

/-- the tree is the name of a register (general purpose or system) -/
def regIdent : Arg → Bool
  | .ident s => isRegister s
  | _ => false

/-- meaning of what stands between `[` and `]` -/
def mem (T : SymTable) : Arg → Option (Reg × ImmReg)
  | .ident b => (regl b).map fun r => (r, .imm 0)                               -- [Rn]
  | .bin .add (.ident b) (.ident o) =>
    if isRegister b then
      if isRegister o then                                                        -- [Rn + Rm]
        match regl b, regl o with
        | some rb, some ro => some (rb, .reg ro)
        | _, _ => none
      else match regl b, value T (.ident o) with                                  -- [Rn + name]
        | some rb, some v => some (rb, .imm v)
        | _, _ => none
    else if isRegister o then
      match value T (.ident b), regl o with                                       -- [name + Rn]
      | some v, some ro => some (ro, .imm v)
      | _, _ => none
    else none
  | .bin .add (.ident b) e =>                                                     -- [Rn + e]
    if isRegister b then
      match regl b, value T e with
      | some rb, some v => some (rb, .imm v)
      | _, _ => none
    else none
  | .bin .add e (.ident b) =>                                                     -- [e + Rn]
    if isRegister b then
      match value T e, regl b with
      | some v, some rb => some (rb, .imm v)
      | _, _ => none
    else none
  | _ => none

/-- the set `{items}`: start from `acc`, add every item — each must be a register name — with `RegisterSet::add`
(`Front.addBit`: a register listed twice counts once) -/
def regList : List Arg → RegSet → Option RegSet
  | [], acc => some acc
  | .ident s :: rest, acc =>
    match regl s with
    | some r => regList rest (addBit acc r)
    | none => none
  | _ :: _, _ => none

/-- the value of an operand: the same type the front end's getters produce (`Front.Val`), read as
`imm`/`off` = integer, `reg`, `sys`, `ident` = option name, `immReg` = register-or-integer, `regSet`,
`address base (some offset)` -/
abbrev OperandValue := Front.Val

/-- what operand tree `a` means in a slot of kind `k` -/
def denote (T : SymTable) (k : Kind) (a : Arg) : Option OperandValue :=
  match k with
  | .register => match a with | .ident s => (regl s).map .reg | _ => none
  | .systemReg => match a with | .ident s => (sysl s).map .sys | _ => none
  | .identifier => match a with | .ident s => some (.ident s) | _ => none
  | .regSet => match a with | .seq items => (regList items.toList 0).map .regSet | _ => none
  | .immediate => (value T a).map .imm
  | .offset => (value T a).map .off
  | .immReg =>
    match a with
    | .ident s => if isRegister s then (regl s).map fun r => .immReg (.reg r) else (value T a).map fun v => .immReg (.imm v)
    | _ => (value T a).map fun v => .immReg (.imm v)
  | .address => match a with | .addr x => (mem T x).map fun p => .address p.1 (some p.2) | _ => none
  | .addrOffset =>
    match a with
    | .addr x => (mem T x).map fun p => .address p.1 (some p.2)
    | _ => (value T a).map .off

/-- the operand slots of a mnemonic (by its template) -/
def sig : Instr → List Kind
  | .adc .. | .and .. | .bic .. | .cmn .. | .eor .. | .mul .. | .mvn .. | .orr .. | .rev .. | .rev16 ..
  | .revsh .. | .ror .. | .sbc .. | .sxtb .. | .sxth .. | .tst .. | .uxtb .. | .uxth .. => [.register, .register]
  | .add .. | .sub .. | .asr .. | .lsl .. | .lsr .. => [.register, .register, .immReg]
  | .adr .. => [.register, .offset]
  | .b .. | .bl .. | .bkpt .. => [.offset]
  | .blx .. | .bx .. => [.register]
  | .cmp .. | .mov .. => [.register, .immReg]
  | .cps .. | .dmb | .dsb | .isb => [.identifier]
  | .ldm .. | .stm .. => [.register, .regSet]
  | .ldr .. => [.register, .addrOffset]
  | .ldrb .. | .ldrh .. | .ldrsb .. | .ldrsh .. | .str .. | .strb .. | .strh .. => [.register, .address]
  | .mrs .. => [.register, .systemReg]
  | .msr .. => [.systemReg, .register]
  | .nop | .sev | .wfe | .wfi | .yield => []
  | .pop .. | .push .. => [.regSet]
  | .rsb .. => [.register, .register, .immediate]
  | .svc .. | .udf .. | .udfw .. => [.immediate]

/-- the operands one by one; `none` when the counts differ or an operand has no meaning in its slot -/
def denoteAll (T : SymTable) : List Kind → List Arg → Option (List OperandValue)
  | [], [] => some []
  | k :: ks, a :: as =>
    match denote T k a, denoteAll T ks as with
    | some v, some vs => some (v :: vs)
    | _, _ => none
  | _, _ => none

/-- the PC value an instruction at `A` sees -/
def pc (A : Nat) : Int := (A : Int) + 4
/-- … word-aligned first (`ADR`, literal `LDR`) -/
def pcAligned (A : Nat) : Int := (A / 4 * 4 : Nat) + 4

/-- a branch / literal target is an address -/
def isAddress (t : Int) : Prop := 0 ≤ t ∧ t ≤ 4294967295
instance (t : Int) : Decidable (isAddress t) := by unfold isAddress; infer_instance

/-- the only barrier option of ARMv6-M -/
def isSY (s : Bytes) : Prop := upper s = bytesOf "SY"
instance (s : Bytes) : Decidable (isSY s) := by unfold isSY; infer_instance

/-- the instruction a mnemonic (template `t`: the mnemonic fixes the constructor, the flags bit, the condition,
the enable bit) denotes at address `A` with operand values `vs` -/
def meaning (A : Nat) : Instr → List OperandValue → Option Instr
  | .adc .., [.reg d, .reg r] => some (.adc d r)
  | .add f .., [.reg d, .reg l, .immReg x] => some (.add f d l x)
  | .adr .., [.reg d, .off t] => if isAddress t then some (.adr d (t - pcAligned A)) else none
  | .and .., [.reg d, .reg r] => some (.and d r)
  | .asr .., [.reg d, .reg l, .immReg x] => some (.asr d l x)
  | .b c _, [.off t] => if isAddress t then some (.b c (t - pc A)) else none
  | .bic .., [.reg d, .reg r] => some (.bic d r)
  | .bkpt _, [.off v] => some (.bkpt v)
  | .bl _, [.off t] => if isAddress t then some (.bl (t - pc A)) else none
  | .blx _, [.reg r] => some (.blx r)
  | .bx _, [.reg r] => some (.bx r)
  | .cmn .., [.reg d, .reg r] => some (.cmn d r)
  | .cmp .., [.reg d, .immReg x] => some (.cmp d x)
  | .cps e, [.ident o] => if upper o = bytesOf "I" then some (.cps e) else none
  | .dmb, [.ident o] => if isSY o then some .dmb else none
  | .dsb, [.ident o] => if isSY o then some .dsb else none
  | .eor .., [.reg d, .reg r] => some (.eor d r)
  | .isb, [.ident o] => if isSY o then some .isb else none
  | .ldm .., [.reg a, .regSet rs] => some (.ldm a rs)
  | .ldr .., [.reg d, .address a (some o)] => some (.ldr d a o)
  | .ldr .., [.reg d, .off t] => if isAddress t then some (.ldr d Reg.pc (.imm (t - pcAligned A))) else none
  | .ldrb .., [.reg d, .address a (some o)] => some (.ldrb d a o)
  | .ldrh .., [.reg d, .address a (some o)] => some (.ldrh d a o)
  | .ldrsb .., [.reg d, .address a (some (.reg r))] => some (.ldrsb d a r)
  | .ldrsh .., [.reg d, .address a (some (.reg r))] => some (.ldrsh d a r)
  | .lsl .., [.reg d, .reg l, .immReg x] => some (.lsl d l x)
  | .lsr .., [.reg d, .reg l, .immReg x] => some (.lsr d l x)
  | .mov f .., [.reg d, .immReg x] => some (.mov f d x)
  | .mrs .., [.reg d, .sys s] => some (.mrs d s)
  | .msr .., [.sys s, .reg r] => some (.msr s r)
  | .mul .., [.reg d, .reg r] => some (.mul d r)
  | .mvn .., [.reg d, .reg r] => some (.mvn d r)
  | .nop, [] => some .nop
  | .orr .., [.reg d, .reg r] => some (.orr d r)
  | .pop _, [.regSet rs] => some (.pop rs)
  | .push _, [.regSet rs] => some (.push rs)
  | .rev .., [.reg d, .reg r] => some (.rev d r)
  | .rev16 .., [.reg d, .reg r] => some (.rev16 d r)
  | .revsh .., [.reg d, .reg r] => some (.revsh d r)
  | .ror .., [.reg d, .reg r] => some (.ror d r)
  | .rsb .., [.reg d, .reg l, .imm z] => if z = 0 then some (.rsb d l) else none       -- `RSBS Rd, Rn, 0`
  | .sbc .., [.reg d, .reg r] => some (.sbc d r)
  | .sev, [] => some .sev
  | .stm .., [.reg a, .regSet rs] => some (.stm a rs)
  | .str .., [.reg d, .address a (some o)] => some (.str d a o)
  | .strb .., [.reg d, .address a (some o)] => some (.strb d a o)
  | .strh .., [.reg d, .address a (some o)] => some (.strh d a o)
  | .sub f .., [.reg d, .reg l, .immReg x] => some (.sub f d l x)
  | .svc _, [.imm v] => some (.svc v)
  | .sxtb .., [.reg d, .reg r] => some (.sxtb d r)
  | .sxth .., [.reg d, .reg r] => some (.sxth d r)
  | .tst .., [.reg d, .reg r] => some (.tst d r)
  | .udf _, [.imm v] => some (.udf v)
  | .udfw _, [.imm v] => some (.udfw v)
  | .uxtb .., [.reg d, .reg r] => some (.uxtb d r)
  | .uxth .., [.reg d, .reg r] => some (.uxth d r)
  | .wfe, [] => some .wfe
  | .wfi, [] => some .wfi
  | .yield, [] => some .yield
  | _, _ => none

/-- **the meaning of the statement `name args` at address `A` under the symbol table `T`** -/
def means (T : SymTable) (A : Nat) (name : Bytes) (args : List Arg) : Option Instr :=
  match mnemonic name with
  | none => none
  | some t =>
    match denoteAll T (sig t) args with
    | none => none
    | some vs => meaning A t vs

/-! ## the statements the theorem speaks about -/

mutual
/-- every name the tree mentions is a register name or is defined in `T` -/
def valued (T : SymTable) : Arg → Bool
  | .const _ | .str _ => true
  | .ident s => isRegister s || (T s).isSome
  | .bin _ l r => valued T l && valued T r
  | .neg a | .not a | .addr a => valued T a
  | .seq as | .func _ as => valuedArgs T as
def valuedArgs (T : SymTable) : Args → Bool
  | .nil => true
  | .cons a as => valued T a && valuedArgs T as
end

mutual
/-- every integer literal of the tree is a signed 64-bit number (all the tokenizer produces) -/
def lits : Arg → Bool
  | .const v => inI64 v
  | .ident _ | .str _ => true
  | .bin _ l r => lits l && lits r
  | .neg a | .not a | .addr a => lits a
  | .seq as | .func _ as => litsArgs as
def litsArgs : Args → Bool
  | .nil => true
  | .cons a as => lits a && litsArgs as
end

/-- what may stand between `[` and `]` in the documented syntax: `Rn`, `Rn + Rm`, `Rn + e`, `e + Rn`
(`e` a register-free expression) — or a register-free expression (which is then diagnosed) -/
def docMem : Arg → Bool
  | .ident _ => true
  | .bin .add l r => (regIdent l || expr l) && (regIdent r || expr r)
  | x => expr x

/-- an operand of the documented syntax: a register-free expression, a name, `[…]` as above, a string, `{…}`
(anything that is not an arithmetic mixture of register names and numbers such as `R1 + 0`) -/
def doc : Arg → Bool
  | .bin op l r => expr (.bin op l r)
  | .neg a => expr (.neg a)
  | .not a => expr (.not a)
  | .addr x => docMem x
  | _ => true

/-- the slot evaluates its operand (the others read a name / a list as written) -/
def evaluated : Kind → Bool
  | .immediate | .immReg | .address | .offset | .addrOffset => true
  | _ => false

/-- the operands that are evaluated are documented operand forms over defined names -/
def wellFormed (T : SymTable) : List Kind → List Arg → Prop
  | k :: ks, a :: as => (evaluated k = true → valued T a = true ∧ lits a = true ∧ doc a = true) ∧ wellFormed T ks as
  | _, _ => True

/-- every value in the table is a signed 64-bit number, and register names are not defined -/
def tableOk (T : SymTable) : Prop := ∀ s v, T s = some v → inI64 v = true ∧ isRegister s = false

/-! ## The documented names, written out (independent of the model's tables)

The operand and mnemonic lookups above go through the model's `Front.regl` / `Front.sysl` / `Front.mnemonic`.  These lists are
the names as a reader of the ARMv6-M manual and of the assembler's documentation would write them down; `Props/C04Names.lean`
proves (by evaluation) that the model's tables are exactly these lists. -/

/-- general-purpose register names and numbers, with the three aliases -/
def docRegisters : List (String × Nat) :=
  [("R0", 0), ("R1", 1), ("R2", 2), ("R3", 3), ("R4", 4), ("R5", 5), ("R6", 6), ("R7", 7), ("R8", 8), ("R9", 9),
   ("R10", 10), ("R11", 11), ("R12", 12), ("R13", 13), ("SP", 13), ("R14", 14), ("LR", 14), ("R15", 15), ("PC", 15)]

/-- special registers of MRS/MSR with their SYSm numbers (ARMv6-M ARM, B5.1) -/
def docSysRegisters : List (String × Nat) :=
  [("APSR", 0), ("IAPSR", 1), ("EAPSR", 2), ("XPSR", 3), ("IPSR", 5), ("EPSR", 6), ("IEPSR", 7), ("MSP", 8), ("PSP", 9),
   ("PRIMASK", 16), ("CONTROL", 20)]

/-- the mnemonics the assembler knows (alphabetical, as documented) -/
def docMnemonics : List String :=
  ["ADCS", "ADD", "ADDS", "ADR", "ANDS", "ASRS", "B", "BCC", "BCS", "BEQ", "BGE", "BGT", "BHI", "BHS", "BIC", "BICS", "BKPT",
   "BL", "BLE", "BLO", "BLS", "BLT", "BLX", "BMI", "BNE", "BPL", "BVC", "BVS", "BX", "CMN", "CMP", "CPSID", "CPSIE", "DMB",
   "DSB", "EORS", "ISB", "LDM", "LDR", "LDRB", "LDRH", "LDRSB", "LDRSH", "LSLS", "LSRS", "MOV", "MOVS", "MRS", "MSR", "MULS",
   "MVNS", "NOP", "ORRS", "POP", "PUSH", "REV", "REV16", "REVSH", "RORS", "RSBS", "SBCS", "SEV", "STM", "STR", "STRB", "STRH",
   "SUB", "SUBS", "SVC", "SXTB", "SXTH", "TST", "UDF.N", "UDF.W", "UXTB", "UXTH", "WFE", "WFI", "YIELD"]

/-- conditional branches and their condition numbers (ARMv6-M ARM, A6.3), `B` = always (14) -/
def docBranches : List (String × Nat) :=
  [("BEQ", 0), ("BNE", 1), ("BCS", 2), ("BHS", 2), ("BCC", 3), ("BLO", 3), ("BMI", 4), ("BPL", 5), ("BVS", 6), ("BVC", 7),
   ("BHI", 8), ("BLS", 9), ("BGE", 10), ("BLT", 11), ("BGT", 12), ("BLE", 13), ("B", 14)]

end Trion.C04
