import TrionModel.Model.Layout
/-!
# Specification-level notions for C05 (Layer A): the reference cursor along a program

`Ref.next c s` is the reference cursor after statement `s` (what `Ref.pass1` does to its cursor),
`Ref.trace c p` pairs every statement of `p` with the reference cursor in front of it,
`Ref.cursorAfter c p` is the cursor behind `p`, `Ref.bytes c s` the bytes `Ref.pass2` puts for `s` at `c`.

The one side condition of the C05 theorems is stated with them:
* `NoLabelAtTop p`: no label is defined where the reference cursor is 2^32 (or beyond) — there `Ref.pass1`
  is undefined (no byte can follow), while the implementation gives the label the saturated value 0xFFFFFFFF.
(`.align` needs no such condition: it computes its padding from the true cursor, not the saturated one.)
-/
namespace Trion.Layout
namespace Ref

/-- the reference cursor after statement `s` -/
def next (c : Option Nat) : Stmt → Option Nat
  | .addr a => some a
  | .label _ => c
  | .const _ _ _ => c
  | .align n => c.map fun x => x + size x (.align n)
  | .raw bs => c.map fun x => x + bs.length
  | .emit len _ _ => c.map fun x => x + len

/-- every statement with the reference cursor in front of it -/
def trace (c : Option Nat) : List Stmt → List (Option Nat × Stmt)
  | [] => []
  | s :: r => (c, s) :: trace (next c s) r

/-- the reference cursor behind `p` -/
def cursorAfter (c : Option Nat) : List Stmt → Option Nat
  | [] => c
  | s :: r => cursorAfter (next c s) r

/-- the bytes `pass2` puts for statement `s` at cursor `c` -/
def bytes (c : Nat) : Stmt → Bytes
  | .raw bs => bs
  | .emit _ _ final => final
  | .align n => placeholder (size c (.align n))
  | _ => []

end Ref

/-- no label is defined where the reference cursor is 2^32 or beyond -/
def NoLabelAtTop (p : List Stmt) : Prop :=
  ∀ c n, (some c, Stmt.label n) ∈ Ref.trace none p → c < top

end Trion.Layout
