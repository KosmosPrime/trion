import TrionModel.Model.Syntax
/-!
# Model of constant scoping (Layer B, import-free apart from the shared syntax types)

Mirrors, branch by branch,

* `Context::{assemble, get_constant, insert_constant, defer_constant, add_task, finalize}` and
  `PathFrame::into_inner` of `src/asm/mod.rs` — the `mem::replace` swaps of `locals`/`globals` and of
  `local_tasks`/`global_tasks` on entering and leaving a file, the end-of-file task loop;
* `.global` / `.import` / `.export` of `src/asm/directive/global.rs` (including the closure that `.global`
  schedules), `.const` of `constant.rs` (with a literal value), a label of `do_assemble`;
* `.du32 <name>` of `data.rs` (`DataExpr::apply` / `schedule`: immediate evaluation, local retry at the end of
  the file, one more retry in the includer / `finalize`) with the realm choice of `simplify/eval.rs`
  (`Local` while a file is current);
* `.include` of `include.rs` (any error of the child is `AssemblyFailed`, fatal in the includer).

The Rust state is modelled literally: `globals`, `locals : Option`, `global_tasks`, `local_tasks : Option`
and the stack of `PathFrame`s (`frames`).  That the literal swaps implement a *stack of tables* is a theorem
(`Props/C14.lean`, `swap_balanced_enter` / `_roundtrip` / `_exit`), not a modelling decision.

Conventions
* a project is flattened into an op sequence `enter … exit … finalize`; after a statement of a file failed,
  `do_assemble` has returned and the remaining ops of that file (including nested `enter … exit` pairs) are
  skipped: `Mode.stopped lvl nest`;
* every statement carries a `tag` (the harness maps tags to file + line); closures are data (`Task`);
* `HashMap` = association list; the log (`errors` of the context and the values written by `.du32`) is part
  of the state, newest first;
* the output segment is not modelled (C13): a `.du32` statement always has an active region with room.
-/
namespace Trion.Scope

/-- logic-level panic sites -/
inductive Panic where
  | noLocalScope      -- `panic!("no local scope")`
  | unwrapNone        -- `Option::unwrap` / `Result::unwrap`
  | assertFailed      -- `assert!` / `assert_eq!`
  | unreachable       -- `unreachable!`
  | fuel              -- the model's loop bound was too small (never: theorem)
deriving DecidableEq, Repr, Inhabited

/-- `ErrorLevel` -/
inductive Level where
  | trivial | fatal
deriving DecidableEq, Repr, Inhabited

def Level.shouldAbort : Level → Bool
  | .fatal => true
  | .trivial => false

/-- `Ord::max` on `ErrorLevel` -/
def Level.max : Level → Level → Level
  | .fatal, _ => .fatal
  | _, .fatal => .fatal
  | _, _ => .trivial

/-- `Realm` -/
inductive Realm where
  | global | loc
deriving DecidableEq, Repr, Inhabited

/-- diagnostics by message class -/
inductive Kind where
  | reserved      -- "reserved name"
  | dupGlobal     -- "duplicate global constant"
  | dupLocal      -- "duplicate local constant"
  | dupConst      -- "duplicate constant"            (`ConstError::Duplicate`)
  | nfGlobal      -- "no such global constant"
  | nfLocal       -- "no such local constant"
  | defGlobal     -- "declared global constant … is deferred"
  | defLocal      -- "declared local constant … is deferred"
  | range         -- "constant out of range"
  | argType       -- "invalid argument #1"
  | asmFailed     -- "assembly of … failed"
deriving DecidableEq, Repr, Inhabited

/-- what the run leaves behind: diagnostics (`Context::errors`), values written by `.du32`
(`stage` 0 = immediately, 1 = local task, 2 = global task), and the result of `finalize` -/
inductive Ev where
  | value (tag : Nat) (v : Int) (stage : Nat)
  | diag (tag : Nat) (k : Kind)
  | done (ok : Bool)
deriving DecidableEq, Repr, Inhabited

def Ev.isDiag : Ev → Bool
  | .diag _ _ => true
  | _ => false

/-- `HashMap<String, Option<i64>>` -/
abbrev Table := List (Bytes × Option Int)

/-- `HashMap::get` -/
def Table.find : Table → Bytes → Option (Option Int)
  | [], _ => none
  | (k, v) :: t, n => if k = n then some v else Table.find t n

/-- `HashMap::insert` (also the in-place `*dst = …`) -/
def Table.set : Table → Bytes → Option Int → Table
  | [], n, v => [(n, v)]
  | (k, w) :: t, n, v => if k = n then (k, v) :: t else (k, w) :: Table.set t n v

/-- `Lookup` -/
inductive Lookup where
  | notFound | deferred | found (v : Int)
deriving DecidableEq, Repr, Inhabited

def Table.get (t : Table) (n : Bytes) : Lookup :=
  match t.find n with
  | none => .notFound
  | some none => .deferred
  | some (some v) => .found v

/-- ASCII upper-casing of one byte (`make_ascii_uppercase`) -/
def upper (b : UInt8) : UInt8 := if 97 ≤ b.toNat ∧ b.toNat ≤ 122 then (b.toNat - 32).toUInt8 else b

def regNames : List Bytes :=
  ["R0", "R1", "R2", "R3", "R4", "R5", "R6", "R7", "R8", "R9", "R10", "R11", "R12", "R13", "SP", "R14", "LR",
   "R15", "PC", "APSR", "IAPSR", "EAPSR", "XPSR", "IPSR", "EPSR", "IEPSR", "MSP", "PSP", "PRIMASK",
   "CONTROL"].map bytesOf

/-- `Arm6M::is_register` -/
def isReg (n : Bytes) : Bool := decide (n.length ≤ 8) && regNames.contains (n.map upper)

/-- the closures handed to `add_task` -/
inductive Task where
  /-- the closure scheduled by `.global` -/
  | globalCopy (n : Bytes) (tag : Nat)
  /-- `DataExpr::schedule(global)`; `cached` = the argument was already replaced by its value -/
  | use (n : Bytes) (cached : Option Int) (tag : Nat) (global : Bool)
deriving DecidableEq, Repr, Inhabited

/-- `PathFrame` (+ the tag of the `.include` statement that opened the file) -/
structure Saved where
  count : Nat
  constants : Option Table
  tasks : Option (List Task)
  tag : Nat
deriving Repr, Inhabited

/-- `running`: `do_assemble` of the current file is consuming statements;
`stopped lvl nest`: it has returned `Err(lvl)`; `nest` counts skipped `enter`s -/
inductive Mode where
  | running
  | stopped (lvl : Level) (nest : Nat)
deriving DecidableEq, Repr, Inhabited

structure State where
  depth : Nat                          -- `path_stack.len()`
  globals : Table
  locals : Option Table
  globalTasks : List Task
  localTasks : Option (List Task)
  frames : List Saved                  -- live `PathFrame`s, innermost first
  mode : Mode
  log : List Ev                        -- newest first
deriving Repr, Inhabited

/-- `Context::new` -/
def init : State :=
  { depth := 0, globals := [], locals := none, globalTasks := [], localTasks := none, frames := [],
    mode := .running, log := [] }

/-- `push_error` -/
def State.err (s : State) (tag : Nat) (k : Kind) : State := { s with log := .diag tag k :: s.log }

/-- `has_errored` -/
def State.hasErrored (s : State) : Bool := s.log.any Ev.isDiag

/-- `has_curr_file` -/
def State.hasCurrFile (s : State) : Bool := decide (s.depth ≠ 0)

/-- `Context::get_constant` -/
def getConstant (s : State) (n : Bytes) : Realm → Except Panic Lookup
  | .global => .ok (s.globals.get n)
  | .loc =>
    match s.locals with
    | none => .error .noLocalScope
    | some l => .ok (l.get n)

/-- `ConstantError` as far as the table functions produce it -/
inductive CErr where
  | reserved
  | duplicate (r : Realm)
deriving DecidableEq, Repr, Inhabited

/-- `Context::insert_constant` -/
def insertConstant (s : State) (n : Bytes) (v : Int) (r : Realm) : Except Panic (State × Except CErr Bool) :=
  if isReg n then .ok (s, .error .reserved) else
  match r with
  | .global =>
    match s.globals.find n with
    | none => .ok ({ s with globals := s.globals.set n (some v) }, .ok true)
    | some none => .ok ({ s with globals := s.globals.set n (some v) }, .ok false)
    | some (some _) => .ok (s, .error (.duplicate .global))
  | .loc =>
    match s.locals with
    | none => .error .noLocalScope
    | some l =>
      match l.find n with
      | none => .ok ({ s with locals := some (l.set n (some v)) }, .ok true)
      | some none => .ok ({ s with locals := some (l.set n (some v)) }, .ok false)
      | some (some _) => .ok (s, .error (.duplicate .loc))

/-- `Context::defer_constant` -/
def deferConstant (s : State) (n : Bytes) (r : Realm) : Except Panic (State × Except CErr Unit) :=
  if isReg n then .ok (s, .error .reserved) else
  match r with
  | .global =>
    match s.globals.find n with
    | some _ => .ok (s, .error (.duplicate .global))
    | none => .ok ({ s with globals := s.globals.set n none }, .ok ())
  | .loc =>
    match s.locals with
    | none => .error .noLocalScope
    | some l =>
      match l.find n with
      | some _ => .ok (s, .error (.duplicate .loc))
      | none => .ok ({ s with locals := some (l.set n none) }, .ok ())

/-- `Context::add_task` -/
def addTask (s : State) (t : Task) : Realm → Except Panic State
  | .global => .ok { s with globalTasks := s.globalTasks ++ [t] }
  | .loc =>
    match s.localTasks with
    | none => .error .noLocalScope
    | some l => .ok { s with localTasks := some (l ++ [t]) }

def dupKind : Realm → Kind
  | .global => .dupGlobal
  | .loc => .dupLocal

def nfKind : Realm → Kind
  | .global => .nfGlobal
  | .loc => .nfLocal

def defKind : Realm → Kind
  | .global => .defGlobal
  | .loc => .defLocal

/-- `Result<(), ErrorLevel>` of a statement or task together with the new state -/
abbrev Res := Except Panic (State × Option Level)

/-- a label (`do_assemble`, `ElementValue::Label`) -/
def doLabel (s : State) (n : Bytes) (v : Int) (tag : Nat) : Res :=
  match insertConstant s n v .loc with
  | .error p => .error p
  | .ok (s, .ok _) => .ok (s, none)
  | .ok (s, .error .reserved) => .ok (s.err tag .reserved, some .fatal)
  | .ok (s, .error (.duplicate r)) => .ok (s.err tag (dupKind r), some .fatal)

/-- `.const n, <literal>` -/
def doConst (s : State) (n : Bytes) (v : Int) (tag : Nat) : Res :=
  match insertConstant s n v .loc with
  | .error p => .error p
  | .ok (s, .ok _) => .ok (s, none)
  | .ok (s, .error (.duplicate _)) => .ok (s.err tag .dupConst, some .fatal)
  | .ok (s, .error .reserved) => .ok (s.err tag .reserved, some .fatal)

/-- the closure scheduled by `.global` -/
def runGlobalCopy (s : State) (n : Bytes) (tag : Nat) : Res :=
  match getConstant s n .loc with
  | .error p => .error p
  | .ok .notFound => .ok (s.err tag .nfLocal, some .trivial)
  | .ok .deferred => .ok (s.err tag .defLocal, some .trivial)
  | .ok (.found v) =>
    match insertConstant s n v .global with
    | .error p => .error p
    | .ok (s, .ok _) => .ok (s, none)
    | .ok (s, .error (.duplicate r)) => .ok (s.err tag (dupKind r), some .trivial)
    | .ok (_, .error .reserved) => .error .unreachable

/-- `.global n` -/
def doGlobal (s : State) (n : Bytes) (tag : Nat) : Res :=
  match deferConstant s n .global with
  | .error p => .error p
  | .ok (s, .error (.duplicate r)) => .ok (s.err tag (dupKind r), some .fatal)
  | .ok (s, .error .reserved) => .ok (s.err tag .reserved, some .fatal)
  | .ok (s, .ok ()) =>
    match getConstant s n .loc with
    | .error p => .error p
    | .ok (.found v) =>
      -- `assert!(!ctx.insert_constant(name, v, Realm::Global).unwrap())`
      match insertConstant s n v .global with
      | .error p => .error p
      | .ok (_, .error _) => .error .unwrapNone
      | .ok (_, .ok true) => .error .assertFailed
      | .ok (s, .ok false) => .ok (s, none)
    | .ok .notFound =>
      -- `ctx.defer_constant(name, Realm::Local).unwrap()`
      match deferConstant s n .loc with
      | .error p => .error p
      | .ok (_, .error _) => .error .unwrapNone
      | .ok (s, .ok ()) =>
        match addTask s (.globalCopy n tag) .loc with
        | .error p => .error p
        | .ok s => .ok (s, none)
    | .ok .deferred =>
      match addTask s (.globalCopy n tag) .loc with
      | .error p => .error p
      | .ok s => .ok (s, none)

/-- `.import n` -/
def doImport (s : State) (n : Bytes) (tag : Nat) : Res :=
  match getConstant s n .global with
  | .error p => .error p
  | .ok .notFound => .ok (s.err tag .nfGlobal, some .fatal)
  | .ok .deferred =>
    match deferConstant s n .loc with
    | .error p => .error p
    | .ok (s, .ok ()) => .ok (s, none)
    | .ok (s, .error (.duplicate r)) => .ok (s.err tag (dupKind r), some .fatal)
    | .ok (_, .error .reserved) => .error .unreachable
  | .ok (.found v) =>
    match insertConstant s n v .loc with
    | .error p => .error p
    | .ok (s, .ok _) => .ok (s, none)
    | .ok (s, .error (.duplicate r)) => .ok (s.err tag (dupKind r), some .fatal)
    | .ok (_, .error .reserved) => .error .unreachable

/-- `.export n` -/
def doExport (s : State) (n : Bytes) (tag : Nat) : Res :=
  match getConstant s n .loc with
  | .error p => .error p
  | .ok .notFound => .ok (s.err tag .nfLocal, some .fatal)
  | .ok .deferred => .ok (s.err tag .defLocal, some .fatal)
  | .ok (.found v) =>
    match insertConstant s n v .global with
    | .error p => .error p
    | .ok (s, .ok _) => .ok (s, none)
    | .ok (s, .error (.duplicate r)) => .ok (s.err tag (dupKind r), some .fatal)
    | .ok (_, .error .reserved) => .error .unreachable

/-- the writer closure of `.du32` on a constant argument: `u32::try_from(val)` then `write_data` -/
def writeVal (s : State) (tag : Nat) (v : Int) (stage : Nat) : State × Option Level :=
  if 0 ≤ v ∧ v < 4294967296 then ({ s with log := .value tag v stage :: s.log }, none)
  else (s.err tag .range, some .trivial)

/-- `DataOp` -/
inductive DataOp where
  | completed | deferred
deriving DecidableEq, Repr, Inhabited

/-- `DataExpr::apply(ctx, local)` for the argument `Identifier(n)` (or `Constant(v)` once `cached = some v`);
returns the state, the result, and the new `cached` -/
def applyUse (s : State) (n : Bytes) (cached : Option Int) (tag stage : Nat) (isLocal : Bool) :
    Except Panic (State × Except Level DataOp × Option Int) :=
  match cached with
  | some v =>
    -- `Argument::Constant` evaluates to `Complete`
    match writeVal s tag v stage with
    | (s, none) => .ok (s, .ok .completed, cached)
    | (s, some l) => .ok (s, .error l, cached)
  | none =>
    if isReg n then
      -- `Complete{changed: false}`, the writer sees an identifier: `ArgumentType` diagnostic
      .ok (s.err tag .argType, .error .trivial, none)
    else
      match getConstant s n (if s.hasCurrFile then .loc else .global) with
      | .error p => .error p
      | .ok .notFound =>
        if isLocal then .ok (s, .ok .deferred, none)
        else .ok (s.err tag .nfLocal, .error .trivial, none)
      | .ok .deferred => .ok (s, .ok .deferred, none)
      | .ok (.found v) =>
        match writeVal s tag v stage with
        | (s, none) => .ok (s, .ok .completed, some v)
        | (s, some l) => .ok (s, .error l, some v)

/-- the task created by `DataExpr::schedule(global)` -/
def runUse (s : State) (n : Bytes) (cached : Option Int) (tag : Nat) (global : Bool) : Res :=
  match applyUse s n cached tag (if global then 2 else 1) false with
  | .error p => .error p
  | .ok (s, .ok .completed, _) => .ok (s, none)
  | .ok (s, .ok .deferred, c) =>
    if global then .ok (s.err tag .nfGlobal, some .trivial)
    else
      match addTask s (.use n c tag true) .global with
      | .error p => .error p
      | .ok s => .ok (s, none)
  | .ok (s, .error l, _) => .ok (s, some l)

/-- `.du32 n;` -/
def doUse (s : State) (n : Bytes) (tag : Nat) : Res :=
  match applyUse s n none tag 0 true with
  | .error p => .error p
  | .ok (s, .ok .completed, _) => .ok (s, none)
  | .ok (s, _, c) =>
    -- padding is written, the statement is scheduled as a local task
    match addTask s (.use n c tag false) .loc with
    | .error p => .error p
    | .ok s => .ok (s, none)

def runTask (s : State) : Task → Res
  | .globalCopy n tag => runGlobalCopy s n tag
  | .use n c tag g => runUse s n c tag g

/-- `result = match result {Ok(()) => Err(lvl), Err(old) => Err(old.max(lvl))}` -/
def combine : Option Level → Level → Option Level
  | none, l => some l
  | some o, l => some (o.max l)

/-- `for task in tasks.drain(..)` of `assemble`: stops at the first aborting task (the rest is dropped) -/
def drain (s : State) (result : Option Level) : List Task → Except Panic (State × Option Level)
  | [] => .ok (s, result)
  | t :: ts =>
    match runTask s t with
    | .error p => .error p
    | .ok (s, none) => drain s result ts
    | .ok (s, some lvl) =>
      if lvl.shouldAbort then .ok (s, combine result lvl) else drain s (combine result lvl) ts

/-- `while !tasks.is_empty() {…}` of `assemble` -/
def localLoop : Nat → State → Option Level → List Task → Except Panic (State × Option Level)
  | _, s, r, [] => .ok (s, r)
  | 0, _, _, _ :: _ => .error .fuel
  | fuel + 1, s, r, t :: ts =>
    match drain s r (t :: ts) with
    | .error p => .error p
    | .ok (s, r) =>
      -- `mem::swap(local_tasks.as_mut().unwrap(), &mut tasks)`
      match s.localTasks with
      | none => .error .unwrapNone
      | some next =>
        let s := { s with localTasks := some [] }
        if r = some .fatal then .ok (s, r) else localLoop fuel s r next

/-- `Context::assemble`, entry part -/
def enterFile (s : State) (tag : Nat) : State :=
  let depth := s.depth + 1
  -- `mem::replace(&mut self.locals, Some(new)).map(|c| mem::replace(&mut self.globals, c))`
  let (globals, constants) :=
    match s.locals with
    | none => (s.globals, none)
    | some c => (c, some s.globals)
  let (globalTasks, tasks) :=
    match s.localTasks with
    | none => (s.globalTasks, none)
    | some t => (t, some s.globalTasks)
  { s with depth := depth, globals := globals, locals := some [], globalTasks := globalTasks,
           localTasks := some [], frames := { count := depth, constants, tasks, tag } :: s.frames }

/-- `PathFrame::into_inner` -/
def intoInner (s : State) (f : Saved) (fs : List Saved) : Except Panic State :=
  if s.depth ≠ f.count then .error .assertFailed else
  match s.depth with
  | 0 => .error .unwrapNone
  | d + 1 =>
    let (globals, locals) :=
      match f.constants with
      | none => (s.globals, none)
      | some c => (c, some s.globals)
    let (globalTasks, localTasks) :=
      match f.tasks with
      | none => (s.globalTasks, none)
      | some t => (t, some s.globalTasks)
    .ok { s with depth := d, globals := globals, locals := locals, globalTasks := globalTasks,
                 localTasks := localTasks, frames := fs }

/-- `Context::assemble` after `do_assemble` returned `result`, followed by the `.include` statement of the
includer looking at the result -/
def exitFile (s : State) (result : Option Level) : Except Panic State :=
  match s.frames with
  | [] => .ok s      -- not a state of the Rust program (no `assemble` call is active)
  | f :: fs =>
    let looped : Except Panic (State × Option Level) :=
      if result = some .fatal then .ok (s, result)
      else
        -- `frame.ctx.local_tasks.replace(Vec::new()).unwrap()`
        match s.localTasks with
        | none => .error .unwrapNone
        | some tasks => localLoop 2 { s with localTasks := some [] } result tasks
    match looped with
    | .error p => .error p
    | .ok (s, result) =>
      match intoInner s f fs with
      | .error p => .error p
      | .ok s =>
        match result, fs with
        | some _, _ :: _ => .ok { (s.err f.tag .asmFailed) with mode := .stopped .fatal 0 }
        | _, _ => .ok { s with mode := .running }

/-- `for task in tasks.drain(..)` of `finalize` -/
def drainFinal (s : State) : List Task → Except Panic (State × Bool)
  | [] => .ok (s, false)
  | t :: ts =>
    match runTask s t with
    | .error p => .error p
    | .ok (s, some .fatal) => .ok (s, true)
    | .ok (s, _) => drainFinal s ts

/-- `while !tasks.is_empty() {…}` of `finalize` -/
def finalLoop : Nat → State → List Task → Except Panic (State × Bool)
  | _, s, [] => .ok (s, false)
  | 0, _, _ :: _ => .error .fuel
  | fuel + 1, s, t :: ts =>
    match drainFinal s (t :: ts) with
    | .error p => .error p
    | .ok (s, abort) =>
      let next := s.globalTasks
      let s := { s with globalTasks := [] }
      if abort then .ok (s, true) else finalLoop fuel s next

/-- `Context::finalize` -/
def finalize (s : State) : Except Panic State :=
  match finalLoop 3 { s with globalTasks := [] } s.globalTasks with
  | .error p => .error p
  | .ok (s, abort) => .ok { s with log := .done (!(abort || s.hasErrored)) :: s.log }

inductive Op where
  | enter (tag : Nat)
  | exit
  | label (n : Bytes) (v : Int) (tag : Nat)
  | const (n : Bytes) (v : Int) (tag : Nat)
  | global (n : Bytes) (tag : Nat)
  | import (n : Bytes) (tag : Nat)
  | export (n : Bytes) (tag : Nat)
  | use (n : Bytes) (tag : Nat)
  | finalize
deriving DecidableEq, Repr, Inhabited

/-- a statement of the current file -/
def stmt (s : State) : Op → Res
  | .label n v tag => doLabel s n v tag
  | .const n v tag => doConst s n v tag
  | .global n tag => doGlobal s n tag
  | .import n tag => doImport s n tag
  | .export n tag => doExport s n tag
  | .use n tag => doUse s n tag
  | _ => .ok (s, none)

def step (s : State) (op : Op) : Except Panic State :=
  match s.mode, op with
  | .stopped l k, .enter _ => .ok { s with mode := .stopped l (k + 1) }
  | .stopped l (k + 1), .exit => .ok { s with mode := .stopped l k }
  | .stopped l 0, .exit => exitFile s (some l)
  | .stopped _ _, _ => .ok s
  | .running, .enter tag => .ok (enterFile s tag)
  | .running, .exit => exitFile s none
  | .running, .finalize => finalize s
  | .running, op =>
    match s.frames with
    | [] => .ok s    -- statements exist only inside `assemble`
    | _ :: _ =>
      match stmt s op with
      | .error p => .error p
      | .ok (s, none) => .ok s
      | .ok (s, some l) => .ok { s with mode := .stopped l 0 }

def run (s : State) : List Op → Except Panic State
  | [] => .ok s
  | op :: ops =>
    match step s op with
    | .error p => .error p
    | .ok s => run s ops

end Trion.Scope
