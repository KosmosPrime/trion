import TrionModel.Model.Instr
/-!
# Model of `src/bin/disassembler.rs` (`tridas`), Layer B

`listing` mirrors `main`: the work-list traversal from `BASE = 0x20000000` (`queries : BTreeSet`, `instrs : BTreeMap`,
`branches : BTreeSet` are strictly sorted lists, so iteration order is list order), then the printing loop.

The decoder is a parameter, `decode : List UInt8 → Option (Nat × Instr)` (`none` = `Err`, which the code `unwrap()`s);
`Model/TridasCodec.lean` puts in the codec model.  `getBranch` and
`getReturns` mirror `Instruction::get_branch` / `get_returns` of `src/arm6m/asm.rs`.

Panic sites: the `unwrap()` on a decode error; `BASE + pos as u32` and `addr + result.0 as u32` under
overflow-checks.  (`buff.len() as u32` truncation for files ≥ 4 GiB is outside the model.)
-/
namespace Trion.Tridas

inductive Panic where
  | decode      -- `Instruction::decode(..).unwrap()`
  | overflow    -- `BASE + pos as u32` / `addr + result.0 as u32`
  | fuel        -- the model's loop bound was too small
deriving DecidableEq, Repr, Inhabited

def BASE : Nat := 0x20000000
def two32 : Nat := 4294967296

/-- reduce to `u32` -/
def wrap32 (x : Int) : Nat := (x % 4294967296).toNat

/-- `Instruction::get_branch` -/
def getBranch (i : Instr) (addr : Nat) : Option Nat :=
  if addr % 2 = 0 then
    match i with
    | .b _ off => if off % 2 = 0 then some (wrap32 ((addr : Int) + 4 + off)) else none
    | .bl off => if off % 2 = 0 then some (wrap32 ((addr : Int) + 4 + off)) else none
    | _ => none
  else none

/-- `Instruction::get_returns` -/
def getReturns : Instr → Bool
  | .add _ dst _ _ => decide (dst ≠ Reg.pc)
  | .b cond _ => decide (cond ≠ Cond.always)
  | .bx _ => false
  | .bkpt _ => false
  | .mov _ dst _ => decide (dst ≠ Reg.pc)
  | .pop regs => decide (regs.val / 32768 % 2 = 0)
  | .sub _ dst _ _ => decide (dst ≠ Reg.pc)
  | .udf _ => false
  | .udfw _ => false
  | _ => true

/-- `BTreeSet::insert` on a strictly ascending list -/
def sinsert (x : Nat) : List Nat → List Nat
  | [] => [x]
  | y :: ys => if x < y then x :: y :: ys else if x = y then y :: ys else y :: sinsert x ys

/-- `BTreeSet::remove` -/
def sremove (x : Nat) : List Nat → List Nat
  | [] => []
  | y :: ys => if x = y then ys else y :: sremove x ys

/-- an entry of `instrs`: address ↦ (instruction, address after it) -/
structure Entry where
  addr : Nat
  instr : Instr
  after : Nat
deriving DecidableEq, Repr, Inhabited

/-- `BTreeMap::insert` (replaces the value of an existing key) -/
def minsert (e : Entry) : List Entry → List Entry
  | [] => [e]
  | y :: ys => if e.addr < y.addr then e :: y :: ys else if e.addr = y.addr then e :: ys else y :: minsert e ys

/-- `BTreeMap::contains_key` -/
def mcontains (a : Nat) (m : List Entry) : Bool := m.any (fun e => e.addr == a)

structure St where
  queries : List Nat
  instrs : List Entry
  branches : List Nat
deriving Repr, Inhabited

abbrev Decoder := List UInt8 → Option (Nat × Instr)

/-- `queries` after the instruction `i` decoded at `addr`: `queries.remove(&addr)`, then
`if dst != addr && !instrs.contains_key(&addr) {queries.insert(dst)}` -/
def nextQueries (i : Instr) (addr : Nat) (st : St) : List Nat :=
  match getBranch i addr with
  | some dst => if dst ≠ addr ∧ mcontains addr st.instrs = false then sinsert dst (sremove addr st.queries)
      else sremove addr st.queries
  | none => sremove addr st.queries

/-- `branches.insert(dst)` -/
def nextBranches (i : Instr) (addr : Nat) (st : St) : List Nat :=
  match getBranch i addr with
  | some dst => sinsert dst st.branches
  | none => st.branches

/-- the inner `while pos < buff.len()` loop -/
def walk (decode : Decoder) (buf : List UInt8) : Nat → Nat → St → Except Panic St
  | 0, pos, st => if pos < buf.length then .error .fuel else .ok st
  | fuel + 1, pos, st =>
    if pos < buf.length then
      match decode (buf.drop pos) with
      | none => .error .decode
      | some (n, i) =>
        if two32 ≤ BASE + pos then .error .overflow else
        let addr := BASE + pos
        if two32 ≤ addr + n then .error .overflow else
        let st' : St := { queries := nextQueries i addr st, instrs := minsert ⟨addr, i, addr + n⟩ st.instrs,
                          branches := nextBranches i addr st }
        if getReturns i then walk decode buf fuel (pos + n) st' else .ok st'
    else .ok st

/-- the outer `while let Some(&start) = queries.iter().next()` loop -/
def outer (decode : Decoder) (buf : List UInt8) : Nat → St → Except Panic St
  | 0, st => match st.queries with
    | [] => .ok st
    | _ :: _ => .error .fuel
  | fuel + 1, st =>
    match st.queries with
    | [] => .ok st
    | start :: rest =>
      let st := { st with queries := rest }
      if BASE ≤ start ∧ start - BASE < buf.length then
        match walk decode buf buf.length (start - BASE) st with
        | .error p => .error p
        | .ok st => outer decode buf fuel st
      else outer decode buf fuel st

inductive Line where
  | header                       -- `.addr 0x20000000;`
  | blank
  | label (addr : Nat)           -- `l_XXXXXXXX:`
  | instr (addr : Nat) (i : Instr)   -- `\t<instr.at(addr)>`
deriving DecidableEq, Repr, Inhabited

/-- the printing loop; `space`, `last` as in the code -/
def render (branches : List Nat) : List Entry → Bool → Nat → List Line
  | [], _, _ => []
  | e :: r, space, last =>
    let gap := decide (e.addr ≠ last)
    let space := if gap then false else space
    (if gap then [Line.blank] else []) ++
    (if branches.contains e.addr then (if space then [Line.blank] else []) ++ [Line.label e.addr] else []) ++
    Line.instr e.addr e.instr :: render branches r (!getReturns e.instr) e.after

/-- the traversal: final `(instrs, branches)` -/
def traverse (decode : Decoder) (buf : List UInt8) : Except Panic St :=
  outer decode buf (2 * buf.length + 2) { queries := [BASE], instrs := [], branches := [] }

/-- `main` after reading the file -/
def listing (decode : Decoder) (buf : List UInt8) : Except Panic (List Line) :=
  match traverse decode buf with
  | .error p => .error p
  | .ok st => .ok (Line.header :: render st.branches st.instrs false BASE)

end Trion.Tridas
