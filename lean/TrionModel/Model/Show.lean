import TrionModel.Model.Syntax
import TrionModel.Model.Instr
/-!
# Disassembly text (import-free): `impl Display for InstrAt` of `src/arm6m/asm.rs`, with `Display` of
`Register` / `SystemReg` (their `Debug` names), `Condition`, `RegisterSet`, `ImmReg`.

* `Show.text i a`  — the bytes `format!("{}", i.at(a))` produces, character for character;
* `Show.parts i a` — the mnemonic and the argument trees which that text denotes;
* `Show.render`    — prints a mnemonic and argument trees in the assembler's concrete syntax;
  `Show.text i a = Show.render (Show.parts i a)` is proved in `Lemmas/ShowText.lean` (`Props/C19.lean`, `text_eq_render`).
  (text → tokens → trees, i.e. that the parser reads `render p` back as `p`, belongs to C09–C11.)
-/
namespace Trion.Show

/-- decimal digits of a natural number (`Display for u8/u16/u32`) -/
def decimal (n : Nat) : Bytes := (Nat.toDigits 10 n).map (fun c => c.toNat.toUInt8)

/-- `Display for i32` -/
def intDec (v : Int) : Bytes :=
  if v < 0 then bytesOf "-" ++ decimal v.natAbs else decimal v.toNat

def hexDigit (n : Nat) : UInt8 := if n < 10 then (48 + n).toUInt8 else (55 + n).toUInt8

/-- `{:08X}` of a `u32` -/
def hex8 (n : Nat) : Bytes :=
  [hexDigit (n / 268435456 % 16), hexDigit (n / 16777216 % 16), hexDigit (n / 1048576 % 16),
   hexDigit (n / 65536 % 16), hexDigit (n / 4096 % 16), hexDigit (n / 256 % 16),
   hexDigit (n / 16 % 16), hexDigit (n % 16)]

/-- `l_{:08X}` -/
def label (t : Nat) : Bytes := bytesOf "l_" ++ hex8 t

/-- `Display for Register` (= `Debug`) -/
def regName (r : Reg) : Bytes :=
  match r.val with
  | 0 => bytesOf "R0" | 1 => bytesOf "R1" | 2 => bytesOf "R2" | 3 => bytesOf "R3" | 4 => bytesOf "R4"
  | 5 => bytesOf "R5" | 6 => bytesOf "R6" | 7 => bytesOf "R7" | 8 => bytesOf "R8" | 9 => bytesOf "R9"
  | 10 => bytesOf "R10" | 11 => bytesOf "R11" | 12 => bytesOf "R12"
  | 13 => bytesOf "SP" | 14 => bytesOf "LR" | _ => bytesOf "PC"

/-- `Display for SystemReg` (= `Debug`) -/
def sysName : SysReg → Bytes
  | .apsr => bytesOf "APSR" | .iapsr => bytesOf "IAPSR" | .eapsr => bytesOf "EAPSR" | .xpsr => bytesOf "XPSR"
  | .ipsr => bytesOf "IPSR" | .epsr => bytesOf "EPSR" | .iepsr => bytesOf "IEPSR" | .msp => bytesOf "MSP"
  | .psp => bytesOf "PSP" | .primask => bytesOf "PRIMASK" | .control => bytesOf "CONTROL"

/-- `Display for Condition` (`Always` prints nothing) -/
def condName (c : Cond) : Bytes :=
  match c.val with
  | 0 => bytesOf "EQ" | 1 => bytesOf "NE" | 2 => bytesOf "CS" | 3 => bytesOf "CC" | 4 => bytesOf "MI"
  | 5 => bytesOf "PL" | 6 => bytesOf "VS" | 7 => bytesOf "VC" | 8 => bytesOf "HI" | 9 => bytesOf "LS"
  | 10 => bytesOf "GE" | 11 => bytesOf "LT" | 12 => bytesOf "GT" | 13 => bytesOf "LE" | _ => []

/-- `Display for ImmReg` -/
def immRegText : ImmReg → Bytes
  | .imm v => intDec v
  | .reg r => regName r

/-- the loop of `Display for RegisterSet`: bits `i .. 15`, `first` = nothing printed yet -/
def regSetLoop (bits : Nat) : Nat → Nat → Bool → Bytes
  | 0, _, _ => []
  | fuel + 1, i, first =>
    if bits / 2 ^ i % 2 ≠ 0 then
      (if first then [] else bytesOf ", ") ++ regName (Fin.ofNat 16 i) ++ regSetLoop bits fuel (i + 1) false
    else regSetLoop bits fuel (i + 1) first

/-- `Display for RegisterSet` -/
def regSetText (rs : RegSet) : Bytes := bytesOf "{" ++ regSetLoop rs.val 16 0 true ++ bytesOf "}"

/-- `wrapping_add` on `u32` with an `i32`/`u16` converted by `as u32` (two's complement) -/
def wrapAdd (a : Nat) (off : Int) : Nat := ((a : Int) + off).emod 4294967296 |>.toNat

/-- `(self.addr & !0b11).wrapping_add(4)` -/
def alPc (addr : Nat) : Nat := (addr / 4 * 4 + 4) % 4294967296
/-- `self.addr.wrapping_add(4)` -/
def pcOf (addr : Nat) : Nat := (addr + 4) % 4294967296

def sfx (flags : Bool) : Bytes := if flags then bytesOf "S" else []

def two (m : String) (a b : Bytes) : Bytes := bytesOf m ++ bytesOf " " ++ a ++ bytesOf ", " ++ b ++ bytesOf ";"
def three (m : Bytes) (a b c : Bytes) : Bytes :=
  m ++ bytesOf " " ++ a ++ bytesOf ", " ++ b ++ bytesOf ", " ++ c ++ bytesOf ";"
def mem (m : String) (d a o : Bytes) : Bytes :=
  bytesOf m ++ bytesOf " " ++ d ++ bytesOf ", " ++ bytesOf "[" ++ a ++ bytesOf " + " ++ o ++ bytesOf "]" ++ bytesOf ";"
def one (m : Bytes) (a : Bytes) : Bytes := m ++ bytesOf " " ++ a ++ bytesOf ";"

/-- `impl Display for InstrAt` -/
def text (i : Instr) (a : Nat) : Bytes :=
  match i with
  | .adc d r => two "ADCS" (regName d) (regName r)
  | .add f d l r => three (bytesOf "ADD" ++ sfx f) (regName d) (regName l) (immRegText r)
  | .adr d off => two "ADR" (regName d) (label (wrapAdd (alPc a) off))
  | .and d r => two "ANDS" (regName d) (regName r)
  | .asr d v s => three (bytesOf "ASRS") (regName d) (regName v) (immRegText s)
  | .b c off => one (bytesOf "B" ++ condName c) (label (wrapAdd (pcOf a) off))
  | .bic d r => two "BICS" (regName d) (regName r)
  | .bkpt info => one (bytesOf "BKPT") (intDec info)
  | .bl off => one (bytesOf "BL") (label (wrapAdd (pcOf a) off))
  | .blx r => one (bytesOf "BLX") (regName r)
  | .bx r => one (bytesOf "BX") (regName r)
  | .cmn l r => two "CMN" (regName l) (regName r)
  | .cmp l r => two "CMP" (regName l) (immRegText r)
  | .cps e => if e then bytesOf "CPSIE i;" else bytesOf "CPSID i;"
  | .dmb => bytesOf "DMB SY;"
  | .dsb => bytesOf "DSB SY;"
  | .eor d r => two "EORS" (regName d) (regName r)
  | .isb => bytesOf "ISB SY;"
  | .ldm r rs => two "LDM" (regName r) (regSetText rs)
  | .ldr d ad o =>
    match o with
    | .imm off =>
      if ad.val = 15 then two "LDR" (regName d) (label (wrapAdd (alPc a) off))
      else mem "LDR" (regName d) (regName ad) (immRegText o)
    | .reg _ => mem "LDR" (regName d) (regName ad) (immRegText o)
  | .ldrb d ad o => mem "LDRB" (regName d) (regName ad) (immRegText o)
  | .ldrh d ad o => mem "LDRH" (regName d) (regName ad) (immRegText o)
  | .ldrsb d ad o => mem "LDRSB" (regName d) (regName ad) (regName o)
  | .ldrsh d ad o => mem "LDRSH" (regName d) (regName ad) (regName o)
  | .lsl d v s => three (bytesOf "LSLS") (regName d) (regName v) (immRegText s)
  | .lsr d v s => three (bytesOf "LSRS") (regName d) (regName v) (immRegText s)
  | .mov f d s => (bytesOf "MOV" ++ sfx f) ++ bytesOf " " ++ regName d ++ bytesOf ", " ++ immRegText s ++ bytesOf ";"
  | .mrs d s => two "MRS" (regName d) (sysName s)
  | .msr d s => two "MSR" (sysName d) (regName s)
  | .mul d r => two "MULS" (regName d) (regName r)
  | .mvn d r => two "MVNS" (regName d) (regName r)
  | .nop => bytesOf "NOP;"
  | .orr d r => two "ORRS" (regName d) (regName r)
  | .pop rs => one (bytesOf "POP") (regSetText rs)
  | .push rs => one (bytesOf "PUSH") (regSetText rs)
  | .rev d r => two "REV" (regName d) (regName r)
  | .rev16 d r => two "REV16" (regName d) (regName r)
  | .revsh d r => two "REVSH" (regName d) (regName r)
  | .ror d r => two "RORS" (regName d) (regName r)
  | .rsb d l => three (bytesOf "RSBS") (regName d) (regName l) (bytesOf "0")
  | .sbc d r => two "SBCS" (regName d) (regName r)
  | .sev => bytesOf "SEV;"
  | .stm r rs => two "STM" (regName r) (regSetText rs)
  | .str d ad o => mem "STR" (regName d) (regName ad) (immRegText o)
  | .strb d ad o => mem "STRB" (regName d) (regName ad) (immRegText o)
  | .strh d ad o => mem "STRH" (regName d) (regName ad) (immRegText o)
  | .sub f d l r => three (bytesOf "SUB" ++ sfx f) (regName d) (regName l) (immRegText r)
  | .svc info => one (bytesOf "SVC") (intDec info)
  | .sxtb d r => two "SXTB" (regName d) (regName r)
  | .sxth d r => two "SXTH" (regName d) (regName r)
  | .tst d r => two "TST" (regName d) (regName r)
  | .udf info => one (bytesOf "UDF.N") (intDec info)
  | .udfw info => one (bytesOf "UDF.W") (intDec info)
  | .uxtb d r => two "UXTB" (regName d) (regName r)
  | .uxth d r => two "UXTH" (regName d) (regName r)
  | .wfe => bytesOf "WFE;"
  | .wfi => bytesOf "WFI;"
  | .yield => bytesOf "YIELD;"

/-! ## the statement the text denotes -/

def rA (r : Reg) : Arg := .ident (regName r)
def irA : ImmReg → Arg
  | .imm v => .const v
  | .reg r => rA r
def lblA (t : Nat) : Arg := .ident (label t)
def memA (ad : Reg) (o : Arg) : Arg := .addr (.bin .add (rA ad) o)

/-- the registers of a set, lowest first -/
def regSetList (bits : Nat) : Nat → Nat → List Reg
  | 0, _ => []
  | fuel + 1, i =>
    if bits / 2 ^ i % 2 ≠ 0 then Fin.ofNat 16 i :: regSetList bits fuel (i + 1) else regSetList bits fuel (i + 1)

def rsA (rs : RegSet) : Arg := .seq (Args.ofList ((regSetList rs.val 16 0).map rA))

/-- mnemonic and argument trees denoted by `text i a` -/
def parts (i : Instr) (a : Nat) : Bytes × List Arg :=
  match i with
  | .adc d r => (bytesOf "ADCS", [rA d, rA r])
  | .add f d l r => (bytesOf "ADD" ++ sfx f, [rA d, rA l, irA r])
  | .adr d off => (bytesOf "ADR", [rA d, lblA (wrapAdd (alPc a) off)])
  | .and d r => (bytesOf "ANDS", [rA d, rA r])
  | .asr d v s => (bytesOf "ASRS", [rA d, rA v, irA s])
  | .b c off => (bytesOf "B" ++ condName c, [lblA (wrapAdd (pcOf a) off)])
  | .bic d r => (bytesOf "BICS", [rA d, rA r])
  | .bkpt info => (bytesOf "BKPT", [.const info])
  | .bl off => (bytesOf "BL", [lblA (wrapAdd (pcOf a) off)])
  | .blx r => (bytesOf "BLX", [rA r])
  | .bx r => (bytesOf "BX", [rA r])
  | .cmn l r => (bytesOf "CMN", [rA l, rA r])
  | .cmp l r => (bytesOf "CMP", [rA l, irA r])
  | .cps e => (if e then bytesOf "CPSIE" else bytesOf "CPSID", [.ident (bytesOf "i")])
  | .dmb => (bytesOf "DMB", [.ident (bytesOf "SY")])
  | .dsb => (bytesOf "DSB", [.ident (bytesOf "SY")])
  | .eor d r => (bytesOf "EORS", [rA d, rA r])
  | .isb => (bytesOf "ISB", [.ident (bytesOf "SY")])
  | .ldm r rs => (bytesOf "LDM", [rA r, rsA rs])
  | .ldr d ad o =>
    match o with
    | .imm off =>
      if ad.val = 15 then (bytesOf "LDR", [rA d, lblA (wrapAdd (alPc a) off)])
      else (bytesOf "LDR", [rA d, memA ad (irA o)])
    | .reg _ => (bytesOf "LDR", [rA d, memA ad (irA o)])
  | .ldrb d ad o => (bytesOf "LDRB", [rA d, memA ad (irA o)])
  | .ldrh d ad o => (bytesOf "LDRH", [rA d, memA ad (irA o)])
  | .ldrsb d ad o => (bytesOf "LDRSB", [rA d, memA ad (rA o)])
  | .ldrsh d ad o => (bytesOf "LDRSH", [rA d, memA ad (rA o)])
  | .lsl d v s => (bytesOf "LSLS", [rA d, rA v, irA s])
  | .lsr d v s => (bytesOf "LSRS", [rA d, rA v, irA s])
  | .mov f d s => (bytesOf "MOV" ++ sfx f, [rA d, irA s])
  | .mrs d s => (bytesOf "MRS", [rA d, .ident (sysName s)])
  | .msr d s => (bytesOf "MSR", [.ident (sysName d), rA s])
  | .mul d r => (bytesOf "MULS", [rA d, rA r])
  | .mvn d r => (bytesOf "MVNS", [rA d, rA r])
  | .nop => (bytesOf "NOP", [])
  | .orr d r => (bytesOf "ORRS", [rA d, rA r])
  | .pop rs => (bytesOf "POP", [rsA rs])
  | .push rs => (bytesOf "PUSH", [rsA rs])
  | .rev d r => (bytesOf "REV", [rA d, rA r])
  | .rev16 d r => (bytesOf "REV16", [rA d, rA r])
  | .revsh d r => (bytesOf "REVSH", [rA d, rA r])
  | .ror d r => (bytesOf "RORS", [rA d, rA r])
  | .rsb d l => (bytesOf "RSBS", [rA d, rA l, .const 0])
  | .sbc d r => (bytesOf "SBCS", [rA d, rA r])
  | .sev => (bytesOf "SEV", [])
  | .stm r rs => (bytesOf "STM", [rA r, rsA rs])
  | .str d ad o => (bytesOf "STR", [rA d, memA ad (irA o)])
  | .strb d ad o => (bytesOf "STRB", [rA d, memA ad (irA o)])
  | .strh d ad o => (bytesOf "STRH", [rA d, memA ad (irA o)])
  | .sub f d l r => (bytesOf "SUB" ++ sfx f, [rA d, rA l, irA r])
  | .svc info => (bytesOf "SVC", [.const info])
  | .sxtb d r => (bytesOf "SXTB", [rA d, rA r])
  | .sxth d r => (bytesOf "SXTH", [rA d, rA r])
  | .tst d r => (bytesOf "TST", [rA d, rA r])
  | .udf info => (bytesOf "UDF.N", [.const info])
  | .udfw info => (bytesOf "UDF.W", [.const info])
  | .uxtb d r => (bytesOf "UXTB", [rA d, rA r])
  | .uxth d r => (bytesOf "UXTH", [rA d, rA r])
  | .wfe => (bytesOf "WFE", [])
  | .wfi => (bytesOf "WFI", [])
  | .yield => (bytesOf "YIELD", [])

/-! ## concrete syntax of a statement -/

def opText : BinOp → Bytes
  | .add => bytesOf " + " | .sub => bytesOf " - " | .mul => bytesOf " * " | .div => bytesOf " / "
  | .mod => bytesOf " % " | .band => bytesOf " & " | .bor => bytesOf " | " | .bxor => bytesOf " ^ "
  | .shl => bytesOf " << " | .shr => bytesOf " >> "

mutual
/-- an argument tree in the assembler's syntax (no parentheses are inserted: the trees of `parts`
never need them; general trees are C09's subject) -/
def renderArg : Arg → Bytes
  | .const v => intDec v
  | .ident s => s
  | .str s => bytesOf "\"" ++ s ++ bytesOf "\""
  | .bin op l r => renderArg l ++ opText op ++ renderArg r
  | .neg x => bytesOf "-" ++ renderArg x
  | .not x => bytesOf "!" ++ renderArg x
  | .addr x => bytesOf "[" ++ renderArg x ++ bytesOf "]"
  | .seq xs => bytesOf "{" ++ renderArgs xs true ++ bytesOf "}"
  | .func n xs => n ++ bytesOf "(" ++ renderArgs xs true ++ bytesOf ")"
/-- comma separated list; `first` = nothing printed yet -/
def renderArgs : Args → Bool → Bytes
  | .nil, _ => []
  | .cons x xs, first => (if first then [] else bytesOf ", ") ++ renderArg x ++ renderArgs xs false
end

/-- `NAME a, b, c;` (no blank when there are no arguments) -/
def render (p : Bytes × List Arg) : Bytes :=
  p.1 ++ (if p.2.isEmpty then [] else bytesOf " " ++ renderArgs (Args.ofList p.2) true) ++ bytesOf ";"

end Trion.Show
