import TrionModel.Model.Syntax
import TrionModel.Model.Instr
/-!
# Instruction front end (import-free): `src/arm6m/mod.rs`

`ArmInstr::new` (mnemonic table), `ArmInstr::assemble` (the `convert!` macro and the per-instruction
arms), `regl`, `sysl`, `regset`, `addr_off`, `Arm6M::is_register`.

Shape of the model. The `convert!` macro is the same code for every arm: an arity check, then one
*getter* per operand, executed left to right; a getter either yields a value (and the arm stores it in
the instruction at once when the macro argument is `{*field}`, or binds it to a local when it is a plain
identifier) or leaves `assemble` early (deferred / diagnostic). After the macro the arm may post-process
the locals (`finish`). So an arm is `kinds i` (the getter kinds), `setOp i pos v` (the immediate stores)
and `finish` (the code after the macro). The partially filled instruction at an early exit — which the
caller encodes to size the placeholder — is the template with the stores made so far.

An arm is keyed by the CONSTRUCTOR of the template instruction: `kinds`, `setOp`, `finish` (and, in the specification,
`C04.sig`, `C04.meaning`) match on it, so every mnemonic whose template has that constructor has the same operand list. A
mnemonic may vary only what the template carries besides the operands (the flags bit, the condition, the enable bit). A new
mnemonic with an operand list of its own therefore needs a constructor of its own, or a key finer than the constructor.

Panic sites: `self.args[arg_pos]` (index) is `Res.panic` when the argument list is shorter than the
kinds (theorem `assemble_no_panic`: unreachable because of the arity check). The `unreachable!()` of the
`Identifier` getter follows a successful match on the same value and is not modelled separately. No
arithmetic in `assemble` can overflow (all offset arithmetic is `i64` on values below 2^33).

Evaluation (`evaluate`, modelled by `Simp`) is a parameter `eval : Arg → EvalOut`; every outcome carries
the argument as `evaluate` left it (it simplifies in place).
-/
namespace Trion.Front

/-! ## ASCII case folding -/

/-- `u8::to_ascii_uppercase` -/
def upperByte (b : UInt8) : UInt8 := if 97 ≤ b.toNat ∧ b.toNat ≤ 122 then b - 32 else b

/-- `make_ascii_uppercase` on the bytes of a `str` -/
def upper (s : Bytes) : Bytes := s.map upperByte

/-! ## register names -/

def regTable : List (Bytes × Reg) :=
  [(bytesOf "R0", 0), (bytesOf "R1", 1), (bytesOf "R2", 2), (bytesOf "R3", 3), (bytesOf "R4", 4),
   (bytesOf "R5", 5), (bytesOf "R6", 6), (bytesOf "R7", 7), (bytesOf "R8", 8), (bytesOf "R9", 9),
   (bytesOf "R10", 10), (bytesOf "R11", 11), (bytesOf "R12", 12),
   (bytesOf "R13", 13), (bytesOf "SP", 13), (bytesOf "R14", 14), (bytesOf "LR", 14),
   (bytesOf "R15", 15), (bytesOf "PC", 15)]

/-- `regl` without the diagnostic (the caller adds instruction name and index) -/
def regl (s : Bytes) : Option Reg :=
  if s.length ≤ 4 then regTable.lookup (upper s) else none

def sysTable : List (Bytes × SysReg) :=
  [(bytesOf "APSR", .apsr), (bytesOf "IAPSR", .iapsr), (bytesOf "EAPSR", .eapsr), (bytesOf "XPSR", .xpsr),
   (bytesOf "IPSR", .ipsr), (bytesOf "EPSR", .epsr), (bytesOf "IEPSR", .iepsr), (bytesOf "MSP", .msp),
   (bytesOf "PSP", .psp), (bytesOf "PRIMASK", .primask), (bytesOf "CONTROL", .control)]

/-- `sysl` -/
def sysl (s : Bytes) : Option SysReg :=
  if s.length ≤ 8 then sysTable.lookup (upper s) else none

/-- `Arm6M::is_register` -/
def isRegister (s : Bytes) : Bool :=
  if s.length ≤ 8 then
    (regTable.lookup (upper s)).isSome || (sysTable.lookup (upper s)).isSome
  else false

/-! ## integer narrowing (`i32::try_from(i64)` etc.) -/

def narrowI32 (v : Int) : Option Int := if -2147483648 ≤ v ∧ v ≤ 2147483647 then some v else none
def narrowU32 (v : Int) : Option Int := if 0 ≤ v ∧ v ≤ 4294967295 then some v else none
def narrowU16 (v : Int) : Option Int := if 0 ≤ v ∧ v ≤ 65535 then some v else none
def narrowU8 (v : Int) : Option Int := if 0 ≤ v ∧ v ≤ 255 then some v else none

/-! ## mnemonic table (`ArmInstr::new`) -/

def r0 : Reg := 0
def imm0 : ImmReg := .imm 0

def mnemonicTable : List (Bytes × Instr) :=
  [(bytesOf "ADCS", .adc r0 r0),
   (bytesOf "ADD", .add false Reg.sp Reg.sp imm0),
   (bytesOf "ADDS", .add true r0 r0 imm0),
   (bytesOf "ADR", .adr r0 0),
   (bytesOf "ANDS", .and r0 r0),
   (bytesOf "ASRS", .asr r0 r0 (.imm 1)),
   (bytesOf "B", .b 14 0),
   (bytesOf "BCC", .b 3 0),
   (bytesOf "BCS", .b 2 0),
   (bytesOf "BEQ", .b 0 0),
   (bytesOf "BGE", .b 10 0),
   (bytesOf "BGT", .b 12 0),
   (bytesOf "BHI", .b 8 0),
   (bytesOf "BHS", .b 2 0),
   (bytesOf "BIC", .bic r0 r0),
   (bytesOf "BICS", .bic r0 r0),
   (bytesOf "BKPT", .bkpt 0),
   (bytesOf "BL", .bl 0),
   (bytesOf "BLE", .b 13 0),
   (bytesOf "BLO", .b 3 0),
   (bytesOf "BLS", .b 9 0),
   (bytesOf "BLT", .b 11 0),
   (bytesOf "BLX", .blx r0),
   (bytesOf "BMI", .b 4 0),
   (bytesOf "BNE", .b 1 0),
   (bytesOf "BPL", .b 5 0),
   (bytesOf "BVC", .b 7 0),
   (bytesOf "BVS", .b 6 0),
   (bytesOf "BX", .bx r0),
   (bytesOf "CMN", .cmn r0 r0),
   (bytesOf "CMP", .cmp r0 imm0),
   (bytesOf "CPSID", .cps false),
   (bytesOf "CPSIE", .cps true),
   (bytesOf "DMB", .dmb),
   (bytesOf "DSB", .dsb),
   (bytesOf "EORS", .eor r0 r0),
   (bytesOf "ISB", .isb),
   (bytesOf "LDM", .ldm r0 0),
   (bytesOf "LDR", .ldr r0 r0 imm0),
   (bytesOf "LDRB", .ldrb r0 r0 imm0),
   (bytesOf "LDRH", .ldrh r0 r0 imm0),
   (bytesOf "LDRSB", .ldrsb r0 r0 r0),
   (bytesOf "LDRSH", .ldrsh r0 r0 r0),
   (bytesOf "LSLS", .lsl r0 r0 (.imm 1)),
   (bytesOf "LSRS", .lsr r0 r0 (.imm 1)),
   (bytesOf "MOV", .mov false r0 (.reg r0)),
   (bytesOf "MOVS", .mov false r0 (.reg r0)),   -- `flags` is set from the name length below
   (bytesOf "MRS", .mrs r0 .xpsr),
   (bytesOf "MSR", .msr .xpsr r0),
   (bytesOf "MULS", .mul r0 r0),
   (bytesOf "MVNS", .mvn r0 r0),
   (bytesOf "NOP", .nop),
   (bytesOf "ORRS", .orr r0 r0),
   (bytesOf "POP", .pop 1),
   (bytesOf "PUSH", .push 1),
   (bytesOf "REV", .rev r0 r0),
   (bytesOf "REV16", .rev16 r0 r0),
   (bytesOf "REVSH", .revsh r0 r0),
   (bytesOf "RORS", .ror r0 r0),
   (bytesOf "RSBS", .rsb r0 r0),
   (bytesOf "SBCS", .sbc r0 r0),
   (bytesOf "SEV", .sev),
   (bytesOf "STM", .stm r0 0),
   (bytesOf "STR", .str r0 r0 imm0),
   (bytesOf "STRB", .strb r0 r0 imm0),
   (bytesOf "STRH", .strh r0 r0 imm0),
   (bytesOf "SUB", .sub false Reg.sp Reg.sp imm0),
   (bytesOf "SUBS", .sub true r0 r0 imm0),
   (bytesOf "SVC", .svc 0),
   (bytesOf "SXTB", .sxtb r0 r0),
   (bytesOf "SXTH", .sxth r0 r0),
   (bytesOf "TST", .tst r0 r0),
   (bytesOf "UDF.N", .udf 0),
   (bytesOf "UDF.W", .udfw 0),
   (bytesOf "UXTB", .uxtb r0 r0),
   (bytesOf "UXTH", .uxth r0 r0),
   (bytesOf "WFE", .wfe),
   (bytesOf "WFI", .wfi),
   (bytesOf "YIELD", .yield)]

/-- the name `ArmInstr::new` matches on: upper-cased if shorter than 16 bytes, else `""` -/
def foldName (name : Bytes) : Bytes := if name.length < 16 then upper name else []

/-- `ArmInstr::new`: the template instruction of a mnemonic (`none` = `InstrErrorKind::NotFound (foldName name)`) -/
def mnemonic (name : Bytes) : Option Instr :=
  let u := foldName name
  match mnemonicTable.lookup u with
  | some (.mov _ d s) => some (.mov (decide (u.length > 3)) d s)   -- `flags: name.len() > 3`
  | r => r

/-- `Instruction::get_name` (asm.rs), used in every diagnostic -/
def getName : Instr → String
  | .adc .. => "ADCS" | .add f .. => if f then "ADDS" else "ADD" | .adr .. => "ADR" | .and .. => "ANDS"
  | .asr .. => "ASRS"
  | .b c _ => match c.val with
    | 0 => "BEQ" | 1 => "BNE" | 2 => "BHS" | 3 => "BLO" | 4 => "BMI" | 5 => "BPL" | 6 => "BVS" | 7 => "BVC"
    | 8 => "BHI" | 9 => "BLS" | 10 => "BGE" | 11 => "BLT" | 12 => "BGT" | 13 => "BLE" | _ => "B"
  | .bic .. => "BIC" | .bkpt .. => "BKPT" | .bl .. => "BL" | .blx .. => "BLX" | .bx .. => "BX"
  | .cmn .. => "CMN" | .cmp .. => "CMP" | .cps e => if e then "CPSIE" else "CPSID"
  | .dmb => "DMB" | .dsb => "DSB" | .eor .. => "EORS" | .isb => "ISB" | .ldm .. => "LDM" | .ldr .. => "LDR"
  | .ldrb .. => "LDRB" | .ldrh .. => "LDRH" | .ldrsb .. => "LDRSB" | .ldrsh .. => "LDRSH"
  | .lsl .. => "LSLS" | .lsr .. => "LSRS" | .mov f .. => if f then "MOVS" else "MOV"
  | .mrs .. => "MRS" | .msr .. => "MSR" | .mul .. => "MULS" | .mvn .. => "MVNS" | .nop => "NOP"
  | .orr .. => "ORRS" | .pop .. => "POP" | .push .. => "PUSH" | .rev .. => "REV" | .rev16 .. => "REV16"
  | .revsh .. => "REVSH" | .ror .. => "RORS" | .rsb .. => "RSBS" | .sbc .. => "SBCS" | .sev => "SEV"
  | .stm .. => "STM" | .str .. => "STR" | .strb .. => "STRB" | .strh .. => "STRH"
  | .sub f .. => if f then "SUBS" else "SUB" | .svc .. => "SVC" | .sxtb .. => "SXTB" | .sxth .. => "SXTH"
  | .tst .. => "TST" | .udf .. => "UDF.N" | .udfw .. => "UDF.W" | .uxtb .. => "UXTB" | .uxth .. => "UXTH"
  | .wfe => "WFE" | .wfi => "WFI" | .yield => "YIELD"

/-! ## evaluation interface and diagnostics -/

/-- `EvalError` other than `NoSuchVariable` -/
inductive EvalErr where
  | badType (kind op : ArgTy)
  | overflow (what : String)     -- the rendered `OverflowError`; opaque to the front end
deriving DecidableEq, Repr, Inhabited

/-- what `evaluate(arg, ctx)` did; `a` is the argument as it was left (simplified in place) -/
inductive EvalOut where
  | complete (a : Arg)
  | deferred (cause : Bytes) (a : Arg)
  | noSuchVariable (name : Bytes) (a : Arg)
  | error (e : EvalErr) (a : Arg)
deriving Repr, Inhabited

/-- the diagnostic pushed by `assemble` (the instruction name is `getName` of the template) -/
inductive Diag where
  | tooMany (max have_ : Nat)                              -- InstrErrorKind::TooManyArguments
  | notEnough (need have_ : Nat)                           -- InstrErrorKind::NotEnoughArguments
  | argType (idx : Nat) (expect : List ArgTy) (have_ : ArgTy) -- InstrErrorKind::ArgumentType
  | valueRange (idx : Nat)                                 -- AsmError::ValueRange
  | noSuchRegister (idx : Nat) (what : Bytes)              -- AsmError::NoSuchRegister
  | range (min max have_ : Int)                            -- ConstantError::Range
  | alignment (align : Nat) (have_ : Int)                  -- ConstantError::Alignment
  | noSuchVariable (name : Bytes)                          -- EvalError::NoSuchVariable (realm Local)
  | evalErr (e : EvalErr)                                  -- EvalError::BadType / Overflow
deriving DecidableEq, Repr, Inhabited

/-- how `assemble` ended -/
inductive Res where
  | completed
  | deferred (cause : Bytes)
  | error (d : Diag)
  | panic
deriving DecidableEq, Repr, Inhabited

/-! ## operand getters of `convert!` -/

inductive Kind where
  | immediate | identifier | register | systemReg | immReg | regSet | address | offset | addrOffset
deriving DecidableEq, Repr, Inhabited

/-- the value a getter yields -/
inductive Val where
  | imm (v : Int)                              -- Immediate: i32
  | ident (s : Bytes)                          -- Identifier
  | reg (r : Reg)
  | sys (s : SysReg)
  | immReg (x : ImmReg)
  | regSet (rs : RegSet)
  | address (r : Reg) (o : Option ImmReg)      -- Address, and AddrOffset::Address
  | off (v : Int)                              -- Offset: u32, and AddrOffset::Offset
deriving DecidableEq, Repr, Inhabited

/-- `RegisterSet::add` -/
def addBit (rs : RegSet) (r : Reg) : RegSet :=
  if rs.val / 2 ^ r.val % 2 = 1 then rs else Fin.ofNat 65536 (rs.val + 2 ^ r.val)

/-- `regset` -/
def regset (idx : Nat) : List Arg → RegSet → Except Diag RegSet
  | [], acc => .ok acc
  | .ident s :: rest, acc =>
    match regl s with
    | some r => regset idx rest (addBit acc r)
    | none => .error (.noSuchRegister idx s)
  | a :: _, _ => .error (.argType idx [.ident] a.ty)

/-- `addr_off` -/
def addrOff (idx : Nat) : Arg → Except Diag (Reg × Option ImmReg)
  | .ident name =>
    match regl name with
    | some r => .ok (r, some (.imm 0))
    | none => .error (.noSuchRegister idx name)
  | .bin .add (.ident a) (.ident o) =>
    match regl a with
    | none => .error (.noSuchRegister idx a)
    | some ra =>
      match regl o with
      | none => .error (.noSuchRegister idx o)
      | some ro => .ok (ra, some (.reg ro))
  | .bin .add (.ident a) (.const off) =>
    match narrowI32 off with
    | none => .error (.valueRange idx)
    | some off =>
      match regl a with
      | none => .error (.noSuchRegister idx a)
      | some ra => .ok (ra, some (.imm off))
  | .bin .add (.const off) (.ident a) =>
    match narrowI32 off with
    | none => .error (.valueRange idx)
    | some off =>
      match regl a with
      | none => .error (.noSuchRegister idx a)
      | some ra => .ok (ra, some (.imm off))
  | _ => .error (.valueRange idx)

inductive GetOut where
  | ok (v : Val) (a : Arg) (done : Nat)
  | stop (a : Arg) (done : Nat) (r : Res)
deriving Repr, Inhabited

/-- the evaluation prologue shared by the Immediate / ImmReg / Address / Offset / AddrOffset getters:
`if self.args_done <= arg_pos { match evaluate(arg, ctx) {…}; self.args_done = arg_pos + 1 }` -/
def evalArg (eval : Arg → EvalOut) (loc : Bool) (pos done : Nat) (a : Arg) : Except (Arg × Res) (Arg × Nat) :=
  if done ≤ pos then
    match eval a with
    | .complete a' => .ok (a', pos + 1)
    | .deferred c a' => .error (a', .deferred c)
    | .noSuchVariable n a' =>
      if loc then .error (a', .deferred n) else .error (a', .error (.noSuchVariable n))
    | .error e a' => .error (a', .error (.evalErr e))
  else .ok (a, done)

/-- one `convert!(@impl/get K)` at argument position `pos` -/
def get (k : Kind) (eval : Arg → EvalOut) (loc : Bool) (pos done : Nat) (a : Arg) : GetOut :=
  match k with
  | .identifier =>
    match a with
    | .ident s => .ok (.ident s) a done
    | _ => .stop a done (.error (.argType pos [.ident] a.ty))
  | .register =>
    match a with
    | .ident s =>
      match regl s with
      | some r => .ok (.reg r) a done
      | none => .stop a done (.error (.noSuchRegister (pos + 1) s))
    | _ => .stop a done (.error (.argType pos [.ident] a.ty))
  | .systemReg =>
    match a with
    | .ident s =>
      match sysl s with
      | some r => .ok (.sys r) a done
      | none => .stop a done (.error (.noSuchRegister (pos + 1) s))
    | _ => .stop a done (.error (.argType pos [.ident] a.ty))
  | .regSet =>
    match a with
    | .seq items =>
      match regset pos items.toList 0 with
      | .ok rs => .ok (.regSet rs) a done
      | .error d => .stop a done (.error d)
    | _ => .stop a done (.error (.argType pos [.seq] a.ty))
  | .immediate =>
    match evalArg eval loc pos done a with
    | .error (a', r) => .stop a' done r
    | .ok (a', done') =>
      match a' with
      | .const v =>
        match narrowI32 v with
        | some w => .ok (.imm w) a' done'
        | none => .stop a' done' (.error (.valueRange (pos + 1)))
      | _ => .stop a' done' (.error (.argType pos [.const] a'.ty))
  | .immReg =>
    match evalArg eval loc pos done a with
    | .error (a', r) => .stop a' done r
    | .ok (a', done') =>
      match a' with
      | .const v =>
        match narrowI32 v with
        | some w => .ok (.immReg (.imm w)) a' done'
        | none => .stop a' done' (.error (.valueRange (pos + 1)))
      | .ident s =>
        match regl s with
        | some r => .ok (.immReg (.reg r)) a' done'
        | none => .stop a' done' (.error (.noSuchRegister (pos + 1) s))
      | _ => .stop a' done' (.error (.argType pos [.const, .ident] a'.ty))
  | .address =>
    match evalArg eval loc pos done a with
    | .error (a', r) => .stop a' done r
    | .ok (a', done') =>
      match a' with
      | .addr inner =>
        match addrOff (pos + 1) inner with
        | .ok (r, o) => .ok (.address r o) a' done'
        | .error d => .stop a' done' (.error d)
      | _ => .stop a' done' (.error (.argType pos [.addr] a'.ty))
  | .offset =>
    match evalArg eval loc pos done a with
    | .error (a', r) => .stop a' done r
    | .ok (a', done') =>
      match a' with
      | .const v =>
        match narrowU32 v with
        | some w => .ok (.off w) a' done'
        | none => .stop a' done' (.error (.valueRange (pos + 1)))
      | _ => .stop a' done' (.error (.argType pos [.const] a'.ty))
  | .addrOffset =>
    match evalArg eval loc pos done a with
    | .error (a', r) => .stop a' done r
    | .ok (a', done') =>
      match a' with
      | .const v =>
        match narrowU32 v with
        | some w => .ok (.off w) a' done'
        | none => .stop a' done' (.error (.valueRange (pos + 1)))
      | .addr inner =>
        match addrOff (pos + 1) inner with
        | .ok (r, o) => .ok (.address r o) a' done'
        | .error d => .stop a' done' (.error d)
      | _ => .stop a' done' (.error (.argType pos [.const, .addr] a'.ty))

/-! ## the per-instruction arms -/

/-- the getter kinds of each arm's `convert!` -/
def kinds : Instr → List Kind
  | .adc .. | .and .. | .bic .. | .cmn .. | .eor .. | .mul .. | .mvn .. | .orr .. | .rev .. | .rev16 ..
  | .revsh .. | .ror .. | .sbc .. | .sxtb .. | .sxth .. | .tst .. | .uxtb .. | .uxth .. => [.register, .register]
  | .add .. | .sub .. | .asr .. | .lsl .. | .lsr .. => [.register, .register, .immReg]
  | .adr .. => [.register, .offset]
  | .b .. | .bl .. | .bkpt .. => [.offset]
  | .blx .. | .bx .. => [.register]
  | .cmp .. | .mov .. => [.register, .immReg]
  | .cps .. | .dmb | .dsb | .isb => [.identifier]
  | .ldm .. | .stm .. => [.register, .regSet]
  | .ldr .. => [.register, .addrOffset]
  | .ldrb .. | .ldrh .. | .ldrsb .. | .ldrsh .. | .str .. | .strb .. | .strh .. => [.register, .address]
  | .mrs .. => [.register, .systemReg]
  | .msr .. => [.systemReg, .register]
  | .nop | .sev | .wfe | .wfi | .yield => []
  | .pop .. | .push .. => [.regSet]
  | .rsb .. => [.register, .register, .immediate]
  | .svc .. | .udf .. | .udfw .. => [.immediate]

/-- the stores `{*field} = value` made by the macro itself, at argument position `pos` -/
def setOp (i : Instr) (pos : Nat) (v : Val) : Instr :=
  match i with
  | .adc d r => match pos, v with | 0, .reg x => .adc x r | 1, .reg x => .adc d x | _, _ => i
  | .add f d l r => match pos, v with
    | 0, .reg x => .add f x l r | 1, .reg x => .add f d x r | 2, .immReg x => .add f d l x | _, _ => i
  | .adr _ o => match pos, v with | 0, .reg x => .adr x o | _, _ => i
  | .and d r => match pos, v with | 0, .reg x => .and x r | 1, .reg x => .and d x | _, _ => i
  | .asr d l s => match pos, v with
    | 0, .reg x => .asr x l s | 1, .reg x => .asr d x s | 2, .immReg x => .asr d l x | _, _ => i
  | .bic d r => match pos, v with | 0, .reg x => .bic x r | 1, .reg x => .bic d x | _, _ => i
  | .blx _ => match pos, v with | 0, .reg x => .blx x | _, _ => i
  | .bx _ => match pos, v with | 0, .reg x => .bx x | _, _ => i
  | .cmn d r => match pos, v with | 0, .reg x => .cmn x r | 1, .reg x => .cmn d x | _, _ => i
  | .cmp d r => match pos, v with | 0, .reg x => .cmp x r | 1, .immReg x => .cmp d x | _, _ => i
  | .eor d r => match pos, v with | 0, .reg x => .eor x r | 1, .reg x => .eor d x | _, _ => i
  | .ldm a rs => match pos, v with | 0, .reg x => .ldm x rs | 1, .regSet x => .ldm a x | _, _ => i
  | .ldr _ a o => match pos, v with | 0, .reg x => .ldr x a o | _, _ => i
  | .ldrb _ a o => match pos, v with | 0, .reg x => .ldrb x a o | _, _ => i
  | .ldrh _ a o => match pos, v with | 0, .reg x => .ldrh x a o | _, _ => i
  | .ldrsb _ a o => match pos, v with | 0, .reg x => .ldrsb x a o | _, _ => i
  | .ldrsh _ a o => match pos, v with | 0, .reg x => .ldrsh x a o | _, _ => i
  | .lsl d l s => match pos, v with
    | 0, .reg x => .lsl x l s | 1, .reg x => .lsl d x s | 2, .immReg x => .lsl d l x | _, _ => i
  | .lsr d l s => match pos, v with
    | 0, .reg x => .lsr x l s | 1, .reg x => .lsr d x s | 2, .immReg x => .lsr d l x | _, _ => i
  | .mov f d s => match pos, v with | 0, .reg x => .mov f x s | 1, .immReg x => .mov f d x | _, _ => i
  | .mrs d s => match pos, v with | 0, .reg x => .mrs x s | 1, .sys x => .mrs d x | _, _ => i
  | .msr d s => match pos, v with | 0, .sys x => .msr x s | 1, .reg x => .msr d x | _, _ => i
  | .mul d r => match pos, v with | 0, .reg x => .mul x r | 1, .reg x => .mul d x | _, _ => i
  | .mvn d r => match pos, v with | 0, .reg x => .mvn x r | 1, .reg x => .mvn d x | _, _ => i
  | .orr d r => match pos, v with | 0, .reg x => .orr x r | 1, .reg x => .orr d x | _, _ => i
  | .pop _ => match pos, v with | 0, .regSet x => .pop x | _, _ => i
  | .push _ => match pos, v with | 0, .regSet x => .push x | _, _ => i
  | .rev d r => match pos, v with | 0, .reg x => .rev x r | 1, .reg x => .rev d x | _, _ => i
  | .rev16 d r => match pos, v with | 0, .reg x => .rev16 x r | 1, .reg x => .rev16 d x | _, _ => i
  | .revsh d r => match pos, v with | 0, .reg x => .revsh x r | 1, .reg x => .revsh d x | _, _ => i
  | .ror d r => match pos, v with | 0, .reg x => .ror x r | 1, .reg x => .ror d x | _, _ => i
  | .rsb d l => match pos, v with | 0, .reg x => .rsb x l | 1, .reg x => .rsb d x | _, _ => i
  | .sbc d r => match pos, v with | 0, .reg x => .sbc x r | 1, .reg x => .sbc d x | _, _ => i
  | .stm a rs => match pos, v with | 0, .reg x => .stm x rs | 1, .regSet x => .stm a x | _, _ => i
  | .str _ a o => match pos, v with | 0, .reg x => .str x a o | _, _ => i
  | .strb _ a o => match pos, v with | 0, .reg x => .strb x a o | _, _ => i
  | .strh _ a o => match pos, v with | 0, .reg x => .strh x a o | _, _ => i
  | .sub f d l r => match pos, v with
    | 0, .reg x => .sub f x l r | 1, .reg x => .sub f d x r | 2, .immReg x => .sub f d l x | _, _ => i
  | .sxtb d r => match pos, v with | 0, .reg x => .sxtb x r | 1, .reg x => .sxtb d x | _, _ => i
  | .sxth d r => match pos, v with | 0, .reg x => .sxth x r | 1, .reg x => .sxth d x | _, _ => i
  | .tst d r => match pos, v with | 0, .reg x => .tst x r | 1, .reg x => .tst d x | _, _ => i
  | .uxtb d r => match pos, v with | 0, .reg x => .uxtb x r | 1, .reg x => .uxtb d x | _, _ => i
  | .uxth d r => match pos, v with | 0, .reg x => .uxth x r | 1, .reg x => .uxth d x | _, _ => i
  | _ => i

/-- `i64::from(self.addr & !0b11) + 4` — not wrapped (repair of the top-of-address-space finding) -/
def alPc (addr : Nat) : Nat := addr / 4 * 4 + 4
/-- `i64::from(self.addr) + 4` — not wrapped -/
def pcOf (addr : Nat) : Nat := addr + 4

/-- the ADR / LDR-literal offset computation; `tgt` is a `u32`; `tgt_off = i64::from(tgt) - al_pc`,
`tgt_off < 0 || tgt_off > 0x3FC` → Range, `(tgt_off & 3) != 0` → Alignment -/
def literal (addr : Nat) (tgt : Int) : Except Diag Int :=
  let al : Int := (alPc addr : Nat)
  if tgt < al ∨ tgt - al > 1020 then .error (.range 0 1020 (tgt - al))
  else if (tgt - al) % 4 ≠ 0 then .error (.alignment 4 (tgt - al))
  else .ok (tgt - al)

/-- the B / BL offset computation -/
def branch (addr : Nat) (tgt : Int) (min max : Int) : Except Diag Int :=
  let off : Int := tgt - (pcOf addr : Nat)
  if off < min ∨ off > max then .error (.range min max off)
  else if off % 2 ≠ 0 then .error (.alignment 2 off)
  else .ok off

def unwrapOff (o : Option ImmReg) : ImmReg := match o with | some x => x | none => .imm 0

/-- the code of an arm after its `convert!`; `argc` is the final `arg_pos` -/
def finish (addr : Nat) (i : Instr) (vals : List Val) (argc : Nat) : Except Diag Instr :=
  match i, vals with
  | .adr d _, [_, .off tgt] =>
    match literal addr tgt with | .ok o => .ok (.adr d o) | .error e => .error e
  | .b c _, [.off tgt] =>
    match (if c.val = 14 then branch addr tgt (-2048) 2046 else branch addr tgt (-256) 254) with
    | .ok o => .ok (.b c o) | .error e => .error e
  | .bl _, [.off tgt] =>
    match branch addr tgt (-16777216) 16777215 with | .ok o => .ok (.bl o) | .error e => .error e
  | .bkpt _, [.off v] =>
    match narrowU8 v with | some w => .ok (.bkpt w) | none => .error (.valueRange argc)
  | .cps e, [.ident pm] =>
    if upper pm = bytesOf "I" then .ok (.cps e) else .error (.valueRange argc)
  | .dmb, [.ident o] =>
    if upper o = bytesOf "SY" ∨ upper o = bytesOf "SV" then .ok .dmb else .error (.valueRange argc)
  | .dsb, [.ident o] =>
    if upper o = bytesOf "SY" ∨ upper o = bytesOf "SV" then .ok .dsb else .error (.valueRange argc)
  | .isb, [.ident o] =>
    if upper o = bytesOf "SY" ∨ upper o = bytesOf "SV" then .ok .isb else .error (.valueRange argc)
  | .ldr d _ _, [_, .address a o] => .ok (.ldr d a (unwrapOff o))
  | .ldr d _ _, [_, .off tgt] =>
    match literal addr tgt with | .ok o => .ok (.ldr d Reg.pc (.imm o)) | .error e => .error e
  | .ldrb d _ _, [_, .address a o] => .ok (.ldrb d a (unwrapOff o))
  | .ldrh d _ _, [_, .address a o] => .ok (.ldrh d a (unwrapOff o))
  | .ldrsb d _ _, [_, .address a o] =>
    match o with | some (.reg r) => .ok (.ldrsb d a r) | _ => .error (.valueRange argc)
  | .ldrsh d _ _, [_, .address a o] =>
    match o with | some (.reg r) => .ok (.ldrsh d a r) | _ => .error (.valueRange argc)
  | .rsb d l, [_, _, .imm rhs] => if rhs ≠ 0 then .error (.valueRange argc) else .ok (.rsb d l)
  | .str d _ _, [_, .address a o] => .ok (.str d a (unwrapOff o))
  | .strb d _ _, [_, .address a o] => .ok (.strb d a (unwrapOff o))
  | .strh d _ _, [_, .address a o] => .ok (.strh d a (unwrapOff o))
  | .svc _, [.imm v] => match narrowU8 v with | some w => .ok (.svc w) | none => .error (.valueRange argc)
  | .udf _, [.imm v] => match narrowU8 v with | some w => .ok (.udf w) | none => .error (.valueRange argc)
  | .udfw _, [.imm v] => match narrowU16 v with | some w => .ok (.udfw w) | none => .error (.valueRange argc)
  | i, _ => .ok i

/-! ## `ArmInstr` and `assemble` -/

/-- the fields of `ArmInstr` that `assemble` reads and writes -/
structure St where
  addr : Nat
  instr : Instr
  argsDone : Nat
  args : List Arg
deriving Repr, Inhabited

inductive ConvOut where
  | ok (args : List Arg) (done : Nat) (instr : Instr) (vals : List Val)
  | stop (args : List Arg) (done : Nat) (instr : Instr) (r : Res)
deriving Repr, Inhabited

/-- the getters of one `convert!`, left to right. `pre` = arguments already passed (reversed),
`rest` = arguments from `arg_pos` on. -/
def conv (eval : Arg → EvalOut) (loc : Bool) :
    List Kind → Nat → List Arg → List Arg → Nat → Instr → List Val → ConvOut
  | [], _, pre, rest, done, instr, vals => .ok (pre.reverse ++ rest) done instr vals.reverse
  | _ :: _, _, pre, [], done, instr, _ => .stop pre.reverse done instr .panic     -- `self.args[arg_pos]`
  | k :: ks, pos, pre, a :: rest, done, instr, vals =>
    match get k eval loc pos done a with
    | .ok v a' done' => conv eval loc ks (pos + 1) (a' :: pre) rest done' (setOp instr pos v) (v :: vals)
    | .stop a' done' r => .stop (pre.reverse ++ a' :: rest) done' instr r

/-- `ArmInstr::assemble(ctx, local)`: new state and outcome -/
def assemble (st : St) (eval : Arg → EvalOut) (loc : Bool) : St × Res :=
  let ks := kinds st.instr
  let n := st.args.length
  if n > ks.length then (st, .error (.tooMany ks.length n))
  else if n < ks.length then (st, .error (.notEnough ks.length n))
  else
    match conv eval loc ks 0 [] st.args st.argsDone st.instr [] with
    | .stop args done instr r => ({ st with args := args, argsDone := done, instr := instr }, r)
    | .ok args done instr vals =>
      match finish st.addr instr vals ks.length with
      | .ok i => ({ st with args := args, argsDone := done, instr := i }, .completed)
      | .error d => ({ st with args := args, argsDone := done, instr := instr }, .error d)

/-- `ArmInstr::new` followed by the first `assemble` -/
inductive BuildOut where
  | notFound (name : Bytes)                       -- `InstrErrorKind::NotFound`, nothing is written
  | completed (i : Instr)
  | deferred (cause : Bytes) (st : St)            -- `st.instr` = partially filled instruction (placeholder size)
  | error (d : Diag) (st : St)                    -- likewise (the caller still writes a placeholder and retries)
  | panic
deriving Repr, Inhabited

def build (addr : Nat) (name : Bytes) (args : List Arg) (eval : Arg → EvalOut) (loc : Bool) : BuildOut :=
  match mnemonic name with
  | none => .notFound (foldName name)
  | some t =>
    match assemble { addr := addr, instr := t, argsDone := 0, args := args } eval loc with
    | (st, .completed) => .completed st.instr
    | (st, .deferred c) => .deferred c st
    | (st, .error d) => .error d st
    | (_, .panic) => .panic

end Trion.Front
